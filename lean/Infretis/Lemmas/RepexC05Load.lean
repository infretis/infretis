import Infretis.Lemmas.RepexC05Sys
import Infretis.Lemmas.RepexC03RRestore
import Infretis.Lemmas.RepexC03Load
/-!
# C05 — `load_paths`: a fresh start from family paths gives `Init5`; the restart image of a state
with a non-zero diagonal loads
-/
namespace Infretis.Repex

/-- what `load_paths` establishes besides C03's slot facts, from a freshly constructed state -/
theorem loadPaths_fields {n : Nat} {s0 s : St} {paths : List (Nat × List Rat × List Rat)}
    (h0 : Fresh n s0) (hnd : (paths.map (·.1)).Nodup) (hlt : ∀ p ∈ paths, p.1 < s0.trajNum)
    (hfam : ∀ (i : Nat) (hi : i < paths.length), VecOk n ((i : Int) - 1) (paths[i]).2.1)
    (h : loadPaths s0 paths = .ok s)
    (hlive : ∀ i, i < s.n - 1 → ∃ pn, s.trajs[i]? = some (some pn)) :
    (∀ i, i < s.n - 1 → RowOk s.n i (s.W.getD i [])) ∧
    (∀ i, i < s.n - 1 → entryM s.W i i ≠ 0) ∧
    (∀ i pn, i < s.n - 1 → s.trajs[i]? = some (some pn) →
      ∃ w, s.wts.lookup pn = some w ∧ padValid s ((i : Int) - 1) w = s.W.getD i []) ∧
    (∀ k ∈ s.wts.map Prod.fst, k < s.trajNum) ∧ (∀ k ∈ s.frac.map Prod.fst, k < s.trajNum) ∧
    (∀ x ∈ s.rows, x.1 < s.trajNum) := by
  obtain ⟨_, hok, rfl⟩ := loadPaths_ok_iff.mp h
  -- slot `i` holds `paths[i]`, its row is the padded weight vector
  have hslot : ∀ i pn, (loadedSt s0 paths).trajs[i]? = some (some pn) → ∃ p, paths[i]? = some p ∧ p.1 = pn ∧
      (loadedSt s0 paths).W.getD i [] = padValid s0 ((i : Int) - 1) p.2.1 := fun i pn hi => by
    obtain ⟨_, p, hp, hpn, hW⟩ := h0.loaded_slot hi
    exact ⟨p, hp, hpn, by rw [List.getD_eq_getElem?_getD, hW]; rfl⟩
  have hkeys : ∀ k ∈ (loadOrder paths).map (·.1), k < s0.trajNum := fun k hk => by
    obtain ⟨p, hp, rfl⟩ := List.mem_map.mp hk
    exact hlt p ((loadOrder_perm paths).mem_iff.mp hp)
  obtain ⟨hfk, hwk⟩ := loadedSt_keys s0 paths
  refine ⟨fun i hi => ?_, fun i hi => ?_, fun i pn _ hpn => ?_, ?_, ?_, ?_⟩
  · obtain ⟨pn, hpn⟩ := hlive i hi
    obtain ⟨p, hp, _, hW⟩ := hslot i pn hpn
    obtain ⟨hil, hpi⟩ := List.getElem?_eq_some_iff.mp hp
    have := hfam i hil
    rw [hpi, VecOk, show (((i : Int) - 1) + 1).toNat = i by omega, ← h0.hn] at this
    rw [hW]; exact this
  · obtain ⟨pn, hpn⟩ := hlive i hi
    obtain ⟨p, hp, _, hW⟩ := hslot i pn hpn
    unfold entryM
    rw [hW]; exact (hok i p hp).diag
  · obtain ⟨p, hp, rfl, hW⟩ := hslot i pn hpn
    exact ⟨p.2.1, loadedSt_wts_lookup h0.wts hnd (List.mem_of_getElem? hp), hW.symm⟩
  · rw [hwk, h0.wts]; exact hkeys
  · rw [hfk, h0.frac]; exact hkeys
  · show ∀ x ∈ s0.rows, _
    rw [h0.rows]
    intro x hx
    exact absurd hx (by simp)

/-- **`Init5` is what `load_paths` leaves behind on a fresh start** from `n − 1` initial paths with
    pairwise distinct numbers below `trajNum` whose weight vectors are in C02's family
    (`paths[0]` is the `[0-]` path, `paths[i+1]` the path of ensemble `i`). -/
theorem FreshLoad.init5 {n : Nat} {paths : List (Nat × List Rat × List Rat)} {s : St} (hf : FreshLoad n paths s)
    (hfam : ∀ (i : Nat) (hi : i < paths.length), VecOk n ((i : Int) - 1) (paths[i]).2.1) :
    Init5 { s := s, jobs := [] } := by
  have hinit := hf.init
  obtain ⟨workers, tsteps, cstep, trajNum, seed, occ, ensEng, restarted, hn, hlen, hnd, hlt, h⟩ := hf
  obtain ⟨h1, h2, h3, h4, h5, h6⟩ := loadPaths_fields
    (fresh_blank n workers tsteps cstep trajNum seed occ ensEng restarted []) hnd hlt hfam h
    (fun i hi => by obtain ⟨pn, hpn, _⟩ := hinit.live i hi; exact ⟨pn, hpn⟩)
  exact ⟨hinit, h1, h2, h3, h4, h5, h6⟩

theorem loadPaths_succeeds {n : Nat} {s : St} {paths : List (Nat × List Rat × List Rat)}
    (h : Fresh n s) (hne : paths ≠ [])
    (hp : ∀ j p, paths[j]? = some p → j < n ∧
      (padN n ((j : Int) - 1) p.2.1).length = n ∧ (padN n ((j : Int) - 1) p.2.1).getD j 0 ≠ 0) :
    ∃ s', loadPaths s paths = .ok s' :=
  ⟨_, loadPaths_ok_iff.mpr ⟨hne, fun e p he => (h.loadOK_iff e _).mpr (by
    rw [padValid_eq_padN, h.hn]; exact hp e p he), rfl⟩⟩

/-- **The restart image loads.**  For a state satisfying the invariants whose diagonal weights are
    all non-zero (what `sort_trajstate` establishes), `restore (persist s)` with the live paths'
    recorded weight vectors passes every assertion of `load_paths`. -/
theorem restore_loadsR {s : St} {H : List (Nat × Nat)} {tn tn' : Nat} (hc : CoreR s H tn') (hf : Fam s tn)
    (hdiag : ∀ i, i < s.n - 1 → entryM s.W i i ≠ 0) (workers tsteps : Nat) (occ : List (List Int))
    (ensEng : List (List Nat)) :
    ∃ s'', restore (persist s) s.n workers tsteps occ ensEng
      (fun pn => (s.wts.lookup pn).getD []) = .ok s'' := by
  refine ⟨_, (restore_persist_ok_iff hc.allLive).mpr ⟨fun e pn he => ?_, rfl⟩⟩
  obtain ⟨hlt, hpn⟩ := hc.allLive.livePns_get.mp he
  obtain ⟨w, hw1, hw2⟩ := hf.wts e pn hlt hpn
  rw [hw1, Option.getD_some, hw2]
  exact ⟨(hf.rows e hlt).length, hdiag e hlt⟩

theorem restore_loads {s : St} {H : List (Nat × Nat)} {tn tn' : Nat} (hc : Core s H tn') (hf : Fam s tn)
    (hdiag : ∀ i, i < s.n - 1 → entryM s.W i i ≠ 0) (workers tsteps : Nat) (occ : List (List Int))
    (ensEng : List (List Nat)) :
    ∃ s'', restore (persist s) s.n workers tsteps occ ensEng
      (fun pn => (s.wts.lookup pn).getD []) = .ok s'' :=
  restore_loadsR hc.coreR hf hdiag workers tsteps occ ensEng

/-- The state `scheduler()` starts from after a RESTART (C03's `InitR`: all slots idle, the jobs in
    flight at the stop recorded in `locked0` for re-issue) with paths from the weight family, each
    valid in its own ensemble, weights recorded, all recorded numbers below `traj_num`. -/
structure Init5R (y : Sys) : Prop where
  init : InitR y
  rows : ∀ i, i < y.s.n - 1 → RowOk y.s.n i (y.s.W.getD i [])
  diag : ∀ i, i < y.s.n - 1 → entryM y.s.W i i ≠ 0
  wts : ∀ i pn, i < y.s.n - 1 → y.s.trajs[i]? = some (some pn) →
    ∃ w, y.s.wts.lookup pn = some w ∧ padValid y.s ((i : Int) - 1) w = y.s.W.getD i []
  wkeys : ∀ k ∈ y.s.wts.map Prod.fst, k < y.s.trajNum
  fkeys : ∀ k ∈ y.s.frac.map Prod.fst, k < y.s.trajNum
  rkeys : ∀ x ∈ y.s.rows, x.1 < y.s.trajNum

theorem Init5R.inv5 {y : Sys} (h : Init5R y) : Inv5 y :=
  inv5_of_diag h.init.inv h.rows h.diag h.wts h.wkeys h.fkeys h.rkeys h.init.jobs

/-- a history starts from a fresh start or from a restart -/
def Start5 (y : Sys) : Prop := Init5 y ∨ Init5R y

theorem Start5.inv5 {y : Sys} (h : Start5 y) : Inv5 y := by
  rcases h with h | h
  · exact h.inv5
  · exact h.inv5

theorem Start5.start {y : Sys} (h : Start5 y) : Start y := by
  rcases h with h | h
  · exact Or.inl h.init
  · exact Or.inr h.init

/-- **the restored state carries the family invariant**: if `restore (persist s)` (with the live
    paths' recorded weight vectors) returns a state that is an `InitR` start state (C03:
    `restore_is_initR`), that state is an `Init5R` start state. -/
theorem restore_init5R {s s' : St} {H : List (Nat × Nat)} (hc : CoreR s H s.trajNum)
    (hf : Fam s s.trajNum) (workers tsteps : Nat) (occ : List (List Int)) (ensEng : List (List Nat))
    (h : restore (persist s) s.n workers tsteps occ ensEng
      (fun pn => (s.wts.lookup pn).getD []) = .ok s')
    (hinit : InitR { s := s', jobs := [] }) : Init5R { s := s', jobs := [] } := by
  have hl := hc.allLive
  obtain ⟨hok, rfl⟩ := (restore_persist_ok_iff hl).mp h
  -- row `i` of the restored state is the padded recorded weight vector of the path in slot `i`: row `i` of `s`
  have hrow : ∀ i pn, i < s.n - 1 → s.trajs[i]? = some (some pn) → ∃ w, s.wts.lookup pn = some w ∧
      (restoredSt s workers tsteps occ ensEng (fun pn => (s.wts.lookup pn).getD [])).W.getD i []
        = padValid s ((i : Int) - 1) w ∧ padValid s ((i : Int) - 1) w = s.W.getD i [] := fun i pn hi hpn => by
    obtain ⟨w, hw1, hw2⟩ := hf.wts i pn hi hpn
    refine ⟨w, hw1, ?_, hw2⟩
    rw [List.getD_eq_getElem?_getD, restoredSt_W hl _ _ _ _ _ hi hpn, hw1]
    rfl
  have hkeys : ∀ k ∈ loadOrder (livePns s), k < s.trajNum := fun k hk => by
    obtain ⟨e, he⟩ := List.mem_iff_getElem?.mp ((loadOrder_perm _).mem_iff.mp hk)
    obtain ⟨hlt, hpn⟩ := hl.livePns_get.mp he
    obtain ⟨q, hq, hqlt⟩ := hc.live e hlt
    rw [hpn] at hq
    rw [Option.some.inj (Option.some.inj hq)]
    exact hqlt
  obtain ⟨hfk, hwk⟩ := restoredSt_keys s workers tsteps occ ensEng (fun pn => (s.wts.lookup pn).getD [])
  refine ⟨hinit, fun i hi => ?_, fun i hi => ?_, fun i pn hi hpn => ?_, ?_, ?_, ?_⟩
  · obtain ⟨pn, hpn, _⟩ := hc.live i hi
    obtain ⟨w, _, hW, hw2⟩ := hrow i pn hi hpn
    show RowOk s.n i ((restoredSt s workers tsteps occ ensEng _).W.getD i [])
    rw [hW, hw2]
    exact hf.rows i hi
  · obtain ⟨pn, hpn, _⟩ := hc.live i hi
    obtain ⟨w, hw1, hW, _⟩ := hrow i pn hi hpn
    have := (hok i pn (hl.livePns_get.mpr ⟨hi, hpn⟩)).2
    rw [hw1] at this
    show ((restoredSt s workers tsteps occ ensEng _).W.getD i []).getD i 0 ≠ 0
    rw [hW]
    exact this
  · have hpn' : s.trajs[i]? = some (some pn) := (restoredSt_trajs hl _ _ _ _ _ hi).symm.trans hpn
    obtain ⟨w, hw1, hW, _⟩ := hrow i pn hi hpn'
    refine ⟨w, ?_, hW.symm⟩
    show ((loadOrder (livePns s)).map _).lookup pn = _
    rw [Assoc.lookup_keyed, if_pos ((loadOrder_perm _).mem_iff.mpr (livePns_mem (s := s) hi hpn')), hw1]
    rfl
  · rw [hwk]
    exact hkeys
  · rw [hfk]
    exact hkeys
  · intro x hx
    exact absurd hx (by simp [restoredSt, imgBlank, blank])

end Infretis.Repex
