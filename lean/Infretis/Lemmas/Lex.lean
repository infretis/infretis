/-!
Python's `str.split()` and `str.strip()` for an arbitrary white-space set `ws : Char → Bool`, and what they do on
text a formatter wrote: tokens with white space between them.  The models' five copies of `split()`
(`Codec.splitWs`, `StoreText.splitWs`, `Template.splitWS`, `Cp2k.splitWs`, `Readers.split`) are each `Lex.split` of
their white-space predicate (`splitWs_eq_split`, `splitWS_eq_split`, `split_eq_split` in the lemma module of the format;
by `split_acc`, `split_acc_rev` for the three that are written with an accumulator), and the facts about tokens,
blanks, prefixes and `strip` are proved here once.
-/
namespace Infretis.Lex

variable (ws : Char → Bool)

def Tok (t : List Char) : Prop := t ≠ [] ∧ ∀ c ∈ t, ws c = false

/-- nothing, or a white-space character, comes next -/
def Ends (l : List Char) : Prop := ∀ c, l.head? = some c → ws c = true

abbrev Blank (l : List Char) : Prop := ∀ c ∈ l, ws c = true

def split : List Char → List (List Char)
  | [] => []
  | c :: t =>
    if ws c then split t
    else if t.head?.all ws then [c] :: split t
    else match split t with
      | tok :: rest => (c :: tok) :: rest
      | [] => [[c]]

def lstrip (l : List Char) : List Char := l.dropWhile ws
def rstrip (l : List Char) : List Char := (l.reverse.dropWhile ws).reverse
def strip (l : List Char) : List Char := lstrip ws (rstrip ws l)

variable {ws}

theorem Ends.nil : Ends ws [] := fun _ h => by cases h

theorem Ends.cons {c : Char} (h : ws c = true) (t : List Char) : Ends ws (c :: t) :=
  fun _ e => by cases e; exact h

theorem blank_replicate (hsp : ws ' ' = true) (k : Nat) : Blank ws (List.replicate k ' ') :=
  fun _ hc => (List.eq_of_mem_replicate hc) ▸ hsp

theorem Ends.blanks (hsp : ws ' ' = true) (k : Nat) {r : List Char} (hr : Ends ws r) :
    Ends ws (List.replicate k ' ' ++ r) := by
  cases k with
  | zero => exact hr
  | succ k => exact Ends.cons hsp _

theorem Tok.head {t : List Char} (h : Tok ws t) : ∀ c, t.head? = some c → ws c = false :=
  fun c e => h.2 c (List.mem_of_mem_head? e)

theorem Tok.last {t : List Char} (h : Tok ws t) : ∀ c, t.getLast? = some c → ws c = false :=
  fun c e => h.2 c (List.mem_of_getLast? e)

theorem split_ws {c : Char} (h : ws c = true) (t : List Char) : split ws (c :: t) = split ws t := by
  rw [split, if_pos h]

theorem split_blank {w : List Char} (h : Blank ws w) (t : List Char) : split ws (w ++ t) = split ws t := by
  induction w with
  | nil => rfl
  | cons a w ih => rw [List.cons_append, split_ws (h a (by simp)), ih (fun c hc => h c (by simp [hc]))]

theorem split_all_blank {w : List Char} (h : Blank ws w) : split ws w = [] := by
  have := split_blank h []
  rwa [List.append_nil] at this

theorem split_cons_head {c : Char} (hc : ws c = false) (t : List Char) :
    ∃ tok rest, split ws (c :: t) = (c :: tok) :: rest := by
  rw [split, if_neg (by simp [hc])]
  split
  · exact ⟨_, _, rfl⟩
  · cases split ws t <;> exact ⟨_, _, rfl⟩

theorem split_ne_nil {c : Char} (hc : ws c = false) (t : List Char) : split ws (c :: t) ≠ [] := by
  obtain ⟨_, _, e⟩ := split_cons_head hc t
  rw [e]
  exact List.cons_ne_nil _ _

theorem split_cons_cons {c d : Char} (hc : ws c = false) (hd : ws d = false) {t tok : List Char}
    {rest : List (List Char)} (h : split ws (d :: t) = tok :: rest) : split ws (c :: d :: t) = (c :: tok) :: rest := by
  rw [split, if_neg (by simp [hc]), if_neg (by simp [hd]), h]

theorem split_append_ws {c : Char} (hc : ws c = true) (b : List Char) :
    ∀ (a : List Char), split ws (a ++ c :: b) = split ws a ++ split ws b
  | [] => split_ws hc b
  | [x] => by
    by_cases hx : ws x = true
    · rw [List.singleton_append, split_ws hx, split_ws hx, split_ws hc]
      rfl
    · simp only [List.singleton_append, split, hx, hc, List.head?_cons, List.head?_nil, Option.all_some, Option.all_none,
        if_true, Bool.false_eq_true, if_false]
  | x :: d :: a => by
    have ih := split_append_ws hc b (d :: a)
    by_cases hx : ws x = true
    · rw [List.cons_append, split_ws hx, split_ws hx, ih]
    · rw [List.cons_append, split, split, ih]
      simp only [hx, Bool.false_eq_true, if_false, List.cons_append, List.head?_cons, Option.all_some]
      by_cases hd : ws d = true
      · simp only [hd, if_true]
        rfl
      · simp only [hd, Bool.false_eq_true, if_false]
        -- the token that starts with `x` goes on into `d :: a`, whose split has a first token
        cases h : split ws (d :: a) with
        | nil => exact absurd h (split_ne_nil (by simpa using hd) a)
        | cons tok rest => rfl

theorem split_tok_end : ∀ {t : List Char}, Tok ws t → split ws t = [t]
  | [], h => absurd rfl h.1
  | [a], h => by
    simp only [split, h.2 a (by simp), List.head?_nil, Option.all_none, Bool.false_eq_true, if_false, if_true]
  | a :: b :: t, h => by
    have ih : split ws (b :: t) = [b :: t] := split_tok_end ⟨by simp, fun c hc => h.2 c (by simp [hc])⟩
    simp only [split, h.2 a (by simp), h.2 b (by simp), List.head?_cons, Option.all_some, Bool.false_eq_true, if_false]
      at ih ⊢
    rw [ih]

theorem split_tok {t : List Char} (ht : Tok ws t) : ∀ {rest : List Char}, Ends ws rest →
    split ws (t ++ rest) = t :: split ws rest
  | [], _ => by rw [List.append_nil, split_tok_end ht]; rfl
  | c :: r, hr => by rw [split_append_ws (hr c rfl), split_tok_end ht, split_ws (hr c rfl)]; rfl

/-- a field `'{:>w}'`: blanks, then the token -/
theorem split_pad (hsp : ws ' ' = true) (k : Nat) {t : List Char} (ht : Tok ws t) {rest : List Char}
    (hr : Ends ws rest) : split ws (List.replicate k ' ' ++ (t ++ rest)) = t :: split ws rest := by
  rw [split_blank (blank_replicate hsp k), split_tok ht hr]

theorem split_append_blank (s : List Char) : ∀ {w : List Char}, Blank ws w → split ws (s ++ w) = split ws s
  | [], _ => by rw [List.append_nil]
  | c :: w, h => by
    rw [split_append_ws (h c (by simp)), split_all_blank (w := w) (fun x hx => h x (by simp [hx])), List.append_nil]

theorem tok_of_mem_split : ∀ (l : List Char), ∀ t ∈ split ws l, Tok ws t
  | [], _, h => by cases h
  | c :: l, t, h => by
    have ih := tok_of_mem_split l
    rw [split] at h
    split at h
    · exact ih t h
    · rename_i hc
      have hc : ws c = false := by simpa using hc
      have h1 : Tok ws [c] := ⟨by simp, by simpa using hc⟩
      split at h
      · rcases List.mem_cons.1 h with rfl | h
        · exact h1
        · exact ih t h
      · split at h
        · rename_i tok rest e
          rcases List.mem_cons.1 h with rfl | h
          · have := ih tok (e ▸ List.mem_cons_self)
            refine ⟨by simp, fun x hx => ?_⟩
            rcases List.mem_cons.1 hx with rfl | hx
            · exact hc
            · exact this.2 x hx
          · exact ih t (e ▸ List.mem_cons_of_mem _ h)
        · rcases List.mem_cons.1 h with rfl | h
          · exact h1
          · cases h

theorem flatten_split : ∀ (s : List Char), (split ws s).flatten = s.filter (fun c => !ws c)
  | [] => rfl
  | c :: t => by
    have ih := flatten_split t
    rw [split]
    by_cases hc : ws c = true
    · rw [if_pos hc, ih, List.filter_cons_of_neg (by simp [hc])]
    · rw [if_neg hc, List.filter_cons_of_pos (by simp [hc]), ← ih]
      split
      · rfl
      · cases split ws t <;> rfl

/-- the tokens of a prefix: all but the last are tokens of the whole, the last is the beginning of one -/
theorem split_prefix {p s : List Char} (h : p <+: s) : split ws p = [] ∨
    ∃ pre u t post, split ws p = pre ++ [u] ∧ split ws s = pre ++ t :: post ∧ u <+: t := by
  obtain ⟨r, rfl⟩ := h
  induction p with
  | nil => exact .inl rfl
  | cons c p ih =>
    by_cases hc : ws c = true
    · rwa [List.cons_append, split_ws hc, split_ws hc]
    · have hc : ws c = false := by simpa using hc
      have h1 : Tok ws [c] := ⟨by simp, by simpa using hc⟩
      right
      cases p with
      | nil =>
        obtain ⟨tok, rest, e⟩ := split_cons_head hc r
        exact ⟨[], [c], c :: tok, rest, split_tok_end h1, e, by simp⟩
      | cons d p =>
        by_cases hd : ws d = true
        · have e : ∀ x, split ws (c :: d :: x) = [c] :: split ws (d :: x) := fun x => split_tok h1 (Ends.cons hd x)
          rw [List.cons_append, List.cons_append, e, e]
          rcases ih with h0 | ⟨pre, u, t, post, ha, hb, hut⟩
          · exact ⟨[], [c], [c], _, by rw [h0]; rfl, rfl, List.prefix_refl _⟩
          · exact ⟨[c] :: pre, u, t, post, by rw [ha]; rfl, by rw [← List.cons_append, hb]; rfl, hut⟩
        · -- the token that starts with `c` goes on into `d :: p`
          have hd : ws d = false := by simpa using hd
          rcases ih with h0 | ⟨pre, u, t, post, ha, hb, hut⟩
          · exact absurd h0 (split_ne_nil hd p)
          · cases pre with
            | nil =>
              exact ⟨[], c :: u, c :: t, post, split_cons_cons hc hd ha, split_cons_cons hc hd hb,
                List.cons_prefix_cons.2 ⟨rfl, hut⟩⟩
            | cons p0 pre =>
              exact ⟨(c :: p0) :: pre, u, t, post, split_cons_cons hc hd ha, split_cons_cons hc hd hb, hut⟩

/-- `split()` written with an accumulator `acc` for the token being read: the form of `Readers.splitAux` -/
theorem split_acc (go : List Char → List Char → List (List Char))
    (hnil : ∀ acc, go [] acc = if acc = [] then [] else [acc])
    (hcons : ∀ c t acc, go (c :: t) acc =
      if ws c then (if acc = [] then go t [] else acc :: go t []) else go t (acc ++ [c])) :
    ∀ (s acc : List Char), (∀ c ∈ acc, ws c = false) → go s acc = split ws (acc ++ s)
  | [], acc, h => by
    rw [hnil, List.append_nil]
    split
    · rename_i e
      subst e
      rfl
    · rename_i e
      exact (split_tok_end ⟨e, h⟩).symm
  | c :: t, acc, h => by
    rw [hcons]
    by_cases hc : ws c = true
    · rw [if_pos hc, split_acc go hnil hcons t [] (fun _ hx => by cases hx)]
      split
      · rename_i e
        subst e
        exact (split_ws hc t).symm
      · rename_i e
        rw [split_tok ⟨e, h⟩ (Ends.cons hc t), split_ws hc]
        rfl
    · have hc' : ws c = false := by simpa using hc
      rw [if_neg hc, split_acc go hnil hcons t (acc ++ [c]) (List.forall_mem_append.2 ⟨h, by simpa using hc'⟩),
        List.append_assoc, List.singleton_append]

/-- the same with `acc` kept reversed: the form of `Template.splitWS` and `Cp2k.splitWs` -/
theorem split_acc_rev (go : List Char → List Char → List (List Char))
    (hnil : ∀ acc, go [] acc = if acc = [] then [] else [acc.reverse])
    (hcons : ∀ c t acc, go (c :: t) acc =
      if ws c then (if acc = [] then go t [] else acc.reverse :: go t []) else go t (c :: acc))
    (s : List Char) : go s [] = split ws s :=
  split_acc (fun s acc => go s acc.reverse) (fun acc => by simp [hnil]) (fun c t acc => by simp [hcons]) s []
    (fun _ h => by cases h)

theorem rstrip_append_blank (l : List Char) : ∃ w, l = rstrip ws l ++ w ∧ Blank ws w := by
  refine ⟨(l.reverse.takeWhile ws).reverse, ?_, ?_⟩
  · rw [rstrip, ← List.reverse_append, List.takeWhile_append_dropWhile, List.reverse_reverse]
  · intro c hc
    have := List.all_takeWhile (p := ws) (l := l.reverse)
    rw [List.all_eq_true] at this
    exact this c (List.mem_reverse.1 hc)

theorem lstrip_append_blank (l : List Char) : ∃ w, l = w ++ lstrip ws l ∧ Blank ws w := by
  refine ⟨l.takeWhile ws, (List.takeWhile_append_dropWhile).symm, ?_⟩
  intro c hc
  have := List.all_takeWhile (p := ws) (l := l)
  rw [List.all_eq_true] at this
  exact this c hc

theorem split_rstrip (l : List Char) : split ws (rstrip ws l) = split ws l := by
  obtain ⟨w, hw, hws⟩ := rstrip_append_blank (ws := ws) l
  conv => rhs; rw [hw]
  rw [split_append_blank _ hws]

theorem split_lstrip (l : List Char) : split ws (lstrip ws l) = split ws l := by
  obtain ⟨w, hw, hws⟩ := lstrip_append_blank (ws := ws) l
  conv => rhs; rw [hw]
  rw [split_blank hws]

theorem split_strip (l : List Char) : split ws (strip ws l) = split ws l := by
  rw [strip, split_lstrip, split_rstrip]

theorem mem_rstrip {c : Char} {l : List Char} (h : c ∈ rstrip ws l) : c ∈ l :=
  List.mem_reverse.1 ((List.dropWhile_sublist ws).subset (List.mem_reverse.1 h))

theorem lstrip_ends {l : List Char} (h : ∀ c, l.head? = some c → ws c = false) : lstrip ws l = l := by
  cases l with
  | nil => rfl
  | cons a t => rw [lstrip, List.dropWhile_cons_of_neg (by simp [h a rfl])]

theorem rstrip_ends {l : List Char} (h : ∀ c, l.getLast? = some c → ws c = false) : rstrip ws l = l := by
  rw [rstrip, ← lstrip, lstrip_ends (by rwa [List.head?_reverse]), List.reverse_reverse]

theorem lstrip_blank {w : List Char} (hw : Blank ws w) (l : List Char) : lstrip ws (w ++ l) = lstrip ws l := by
  induction w with
  | nil => rfl
  | cons a w ih =>
    rw [List.cons_append, lstrip, List.dropWhile_cons_of_pos (hw a (by simp))]
    exact ih (fun c hc => hw c (by simp [hc]))

theorem rstrip_blank {w : List Char} (hw : Blank ws w) (l : List Char) : rstrip ws (l ++ w) = rstrip ws l := by
  rw [rstrip, List.reverse_append, ← lstrip, lstrip_blank (fun c hc => hw c (List.mem_reverse.1 hc))]
  rfl

theorem lstrip_all_blank {w : List Char} (hw : Blank ws w) : lstrip ws w = [] := by
  have := lstrip_blank hw []
  rwa [List.append_nil] at this

theorem strip_all_blank {w : List Char} (hw : Blank ws w) : strip ws w = [] :=
  lstrip_all_blank (fun c hc => hw c (mem_rstrip hc))

/-- the first character `strip` leaves is the first one that is not white space (comment lines are told by it) -/
theorem head?_strip (l : List Char) : (strip ws l).head? = (lstrip ws l).head? := by
  obtain ⟨w, hw, hws⟩ := rstrip_append_blank (ws := ws) l
  conv => rhs; rw [hw, lstrip, List.dropWhile_append]
  rw [strip, lstrip]
  cases h : List.dropWhile ws (rstrip ws l) with
  | nil => rw [List.isEmpty_nil, if_pos rfl, show List.dropWhile ws w = [] from lstrip_all_blank hws]
  | cons a r => rfl

theorem getLast?_append_ne {α : Type} (l l' : List α) (h : l' ≠ []) : (l ++ l').getLast? = l'.getLast? := by
  rw [List.getLast?_append]
  cases hl : l'.getLast? with
  | none => exact absurd (List.getLast?_eq_none_iff.1 hl) h
  | some x => rfl

theorem strip_pad {w : List Char} (hw : Blank ws w) {l : List Char} (hh : ∀ c, l.head? = some c → ws c = false)
    (hl : ∀ c, l.getLast? = some c → ws c = false) (hne : l ≠ []) : strip ws (w ++ l) = l := by
  rw [strip, rstrip_ends (by rwa [getLast?_append_ne _ _ hne]), lstrip_blank hw, lstrip_ends hh]

end Infretis.Lex
