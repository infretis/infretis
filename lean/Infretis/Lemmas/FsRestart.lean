import Infretis.Lemmas.FsReach
import Infretis.Model.FsRestart
/-!
C08: the effects of the restart procedure (`Model/FsRestart.lean`): every crash
point of a restart leaves restart.toml and all path files alone, the data file is either still the
old one or already the cleaned one, and a leftover temp file exists only while cleaning is still due.
-/
namespace Infretis.Fs

@[simp] theorem runR_nil (x : RDisk) : runR [] x = x := rfl

@[simp] theorem runR_cons (e : REffect) (es : List REffect) (x : RDisk) :
    runR (e :: es) x = runR es (e.apply x) := rfl

theorem runR_append (a b : List REffect) (x : RDisk) : runR (a ++ b) x = runR b (runR a x) := by
  simp [runR, List.foldl_append]

theorem crashAtR_append_left (a b : List REffect) (x : RDisk) (j : Nat) (half : Bool) (h : j < a.length) :
    crashAtR (a ++ b) x j half = crashAtR a x j half := by
  unfold crashAtR
  rw [List.take_append_of_le_length (Nat.le_of_lt h), List.getElem?_append_left h]

theorem crashAtR_append_right (a b : List REffect) (x : RDisk) (j : Nat) (half : Bool) (h : a.length ≤ j) :
    crashAtR (a ++ b) x j half = crashAtR b (runR a x) (j - a.length) half := by
  unfold crashAtR
  rw [List.take_append, List.take_of_length_le h, runR_append, List.getElem?_append_right h]

/-- make_dirs(worker<i>) changes nothing the model speaks about -/
theorem runR_mk (l : List Nat) (x : RDisk) : runR (l.map REffect.mkdirWorker) x = x := by
  induction l generalizing x with
  | nil => rfl
  | cons a t ih => simp only [List.map_cons, runR_cons, REffect.apply]; exact ih x

theorem crashAtR_mk (l : List Nat) (x : RDisk) (k : Nat) (half : Bool) :
    crashAtR (l.map REffect.mkdirWorker) x k half = x := by
  unfold crashAtR
  rw [← List.map_take, runR_mk]
  cases half
  · rfl
  · simp only [if_true]
    rw [List.getElem?_map]
    cases (l[k]?) <;> rfl

theorem cleanData_idem (df : DataFile) (act : List Nat) :
    cleanData (cleanData df act) act = cleanData df act := by
  simp [cleanData, List.filter_filter]

/-- every crash point of `clean_data_file ++ worker dirs`: only the data file and its temp file can
    differ; cleaning the data file again gives the same (it is still the old one, or already the
    cleaned one), and a temp file lies around only while cleaning is still due -/
theorem crash_clean_shape (x : RDisk) (act : List Nat) (jobs k : Nat) (half : Bool) :
    ∃ D t, crashAtR (cleanEffs x.d.data act ++ workerDirs jobs) x k half = ⟨{ x.d with data := D }, t⟩
      ∧ cleanData D act = cleanData x.d.data act
      ∧ (tmpOK x act = true → tmpOK ⟨{ x.d with data := D }, t⟩ act = true) := by
  by_cases hc : cleanData x.d.data act = x.d.data
  · refine ⟨x.d.data, x.dtmp, ?_, rfl, fun h => h⟩
    simp only [cleanEffs, if_pos hc, List.nil_append]
    rw [workerDirs, crashAtR_mk]
  · simp only [cleanEffs, if_neg hc]
    by_cases hk : k < 3
    · -- the data file is untouched, so cleaning is still due
      have hdue : ∀ t, tmpOK ⟨{ x.d with data := x.d.data }, t⟩ act = true := by
        intro t; simp [tmpOK, hc]
      rw [crashAtR_append_left _ _ _ _ _ (by simpa using hk)]
      have : k = 0 ∨ k = 1 ∨ k = 2 := by omega
      rcases this with rfl | rfl | rfl <;> cases half <;> exact ⟨x.d.data, _, rfl, rfl, fun _ => hdue _⟩
    · rw [crashAtR_append_right _ _ _ _ _ (by simp; omega), workerDirs, crashAtR_mk]
      exact ⟨cleanData x.d.data act, .absent, rfl, cleanData_idem .., fun _ => rfl⟩

theorem get_filter_notW (f : Files) (k : Key) (hk : ∀ n, k ≠ .wfile n) :
    Files.get (f.filter (fun e => match e.1 with | .wfile _ => false | _ => true)) k = Files.get f k := by
  induction f with
  | nil => rfl
  | cons a t ih =>
    obtain ⟨k', s⟩ := a
    cases k' with
    | wfile n =>
      have hne : ¬ (Key.wfile n = k) := fun h => hk n h.symm
      simp only [List.filter_cons, Files.get, if_neg hne]
      exact ih
    | _ =>
      simp only [List.filter_cons, Files.get, if_true]
      rw [ih]

theorem workFiles_get (f : Files) (files : List (Nat × Nat)) (k : Key) (hk : ∀ n, k ≠ .wfile n) :
    (workFiles f files).get k = f.get k := by
  unfold workFiles
  have : ∀ (g : Files), (files.foldl (fun f nc => f.set (.wfile nc.1) (.complete nc.2)) g).get k = g.get k := by
    induction files with
    | nil => intro g; rfl
    | cons a t ih =>
      intro g
      simp only [List.foldl_cons]
      rw [ih, Files.get_set, if_neg (fun h => hk a.1 h.symm)]
  rw [this]
  exact get_filter_notW f k hk

theorem inv_workFiles (M : Manifest) (m : Mem) (d : Disk) (files : List (Nat × Nat)) (hI : Inv M m d) :
    Inv M m { d with files := workFiles d.files files } :=
  { hI with
    live_ok := fun p hp =>
      ⟨(pathOK_frame (P := fun _ => False) (W := fun _ => True)
          (fun k hk => workFiles_get _ _ k fun n hn => by subst hn; exact hk trivial) id).trans
        (hI.live_ok p hp).1, (hI.live_ok p hp).2⟩ }

theorem restartRun_outcome (cfg : Cfg) (M : Manifest) (x : RDisk) (jobs : Nat) :
    (restartRun cfg M x jobs).1 = restartOutcome M .restartToml x.d := by
  cases hr : x.d.restart <;> simp only [restartRun, restartOutcome, hr, apply_ite Prod.fst]

theorem starts_complete (M : Manifest) (d : Disk) (r : Rec)
    (h : restartOutcome M .restartToml d = .starts r) : d.restart = .complete r := by
  cases hr : d.restart <;> simp only [restartOutcome, hr] at h
  case complete r' =>
    repeat' split at h
    all_goals cases h
    rfl
  all_goals cases h

theorem restartRun_effs_of_starts (cfg : Cfg) (M : Manifest) (x : RDisk) (jobs : Nat) (r : Rec)
    (h : restartOutcome M .restartToml x.d = .starts r) :
    (restartRun cfg M x jobs).2
      = (if cfg.cleanOnRestart then cleanEffs x.d.data r.active else []) ++ workerDirs jobs := by
  have hc := starts_complete M x.d r h
  simp only [restartOutcome, hc] at h
  simp only [restartRun, hc]
  -- only the branch in which all three tests of `setup_config` / `setup_internal` pass starts
  repeat' split at h
  all_goals cases h
  rw [if_neg ‹_›, if_neg ‹_›, if_pos ‹_›]

/-- a restart that starts and runs through leaves the disk the atomic restart of `Model/Fs.lean`
    leaves, and no temp file -/
theorem runR_restart (cfg : Cfg) (M : Manifest) (x : RDisk) (jobs : Nat) (r : Rec)
    (hclean : cfg.cleanOnRestart = true) (hs : restartOutcome M .restartToml x.d = .starts r)
    (ht : tmpOK x r.active = true) :
    runR (restartRun cfg M x jobs).2 x = ⟨restoreDisk cfg r x.d, .absent⟩ := by
  rw [restartRun_effs_of_starts cfg M x jobs r hs, if_pos hclean, runR_append, workerDirs, runR_mk,
    restoreDisk, if_pos hclean]
  by_cases hc : cleanData x.d.data r.active = x.d.data
  · -- nothing to drop: no effect, and no temp file was lying around
    have hd : x.dtmp = .absent := by simpa [tmpOK, hc] using ht
    simp only [cleanEffs, if_pos hc, runR_nil]
    rw [hc, ← hd]
  · simp only [cleanEffs, if_neg hc]
    rfl

theorem runEvent_restart (cfg : Cfg) (M : Manifest) (x : RDisk) (jobs : Nat) (r : Rec)
    (hclean : cfg.cleanOnRestart = true) (hs : restartOutcome M .restartToml x.d = .starts r)
    (ht : tmpOK x r.active = true) :
    runEvent cfg M ⟨none, x⟩ (.restart jobs)
      = ⟨some (restore M r x.d.files), ⟨restoreDisk cfg r x.d, .absent⟩⟩ := by
  have ho : (restartRun cfg M x jobs).1 = .starts r := (restartRun_outcome ..).trans hs
  simp only [runEvent, ho, runR_restart cfg M x jobs r hclean hs ht, restoreDisk_files]

end Infretis.Fs
