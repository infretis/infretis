import Infretis.Lemmas.PermLaplace
/-!
# Laws of the permanent-ratio specification `pSpec` (C02)

Laplace expansion of `permC` along any column and row (`permC_col`, `permC_row`); from it the
column and row sums of `pSpec`; zeros, row permutation, row rescaling; `specMat M` has the shape of `M`.
-/
namespace Infretis.Perm

theorem perm_getD_cons_eraseIdx {α : Type} (l : List α) (i : Nat) (hi : i < l.length) (d : α) :
    l.Perm (l.getD i d :: l.eraseIdx i) := by
  rw [← List.getElem_eq_getD (h := hi)]
  exact (List.getElem_cons_eraseIdx_perm hi).symm

theorem length_minor (W : Mat) (i j : Nat) (hi : i < W.length) :
    (minor W i j).length = W.length - 1 := by
  simp [minor, List.length_eraseIdx, hi]

theorem permC_col (W : Mat) (j : Nat) (hj : j < W.length) :
    permC W = ((List.range W.length).map (fun i => entry W i j * permC (minor W i j))).sum := by
  obtain ⟨k, hk⟩ : ∃ k, W.length = k + 1 := ⟨W.length - 1, by omega⟩
  unfold permC
  rw [hk, permN_col k j (by omega) W, sumPick_eq_sum_range _ W [], hk]
  congr 1
  apply List.map_congr_left
  intro i hi
  have hi' : i < W.length := by rw [hk]; exact List.mem_range.mp hi
  rw [length_minor W i j hi', hk]
  rfl

theorem permC_row (W : Mat) (i : Nat) (hi : i < W.length) :
    permC W = ((List.range W.length).map (fun j => entry W i j * permC (minor W i j))).sum := by
  obtain ⟨k, hk⟩ : ∃ k, W.length = k + 1 := ⟨W.length - 1, by omega⟩
  have hp := perm_getD_cons_eraseIdx W i hi []
  have hl : (W.eraseIdx i).length = k := by rw [List.length_eraseIdx, if_pos hi]; omega
  unfold permC
  rw [hk, permN_perm _ hp, permN_row k _ _ hl]
  congr 1
  apply List.map_congr_left
  intro j _
  rw [length_minor W i j hi, hk]
  rfl

theorem permC_zero_of_zero_row (N : Mat) (i : Nat) (hi : i < N.length)
    (hz : ∀ j, j < N.length → entry N i j = 0) : permC N = 0 := by
  rw [permC_row N i hi]
  apply List.sum_eq_zero
  intro x hx
  simp only [List.mem_map, List.mem_range] at hx
  obtain ⟨j, hj, rfl⟩ := hx
  rw [hz j hj]; ring

theorem sum_map_div (l : List Nat) (f : Nat → Rat) (p : Rat) :
    (l.map (fun i => f i / p)).sum = (l.map f).sum / p := by
  simp only [div_eq_mul_inv, List.sum_map_mul_right]

theorem spec_col_sum (W : Mat) (j : Nat) (hj : j < W.length) (hW : permC W ≠ 0) :
    ((List.range W.length).map (fun i => pSpec W i j)).sum = 1 := by
  unfold pSpec
  rw [sum_map_div, ← permC_col W j hj]
  exact div_self hW

theorem spec_row_sum (W : Mat) (i : Nat) (hi : i < W.length) (hW : permC W ≠ 0) :
    ((List.range W.length).map (fun j => pSpec W i j)).sum = 1 := by
  unfold pSpec
  rw [sum_map_div, ← permC_row W i hi]
  exact div_self hW

theorem pSpec_single (r : Row) (h : permC [r] ≠ 0) : pSpec [r] 0 0 = 1 := by
  simpa using spec_row_sum [r] 0 (by simp) h

theorem spec_zero_of_zero (W : Mat) (i j : Nat) (h : entry W i j = 0) : pSpec W i j = 0 := by
  simp [pSpec, h]

theorem eraseIdx_perm_of_perm {α : Type} {l₁ l₂ : List α} (h : l₁.Perm l₂) (k i : Nat)
    (hk : k < l₁.length) (hi : i < l₂.length) (d : α) (he : l₁.getD k d = l₂.getD i d) :
    (l₁.eraseIdx k).Perm (l₂.eraseIdx i) := by
  have h1 := perm_getD_cons_eraseIdx l₁ k hk d
  have h2 := perm_getD_cons_eraseIdx l₂ i hi d
  rw [he] at h1
  exact List.Perm.cons_inv ((h1.symm.trans h).trans h2)

theorem spec_row_perm (W W' : Mat) (h : W'.Perm W) (k i j : Nat) (hk : k < W'.length)
    (hi : i < W.length) (he : W'.getD k [] = W.getD i []) : pSpec W' k j = pSpec W i j := by
  unfold pSpec
  have h1 : entry W' k j = entry W i j := by unfold entry; rw [he]
  have h2 : permC (minor W' k j) = permC (minor W i j) := by
    apply permC_perm
    unfold minor
    exact (eraseIdx_perm_of_perm h k i hk hi [] he).map _
  rw [h1, h2, permC_perm h]

def scaleRow (c : Rat) (r : Row) : Row := r.map (fun x => c * x)

theorem getD_scaleRow (c : Rat) (r : Row) (j : Nat) : (scaleRow c r).getD j 0 = c * r.getD j 0 := by
  simp only [scaleRow, List.getD_eq_getElem?_getD, List.getElem?_map]
  cases r[j]? <;> simp

theorem eraseIdx_scaleRow (c : Rat) (r : Row) (j : Nat) :
    (scaleRow c r).eraseIdx j = scaleRow c (r.eraseIdx j) := by
  simp [scaleRow, List.eraseIdx_map]

theorem permN_scale_head (k : Nat) (c : Rat) (r : Row) (rest : Mat) (hl : rest.length = k) :
    permN (k + 1) (scaleRow c r :: rest) = c * permN (k + 1) (r :: rest) := by
  rw [permN_row k _ _ hl, permN_row k _ _ hl, ← List.sum_map_mul_left]
  congr 1
  apply List.map_congr_left
  intro j _
  rw [getD_scaleRow]; ring

theorem permC_scale_mid (c : Rat) (A B : Mat) (r : Row) :
    permC (A ++ scaleRow c r :: B) = c * permC (A ++ r :: B) := by
  unfold permC
  have hl : (A ++ scaleRow c r :: B).length = (A ++ B).length + 1 := by simp; omega
  have hl' : (A ++ r :: B).length = (A ++ B).length + 1 := by simp; omega
  rw [hl, hl', permN_perm _ (List.perm_middle (a := scaleRow c r) (l₁ := A) (l₂ := B)),
    permN_perm _ (List.perm_middle (a := r) (l₁ := A) (l₂ := B)), permN_scale_head _ _ _ _ rfl]

theorem dropCol_append (j : Nat) (A B : Mat) : dropCol j (A ++ B) = dropCol j A ++ dropCol j B := by
  simp [dropCol]

theorem getD_append_mid {α : Type} (A B : List α) (x d : α) :
    (A ++ x :: B).getD A.length d = x := by
  simp [List.getD_eq_getElem?_getD]

theorem getD_append_after {α : Type} (A B : List α) (x d : α) (t : Nat) :
    (A ++ x :: B).getD (A.length + (t + 1)) d = B.getD t d := by
  simp [List.getD_eq_getElem?_getD, List.getElem?_append_right (Nat.le_add_right _ _)]

theorem eraseIdx_append_mid {α : Type} (A B : List α) (x : α) :
    (A ++ x :: B).eraseIdx A.length = A ++ B := by
  rw [List.eraseIdx_append_of_length_le (Nat.le_refl _)]; simp

theorem spec_row_rescale (A B : Mat) (r : Row) (c : Rat) (hc : c ≠ 0) (i j : Nat) :
    pSpec (A ++ scaleRow c r :: B) i j = pSpec (A ++ r :: B) i j := by
  unfold pSpec
  rw [permC_scale_mid]
  rcases Nat.lt_trichotomy i A.length with hlt | heq | hgt
  · -- a row of A
    have e1 : entry (A ++ scaleRow c r :: B) i j = entry (A ++ r :: B) i j := by
      simp [entry, List.getD_eq_getElem?_getD, List.getElem?_append_left hlt]
    have e2 : permC (minor (A ++ scaleRow c r :: B) i j) = c * permC (minor (A ++ r :: B) i j) := by
      simp only [minor_eq, List.eraseIdx_append_of_lt_length hlt, dropCol_append]
      simp only [dropCol, List.map_cons, eraseIdx_scaleRow]
      exact permC_scale_mid _ _ _ _
    rw [e1, e2]
    field_simp
  · subst heq
    have e1 : entry (A ++ scaleRow c r :: B) A.length j = c * entry (A ++ r :: B) A.length j := by
      simp only [entry, getD_append_mid, getD_scaleRow]
    have e2 : minor (A ++ scaleRow c r :: B) A.length j = minor (A ++ r :: B) A.length j := by
      simp only [minor, eraseIdx_append_mid]
    rw [e1, e2]
    field_simp
  · obtain ⟨t, ht⟩ : ∃ t, i = A.length + (t + 1) := ⟨i - A.length - 1, by omega⟩
    subst ht
    have e1 : entry (A ++ scaleRow c r :: B) (A.length + (t + 1)) j
        = entry (A ++ r :: B) (A.length + (t + 1)) j := by
      simp only [entry, getD_append_after]
    have e2 : permC (minor (A ++ scaleRow c r :: B) (A.length + (t + 1)) j)
        = c * permC (minor (A ++ r :: B) (A.length + (t + 1)) j) := by
      simp only [minor_eq, List.eraseIdx_append_of_length_le (Nat.le_add_right _ _),
        Nat.add_sub_cancel_left, List.eraseIdx_cons_succ, dropCol_append]
      simp only [dropCol, List.map_cons, eraseIdx_scaleRow]
      exact permC_scale_mid _ _ _ _
    rw [e1, e2]
    field_simp

def scaleAll (f : Row → Rat) (B : Mat) : Mat := B.map (fun r => scaleRow (f r) r)

theorem pSpec_scaleAll (f : Row → Rat) (A B : Mat) (hf : ∀ r ∈ B, f r ≠ 0) (i j : Nat) :
    pSpec (A ++ scaleAll f B) i j = pSpec (A ++ B) i j := by
  induction B generalizing A with
  | nil => rfl
  | cons r B ih =>
    have h1 := ih (A ++ [scaleRow (f r) r]) (fun x hx => hf x (List.mem_cons_of_mem _ hx))
    simp only [List.append_assoc, List.cons_append, List.nil_append] at h1
    simp only [scaleAll, List.map_cons] at h1 ⊢
    rw [h1]
    exact spec_row_rescale A B r (f r) (hf r (List.mem_cons_self)) i j

theorem specMat_scaleAll (f : Row → Rat) (B : Mat) (hf : ∀ r ∈ B, f r ≠ 0) :
    specMat (scaleAll f B) = specMat B := by
  unfold specMat
  rw [show (scaleAll f B).length = B.length by simp [scaleAll]]
  exact List.map_congr_left fun i _ => List.map_congr_left fun j _ => pSpec_scaleAll f [] B hf i j

theorem permC_scaleAll (f : Row → Rat) (A B : Mat) :
    permC (A ++ scaleAll f B) = (B.map f).prod * permC (A ++ B) := by
  induction B generalizing A with
  | nil => simp [scaleAll]
  | cons r B ih =>
    have h1 := ih (A ++ [scaleRow (f r) r])
    simp only [List.append_assoc, List.cons_append, List.nil_append] at h1
    simp only [scaleAll, List.map_cons, List.prod_cons] at h1 ⊢
    rw [h1, permC_scale_mid]
    ring

theorem specMat_length (M : Mat) : (specMat M).length = M.length := by simp [specMat]

theorem specMat_row_length (M : Mat) : ∀ r ∈ specMat M, r.length = M.length := by
  intro r hr
  simp only [specMat, List.mem_map, List.mem_range] at hr
  obtain ⟨i, _, rfl⟩ := hr
  simp

theorem specMat_getD (M : Mat) (k : Nat) (hk : k < M.length) :
    (specMat M).getD k [] = (List.range M.length).map (fun b => pSpec M k b) := by
  simp [specMat, List.getD_eq_getElem?_getD, List.getElem?_map, List.getElem?_range hk]

theorem colOf_specMat (M : Mat) (j : Nat) (hj : j < M.length) :
    colOf (specMat M) j = (List.range M.length).map (fun i => pSpec M i j) := by
  simp only [colOf, specMat, List.map_map]
  apply List.map_congr_left
  intro i _
  simp [List.getD_eq_getElem?_getD, List.getElem?_map, List.getElem?_range hj]

end Infretis.Perm
