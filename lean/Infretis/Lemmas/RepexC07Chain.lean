import Infretis.Lemmas.RepexC07Reissue
import Infretis.Lemmas.RepexC07Distinct
import Infretis.Lemmas.RepexC07Count
import Infretis.Lemmas.RepexC03RRestore
/-!
# C07 — chains of restarts

One restart first: a restart image written from an `NInv` / `MidInv` state restores to C03's `InitR`, which every
event keeps; with the closed form of the re-issue phase (`reissue_phase`, RepexC07Reissue) the phase hands the jobs
in flight back, each with the streams it had, and re-establishes `NInv` (`restart_reissues`).

`ChainReach seed y log`: the scheduler state `y` is reached from a fresh start with configured seed
`seed` through any number of rounds (run a history; stop; restart from the restart image; the
initiation loop re-issues the recorded jobs), and `log` are all `Entry`s — fresh jobs and re-issues —
over the whole chain, in issue order.

A restart image may be taken between two events (`restart`) or at the instant `treat_output` writes
`restart.toml`, i.e. before the next job is drawn (`restartMid`, where the code writes the file).
The restarted sampler has the same number of ensembles; workers, steps, engine table and the
recomputed weights are arbitrary.

Scope: each restart constructor contains the re-issue phase — as many `start`
events as there are recorded jobs, all of which succeed.  That is what `scheduler()` does first.  If
the restarted run has fewer workers or fewer remaining steps than recorded jobs, the un-re-issued
records are dropped by the code (they never complete; their results are never consumed) and their
ordinals may later be given to fresh jobs; such restarts are outside `ChainReach`.
-/
namespace Infretis.Repex

theorem starts_of : ∀ {pre : List Ev}, (∀ ev ∈ pre, ∃ o d, ev = Ev.start o d) →
    ∃ starts : List (PickOutcome × Nat), pre = starts.map fun x => Ev.start x.1 x.2
  | [], _ => ⟨[], rfl⟩
  | ev :: pre, h => by
    obtain ⟨o, d, rfl⟩ := h ev List.mem_cons_self
    obtain ⟨starts, rfl⟩ := starts_of fun ev hev => h ev (List.mem_cons_of_mem _ hev)
    exact ⟨(o, d) :: starts, rfl⟩

/-- **restart from an image written from the invariant** (between events: `NInv`; at the write inside
    `treat_output`: `midState_inv`), same number of ensembles, any workers / steps / engine table / recomputed
    weights, **and the re-issue phase**: the jobs handed out are the jobs that were in flight, in order, each under
    its recorded ordinal with the ensembles, paths and streams it had; the counter has not moved; the invariant
    holds again. -/
theorem restart_reissues {s s' : St} {jobs : List Job} (hm : MidInv s jobs)
    {workers tsteps : Nat} {occ : List (List Int)} {ensEng : List (List Nat)} {weightOf : Nat → List Rat}
    (hre : restore (persist s) s.n workers tsteps occ ensEng weightOf = .ok s') {pre : List Ev}
    (hlen : pre.length = s.locked.length) (hst : ∀ ev ∈ pre, ∃ o d, ev = Ev.start o d) {y' : Sys}
    (hr : run { s := s', jobs := [] } pre = .ok y') :
    NInv y' ∧ y'.s.spawned = s.spawned ∧
      (s.entropy = s.seed → y'.jobs.map (fun j => j.picked.map pkFull) = jobs.map (fun j => j.picked.map pkFull)) ∧
      ghost { s := s', jobs := [] } pre = ((recsOf jobs s.lockedOrd).zip y'.jobs).map fun rj =>
        { ord := rj.1.2, fresh := false, job := rj.2, draws := [] } := by
  obtain ⟨starts, rfl⟩ := starts_of hst
  obtain ⟨_, r2, r3, r4, r5, _, r7, r8⟩ := restore_continues hre
  have hl0 : s'.locked0 = jobs.map jobRec0 := by
    rw [(restore_spec hre).2.2.2.2.2.2.1]
    simp only [persist, hm.recd, List.map_map]
    apply List.map_congr_left
    intro j _
    simp [jobRec, jobRec0, slotOf, off, List.map_map, Function.comp_def]
  have hol := hm.ordLen
  have hrl : (recsOf jobs s.lockedOrd).length = jobs.length := by simp [recsOf, hol]
  -- the slot side is C03's: the restored state is an `InitR` start state, and every event keeps `InvR`
  have hinit := restore_initR hm.core.coreR (fun j hj => (hm.shape j hj).shape) (by rw [hm.recd]) hre
  have hI := run_preservesR _ hinit.inv hr
  have hrec : RecEq y' := run_recEq _ hinit.inv (.ofEmpty r4 rfl) hr
  obtain ⟨js, _, _, _, _, k1, k2, _, kS, kG⟩ := reissue_phase (recsOf jobs s.lockedOrd) starts (rest := [])
    (ordRest := []) (by rw [hrl, ← List.length_map (f := fun x => Ev.start x.1 x.2), hlen, hm.recd, List.length_map])
    (by simp [hl0, recsOf_fst hol])
    (by
      show s'.locked0Ord = List.map (some ∘ Prod.snd) _ ++ []
      rw [List.append_nil, ← List.map_map, recsOf_snd hol, r8]) hr
  obtain rfl : y'.jobs = js := k1
  have hLO : y'.s.lockedOrd = s.lockedOrd := by
    rw [kS]
    show s'.lockedOrd ++ _ = _
    rw [r5, recsOf_snd hol]
    rfl
  have hsp : y'.s.spawned = s.spawned := by rw [kS]; exact r3
  have hjl : y'.jobs.length = jobs.length := by
    have := congrArg List.length k2
    simpa [hrl] using this
  -- job `i` is record `i` written out under ordinal `i`, and so was the job in flight
  have hkey : ∀ (i : Nat) (j' j : Job) (o : Nat), y'.jobs[i]? = some j' → jobs[i]? = some j → s.lockedOrd[i]? = some o →
      j'.picked.map pkFull = recJobFull s.seed o (jobRec0 j) := by
    intro i j' j o h1 h2 h3
    have h4 : (recsOf jobs s.lockedOrd)[i]? = some (jobRec0 j, o) :=
      List.getElem?_zip_eq_some.mpr ⟨by rw [List.getElem?_map, h2]; rfl, h3⟩
    have := congrArg (fun l => l[i]?.map Prod.fst) k2
    simp only [List.getElem?_map, h1, h4, Option.map_some, Option.some.injEq] at this
    rw [this]
    show recJobFull s'.entropy o _ = _
    rw [r2]
  refine ⟨⟨hI.core.core (by rw [kS]), hI.jobs, hrec, by rw [hLO, hol, hjl], ?_, ?_, by rw [hLO, hsp]; exact hm.ordLt,
    by rw [hLO]; exact hm.ordNodup⟩, hsp, fun hent => ?_, kG⟩
  · intro jo hjo
    obtain ⟨i, hi⟩ := List.mem_iff_getElem?.mp hjo
    obtain ⟨h1, h3⟩ := List.getElem?_zip_eq_some.mp hi
    rw [hLO] at h3
    obtain ⟨j, h2⟩ : ∃ j, jobs[i]? = some j :=
      ⟨_, List.getElem?_eq_getElem (by rw [← hol]; exact getElem?_lt_of_some h3)⟩
    rw [show y'.s.entropy = s.seed by rw [kS]; exact r2]
    exact streamsAt_of_pkFull (hkey i _ j _ h1 h2 h3)
  · rw [hsp, hm.count, hm.recd, kS]
    show _ = s'.cstep + (s'.locked ++ _).length
    rw [r7, r4]
    simp [hrl]
  · apply List.ext_getElem?
    intro i
    rw [List.getElem?_map, List.getElem?_map]
    cases h2 : jobs[i]? with
    | none => rw [List.getElem?_eq_none (by rw [hjl]; exact List.getElem?_eq_none_iff.mp h2)]
    | some j =>
      have hi := getElem?_lt_of_some h2
      have h1 : y'.jobs[i]? = some y'.jobs[i] := List.getElem?_eq_getElem (by rw [hjl]; exact hi)
      have h3 : s.lockedOrd[i]? = some s.lockedOrd[i] := List.getElem?_eq_getElem (by rw [hol]; exact hi)
      rw [h1, Option.map_some, Option.map_some, hkey i _ j _ h1 h2 h3]
      have hz : (j, s.lockedOrd[i]) ∈ jobs.zip s.lockedOrd :=
        List.mem_of_getElem? (List.getElem?_zip_eq_some.mpr ⟨h2, h3⟩)
      rw [pkFull_of_streams (hent ▸ hm.ordStreams _ hz) (hm.shape j (List.mem_of_getElem? h2)).ensGe]

inductive ChainReach (seed : Nat) : Sys → List Entry → Prop
  | fresh {y0 : Sys} : Init y0 → y0.s.seed = seed → y0.s.entropy = seed → y0.s.spawned = 0 →
      y0.s.cstep = 0 → y0.s.locked = [] → y0.s.lockedOrd = [] → y0.s.locked0Ord = [] →
      ChainReach seed y0 []
  | run {y y' : Sys} {log : List Entry} {evs : List Ev} : ChainReach seed y log →
      run y evs = .ok y' → ChainReach seed y' (log ++ ghost y evs)
  | restart {y y' : Sys} {log : List Entry} {s' : St} {workers tsteps : Nat} {occ : List (List Int)}
      {ensEng : List (List Nat)} {weightOf : Nat → List Rat} {pre : List Ev} :
      ChainReach seed y log →
      restore (persist y.s) y.s.n workers tsteps occ ensEng weightOf = .ok s' →
      pre.length = y.s.locked.length → (∀ ev ∈ pre, ∃ o d, ev = Ev.start o d) →
      Infretis.Repex.run { s := s', jobs := [] } pre = .ok y' →
      ChainReach seed y' (log ++ ghost { s := s', jobs := [] } pre)
  | restartMid {y y' : Sys} {log : List Entry} {k : Nat} {status : Status} {newW : List (List Rat)}
      {s2 s' : St} {workers tsteps : Nat} {occ : List (List Int)} {ensEng : List (List Nat)}
      {weightOf : Nat → List Rat} {pre : List Ev} : ChainReach seed y log →
      midState y k status newW = .ok s2 →
      restore (persist s2) s2.n workers tsteps occ ensEng weightOf = .ok s' →
      pre.length = s2.locked.length → (∀ ev ∈ pre, ∃ o d, ev = Ev.start o d) →
      Infretis.Repex.run { s := s', jobs := [] } pre = .ok y' →
      ChainReach seed y' (log ++ ghost { s := s', jobs := [] } pre)

/-- stop in a state that satisfies the invariant (jobs `jobs` in flight,
    entropy = seed), restart, let the initiation loop re-issue the recorded jobs.  The `i`-th
    re-issued job is the `i`-th job that was in flight at the stop — same ensembles, same path
    numbers — it is re-issued under the ordinal recorded for that job, and it receives exactly the
    move and engine streams that job had before the stop, entry by entry. -/
theorem reissue_same_streams {s s' : St} {jobs : List Job} {y' : Sys} {workers tsteps : Nat}
    {occ : List (List Int)} {ensEng : List (List Nat)} {weightOf : Nat → List Rat} {pre : List Ev}
    (hm : MidInv s jobs) (hent : s.entropy = s.seed)
    (hre : restore (persist s) s.n workers tsteps occ ensEng weightOf = .ok s')
    (hlen : pre.length = s.locked.length) (hst : ∀ ev ∈ pre, ∃ o d, ev = Ev.start o d)
    (hr : Infretis.Repex.run { s := s', jobs := [] } pre = .ok y') :
    (ghost { s := s', jobs := [] } pre).length = jobs.length ∧ y'.s.spawned = s.spawned ∧
    ∀ (i : Nat) (e : Entry) (job : Job), (ghost { s := s', jobs := [] } pre)[i]? = some e →
      jobs[i]? = some job →
      e.fresh = false ∧ s.lockedOrd[i]? = some e.ord ∧ jobRec e.job = jobRec job ∧
      ∀ (j : Nat) (p q : Picked), e.job.picked[j]? = some p → job.picked[j]? = some q →
        p.rgen = q.rgen ∧ p.rgenEng = q.rgenEng := by
  obtain ⟨_, hsp, hjobs, hg⟩ := restart_reissues hm hre hlen hst hr
  replace hjobs := hjobs hent
  have hjl : y'.jobs.length = jobs.length := by simpa using congrArg List.length hjobs
  refine ⟨by rw [hg]; simp [recsOf, hm.ordLen, hjl], hsp, ?_⟩
  intro i e job hei hji
  rw [hg, List.getElem?_map] at hei
  obtain ⟨⟨r, j'⟩, hz, rfl⟩ := Option.map_eq_some_iff.mp hei
  obtain ⟨hri, hj'⟩ := List.getElem?_zip_eq_some.mp hz
  -- the re-issued job and the job that was in flight agree entry by entry in ensemble, path and streams
  have hpk : j'.picked.map pkFull = job.picked.map pkFull := by
    have := congrArg (·[i]?) hjobs
    simpa [hj', hji] using this
  refine ⟨rfl, (List.getElem?_zip_eq_some.mp hri).2, ?_, fun j p q hp hq => ?_⟩
  · have h1 := congrArg (List.map (·.1)) hpk
    have h2 := congrArg (List.map (·.2.1)) hpk
    simp only [List.map_map] at h1 h2
    exact Prod.ext h1 h2
  · have := congrArg (·[j]?) hpk
    simp only [List.getElem?_map, hp, hq, Option.map_some, Option.some.injEq, pkFull, Prod.mk.injEq] at this
    exact this.2.2

/-- `reissue_same_streams` determines a re-issued job up to the engine objects it is given -/
theorem picked_eq_of_rec : ∀ {ps qs : List Picked}, ps.map (·.ens) = qs.map (·.ens) →
    ps.map (·.pn) = qs.map (·.pn) →
    (∀ (j : Nat) (p q : Picked), ps[j]? = some p → qs[j]? = some q →
      p.rgen = q.rgen ∧ p.rgenEng = q.rgenEng ∧ p.engIdx = q.engIdx) → ps = qs
  | [], [], _, _, _ => rfl
  | [], _ :: _, hens, _, _ => nomatch hens
  | _ :: _, [], hens, _, _ => nomatch hens
  | p :: ps, q :: qs, hens, hpn, h => by
    simp only [List.map_cons, List.cons.injEq] at hens hpn
    obtain ⟨h3, h4, h5⟩ := h 0 p q rfl rfl
    have hpq : p = q := by
      cases p
      cases q
      simp only at hens hpn h3 h4 h5
      rw [hens.1, hpn.1, h3, h4, h5]
    rw [hpq, picked_eq_of_rec hens.2 hpn.2 (fun j p' q' hp hq => h (j + 1) p' q' hp hq)]

/-! ### chains without any scope restriction

Since /repo 17a0342 `write_toml` records the spawn counter whenever it is not `cstep + len(locked)`,
so a restart ALWAYS continues the counter (`restore_continues`).  That makes the stream statements
independent of the slot invariant: they hold for arbitrary event lists and arbitrary restarts —
fewer or more workers, fewer remaining steps than recorded jobs (records dropped), a different
number of ensembles, any interleaving the model allows.  What still needs the slot invariant (and
therefore the scope of `ChainReach`) is the ALIGNMENT of records and ordinals: that a re-issued job is
the recorded job and gets that job's ordinal (`reissue_same_streams`, `NInv`). -/

/-- every ordinal on record — with a job in flight or waiting to be re-issued — is below the counter -/
def OrdsBelow (s : St) : Prop :=
  (∀ o ∈ s.lockedOrd, o < s.spawned) ∧ (∀ o, some o ∈ s.locked0Ord → o < s.spawned)

theorem Issue.ordsBelow {sb s' : St} {ps : List Picked} {ord : Nat} {fresh : Bool}
    (hi : Issue sb s' ps ord fresh) (hb : OrdsBelow sb) : OrdsBelow s' := by
  obtain ⟨b1, b2⟩ := hb
  -- either kind of issue: the counter does not go down, the issued ordinal is below it, nothing new waits
  have key : sb.spawned ≤ s'.spawned ∧ ord < s'.spawned ∧
      ∀ o, some o ∈ s'.locked0Ord → some o ∈ sb.locked0Ord := by
    rcases hi.kind with ⟨_, ho, hsp, hl⟩ | ⟨_, hsp, hl⟩
    · refine ⟨by omega, by omega, fun o hmem => ?_⟩
      rcases hl with hl | hl
      · rw [hl] at hmem; exact hmem
      · rw [hl] at hmem; exact List.mem_of_mem_tail hmem
    · refine ⟨by omega, ?_, fun o hmem => by rw [hl]; exact List.mem_cons_of_mem _ hmem⟩
      rw [hsp]
      exact b2 ord (by rw [hl]; exact List.mem_cons_self ..)
  obtain ⟨hle, hord, hsub⟩ := key
  refine ⟨fun o hmem => ?_, fun o hmem => Nat.lt_of_lt_of_le (b2 o (hsub o hmem)) hle⟩
  rw [hi.lockedOrd] at hmem
  rcases List.mem_append.mp hmem with h | h
  · exact Nat.lt_of_lt_of_le (b1 o h) hle
  · rw [List.mem_singleton.mp h]; exact hord

theorem Before.ordsBelow {s sm : St} (hb : Before s sm) (h : OrdsBelow s) : OrdsBelow sm :=
  ⟨fun o ho => hb.keeps.spawned ▸ h.1 o (hb.ordSub o ho), fun o ho => hb.keeps.spawned ▸ h.2 o (hb.keeps.locked0Ord ▸ ho)⟩

theorem sysStepJ_ordsBelow {y y' : Sys} {ev : Ev} {oj : Option (Job × List Draw)}
    (hb : OrdsBelow y.s) (h : sysStepJ y ev = .ok (y', oj)) : OrdsBelow y'.s := by
  obtain ⟨sm, hbf, hrest⟩ := sysStepJ_shape h
  rcases hrest with ⟨_, _, _, job, ds, hprep, _⟩ | ⟨hs, _⟩
  · obtain ⟨ord, fresh, hi⟩ := prep_issue hprep
    exact hi.ordsBelow (hbf.ordsBelow hb)
  · rw [hs]
    exact hbf.ordsBelow hb

theorem run_ordsBelow (evs : List Ev) {y y' : Sys} (hb : OrdsBelow y.s) (h : run y evs = .ok y') : OrdsBelow y'.s :=
  run_invariant (P := fun y => OrdsBelow y.s)
    (fun _ _ _ hb h => (sysStepJ_of_sys h).elim fun _ hj => sysStepJ_ordsBelow hb hj) evs hb h

theorem restore_ordsBelow {s s' : St} {n workers tsteps : Nat} {occ : List (List Int)}
    {ensEng : List (List Nat)} {weightOf : Nat → List Rat} (hb : OrdsBelow s)
    (h : restore (persist s) n workers tsteps occ ensEng weightOf = .ok s') : OrdsBelow s' := by
  obtain ⟨_, _, r3, _, r5, _, _, r8⟩ := restore_continues h
  refine ⟨by rw [r5]; intro o ho; simp at ho, ?_⟩
  intro o ho
  rw [r8] at ho
  rw [r3]
  obtain ⟨o', ho', heq⟩ := List.mem_map.mp ho
  simp only [Option.some.injEq] at heq
  rw [← heq]
  exact hb.1 o' ho'

/-- chains with NO scope restriction: a fresh start, any histories that run, any restarts (between
    events or from the file written inside `treat_output`), with any number of ensembles, workers,
    steps, any engine table; what the restarted sampler re-issues (everything, a prefix, nothing) is
    just part of the next history -/
inductive ChainAny (seed : Nat) : Sys → List Entry → Prop
  | fresh {y0 : Sys} : y0.s.seed = seed → y0.s.entropy = seed → y0.s.spawned = 0 →
      y0.s.lockedOrd = [] → y0.s.locked0Ord = [] → ChainAny seed y0 []
  | run {y y' : Sys} {log : List Entry} {evs : List Ev} : ChainAny seed y log →
      Infretis.Repex.run y evs = .ok y' → ChainAny seed y' (log ++ ghost y evs)
  | restart {y : Sys} {log : List Entry} {s' : St} {n workers tsteps : Nat} {occ : List (List Int)}
      {ensEng : List (List Nat)} {weightOf : Nat → List Rat} : ChainAny seed y log →
      restore (persist y.s) n workers tsteps occ ensEng weightOf = .ok s' →
      ChainAny seed { s := s', jobs := [] } log
  | restartMid {y : Sys} {log : List Entry} {k : Nat} {status : Status} {newW : List (List Rat)}
      {s2 s' : St} {n workers tsteps : Nat} {occ : List (List Int)} {ensEng : List (List Nat)}
      {weightOf : Nat → List Rat} : ChainAny seed y log →
      midState y k status newW = .ok s2 →
      restore (persist s2) n workers tsteps occ ensEng weightOf = .ok s' →
      ChainAny seed { s := s', jobs := [] } log

structure AnyInv (seed : Nat) (y : Sys) (log : List Entry) : Prop where
  hseed : y.s.seed = seed
  hentropy : y.s.entropy = seed
  tagged : Tagged seed log
  /-- the `k`-th fresh (= distinct) job of the chain has ordinal `k`; the counter counts them -/
  fresh : freshOrds log = List.range y.s.spawned
  /-- every entry, re-issues included, carries the ordinal of a distinct job issued so far -/
  ordLt : ∀ e ∈ log, e.ord < y.s.spawned
  below : OrdsBelow y.s

theorem ChainAny.inv {seed : Nat} {y : Sys} {log : List Entry} (h : ChainAny seed y log) :
    AnyInv seed y log := by
  induction h with
  | fresh h1 h2 h3 h4 h5 =>
    refine ⟨h1, h2, by intro e he; simp at he, by rw [h3]; rfl, by intro e he; simp at he, ?_, ?_⟩
    · rw [h4]; intro o ho; simp at ho
    · rw [h5]; intro o ho; simp at ho
  | @run y y' log evs _ hr ih =>
    obtain ⟨r1, r2, r3⟩ := run_spawned evs hr
    obtain ⟨s1, s2, s3⟩ := ghost_spec evs y
    rw [ih.hentropy] at s1
    have hfo : freshOrds (log ++ ghost y evs) = List.range y'.s.spawned := by
      rw [freshOrds_append, ih.fresh, s2, r3, List.range_eq_range', List.range_eq_range']
      have := @List.range'_append 0 y.s.spawned (freshOrds (ghost y evs)).length 1
      simpa using this
    refine ⟨r1.trans ih.hseed, r2.trans ih.hentropy, ih.tagged.append s1, hfo, ?_, run_ordsBelow evs ih.below hr⟩
    intro e he
    rcases List.mem_append.mp he with he | he
    · have := ih.ordLt e he; omega
    · cases hf : e.fresh with
      | true =>
        have hm := mem_freshOrds (List.mem_append_right log he) hf
        rw [hfo] at hm
        exact List.mem_range.mp hm
      | false =>
        have := ih.below.2 e.ord (s3.subset (List.mem_map_of_mem (mem_reissueOrds he hf)))
        omega
  | restart _ hre ih =>
    obtain ⟨r1, r2, r3, _⟩ := restore_continues hre
    exact ⟨r1.trans ih.hseed, r2.trans ih.hseed, ih.tagged, by rw [r3]; exact ih.fresh,
      by rw [r3]; exact ih.ordLt, restore_ordsBelow ih.below hre⟩
  | restartMid _ hmid hre ih =>
    have m := midState_touches hmid
    obtain ⟨r1, r2, r3, _⟩ := restore_continues hre
    have hb2 := (midState_before hmid).ordsBelow ih.below
    exact ⟨(r1.trans m.seed).trans ih.hseed, (r2.trans m.seed).trans ih.hseed, ih.tagged,
      by rw [r3, m.spawned]; exact ih.fresh, by rw [r3, m.spawned]; exact ih.ordLt, restore_ordsBelow hb2 hre⟩

/-- **after any chain in which `J` distinct jobs were issued** the `m`-th FRESH job of any continuation (whatever is
    re-issued in between, whether or not the continuation runs to its end) has ordinal `J + m` and the streams of that
    ordinal; re-issued jobs carry ordinals `< J`.  At `log = []` this is the fresh start. -/
theorem ChainAny.continued {seed : Nat} {y : Sys} {log : List Entry} (h : ChainAny seed y log) (evs : List Ev) :
    (∀ (m : Nat) (e : Entry), ((ghost y evs).filter (·.fresh))[m]? = some e →
      e.ord = (freshOrds log).length + m ∧ StreamsAt seed ((freshOrds log).length + m) e.job.picked) ∧
    (∀ e ∈ ghost y evs, e.fresh = false → e.ord < (freshOrds log).length) := by
  have hi := h.inv
  have hfl : (freshOrds log).length = y.s.spawned := by rw [hi.fresh, List.length_range]
  obtain ⟨g1, _, g3⟩ := ghost_spec evs y
  rw [hfl]
  refine ⟨fun m e hm => ?_, fun e he hf => hi.below.2 e.ord (g3.subset (List.mem_map_of_mem (mem_reissueOrds he hf)))⟩
  have hord : e.ord = y.s.spawned + m := ghost_fresh_ord hm
  exact ⟨hord, hord ▸ hi.hentropy ▸ g1 e (List.mem_of_mem_filter (List.mem_of_getElem? hm))⟩

theorem ChainReach.toAny {seed : Nat} {y : Sys} {log : List Entry} (h : ChainReach seed y log) :
    ChainAny seed y log := by
  induction h with
  | fresh _ h1 h2 h3 _ _ h6 h7 => exact ChainAny.fresh h1 h2 h3 h6 h7
  | run _ hr ih => exact ChainAny.run ih hr
  | restart _ hre _ _ hr ih => exact ChainAny.run (ChainAny.restart ih hre) hr
  | restartMid _ hmid hre _ _ hr ih => exact ChainAny.run (ChainAny.restartMid ih hmid hre) hr

/-- what holds along every chain whose restarts re-issue all recorded jobs -/
structure ChainInv (seed : Nat) (y : Sys) (log : List Entry) : Prop where
  any : AnyInv seed y log
  ninv : NInv y
  jobsLogged : ∀ job ∈ y.jobs, ∃ e ∈ log, e.job = job

theorem chain_restart_step {s s' : St} {jobs : List Job} {log : List Entry} {y' : Sys}
    {workers tsteps : Nat} {occ : List (List Int)} {ensEng : List (List Nat)}
    {weightOf : Nat → List Rat} {pre : List Ev} (hm : MidInv s jobs)
    (hre : restore (persist s) s.n workers tsteps occ ensEng weightOf = .ok s')
    (hlen : pre.length = s.locked.length) (hst : ∀ ev ∈ pre, ∃ o d, ev = Ev.start o d)
    (hr : Infretis.Repex.run { s := s', jobs := [] } pre = .ok y') :
    NInv y' ∧ ∀ job ∈ y'.jobs, ∃ e ∈ log ++ ghost { s := s', jobs := [] } pre, e.job = job := by
  refine ⟨(restart_reissues hm hre hlen hst hr).1, fun job hj => ?_⟩
  rcases jobs_subset_issued pre hr job hj with h | h
  · cases h
  · obtain ⟨e, he, hej⟩ := List.mem_map.mp h
    exact ⟨e, List.mem_append.mpr (Or.inr he), hej⟩

/-- **the chain invariant**: along any chain of restarts the invariant of `RepexC07Count` holds,
    every entry carries the streams `(seed, [ord, j])` / `(seed, [ord, j, 0])` of its ordinal, the
    `k`-th distinct job has ordinal `k`, and re-issues re-use ordinals of distinct jobs issued before. -/
theorem ChainReach.inv {seed : Nat} {y : Sys} {log : List Entry} (h : ChainReach seed y log) :
    ChainInv seed y log := by
  suffices key : NInv y ∧ ∀ job ∈ y.jobs, ∃ e ∈ log, e.job = job from ⟨h.toAny.inv, key.1, key.2⟩
  induction h with
  | fresh hi _ _ h3 h4 h5 h6 _ =>
    refine ⟨ninv_of_init hi h5 h6 (by rw [h3, h4]), fun job hj => ?_⟩
    rw [hi.jobs] at hj
    cases hj
  | @run y y' log evs _ hr ih =>
    refine ⟨ninv_kept.run evs ih.1 (along_true _ _) hr, fun job hj => ?_⟩
    rcases jobs_subset_issued evs hr job hj with h | h
    · obtain ⟨e, he, hej⟩ := ih.2 job h
      exact ⟨e, List.mem_append.mpr (Or.inl he), hej⟩
    · obtain ⟨e, he, hej⟩ := List.mem_map.mp h
      exact ⟨e, List.mem_append.mpr (Or.inr he), hej⟩
  | restart _ hre hlen hst hr ih => exact chain_restart_step ih.1 hre hlen hst hr
  | restartMid _ hmid hre hlen hst hr ih =>
    exact chain_restart_step (midState_inv ih.1 hmid).1 hre hlen hst hr

end Infretis.Repex
