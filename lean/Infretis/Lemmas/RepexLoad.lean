import Infretis.Lemmas.RepexFootprint
import Infretis.Lemmas.ListAux
/-!
# `load_paths` and `restore` in closed form

`load_paths` puts `paths[e]` into slot `e` (the plus paths first, the minus path last); every slot is written once,
so each `add_traj` sees the lock flag, the lengths and `n` of the start state.  Hence the call succeeds exactly when
every path passes the asserts of `add_traj` against the START state (`LoadOK`), and the result is the start state
with the first `paths.length` entries of `W`, `trajs`, `locks` overwritten and the two tables extended.  A restart is
`load_paths` on the state `__init__` builds from the image.
-/
namespace Infretis.Repex

/-- `l` with the entries from position `k` on overwritten by `vs`, as far as `l` reaches -/
def fillL {α : Type} (l : List α) (k : Nat) (vs : List α) : List α :=
  l.mapIdx fun e a => if k ≤ e then (vs[e - k]?).getD a else a

@[simp] theorem length_fillL {α : Type} (l : List α) (k : Nat) (vs : List α) : (fillL l k vs).length = l.length :=
  List.length_mapIdx

theorem getElem?_fillL {α : Type} (l : List α) (k : Nat) (vs : List α) (e : Nat) :
    (fillL l k vs)[e]? = l[e]?.map fun a => if k ≤ e then (vs[e - k]?).getD a else a :=
  List.getElem?_mapIdx

theorem getElem?_fillL_lt {α : Type} {l : List α} {k : Nat} {vs : List α} {e : Nat} (h : e < k) :
    (fillL l k vs)[e]? = l[e]? := by
  rw [getElem?_fillL]
  simp [Nat.not_le.mpr h]

@[simp] theorem fillL_nil {α : Type} (l : List α) (k : Nat) : fillL l k [] = l := by
  apply List.ext_getElem?
  intro e
  rw [getElem?_fillL]
  simp

theorem fillL_set {α : Type} (l : List α) (k : Nat) (v : α) (vs : List α) :
    fillL (l.set k v) (k + 1) vs = fillL l k (v :: vs) := by
  apply List.ext_getElem?
  intro e
  rw [getElem?_fillL, getElem?_fillL, List.getElem?_set]
  by_cases hek : k = e
  · subst hek
    cases hl : l[k]? with
    | none => simp [(List.getElem?_eq_none_iff.mp hl)]
    | some a =>
      simp [getElem?_lt_of_some hl]
      omega
  · rw [if_neg hek]
    cases l[e]? with
    | none => rfl
    | some a =>
      simp only [Option.map_some, Option.some.injEq]
      by_cases hke : k + 1 ≤ e
      · rw [if_pos hke, if_pos (by omega), show e - k = (e - (k + 1)) + 1 from by omega, List.getElem?_cons_succ]
      · rw [if_neg hke, if_neg (by omega)]

theorem fillL_succ_set {α : Type} (l : List α) (k : Nat) (v : α) (vs : List α) :
    (fillL l (k + 1) vs).set k v = fillL l k (v :: vs) := by
  rw [← fillL_set]
  apply List.ext_getElem?
  intro e
  rw [List.getElem?_set, getElem?_fillL, getElem?_fillL, List.getElem?_set, length_fillL]
  by_cases hek : k = e
  · subst hek
    by_cases hl : k < l.length
    · simp [hl, Nat.not_succ_le_self]
    · simp [hl, Nat.not_succ_le_self]
  · simp [hek]

theorem fillL_zero {α : Type} (l vs : List α) : fillL l 0 vs = vs.take l.length ++ l.drop vs.length := by
  apply List.ext_getElem?
  intro e
  rw [getElem?_fillL]
  by_cases h2 : e < l.length
  · rw [List.getElem?_eq_getElem h2]
    by_cases h1 : e < vs.length
    · rw [List.getElem?_append_left (by rw [List.length_take]; omega), List.getElem?_take, if_pos h2]
      simp [List.getElem?_eq_getElem h1]
    · rw [List.getElem?_append_right (by rw [List.length_take]; omega), List.getElem?_drop, List.length_take,
        List.getElem?_eq_none (l := vs) (by omega), Nat.min_eq_right (by omega),
        show vs.length + (e - vs.length) = e from by omega, List.getElem?_eq_getElem h2]
      simp
  · rw [List.getElem?_eq_none (l := l) (by omega)]
    exact (List.getElem?_eq_none (by simp; omega)).symm

/-- the asserts `add_traj` makes when a path with weights `w` goes into slot `e` (ensemble `e - 1`) -/
def LoadOK (s : St) (e : Nat) (w : List Rat) : Prop :=
  s.locks[e]? = some true ∧ e < s.trajs.length ∧
    (padValid s ((e : Int) - 1) w).length = s.n ∧ (padValid s ((e : Int) - 1) w).getD e 0 ≠ 0

theorem LoadOK.diag {s : St} {e : Nat} {w : List Rat} (h : LoadOK s e w) :
    (padValid s ((e : Int) - 1) w).getD e 0 ≠ 0 := h.2.2.2

theorem LoadOK.congr {s t : St} {e : Nat} {w : List Rat} (hl : t.locks[e]? = s.locks[e]?)
    (ht : t.trajs.length = s.trajs.length) (hn : t.n = s.n) : LoadOK t e w ↔ LoadOK s e w := by
  unfold LoadOK padValid
  rw [hl, ht, hn]

/-- slot `e` after `load_paths` has put the path `p = (number, weights, fractions)` there -/
def putSt (s : St) (e : Nat) (p : Nat × List Rat × List Rat) : St :=
  { s with trajs := s.trajs.set e (some p.1), W := s.W.set e (padValid s ((e : Int) - 1) p.2.1),
           locks := s.locks.set e false, frac := s.frac ++ [(p.1, p.2.2)], wts := s.wts ++ [(p.1, p.2.1)] }

theorem loadOne_ok_iff {s s' : St} {ens : Int} {e pn : Nat} {w fr : List Rat} (he : ens = (e : Int) - 1) :
    loadOne s ens pn w fr = .ok s' ↔ LoadOK s e w ∧ s' = putSt s e (pn, w, fr) := by
  subst he
  have hslot : (((e : Int) - 1) + 1).toNat = e := by omega
  unfold loadOne LoadOK putSt
  cases h : addTraj s ((e : Int) - 1) pn w with
  | error er =>
    simp only [reduceCtorEq, false_iff, not_and]
    intro ⟨h1, h2, h3, h4⟩
    have := (addTraj_ok_iff (pn := pn)).mpr
      ⟨by rw [hslot]; exact h1, by rw [hslot]; exact h2, h3, by rw [hslot]; exact h4, rfl⟩
    rw [h] at this
    exact absurd this (by simp)
  | ok s1 =>
    obtain ⟨h1, h2, h3, h4, rfl⟩ := addTraj_ok_iff.mp h
    rw [hslot] at h1 h2 h4
    simp only [Except.ok.injEq, hslot]
    exact ⟨fun h => ⟨⟨h1, h2, h3, h4⟩, h.symm⟩, fun h => h.2.symm⟩

/-- the state after `load_paths` has put `ps` into the slots `k, k + 1, …` (`1 ≤ k`) -/
def plusSt (s : St) (k : Nat) (ps : List (Nat × List Rat × List Rat)) : St :=
  { s with W := fillL s.W k (ps.map fun p => padValid s 0 p.2.1),
           trajs := fillL s.trajs k (ps.map fun p => some p.1),
           locks := fillL s.locks k (ps.map fun _ => false),
           frac := s.frac ++ ps.map (fun p => (p.1, p.2.2)), wts := s.wts ++ ps.map (fun p => (p.1, p.2.1)) }

theorem plusSt_put (s : St) {k : Nat} (hk : 1 ≤ k) (p : Nat × List Rat × List Rat)
    (ps : List (Nat × List Rat × List Rat)) : plusSt (putSt s k p) (k + 1) ps = plusSt s k (p :: ps) := by
  have hp : padValid s ((k : Int) - 1) p.2.1 = padValid s 0 p.2.1 := padValid_nonneg s (by omega) _
  simp only [plusSt, putSt, fillL_set, List.map_cons, List.append_assoc, List.singleton_append, hp]
  rfl

theorem plus_ok_iff : ∀ (ps : List (Nat × List Rat × List Rat)) (s s' : St) (i : Nat),
    loadPaths.plus s i ps = .ok s' ↔
      (∀ j p, ps[j]? = some p → LoadOK s (i + 1 + j) p.2.1) ∧ s' = plusSt s (i + 1) ps := by
  intro ps
  induction ps with
  | nil =>
    intro s s' i
    simp only [loadPaths.plus, Except.ok.injEq, List.getElem?_nil, reduceCtorEq, false_implies, implies_true,
      true_and, plusSt, fillL_nil, List.map_nil, List.append_nil]
    exact eq_comm
  | cons p ps ih =>
    intro s s' i
    obtain ⟨pn, w, fr⟩ := p
    unfold loadPaths.plus
    have h1 : ∀ {t}, loadOne s (i : Int) pn w fr = .ok t ↔ _ := loadOne_ok_iff (e := i + 1) (by omega)
    cases hl : loadOne s (i : Int) pn w fr with
    | error er =>
      simp only [reduceCtorEq, false_iff, not_and]
      intro hok
      have := h1.mpr ⟨by simpa using hok 0 (pn, w, fr) rfl, rfl⟩
      rw [hl] at this
      exact absurd this (by simp)
    | ok s1 =>
      obtain ⟨hok1, rfl⟩ := h1.mp hl
      simp only []
      rw [ih, plusSt_put s (by omega)]
      have hc : ∀ j q, LoadOK (putSt s (i + 1) (pn, w, fr)) (i + 1 + 1 + j) q ↔ LoadOK s (i + 1 + (j + 1)) q :=
        fun j q => by
          rw [show i + 1 + 1 + j = i + 1 + (j + 1) from by omega]
          exact LoadOK.congr (List.getElem?_set_ne (by omega)) (List.length_set ..) rfl
      constructor
      · rintro ⟨h, rfl⟩
        refine ⟨fun j p hj => ?_, rfl⟩
        cases j with
        | zero =>
          simp only [List.getElem?_cons_zero, Option.some.injEq] at hj
          subst hj
          exact hok1
        | succ j => exact (hc j _).mp (h j p (by simpa using hj))
      · rintro ⟨h, rfl⟩
        exact ⟨fun j p hj => (hc j _).mpr (h (j + 1) p (by simpa using hj)), rfl⟩

/-- the order in which `load_paths` enters the paths into `traj_data`: plus paths first, the minus path last -/
def loadOrder {α : Type} (paths : List α) : List α := paths.tail ++ paths.head?.toList

theorem loadOrder_perm {α : Type} (paths : List α) : (loadOrder paths).Perm paths := by
  cases paths with
  | nil => exact List.Perm.refl _
  | cons hd tl => exact List.perm_append_comm

/-- what `load_paths` returns when it returns: `paths[e]` sits in slot `e`, unlocked, with its padded weights as row
    `e`; the tables got the plus paths, then the minus path -/
def loadedSt (s : St) (paths : List (Nat × List Rat × List Rat)) : St :=
  { s with W := fillL s.W 0 (paths.mapIdx fun e p => padValid s ((e : Int) - 1) p.2.1),
           trajs := fillL s.trajs 0 (paths.map fun p => some p.1),
           locks := fillL s.locks 0 (paths.map fun _ => false),
           frac := s.frac ++ (loadOrder paths).map (fun p => (p.1, p.2.2)),
           wts := s.wts ++ (loadOrder paths).map (fun p => (p.1, p.2.1)) }

theorem putSt_plusSt (s : St) (hd : Nat × List Rat × List Rat) (tl : List (Nat × List Rat × List Rat)) :
    putSt (plusSt s 1 tl) 0 hd = loadedSt s (hd :: tl) := by
  have hW : (hd :: tl).mapIdx (fun e p => padValid s ((e : Int) - 1) p.2.1)
      = padValid s (-1) hd.2.1 :: tl.map fun p => padValid s 0 p.2.1 := by
    rw [List.mapIdx_cons]
    congr 1
    apply List.ext_getElem?
    intro j
    rw [List.getElem?_mapIdx, List.getElem?_map]
    congr 1
    funext p
    exact padValid_nonneg s (by omega) _
  simp only [loadedSt, loadOrder, hW, putSt, plusSt, fillL_succ_set, List.map_cons, List.tail_cons, List.head?_cons,
    Option.toList_some, List.map_append, List.append_assoc, List.map_nil]
  rfl

/-- **`load_paths`**: it returns iff every path passes the asserts of `add_traj` against the start state, and then
    it returns `loadedSt` -/
theorem loadPaths_ok_iff {s s' : St} {paths : List (Nat × List Rat × List Rat)} :
    loadPaths s paths = .ok s' ↔
      paths ≠ [] ∧ (∀ e p, paths[e]? = some p → LoadOK s e p.2.1) ∧ s' = loadedSt s paths := by
  unfold loadPaths
  cases paths with
  | nil => simp
  | cons hd tl =>
    obtain ⟨pn0, w0, fr0⟩ := hd
    simp only [ne_eq, reduceCtorEq, not_false_eq_true, true_and]
    have h0 : ∀ {t t'}, loadOne t (-1) pn0 w0 fr0 = .ok t' ↔ _ := loadOne_ok_iff (e := 0) (by omega)
    have hc : ∀ q, LoadOK (plusSt s 1 tl) 0 q ↔ LoadOK s 0 q := fun q =>
      LoadOK.congr (getElem?_fillL_lt (by omega)) (length_fillL ..) rfl
    cases hp : loadPaths.plus s 0 tl with
    | error er =>
      simp only [reduceCtorEq, false_iff, not_and]
      intro hok
      have := (plus_ok_iff tl s _ 0).mpr
        ⟨fun j p hj => by simpa [Nat.add_comm] using hok (j + 1) p (by simpa using hj), rfl⟩
      rw [hp] at this
      exact absurd this (by simp)
    | ok s1 =>
      obtain ⟨hok1, rfl⟩ := (plus_ok_iff tl s s1 0).mp hp
      simp only []
      rw [h0, hc, putSt_plusSt]
      constructor
      · rintro ⟨h, rfl⟩
        refine ⟨fun e p he => ?_, rfl⟩
        cases e with
        | zero =>
          simp only [List.getElem?_cons_zero, Option.some.injEq] at he
          subst he
          exact h
        | succ e => simpa [Nat.add_comm] using hok1 e p (by simpa using he)
      · rintro ⟨h, rfl⟩
        exact ⟨h 0 _ rfl, rfl⟩

theorem loadPaths_touches {s s' : St} {paths : List (Nat × List Rat × List Rat)} (h : loadPaths s paths = .ok s') :
    Touches [.W, .trajs, .locks, .frac, .wts] s s' := by
  obtain ⟨_, _, rfl⟩ := loadPaths_ok_iff.mp h
  intro f hf
  cases f <;> first | rfl | exact absurd (by decide) hf

section
variable (s : St) (paths : List (Nat × List Rat × List Rat)) (e : Nat)

theorem loadedSt_W : (loadedSt s paths).W[e]? =
    s.W[e]?.map fun r => (paths[e]?.map fun p => padValid s ((e : Int) - 1) p.2.1).getD r := by
  simp [loadedSt, getElem?_fillL, List.getElem?_mapIdx]

theorem loadedSt_trajs : (loadedSt s paths).trajs[e]? =
    s.trajs[e]?.map fun t => (paths[e]?.map fun p => some p.1).getD t := by
  simp [loadedSt, getElem?_fillL]

end

/-- on `n` slots, all locked, `n - 1` paths fill every slot but the last (the ghost) -/
theorem loadedSt_square {s : St} {paths : List (Nat × List Rat × List Rat)} {n : Nat} (hW : s.W.length = n)
    (hT : s.trajs.length = n) (hL : s.locks = List.replicate n true) (hlen : paths.length + 1 = n) :
    (loadedSt s paths).W = paths.mapIdx (fun e p => padValid s ((e : Int) - 1) p.2.1) ++ s.W.drop (n - 1) ∧
    (loadedSt s paths).trajs = paths.map (fun p => some p.1) ++ s.trajs.drop (n - 1) ∧
    (loadedSt s paths).locks = List.replicate (n - 1) false ++ [true] := by
  have h1 : paths.length = n - 1 := by omega
  refine ⟨?_, ?_, ?_⟩
  · show fillL s.W 0 _ = _
    rw [fillL_zero, hW, List.length_mapIdx, h1, List.take_of_length_le (by simp; omega)]
  · show fillL s.trajs 0 _ = _
    rw [fillL_zero, hT, List.length_map, h1, List.take_of_length_le (by simp; omega)]
  · show fillL s.locks 0 _ = _
    rw [fillL_zero, hL, List.length_map, h1, List.take_of_length_le (by simp; omega), List.drop_replicate,
      show n - (n - 1) = 1 from by omega, List.map_const', h1]
    rfl

/-- the path list `restore im` hands to `load_paths` -/
def imgPaths (im : Image) (n : Nat) (weightOf : Nat → List Rat) : List (Nat × List Rat × List Rat) :=
  im.active.filterMap (fun o => o.map (fun pn => (pn, weightOf pn, (im.frac.lookup pn).getD (List.replicate n 0))))

/-- the freshly constructed state `restore im` hands to `load_paths` -/
def imgBlank (im : Image) (n workers tsteps : Nat) (occ : List (List Int)) (ensEng : List (List Nat)) : St :=
  { blank n workers tsteps im.cstep im.trajNum im.seed occ ensEng true im.locked with
    locked0Ord := im.lockedOrd.map some, spawned := im.spawnedRec.getD (im.cstep + im.locked.length) }

theorem restore_eq_loadPaths (im : Image) (n workers tsteps : Nat) (occ : List (List Int)) (ensEng : List (List Nat))
    (weightOf : Nat → List Rat) : restore im n workers tsteps occ ensEng weightOf
      = loadPaths (imgBlank im n workers tsteps occ ensEng) (imgPaths im n weightOf) := rfl

theorem restore_ok {im : Image} {s' : St} {n workers tsteps : Nat} {occ : List (List Int)}
    {ensEng : List (List Nat)} {weightOf : Nat → List Rat}
    (h : restore im n workers tsteps occ ensEng weightOf = .ok s') :
    s' = loadedSt (imgBlank im n workers tsteps occ ensEng) (imgPaths im n weightOf) :=
  (loadPaths_ok_iff.mp h).2.2

/-- a `REPEX_state` as `__init__` leaves it: `n` empty, locked slots and empty tables -/
structure Fresh (n : Nat) (s : St) : Prop where
  hn : s.n = n
  W : s.W = List.replicate n (List.replicate n 0)
  trajs : s.trajs = List.replicate n none
  locks : s.locks = List.replicate n true
  frac : s.frac = []
  wts : s.wts = []
  rows : s.rows = []

theorem fresh_blank (n workers tsteps cstep trajNum seed : Nat) (occ : List (List Int)) (ensEng : List (List Nat))
    (restarted : Bool) (l0 : List (List Nat × List Nat)) :
    Fresh n (blank n workers tsteps cstep trajNum seed occ ensEng restarted l0) :=
  ⟨rfl, rfl, rfl, rfl, rfl, rfl, rfl⟩

/-- a fresh start: `REPEX_state.__init__` followed by `load_paths` on `n − 1 ≥ 1` initial paths with pairwise
    distinct numbers below `traj_num` (any weights, workers, engine table; no restart jobs) -/
inductive FreshLoad (n : Nat) (paths : List (Nat × List Rat × List Rat)) (s : St) : Prop
  | mk (workers tsteps cstep trajNum seed : Nat) (occ : List (List Int)) (ensEng : List (List Nat))
      (restarted : Bool) (hn : 2 ≤ n) (hlen : paths.length = n - 1) (hnd : (paths.map (·.1)).Nodup)
      (hlt : ∀ p ∈ paths, p.1 < trajNum)
      (h : loadPaths (blank n workers tsteps cstep trajNum seed occ ensEng restarted []) paths = .ok s)

theorem fresh_imgBlank (im : Image) (n workers tsteps : Nat) (occ : List (List Int)) (ensEng : List (List Nat)) :
    Fresh n (imgBlank im n workers tsteps occ ensEng) :=
  ⟨rfl, rfl, rfl, rfl, rfl, rfl, rfl⟩

theorem Fresh.lenW {n : Nat} {s : St} (h : Fresh n s) : s.W.length = n := by
  rw [h.W, List.length_replicate]

theorem Fresh.loadedSt_eq {n : Nat} {s : St} (h : Fresh n s) {paths : List (Nat × List Rat × List Rat)}
    (hlen : paths.length + 1 = n) :
    loadedSt s paths =
      { s with W := paths.mapIdx (fun e p => padValid s ((e : Int) - 1) p.2.1) ++ [List.replicate n 0],
               trajs := paths.map (fun p => some p.1) ++ [none],
               locks := List.replicate (n - 1) false ++ [true],
               frac := (loadOrder paths).map (fun p => (p.1, p.2.2)),
               wts := (loadOrder paths).map (fun p => (p.1, p.2.1)) } := by
  obtain ⟨hW, hT, hL⟩ := loadedSt_square (paths := paths) h.lenW (by rw [h.trajs, List.length_replicate]) h.locks hlen
  have e1 : ∀ (α : Type) (a : α), (List.replicate n a).drop (n - 1) = [a] := fun α a => by
    rw [List.drop_replicate, show n - (n - 1) = 1 from by omega]
    rfl
  rw [h.W, e1] at hW
  rw [h.trajs, e1] at hT
  show ({ s with W := (loadedSt s paths).W, trajs := (loadedSt s paths).trajs, locks := (loadedSt s paths).locks,
                 frac := s.frac ++ _, wts := s.wts ++ _ } : St) = _
  rw [hW, hT, hL, h.frac, h.wts]
  rfl

/-- on a fresh state the asserts only concern the path -/
theorem Fresh.loadOK_iff {n : Nat} {s : St} (h : Fresh n s) (e : Nat) (w : List Rat) :
    LoadOK s e w ↔ e < n ∧ (padValid s ((e : Int) - 1) w).length = n ∧ (padValid s ((e : Int) - 1) w).getD e 0 ≠ 0 := by
  unfold LoadOK
  rw [h.locks, h.trajs, h.hn, List.length_replicate, List.getElem?_replicate]
  constructor
  · exact fun h => h.2
  · exact fun h => ⟨by simp [h.1], h⟩

theorem Fresh.loaded_slot {n : Nat} {s : St} (h : Fresh n s) {paths : List (Nat × List Rat × List Rat)} {e pn : Nat}
    (he : (loadedSt s paths).trajs[e]? = some (some pn)) :
    e < n ∧ ∃ p, paths[e]? = some p ∧ p.1 = pn ∧
      (loadedSt s paths).W[e]? = some (padValid s ((e : Int) - 1) p.2.1) := by
  rw [loadedSt_trajs, h.trajs, List.getElem?_replicate] at he
  by_cases hen : e < n
  · refine ⟨hen, ?_⟩
    rw [if_pos hen] at he
    cases hp : paths[e]? with
    | none =>
      rw [hp] at he
      exact absurd he (by simp)
    | some p =>
      rw [hp] at he
      refine ⟨p, rfl, by simpa using he, ?_⟩
      rw [loadedSt_W, hp, List.getElem?_eq_getElem (by rw [h.lenW]; exact hen)]
      rfl
  · rw [if_neg hen] at he
    exact absurd he (by simp)

theorem loadedSt_wts_lookup {s : St} {paths : List (Nat × List Rat × List Rat)} (hw : s.wts = [])
    (hnd : (paths.map (·.1)).Nodup) {p : Nat × List Rat × List Rat} (hp : p ∈ paths) :
    (loadedSt s paths).wts.lookup p.1 = some p.2.1 := by
  show (s.wts ++ _).lookup p.1 = _
  rw [hw, List.nil_append]
  refine Assoc.lookup_of_mem ?_ (List.mem_map_of_mem ((loadOrder_perm paths).mem_iff.mpr hp))
  rw [List.map_map]
  exact ((loadOrder_perm paths).map _).nodup_iff.mpr hnd

theorem loadedSt_keys (s : St) (paths : List (Nat × List Rat × List Rat)) :
    (loadedSt s paths).frac.map Prod.fst = s.frac.map Prod.fst ++ (loadOrder paths).map (·.1) ∧
    (loadedSt s paths).wts.map Prod.fst = s.wts.map Prod.fst ++ (loadOrder paths).map (·.1) := by
  simp [loadedSt, List.map_append, List.map_map, Function.comp_def]

/-- what `set_rgen()` makes of an image written from `s`: `write_toml` stores the counter exactly when it is
    not `cstep + #locked` -/
theorem persist_spawned (s : St) :
    (persist s).spawnedRec.getD ((persist s).cstep + (persist s).locked.length) = s.spawned := by
  show (spawnedKey s).getD (s.cstep + (s.locked.map _).length) = s.spawned
  unfold spawnedKey
  rw [List.length_map]
  split
  · rename_i hc
    simp [hc]
  · simp

/-- every real slot holds a path (part of C03's `CoreR`) -/
structure AllLive (s : St) : Prop where
  n2 : 2 ≤ s.n
  lenT : s.trajs.length = s.n
  live : ∀ e, e < s.n - 1 → ∃ pn, s.trajs[e]? = some (some pn)

/-- the live path numbers in slot order -/
def livePns (s : St) : List Nat := (List.range (s.n - 1)).map (fun e => ((s.trajs.getD e none).getD 0))

theorem length_livePns (s : St) : (livePns s).length = s.n - 1 := by
  simp [livePns]

theorem livePns_mem {s : St} {e q : Nat}
    (he : e < s.n - 1) (h : s.trajs[e]? = some (some q)) : q ∈ livePns s := by
  apply List.mem_iff_getElem?.mpr
  refine ⟨e, ?_⟩
  unfold livePns
  rw [List.getElem?_map, List.getElem?_range he]
  simp only [Option.map_some, Option.some.injEq]
  rw [List.getD_eq_getElem?_getD, h]
  rfl

theorem AllLive.livePns_get {s : St} (h : AllLive s) {e pn : Nat} :
    (livePns s)[e]? = some pn ↔ e < s.n - 1 ∧ s.trajs[e]? = some (some pn) := by
  unfold livePns
  rw [List.getElem?_map]
  by_cases he : e < s.n - 1
  · obtain ⟨q, hq⟩ := h.live e he
    rw [List.getElem?_range he, Option.map_some, List.getD_eq_getElem?_getD, hq]
    simp [he]
  · rw [List.getElem?_eq_none (by simp; omega)]
    simp [he]

theorem AllLive.livePaths_eq {s : St} (h : AllLive s) : livePaths s = (livePns s).map some := by
  apply List.ext_getElem?
  intro e
  rw [List.getElem?_map, livePaths, List.getElem?_dropLast, h.lenT]
  by_cases he : e < s.n - 1
  · obtain ⟨q, hq⟩ := h.live e he
    rw [if_pos he, hq, h.livePns_get.mpr ⟨he, hq⟩]
    rfl
  · rw [if_neg he, List.getElem?_eq_none (by rw [length_livePns]; omega)]
    rfl

theorem AllLive.filterMap_livePaths {s : St} (h : AllLive s) : (livePaths s).filterMap id = livePns s := by
  rw [h.livePaths_eq, List.filterMap_map]
  exact (congrFun (List.filterMap_eq_map (f := id)) _).trans (List.map_id _)

/-- what a restart rebuilds from the restart file of `s`: the live paths back in their slots, every real slot idle,
    row `e` the padded recomputed weights, the two tables in `load_paths` order, the record of `s` waiting in
    `locked0`/`locked0Ord`, counters and seed as stored (everything else as `imgBlank` has it) -/
def restoredSt (s : St) (workers tsteps : Nat) (occ : List (List Int)) (ensEng : List (List Nat))
    (wOf : Nat → List Rat) : St :=
  { imgBlank (persist s) s.n workers tsteps occ ensEng with
    W := (livePns s).mapIdx (fun e pn => padValid s ((e : Int) - 1) (wOf pn)) ++ [List.replicate s.n 0]
    trajs := livePaths s ++ [none]
    locks := List.replicate (s.n - 1) false ++ [true]
    frac := (loadOrder (livePns s)).map fun pn => (pn, (s.frac.lookup pn).getD (List.replicate s.n 0))
    wts := (loadOrder (livePns s)).map fun pn => (pn, wOf pn) }

theorem mapIdx_map {α β γ : Type} (l : List α) (f : α → β) (g : Nat → β → γ) :
    (l.map f).mapIdx g = l.mapIdx fun i a => g i (f a) :=
  List.ext_getElem? fun e => by simp [List.getElem?_mapIdx, List.getElem?_map, Function.comp_def]

theorem loadOrder_map {α β : Type} (f : α → β) (l : List α) : loadOrder (l.map f) = (loadOrder l).map f := by
  cases l <;> simp [loadOrder]

/-- **`restore ∘ persist`**: the restart file of a state whose real slots all hold paths loads iff the recomputed
    weights of every live path have full length and are non-zero in the path's own ensemble; the result is
    `restoredSt` -/
theorem restore_persist_ok_iff {s s' : St} (h : AllLive s) {workers tsteps : Nat} {occ : List (List Int)}
    {ensEng : List (List Nat)} {wOf : Nat → List Rat} :
    restore (persist s) s.n workers tsteps occ ensEng wOf = .ok s' ↔
      (∀ (e pn : Nat), (livePns s)[e]? = some pn → (padValid s ((e : Int) - 1) (wOf pn)).length = s.n ∧
        (padValid s ((e : Int) - 1) (wOf pn)).getD e 0 ≠ 0) ∧
      s' = restoredSt s workers tsteps occ ensEng wOf := by
  have hn2 := h.n2
  have hlen := length_livePns s
  have hb := fresh_imgBlank (persist s) s.n workers tsteps occ ensEng
  have hpaths : imgPaths (persist s) s.n wOf = (livePns s).map fun pn =>
      (pn, wOf pn, (s.frac.lookup pn).getD (List.replicate s.n 0)) := by
    show (livePaths s).filterMap _ = _
    rw [h.livePaths_eq, List.filterMap_map]
    exact congrFun (List.filterMap_eq_map (f := fun pn =>
      (pn, wOf pn, (s.frac.lookup pn).getD (List.replicate s.n 0)))) _
  have hst : loadedSt (imgBlank (persist s) s.n workers tsteps occ ensEng) (imgPaths (persist s) s.n wOf)
      = restoredSt s workers tsteps occ ensEng wOf := by
    rw [hb.loadedSt_eq (by rw [hpaths, List.length_map]; omega), hpaths, restoredSt, h.livePaths_eq]
    simp only [mapIdx_map, List.map_map, loadOrder_map, Function.comp_def]
    rfl
  rw [restore_eq_loadPaths, loadPaths_ok_iff, hst]
  constructor
  · rintro ⟨_, hok, rfl⟩
    refine ⟨fun e pn he => ?_, rfl⟩
    have := (hb.loadOK_iff e _).mp (hok e _ (by rw [hpaths, List.getElem?_map, he]; rfl))
    exact this.2
  · rintro ⟨hok, rfl⟩
    refine ⟨?_, fun e p he => ?_, rfl⟩
    · rw [hpaths]
      intro hnil
      have := congrArg List.length hnil
      rw [List.length_map, hlen] at this
      simp at this
      omega
    · rw [hpaths, List.getElem?_map] at he
      obtain ⟨pn, hp, rfl⟩ := Option.map_eq_some_iff.mp he
      have hlt := (h.livePns_get.mp hp).1
      exact (hb.loadOK_iff e _).mpr ⟨by omega, hok e pn hp⟩

section
variable {s : St} (h : AllLive s) (workers tsteps : Nat) (occ : List (List Int)) (ensEng : List (List Nat))
  (wOf : Nat → List Rat)
include h

theorem restoredSt_lenW : (restoredSt s workers tsteps occ ensEng wOf).W.length = s.n := by
  show (_ ++ [_]).length = _
  rw [List.length_append, List.length_mapIdx, length_livePns s]
  have := h.n2
  simp
  omega

theorem restoredSt_lenT : (restoredSt s workers tsteps occ ensEng wOf).trajs.length = s.n := by
  show (livePaths s ++ [none]).length = _
  rw [List.length_append, livePaths, List.length_dropLast, h.lenT]
  have := h.n2
  simp
  omega

theorem restoredSt_trajs {e : Nat} (he : e < s.n - 1) :
    (restoredSt s workers tsteps occ ensEng wOf).trajs[e]? = s.trajs[e]? := by
  show (livePaths s ++ [none])[e]? = _
  rw [List.getElem?_append_left (by rw [livePaths, List.length_dropLast, h.lenT]; exact he), livePaths,
    List.getElem?_dropLast, if_pos (by rw [h.lenT]; exact he)]

theorem restoredSt_W {e pn : Nat} (he : e < s.n - 1) (hp : s.trajs[e]? = some (some pn)) :
    (restoredSt s workers tsteps occ ensEng wOf).W[e]? = some (padValid s ((e : Int) - 1) (wOf pn)) := by
  show (List.mapIdx _ (livePns s) ++ [_])[e]? = _
  rw [List.getElem?_append_left (by rw [List.length_mapIdx, length_livePns s]; exact he), List.getElem?_mapIdx,
    h.livePns_get.mpr ⟨he, hp⟩]
  rfl

theorem restoredSt_ghostT :
    (restoredSt s workers tsteps occ ensEng wOf).trajs[s.n - 1]? = some none := by
  show (livePaths s ++ [none])[s.n - 1]? = _
  rw [List.getElem?_append_right (by rw [livePaths, List.length_dropLast, h.lenT]; exact Nat.le_refl _), livePaths,
    List.length_dropLast, h.lenT, Nat.sub_self]
  rfl

end

theorem restoredSt_ghostW (s : St) (workers tsteps : Nat) (occ : List (List Int)) (ensEng : List (List Nat))
    (wOf : Nat → List Rat) :
    (restoredSt s workers tsteps occ ensEng wOf).W[s.n - 1]? = some (List.replicate s.n 0) := by
  show (List.mapIdx _ (livePns s) ++ [_])[s.n - 1]? = _
  rw [List.getElem?_append_right (by rw [List.length_mapIdx, length_livePns]; exact Nat.le_refl _), List.length_mapIdx,
    length_livePns, Nat.sub_self]
  rfl

theorem restoredSt_keys (s : St) (workers tsteps : Nat) (occ : List (List Int)) (ensEng : List (List Nat))
    (wOf : Nat → List Rat) :
    (restoredSt s workers tsteps occ ensEng wOf).frac.map Prod.fst = loadOrder (livePns s) ∧
    (restoredSt s workers tsteps occ ensEng wOf).wts.map Prod.fst = loadOrder (livePns s) := by
  simp [restoredSt, List.map_map, Function.comp_def]

end Infretis.Repex
