import Infretis.Lemmas.FsCrash
/-!
C08: the consistency invariant between the in-memory state of the main process and the disk,
well-formedness of one step's outcome, and what every crash point of a step leaves behind.  The effects of a step
(`stepEffs`) are three segments: the loop over the accepted ensembles (`loopEffs`, crash points below `dataIdx`), the rows
appended to the data file (`dataEffs`, from `dataIdx` on) and the restart file (`restartEffs`, from `restartIdx` on).
-/
namespace Infretis.Fs

def pns (l : List PathInfo) : List Nat := l.map (·.pn)

/-- consistency of memory and disk between two steps (and right after a restart) -/
structure Inv (M : Manifest) (m : Mem) (d : Disk) : Prop where
  /-- restart.toml is a complete record of the in-memory state -/
  record : ∃ r, d.restart = .complete r ∧ r.cstep = m.cstep ∧ r.active = pns m.live
        ∧ r.trajNum = m.trajNum ∧ r.restartedFrom ≠ some r.cstep
  /-- every live path is completely stored, numbered below traj_num, and its traj.txt lists its files -/
  live_ok : ∀ p ∈ m.live, pathOK d.files p = true ∧ p.pn < m.trajNum
            ∧ M p.cid = some (p.files.map Prod.fst)
  live_nodup : (pns m.live).Nodup
  /-- the delete queue holds replaced paths only -/
  olds : ∀ o ∈ m.olds, o.pn < m.trajNum ∧ o.pn ∉ pns m.live
  /-- data file: whole rows, no path twice, no live path -/
  rows : rowsOK d.data (pns m.live) = true
  rows_lt : ∀ q ∈ d.data.rows, q < m.trajNum
  rf : ∀ R, m.restartedFrom = some R → R ≤ m.cstep

def newPath (m : Mem) (i : Nat) (a : Acc) : PathInfo :=
  { pn := m.trajNum + i, cid := a.cid, files := a.files }

/-- what the scheduler/worker guarantee about the outcome of a job -/
structure WF (cfg : Cfg) (M : Manifest) (m : Mem) (c : Choice) (d : Disk) : Prop where
  old_live : ∀ a ∈ c.accs, a.old ∈ m.live
  old_nodup : (c.accs.map (fun a => a.old.pn)).Nodup
  names_nodup : (c.accs.flatMap (fun a => a.files.map Prod.fst)).Nodup
  /-- the worker has written the trajectory files -/
  sources : ∀ a ∈ c.accs, ∀ nc ∈ a.files, d.files.get (.wfile nc.1) = .complete nc.2
  /-- a job covers at most n-1 ensembles (it is 1, or 2 for a zero swap, and n ≥ 3) -/
  few : c.accs.length ≤ cfg.n - 1
  /-- the new live set: survivors and the new paths -/
  new_live : ∀ p ∈ c.newLive, (p ∈ m.live ∧ ∀ a ∈ c.accs, a.old.pn ≠ p.pn)
              ∨ (∃ i a, c.accs[i]? = some a ∧ p = newPath m i a)
  new_nodup : (pns c.newLive).Nodup
  manifest : ∀ a ∈ c.accs, M a.cid = some (a.files.map Prod.fst)
  /-- the final write_toml of `loop()` stores nothing; the case right after a restart (`restartedFrom = cstep`) is
      EXCLUDED here.  It is reachable — the restart of a finished run — and leaves, by design (62f494c), a record
      from which the next restart stops: `Infretis.C08.finished_run_restart_refuses` -/
  final : c.inc = false → c.accs = [] ∧ m.restartedFrom ≠ some m.cstep

abbrev loopEffs (cfg : Cfg) (m : Mem) (c : Choice) (d : Disk) : List Effect :=
  accLoop cfg c.accs m.trajNum m.olds d

theorem stepEffs_length (cfg : Cfg) (m : Mem) (c : Choice) (d : Disk) :
    (stepEffs cfg m c d).length
      = restartIdx cfg m c d + (restartEffs cfg.variant (newRec m c)).length := by
  simp only [stepEffs, restartIdx, List.length_append]

theorem crashStep_loop (cfg : Cfg) (m : Mem) (c : Choice) (d : Disk) (k : Nat) (h : Bool)
    (hk : k < dataIdx cfg m c d) :
    crashStep cfg m c d k h = crashAt (loopEffs cfg m c d) d k h := by
  rw [crashStep, stepEffs, List.append_assoc, crashAt_append_left _ _ _ _ _ hk]

theorem crashStep_data (cfg : Cfg) (m : Mem) (c : Choice) (d : Disk) (j : Nat) (h : Bool)
    (hj : j < (dataEffs c).length) :
    crashStep cfg m c d (dataIdx cfg m c d + j) h
      = crashAt (dataEffs c) (run (loopEffs cfg m c d) d) j h := by
  rw [crashStep, stepEffs, dataIdx, List.append_assoc, crashAt_append_right _ _ _ _ _ (Nat.le_add_right ..),
    Nat.add_sub_cancel_left, crashAt_append_left _ _ _ _ _ hj]

theorem crashStep_restart (cfg : Cfg) (m : Mem) (c : Choice) (d : Disk) (j : Nat) (h : Bool) :
    crashStep cfg m c d (restartIdx cfg m c d + j) h
      = crashAt (restartEffs cfg.variant (newRec m c)) (run (dataEffs c) (run (loopEffs cfg m c d) d)) j h := by
  rw [crashStep, stepEffs, restartIdx, ← List.length_append,
    crashAt_append_right _ _ _ _ _ (Nat.le_add_right ..), Nat.add_sub_cancel_left, run_append]

theorem crashStep_done (cfg : Cfg) (m : Mem) (c : Choice) (d : Disk) (k : Nat) (h : Bool)
    (hk : (stepEffs cfg m c d).length ≤ k) : crashStep cfg m c d k h = run (stepEffs cfg m c d) d :=
  crashAt_all _ d k h hk

theorem crashStep_files (cfg : Cfg) (m : Mem) (c : Choice) (d : Disk) (k : Nat) (h : Bool)
    (hk : dataIdx cfg m c d ≤ k) :
    (crashStep cfg m c d k h).files = (run (loopEffs cfg m c d) d).files := by
  obtain ⟨j, rfl⟩ := Nat.exists_eq_add_of_le hk
  by_cases hj : j < (dataEffs c).length
  · rw [crashStep_data cfg m c d j h hj]
    exact (crashAt_dataEffs ..).1
  · obtain ⟨i, rfl⟩ := Nat.exists_eq_add_of_le (Nat.le_of_not_lt hj)
    rw [← Nat.add_assoc]
    exact (crashStep_restart cfg m c d i h).symm ▸ ((crashAt_restartEffs ..).1.trans (by rw [run_dataEffs]))

theorem inTruncWindow_iff (cfg : Cfg) (m : Mem) (c : Choice) (d : Disk) (k : Nat) :
    inTruncWindow cfg m c d k = true
      ↔ cfg.variant = .asIs ∧ k = restartIdx cfg m c d + 1
        ∨ cfg.variant = .renamedOpen ∧ k = restartIdx cfg m c d + 2 := by
  unfold inTruncWindow
  cases cfg.variant <;> simp

theorem not_inRowWindow (cfg : Cfg) (m : Mem) (c : Choice) (d : Disk) (k : Nat) (h : Bool)
    (hw : inRowWindow cfg m c d k h = false) (he : c.accs.isEmpty = false) :
    ¬ (k = dataIdx cfg m c d + 1 ∧ h = true ∧ (c.halfTorn = true ∨ c.halfRows ≠ 0))
    ∧ ¬ (dataIdx cfg m c d + 2 ≤ k ∧ k < (stepEffs cfg m c d).length) := by
  simpa [inRowWindow, he] using hw

theorem loop_owned {cfg : Cfg} {M : Manifest} {m : Mem} {c : Choice} {d : Disk} (hW : WF cfg M m c d) :
    Owned (fun q => m.trajNum ≤ q ∨ q ∈ m.olds.map (·.pn)) (fun _ => True) (loopEffs cfg m c d) := by
  have h := (accLoop_spec cfg c.accs m.trajNum m.olds [] d (by simpa using hW.few)).1
  rw [List.append_nil] at h
  exact h.mono (fun q hq => hq.elim (fun h => Or.inl h.1) Or.inr) (fun _ _ => trivial)

theorem live_not_owned {M : Manifest} {m : Mem} {d : Disk} (hI : Inv M m d) (p : PathInfo) (hp : p ∈ m.live) :
    ¬ (m.trajNum ≤ p.pn ∨ p.pn ∈ m.olds.map (·.pn)) := by
  rintro (h | h)
  · have := (hI.live_ok p hp).2.1; omega
  · obtain ⟨o, ho, he⟩ := List.mem_map.1 h
    exact (hI.olds o ho).2 (he ▸ List.mem_map_of_mem hp)

theorem old_live_safe {cfg : Cfg} {M : Manifest} {m : Mem} {c : Choice} {d : Disk}
    (hI : Inv M m d) (hW : WF cfg M m c d) (k : Nat) (h : Bool) :
    ∀ p ∈ m.live, pathOK (crashStep cfg m c d k h).files p = true := by
  intro p hp
  have hown := loop_owned hW
  have hnot := live_not_owned hI p hp
  by_cases hk : k < dataIdx cfg m c d
  · rw [crashStep_loop cfg m c d k h hk, pathOK_frame (crashAt_frame hown d k h).1 hnot]
    exact (hI.live_ok p hp).1
  · rw [crashStep_files cfg m c d k h (Nat.le_of_not_lt hk), pathOK_frame (run_frame hown d).1 hnot]
    exact (hI.live_ok p hp).1

theorem new_live_stored {cfg : Cfg} {M : Manifest} {m : Mem} {c : Choice} {d : Disk}
    (hI : Inv M m d) (hW : WF cfg M m c d) :
    ∀ p ∈ c.newLive, pathOK (run (loopEffs cfg m c d) d).files p = true := by
  intro p hp
  have hown := loop_owned hW
  rcases hW.new_live p hp with ⟨hl, _⟩ | ⟨i, a, hia, rfl⟩
  · rw [pathOK_frame (run_frame hown d).1 (live_not_owned hI p hl)]
    exact (hI.live_ok p hl).1
  · have h := (accLoop_spec cfg c.accs m.trajNum m.olds [] d (by simpa using hW.few)).2
      (fun o ho => (hI.olds o ho).1) hW.names_nodup hW.sources i a hia
    rw [List.append_nil] at h
    exact h

theorem run_step_restart (cfg : Cfg) (m : Mem) (c : Choice) (d : Disk) :
    (run (stepEffs cfg m c d) d).restart = .complete (newRec m c) := by
  have hR := (crashAt_restartEffs cfg.variant (newRec m c) (run (dataEffs c) (run (loopEffs cfg m c d) d))
    (restartEffs cfg.variant (newRec m c)).length false).2.2.1 (Nat.le_refl _)
  rwa [← crashStep_restart, ← stepEffs_length, crashStep_done cfg m c d _ false (Nat.le_refl _)] at hR

theorem run_step {cfg : Cfg} {M : Manifest} {m : Mem} {c : Choice} {d : Disk} (hW : WF cfg M m c d) :
    (run (stepEffs cfg m c d) d).files = (run (loopEffs cfg m c d) d).files
    ∧ (run (stepEffs cfg m c d) d).data = appendRows d.data (c.accs.map (fun a => a.old.pn)) := by
  rw [← crashStep_done cfg m c d _ false (Nat.le_refl _), stepEffs_length]
  refine ⟨crashStep_files cfg m c d _ false (Nat.le_trans (Nat.le_add_right ..) (Nat.le_add_right ..)), ?_⟩
  rw [crashStep_restart, (crashAt_restartEffs ..).2.1, run_dataEffs,
    (run_frame (loop_owned hW) d).2.1]

theorem crash_in_window (cfg : Cfg) (m : Mem) (c : Choice) (d : Disk) (k : Nat) (h : Bool)
    (hwin : inTruncWindow cfg m c d k = true) :
    (crashStep cfg m c d k h).restart = .empty ∨ (crashStep cfg m c d k h).restart = .part := by
  rw [inTruncWindow_iff] at hwin
  rcases hwin with ⟨hv, rfl⟩ | ⟨hv, rfl⟩
  · rw [crashStep_restart]
    exact (crashAt_restartEffs ..).2.2.2.1 (Or.inl ⟨hv, rfl⟩)
  · rw [crashStep_restart]
    exact (crashAt_restartEffs ..).2.2.2.1 (Or.inr ⟨hv, rfl⟩)

/-- a crash before the last effect has completed, outside the truncation window: the old record is
    still there; the data file has gained at most some rows of replaced paths and, outside the row
    window, none -/
theorem crash_incomplete {cfg : Cfg} {M : Manifest} {m : Mem} {c : Choice} {d : Disk}
    (hI : Inv M m d) (hW : WF cfg M m c d) (k : Nat) (h : Bool)
    (hlt : k < (stepEffs cfg m c d).length) (htw : inTruncWindow cfg m c d k = false) :
    (crashStep cfg m c d k h).restart = d.restart
    ∧ (inRowWindow cfg m c d k h = false → (crashStep cfg m c d k h).data = d.data)
    ∧ ∃ n, (crashStep cfg m c d k h).data.rows = d.data.rows ++ (c.accs.map (fun a => a.old.pn)).take n
          ∧ (crashStep cfg m c d k h).data.garbled = d.data.garbled := by
  have hown := loop_owned hW
  obtain ⟨_, f2, f3, _⟩ := run_frame hown d
  have htorn : d.data.torn = false := ((rowsOK_iff _ _).1 hI.rows).1
  have hD : c.accs.isEmpty = false → (dataEffs c).length = 2 := fun he => by
    rw [dataEffs_length, he]; rfl
  by_cases hk : k < dataIdx cfg m c d
  · rw [crashStep_loop cfg m c d k h hk]
    obtain ⟨_, g2, g3, _⟩ := crashAt_frame hown d k h
    exact ⟨g3, fun _ => g2, 0, by rw [g2]; simp, by rw [g2]⟩
  obtain ⟨j, rfl⟩ := Nat.exists_eq_add_of_le (Nat.le_of_not_lt hk)
  by_cases hj : j < (dataEffs c).length
  · -- inside the append: `accs` is not empty, and `j` is 0 or 1
    obtain ⟨_, t2, t3, t4⟩ := crashAt_dataEffs c (run (loopEffs cfg m c d) d) j h
    rw [← crashStep_data cfg m c d j h hj, f2] at t3 t4
    rw [← crashStep_data cfg m c d j h hj, f3] at t2
    cases he : c.accs.isEmpty
    · rw [hD he] at hj
      exact ⟨t2, fun hwin => t4 (by omega)
        (fun ⟨a, b⟩ => (not_inRowWindow cfg m c d _ h hwin he).1 ⟨by rw [a], b⟩), t3 htorn⟩
    · rw [dataEffs_length, he] at hj; cases hj
  · -- the rows are written; outside the truncation window the old record is still in place
    obtain ⟨i, rfl⟩ := Nat.exists_eq_add_of_le (Nat.le_of_not_lt hj)
    have hri : dataIdx cfg m c d + (dataEffs c).length = restartIdx cfg m c d := rfl
    rw [← Nat.add_assoc, hri] at hlt htw ⊢
    rw [stepEffs_length] at hlt
    rw [← Bool.not_eq_true, inTruncWindow_iff] at htw
    obtain ⟨_, r2, _, _, r3⟩ := crashAt_restartEffs cfg.variant (newRec m c)
      (run (dataEffs c) (run (loopEffs cfg m c d) d)) i h
    replace r3 := r3 (by omega)
      (fun hw => htw (hw.imp (fun ⟨a, b⟩ => ⟨a, by rw [b]⟩) (fun ⟨a, b⟩ => ⟨a, by rw [b]⟩)))
    rw [← crashStep_restart, run_dataEffs, f2] at r2
    rw [← crashStep_restart, run_dataEffs, f3] at r3
    refine ⟨r3, fun hwin => ?_, (c.accs.map (fun a => a.old.pn)).length, ?_, ?_⟩
    · -- outside the row window only a step without accepted paths gets this far
      cases he : c.accs.isEmpty
      · exact absurd ⟨by rw [← hri, hD he]; omega, by rw [stepEffs_length]; exact hlt⟩
          (not_inRowWindow cfg m c d _ h hwin he).2
      · rw [r2, List.isEmpty_iff.1 he, List.map_nil, appendRows_nil]
    · rw [r2, appendRows_of_not_torn _ _ htorn, List.take_length]
    · rw [r2, appendRows_of_not_torn _ _ htorn]

end Infretis.Fs
