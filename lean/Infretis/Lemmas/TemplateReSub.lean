import Infretis.Lemmas.Template
import Infretis.Lemmas.TemplateSubst
/-!
The whole-word replacement `reSubWord` of `write_for_run` as it is after 48a6c1e
(`re.sub(r"(?<!\S)" + re.escape(var) + r"(?!\S)", value, line)`, `Model/Template.lean`).  It acts chunk by chunk on a
line `w0 ++ t₁ ++ w₁ ++ … ++ tₙ ++ wₙ` whose separators `wᵢ` are white space, whatever the chunks `tᵢ` contain, so the
successive replacements of one call stay inside the piece of text that one word of the template has become; on a single
word it is "the word if it is not the variable, else the value".  Hence the per-line function of the code, `substOfW`,
is word by word the chain of replacements, and equals the word-level specification `wordsLine` as soon as no value
substituted earlier on the line has a later variable of the line among its words.
In `reSubGo k v skip rest b` (the model's scan), `skip` counts the characters of a match still to be dropped and `b` says
that the previous character is absent or white space, so that a match may start here.
-/
namespace Infretis.Template

theorem boundaryAt_of_restOK {rest : Str} (h : RestOK rest) : boundaryAt rest = true := by
  rcases h with rfl | ⟨c, r, rfl, hc⟩
  · rfl
  · exact hc

theorem restOK_of_boundaryAt {rest : Str} (h : boundaryAt rest = true) : RestOK rest := by
  cases rest with
  | nil => exact Or.inl rfl
  | cons c r => exact Or.inr ⟨c, r, rfl, h⟩

theorem reSubGo_nil (k v : Str) (b : Bool) (n : Nat) : reSubGo k v n [] b = [] := by
  cases n <;> simp [reSubGo]

theorem reSubGo_ws_head {k : Str} (v : Str) (hk : k ≠ []) (hkw : NoWS k) (b : Bool) (c : Char) (r : Str)
    (hc : isSpace c = true) : reSubGo k v 0 (c :: r) b = c :: reSubGo k v 0 r true := by
  have hp : k.isPrefixOf (c :: r) = false :=
    no_match_ws (w := [c]) hk hkw (fun x hx => by rw [List.mem_singleton.1 hx]; exact hc) 0 Nat.zero_lt_one
  simp [reSubGo, hp, hc]

theorem reSubGo_ws {k : Str} (v : Str) (hk : k ≠ []) (hkw : NoWS k) : ∀ (w : Str), AllWS w → ∀ rest,
    reSubGo k v 0 (w ++ rest) true = w ++ reSubGo k v 0 rest true := by
  intro w
  induction w with
  | nil => intro _ rest; rfl
  | cons c w ih =>
    intro h rest
    rw [List.cons_append, reSubGo_ws_head v hk hkw true c _ (h c (by simp)),
        ih (fun x hx => h x (List.mem_cons_of_mem _ hx)) rest]
    rfl

theorem reSubGo_restOK {k : Str} (v : Str) (hk : k ≠ []) (hkw : NoWS k) {rest : Str} (h : RestOK rest) (b : Bool) :
    reSubGo k v 0 rest b = reSubGo k v 0 rest true := by
  rcases h with rfl | ⟨c, r, rfl, hc⟩
  · simp [reSubGo_nil]
  · rw [reSubGo_ws_head v hk hkw b c r hc, reSubGo_ws_head v hk hkw true c r hc]

/-- dropping the rest of a matched variable -/
theorem reSubGo_skip (k v : Str) : ∀ (y z : Str), NoWS y →
    reSubGo k v y.length (y ++ z) false = reSubGo k v 0 z false := by
  intro y
  induction y with
  | nil => intro z _; rfl
  | cons c y ih =>
    intro z h
    have hc := h c (by simp)
    simp only [List.length_cons, List.cons_append, reSubGo, hc]
    exact ih z (fun x hx => h x (List.mem_cons_of_mem _ hx))

/-- characters inside a word (previous character not white space) are copied -/
theorem reSubGo_inside (k v : Str) : ∀ (x z : Str), NoWS x →
    reSubGo k v 0 (x ++ z) false = x ++ reSubGo k v 0 z false := by
  intro x
  induction x with
  | nil => intro z _; rfl
  | cons c x ih =>
    intro z h
    have hc := h c (by simp)
    simp only [List.cons_append, reSubGo, Bool.false_and, Bool.false_eq_true, if_false, hc]
    rw [ih z (fun y hy => h y (List.mem_cons_of_mem _ hy))]

/-- the test "the variable is here and ends at a boundary" looks only at the chunk when the chunk is followed
    by nothing or by white space -/
theorem matchAt_append {k : Str} (hkw : NoWS k) (x : Str) {rest : Str} (hr : RestOK rest) :
    (k.isPrefixOf (x ++ rest) && boundaryAt ((x ++ rest).drop k.length))
      = (k.isPrefixOf x && boundaryAt (x.drop k.length)) := by
  by_cases hp : k <+: x
  · obtain ⟨x', rfl⟩ := hp
    have h1 : k.isPrefixOf (k ++ x' ++ rest) = true := by
      rw [List.isPrefixOf_iff_prefix]; exact ⟨x' ++ rest, by simp⟩
    have h2 : k.isPrefixOf (k ++ x') = true := by
      rw [List.isPrefixOf_iff_prefix]; exact ⟨x', rfl⟩
    have d1 : (k ++ x' ++ rest).drop k.length = x' ++ rest := by
      rw [List.append_assoc]; exact List.drop_left
    have d2 : (k ++ x').drop k.length = x' := List.drop_left
    rw [h1, h2, d1, d2]
    cases x' with
    | nil =>
      have := boundaryAt_of_restOK hr
      simp only [List.nil_append, this]; rfl
    | cons c x'' => rfl
  · have h2 : k.isPrefixOf x = false := by
      cases h : k.isPrefixOf x with
      | false => rfl
      | true => exact absurd (List.isPrefixOf_iff_prefix.1 h) hp
    have h1 : k.isPrefixOf (x ++ rest) = false := by
      cases h : k.isPrefixOf (x ++ rest) with
      | false => rfl
      | true => exact absurd (prefix_of_restOK hkw hr (List.isPrefixOf_iff_prefix.1 h)) hp
    rw [h1, h2]; rfl

/-- **the replacement is local to a chunk** that is followed by nothing or by white space -/
theorem reSubGo_split {k : Str} (v : Str) (hk : k ≠ []) (hkw : NoWS k) {rest : Str} (hr : RestOK rest) :
    ∀ (n : Nat) (x : Str), x.length ≤ n → ∀ b,
      reSubGo k v 0 (x ++ rest) b = reSubGo k v 0 x b ++ reSubGo k v 0 rest true := by
  intro n
  induction n with
  | zero =>
    intro x hx b
    have : x = [] := List.eq_nil_of_length_eq_zero (by omega)
    subst this
    simp [reSubGo_nil, reSubGo_restOK v hk hkw hr b]
  | succ n ih =>
    intro x hx b
    cases x with
    | nil => simp [reSubGo_nil, reSubGo_restOK v hk hkw hr b]
    | cons c t =>
      have hm := matchAt_append hkw (c :: t) hr
      simp only [List.cons_append] at hm
      by_cases hcond : (b && k.isPrefixOf (c :: t) && boundaryAt ((c :: t).drop k.length)) = true
      · have hcond' : (b && k.isPrefixOf (c :: (t ++ rest)) && boundaryAt ((c :: (t ++ rest)).drop k.length)) = true := by
          rw [Bool.and_assoc, hm, ← Bool.and_assoc]; exact hcond
        simp only [List.cons_append, reSubGo, hcond, hcond', if_true]
        -- the chunk starts with the variable
        have hpre : k <+: c :: t := by
          have : k.isPrefixOf (c :: t) = true := by
            simp only [Bool.and_eq_true] at hcond; exact hcond.1.2
          exact List.isPrefixOf_iff_prefix.1 this
        obtain ⟨x', hx'⟩ := hpre
        cases k with
        | nil => exact absurd rfl hk
        | cons d k' =>
          simp only [List.cons_append, List.cons.injEq] at hx'
          obtain ⟨hd, ht⟩ := hx'
          subst hd
          have hk'w : NoWS k' := fun y hy => hkw y (List.mem_cons_of_mem _ hy)
          have hd0 : isSpace d = false := hkw d (by simp)
          simp only [List.length_cons, Nat.add_sub_cancel, hd0]
          rw [← ht, List.append_assoc, reSubGo_skip _ v k' (x' ++ rest) hk'w, reSubGo_skip _ v k' x' hk'w]
          have hlen : x'.length ≤ n := by
            have := congrArg List.length ht
            simp only [List.length_append] at this
            simp only [List.length_cons] at hx
            omega
          rw [ih x' hlen false, List.append_assoc]
      · have hcond' : ¬ (b && k.isPrefixOf (c :: (t ++ rest)) && boundaryAt ((c :: (t ++ rest)).drop k.length)) = true := by
          rw [Bool.and_assoc, hm, ← Bool.and_assoc]; exact hcond
        have hlen : t.length ≤ n := by simp only [List.length_cons] at hx; omega
        simp only [List.cons_append, reSubGo, hcond, hcond']
        rw [ih t hlen (isSpace c)]
        simp

theorem reSubGo_body {k : Str} (v : Str) (hk : k ≠ []) (hkw : NoWS k) : ∀ (items : List (Str × Str)), SepOK items →
    reSubGo k v 0 (body items) true = body (items.map (fun tw => (reSubWord k v tw.1, tw.2))) := by
  intro items
  induction items with
  | nil => intro _; rfl
  | cons tw r ih =>
    intro hs
    obtain ⟨t, w⟩ := tw
    obtain ⟨hw, hne, hs'⟩ := hs
    simp only [body, List.map_cons]
    rw [reSubGo_split v hk hkw (restOK_sep hw hne) t.length t (Nat.le_refl _) true,
        reSubGo_ws v hk hkw w hw, ih hs']
    rfl

theorem reSubWord_line {k : Str} (v : Str) (hk : k ≠ []) (hkw : NoWS k) (w0 : Str) (hw0 : AllWS w0)
    (items : List (Str × Str)) (hs : SepOK items) :
    reSubWord k v (w0 ++ body items) = w0 ++ body (items.map (fun tw => (reSubWord k v tw.1, tw.2))) := by
  unfold reSubWord
  rw [reSubGo_ws v hk hkw w0 hw0, reSubGo_body v hk hkw items hs]
  rfl

theorem reSubWord_token {k : Str} (v : Str) (hk : k ≠ []) (hkw : NoWS k) {t : Str} (ht : NoWS t) (hne : t ≠ []) :
    reSubWord k v t = if t = k then v else t := by
  by_cases e : t = k
  · subst e
    simp only [if_true]
    cases t with
    | nil => exact absurd rfl hne
    | cons d k' =>
      have hd0 : isSpace d = false := ht d (by simp)
      have hp : (d :: k').isPrefixOf (d :: k') = true := by
        rw [List.isPrefixOf_iff_prefix]; exact List.prefix_refl _
      simp only [reSubWord, reSubGo, hp, boundaryAt, Bool.and_self, List.length_cons,
        Nat.add_sub_cancel, hd0]
      have := reSubGo_skip (d :: k') v k' [] (fun y hy => ht y (List.mem_cons_of_mem _ hy))
      simp only [List.append_nil] at this
      rw [this, reSubGo_nil]; simp
  · simp only [e, if_false]
    cases t with
    | nil => exact absurd rfl hne
    | cons c t' =>
      have hc0 : isSpace c = false := ht c (by simp)
      have hcond : (k.isPrefixOf (c :: t') && boundaryAt ((c :: t').drop k.length)) = false := by
        cases hp : k.isPrefixOf (c :: t') with
        | false => rfl
        | true =>
          obtain ⟨x', hx'⟩ := List.isPrefixOf_iff_prefix.1 hp
          have d2 : (c :: t').drop k.length = x' := by rw [← hx']; exact List.drop_left
          rw [d2]
          cases x' with
          | nil => exact absurd (by simpa using hx'.symm) e
          | cons y x'' =>
            have : isSpace y = false := ht y (by rw [← hx']; simp)
            simp [boundaryAt, this]
      have hcond' : (true && k.isPrefixOf (c :: t') && boundaryAt ((c :: t').drop k.length)) = false := by
        rw [Bool.true_and]; exact hcond
      simp only [reSubWord, reSubGo, hcond', Bool.false_eq_true, if_false, hc0]
      have := reSubGo_inside k v t' [] (fun y hy => ht y (List.mem_cons_of_mem _ hy))
      simp only [List.append_nil, reSubGo_nil] at this
      rw [this]

/-- variables are words: non-empty and free of white space -/
def KeysOK (s' : Settings) : Prop := ∀ kv ∈ s', kv.1 ≠ [] ∧ NoWS kv.1

theorem KeysOK.tail {kv : Str × Str} {r : Settings} (h : KeysOK (kv :: r)) : KeysOK r :=
  fun x hx => h x (List.mem_cons_of_mem _ hx)

theorem substLineW_eq_chain (spl : List Str) : ∀ (s : Settings) (l : Str),
    substLineW spl s l = chain (s.filter (fun kv => decide (kv.1 ∈ spl))) l := by
  intro s
  induction s with
  | nil => intro l; rfl
  | cons kv r ih =>
    intro l
    obtain ⟨k, v⟩ := kv
    by_cases h : k ∈ spl
    · simp only [substLineW, h, if_true, List.filter, decide_true, chain]
      exact ih _
    · simp only [substLineW, h, if_false, List.filter, decide_false]
      exact ih _

theorem substOfW_eq_chain (s : Settings) (l : Str) : substOfW s l = chain (onLine s l) l :=
  substLineW_eq_chain (splitWS l) s l

theorem chain_line (w0 : Str) (hw0 : AllWS w0) : ∀ (s' : Settings), KeysOK s' → ∀ (items : List (Str × Str)),
    SepOK items → chain s' (w0 ++ body items) = w0 ++ body (items.map (fun tw => (chain s' tw.1, tw.2))) := by
  intro s'
  induction s' with
  | nil => intro _ items _; simp [chain]
  | cons kv r ih =>
    intro hs items hsep
    obtain ⟨k, v⟩ := kv
    obtain ⟨hk, hkw⟩ := hs (k, v) (by simp)
    simp only [chain]
    rw [reSubWord_line v hk hkw w0 hw0 items hsep, ih hs.tail _ (sepOK_map_fst _ items hsep), List.map_map]
    rfl

theorem reSubWord_noword {k : Str} (v : Str) (hk : k ≠ []) (hkw : NoWS k) (x : Str) (h : k ∉ splitWS x) :
    reSubWord k v x = x := by
  obtain ⟨h1, h2, h3, h4⟩ := decomp_spec x
  have hspl : splitWS x = (decomp x).2.map (·.1) := splitWS_decomp x
  conv => lhs; rw [h1]
  rw [reSubWord_line v hk hkw _ h2 _ h3]
  conv => rhs; rw [h1]
  congr 2
  conv => rhs; rw [← List.map_id (decomp x).2]
  apply List.map_congr_left
  intro tw htw
  have hne : tw.1 ≠ k := by
    intro e
    apply h
    rw [hspl, ← e]
    exact List.mem_map.2 ⟨tw, htw, rfl⟩
  rw [reSubWord_token v hk hkw (h4 tw htw).1 (h4 tw htw).2]
  simp [hne]

theorem chain_noword : ∀ (r : Settings) (x : Str), KeysOK r → (∀ kv ∈ r, kv.1 ∉ splitWS x) → chain r x = x := by
  intro r
  induction r with
  | nil => intro _ _ _; rfl
  | cons kv r ih =>
    intro x hs h
    obtain ⟨k, v⟩ := kv
    obtain ⟨hk, hkw⟩ := hs (k, v) (by simp)
    simp only [chain]
    rw [reSubWord_noword v hk hkw x (h (k, v) (by simp))]
    exact ih x hs.tail (fun kv hkv => h kv (List.mem_cons_of_mem _ hkv))

/-- **the chain on one word = one dict lookup**, when no value has a LATER variable among its words -/
theorem chain_token : ∀ (s' : Settings), KeysOK s' → s'.Pairwise (fun a b => b.1 ∉ splitWS a.2) →
    ∀ (t : Str), NoWS t → t ≠ [] → chain s' t = wordOf s' t := by
  intro s'
  induction s' with
  | nil => intro _ _ t _ _; rfl
  | cons kv r ih =>
    intro hs hp t ht hne
    obtain ⟨k, v⟩ := kv
    obtain ⟨hk, hkw⟩ := hs (k, v) (by simp)
    rw [List.pairwise_cons] at hp
    simp only [chain]
    rw [reSubWord_token v hk hkw ht hne]
    by_cases e : t = k
    · subst e
      simp only [if_true, wordOf, lookup]
      exact chain_noword r v hs.tail (fun kv hkv => hp.1 kv hkv)
    · have e' : k ≠ t := fun h => e h.symm
      simp only [e, if_false, wordOf, lookup, e']
      exact ih hs.tail hp.2 t ht hne

theorem onLine_keysOK (s : Settings) (l : Str) : KeysOK (onLine s l) := by
  obtain ⟨_, _, _, h4⟩ := decomp_spec l
  intro kv h
  have hm : kv.1 ∈ splitWS l := by simpa using (List.mem_filter.1 h).2
  rw [splitWS_decomp l] at hm
  obtain ⟨tw, htw, e⟩ := List.mem_map.1 hm
  rw [← e]
  exact ⟨(h4 tw htw).2, (h4 tw htw).1⟩

theorem substOfW_tokenwise (s : Settings) (l : Str) :
    substOfW s l = (decomp l).1 ++ body ((decomp l).2.map (fun tw => (chain (onLine s l) tw.1, tw.2))) := by
  obtain ⟨h1, h2, h3, _⟩ := decomp_spec l
  rw [substOfW_eq_chain]
  have := chain_line _ h2 _ (onLine_keysOK s l) _ h3
  rw [← h1] at this
  exact this

/-- **one line against the word-level specification.**  Guard: of two variables that are both words of the
    line, the later one (dict order) is no word of the earlier one's value. -/
theorem substOfW_eq_wordsLine (s : Settings) (l : Str)
    (G : (onLine s l).Pairwise (fun a b => b.1 ∉ splitWS a.2)) : substOfW s l = wordsLine s l := by
  obtain ⟨_, _, _, h4⟩ := decomp_spec l
  rw [substOfW_tokenwise]
  unfold wordsLine
  congr 2
  apply List.map_congr_left
  intro tw htw
  have hmem : tw.1 ∈ splitWS l := by rw [splitWS_decomp l]; exact List.mem_map.2 ⟨tw, htw, rfl⟩
  rw [chain_token _ (onLine_keysOK s l) G tw.1 (h4 tw htw).1 (h4 tw htw).2]
  simp only [wordOf, onLine]
  rw [lookup_filter (splitWS l) tw.1 hmem s]

/-- **no variable remains on an edited line**, provided no value that is substituted on the line has a
    variable of `s` among its words (variables inside longer words of the value or of the template are harmless) -/
theorem substOfW_no_var (s : Settings) (l : Str)
    (G1 : ∀ kv ∈ onLine s l, ∀ k ∈ keys s, k ∉ splitWS kv.2) :
    ∀ k ∈ keys s, k ∉ splitWS (substOfW s l) := by
  intro k hk hmem
  obtain ⟨h1, h2, h3, h4⟩ := decomp_spec l
  have hG : (onLine s l).Pairwise (fun a b => b.1 ∉ splitWS a.2) :=
    List.pairwise_of_forall_mem_list (fun a ha b hb => G1 a ha b.1 (List.mem_map.2 ⟨b, (List.mem_filter.1 hb).1, rfl⟩))
  rw [substOfW_eq_wordsLine s l hG] at hmem
  unfold wordsLine at hmem
  rw [splitWS_line _ h2 _ (sepOK_map_fst (wordOf s) _ h3)] at hmem
  simp only [List.map_map, List.mem_flatten, List.mem_map, Function.comp] at hmem
  obtain ⟨toks, ⟨tw, htw, rfl⟩, hk'⟩ := hmem
  have hmem' : tw.1 ∈ splitWS l := by rw [splitWS_decomp l]; exact List.mem_map.2 ⟨tw, htw, rfl⟩
  simp only [wordOf] at hk'
  cases hl : lookup s tw.1 with
  | none =>
    rw [hl] at hk'
    simp only at hk'
    rw [splitWS_token (h4 tw htw).1 (h4 tw htw).2, List.mem_singleton] at hk'
    rw [lookup_none_iff] at hl
    exact hl (hk' ▸ hk)
  | some v =>
    rw [hl] at hk'
    simp only at hk'
    have hin : (tw.1, v) ∈ onLine s l := by
      refine List.mem_filter.2 ⟨lookup_some_mem hl, by simpa using hmem'⟩
    exact G1 (tw.1, v) hin k hk hk'

/-! ### RECORD: the substring version under its guards is the word version

On a line where a variable occurs only as a whole word (`Good`) and in no value (`KeyFree`), `str.replace` and the
whole-word `re.sub` do the same at every step, so what is proved about `substOfW` holds of `substOf`. -/

theorem replaceAll_eq_reSubWord {k : Str} (v w0 : Str) (hk : k ≠ []) (hkw : NoWS k) (hw0 : AllWS w0)
    (items : List (Str × Str)) (hs : SepOK items) (hg : ∀ tw ∈ items, tw.1 = k ∨ ¬ k <:+: tw.1) :
    reSubWord k v (w0 ++ body items) = replaceAll k v (w0 ++ body items) := by
  rw [replaceGo_line k v w0 hk hkw hw0 items hs hg, reSubWord_line v hk hkw w0 hw0 items hs]
  congr 2
  apply List.map_congr_left
  intro tw htw
  rcases hg tw htw with e | hn
  · rw [e, reSubWord_token v hk hkw hkw hk]; simp [subst1, e]
  · have hne : tw.1 ≠ k := fun e => hn (e ▸ List.infix_refl _)
    rw [reSubWord_noword v hk hkw _ (fun hm => hn (splitWS_mem_infix hm))]
    simp [subst1, hne]

/-- all replacements of a line: the pieces stay `Good` because the values are `KeyFree` -/
theorem substLine_eq_chain (K spl : List Str) (hspl : ∀ tok ∈ spl, NoWS tok ∧ tok ≠ [])
    (w0 : Str) (hw0 : AllWS w0) : ∀ (s' : Settings) (items : List (Str × Str)),
    (∀ kv ∈ s', kv.1 ∈ spl ∧ kv.1 ∈ K ∧ KeyFree K kv.2) → SepOK items → (∀ tw ∈ items, Good K tw.1) →
    substLine spl s' (w0 ++ body items) = chain s' (w0 ++ body items) := by
  intro s'
  induction s' with
  | nil => intro _ _ _ _; rfl
  | cons kv r ih =>
    intro items hs hsep hgood
    obtain ⟨k, v⟩ := kv
    obtain ⟨hin, hkK, hfree⟩ := hs (k, v) (by simp)
    have hcond : ∀ tw ∈ items, tw.1 = k ∨ ¬ k <:+: tw.1 := fun tw htw =>
      (Classical.em (k <:+: tw.1)).imp (hgood tw htw k hkK) id
    simp only [substLine, hin, if_true, chain]
    rw [replaceAll_eq_reSubWord v w0 (hspl k hin).2 (hspl k hin).1 hw0 items hsep hcond,
      replaceGo_line k v w0 (hspl k hin).2 (hspl k hin).1 hw0 items hsep hcond]
    refine ih _ (fun kv h => hs kv (List.mem_cons_of_mem _ h)) (sepOK_map k v items hsep) ?_
    intro tw htw
    obtain ⟨tw0, h0, rfl⟩ := List.mem_map.1 htw
    simp only [subst1]
    split
    · exact hfree.good
    · exact hgood tw0 h0

/-- **the two versions agree on a line** where the variables that are words of the line (all in `K`) occur nowhere
    else: not in the value of such a variable, not inside a longer word -/
theorem substOf_eq_substOfW (K : List Str) (s : Settings) (l : Str)
    (G1 : ∀ kv ∈ onLine s l, kv.1 ∈ K ∧ KeyFree K kv.2) (G2 : ∀ tok ∈ splitWS l, Good K tok) :
    substOf s l = substOfW s l := by
  obtain ⟨h1, h2, h3, h4⟩ := decomp_spec l
  have hspl : splitWS l = (decomp l).2.map (·.1) := splitWS_decomp l
  have htok : ∀ tok ∈ splitWS l, NoWS tok ∧ tok ≠ [] := by
    intro tok h
    rw [hspl] at h
    obtain ⟨tw, htw, rfl⟩ := List.mem_map.1 h
    exact h4 tw htw
  have hon : ∀ kv ∈ onLine s l, kv.1 ∈ splitWS l ∧ kv.1 ∈ K ∧ KeyFree K kv.2 :=
    fun kv h => ⟨by simpa using (List.mem_filter.1 h).2, G1 kv h⟩
  have hgood : ∀ tw ∈ (decomp l).2, Good K tw.1 :=
    fun tw htw => G2 tw.1 (by rw [hspl]; exact List.mem_map.2 ⟨tw, htw, rfl⟩)
  have := substLine_eq_chain K (splitWS l) htok _ h2 (onLine s l) _ hon h3 hgood
  rw [← h1] at this
  rw [substOfW_eq_chain, ← this, substOf, substLine_filter (splitWS l) s l]
  rfl

theorem wordsLine_untouched (s : Settings) (l : Str) (h : ∀ k ∈ keys s, k ∉ splitWS l) :
    wordsLine s l = l := by
  have hon : onLine s l = [] := by
    simp only [onLine, List.filter_eq_nil_iff]
    intro kv hkv
    simpa using h kv.1 (List.mem_map.2 ⟨kv, hkv, rfl⟩)
  rw [← substOfW_eq_wordsLine s l (by rw [hon]; exact List.Pairwise.nil)]
  exact substLineW_untouched _ s l h

/-- **no variable remains on an edited line**, provided no value contains a variable (G1) and
    no token of the line contains a variable as a proper substring (G2) -/
theorem substOf_no_var (s : Settings) (l : Str)
    (G1 : ∀ kv ∈ s, KeyFree (keys s) kv.2) (G2 : ∀ tok ∈ splitWS l, Good (keys s) tok) :
    ∀ k ∈ keys s, k ∉ splitWS (substOf s l) := by
  rw [substOf_eq_substOfW (keys s) s l
    (fun kv h => ⟨List.mem_map.2 ⟨kv, (List.mem_filter.1 h).1, rfl⟩, G1 kv (List.mem_filter.1 h).1⟩) G2]
  exact substOfW_no_var s l (fun kv hkv k hk hm => G1 kv (List.mem_filter.1 hkv).1 k hk (splitWS_mem_infix hm))

end Infretis.Template
