import Infretis.Lemmas.RepexFootprint
import Infretis.Lemmas.ListAux
/-!
# The re-issue loop of `pick_lock` after a restart, and the job it hands out

On any state the loop is a function of `W`, the slots and the lock flags and writes nothing else, so two calls in a
row are one call on both lists; when `mkPicked` returns, the pairs the loop handed out are the recorded ones.
After `load_paths` every recorded path sits in its recorded slot and no path sits in two slots.  Then each round
of the loop finds the path where it is recorded, its swap is the identity (`Reissue.cons_inplace`), and the loop locks
the recorded slots (`Reissue.inplace`).  With pairwise distinct recorded paths every slot the loop locks stays locked with its path
(`Held`, `Reissue.held`).  The three lemmas at the end are what C06 reads of the re-issue phase.
-/
namespace Infretis.Repex

theorem findIdx?_some {l : List (Option Nat)} {x : Option Nat} {i : Nat} (h : findIdx? l x = some i) :
    l[i]? = some x := by
  unfold findIdx? at h
  simp only [] at h
  split at h
  · rename_i hlt
    simp only [Option.some.injEq] at h
    subst h
    have := List.findIdx_getElem (w := hlt)
    rw [List.getElem?_eq_getElem hlt]
    simp only [beq_iff_eq] at this
    rw [this]
  · exact absurd h (by simp)

/-- the locks after `pick_lock` has re-locked the recorded (slot, path) pairs -/
def lockAll (l : List (Nat × Nat)) (locks : List Bool) : List Bool := l.foldl (fun lk x => lk.set x.1 true) locks

theorem lockAll_false : ∀ (l : List (Nat × Nat)) (lk : List Bool) (i : Nat),
    (lockAll l lk)[i]? = some false → lk[i]? = some false := by
  intro l
  induction l with
  | nil => intro lk i h; exact h
  | cons x rest ih =>
    intro lk i h
    have := ih (lk.set x.1 true) i h
    rw [List.getElem?_set] at this
    split at this
    · split at this
      · exact absurd this (by simp)
      · exact absurd this (by simp)
    · exact this

/-- a path sits in at most one real slot -/
def UniqLive (tr : List (Option Nat)) : Prop :=
  ∀ (i j q : Nat), tr.dropLast[i]? = some (some q) → tr.dropLast[j]? = some (some q) → i = j

/-- one round on a record whose path sits in its recorded slot: the path is found there, so the swap is the identity
    and the round locks that slot -/
theorem Reissue.cons_inplace {e tr : Nat} {rest : List (Nat × Nat)} {s s' : St} {pairs : List (Int × Option Nat)}
    (h : Reissue s ((e, tr) :: rest) s' pairs) (hte : s.trajs[e]? = some (some tr)) (hlt : e + 1 < s.trajs.length)
    (hu : UniqLive s.trajs) :
    findIdx? (livePaths s) (some tr) = some e ∧ lock s e = .ok { s with locks := s.locks.set e true } ∧
      ∃ ps, Reissue { s with locks := s.locks.set e true } rest s' ps ∧
        pairs = ((e : Int) - (off : Int), some tr) :: ps := by
  cases h with | cons hfi hl hrest =>
  obtain rfl := hu e _ tr (by rw [List.getElem?_dropLast, if_pos (by omega)]; exact hte) (findIdx?_some hfi)
  rw [swap_self] at hl
  obtain ⟨_, rfl⟩ := lock_ok hl
  refine ⟨hfi, hl, _, hrest, ?_⟩
  show (_, s.trajs.getD e none) :: _ = _
  rw [List.getD_eq_getElem?_getD, hte]
  rfl

theorem Reissue.inplace {l : List (Nat × Nat)} {s s' : St} {pairs : List (Int × Option Nat)} (h : Reissue s l s' pairs)
    (hin : ∀ x ∈ l, s.trajs[x.1]? = some (some x.2) ∧ x.1 + 1 < s.trajs.length) (hu : UniqLive s.trajs) :
    s' = { s with locks := lockAll l s.locks } ∧ pairs = l.map (fun x => ((x.1 : Int) - (off : Int), some x.2)) := by
  induction l generalizing s pairs with
  | nil => cases h; exact ⟨rfl, rfl⟩
  | cons x rest ih =>
    obtain ⟨hte, hlt⟩ := hin x List.mem_cons_self
    obtain ⟨_, _, ps, hrest, rfl⟩ := h.cons_inplace hte hlt hu
    obtain ⟨rfl, rfl⟩ := ih hrest (fun y hy => hin y (List.mem_cons_of_mem _ hy)) hu
    exact ⟨rfl, rfl⟩

theorem findIdx?_live {s : St} {tr ti : Nat} (h : findIdx? (livePaths s) (some tr) = some ti) :
    s.trajs[ti]? = some (some tr) ∧ ti < s.trajs.length := by
  have h1 := findIdx?_some h
  rw [livePaths, List.getElem?_dropLast] at h1
  split at h1
  · exact ⟨h1, by omega⟩
  · cases h1

/-- **what the loop hands out**: for every record the recorded ensemble with the recorded path — the loop has
    swapped it into the recorded slot — or with no path where that slot does not exist (`mkPicked` then raises) -/
theorem Reissue.pairs_eq {l : List (Nat × Nat)} {s s' : St} {pairs : List (Int × Option Nat)}
    (h : Reissue s l s' pairs) (hs : ∀ p ∈ pairs, p.2 ≠ none) :
    pairs = l.map fun x => ((x.1 : Int) - (off : Int), some x.2) := by
  induction h with
  | nil => rfl
  | @cons s s2 s' e tr ti rest ps hfi hl _ ih =>
    have hne : s2.trajs.getD e none ≠ none := hs _ List.mem_cons_self
    rw [ih fun p hp => hs p (List.mem_cons_of_mem _ hp)]
    obtain ⟨_, rfl⟩ := lock_ok hl
    obtain ⟨hti, hlt⟩ := findIdx?_live hfi
    have he : e < s.trajs.length := Nat.lt_of_not_le fun hc => hne (by
      show (swapList s.trajs ti e).getD e none = none
      rw [List.getD_eq_getElem?_getD, List.getElem?_eq_none (by rw [swapList_length]; exact hc)]
      rfl)
    have : (swapList s.trajs ti e).getD e none = some tr := by
      rw [List.getD_eq_getElem?_getD, swapList_get _ _ _ _ hlt he, swapIdx_right, hti]
      rfl
    show (_, (swapList s.trajs ti e).getD e none) :: _ = _
    rw [this]
    rfl

/-- the loop reads and writes `W`, the slots and the lock flags only: it runs the same way from every state that
    agrees with `s` on these -/
theorem Reissue.congr {l : List (Nat × Nat)} {s s' : St} {ps : List (Int × Option Nat)} (h : Reissue s l s' ps) :
    ∀ {t : St}, t.W = s.W → t.trajs = s.trajs → t.locks = s.locks →
      Reissue t l { t with W := s'.W, trajs := s'.trajs, locks := s'.locks } ps := by
  induction h with
  | nil =>
    intro t hW hT hL
    rw [← hW, ← hT, ← hL]
    exact .nil
  | @cons s s2 s' e tr ti rest ps hfi hl _ ih =>
    intro t hW hT hL
    obtain ⟨hle, rfl⟩ := lock_ok hl
    have hlt : lock (swap t ti e) e = .ok { swap t ti e with locks := t.locks.set e true } := by
      unfold lock
      rw [show (swap t ti e).locks[e]? = some false by rw [← hle]; exact congrArg (·[e]?) hL]
      rfl
    have key : ({ swap t ti e with locks := t.locks.set e true } : St).trajs.getD e none
        = ({ swap s ti e with locks := (swap s ti e).locks.set e true } : St).trajs.getD e none := by
      show (swapList t.trajs ti e).getD e none = (swapList s.trajs ti e).getD e none
      rw [hT]
    have := Reissue.cons (by rw [livePaths, hT]; exact hfi) hlt
      (ih (by show swapList t.W ti e = swapList s.W ti e; rw [hW])
        (by show swapList t.trajs ti e = swapList s.trajs ti e; rw [hT])
        (by show t.locks.set e true = s.locks.set e true; rw [hL]))
    rw [key] at this
    exact this

theorem Reissue.append {l1 l2 : List (Nat × Nat)} {s s1 s2 : St} {p1 p2 : List (Int × Option Nat)}
    (h1 : Reissue s l1 s1 p1) (h2 : Reissue s1 l2 s2 p2) : Reissue s (l1 ++ l2) s2 (p1 ++ p2) := by
  induction h1 with
  | nil => exact h2
  | cons hfi hl _ ih => exact .cons hfi hl (ih h2)

theorem Reissue.eq {l : List (Nat × Nat)} {s s' : St} {ps : List (Int × Option Nat)} (h : Reissue s l s' ps) :
    s' = { s with W := s'.W, trajs := s'.trajs, locks := s'.locks } :=
  (Prod.mk.inj (Except.ok.inj
    ((reissueGo_ok_iff.mpr h).symm.trans (reissueGo_ok_iff.mpr (h.congr rfl rfl rfl))))).1

/-- a `Picked` without `engIdx`, which `prep_md_items` fills in after the pick -/
def pkFull (p : Picked) : Int × Nat × Stream × Stream := (p.ens, p.pn, p.rgen, p.rgenEng)

/-- the (slot, path) pairs of a recorded job -/
def recPairs (r : List Nat × List Nat) : List (Nat × Nat) := r.1.zip r.2
/-- the (ensemble, path) pairs of the job `pick_lock` must hand out for it -/
def recJob (r : List Nat × List Nat) : List (Int × Nat) := (recPairs r).map (fun x => ((x.1 : Int) - 1, x.2))
/-- the same with the streams of the job whose child stream has ordinal `ord` under entropy `ent`:
    move stream `SeedSequence(ent, (ord, j))`, engine stream `SeedSequence(ent, (ord, j, 0))` -/
def recJobFull (ent ord : Nat) (r : List Nat × List Nat) : List (Int × Nat × Stream × Stream) :=
  (recPairs r).zipIdx.map (fun xi =>
    ((xi.1.1 : Int) - 1, xi.1.2, ({ entropy := ent, key := [ord, xi.2] } : Stream),
     ({ entropy := ent, key := [ord, xi.2, 0] } : Stream)))
/-- the entry appended to `locked` for it -/
def recEntry (r : List Nat × List Nat) : List Int × List Nat := (r.1.map (fun (e : Nat) => (e : Int) - 1), r.2)

theorem recJobFull_pns (ent ord : Nat) (r : List Nat × List Nat) :
    (recJobFull ent ord r).map (fun q => q.2.1) = (recPairs r).map (·.2) := by
  rw [recJobFull, List.map_map]
  exact (List.map_map (f := Prod.fst) (g := Prod.snd) ..).symm.trans (congrArg _ (List.zipIdx_map_fst 0 _))

theorem mkPickedAt_rec {s1 : St} {ord : Nat} {r : List Nat × List Nat} {ps : List Picked}
    (h : mkPickedAt s1 ord ((recPairs r).map (fun x => ((x.1 : Int) - (off : Int), some x.2))) = .ok ps) :
    ps.map pkFull = recJobFull s1.entropy ord r := by
  unfold mkPickedAt mkPicked at h
  have : (recPairs r).map (fun x => ((x.1 : Int) - (off : Int), some x.2)) =
      ((recPairs r).map (fun x => ((x.1 : Int) - 1, x.2))).map (fun x => (x.1, some x.2)) := by
    simp [off]
  rw [this] at h
  obtain rfl := mkPickedGo_some.mp h
  simp only [recJobFull, List.zipIdx_map, List.map_map, mainStream, spawnStream]
  apply List.map_congr_left
  intro xi _
  simp [pkFull, pickedAt, spawnStream]

/-- **`prep_md_items` while a record with its ordinal waits** (any state): `pick_lock` runs the re-issue loop on the
    recorded pairs, the job handed out is the recorded one with the streams of the recorded ordinal, it goes back
    on record under that ordinal, nothing is drawn and the spawn counter stays -/
theorem prep_reissue_parts {s s' : St} {prev : Option Nat} {o : PickOutcome} {d : Nat} {job : Job} {ds : List Draw}
    {r : List Nat × List Nat} {rest : List (List Nat × List Nat)} {ord : Nat} {restO : List (Option Nat)}
    (h : prep s prev o d = .ok (s', job, ds)) (hto : 0 ≤ s.toinitiate)
    (hl0 : s.locked0 = r :: rest) (hord : s.locked0Ord = some ord :: restO) :
    ∃ s1 pairs occ', Reissue s (recPairs r) s1 pairs ∧
      s' = { s with W := s1.W, trajs := s1.trajs, locks := s1.locks, locked := s.locked ++ [recEntry r],
                    lockedOrd := s.lockedOrd ++ [ord], locked0 := rest, locked0Ord := restO, occ := occ' } ∧
      job.picked.map pkFull = recJobFull s.entropy ord r ∧ job.pnumOld = (recPairs r).map (·.2) ∧ ds = [] := by
  have hpn := prep_pnumOld h
  obtain ⟨s1, ps, pin, occ', idx, hr, _, _, _, rfl, _, _, hjp⟩ := prep_parts h
  rw [pickPart, if_pos hto] at hr
  rcases pickLock_parts hr with ⟨hnil, _⟩ | ⟨es, ts, rest', s0, pairs, hcons, hre, hmk, rfl, rfl⟩
  · rw [hl0] at hnil
    cases hnil
  obtain ⟨rfl, rfl⟩ := List.cons.inj (hl0.symm.trans hcons)
  have hR := reissueGo_ok_iff.mp hre
  have hro : reissueOrd s s0 = ord := by simp [reissueOrd, hord]
  -- `mkPicked` returned, so every pair carries a path: the pairs are the recorded ones
  have hpairs := hR.pairs_eq (by
    unfold mkPickedAt mkPicked at hmk
    obtain ⟨L, hL, _⟩ := mkPickedGo_ok_iff.mp hmk
    rw [hL]
    intro p hp
    obtain ⟨x, _, rfl⟩ := List.mem_map.mp hp
    exact Option.some_ne_none _)
  rw [hpairs, hro] at hmk
  have hps : ps.map pkFull = recJobFull s.entropy ord (es, ts) := by
    rw [mkPickedAt_rec (r := (es, ts)) hmk, hR.touches.entropy]
  have hjk : job.picked.map pkFull = ps.map pkFull := by
    rw [hjp, List.map_map]
    rfl
  -- `reissue` ran from `s` with the record popped and returned `s0`, which differs from that state in `W`, `trajs`, `locks`
  -- only (`Reissue.eq`); the loop reads none of the popped fields, so the run is stated from `s` (`Reissue.congr`)
  have hst : ({ reissued s s0 es ts with occ := occ' } : St) =
      { s with W := s0.W, trajs := s0.trajs, locks := s0.locks, locked := s.locked ++ [recEntry (es, ts)],
               lockedOrd := s.lockedOrd ++ [ord], locked0 := rest, locked0Ord := restO, occ := occ' } := by
    obtain ⟨W1, T1, L1, rfl⟩ : ∃ W1 T1 L1, s0 =
        { s with W := W1, trajs := T1, locks := L1, locked0 := rest, locked0Ord := s.locked0Ord.tail } :=
      ⟨_, _, _, hR.eq⟩
    simp only [reissued, reissueOrd, hord, recEntry, off]
    rfl
  refine ⟨_, pairs, occ', hR.congr rfl rfl rfl, hst, hjk.trans hps, ?_, rfl⟩
  have : job.picked.map (·.pn) = (job.picked.map pkFull).map (·.2.1) := by
    rw [List.map_map]
    rfl
  rw [hpn, this, hjk, hps, recJobFull_pns]

def Held (s : St) (H : List (Nat × Nat)) : Prop :=
  ∀ x ∈ H, s.locks[x.1]? = some true ∧ s.trajs[x.1]? = some (some x.2)

/-- with pairwise distinct recorded paths the loop leaves every slot it has locked, and every slot that was held
    before, locked with its path: a later round finds its own path elsewhere and cannot lock a locked slot -/
theorem Reissue.held {l : List (Nat × Nat)} {s s' : St} {pairs : List (Int × Option Nat)} (h : Reissue s l s' pairs) :
    ∀ {H : List (Nat × Nat)}, s.trajs.length = s.locks.length → Held s H → ((H ++ l).map (·.2)).Nodup →
      Held s' (H ++ l) := by
  induction h with
  | nil =>
    intro H _ hH _
    rwa [List.append_nil]
  | @cons s s2 s' e tr ti rest ps hfi hl _ ih =>
    intro H hlen hH hnd
    obtain ⟨hle, rfl⟩ := lock_ok hl
    obtain ⟨hti, hlt⟩ := findIdx?_live hfi
    have helt : e < s.trajs.length := by
      have := getElem?_lt_of_some hle
      simp only [swap] at this
      omega
    rw [List.append_cons] at hnd ⊢
    refine ih (by simp only [swap, swapList_length, List.length_set]; exact hlen) (fun y hy => ?_) hnd
    rcases List.mem_append.mp hy with hy | hy
    · -- the slots held before are untouched
      obtain ⟨hyl, hyt⟩ := hH y hy
      have hne : y.1 ≠ e := fun hc => by
        rw [hc] at hyl
        exact absurd (hyl.symm.trans hle) (by simp)
      have hnt : y.1 ≠ ti := fun hc => by
        rw [hc, hti] at hyt
        rw [List.map_append, List.map_append, List.nodup_append] at hnd
        exact (List.nodup_append.mp hnd.1).2.2 y.2 (List.mem_map_of_mem hy) tr (by simp)
          (Option.some.inj (Option.some.inj hyt)).symm
      exact ⟨by simp only [swap]; rw [List.getElem?_set_ne (Ne.symm hne)]; exact hyl,
        by simp only [swap]; rw [swapList_get _ _ _ _ hlt helt, swapIdx_of_ne hnt hne]; exact hyt⟩
    · obtain rfl := List.mem_singleton.mp hy
      exact ⟨by simp only [swap]; rw [List.getElem?_set_self (by omega)],
        by simp only [swap]; rw [swapList_get _ _ _ _ hlt helt, swapIdx_right]; exact hti⟩

theorem prepTail_ok {s1 s' : St} {ps : List Picked} {ds ds' : List Draw} {pin? : Option Nat} {job : Job}
    (h : prepTail s1 ps ds pin? = .ok (s', job, ds')) :
    (∃ occ', s' = { s1 with occ := occ' }) ∧ job.picked.map pkFull = ps.map pkFull := by
  obtain ⟨_, occ', _, _, _, _, rfl, _, rfl⟩ := prepTail_parts h
  refine ⟨⟨occ', rfl⟩, ?_⟩
  simp [List.map_map, Function.comp_def, pkFull]

theorem initiate_nogo_eq {s : St} (h : (initiate s).2 = false) (hc : s.cstep < s.tsteps) (h0 : 0 ≤ s.toinitiate) :
    ∃ c, (initiate s).1 = { s with cworker := c, toinitiate := -1 } := by
  by_cases hz : s.toinitiate > 0 ∧ (s.cstep : Int) + ((s.workers : Int) - s.toinitiate) ≥ (s.tsteps : Int)
  · rw [initiate_close hc hz]; exact ⟨_, rfl⟩
  · rw [initiate_next hc hz] at h ⊢
    have := of_decide_eq_false h
    have : s.toinitiate = 0 := by omega
    rw [this]; exact ⟨_, rfl⟩

theorem persist_locked_recEntry (rec : List (List Nat × List Nat)) :
    (rec.map recEntry).map (fun (x : List Int × List Nat) => (x.1.map (fun e => (e + (off : Int)).toNat), x.2)) = rec := by
  induction rec with
  | nil => rfl
  | cons r rec ih =>
    simp only [List.map_cons, List.cons.injEq]
    refine ⟨?_, ih⟩
    obtain ⟨es, ts⟩ := r
    simp only [recEntry, List.map_map, Prod.mk.injEq, and_true]
    have : ∀ e ∈ es, ((fun e => (e + (off : Int)).toNat) ∘ fun (e : Nat) => (e : Int) - 1) e = e := by
      intro e _
      simp only [Function.comp, off]
      omega
    rw [List.map_congr_left this]
    simp

end Infretis.Repex
