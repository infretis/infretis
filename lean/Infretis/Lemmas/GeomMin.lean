import Infretis.Lemmas.Geom
/-! The wrapped component IS an image, and every other image is at least a box length further out;
    Galilean shift of the velocities; lattice vectors of a 9-component (triclinic) box. -/
namespace Infretis.Geom

theorem pbcWrap_image (d L : ℚ) (hL : L ≠ 0) :
    pbcWrap d L = d - ((rint (d / L) : ℤ) : ℚ) * L := by
  rw [pbcWrap_eq d L hL]
  unfold resid
  field_simp

theorem abs_int_mul_ge (m : ℤ) (L : ℚ) (hL : 0 < L) (hm : m ≠ 0) : L ≤ |(m : ℚ) * L| := by
  rw [abs_mul, abs_of_pos hL]
  have h1 : (1 : ℚ) ≤ |(m : ℚ)| := by exact_mod_cast Int.one_le_abs hm
  exact le_mul_of_one_le_left hL.le h1

def shiftVel (u : V3) (s : Sys) : Sys := { s with vel := s.vel.map (fun v => V3.add v u) }

/-- the box matrix of the 9-component form `xx, yy, zz, xy, xz, yx, yz, zx, zy`
    (`engineparts.box_matrix_to_list`): rows = cell vectors `a, b, c`; any other length: `none` -/
def boxMatrix : List ℚ → Option Mat3
  | [xx, yy, zz, xy, xz, yx, yz, zx, zy] => some ⟨⟨xx, xy, xz⟩, ⟨yx, yy, yz⟩, ⟨zx, zy, zz⟩⟩
  | _ => none

def latticeVec (M : Mat3) (k : Int × Int × Int) : V3 :=
  V3.add (V3.add (V3.smul (k.1 : ℚ) M.r1) (V3.smul (k.2.1 : ℚ) M.r2)) (V3.smul (k.2.2 : ℚ) M.r3)

/-- shift atom `a` by the lattice vector `ks a` of the cell `M` -/
def shiftLattice (M : Mat3) (ks : Nat → Int × Int × Int) (s : Sys) : Sys :=
  { s with pos := s.pos.mapIdx (fun a p => V3.add p (latticeVec M (ks a))) }

/-- for an orthogonal cell (all six off-diagonal entries zero) the lattice vectors are exactly the
    image vectors `(k₁·Lx, k₂·Ly, k₃·Lz)` the per-axis wrap is built for -/
theorem latticeVec_orthogonal (x y z : ℚ) (k : Int × Int × Int) :
    latticeVec ⟨⟨x, 0, 0⟩, ⟨0, y, 0⟩, ⟨0, 0, z⟩⟩ k = imageVec ⟨x, y, z⟩ k := by
  simp [latticeVec, imageVec, V3.add, V3.smul]

theorem shiftLattice_orthogonal (x y z : ℚ) (ks : Nat → Int × Int × Int) (s : Sys) :
    shiftLattice ⟨⟨x, 0, 0⟩, ⟨0, y, 0⟩, ⟨0, 0, z⟩⟩ ks s = shiftImages ⟨x, y, z⟩ ks s := by
  simp only [shiftLattice, shiftImages, latticeVec_orthogonal]

end Infretis.Geom
