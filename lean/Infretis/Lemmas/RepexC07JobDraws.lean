import Infretis.Model.JobDraws
import Infretis.Lemmas.RepexC07Eng
/-!
# C07 — the draws of one job (Model/JobDraws.lean)

The traced moves project onto the shared move models; that a request on a move stream is an `integers` or a `random`
is read off the projection.  Every resolved request of `runJob` is on a move stream or an engine stream of the job's
own picked entries, or is gmx's own velocity generation (`runJob_src`; on the streams of the job's ordinal:
`runJob_onOrd`).
-/
namespace Infretis.JobDraws
open Infretis.Repex

/-! ### the velocity request of C16's model -/

theorem velRequest_spec (k : EngKind) (s : Vel.Setup) (hs : s.engine = k.velEngine) (src : Vel.Frame)
    (ek : Option Rat) (zm : Option Bool) (sig : List Rat) (z : List (List Rat)) :
    (Vel.modifyVelocities Vel.codeVariant Vel.codeVariant s src ek zm sig z).request.stream = (velRequest k).1 ∧
    (Vel.modifyVelocities Vel.codeVariant Vel.codeVariant s src ek zm sig z).request.method = (velRequest k).2 ∧
    (velRequest k).1 = Vel.Stream.engineRgen := by
  cases k <;>
    simp [velRequest, Vel.modifyVelocities, Vel.modifyAse, Vel.modifyNumpy, Vel.codeVariant, EngKind.velEngine, hs] <;>
    (simp [EngKind.velEngine] at hs; simp [hs])

theorem velRequest_method (k : EngKind) :
    (velRequest k).2 = (match k with | .ase _ => "standard_normal" | _ => "normal") := by
  cases k <;> rfl

/-- the requests a list of events makes on move streams -/
def drawsOf (evs : List Ev) : List What :=
  evs.filterMap (fun ev => match ev with | .draw _ w => some w | .eng _ _ => none)

theorem drawsOf_append (a b : List Ev) : drawsOf (a ++ b) = drawsOf a ++ drawsOf b := by
  simp [drawsOf, List.filterMap_append]

theorem drawsOf_draws (ens : Int) (l : List Moves.Draw) :
    drawsOf (l.map (fun d => Ev.draw ens (ofMovesDraw d))) = l.map ofMovesDraw := by
  induction l with
  | nil => rfl
  | cons a t ih =>
    simp only [List.map_cons, drawsOf, List.filterMap_cons]
    exact congrArg _ ih

theorem shootEvs_draws (ens slot : Int) (o : Moves.ShootOut) :
    drawsOf (shootEvs ens slot o) = o.draws.map ofMovesDraw := by
  unfold shootEvs
  cases hd : o.draws with
  | nil => rfl
  | cons d1 rest =>
    simp only [drawsOf_append, drawsOf_draws]
    have e1 : drawsOf [Ev.draw ens (ofMovesDraw d1), Ev.eng slot .modvel] = [ofMovesDraw d1] := rfl
    have e2 : drawsOf (if o.usedB > 0 then [Ev.eng slot (.propagate true)] else []) = [] := by
      split <;> rfl
    have e3 : drawsOf (if o.usedF > 0 then [Ev.eng slot (.propagate false)] else []) = [] := by
      split <;> rfl
    rw [e1, e2, e3]
    simp

/-- every move-stream request of a shoot is an `integers` or a `random` -/
def PlainWhat (w : What) : Prop := w = .random ∨ ∃ lo hi, w = .integers lo hi

theorem ofMovesDraw_plain (d : Moves.Draw) : PlainWhat (ofMovesDraw d) := by
  cases d with
  | integers lo hi => exact Or.inr ⟨lo, hi, rfl⟩
  | random => exact Or.inl rfl

def PlainEvs (evs : List Ev) : Prop := ∀ ens w, Ev.draw ens w ∈ evs → PlainWhat w

theorem PlainEvs.append {a b : List Ev} (ha : PlainEvs a) (hb : PlainEvs b) : PlainEvs (a ++ b) := by
  intro ens w h
  rcases List.mem_append.mp h with h | h
  · exact ha ens w h
  · exact hb ens w h

theorem PlainEvs.of_drawsOf {evs : List Ev} (h : ∀ w ∈ drawsOf evs, PlainWhat w) : PlainEvs evs :=
  fun ens w hm => h w (List.mem_filterMap.mpr ⟨Ev.draw ens w, hm, rfl⟩)

theorem PlainEvs.of_draws {evs : List Ev} {l : List Moves.Draw} (h : drawsOf evs = l.map ofMovesDraw) :
    PlainEvs evs :=
  .of_drawsOf fun w hw => by
    rw [h] at hw
    obtain ⟨d, _, rfl⟩ := List.mem_map.mp hw
    exact ofMovesDraw_plain d

theorem PlainEvs.of_random {evs : List Ev} {n : Nat} (h : drawsOf evs = List.replicate n .random) :
    PlainEvs evs :=
  .of_drawsOf fun w hw => by rw [h] at hw; exact Or.inl (List.eq_of_mem_replicate hw)

theorem wfJumpsT_spec (v : Moves.Variant) (i : Moves.WfIn) (ens slot : Int) :
    ∀ (n : Nat) (js : List Moves.WfJump) (seg : List Int) (to : Int) (succ : Nat) (d : List Moves.Draw)
      (evs : List Ev), drawsOf evs = d.map ofMovesDraw →
      match Moves.wfJumps v i n js seg to succ d with
      | .error e => wfJumpsT v i ens slot n js seg to succ evs = .error e
      | .ok (seg', to', succ', d') =>
        ∃ evs', wfJumpsT v i ens slot n js seg to succ evs = .ok (seg', to', succ', evs') ∧
          drawsOf evs' = d'.map ofMovesDraw := by
  intro n
  induction n with
  | zero =>
    intro js seg to succ d evs h
    simp only [Moves.wfJumps, wfJumpsT]
    exact ⟨evs, rfl, h⟩
  | succ n ih =>
    intro js seg to succ d evs h
    cases js with
    | nil => simp only [Moves.wfJumps, wfJumpsT]
    | cons j js =>
      simp only [Moves.wfJumps, wfJumpsT]
      cases hs : Moves.shoot v (Moves.subShootIn i seg to j) with
      | error e => simp only
      | ok o =>
        simp only
        have hd : drawsOf (evs ++ shootEvs ens slot o) = (d ++ o.draws).map ofMovesDraw := by
          rw [drawsOf_append, h, shootEvs_draws, List.map_append]
        by_cases ha : o.accept = true
        · rw [if_pos ha, if_pos ha]
          exact ih js o.trial o.timeOrigin (succ + 1) (d ++ o.draws) _ hd
        · rw [if_neg ha, if_neg ha]
          exact ih js seg to succ (d ++ o.draws) _ hd

theorem extenderEvs_draws (v : Moves.Variant) (i : Moves.WfIn) (slot : Int) (seg : List Int) :
    drawsOf (extenderEvs v i slot seg) = [] := by
  unfold extenderEvs
  cases seg.head? with
  | none => rfl
  | some first =>
    simp only
    rw [drawsOf_append]
    have e1 : ∀ b : Bool, drawsOf (if b = true then [Ev.eng slot (.propagate true)] else []) = [] := by
      intro b; cases b <;> rfl
    rw [e1]
    split
    · rfl
    · split <;> rfl

theorem wfEvs_draws (v : Moves.Variant) (i : Moves.WfIn) (ens slot : Int) (o : Moves.WfOut)
    (h : Moves.wireFencing v i = .ok o) :
    ∃ evs, wfEvs v i ens slot = .ok evs ∧ drawsOf evs = o.draws.map ofMovesDraw := by
  unfold Moves.wireFencing at h
  unfold wfEvs
  simp only at h
  by_cases hw : WF.weight i.m (Moves.capOf i) i.old = 0
  · rw [if_pos hw] at h
    rw [if_pos hw]
    injection h with h
    exact ⟨[], rfl, by rw [← h]; rfl⟩
  · rw [if_neg hw] at h
    rw [if_neg hw]
    have hspec := wfJumpsT_spec v i ens slot i.nJumps i.jumps (wfSeg0 i) i.oldTimeOrigin 0 [.random]
      [Ev.draw ens .random] rfl
    split at h
    · cases h
    · rename_i seg segTO succ draws heq
      have hj : Moves.wfJumps v i i.nJumps i.jumps (wfSeg0 i) i.oldTimeOrigin 0 [.random]
          = .ok (seg, segTO, succ, draws) := heq
      rw [hj] at hspec
      obtain ⟨evs', he, hd⟩ := hspec
      rw [he]
      simp only at h ⊢
      by_cases hs : succ = 0
      · rw [if_pos hs] at h
        rw [if_pos hs]
        injection h with h
        exact ⟨evs', rfl, by rw [← h]; exact hd⟩
      · rw [if_neg hs] at h
        rw [if_neg hs]
        refine ⟨_, rfl, ?_⟩
        rw [drawsOf_append, extenderEvs_draws v i slot seg, List.append_nil, hd]
        -- every remaining branch returns `draws := draws`
        have : o.draws = draws := by
          repeat' split at h
          all_goals first
            | (injection h with h; rw [← h])
            | (cases h)
        rw [this]

theorem pickedOf_mem {picked : List Picked} {ens : Int} {p : Picked} (h : pickedOf picked ens = some p) :
    p ∈ picked := List.mem_of_find?_eq_some h

theorem slotEntry_mem {picked : List Picked} {single : Bool} {slot : Int} {p : Picked}
    (h : slotEntry picked single slot = some p) : p ∈ picked := by
  unfold slotEntry at h
  split at h
  · split at h
    · exact List.mem_of_mem_head? h
    · cases h
  · exact pickedOf_mem h

/-- what one engine call can return, given the object's `engine.rgen`: it draws nothing; or gmx generates the
    velocities itself; or it makes one request on `engine.rgen`; or the object has no `rgen` and the call raises
    or (ASE) makes a request on numpy's global state -/
def EngResult (r : Option Stream) (x : Except Err (List TDraw)) : Prop :=
  x = .ok [] ∨ x = .ok [⟨.external, .genvel⟩] ∨ (∃ s w, r = some s ∧ x = .ok [⟨.stream s, w⟩]) ∨
  (r = none ∧ (x = .error .noRgen ∨ ∃ w, x = .ok [⟨.numpyGlobal, w⟩]))

theorem engDraws_cases (k : EngKind) (c : EngCall) (r : Option Stream) : EngResult r (engDraws k c r) := by
  -- the classes that draw do so on `engine.rgen` when it is there; `x` is what happens when it is not
  have onRgen : ∀ (w : What) (x : Except Err (List TDraw)),
      (match r with | some s => .ok [⟨.stream s, w⟩] | none => x) = engDraws k c r →
      (x = .error .noRgen ∨ x = .ok [⟨.numpyGlobal, w⟩]) →
      EngResult r (engDraws k c r) := by
    intro w x he hx
    rw [← he]
    cases r with
    | some s => exact Or.inr (Or.inr (Or.inl ⟨s, w, rfl, rfl⟩))
    | none =>
      rcases hx with hx | hx
      · exact Or.inr (Or.inr (Or.inr ⟨rfl, Or.inl hx⟩))
      · exact Or.inr (Or.inr (Or.inr ⟨rfl, Or.inr ⟨w, hx⟩⟩))
  cases c with
  | dump => exact Or.inl rfl
  | modvel =>
    cases k with
    | gromacs g =>
      cases g with
      | false => exact Or.inr (Or.inl rfl)
      | true => exact onRgen _ _ rfl (Or.inl rfl)
    | ase l => exact onRgen _ _ rfl (Or.inr rfl)
    | cp2k => exact onRgen _ _ rfl (Or.inl rfl)
    | lammps => exact onRgen _ _ rfl (Or.inl rfl)
    | turtlemd => exact onRgen _ _ rfl (Or.inl rfl)
  | propagate rev =>
    cases k with
    | gromacs g => exact Or.inl rfl
    | cp2k => exact Or.inl rfl
    | lammps => exact onRgen _ _ rfl (Or.inl rfl)
    | turtlemd => exact onRgen _ _ rfl (Or.inl rfl)
    | ase l =>
      cases l with
      | false => exact Or.inl rfl
      | true => exact onRgen .noise _ rfl (Or.inr rfl)

theorem engDraws_src {k : EngKind} {c : EngCall} {r : Option Stream} {ds : List TDraw}
    (h : engDraws k c r = .ok ds) {d : TDraw} (hd : d ∈ ds) :
    (∃ s, r = some s ∧ d.src = .stream s) ∨ (r = none ∧ d.src = .numpyGlobal) ∨
      (d.src = .external ∧ d.what = .genvel) := by
  rcases engDraws_cases k c r with h' | h' | ⟨s, w, hr, h'⟩ | ⟨hr, h' | ⟨w, h'⟩⟩ <;> rw [h'] at h <;> cases h
  · cases hd
  · rw [List.mem_singleton.mp hd]; exact Or.inr (Or.inr ⟨rfl, rfl⟩)
  · rw [List.mem_singleton.mp hd]; exact Or.inl ⟨s, hr, rfl⟩
  · rw [List.mem_singleton.mp hd]; exact Or.inr (Or.inl ⟨hr, rfl⟩)

theorem engDraws_error {k : EngKind} {c : EngCall} {r : Option Stream} {e : Err}
    (h : engDraws k c r = .error e) : e = .noRgen ∧ r = none := by
  rcases engDraws_cases k c r with h' | h' | ⟨s, w, hr, h'⟩ | ⟨hr, h' | ⟨w, h'⟩⟩ <;> rw [h'] at h <;> cases h
  exact ⟨rfl, hr⟩

theorem resolveEv_eng {kinds : List EngKind} {tbl : EngTbl} {picked : List Picked} {single : Bool}
    {slot : Int} {c : EngCall} {x : Except Err (List TDraw)}
    (h : resolveEv kinds tbl picked single (.eng slot c) = x) (hk : x ≠ .error .key) (hi : x ≠ .error .index) :
    ∃ p obj k, slotEntry picked single slot = some p ∧ p.engIdx.head? = some obj ∧ kinds[obj.1]? = some k ∧
      engDraws k c (engRgen tbl obj) = x := by
  simp only [resolveEv] at h
  cases hp : slotEntry picked single slot with
  | none => rw [hp] at h; exact absurd h.symm hk
  | some p =>
    rw [hp] at h
    dsimp only at h
    cases ho : p.engIdx.head? with
    | none => rw [ho] at h; exact absurd h.symm hi
    | some obj =>
      rw [ho] at h
      dsimp only at h
      cases hkk : kinds[obj.1]? with
      | none => rw [hkk] at h; exact absurd h.symm hk
      | some k =>
        rw [hkk] at h
        exact ⟨p, obj, k, rfl, ho, hkk, h⟩

theorem resolveEv_eng_ok {kinds : List EngKind} {tbl : EngTbl} {picked : List Picked} {single : Bool}
    {slot : Int} {c : EngCall} {ds : List TDraw}
    (h : resolveEv kinds tbl picked single (.eng slot c) = .ok ds) :
    ∃ p obj k, slotEntry picked single slot = some p ∧ p.engIdx.head? = some obj ∧ kinds[obj.1]? = some k ∧
      engDraws k c (engRgen tbl obj) = .ok ds :=
  resolveEv_eng h (fun e => nomatch e) (fun e => nomatch e)

theorem resolveEv_eng_noRgen {kinds : List EngKind} {tbl : EngTbl} {picked : List Picked} {single : Bool}
    {slot : Int} {c : EngCall}
    (h : resolveEv kinds tbl picked single (.eng slot c) = .error .noRgen) :
    ∃ p obj, slotEntry picked single slot = some p ∧ p.engIdx.head? = some obj ∧ engRgen tbl obj = none := by
  obtain ⟨p, obj, k, hp, ho, _, he⟩ := resolveEv_eng h (fun e => nomatch e) (fun e => nomatch e)
  exact ⟨p, obj, hp, ho, (engDraws_error he).2⟩

theorem resolveEv_draw {kinds : List EngKind} {tbl : EngTbl} {picked : List Picked} {single : Bool} {ens : Int}
    {w : What} {x : Except Err (List TDraw)} (h : resolveEv kinds tbl picked single (.draw ens w) = x) :
    x = .error .key ∨ ∃ p, pickedOf picked ens = some p ∧ x = .ok [⟨.stream p.rgen, w⟩] := by
  simp only [resolveEv] at h
  cases hp : pickedOf picked ens with
  | none => rw [hp] at h; exact Or.inl h.symm
  | some p => rw [hp] at h; exact Or.inr ⟨p, rfl, h.symm⟩

theorem resolveEv_src {kinds : List EngKind} {tbl : EngTbl} {picked : List Picked} {single : Bool}
    {ev : Ev} {ds : List TDraw} (h : resolveEv kinds tbl picked single ev = .ok ds) {d : TDraw} (hd : d ∈ ds) :
    (∃ p ∈ picked, ∃ ens, ev = .draw ens d.what ∧ d.src = .stream p.rgen) ∨
    (∃ p ∈ picked, ∃ obj ∈ p.engIdx, ∃ slot c, ev = .eng slot c ∧
        ((∃ s, engRgen tbl obj = some s ∧ d.src = .stream s) ∨
         (engRgen tbl obj = none ∧ d.src = .numpyGlobal) ∨
         (d.src = .external ∧ d.what = .genvel))) := by
  cases ev with
  | draw ens w =>
    rcases resolveEv_draw h with hx | ⟨p, hp, hx⟩
    · cases hx
    · cases hx
      obtain rfl := List.mem_singleton.mp hd
      exact Or.inl ⟨p, pickedOf_mem hp, ens, rfl, rfl⟩
  | eng slot c =>
    obtain ⟨p, obj, k, hp, ho, _, he⟩ := resolveEv_eng_ok h
    exact Or.inr ⟨p, slotEntry_mem hp, obj, List.mem_of_mem_head? ho, slot, c, rfl, engDraws_src he hd⟩

theorem resolveAll_mem {kinds : List EngKind} {tbl : EngTbl} {picked : List Picked} {single : Bool} :
    ∀ {evs : List Ev} {tr : List TDraw}, resolveAll kinds tbl picked single evs = .ok tr →
    ∀ d ∈ tr, ∃ ev ∈ evs, ∃ ds, resolveEv kinds tbl picked single ev = .ok ds ∧ d ∈ ds := by
  intro evs
  induction evs with
  | nil =>
    intro tr h d hd
    simp only [resolveAll] at h
    injection h with h
    rw [← h] at hd
    simp at hd
  | cons ev rest ih =>
    intro tr h d hd
    simp only [resolveAll] at h
    cases h1 : resolveEv kinds tbl picked single ev with
    | error e => rw [h1] at h; cases h
    | ok ds =>
      rw [h1] at h
      simp only at h
      cases h2 : resolveAll kinds tbl picked single rest with
      | error e => rw [h2] at h; cases h
      | ok r =>
        rw [h2] at h
        injection h with h
        rw [← h] at hd
        rcases List.mem_append.mp hd with hd | hd
        · exact ⟨ev, List.mem_cons_self .., ds, h1, hd⟩
        · obtain ⟨ev', hev', ds', hr', hd'⟩ := ih h2 d hd
          exact ⟨ev', List.mem_cons_of_mem _ hev', ds', hr', hd'⟩

theorem resolveAll_error {kinds : List EngKind} {tbl : EngTbl} {picked : List Picked} {single : Bool} :
    ∀ {evs : List Ev} {e : Err}, resolveAll kinds tbl picked single evs = .error e →
    ∃ ev ∈ evs, resolveEv kinds tbl picked single ev = .error e := by
  intro evs
  induction evs with
  | nil => intro e h; simp [resolveAll] at h
  | cons ev rest ih =>
    intro e h
    simp only [resolveAll] at h
    cases h1 : resolveEv kinds tbl picked single ev with
    | error e1 =>
      rw [h1] at h
      injection h with h
      exact ⟨ev, List.mem_cons_self .., by rw [h1, h]⟩
    | ok ds =>
      rw [h1] at h
      simp only at h
      cases h2 : resolveAll kinds tbl picked single rest with
      | error e2 =>
        rw [h2] at h
        injection h with h
        obtain ⟨ev', hev', hr'⟩ := ih h2
        exact ⟨ev', List.mem_cons_of_mem _ hev', by rw [hr', h]⟩
      | ok r => rw [h2] at h; cases h

theorem resolveEv_noRgen {kinds : List EngKind} {tbl : EngTbl} {picked : List Picked} {single : Bool} {ev : Ev}
    (h : resolveEv kinds tbl picked single ev = .error .noRgen) :
    ∃ p ∈ picked, ∃ obj ∈ p.engIdx, engRgen tbl obj = none := by
  cases ev with
  | draw ens w => rcases resolveEv_draw h with hx | ⟨_, _, hx⟩ <;> cases hx
  | eng slot c =>
    obtain ⟨p, obj, hp, ho, hn⟩ := resolveEv_eng_noRgen h
    exact ⟨p, slotEntry_mem hp, obj, List.mem_of_mem_head? ho, hn⟩

theorem drawsOf_reqs (l : List ZeroSwap.Req) : drawsOf (l.map reqEv) = [] := by
  induction l with
  | nil => rfl
  | cons a t ih => cases a <;> simp only [List.map_cons, reqEv, drawsOf, List.filterMap_cons] <;> exact ih

theorem drawsOf_swapDraws (n : Nat) : drawsOf (swapDraws n) = List.replicate n .random := by
  induction n with
  | zero => rfl
  | succ n ih =>
    simp only [swapDraws, List.replicate_succ, drawsOf, List.filterMap_cons]
    exact congrArg _ ih

theorem drawsOf_swapEvs (r : ZeroSwap.Result) : drawsOf (retisEvs r) = List.replicate r.draws .random ∧
    drawsOf (quantisEvs r) = List.replicate r.draws .random := by
  constructor
  · unfold retisEvs; rw [drawsOf_append, drawsOf_reqs, drawsOf_swapDraws]; rfl
  · unfold quantisEvs; rw [drawsOf_append, drawsOf_append, drawsOf_reqs, drawsOf_reqs, drawsOf_swapDraws]; simp

theorem moveEvs_spec {v : Moves.Variant} {picked : List Picked} {mv : MoveIn} :
    moveEvs v picked mv ≠ .error .noRgen ∧
    ∀ acc st evs, moveEvs v picked mv = .ok (acc, st, evs) → PlainEvs evs := by
  constructor
  · intro h
    unfold moveEvs at h
    repeat' split at h
    all_goals simp at h
  · intro acc st evs h
    unfold moveEvs at h
    split at h
    · -- [p], sh
      split at h
      · cases h
      · cases h
        exact .of_draws (shootEvs_draws _ _ _)
    · -- [p], wf
      rename_i p i
      split at h
      · cases h
      · rename_i o ho
        obtain ⟨evs', he, hd⟩ := wfEvs_draws v i p.ens 0 o ho
        rw [he] at h
        cases h
        exact .of_draws hd
    · cases h
    · split at h
      · cases h
      · split at h
        · cases h
        · cases h
          exact .of_random (drawsOf_swapEvs _).1
    · split at h
      · cases h
      · split at h
        · cases h
        · cases h
          exact .of_random (drawsOf_swapEvs _).2
    · cases h
    · cases h

theorem runJob_ok {v : Moves.Variant} {kinds : List EngKind} {tbl : EngTbl} {picked : List Picked} {mv : MoveIn}
    {out : JobOut} (h : runJob v kinds tbl picked mv = .ok out) :
    ∃ acc st evs, moveEvs v picked mv = .ok (acc, st, evs) ∧
      resolveAll kinds (assignEngineStreams tbl picked) picked (picked.length == 1) evs = .ok out.trace := by
  unfold runJob at h
  simp only at h
  cases hm : moveEvs v picked mv with
  | error e => rw [hm] at h; cases h
  | ok r =>
    obtain ⟨acc, st, evs⟩ := r
    rw [hm] at h
    simp only at h
    cases hr : resolveAll kinds (assignEngineStreams tbl picked) picked (picked.length == 1) evs with
    | error e => rw [hr] at h; cases h
    | ok tr =>
      rw [hr] at h
      cases h
      exact ⟨acc, st, evs, rfl, hr⟩

/-- **every resolved request of a job** is made on a move stream or on an engine stream of the job's own picked
    entries (a move-stream request is an `integers` or a `random`), or is gmx's own velocity generation -/
theorem runJob_src {v : Moves.Variant} {kinds : List EngKind} {tbl : EngTbl} {picked : List Picked} {mv : MoveIn}
    {out : JobOut} (h : runJob v kinds tbl picked mv = .ok out) :
    ∀ d ∈ out.trace,
      (∃ p ∈ picked, d.src = .stream p.rgen ∧ PlainWhat d.what) ∨
      (∃ q ∈ picked, d.src = .stream q.rgenEng) ∨
      (d.src = .external ∧ d.what = .genvel) := by
  intro d hd
  obtain ⟨acc, st, evs, hm, hr⟩ := runJob_ok h
  obtain ⟨ev, hev, ds, hres, hdd⟩ := resolveAll_mem hr d hd
  rcases resolveEv_src hres hdd with ⟨p, hp, ens, hev', hsrc⟩ | ⟨p, hp, obj, ho, slot, c, _, hc⟩
  · left
    refine ⟨p, hp, hsrc, ?_⟩
    rw [hev'] at hev
    exact (moveEvs_spec.2 acc st evs hm) ens d.what hev
  · obtain ⟨q, hq, _, hval⟩ := assign_job_stream picked obj ⟨p, hp, ho⟩
    rcases hc with ⟨s, hs, hsrc⟩ | ⟨hn, _⟩ | hg
    · rw [hval] at hs
      injection hs with hs
      right; left
      exact ⟨q, hq, by rw [hsrc, hs]⟩
    · rw [hval] at hn; cases hn
    · right; right; exact hg

/-- a request on the streams of ordinal `ord` of the seed sequence `en`: an `integers` or a `random` on the move
    stream of one of the first `n` entries, any request on the engine stream of one of them, or gmx's own velocity
    generation -/
def OnOrd (en ord n : Nat) (d : TDraw) : Prop :=
  (∃ j, j < n ∧ d.src = .stream (moveStream en ord j) ∧ PlainWhat d.what) ∨
  (∃ j, j < n ∧ d.src = .stream (engStream en ord j)) ∨
  (d.src = .external ∧ d.what = .genvel)

/-- the spawn key of a stream drawn on begins with the ordinal: such a stream is not the scheduler's, and requests
    under different ordinals are on different streams -/
theorem OnOrd.key_head {en ord n : Nat} {d : TDraw} (h : OnOrd en ord n d) {s : Stream} (hs : d.src = .stream s) :
    s.key.head? = some ord := by
  rcases h with ⟨_, _, a, _⟩ | ⟨_, _, a⟩ | ⟨a, _⟩ <;> rw [hs] at a <;> cases a <;> rfl

theorem OnOrd.ne_global {en ord n : Nat} {d : TDraw} (h : OnOrd en ord n d) : d.src ≠ .numpyGlobal := by
  rcases h with ⟨_, _, a, _⟩ | ⟨_, _, a⟩ | ⟨a, _⟩ <;> rw [a] <;> intro hc <;> cases hc

/-- the seeds handed to MD programs / integrators are drawn on ENGINE streams: a request on a move stream is an
    `integers` or a `random`, and gmx's own velocity generation is no seed -/
theorem OnOrd.seed {en ord n : Nat} {d : TDraw} (h : OnOrd en ord n d) {hi : Int} (hw : d.what = .seed hi) :
    ∃ j, j < n ∧ d.src = .stream (engStream en ord j) := by
  rcases h with ⟨_, _, _, hpl⟩ | hq | ⟨_, hg⟩
  · rw [hw] at hpl
    rcases hpl with h1 | ⟨_, _, h1⟩ <;> cases h1
  · exact hq
  · rw [hw] at hg; cases hg

/-- **every request of a job that was handed the streams of ordinal `ord`** (`StreamsAt`: what `prep_md_items` hands
    out) is on those streams, whatever the engine objects held before -/
theorem runJob_onOrd {v : Moves.Variant} {kinds : List EngKind} {tbl : EngTbl} {picked : List Picked} {mv : MoveIn}
    {out : JobOut} {en ord : Nat} (hs : StreamsAt en ord picked) (h : runJob v kinds tbl picked mv = .ok out) :
    ∀ d ∈ out.trace, OnOrd en ord picked.length d := by
  intro d hd
  rcases runJob_src h d hd with ⟨p, hp, hsrc, hpl⟩ | ⟨q, hq, hsrc⟩ | hg
  · obtain ⟨j, hj⟩ := List.mem_iff_getElem?.mp hp
    exact .inl ⟨j, (List.getElem?_eq_some_iff.mp hj).1, by rw [hsrc, (hs j p hj).1], hpl⟩
  · obtain ⟨j, hj⟩ := List.mem_iff_getElem?.mp hq
    exact .inr (.inl ⟨j, (List.getElem?_eq_some_iff.mp hj).1, by rw [hsrc, (hs j q hj).2]⟩)
  · exact .inr (.inr hg)

/-- every job of a worker process is `runJob` from some contents of the engine table -/
theorem runSeq_get {v : Moves.Variant} {kinds : List EngKind} : ∀ {l : List (List Picked × MoveIn)} {tbl : EngTbl}
    {outs : List JobOut}, runSeq v kinds tbl l = .ok outs →
    outs.length = l.length ∧ ∀ (i : Nat) (x : List Picked × MoveIn) (o : JobOut), l[i]? = some x → outs[i]? = some o →
      ∃ tbl', runJob v kinds tbl' x.1 x.2 = .ok o
  | [], _, _, h => by cases h; exact ⟨rfl, fun i x o hx => by cases hx⟩
  | (picked, mv) :: rest, tbl, outs, h => by
    simp only [runSeq] at h
    split at h
    · cases h
    rename_i o0 h1
    split at h
    · cases h
    rename_i os h2
    cases h
    obtain ⟨hl, hrest⟩ := runSeq_get h2
    refine ⟨by simp [hl], fun i x o hx ho => ?_⟩
    cases i with
    | zero =>
      simp only [List.getElem?_cons_zero, Option.some.injEq] at hx ho
      subst hx ho
      exact ⟨tbl, h1⟩
    | succ i => exact hrest i x o hx ho

theorem assign_indep (picked : List Picked) (tbl1 tbl2 : EngTbl) (e : EngObj)
    (h : ∃ p ∈ picked, e ∈ p.engIdx) :
    engRgen (assignEngineStreams tbl1 picked) e = engRgen (assignEngineStreams tbl2 picked) e := by
  obtain ⟨q, _, _, hq⟩ := assign_job_stream picked e h
  rw [hq tbl1, hq tbl2]

theorem resolveEv_indep {kinds : List EngKind} {tbl1 tbl2 : EngTbl} {picked : List Picked} {single : Bool}
    (ev : Ev) :
    resolveEv kinds (assignEngineStreams tbl1 picked) picked single ev =
      resolveEv kinds (assignEngineStreams tbl2 picked) picked single ev := by
  cases ev with
  | draw ens w => rfl
  | eng slot c =>
    simp only [resolveEv]
    cases hp : slotEntry picked single slot with
    | none => rfl
    | some p =>
      simp only
      cases ho : p.engIdx.head? with
      | none => rfl
      | some obj =>
        simp only
        rw [assign_indep picked tbl1 tbl2 obj ⟨p, slotEntry_mem hp, List.mem_of_mem_head? ho⟩]

theorem resolveAll_indep {kinds : List EngKind} {tbl1 tbl2 : EngTbl} {picked : List Picked} {single : Bool} :
    ∀ evs : List Ev, resolveAll kinds (assignEngineStreams tbl1 picked) picked single evs =
      resolveAll kinds (assignEngineStreams tbl2 picked) picked single evs := by
  intro evs
  induction evs with
  | nil => rfl
  | cons ev rest ih => simp only [resolveAll]; rw [resolveEv_indep ev, ih]

theorem countSrc_append (x : Src) (a b : List TDraw) : countSrc x (a ++ b) = countSrc x a + countSrc x b := by
  simp [countSrc, List.filter_append]

theorem positions_ge : ∀ (tr seen : List TDraw) (d : TDraw) (k : Nat), (d, k) ∈ positions seen tr →
    countSrc d.src seen ≤ k := by
  intro tr
  induction tr with
  | nil => intro seen d k h; simp [positions] at h
  | cons a rest ih =>
    intro seen d k h
    simp only [positions, List.mem_cons] at h
    rcases h with h | h
    · injection h with h1 h2; rw [h1, h2]; exact Nat.le_refl _
    · have := ih (seen ++ [a]) d k h
      rw [countSrc_append] at this
      omega

theorem positions_nodup : ∀ (tr seen : List TDraw),
    ((positions seen tr).map (fun x => (x.1.src, x.2))).Nodup := by
  intro tr
  induction tr with
  | nil => intro seen; simp [positions]
  | cons a rest ih =>
    intro seen
    simp only [positions, List.map_cons, List.nodup_cons]
    refine ⟨?_, ih _⟩
    intro hmem
    obtain ⟨x, hx, hxe⟩ := List.mem_map.mp hmem
    obtain ⟨d, k⟩ := x
    simp only [Prod.mk.injEq] at hxe
    have := positions_ge rest (seen ++ [a]) d k hx
    rw [countSrc_append, hxe.1] at this
    have h1 : countSrc a.src [a] = 1 := by simp [countSrc]
    rw [h1] at this
    omega

theorem positions_mem : ∀ (tr seen : List TDraw) (x : TDraw × Nat), x ∈ positions seen tr → x.1 ∈ tr := by
  intro tr
  induction tr with
  | nil => intro seen x h; simp [positions] at h
  | cons a rest ih =>
    intro seen x h
    simp only [positions, List.mem_cons] at h
    rcases h with h | h
    · rw [h]; exact List.mem_cons_self ..
    · exact List.mem_cons_of_mem _ (ih _ x h)

/-- the derivation inputs (stream, position on it) of the seeds of one job are pairwise distinct -/
theorem seedInputs_nodup (tr : List TDraw) : (seedInputs tr).Nodup := by
  unfold seedInputs
  have hnd := positions_nodup tr []
  generalize positions [] tr = ps at hnd
  induction ps with
  | nil => simp
  | cons x rest ih =>
    simp only [List.map_cons, List.nodup_cons] at hnd
    simp only [List.filterMap_cons]
    split
    · exact ih hnd.2
    · rename_i y hy
      refine List.nodup_cons.mpr ⟨?_, ih hnd.2⟩
      intro hmem
      obtain ⟨z, hz, hze⟩ := List.mem_filterMap.mp hmem
      apply hnd.1
      refine List.mem_map.mpr ⟨z, hz, ?_⟩
      obtain ⟨d, k⟩ := x
      obtain ⟨d', k'⟩ := z
      simp only at hy hze ⊢
      split at hy
      · split at hze
        · injection hy with hy; injection hze with hze
          rw [← hy] at hze
          simp only [Prod.mk.injEq] at hze
          simp only [Prod.mk.injEq]
          exact ⟨hze.1, hze.2.1⟩
        · cases hze
      · cases hy

theorem seedInputs_mem (tr : List TDraw) (x : Src × Nat × Int) (h : x ∈ seedInputs tr) :
    ∃ d ∈ tr, d.src = x.1 ∧ d.what = .seed x.2.2 := by
  unfold seedInputs at h
  obtain ⟨z, hz, hze⟩ := List.mem_filterMap.mp h
  obtain ⟨d, k⟩ := z
  simp only at hze
  split at hze
  · rename_i hi hw
    injection hze with hze
    refine ⟨d, positions_mem tr [] _ hz, ?_, ?_⟩
    · rw [← hze]
    · rw [← hze]; exact hw
  · cases hze

/-- the seeds a job that was handed the streams of ordinal `ord` passes on are drawn on its ENGINE streams -/
theorem runJob_seedInputs {v : Moves.Variant} {kinds : List EngKind} {tbl : EngTbl} {picked : List Picked} {mv : MoveIn}
    {out : JobOut} {en ord : Nat} (hs : StreamsAt en ord picked) (h : runJob v kinds tbl picked mv = .ok out) :
    ∀ x ∈ seedInputs out.trace, ∃ j, j < picked.length ∧ x.1 = .stream (engStream en ord j) := by
  intro x hx
  obtain ⟨d, hd, hsrc, hw⟩ := seedInputs_mem _ x hx
  exact hsrc ▸ (runJob_onOrd hs h d hd).seed hw

end Infretis.JobDraws
