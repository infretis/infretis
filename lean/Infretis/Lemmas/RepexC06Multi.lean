import Infretis.Lemmas.RepexReissue
import Infretis.Lemmas.RepexC06Restart
/-
C06: several workers.  Two scheduler states that agree on everything the sampler reads — up to WHICH worker
(pin / work folder / engine instance) holds which job — stay so under the same completions.

After a restart with W > 1 workers the recorded jobs are re-issued to the workers 0, 1, … in recorded order, so the
pins (and with them `cworker`, the engine table `occ` and the `engIdx` of the jobs) differ from those of the
uninterrupted run.  Nothing the sampler decides depends on them: `RM` relates two systems by `ObsR False` (all of
`ObsR` except `occ`/`toinitiate`), both initiations closed, and the jobs in flight equal position by position in
what `treat_output` and the workers read of them (`jobKey`: per picked ensemble the ensemble number, the path and
the two stream identities; the list of old path numbers).  The completion half of a `.step` is `stepTreat_rel` at
`jobKey`; in the submission half the two sides call `assign_engines` for different workers on different engine tables,
so when the left side goes through the right one does too or fails with an error `EngFail` admits
(`sysStep_step_relM`; along a run `run_steps_relM_total`, of which `run_steps_relM` is the case that both complete).
`StopM` (stated here for `jobKey`): the stopped sampler with its jobs in flight on record, which RepexC06Stop derives for
reachable states and RepexC06MultiRestart restarts from.
-/
namespace Infretis.Repex

variable {t0 : Int} {ra rb : List Row}

/-- what a job is, apart from the worker it runs on: (ensemble, path, move stream, engine stream) per picked
    ensemble, and the old path numbers -/
def jobKey (j : Job) : List (Int × Nat × Stream × Stream) × List Nat := (j.picked.map pkFull, j.pnumOld)

def JobsEq (xs ys : List Job) : Prop := xs.map jobKey = ys.map jobKey

/-- two scheduler states, equal up to who runs what -/
structure RM (ra rb : List Row) (x y : Sys) : Prop where
  obs : ObsR False 0 ra rb x.s y.s
  tx : x.s.toinitiate = -1
  ty : y.s.toinitiate = -1
  jobs : JobsEq x.jobs y.jobs

/-- the stopped sampler (right after `treat_output`) and the jobs still in flight: they are on record with their
    ordinals, each recorded path sits in its recorded slot, no path sits in two slots, the initiation is closed -/
structure StopM (recs : List ((List Nat × List Nat) × Nat)) (s : St) (jobs : List Job) : Prop where
  locked : s.locked = recs.map (fun r => recEntry r.1)
  lockedOrd : s.lockedOrd = recs.map (·.2)
  locked0 : s.locked0 = []
  locked0Ord : s.locked0Ord = []
  toinitiate : s.toinitiate = -1
  inplace : ∀ x ∈ recs.flatMap (fun r => recPairs r.1), s.trajs[x.1]? = some (some x.2) ∧ x.1 + 1 < s.trajs.length
  uniq : UniqLive s.trajs
  onRecord : jobs.map jobKey = recs.map (fun r => (recJobFull s.entropy r.2 r.1, (recPairs r.1).map (·.2)))

theorem StopM.length_eq {recs : List ((List Nat × List Nat) × Nat)} {s : St} {jobs : List Job}
    (h : StopM recs s jobs) : recs.length = jobs.length := by
  have := congrArg List.length h.onRecord
  simpa only [List.length_map] using this.symm

theorem JobsEq.append {xs ys : List Job} (h : JobsEq xs ys) {j j' : Job} (hj : jobKey j = jobKey j') :
    JobsEq (xs ++ [j]) (ys ++ [j']) := by
  unfold JobsEq at h ⊢
  rw [List.map_append, List.map_append, h]
  simp [hj]

theorem jobKey_read {j j' : Job} (h : jobKey j = jobKey j') :
    j.picked.map (fun q => (q.ens, q.pn)) = j'.picked.map (fun q => (q.ens, q.pn)) ∧ j.pnumOld = j'.pnumOld := by
  simp only [jobKey, Prod.mk.injEq] at h
  refine ⟨?_, h.2⟩
  have := congrArg (List.map (fun x : Int × Nat × Stream × Stream => (x.1, x.2.1))) h.1
  simpa [List.map_map, Function.comp_def, pkFull] using this

/-- what the two sides hold between `treat_output` and the next pick -/
structure RMid (ra rb : List Row) (rx ry : St × Job × List Job) : Prop where
  obs : ObsR False 0 ra rb rx.1 ry.1
  tx : rx.1.toinitiate = -1
  ty : ry.1.toinitiate = -1
  done : jobKey rx.2.1 = jobKey ry.2.1
  jobs : JobsEq rx.2.2 ry.2.2

theorem stepTreat_relM {x y : Sys} (h : RM ra rb x y) (k : Nat) (st : Status) (w : List (List Rat)) :
    RelE (RMid ra rb) (stepTreat x k st w) (stepTreat y k st w) :=
  (stepTreat_rel jobKey (fun _ _ => jobKey_read) h.obs (h.tx.trans h.ty.symm) h.jobs k st w).mono
    fun _ _ hx hy ⟨h2, hd, hj⟩ =>
      ⟨h2, (stepTreat_completes hx).touches.toinitiate.trans h.tx,
        (stepTreat_completes hy).touches.toinitiate.trans h.ty, hd, hj⟩

theorem prepTail_pnum {s1 s' : St} {ps : List Picked} {ds ds' : List Draw} {pin? : Option Nat} {job : Job}
    (h : prepTail s1 ps ds pin? = .ok (s', job, ds')) : job.pnumOld = ps.map (·.pn) := by
  obtain ⟨_, _, _, _, _, _, _, _, rfl⟩ := prepTail_parts h
  simp [List.map_map, Function.comp_def]

theorem prepTail_key {s1 s1' s2 s2' : St} {ps : List Picked} {ds d1 d2 : List Draw} {pa pb : Option Nat} {ja jb : Job}
    (ha : prepTail s1 ps ds pa = .ok (s2, ja, d1)) (hb : prepTail s1' ps ds pb = .ok (s2', jb, d2)) :
    jobKey ja = jobKey jb := by
  simp only [jobKey, Prod.mk.injEq]
  exact ⟨(prepTail_ok ha).2.trans (prepTail_ok hb).2.symm, (prepTail_pnum ha).trans (prepTail_pnum hb).symm⟩

/-- the restarted side stops in the part of `prep_md_items` after the pick (`prepTail` for a pinned worker):
    `assign_engines` raises (no free engine instance for the worker) or leaves an engine type unassigned -/
def EngFail (r : Except Err Sys) : Prop :=
  ∃ s1 ps ds pin e, prepTail s1 ps ds (some pin) = .error e ∧ r = .error e

theorem prepTail_obs {a1 b1 a3 b3 : St} (h : ObsR False t0 ra rb a1 b1) {ps : List Picked} {ds d1 d2 : List Draw}
    {pa pb : Option Nat} {ja jb : Job}
    (ha : prepTail a1 ps ds pa = .ok (a3, ja, d1)) (hb : prepTail b1 ps ds pb = .ok (b3, jb, d2)) :
    ObsR False t0 ra rb a3 b3 := by
  obtain ⟨⟨oa, hoa⟩, _⟩ := prepTail_ok ha
  obtain ⟨⟨ob, hob⟩, _⟩ := prepTail_ok hb
  subst hoa; subst hob
  exact { h with toinitiate := fun f => f.elim, occ := fun f => f.elim }

theorem stepPrep_relM {rx ry : St × Job × List Job} (h : RMid ra rb rx ry) (o : PickOutcome) {x' : Sys}
    (hx : stepPrep rx o = .ok x') :
    (∃ y', stepPrep ry o = .ok y' ∧ RM ra rb x' y') ∨ EngFail (stepPrep ry o) := by
  obtain ⟨hs, htx, hty, hd, hj⟩ := h
  rw [stepPrep_eq] at hx ⊢
  rw [← hs.cstep, ← hs.workers, ← hs.tsteps]
  split at hx
  · rename_i hle
    rw [if_pos hle]
    rw [prep_eq, pickPart, if_neg (by omega)] at hx ⊢
    rw [if_neg (by omega)] at hx ⊢
    obtain ⟨⟨a3, jobU, dsU⟩, hx3, hx⟩ := bind_ok_iff.mp hx
    obtain ⟨⟨a1, ps, ds⟩, ha, ha3⟩ := bind_ok_iff.mp hx3
    obtain ⟨⟨b1, _, _⟩, hb, h2, e⟩ := (ha ▸ pick_rel hs o).ok_left
    cases e
    cases hx
    rw [hb]
    dsimp only [Except.bind] at ha3 ⊢
    -- the two sides hand the same picked ensembles to `assign_engines`, each for its own worker
    cases hb3 : prepTail b1 ps ds (some ry.2.1.pin) with
    | error e => exact Or.inr ⟨b1, ps, ds, ry.2.1.pin, e, hb3, rfl⟩
    | ok r3 =>
      obtain ⟨b3, jobR, dsR⟩ := r3
      refine Or.inl ⟨_, rfl, prepTail_obs h2 ha3 hb3, ?_, ?_, hj.append (prepTail_key ha3 hb3)⟩
      · show a3.toinitiate = -1
        rw [(prepTail_touches ha3).toinitiate, (pick_touches ha).toinitiate]; exact htx
      · show b3.toinitiate = -1
        rw [(prepTail_touches hb3).toinitiate, (pick_touches hb).toinitiate]; exact hty
  · rename_i hle
    rw [if_neg hle]
    cases hx
    exact Or.inl ⟨_, rfl, hs, htx, hty, hj⟩

theorem sysStep_step_relM {x y x' : Sys} (h : RM ra rb x y) (k : Nat) (st : Status) (w : List (List Rat))
    (o : PickOutcome) (hx : sysStep x (.step k st w o) = .ok x') :
    (∃ y', sysStep y (.step k st w o) = .ok y' ∧ RM ra rb x' y') ∨ EngFail (sysStep y (.step k st w o)) := by
  rw [sysStep_step_eq] at hx ⊢
  obtain ⟨rx, hT, hx⟩ := bind_ok_iff.mp hx
  obtain ⟨ry, hTy, hmid⟩ := (hT ▸ stepTreat_relM h k st w).ok_left
  rw [hTy]
  exact stepPrep_relM hmid o hx

theorem engFail_not_ok {r : Except Err Sys} {y : Sys} (h : EngFail r) (hr : r = .ok y) : False := by
  obtain ⟨_, _, _, _, e, _, he⟩ := h
  rw [he] at hr
  exact absurd hr (by simp)

/-- the run of `evs` from `y` stops at some event in the engine assignment, everything before having gone through -/
def EngFailRun (y : Sys) (evs : List Ev) : Prop :=
  ∃ pre ev post y1, evs = pre ++ ev :: post ∧ run y pre = .ok y1 ∧ EngFail (sysStep y1 ev)

theorem run_steps_relM_total : ∀ (evs : List Ev) {x y xN : Sys}, StepsOnly evs → RM ra rb x y →
    run x evs = .ok xN → (∃ yN, run y evs = .ok yN ∧ RM ra rb xN yN) ∨ EngFailRun y evs := by
  intro evs
  induction evs with
  | nil =>
    intro x y xN _ h hx
    cases hx
    exact Or.inl ⟨y, rfl, h⟩
  | cons ev rest ih =>
    intro x y xN hs h hx
    cases ev with
    | start o sv => exact hs.elim
    | initDone => exact hs.elim
    | step k st w o =>
      rw [run_cons_eq] at hx ⊢
      obtain ⟨x1, hx1, hx⟩ := bind_ok_iff.mp hx
      rcases sysStep_step_relM h k st w o hx1 with ⟨y1, h1, h2⟩ | hf
      · rw [h1]
        rcases ih hs h2 hx with h3 | ⟨pre, ev, post, ym, e1, e2, e3⟩
        · exact Or.inl h3
        · exact Or.inr ⟨.step k st w o :: pre, ev, post, ym, by rw [e1]; rfl, by rw [run_cons_eq, h1]; exact e2, e3⟩
      · exact Or.inr ⟨[], .step k st w o, rest, y, rfl, rfl, hf⟩

theorem engFailRun_not_ok {y yN : Sys} {evs : List Ev} (h : EngFailRun y evs) (hy : run y evs = .ok yN) : False := by
  obtain ⟨pre, ev, post, y1, rfl, h1, hf⟩ := h
  obtain ⟨y2, h2, _⟩ := run_cons_ok (run_rest hy h1)
  exact engFail_not_ok hf h2

theorem run_steps_relM (evs : List Ev) {x y xN yN : Sys} (hs : StepsOnly evs) (h : RM ra rb x y)
    (hx : run x evs = .ok xN) (hy : run y evs = .ok yN) : RM ra rb xN yN := by
  rcases run_steps_relM_total evs hs h hx with ⟨yN', h1, h2⟩ | hf
  · cases hy.symm.trans h1
    exact h2
  · exact (engFailRun_not_ok hf hy).elim

end Infretis.Repex
