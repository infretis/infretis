import Infretis.Model.WF
import Infretis.Lemmas.RepexC05Treat
import Infretis.Lemmas.RepexRun
/-!
# C05 — histories whose weight vectors come from `calc_cv_vector`, shooting moves only

`WF.cvVector ops interfaces movesTail cap` models `calc_cv_vector` for a plus path, `WF.cvMinus` for
a `[0-]` path.  `EvCv` / `CvHist` say that the new weight vectors of every accepted step are computed
that way with no wire-fencing entry; that such vectors are in C02's family is a corollary of the
general characterisation in `RepexC05Cv` (`cvVector_sh_vecOk`).
Wire-fencing entries are frame counts inside `[λ_i, cap)` and can vanish while entries further up
do not (`C05.wf_weight_vector_can_have_a_hole`).
-/
namespace Infretis.Repex

/-- the code's weight vector (small naturals held in floats) as rationals -/
def ratVec (ws : List Nat) : List Rat := List.map (fun (x : Nat) => (Nat.cast x : Rat)) ws

/-- `(1,)`, the weight vector of every valid `[0-]` path, is in the family for ensemble `-1` -/
theorem vecOk_one {n : Nat} (hn : 1 ≤ n) {e : Int} (he : e < 0) : VecOk n e [1] := by
  unfold VecOk
  have hpad : padN n e [1] = (1 : Rat) :: List.replicate (n - 1) 0 := by
    unfold padN
    rw [if_neg (by omega)]
    simp [off]
  have hslot : (e + 1).toNat = 0 := by omega
  rw [hpad, hslot]
  refine ⟨fun _ => ⟨by simp; omega, by simp, ?_⟩, fun h => absurd h (by decide)⟩
  intro c h1 h2
  obtain ⟨c', rfl⟩ : ∃ c', c = c' + 1 := ⟨c - 1, by omega⟩
  rw [List.getD_eq_getElem?_getD, List.getElem?_cons_succ, List.getElem?_replicate]
  split <;> rfl

/-- `calc_cv_vector` of a valid `[0-]` path (`bound ≤ max(order)`) is `(1,)` -/
theorem vecOk_of_cvMinus {n : Nat} (hn : 1 ≤ n) {e : Int} (he : e < 0) {ops : List Int} {bound pmax : Int}
    {ws : List Nat} (hmax : WF.maxOf ops = some pmax) (hb : bound ≤ pmax) (hcv : WF.cvMinus ops bound = .ok ws) :
    VecOk n e (ratVec ws) := by
  have hws : ws = [1] := by
    simp only [WF.cvMinus, hmax, hb, if_true, Except.ok.injEq] at hcv
    exact hcv.symm
  subst hws
  exact (show ratVec [1] = [1] by simp [ratVec]) ▸ vecOk_one hn he

/-- the new weight vectors of an accepted step are what `calc_cv_vector` computes in a
    shooting-only configuration with interfaces `intfs` (`n = len(intfs) + 1` slots): for the
    `[0-]` ensemble `cvMinus` of a valid path (its maximum reaches the bound), for a plus ensemble
    `cvVector` with no wire-fencing entry -/
def EvCv (intfs : List Int) (y : Sys) : Ev → Prop
  | .step k status newW _ => status = .acc → y.s.n = intfs.length + 1 ∧
      ∀ job, y.jobs[k]? = some job → ∀ pw ∈ job.picked.zip newW,
        (pw.1.ens < 0 → ∃ ops bound pmax ws, WF.maxOf ops = some pmax ∧ bound ≤ pmax ∧
            WF.cvMinus ops bound = .ok ws ∧ pw.2 = ratVec ws) ∧
        (0 ≤ pw.1.ens → ∃ ops mv cap ws, (∀ b ∈ mv, b = false) ∧
            WF.cvVector ops intfs mv cap = .ok ws ∧ pw.2 = ratVec ws)
  | _ => True

def CvHist (intfs : List Int) : Sys → List Ev → Prop
  | _, [] => True
  | y, ev :: rest => EvCv intfs y ev ∧ ∀ y', sysStep y ev = .ok y' → CvHist intfs y' rest

theorem cvHist_iff_along (intfs : List Int) : ∀ (evs : List Ev) (y : Sys), CvHist intfs y evs ↔ Along (EvCv intfs) y evs
  | [], _ => Iff.rfl
  | _ :: rest, _ =>
    and_congr_right fun _ => forall_congr' fun y' => imp_congr_right fun _ => cvHist_iff_along intfs rest y'

end Infretis.Repex
