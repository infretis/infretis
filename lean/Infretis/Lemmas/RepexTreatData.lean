import Infretis.Lemmas.RepexFootprint
import Infretis.Lemmas.ListAux
/-!
# What one `treat_output` does to the two tables of `traj_data` and to the data file

`treat_output` = the loop over the picked ensembles → "record weights" → `write_to_pathens` (ACC) →
`sort_trajstate` → counters.  Seen from `frac`, `weights` and the rows: the loop leads to the *recording state*
(`recState`: the start state with the fresh path numbers in both tables, zero fractions, the job's slots released,
`recState_data`); after the recording exactly the keys `written job status` move from the tables to the data file,
and `sort_trajstate` permutes the slots and touches no table (`treatOutput_data`).  An accepted and a rejected move
differ in `fresh` and `written` only: a rejected one writes the rows of no path.
-/
namespace Infretis.Repex.Frac

/-- the zero `frac` entries of the new paths `tn, tn+1, …, tn+k-1` -/
def zeroFracs (n tn k : Nat) : List (Nat × List Rat) :=
  (List.range' tn k).map (fun t => (t, List.replicate n 0))

theorem zeroFracs_keys (n tn k : Nat) : (zeroFracs n tn k).map Prod.fst = List.range' tn k := by
  simp [zeroFracs, List.map_map, Function.comp_def]

def unlockAll (locks : List Bool) (slots : List Nat) : List Bool :=
  slots.foldl (fun lk e => lk.set e false) locks

/-- **`perEns`**: the data file is untouched; `frac` only grows by zero vectors for the fresh
    path numbers `tn, tn+1, …` (one per ensemble on ACC, none on REJ), `weights` by records for the same
    numbers; the job's slots are unlocked. -/
theorem perEns_data (status : Status) (l : List (Picked × List Rat)) {s s' : St}
    {tn tn' : Nat} {pns : List Nat} (h : treatOutput.perEns status s tn l = .ok (s', tn', pns)) :
    s'.rows = s.rows ∧ s'.n = s.n ∧ s'.trajNum = s.trajNum ∧
    tn' = tn + (if status = .acc then l.length else 0) ∧
    s'.frac = s.frac ++ zeroFracs s.n tn (if status = .acc then l.length else 0) ∧
    (∃ extra, s'.wts = s.wts ++ extra ∧
      extra.map Prod.fst = List.range' tn (if status = .acc then l.length else 0)) ∧
    s'.locks = unlockAll s.locks (l.map (fun pw => (pw.1.ens + 1).toNat)) := by
  replace h := perEns_ok_iff.mp h
  induction h with
  | nil => exact ⟨rfl, rfl, rfl, by simp, by simp [zeroFracs], ⟨[], by simp, by simp⟩, rfl⟩
  | @cons s tn p w _ _ _ _ _ _ _ _ hput hadd _ ih =>
    obtain ⟨_, _, rfl⟩ := perEns_round hadd
    obtain ⟨h1, h2, h3, h4, h5, ⟨extra, h6, h6'⟩, h7⟩ := ih
    refine ⟨h1, h2, h3, ?_, ?_, ?_, h7⟩
    · rw [h4]
      cases hput with
      | acc =>
        simp only [↓reduceIte, List.length_cons]
        omega
      | rej _ => simp only [reduceCtorEq, ↓reduceIte]
    · rw [h5]
      cases hput with
      | acc => simp [perEnsPre, newEntry, zeroFracs, List.range'_succ]
      | rej _ => simp [perEnsPre, newEntry, zeroFracs]
    · cases hput with
      | acc =>
        exact ⟨(tn, w) :: extra, by rw [h6]; simp [perEnsPre, newEntry],
          by simpa [List.range'_succ] using h6'⟩
      | rej _ => exact ⟨extra, by rw [h6]; simp [perEnsPre, newEntry], h6'⟩

/-- **the state in which the weights are recorded**: after the job's ensembles got their (new or
    old) paths back and were unlocked -/
def recState (s : St) (job : Job) (status : Status) (newW : List (List Rat)) :
    Except Err (St × Nat × List Nat) :=
  treatOutput.perEns status s s.trajNum (job.picked.zip (jobWs job status newW))

/-- the path numbers whose rows a completed job writes -/
def written (job : Job) (status : Status) : List Nat := if status = .acc then job.pnumOld else []

/-- how many fresh path numbers a completed job introduces -/
def fresh (job : Job) (status : Status) : Nat := if status = .acc then job.picked.length else 0

theorem recState_data {s sR : St} {job : Job} {status : Status} {newW : List (List Rat)} {tn : Nat}
    {pns : List Nat} (hlen : (jobWs job status newW).length = job.picked.length)
    (h : recState s job status newW = .ok (sR, tn, pns)) :
    sR.rows = s.rows ∧ sR.n = s.n ∧ tn = s.trajNum + fresh job status ∧
    sR.frac = s.frac ++ zeroFracs s.n s.trajNum (fresh job status) ∧
    (∃ extra, sR.wts = s.wts ++ extra ∧ extra.map Prod.fst = List.range' s.trajNum (fresh job status)) ∧
    sR.locks = unlockAll s.locks (job.picked.map (fun p => (p.ens + 1).toNat)) := by
  obtain ⟨p1, p2, _, p4, p5, p6, p7⟩ := perEns_data status _ h
  have hzl : (job.picked.zip (jobWs job status newW)).length = job.picked.length := by
    simp [List.length_zip, hlen]
  rw [hzl] at p4 p5 p6
  exact ⟨p1, p2, p4, p5, p6, map_fst_of_zip (fun p => (p.ens + 1).toNat) hlen ▸ p7⟩

/-- a completed `treat_output` seen from the tables: `sR` the recording state, `s2` the state after "record
    weights", `news` the rows written -/
structure TreatData (s : St) (job : Job) (status : Status) (newW : List (List Rat)) (pns : List Nat) (s' : St)
    (sR : St) (tn : Nat) (s2 : St) (news : List (Nat × List Rat × List Rat)) : Prop where
  recSt : recState s job status newW = .ok (sR, tn, pns)
  len : (jobWs job status newW).length = job.picked.length
  recorded : recordFrac sR = .ok s2
  rows : s'.rows = sR.rows ++ news
  keys : news.map (·.1) = written job status
  nodup : (written job status).Nodup
  look : ∀ r ∈ news, s2.frac.lookup r.1 = some r.2.1 ∧ sR.wts.lookup r.1 = some r.2.2
  frac : s'.frac = s2.frac.filter (fun kv => !(written job status).contains kv.1)
  wts : s'.wts = sR.wts.filter (fun kv => !(written job status).contains kv.1)
  slots : Permutes sR s'
  locks : s'.locks = sR.locks
  n : s'.n = sR.n
  trajNum : s'.trajNum = tn

theorem treatOutput_data {s s' : St} {job : Job} {status : Status} {newW : List (List Rat)}
    {fuel : Nat} {pns : List Nat} {it : Nat} (h : treatOutput s job status newW fuel = .ok (s', pns, it)) :
    ∃ sR tn s2 news, TreatData s job status newW pns s' sR tn s2 news := by
  obtain ⟨sR, tn, s2, s3, s4, hlen, hper, hrec, hwr, hit, hsort, rfl⟩ := treatOutput_parts h
  have hsort := sortTrajstate_ok_iff.mpr ⟨hit, hsort⟩
  have e2 := recordFrac_touches hrec
  have e4 := sortTrajstate_touches fuel hsort
  -- a rejected move writes the rows of no path: `writeRows s2 [] = .ok s2`
  have hwr' : writeRows s2 (written job status) = .ok s3 := by
    unfold written
    split at hwr
    · rename_i hacc
      rw [if_pos hacc]
      exact hwr
    · rename_i hacc
      rw [if_neg hacc]
      exact hwr
  obtain ⟨hnd, news, hkeys, hlook, e3⟩ := writeRows_ok hwr'
  have hslots : Permutes sR s4 := by
    have := sortTrajstate_permutes fuel hsort
    rw [e3] at this
    exact ⟨this.1.trans (e2.W ▸ .refl _), this.2.trans (e2.trajs ▸ .refl _)⟩
  refine ⟨sR, tn, s2, news, perEns_ok_iff.mpr hper, hlen, hrec, ?_, hkeys, hnd, ?_, ?_, ?_, hslots, ?_, ?_, rfl⟩
  · show s4.rows = _
    rw [e4.rows, e3, e2.rows]
  · intro r hr
    rw [← e2.wts]
    exact hlook r hr
  · show s4.frac = _
    rw [e4.frac, e3]
  · show s4.wts = _
    rw [e4.wts, e3, e2.wts]
  · show s4.locks = _
    rw [e4.locks, e3, e2.locks]
  · show s4.n = _
    rw [e4.n, e3, e2.n]

theorem treatOutput_rows_append {s s' : St} {job : Job} {status : Status} {newW : List (List Rat)}
    {fuel : Nat} {pns : List Nat} {it : Nat}
    (h : treatOutput s job status newW fuel = .ok (s', pns, it)) :
    ∃ news, s'.rows = s.rows ++ news ∧ news.map (·.1) = written job status := by
  obtain ⟨sR, tn, _, news, d⟩ := treatOutput_data h
  exact ⟨news, (recState_data d.len d.recSt).1 ▸ d.rows, d.keys⟩

end Infretis.Repex.Frac
