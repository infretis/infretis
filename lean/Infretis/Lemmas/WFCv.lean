import Infretis.Lemmas.WF
import Infretis.Lemmas.ListAux
/-! The weight vector of `calc_cv_vector` (`WF.cvVector`) read entry by entry, the maximum of a path, and when a
    wire-fencing weight is positive.  Rests on the model and on `Lemmas/WF` alone, so that the sampler (C05), the
    moves (C09), the weights (C10) and the initialisation (C18) all read the vector through the same lemmas. -/
namespace Infretis.WF

theorem maxOf_ge (ops : List Int) (mx m : Int) (h : maxOf ops = some mx) :
    m ≤ mx ↔ ∃ x ∈ ops, m ≤ x := by
  cases ops with
  | nil => simp [maxOf] at h
  | cons a t =>
    simp only [maxOf, Option.some.injEq] at h
    rw [← h, foldl_pick (m ≤ ·) _ (fun a x => by split <;> omega)]
    simp

theorem maxOf_spec (ops : List Int) (m : Int) :
    maxOf ops = some m ↔ m ∈ ops ∧ ∀ x ∈ ops, x ≤ m := by
  have bound : ∀ mx, maxOf ops = some mx → mx ∈ ops ∧ ∀ x ∈ ops, x ≤ mx := by
    intro mx h
    have hub : ∀ x ∈ ops, x ≤ mx := fun x hx => (maxOf_ge ops mx x h).2 ⟨x, hx, Int.le_refl x⟩
    obtain ⟨x, hx, hle⟩ := (maxOf_ge ops mx mx h).1 (Int.le_refl mx)
    exact ⟨by rw [Int.le_antisymm hle (hub x hx)]; exact hx, hub⟩
  refine ⟨bound m, fun ⟨hm, hb⟩ => ?_⟩
  cases h : maxOf ops with
  | none => cases ops with
    | nil => cases hm
    | cons a t => cases h
  | some mx =>
    obtain ⟨hmx, hbx⟩ := bound mx h
    rw [Int.le_antisymm (hb mx hmx) (hbx m hm)]

theorem cvVectorGo_get (ops : List Int) (i0 c pmax : Int) :
    ∀ (intfs : List Int) (mvs : List Bool) (ws : List Nat), cvVectorGo ops i0 c pmax intfs mvs = .ok ws →
    ws.length = intfs.length ∧
    ∀ (k : Nat) (m : Int), intfs[k]? = some m → ∃ (f : Bool) (w : Nat), mvs[k]? = some f ∧ ws[k]? = some w ∧
      (if f then computeWeight ops i0 m c true else .ok (if m ≤ pmax then 1 else 0)) = .ok w := by
  intro intfs
  induction intfs with
  | nil =>
    intro mvs ws h
    cases h
    exact ⟨rfl, fun k m hk => by simp at hk⟩
  | cons a is ih =>
    intro mvs ws h
    cases mvs with
    | nil => cases h
    | cons mv ms =>
      simp only [cvVectorGo] at h
      split at h
      · cases h
      rename_i w hw
      split at h
      · cases h
      rename_i ws' hws
      cases h
      obtain ⟨hlen, hrest⟩ := ih ms ws' hws
      refine ⟨by rw [List.length_cons, List.length_cons, hlen], fun k m hk => ?_⟩
      cases k with
      | zero =>
        cases hk
        exact ⟨mv, w, rfl, rfl, hw⟩
      | succ k => exact hrest k m hk

theorem cvVector_ok_inv {ops intfs : List Int} {mv : List Bool} {cap : Option Int} {ws : List Nat}
    (h : cvVector ops intfs mv cap = .ok ws) :
    ∃ pmax i0 ilast ws', maxOf ops = some pmax ∧ intfs.head? = some i0 ∧ intfs.getLast? = some ilast ∧
      cvVectorGo ops i0 (cap.getD ilast) pmax intfs.dropLast mv = .ok ws' ∧ ws = ws' ++ [0] := by
  unfold cvVector at h
  split at h
  · rename_i pmax i0 ilast hm hi hl
    simp only at h
    split at h
    · cases h
    · rename_i ws' hws
      cases h
      exact ⟨pmax, i0, ilast, ws', hm, hi, hl, by cases cap <;> exact hws, rfl⟩
  · cases h
  · cases h

/-- **`calc_cv_vector` entry by entry**: one entry per interface, the last one `0`; entry `k` of an interface
    `m` other than the last is `compute_weight` over `[m, cap)` (wire fencing; `cap` = `interface_cap`, else the
    last interface) or `1` iff the path reaches `m` (shooting) -/
theorem cvVector_get {ops intfs : List Int} {mvs : List Bool} {cap : Option Int} {ws : List Nat}
    (h : cvVector ops intfs mvs cap = .ok ws) :
    ∃ pmax i0 ilast, maxOf ops = some pmax ∧ intfs.head? = some i0 ∧ intfs.getLast? = some ilast ∧
      ws.length = intfs.length ∧ ws.getLast? = some 0 ∧
      ∀ (k : Nat) (m : Int), k + 1 < intfs.length → intfs[k]? = some m →
        ∃ (f : Bool) (w : Nat), mvs[k]? = some f ∧ ws[k]? = some w ∧
          (if f then computeWeight ops i0 m (cap.getD ilast) true else .ok (if m ≤ pmax then 1 else 0)) = .ok w := by
  obtain ⟨pmax, i0, ilast, ws', hm, hi, hl, hws, rfl⟩ := cvVector_ok_inv h
  obtain ⟨hlen, hget⟩ := cvVectorGo_get ops i0 _ pmax _ _ _ hws
  rw [List.length_dropLast] at hlen
  have hpos : 0 < intfs.length := List.length_pos_iff.mpr (by intro e; simp [e] at hi)
  refine ⟨pmax, i0, ilast, hm, hi, hl, by rw [List.length_append, hlen]; simp; omega, by simp, ?_⟩
  intro k m hk hkm
  obtain ⟨f, w, hf, hw, he⟩ := hget k m (by rw [List.getElem?_dropLast, if_pos (by omega)]; exact hkm)
  exact ⟨f, w, hf, by rw [List.getElem?_append_left (by omega)]; exact hw, he⟩

/-- `compute_weight` for `wf`: the scan weight, doubled iff start side ≠ end side
    (for a path defined on both ends: doubled exactly when it connects the two outer sides). -/
theorem computeWeight_wf (ops : List Int) (i0 i1 i2 : Int) (first last : Int) (h02 : i0 ≤ i2)
    (hf : ops.head? = some first) (hl : ops.getLast? = some last) :
    computeWeight ops i0 i1 i2 true =
      .ok (if sidesDiffer (startPoint i0 i2 first) (endPoint i0 i2 last)
           then 2 * weight i1 i2 ops else weight i1 i2 ops) := by
  unfold computeWeight
  simp [hf, hl, h02]
  split <;> rfl

/-- a wire-fencing entry is positive exactly when the scan weight is (it is the weight, or twice it) -/
theorem computeWeight_pos {ops : List Int} {i0 i1 i2 : Int} {w : Nat}
    (h : computeWeight ops i0 i1 i2 true = .ok w) : 0 < w ↔ 0 < weight i1 i2 ops := by
  unfold computeWeight at h
  simp only [↓reduceIte, Bool.and_true] at h
  split at h
  · split at h
    · split at h
      · cases h; omega
      · cases h; exact Iff.rfl
    · cases h
  · cases h

theorem countFrom_pos_iff (l r : Int) : ∀ (R L : List Int),
    0 < countFrom l r L R ↔
      ∃ pre x suf, R = pre ++ x :: suf ∧ validAt l r (pre.reverse ++ L) x suf = true := by
  intro R
  induction R with
  | nil => intro L; simp [countFrom]
  | cons y t ih =>
    intro L
    simp only [countFrom]
    constructor
    · intro h
      by_cases hv : validAt l r L y t = true
      · exact ⟨[], y, t, rfl, by simpa using hv⟩
      · have : 0 < countFrom l r (y :: L) t := by
          simp [hv] at h; exact h
        obtain ⟨pre, x, suf, he, hx⟩ := (ih (y :: L)).1 this
        exact ⟨y :: pre, x, suf, by simp [he], by simpa using hx⟩
    · rintro ⟨pre, x, suf, he, hx⟩
      cases pre with
      | nil =>
        simp at he
        obtain ⟨rfl, rfl⟩ := he
        simp at hx
        rw [if_pos hx]
        omega
      | cons z pre =>
        simp at he
        obtain ⟨rfl, rfl⟩ := he
        have : 0 < countFrom l r (y :: L) (pre ++ x :: suf) :=
          (ih (y :: L)).2 ⟨pre, x, suf, rfl, by simpa using hx⟩
        omega

/-- the weight is positive exactly when some frame lies inside `[l, r)` on a valid sub-path -/
theorem weight_pos_iff (l r : Int) (ops : List Int) :
    0 < weight l r ops ↔
      ∃ pre x suf, ops = pre ++ x :: suf ∧ validAt l r pre.reverse x suf = true := by
  rw [weight_eq_spec]
  unfold specWeight
  simpa using countFrom_pos_iff l r ops []

theorem firstOutside_some_of_mem (l r : Int) : ∀ (t : List Int) (q : Int),
    q ∈ t → inside l r q = false → ∃ p, firstOutside l r t = some p ∧ inside l r p = false := by
  intro t
  induction t with
  | nil => intro q h; simp at h
  | cons x t ih =>
    intro q hq hout
    simp only [firstOutside]
    by_cases hx : inside l r x = true
    · rw [if_pos hx]
      rcases List.mem_cons.1 hq with rfl | hq
      · rw [hout] at hx; cases hx
      · exact ih q hq hout
    · rw [if_neg hx]
      exact ⟨x, rfl, by simpa using hx⟩

/-- **first crossing inside the fence ⇒ non-zero weight**: every frame before `x` is below `l` (there is one),
    `x` lies in `[l, r)`, and the path ends outside `[l, r)`; then `x` is a frame on a valid sub-path -/
theorem weight_first_crossing_pos (l r : Int) (pre suf : List Int) (x last : Int)
    (hpre : pre ≠ []) (hbelow : ∀ y ∈ pre, y < l) (hx : l ≤ x ∧ x < r)
    (hlast : (pre ++ x :: suf).getLast? = some last) (hout : last < l ∨ r ≤ last) :
    0 < weight l r (pre ++ x :: suf) := by
  rw [weight_pos_iff]
  refine ⟨pre, x, suf, rfl, ?_⟩
  simp only [validAt, Bool.and_eq_true]
  refine ⟨(inside_iff l r x).2 hx, ?_⟩
  -- left context: the frame just before `x` is below `l`
  obtain ⟨p, hp, hpl⟩ : ∃ p, firstOutside l r pre.reverse = some p ∧ p < l := by
    obtain ⟨b, hb⟩ : ∃ b, pre.getLast? = some b := by
      cases h : pre.getLast? with
      | none => exact absurd (List.getLast?_eq_none_iff.1 h) hpre
      | some b => exact ⟨b, rfl⟩
    have hbm : b ∈ pre := List.mem_of_getLast? hb
    have hhead : pre.reverse.head? = some b := by rw [List.head?_reverse]; exact hb
    cases hr : pre.reverse with
    | nil => simp [hr] at hhead
    | cons y t =>
      simp only [hr, List.head?_cons, Option.some.injEq] at hhead
      subst hhead
      refine ⟨y, ?_, hbelow y hbm⟩
      simp only [firstOutside]
      rw [if_neg]
      have : inside l r y = false := (inside_false_iff l r y).2 (Or.inl (hbelow y hbm))
      simp [this]
  -- right context: the last frame is outside, so some outside frame follows `x`
  have hsuf : suf ≠ [] := by
    intro hs
    subst hs
    simp only [List.getLast?_append, List.getLast?_singleton, Option.some_or,
      Option.some.injEq] at hlast
    omega
  have hlastmem : last ∈ suf := by
    have : (pre ++ x :: suf).getLast? = suf.getLast? := by
      rw [show pre ++ x :: suf = (pre ++ [x]) ++ suf by simp]
      rw [List.getLast?_append]
      cases hs : suf.getLast? with
      | none => exact absurd (List.getLast?_eq_none_iff.1 hs) hsuf
      | some z => simp
    rw [this] at hlast
    exact List.mem_of_getLast? hlast
  obtain ⟨q, hq, _⟩ := firstOutside_some_of_mem l r suf last hlastmem
    ((inside_false_iff l r last).2 hout)
  rw [hp, hq]
  simp only [closes, Bool.not_eq_true', Bool.and_eq_false_iff, decide_eq_false_iff_not]
  left; omega

end Infretis.WF
