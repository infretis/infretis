import Infretis.Model.Geom
import Mathlib.Data.Rat.Floor
import Mathlib.Tactic.Ring
import Mathlib.Tactic.Linarith
import Mathlib.Tactic.FieldSimp
/-! `rint` (round half to even) as THE nearest integer, even at ties (`resid_cases`, `rint_unique`), and the
    periodic wrap `pbcWrap d L = L · resid (d / L)` under image shifts. -/
namespace Infretis.Geom

theorem rat_floor_eq (x : ℚ) : x.floor = ⌊x⌋ := rfl

theorem rabs_eq (x : ℚ) : rabs x = |x| := by
  unfold rabs
  split
  · rw [abs_of_neg (by assumption)]
  · rw [abs_of_nonneg (by linarith)]

/-- `x` lies exactly half-way between two integers (where `rint` decides by parity) -/
def IsTie (x : ℚ) : Prop := x - (⌊x⌋ : ℚ) = 1 / 2

/-- the rounding residual `x − rint x` -/
def resid (x : ℚ) : ℚ := x - ((rint x : ℤ) : ℚ)

theorem rint_def (x : ℚ) : rint x =
    if x - (⌊x⌋ : ℚ) < 1 / 2 then ⌊x⌋ else if 1 / 2 < x - (⌊x⌋ : ℚ) then ⌊x⌋ + 1
    else if ⌊x⌋ % 2 = 0 then ⌊x⌋ else ⌊x⌋ + 1 := rfl

theorem rint_cases (x : ℚ) :
    (x - (⌊x⌋ : ℚ) < 1 / 2 ∧ rint x = ⌊x⌋) ∨
    (1 / 2 < x - (⌊x⌋ : ℚ) ∧ rint x = ⌊x⌋ + 1) ∨
    (IsTie x ∧ ⌊x⌋ % 2 = 0 ∧ rint x = ⌊x⌋) ∨
    (IsTie x ∧ ⌊x⌋ % 2 = 1 ∧ rint x = ⌊x⌋ + 1) := by
  unfold IsTie
  rw [rint_def]
  by_cases h1 : x - (⌊x⌋ : ℚ) < 1 / 2
  · left; exact ⟨h1, by rw [if_pos h1]⟩
  · by_cases h2 : 1 / 2 < x - (⌊x⌋ : ℚ)
    · right; left; exact ⟨h2, by rw [if_neg h1, if_pos h2]⟩
    · have h3 : x - (⌊x⌋ : ℚ) = 1 / 2 := le_antisymm (not_lt.mp h2) (not_lt.mp h1)
      by_cases h4 : ⌊x⌋ % 2 = 0
      · right; right; left; exact ⟨h3, h4, by rw [if_neg h1, if_neg h2, if_pos h4]⟩
      · right; right; right
        have : ⌊x⌋ % 2 = 1 := by omega
        exact ⟨h3, this, by rw [if_neg h1, if_neg h2, if_neg h4]⟩

theorem fract_bounds (x : ℚ) : 0 ≤ x - (⌊x⌋ : ℚ) ∧ x - (⌊x⌋ : ℚ) < 1 := by
  constructor
  · linarith [Int.floor_le x]
  · linarith [Int.lt_floor_add_one x]

theorem resid_cases (x : ℚ) :
    (|resid x| < 1 / 2 ∧ ¬ IsTie x) ∨ (|resid x| = 1 / 2 ∧ IsTie x ∧ rint x % 2 = 0) := by
  have hb := fract_bounds x
  unfold resid IsTie
  rcases rint_cases x with ⟨h, e⟩ | ⟨h, e⟩ | ⟨h, p, e⟩ | ⟨h, p, e⟩ <;> rw [e]
  · exact .inl ⟨abs_lt.mpr ⟨by linarith, h⟩, ne_of_lt h⟩
  · exact .inl ⟨abs_lt.mpr ⟨by push_cast; linarith, by push_cast; linarith⟩, ne_of_gt h⟩
  · have h' : x - (⌊x⌋ : ℚ) = 1 / 2 := h
    exact .inr ⟨by rw [h']; norm_num, h, p⟩
  · have h' : x - ((⌊x⌋ + 1 : ℤ) : ℚ) = -(1 / 2) := by
      have : x - (⌊x⌋ : ℚ) = 1 / 2 := h
      push_cast; linarith
    exact .inr ⟨by rw [h']; norm_num, h, by omega⟩

theorem abs_resid_le (x : ℚ) : |resid x| ≤ 1 / 2 := by
  rcases resid_cases x with ⟨h, _⟩ | ⟨h, _⟩
  · exact le_of_lt h
  · exact le_of_eq h

theorem int_eq_of_near (m n : ℤ)
    (h : |(m : ℚ) - n| < 1 ∨ (|(m : ℚ) - n| ≤ 1 ∧ m % 2 = 0 ∧ n % 2 = 0)) : m = n := by
  -- the distance is that of the integers themselves
  rw [← Int.cast_sub, ← Int.cast_abs] at h
  have h' : |m - n| < 1 ∨ (|m - n| ≤ 1 ∧ m % 2 = 0 ∧ n % 2 = 0) := by exact_mod_cast h
  rcases h' with h | ⟨h, hm, hn⟩
  · rw [abs_lt] at h; omega
  · rw [abs_le] at h; omega

theorem rint_unique (x : ℚ) (n : ℤ) (h : |x - n| < 1 / 2 ∨ (|x - n| = 1 / 2 ∧ n % 2 = 0)) : rint x = n := by
  -- `rint x` and `n` are both within 1/2 of `x`: less than 1 apart, or exactly 1 apart at two ties — both even
  have hd : |(rint x : ℚ) - n| ≤ |resid x| + |x - n| := by
    have := abs_sub_le (rint x : ℚ) x n
    rwa [abs_sub_comm (rint x : ℚ) x] at this
  apply int_eq_of_near
  rcases resid_cases x with ⟨hr, _⟩ | ⟨hr, _, he⟩ <;> rcases h with h | ⟨h, hn⟩
  · exact .inl (by linarith)
  · exact .inl (by linarith)
  · exact .inl (by linarith)
  · exact .inr ⟨by linarith, he, hn⟩

theorem resid_add_int_eq (x : ℚ) (k : ℤ) : x + k - ((rint x + k : ℤ) : ℚ) = resid x := by
  unfold resid; push_cast; ring

theorem rint_add_int (x : ℚ) (k : ℤ) (h : ¬ IsTie x ∨ k % 2 = 0) : rint (x + k) = rint x + k := by
  apply rint_unique
  rw [resid_add_int_eq]
  rcases resid_cases x with ⟨hr, _⟩ | ⟨hr, ht, he⟩
  · exact .inl hr
  · exact .inr ⟨hr, by have := h.resolve_left (not_not.mpr ht); omega⟩

theorem resid_add_int (x : ℚ) (k : ℤ) (h : ¬ IsTie x ∨ k % 2 = 0) : resid (x + k) = resid x := by
  unfold resid; rw [rint_add_int x k h]; push_cast; ring

theorem isTie_add_int (x : ℚ) (k : ℤ) : IsTie (x + k) ↔ IsTie x := by
  unfold IsTie
  rw [Int.floor_add_intCast, Int.cast_add, add_sub_add_right_eq_sub]

/-- at a tie an *odd* integer shift flips the rounding direction -/
theorem resid_add_odd_of_tie (x : ℚ) (k : ℤ) (h : IsTie x) (hk : k % 2 = 1) :
    resid (x + k) = - resid x := by
  rcases resid_cases x with ⟨_, hn⟩ | ⟨hr, _, he⟩
  · exact absurd h hn
  rcases resid_cases (x + k) with ⟨_, hn⟩ | ⟨hr', _, he'⟩
  · exact absurd ((isTie_add_int x k).mpr h) hn
  rcases abs_eq_abs.mp (hr'.trans hr.symm) with e | e
  · -- equal residuals would make `rint (x + k) = rint x + k`, which is odd
    exfalso
    unfold resid at e
    have : ((rint (x + k) : ℤ) : ℚ) = ((rint x + k : ℤ) : ℚ) := by push_cast; linarith
    have : rint (x + k) = rint x + k := by exact_mod_cast this
    omega
  · exact e

theorem resid_add_int_sq (x : ℚ) (k : ℤ) : resid (x + k) * resid (x + k) = resid x * resid x := by
  by_cases h : IsTie x
  · rcases Int.emod_two_eq_zero_or_one k with hk | hk
    · rw [resid_add_int x k (.inr hk)]
    · rw [resid_add_odd_of_tie x k h hk]; ring
  · rw [resid_add_int x k (.inl h)]

/-- for a non-zero box length the `abs(d) > 0.5·L` guard is redundant:
    the wrapped component is `L · resid (d / L)` -/
theorem pbcWrap_eq (d L : ℚ) (hL : L ≠ 0) : pbcWrap d L = L * resid (d / L) := by
  unfold pbcWrap resid
  rw [rabs_eq]
  have hdiv : d * (1 / L) = d / L := by ring
  rw [hdiv]
  split
  · field_simp
  · rename_i hle
    have hle : |d| ≤ 1 / 2 * L := not_lt.mp hle
    have hpos : 0 < L := by
      rcases lt_or_gt_of_ne hL with h | h
      · have := abs_nonneg d; linarith
      · exact h
    -- |d/L| ≤ 1/2, so rint (d/L) = 0 (ties to even: ±1/2 ↦ 0)
    have hq : |d / L| ≤ 1 / 2 := by
      rw [abs_div, abs_of_pos hpos, div_le_iff₀ hpos]; linarith
    have hr : rint (d / L) = 0 := by
      apply rint_unique
      rw [Int.cast_zero, sub_zero]
      exact (lt_or_eq_of_le hq).imp_right (fun h => ⟨h, rfl⟩)
    rw [hr]; field_simp; simp

/-- **minimum image**: a wrapped component never exceeds half the box length -/
theorem abs_pbcWrap_le (d L : ℚ) (hL : 0 < L) : |pbcWrap d L| ≤ L / 2 := by
  rw [pbcWrap_eq d L (ne_of_gt hL), abs_mul, abs_of_pos hL]
  have := abs_resid_le (d / L)
  nlinarith

theorem pbcWrap_sq_le (d L : ℚ) (hL : 0 < L) : pbcWrap d L * pbcWrap d L ≤ L * L / 4 :=
  calc pbcWrap d L * pbcWrap d L = |pbcWrap d L| * |pbcWrap d L| := (abs_mul_abs_self _).symm
    _ ≤ L / 2 * (L / 2) := mul_self_le_mul_self (abs_nonneg _) (abs_pbcWrap_le d L hL)
    _ = L * L / 4 := by ring

/-- `d` is at a half-even tie of the box length `L`: `d / L` is a half-integer -/
def WrapTie (d L : ℚ) : Prop := IsTie (d / L)

theorem pbcWrap_shift_zero (d : ℚ) (k : ℤ) : pbcWrap (d + (k : ℚ) * 0) 0 = pbcWrap d 0 := by
  simp

/-- away from ties the wrapped component does not see image shifts (an axis of length 0 is never shifted) -/
theorem pbcWrap_shift_of_not_tie (d L : ℚ) (k : ℤ) (h : L ≠ 0 → ¬ WrapTie d L) :
    pbcWrap (d + (k : ℚ) * L) L = pbcWrap d L := by
  by_cases hL : L = 0
  · subst hL; exact pbcWrap_shift_zero d k
  · rw [pbcWrap_eq _ _ hL, pbcWrap_eq _ _ hL, ← div_add' d _ L hL, resid_add_int _ _ (.inl (h hL))]

theorem pbcWrap_shift_sq (d L : ℚ) (k : ℤ) :
    pbcWrap (d + (k : ℚ) * L) L * pbcWrap (d + (k : ℚ) * L) L = pbcWrap d L * pbcWrap d L := by
  by_cases hL : L = 0
  · subst hL; rw [pbcWrap_shift_zero]
  rw [pbcWrap_eq _ _ hL, pbcWrap_eq _ _ hL, ← div_add' d _ L hL]
  have := resid_add_int_sq (d / L) k
  calc L * resid (d / L + k) * (L * resid (d / L + k))
      = L * L * (resid (d / L + k) * resid (d / L + k)) := by ring
    _ = L * L * (resid (d / L) * resid (d / L)) := by rw [this]
    _ = _ := by ring

theorem compNan_shift (d L : ℚ) (k : ℤ) : compNan (d + (k : ℚ) * L) L = compNan d L := by
  unfold compNan
  by_cases h : L = 0
  · subst h; simp
  · simp [h]

end Infretis.Geom
