import Infretis.Model.ReadersObj
/-!
# Lemmas for C13: the data part of a TRR frame (`read_trr_data` / `get_data`)

Integer arithmetic on offsets only: which blocks are read, in which order, how many bytes each, where the
file pointer is afterwards — for every combination of the six presence fields and both precisions.
The reals themselves are not decoded (tie only).
-/
namespace Infretis.Readers

/-- a consistent header: a block that is announced (size field ≠ 0) has exactly the size of the reals
    `read_matrix` / `read_coord` will ask for (9 or natoms·3 reals of `fs` bytes) -/
def FieldsOK (fs : Nat) (ps : List (Nat × Int × Int)) : Prop :=
  ∀ p ∈ ps, p.2.1 = 0 ∨ (0 < p.2.2 ∧ p.2.1 = p.2.2 * (fs : Int))

/-- sum of the announced block sizes -/
def fieldsTotal : List (Nat × Int × Int) → Nat
  | [] => 0
  | p :: ps => p.2.1.toNat + fieldsTotal ps

/-- the announced blocks cut out of the payload, in the order of the fields -/
def sliceBlocks : List (Nat × Int × Int) → List Nat → List (Nat × List Nat)
  | [], _ => []
  | p :: ps, bs =>
    if p.2.1 = 0 then sliceBlocks ps bs
    else (p.1, bs.take p.2.1.toNat) :: sliceBlocks ps (bs.drop p.2.1.toNat)

theorem FieldsOK.tail {fs : Nat} {p : Nat × Int × Int} {ps : List (Nat × Int × Int)}
    (h : FieldsOK fs (p :: ps)) : FieldsOK fs ps := fun q hq => h q (by simp [hq])

theorem readReals_ok (bs : List Nat) (cnt : Int) (fs : Nat) (hfs : 0 < fs) (hc : 0 < cnt)
    (hlen : (cnt * (fs : Int)).toNat ≤ bs.length) :
    readReals bs cnt fs = .ok (bs.take (cnt * (fs : Int)).toNat, bs.drop (cnt * (fs : Int)).toNat) := by
  obtain ⟨n, rfl⟩ : ∃ n : Nat, cnt = (n : Int) := ⟨cnt.toNat, by omega⟩
  have hn : 0 < n := by omega
  have hmul : ((n : Int) * (fs : Int)).toNat = n * fs := by
    rw [← Int.natCast_mul]; rfl
  rw [hmul] at hlen ⊢
  have hpos : 0 < n * fs := Nat.mul_pos hn hfs
  have h1 : ¬ ((n : Int) < 0) := by omega
  have h2 : ¬ (n * fs = 0 ∨ bs.isEmpty = true) := by
    intro h
    rcases h with h | h
    · omega
    · have : bs = [] := by simpa using h
      rw [this] at hlen; simp at hlen; omega
  have h3 : ¬ (bs.length < n * fs) := by omega
  simp only [readReals, h1, if_false, Int.toNat_natCast, readN, h2, h3]

theorem readReals_short (bs : List Nat) (cnt : Int) (fs : Nat) (hc : 0 < cnt)
    (hlen : bs.length < (cnt * (fs : Int)).toNat) :
    readReals bs cnt fs = .error .eof ∨ readReals bs cnt fs = .error .struct := by
  obtain ⟨n, rfl⟩ : ∃ n : Nat, cnt = (n : Int) := ⟨cnt.toNat, by omega⟩
  have hmul : ((n : Int) * (fs : Int)).toNat = n * fs := by
    rw [← Int.natCast_mul]; rfl
  rw [hmul] at hlen
  have h1 : ¬ ((n : Int) < 0) := by omega
  simp only [readReals, h1, if_false, Int.toNat_natCast, readN]
  by_cases h2 : n * fs = 0 ∨ bs.isEmpty = true
  · left; rw [if_pos h2]
  · right; rw [if_neg h2, if_pos hlen]

theorem readBlocks_ok (fs : Nat) (hfs : 0 < fs) (ps : List (Nat × Int × Int)) (hok : FieldsOK fs ps)
    (bs : List Nat) (acc : List (Nat × List Nat)) (hlen : fieldsTotal ps ≤ bs.length) :
    readBlocks fs ps bs acc = ⟨.ok (acc ++ sliceBlocks ps bs), bs.drop (fieldsTotal ps)⟩ := by
  induction ps generalizing bs acc with
  | nil => simp [readBlocks, sliceBlocks, fieldsTotal]
  | cons p ps ih =>
    obtain ⟨key, sz, cnt⟩ := p
    simp only [fieldsTotal] at hlen
    rcases hok (key, sz, cnt) (by simp) with h0 | ⟨hc, hsz⟩
    · simp only [] at h0
      subst h0
      simp only [readBlocks, sliceBlocks, fieldsTotal, if_true, Int.toNat_zero, Nat.zero_add]
      exact ih hok.tail bs acc (by simpa using hlen)
    · simp only [] at hc hsz
      have hne : sz ≠ 0 := by rw [hsz]; exact Int.ne_of_gt (Int.mul_pos hc (by exact_mod_cast hfs))
      have hrd := readReals_ok bs cnt fs hfs hc (by rw [← hsz]; omega)
      rw [← hsz] at hrd
      simp only [readBlocks, sliceBlocks, fieldsTotal, hne, if_false, hrd]
      rw [ih hok.tail (bs.drop sz.toNat) (acc ++ [(key, bs.take sz.toNat)]) (by rw [List.length_drop]; omega)]
      simp [List.drop_drop]

/-- **a byte missing ⇒ no data returned**: `EOFError` (nothing left at a block start) or `struct.error`
    (a block cut in the middle) -/
theorem readBlocks_short (fs : Nat) (hfs : 0 < fs) (ps : List (Nat × Int × Int)) (hok : FieldsOK fs ps)
    (bs : List Nat) (acc : List (Nat × List Nat)) (hlen : bs.length < fieldsTotal ps) :
    (readBlocks fs ps bs acc).res = .error .eof ∨ (readBlocks fs ps bs acc).res = .error .struct := by
  induction ps generalizing bs acc with
  | nil => simp [fieldsTotal] at hlen
  | cons p ps ih =>
    obtain ⟨key, sz, cnt⟩ := p
    simp only [fieldsTotal] at hlen
    rcases hok (key, sz, cnt) (by simp) with h0 | ⟨hc, hsz⟩
    · simp only [] at h0
      subst h0
      simp only [readBlocks, if_true]
      exact ih hok.tail bs acc (by simpa using hlen)
    · simp only [] at hc hsz
      have hne : sz ≠ 0 := by rw [hsz]; exact Int.ne_of_gt (Int.mul_pos hc (by exact_mod_cast hfs))
      simp only [readBlocks, hne, if_false]
      by_cases hb : bs.length < sz.toNat
      · rcases readReals_short bs cnt fs hc (by rw [← hsz]; exact hb) with h | h <;> simp [h]
      · have hrd := readReals_ok bs cnt fs hfs hc (by rw [← hsz]; omega)
        rw [← hsz] at hrd
        simp only [hrd]
        exact ih hok.tail (bs.drop sz.toNat) _ (by rw [List.length_drop]; omega)

/-- the blocks returned are exactly the announced ones, in the order box vir pres x v f -/
theorem sliceBlocks_keys (ps : List (Nat × Int × Int)) (bs : List Nat) :
    (sliceBlocks ps bs).map Prod.fst = (ps.filter (fun p => decide (p.2.1 ≠ 0))).map Prod.fst := by
  induction ps generalizing bs with
  | nil => rfl
  | cons p ps ih =>
    by_cases h : p.2.1 = 0
    · simp [sliceBlocks, h, ih]
    · simp [sliceBlocks, h, ih]

theorem sliceBlocks_lengths (ps : List (Nat × Int × Int)) (bs : List Nat) (hlen : fieldsTotal ps ≤ bs.length) :
    (sliceBlocks ps bs).map (fun b => b.2.length)
      = (ps.filter (fun p => decide (p.2.1 ≠ 0))).map (fun p => p.2.1.toNat) := by
  induction ps generalizing bs with
  | nil => rfl
  | cons p ps ih =>
    simp only [fieldsTotal] at hlen
    by_cases h : p.2.1 = 0
    · simp only [sliceBlocks, h, if_true]
      rw [ih bs (by rw [h] at hlen; simpa using hlen)]
      simp [h]
    · simp only [sliceBlocks, h, if_false, List.map_cons]
      rw [ih (bs.drop p.2.1.toNat) (by rw [List.length_drop]; omega)]
      simp [h, List.length_take]
      omega

theorem sliceBlocks_append (ps : List (Nat × Int × Int)) (a b : List Nat) (hlen : fieldsTotal ps ≤ a.length) :
    sliceBlocks ps (a ++ b) = sliceBlocks ps a := by
  induction ps generalizing a with
  | nil => rfl
  | cons p ps ih =>
    simp only [fieldsTotal] at hlen
    by_cases h : p.2.1 = 0
    · simp only [sliceBlocks, h, if_true]
      exact ih a (by rw [h] at hlen; simpa using hlen)
    · simp only [sliceBlocks, h, if_false]
      rw [List.take_append_of_le_length (by omega), List.drop_append_of_le_length (by omega),
        ih (a.drop p.2.1.toNat) (by rw [List.length_drop]; omega)]

theorem fieldsTotal_eq_sum (fs : Nat) (ps : List (Nat × Int × Int)) (hok : FieldsOK fs ps) :
    0 ≤ (ps.map (fun (p : Nat × Int × Int) => p.2.1)).sum ∧ ((ps.map (fun (p : Nat × Int × Int) => p.2.1)).sum).toNat = fieldsTotal ps := by
  induction ps with
  | nil => simp [fieldsTotal]
  | cons p ps ih =>
    obtain ⟨h1, h2⟩ := ih hok.tail
    have hp : 0 ≤ p.2.1 := by
      rcases hok p (by simp) with h | ⟨hc, hsz⟩
      · omega
      · rw [hsz]; exact Int.mul_nonneg (by omega) (by omega)
    simp only [List.map_cons, List.sum_cons, fieldsTotal]
    refine ⟨by omega, ?_⟩
    omega

theorem dataSize_eq_sum (ints : List Int) :
    dataSize ints = ((dataFields ints).map (fun (p : Nat × Int × Int) => p.2.1)).sum := by
  simp [dataSize, dataFields]
  omega

theorem fieldsTotal_eq_dataSize (fs : Nat) (ints : List Int) (hok : FieldsOK fs (dataFields ints)) :
    fieldsTotal (dataFields ints) = (dataSize ints).toNat := by
  rw [dataSize_eq_sum, (fieldsTotal_eq_sum fs _ hok).2]

/-- `get_data` on a consistent header: **the data are returned iff all `data_size` bytes are there**; then
    exactly `data_size` bytes are consumed (so `bytes_read` and the file pointer stay together) and the blocks
    are the announced ones, cut at the announced offsets -/
theorem trrData_layout (h : THeader) (hok : FieldsOK (if h.double then 8 else 4) (dataFields h.ints))
    (bs : List Nat) :
    0 ≤ dataSize h.ints ∧
    ((dataSize h.ints).toNat ≤ bs.length →
        trrData h bs = ⟨.ok (sliceBlocks (dataFields h.ints) bs), bs.drop (dataSize h.ints).toNat⟩) ∧
    (bs.length < (dataSize h.ints).toNat →
        (trrData h bs).res = .error .eof ∨ (trrData h bs).res = .error .struct) := by
  obtain ⟨h1, h2⟩ := fieldsTotal_eq_sum _ _ hok
  rw [← dataSize_eq_sum] at h1 h2
  have hfs : 0 < (if h.double then 8 else 4) := by cases h.double <;> simp
  refine ⟨h1, ?_, ?_⟩
  · intro hl
    rw [h2] at hl ⊢
    have := readBlocks_ok _ hfs _ hok bs [] hl
    simpa [trrData] using this
  · intro hl
    rw [h2] at hl
    exact readBlocks_short _ hfs _ hok bs [] hl

end Infretis.Readers
