import Infretis.Lemmas.RepexC07Issue
/-!
# C07 — historical record: the restart path before the repairs 96833bd / ec057e1 / 147c104

Before the repairs `set_rgen()` built `SeedSequence(entropy = 0, n_children_spawned = cstep)` and
`pick_lock()` called it on EVERY call once no recorded job was left to re-issue.  `setRgenAsIs` /
`pickLockAsIs` reproduce that behaviour on the model's state (they are not part of the model the
tie runs; the current model follows the repaired code).  Consequences proved here, for every state:
two consecutive `pick_lock()` calls after a restart hand out the SAME streams, and the streams carry
entropy 0 whatever the configured seed.  Two later stages of the code are kept the same way:
`pickLockFreshOrd` (before 147c104 a re-issued job took a fresh ordinal) and `restoreAsIs17` (before 17a0342
the restart ignored the recorded counter).
-/
namespace Infretis.Repex

/-- pre-fix `set_rgen()`: `SeedSequence(entropy=0, n_children_spawned=cstep)` + saved stream state -/
def setRgenAsIs (s : St) (savedDraws : Nat) : St :=
  { s with entropy := 0, spawned := s.cstep, mainDraws := savedDraws }

/-- pre-fix `pick_lock()`: `set_rgen()` on every call with nothing left to re-issue; a re-issued job
    was not put back on record -/
def pickLockAsIs (s : St) (o : PickOutcome) (savedDraws : Nat) :
    Except Err (St × List Picked × List Draw) :=
  match s.locked0 with
  | [] => pick (if s.restarted then setRgenAsIs s savedDraws else s) o
  | (enss0, trajs0) :: rest =>
    match reissue { s with locked0 := rest } enss0 trajs0 with
    | .error er => .error er
    | .ok (s1, pairs) =>
      match mkPicked s1 pairs with
      | .error er => .error er
      | .ok ps => .ok ({ s1 with spawned := s1.spawned + 1 }, ps, [])

/-- as-is: after a restart, a `pick_lock()` with nothing to re-issue hands out the streams of
    ordinal `cstep` in the entropy-0 sequence, whatever was handed out before -/
theorem pickLockAsIs_streams {s s' : St} {o : PickOutcome} {d : Nat} {ps : List Picked}
    {ds : List Draw} (h0 : s.locked0 = []) (hr : s.restarted = true)
    (hp : pickLockAsIs s o d = .ok (s', ps, ds)) :
    StreamsAt 0 s.cstep ps ∧
      s'.cstep = s.cstep ∧ s'.locked0 = [] ∧ s'.restarted = true := by
  unfold pickLockAsIs at hp
  rw [h0] at hp
  simp only [hr, ↓reduceIte] at hp
  have hi := (pick_issue hp).1
  exact ⟨hi.streams, hi.cstep, by rw [(pick_touches hp).locked0]; exact h0, by rw [hi.restarted]; exact hr⟩

/-- **as-is collision, for every state**: two consecutive `pick_lock()` calls after a restart (two
    workers being started) give their jobs the same move stream and the same engine stream, entry by
    entry. -/
theorem pickLockAsIs_collide {s s1 s2 : St} {o1 o2 : PickOutcome} {d1 d2 : Nat}
    {ps1 ps2 : List Picked} {ds1 ds2 : List Draw} (h0 : s.locked0 = []) (hr : s.restarted = true)
    (hp1 : pickLockAsIs s o1 d1 = .ok (s1, ps1, ds1))
    (hp2 : pickLockAsIs s1 o2 d2 = .ok (s2, ps2, ds2)) :
    ∀ (j : Nat) (p q : Picked), ps1[j]? = some p → ps2[j]? = some q →
      p.rgen = q.rgen ∧ p.rgenEng = q.rgenEng := by
  obtain ⟨a1, a2, a3, a4⟩ := pickLockAsIs_streams h0 hr hp1
  obtain ⟨b1, _⟩ := pickLockAsIs_streams a3 a4 hp2
  intro j p q hp hq
  obtain ⟨e1, e2⟩ := a1 j p hp
  obtain ⟨f1, f2⟩ := b1 j q hq
  rw [a2] at f1 f2
  exact ⟨e1.trans f1.symm, e2.trans f2.symm⟩

/-! ### between ec057e1 / 5ba2c24 and 147c104: a re-issued job took a FRESH ordinal -/

/-- the re-issue branch of `pick_lock()` as it was before 147c104: the recorded job gets a fresh
    child (the counter advances) and goes back on record, without its ordinal -/
def pickLockFreshOrd (s : St) (o : PickOutcome) (savedDraws : Nat) :
    Except Err (St × List Picked × List Draw) :=
  match s.locked0 with
  | [] => pick (restoreStreamOnce s savedDraws) o
  | (enss0, trajs0) :: rest =>
    match reissue { s with locked0 := rest } enss0 trajs0 with
    | .error er => .error er
    | .ok (s1, pairs) =>
      match mkPicked s1 pairs with
      | .error er => .error er
      | .ok ps =>
        let entry : List Int × List Nat := (enss0.map (fun (e : Nat) => ((e : Int) - (off : Int))), trajs0)
        .ok ({ s1 with spawned := s1.spawned + 1, locked := s1.locked ++ [entry] }, ps, [])

/-- **why the chain broke before 147c104, for every state**: a restart restores
    `spawned = cstep + #locked0`; each as-is re-issue advances the counter AND keeps the job on record,
    so the surplus `spawned − (cstep + #locked + #locked0)` grows by one per re-issued job — the next
    `set_rgen()` (`cstep + len(locked)`) under-counts by the number of re-issued jobs and ordinals
    are handed out twice. -/
theorem reissue_freshOrd_undercounts {s s' : St} {o : PickOutcome} {d : Nat} {ps : List Picked}
    {ds : List Draw} (hne : s.locked0 ≠ []) (hp : pickLockFreshOrd s o d = .ok (s', ps, ds)) :
    s'.spawned + (s.cstep + s.locked.length + s.locked0.length)
      = s.spawned + (s'.cstep + s'.locked.length + s'.locked0.length) + 1 ∧
    StreamsAt s.entropy s.spawned ps := by
  unfold pickLockFreshOrd at hp
  split at hp
  · rename_i h; exact absurd h hne
  rename_i enss0 trajs0 rest hl0
  split at hp
  · cases hp
  rename_i s1 pairs hre
  split at hp
  · cases hp
  rename_i ps1 hmk
  simp only [Except.ok.injEq, Prod.mk.injEq] at hp
  obtain ⟨rfl, rfl, _⟩ := hp
  have q := reissue_touches hre
  have hst := mkPicked_streams hmk
  refine ⟨?_, ?_⟩
  · show s1.spawned + 1 + _ = s.spawned + (s1.cstep + (s1.locked ++ _).length + s1.locked0.length) + 1
    rw [q.spawned, q.cstep, q.locked, q.locked0, hl0]
    simp only [List.length_append, List.length_cons, List.length_nil]
    omega
  · intro j p hp'
    have := hst j p hp'
    rw [q.entropy, q.spawned] at this
    exact this

/-! ### before 17a0342: the counter was always restored as `cstep + #records` -/

/-- the restart before 17a0342: `set_rgen()` ignores what `write_toml` knew about the counter -/
def restoreAsIs17 (im : Image) (n workers tsteps : Nat) (occ : List (List Int)) (ensEng : List (List Nat))
    (weightOf : Nat → List Rat) : Except Err St :=
  restore { im with spawnedRec := none } n workers tsteps occ ensEng weightOf

/-- as-is, for every image: the restored counter is `cstep + #records`, which is below the true
    counter as soon as a record was dropped (or re-issued under a fresh ordinal) before the stop -/
theorem restoreAsIs17_counter {im : Image} {n workers tsteps : Nat} {occ : List (List Int)}
    {ensEng : List (List Nat)} {weightOf : Nat → List Rat} {s' : St}
    (h : restoreAsIs17 im n workers tsteps occ ensEng weightOf = .ok s') :
    s'.spawned = im.cstep + im.locked.length := by
  unfold restoreAsIs17 at h
  exact (restore_spec h).2.2.1

end Infretis.Repex
