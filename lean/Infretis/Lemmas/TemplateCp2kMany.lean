import Infretis.Lemmas.TemplateCp2k
/-!
The whole update loop of `update_cp2k_input` (`applyUpdates`, one `update_node` per entry of the `update` dict, in dict
order), composed from the single-entry theorems of `Lemmas/TemplateCp2k.lean`.  One `update_node` keeps `RefOk`, `RefInj`
and is a `Grow` step whose only changed node is the one its target names, and it settles its entry (`Settled`); so after
the loop every entry is settled, hence a second run of the loop returns the same state (`C19.cp2k_edit_many_idempotent`:
entries with distinct targets, each a replace-with-lines or a merge of a dict with token keys).
-/
namespace Infretis.Cp2k

theorem nodeStep_frame (u : Upd) (n n' : Node) (hd : n'.data = n.data) (hs : n'.settings = n.settings) :
    nodeStep u n' = (nodeStep u n).map (fun m => { n' with data := m.data, settings := m.settings }) := by
  unfold nodeStep
  rw [hd, hs]
  split
  · rfl
  · cases mergeData u n.data <;> rfl

theorem nodeStep_keeps (u : Upd) (n n' : Node) (h : nodeStep u n = .ok n') :
    n'.title = n.title ∧ n'.parent = n.parent ∧ n'.level = n.level ∧ n'.children = n.children := by
  have e := nodeStep_frame u n n rfl rfl
  rw [h] at e
  rw [Except.ok.inj e]
  exact ⟨rfl, rfl, rfl, rfl⟩

theorem nodeStep_congr (u : Upd) (n n' : Node) (hd : n'.data = n.data) (hs : n'.settings = n.settings)
    (h : nodeStep u n = .ok n) : nodeStep u n' = .ok n' := by
  rw [nodeStep_frame u n n' hd hs, h]
  simp only [Except.map, ← hd, ← hs]

theorem updateNode_step (u : Upd) (st st1 : St) (hwf : RefOk st) (hinj : RefInj st)
    (h : updateNode u st = .ok st1) :
    RefOk st1 ∧ RefInj st1 ∧ Grow st st1 (dget u.target st.ref).toList := by
  cases href : dget u.target st.ref with
  | some i =>
    obtain ⟨n, n', hn, hs, rfl⟩ := updateNode_present_ok u st st1 i href h
    obtain ⟨k1, k2, k3, k4⟩ := nodeStep_keeps u n n' hs
    have hi : i < st.arena.length := getElem?_lt_of_some hn
    refine ⟨?_, hinj, ?_⟩
    · intro k v hk
      have := hwf k v hk
      simpa using this
    · refine ⟨by simp, ?_, List.prefix_refl _, fun _ _ hk => hk, ?_⟩
      · intro j a ha
        by_cases e : i = j
        · subst e
          rw [hn] at ha; injection ha with ha; subst ha
          refine ⟨n', by simp [hi], k1, k2, k3, by rw [k4]; exact List.prefix_refl _, ?_⟩
          intro hj; exact absurd (by simp) hj
        · exact ⟨a, by simp [e, ha], rfl, rfl, rfl, List.prefix_refl _, fun _ => ⟨rfl, rfl⟩⟩
      · intro k v hk hnone; simp only at hk; rw [hnone] at hk; cases hk
  | none =>
    obtain ⟨st', h1', hwf', hg, hinj', -, -⟩ := updateNode_absent u st hwf href
    cases h.symm.trans h1'
    exact ⟨hwf', hinj' hinj, hg⟩

theorem settled_step (u u' : Upd) (st st1 : St) (hwf : RefOk st) (hinj : RefInj st)
    (hne : u'.target ≠ u.target) (hs : Settled u st) (h : updateNode u' st = .ok st1) : Settled u st1 := by
  obtain ⟨_, _, hg⟩ := updateNode_step u' st st1 hwf hinj h
  obtain ⟨i, n, href, hn, hstep⟩ := hs
  obtain ⟨b, hb, _, _, _, _, e5⟩ := hg.nodes i n hn
  have hi : i ∉ (dget u'.target st.ref).toList := by
    intro m
    cases h' : dget u'.target st.ref with
    | none => rw [h'] at m; simp at m
    | some i' =>
      rw [h'] at m
      simp only [Option.toList_some, List.mem_singleton] at m
      subst m
      exact hne (hinj _ _ _ h' href)
  obtain ⟨es, ed⟩ := e5 hi
  exact ⟨i, b, hg.ref _ _ href, hb, nodeStep_congr u n b ed es hstep⟩

theorem applyUpdates_cons_ok {u : Upd} {us : List Upd} {st st' : St} (h : applyUpdates (u :: us) st = .ok st') :
    ∃ st1, updateNode u st = .ok st1 ∧ applyUpdates us st1 = .ok st' := by
  simp only [applyUpdates] at h
  cases h1 : updateNode u st with
  | error e => simp [h1] at h
  | ok st1 => exact ⟨st1, rfl, by simpa [h1] using h⟩

/-- invariant of the loop: every entry already applied is settled -/
theorem applyUpdates_settles : ∀ (us : List Upd) (done : List Upd) (st st' : St), RefOk st → RefInj st →
    (∀ u ∈ done, Settled u st) → (∀ u ∈ us, Guard u) → (us.map (·.target)).Nodup →
    (∀ u ∈ us, ∀ d ∈ done, u.target ≠ d.target) → applyUpdates us st = .ok st' →
    ∀ u, u ∈ done ∨ u ∈ us → Settled u st' := by
  intro us
  induction us with
  | nil =>
    intro done st st' _ _ hd _ _ _ h
    cases Except.ok.inj h
    exact fun u hu => hu.elim (hd u) (fun hu => by cases hu)
  | cons u us ih =>
    intro done st st' hwf hinj hd hg hnd hdis h
    obtain ⟨st1, h1, h⟩ := applyUpdates_cons_ok h
    obtain ⟨hwf1, hinj1, _⟩ := updateNode_step u st st1 hwf hinj h1
    simp only [List.map_cons, List.nodup_cons] at hnd
    have hd1 : ∀ x ∈ u :: done, Settled x st1 := by
      intro x hx
      rcases List.mem_cons.1 hx with e | hx
      · subst e; exact settle x st st1 hwf (hg x (by simp)) h1
      · exact settled_step x u st st1 hwf hinj (hdis u (by simp) x hx) (hd x hx) h1
    have hdis1 : ∀ x ∈ us, ∀ d ∈ u :: done, x.target ≠ d.target := by
      intro x hx d hdm
      rcases List.mem_cons.1 hdm with e | hdm
      · subst e
        intro e'
        exact hnd.1 (List.mem_map.2 ⟨x, hx, e'⟩)
      · exact hdis x (List.mem_cons_of_mem _ hx) d hdm
    have c := ih (u :: done) st1 st' hwf1 hinj1 hd1 (fun x hx => hg x (List.mem_cons_of_mem _ hx)) hnd.2 hdis1 h
    intro x hx
    apply c x
    rcases hx with hx | hx
    · exact Or.inl (List.mem_cons_of_mem _ hx)
    · exact (List.mem_cons.1 hx).imp (fun e => by subst e; exact List.mem_cons_self) id

theorem applyUpdates_fix : ∀ (us : List Upd) (st : St), (∀ u ∈ us, Settled u st) → applyUpdates us st = .ok st := by
  intro us
  induction us with
  | nil => intro st _; rfl
  | cons u us ih =>
    intro st h
    simp only [applyUpdates, (h u (by simp)).fix]
    exact ih st (fun x hx => h x (List.mem_cons_of_mem _ hx))

/-- **edit_exact (CP2K), the whole update loop.**  Whatever the entries are: nothing is lost (every node keeps
    title, parent, level; children and roots only grow; every key keeps its node; new keys name new nodes), and a
    node of the template keeps its settings and data unless an entry's target names it. -/
theorem cp2k_edit_many_exact : ∀ (us : List Upd) (st st' : St), RefOk st → RefInj st →
    applyUpdates us st = .ok st' →
    RefOk st' ∧ RefInj st' ∧ Grow st st' (us.filterMap (fun u => dget u.target st.ref)) := by
  intro us
  induction us with
  | nil =>
    intro st st' hwf hinj h
    simp only [applyUpdates] at h
    injection h with h; subst h
    exact ⟨hwf, hinj, Grow.refl st⟩
  | cons u us ih =>
    intro st st' hwf hinj h
    obtain ⟨st1, h1, h⟩ := applyUpdates_cons_ok h
    obtain ⟨hwf1, hinj1, hg1⟩ := updateNode_step u st st1 hwf hinj h1
    obtain ⟨a, b, hg2⟩ := ih st1 st' hwf1 hinj1 h
    refine ⟨a, b, ?_⟩
    have := Grow.trans hg1 hg2 (T'' := us.filterMap (fun u => dget u.target st.ref)) (by
      intro j hj hlt
      obtain ⟨x, hx, hxj⟩ := List.mem_filterMap.1 hj
      refine List.mem_filterMap.2 ⟨x, hx, ?_⟩
      cases hst : dget x.target st.ref with
      | none =>
        have := hg1.fresh _ _ hxj hst
        omega
      | some w =>
        have := hg1.ref _ _ hst
        rw [hxj] at this
        exact this.symm)
    refine this.mono ?_
    intro j hj
    rcases List.mem_append.1 hj with hj | hj
    · cases hu : dget u.target st.ref with
      | none => rw [hu] at hj; simp at hj
      | some w =>
        rw [hu] at hj
        simp only [Option.toList_some, List.mem_singleton] at hj
        subst hj
        simp [hu]
    · simp only [List.filterMap_cons]
      cases hu : dget u.target st.ref with
      | none => simpa using hj
      | some w => simp [hj]

theorem fmtEntry_mem_mergeSpec (data : List (Str × Option Str)) (old : List Str) (hok : DataOk data)
    (kv : Str × Option Str) (hkv : kv ∈ data) : fmtEntry kv ∈ mergeSpec data old := by
  unfold mergeSpec
  by_cases h : kv.1 ∈ lineKeys old
  · obtain ⟨l, hl, hft⟩ := List.mem_filterMap.1 h
    apply List.mem_append_left
    refine List.mem_map.2 ⟨l, hl, ?_⟩
    have hd : dget kv.1 data = some kv.2 := dget_of_mem_nodup kv.1 kv.2 data hkv hok.nodup
    simp [rewriteLine, hft, hd]
  · apply List.mem_append_right
    exact List.mem_map.2 ⟨kv, List.mem_filter.2 ⟨hkv, by simpa using h⟩, rfl⟩

theorem Settled.replace_data {u : Upd} {st : St} (hs : Settled u st) (hr : u.replace = true) :
    ∃ i n, dget u.target st.ref = some i ∧ st.arena[i]? = some n ∧ n.data = u.data.map (·.1) := by
  obtain ⟨i, n, href, hn, hstep⟩ := hs
  refine ⟨i, n, href, hn, ?_⟩
  simp only [nodeStep, hr, if_true] at hstep
  injection hstep with hstep
  have := congrArg Node.data hstep
  simpa using this.symm

theorem Settled.merge_data {u : Upd} {st : St} (hs : Settled u st) (hr : u.replace = false) (hl : u.isList = false)
    (hok : DataOk u.data) :
    ∃ i n, dget u.target st.ref = some i ∧ st.arena[i]? = some n ∧ ∀ kv ∈ u.data, fmtEntry kv ∈ n.data := by
  obtain ⟨i, n, href, hn, hstep⟩ := hs
  refine ⟨i, n, href, hn, ?_⟩
  simp only [nodeStep, hr, Bool.false_eq_true, if_false] at hstep
  cases hm : mergeData u n.data with
  | error e => simp [hm] at hstep
  | ok nd =>
    simp only [hm] at hstep
    injection hstep with hstep
    have hnd : nd = n.data := by have := congrArg Node.data hstep; simpa using this
    intro kv hkv
    rw [← hnd, (mergeData_ok_spec u n.data nd hl hm).2]
    exact fmtEntry_mem_mergeSpec u.data n.data hok kv hkv

/-! ### `write_for_run_vel` -/

theorem listData_none (ls : List Str) : ∀ kv ∈ listData ls, kv.2 = none := by
  intro kv h
  obtain ⟨l, _, rfl⟩ := List.mem_map.1 h
  rfl

theorem listData_fst (ls : List Str) : (listData ls).map (·.1) = ls := by
  simp [listData, List.map_map, Function.comp_def]

theorem dataOk_of (data : List (Str × Option Str)) (ks : List Str) (hk : data.map (·.1) = ks) (h1 : ks.Nodup)
    (h2 : ∀ k ∈ ks, k ≠ [] ∧ ∀ c ∈ k, isWs c = false) : DataOk data :=
  ⟨by rw [hk]; exact h1, fun kv hkv => h2 kv.1 (by rw [← hk]; exact List.mem_map.2 ⟨kv, hkv, rfl⟩)⟩

theorem wfrVel_targets (name timestep posfile : Str) (nsteps subcycles : Int) (pf : Option Int)
    (vel : List (Str × Str × Str)) :
    (wfrVelUpdates name timestep posfile nsteps subcycles pf vel).map (·.target) =
      ["GLOBAL".toList, "MOTION->MD".toList, "MOTION->PRINT->RESTART".toList, "MOTION->PRINT->RESTART->EACH".toList,
       "MOTION->PRINT->VELOCITIES->EACH".toList, "MOTION->PRINT->TRAJECTORY->EACH".toList,
       "FORCE_EVAL->SUBSYS->TOPOLOGY".toList, "FORCE_EVAL->SUBSYS->VELOCITY".toList,
       "FORCE_EVAL->DFT->SCF->PRINT->RESTART".toList] := by
  simp only [wfrVelUpdates, List.map_cons, List.map_nil]

theorem wfrVel_nodup (name timestep posfile : Str) (nsteps subcycles : Int) (pf : Option Int)
    (vel : List (Str × Str × Str)) :
    ((wfrVelUpdates name timestep posfile nsteps subcycles pf vel).map (·.target)).Nodup := by
  rw [wfrVel_targets]; str_lits; decide +kernel

theorem wfrVel_md_dataOk (a b : Option Str) : DataOk [("STEPS".toList, a), ("TIMESTEP".toList, b)] :=
  dataOk_of _ ["STEPS".toList, "TIMESTEP".toList] rfl (by str_lits; decide +kernel) (by str_lits; decide +kernel)

theorem wfrVel_guard (name timestep posfile : Str) (nsteps subcycles : Int) (pf : Option Int)
    (vel : List (Str × Str × Str)) :
    ∀ u ∈ wfrVelUpdates name timestep posfile nsteps subcycles pf vel, Guard u := by
  intro u hu
  have hMD : ∀ v, DataOk [("MD".toList, v)] := fun _ =>
    dataOk_of _ ["MD".toList] rfl (by str_lits; decide +kernel) (by str_lits; decide +kernel)
  simp only [wfrVelUpdates, List.mem_cons, List.not_mem_nil, or_false] at hu
  rcases hu with rfl | rfl | rfl | rfl | rfl | rfl | rfl | rfl | rfl
  · exact Or.inl ⟨rfl, listData_none _⟩
  · exact Or.inr ⟨rfl, rfl, wfrVel_md_dataOk _ _⟩
  · exact Or.inl ⟨rfl, listData_none _⟩
  · exact Or.inr ⟨rfl, rfl, hMD _⟩
  · exact Or.inr ⟨rfl, rfl, hMD _⟩
  · exact Or.inr ⟨rfl, rfl, hMD _⟩
  · exact Or.inr ⟨rfl, rfl, dataOk_of _ ["COORD_FILE_NAME".toList, "COORD_FILE_FORMAT".toList] rfl
      (by str_lits; decide +kernel) (by str_lits; decide +kernel)⟩
  · exact Or.inl ⟨rfl, listData_none _⟩
  · exact Or.inl ⟨rfl, listData_none _⟩

theorem refInj_of_nodup (st : St) (h : (st.ref.map (·.2)).Nodup) : RefInj st := fun k k' v h1 h2 =>
  congrArg Prod.fst (inj_of_nodup_map (·.2) h _ (dget_some_mem k v _ h1) _ (dget_some_mem k' v _ h2) rfl)

theorem stMD_inv : RefOk stMD ∧ RefInj stMD :=
  ⟨stMD_refOk, refInj_of_nodup stMD (by decide)⟩

/-- what `write_for_run_vel` writes for the template `tplMD` (`&MOTION / &MD / STEPS 10`), two atoms, 7 × 3 steps,
    `print_freq` None: every missing section is created, `STEPS` rewritten in place, `TIMESTEP` appended -/
def outRun : Str :=
  "&MOTION\n  &MD\n    STEPS 21\n    TIMESTEP 0.25\n  &END MD\n  &PRINT\n    &RESTART\n      BACKUP_COPIES 0\n      &EACH\n        MD 3\n      &END EACH\n    &END RESTART\n    &VELOCITIES\n      &EACH\n        MD 3\n      &END EACH\n    &END VELOCITIES\n    &TRAJECTORY\n      &EACH\n        MD 3\n      &END EACH\n    &END TRAJECTORY\n  &END PRINT\n&END MOTION\n\n&GLOBAL\n  PROJECT md_step\n  RUN_TYPE MD\n  PRINT_LEVEL LOW\n&END GLOBAL\n\n&FORCE_EVAL\n  &SUBSYS\n    &TOPOLOGY\n      COORD_FILE_NAME conf.xyz\n      COORD_FILE_FORMAT xyz\n    &END TOPOLOGY\n    &VELOCITY\n      0.5 -0.25 1e-05\n      0.0 0.0 -0.0\n    &END VELOCITY\n  &END SUBSYS\n  &DFT\n    &SCF\n      &PRINT\n        &RESTART\n          BACKUP_COPIES 0\n        &END RESTART\n      &END PRINT\n    &END SCF\n  &END DFT\n&END FORCE_EVAL\n".toList

def velRun : List (Str × Str × Str) :=
  [("0.5".toList, "-0.25".toList, "1e-05".toList), ("0.0".toList, "0.0".toList, "-0.0".toList)]

end Infretis.Cp2k
