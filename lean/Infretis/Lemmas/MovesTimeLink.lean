import Infretis.Lemmas.MovesTime
import Infretis.Lemmas.MovesWfA
import Infretis.Lemmas.MovesShoot
/-!
C09 "ordered in time", the link: wherever an order-value move accepts, the frame-level function of
`Model/MovesTime.lean` is defined, its frames carry exactly the order values of the returned path, and they lie on one
trajectory in the direction of the path (`Lined`) — stage by stage: `shootT`, `wfJumpsT`, `extenderT`, `subtT`,
`wireFencingT`.
-/
namespace Infretis.Moves

def opsOf (fs : List TFrame) : List Int := fs.map (·.op)

theorem opsOf_engineGo (tr : Nat) (v0 : Int) (d : Bool) : ∀ (ops : List Int) (t : Int),
    opsOf (engineGo tr v0 d t ops) = ops
  | [], _ => rfl
  | x :: xs, t => by
    simp only [engineGo, opsOf, List.map_cons, List.cons.injEq, true_and]
    exact opsOf_engineGo tr v0 d xs (t + v0)

theorem opsOf_engineT (s : TFrame) (d : Bool) (ops : List Int) : opsOf (engineT s d ops) = ops :=
  opsOf_engineGo _ _ _ _ _

theorem opsOf_pasteT (b f : List TFrame) (M : Nat) : opsOf (pasteT b f M) = paste (opsOf b) (opsOf f) M := by
  rw [paste_take]
  simp [opsOf, pasteT, List.map_take, List.map_reverse, List.map_tail]

theorem opsOf_reverseT (fs : List TFrame) : opsOf (reverseT fs) = (opsOf fs).reverse := by
  simp [opsOf, reverseT, List.map_reverse, flipRev, Function.comp_def]

theorem opsOf_head (fs : List TFrame) : (opsOf fs).head? = fs.head?.map (·.op) := by
  cases fs <;> simp [opsOf]

theorem opsOf_getLast (fs : List TFrame) : (opsOf fs).getLast? = fs.getLast?.map (·.op) := by
  simp [opsOf, List.getLast?_map]

theorem shootT_of_legs {v : Variant} {i : ShootIn} {maxlen : Nat} {d2 : List Draw} {pb : List Int} {uB : Nat} {e : Int}
    {pf : List Int} {okF : Bool} {uF : Nat} (F : ForwLeg v i maxlen d2 pb uB e pf okF uF) (K : TFrame) :
    shootT v i K = some (pasteT (engineT K true pb) (engineT K false pf) i.maxlength) := by
  have g1 : (1 : Int) < (i.old.length : Int) - 1 := by have := F.len; omega
  have g2 : 1 ≤ i.idx ∧ (i.idx : Int) < (i.old.length : Int) - 1 := by have := F.idx1; have := F.idx2; omega
  have g3 : ¬ i.r < i.l := by have := F.lr; omega
  unfold shootT
  simp only [g1, g2, F.kick1, F.kick2, F.draw, F.back, g3, F.last, F.side, F.forw, not_true_eq_false, and_self,
    if_false, Bool.true_eq_false]

theorem shootT_of_acc (v : Variant) (i : ShootIn) (o : ShootOut) (K : TFrame) (h : shoot v i = .ok o)
    (ha : o.accept = true) : ∃ fs, shootT v i K = some fs ∧ opsOf fs = o.trial ∧ Lined fs := by
  obtain ⟨maxlen, d2, pb, uB, e, pf, uF, F, _, rfl⟩ := shoot_acc_inv v i o h ((shoot_accept_status v i o h).1 ha)
  exact ⟨_, shootT_of_legs F K, by rw [opsOf_pasteT, opsOf_engineT, opsOf_engineT]; rfl,
    K.traj, K.u, _, pasteT_line K.traj K.u K.t _ _ _ (engineT_backward K pb) (engineT_forward K pf)⟩

/-- the frames of the picked segment are arbitrary: frames and order values agree only once a jump was accepted -/
theorem wfJumpsT_of_ok (v : Variant) (i : WfIn) : ∀ (n : Nat) (js : List WfJump) (krevs : List Bool) (seg : List Int)
    (tor : Int) (segT : List TFrame) (succ c : Nat) (d : List Draw) (seg' : List Int) (to' : Int) (succ' : Nat)
    (d' : List Draw),
    (succ ≠ 0 → opsOf segT = seg ∧ Lined segT) → wfJumps v i n js seg tor succ d = .ok (seg', to', succ', d') →
    ∃ segT', wfJumpsT v i n js krevs seg tor segT succ c = some (segT', succ') ∧
      (succ' ≠ 0 → opsOf segT' = seg' ∧ Lined segT')
  | 0, _, _, _, _, segT, _, _, _, _, _, _, _, hinv, h => by
    simp only [wfJumps, Except.ok.injEq, Prod.mk.injEq] at h
    obtain ⟨e1, _, e3, _⟩ := h
    subst e1 e3
    exact ⟨segT, rfl, hinv⟩
  | _ + 1, [], _, _, _, _, _, _, _, _, _, _, _, _, h => by simp [wfJumps] at h
  | n + 1, j :: js, krevs, seg, tor, segT, succ, c, d, seg', to', succ', d', hinv, h => by
    simp only [wfJumps] at h
    simp only [wfJumpsT]
    cases hs : shoot v (subShootIn i seg tor j) with
    | error e => rw [hs] at h; cases h
    | ok o =>
      rw [hs] at h
      simp only at h ⊢
      by_cases ha : o.accept = true
      · simp only [ha, if_true] at h ⊢
        obtain ⟨fs, hfs, hops⟩ := shootT_of_acc v _ o (kickFrame j.kick (c + 1) (krevs.headD false)) hs ha
        rw [hfs]
        exact wfJumpsT_of_ok v i n js krevs.tail o.trial o.timeOrigin fs (succ + 1) (c + 1) _ _ _ _ _
          (fun _ => hops) h
      · simp only [ha] at h ⊢
        exact wfJumpsT_of_ok v i n js krevs.tail seg tor segT succ (c + 1) _ _ _ _ _ hinv h

theorem extenderT_forw (v : Variant) (i : WfIn) (t1 : List Int) (t1T : List TFrame) (last : Int) (t : List Int)
    (hops : opsOf t1T = t1) (hl : Lined t1T) (hlast : t1.getLast? = some last) (hF : ExtForw v i t1 last t) :
    ∃ r, (match t1.getLast?, t1T.getLast? with
        | some last, some fl =>
          if i.l ≤ last ∧ last < i.r then
            match feedV v i.l i.r (some i.maxlength) [] (last :: i.extForw) 0 with
            | none => none
            | some (pf, _, _) => some (t1T.dropLast ++ engineT fl false pf)
          else some t1T
        | _, _ => none) = some r ∧ opsOf r = t ∧ Lined r := by
  subst hops
  rw [opsOf_getLast] at hlast
  cases hfl : t1T.getLast? with
  | none => rw [hfl] at hlast; cases hlast
  | some fl =>
    rw [hfl] at hlast
    obtain rfl : fl.op = last := by simpa using hlast
    simp only [opsOf_getLast, hfl, Option.map_some]
    cases hF with
    | @run pf okF uF hin hf =>
      simp only [hin, and_self, if_true, hf]
      refine ⟨_, rfl, ?_, lined_extend _ fl pf hl hfl⟩
      simp only [opsOf, List.map_append, List.map_dropLast]
      exact congrArg _ (opsOf_engineT fl false pf)
    | skip hout =>
      simp only [hout, if_false]
      exact ⟨_, rfl, rfl, hl⟩

theorem extenderT_of_ok (v : Variant) (i : WfIn) (seg : List Int) (segTO : Int) (segT : List TFrame) (b : Bool)
    (st : Status) (t1 : List Int) (to1 : Int) (hops : opsOf segT = seg) (hline : Lined segT)
    (h : extender v i seg segTO = .ok (b, st, t1, to1)) :
    ∃ t1T, extenderT v i seg segT = some t1T ∧ opsOf t1T = t1 ∧ Lined t1T := by
  obtain ⟨first, u1, last, hh, hB, hlast, hF, _⟩ := extender_inv v i seg segTO b st t1 to1 h
  subst hops
  rw [opsOf_head] at hh
  cases hseg : segT.head? with
  | none => rw [hseg] at hh; cases hh
  | some f0 =>
    rw [hseg] at hh
    obtain rfl : f0.op = first := by simpa using hh
    unfold extenderT
    simp only [opsOf_head, hseg, Option.map_some]
    cases hB with
    | @run pb okB uB hin hf =>
      simp only [hin, and_self, if_true, hf]
      exact extenderT_forw v i _ _ last t1 (by rw [opsOf_pasteT, opsOf_engineT])
        (lined_pasteT_head _ _ _ _ hline hseg) hlast hF
    | skip hout =>
      simp only [hout, if_false]
      exact extenderT_forw v i _ _ last t1 rfl hline hlast hF

theorem subtT_of_ok (i : WfIn) (t : List Int) (tor : Int) (tT : List TFrame) (st : Status) (t2 : List Int) (to2 : Int)
    (hops : opsOf tT = t) (hl : Lined tT) (h : subtAcceptance i t tor = .ok (true, st, t2, to2)) :
    ∃ t2T, subtT i t tT = some t2T ∧ opsOf t2T = t2 ∧ Lined t2T := by
  unfold subtAcceptance at h
  unfold subtT
  by_cases hc : capOf i < i.l
  · simp only [hc, if_true] at h; cases h
  cases hf : t.head? with
  | none => simp only [hc, hf, if_false] at h; cases h
  | some first =>
  cases hlast : t.getLast? with
  | none => simp only [hc, hf, hlast, if_false] at h; cases h
  | some last =>
  simp only [hc, hf, hlast, if_false] at h ⊢
  by_cases h1 : scIs i.sc (WF.startPoint i.l (capOf i) first) = true
  · simp only [h1, if_true, Except.ok.injEq, Prod.mk.injEq] at h ⊢
    obtain ⟨_, _, rfl, _⟩ := h
    exact ⟨tT, rfl, hops, hl⟩
  by_cases h2 : scIs i.sc (WF.startPoint i.l (capOf i) last) = true
  · simp only [h1, h2, if_true, if_false, Bool.false_eq_true, Except.ok.injEq, Prod.mk.injEq] at h ⊢
    obtain ⟨_, _, rfl, _⟩ := h
    exact ⟨_, rfl, by rw [opsOf_reverseT, hops], lined_reverseT _ hl⟩
  · simp only [h1, h2, if_false, Bool.false_eq_true, Except.ok.injEq, Prod.mk.injEq] at h
    cases h.1

/-- **Link.** Whenever the order-value move `wireFencing` accepts, the frame-level function is defined, and its frames
    carry exactly the order values of the returned path. -/
theorem wireFencingT_of_acc (v : Variant) (i : WfIn) (o : WfOut) (krevs : List Bool) (seg0T : List TFrame)
    (h : wireFencing v i = .ok o) (hs : o.status = .ACC) :
    ∃ fs, wireFencingT v i krevs seg0T = some fs ∧ opsOf fs = o.path ∧ Lined fs := by
  obtain ⟨seg, segTO, succ, draws, t1, to1, t2, to2, first, ⟨hw, hj, hsucc⟩, hext, hsub, hlr, hfirst, hsc, ho⟩ :=
    wf_acc_inv v i o h hs
  obtain ⟨segT, hjT, hsegops⟩ := wfJumpsT_of_ok v i _ _ krevs _ _ seg0T 0 0 _ _ _ _ _ (fun h0 => absurd rfl h0) hj
  obtain ⟨hsegops, hsegl⟩ := hsegops hsucc
  obtain ⟨t1T, heT, h1ops, hl1⟩ := extenderT_of_ok v i seg segTO segT _ _ _ _ hsegops hsegl hext
  obtain ⟨t2T, hsT, h2ops, hl2⟩ := subtT_of_ok i t1 to1 t1T _ _ _ h1ops hl1 hsub
  have hh := opsOf_head t2T
  rw [h2ops, hfirst] at hh
  cases hf : t2T.head? with
  | none => rw [hf] at hh; cases hh
  | some f =>
    rw [hf] at hh
    simp only [Option.map_some, Option.some.injEq] at hh
    refine ⟨t2T, ?_, by rw [h2ops, ho]; rfl, hl2⟩
    unfold wireFencingT
    have hnl : ¬ i.r < i.l := by omega
    simp only [hw, if_false]
    -- `wireFencingT` writes the start segment out as its own `match`; once `pick` is decided it and `wfSeg0 i` agree
    rcases hp : WF.pick i.m (capOf i) i.old i.xiSeg with _ | ⟨a, b, c⟩ <;>
    · simp only [wfSeg0, hp] at hj hjT ⊢
      rw [hj, hjT]
      simp only [hsucc, if_false]
      rw [hext, heT]
      simp only []
      rw [hsub, hsT]
      simp only [hnl, if_false, hf, ← hh, hsc]
      simp

/-- a wire-fencing move whose extended path runs from B to A and is turned around by `subt_acceptance`:
    sub-path `5, 3, 1` (jump from the frame 3 of the old path), extended forward to `5, 3, 1, 0, -1`, reversed -/
def wfRevEx : WfIn where
  old := [-1, 1, 2, 3, 2, 1, -1]
  oldTimeOrigin := 0
  l := 0
  m := 2
  r := 4
  cap := none
  maxlength := 20
  nJumps := 1
  sc := ⟨true, false⟩
  scEns := ⟨true, false⟩
  xiSeg := 1 / 2
  jumps := [{ idx := 1, kick := 3, back := [5], forw := [1] }]
  extBack := []
  extForw := [0, -1]

theorem wfRevEx_eval : (wireFencing .repaired wfRevEx).toOption.map (fun o => (o.status, o.path, o.timeOrigin))
    = some (.ACC, [-1, 0, 1, 3, 5], 0) := by decide +kernel

theorem wfRevEx_frames : wireFencingT .repaired wfRevEx [false] [] = some
    [⟨-1, 1, 3, 1, true⟩, ⟨0, 1, 2, 1, true⟩, ⟨1, 1, 1, 1, true⟩, ⟨3, 1, 0, -1, false⟩, ⟨5, 1, -1, -1, false⟩] := by
  decide +kernel

/-- the extended path of `wfRevEx` before `subt_acceptance` turns it around (B → A) -/
def revExBefore : List TFrame :=
  [⟨5, 1, -1, -1, true⟩, ⟨3, 1, 0, -1, true⟩, ⟨1, 1, 1, 1, false⟩, ⟨0, 1, 2, 1, false⟩, ⟨-1, 1, 3, 1, false⟩]

theorem revExBefore_eval : timeOrderedB revExBefore = true ∧ timeOrderedB (reverseT revExBefore) = true ∧
    timeOrderedB (reverseSetTrue revExBefore) = false ∧ timeOrderedB revExBefore.reverse = false ∧
    opsOf (reverseSetTrue revExBefore) = opsOf (reverseT revExBefore) := by decide +kernel

end Infretis.Moves
