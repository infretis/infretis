import Infretis.Lemmas.RepexRun
/-
`treat_output` neither reads nor writes `steps` and the position of the scheduler stream: it commutes with any change
`adj f g` to these two fields, and so does every operation it is made of, and the completion half of a `.step` as long
as `loop()` answers the same (`stepTreat_adj`).  A chain of calls commutes with a change of its results when every link
does (`map_bind`, `bind_map`, along the bind form of the chain).
-/
namespace Infretis.Repex

def setMD (s : St) (d : Nat) : St := { s with mainDraws := d }

/-- a change to the two fields `treat_output` neither reads nor writes: `steps` (read by `initiate`, `loop` and the
    scheduler's "a job is due" test only) and the position of the scheduler stream (read and written by `pick` only).
    `setMD s d = adj id (fun _ => d) s`, and likewise for `steps`, by `rfl`. -/
def adj (f g : Nat → Nat) (s : St) : St := { s with tsteps := f s.tsteps, mainDraws := g s.mainDraws }

theorem map_bind {α α' β β' : Type} {x : Except Err α} {F : α → α'} {G : β → β'} {f : α → Except Err β}
    {f' : α' → Except Err β'} (h : ∀ a, f' (F a) = (f a).map G) : (x.map F).bind f' = (x.bind f).map G := by
  cases x with
  | error e => rfl
  | ok a => exact h a

theorem bind_map {α β β' : Type} {x : Except Err α} {G : β → β'} {f : α → Except Err β} {f' : α → Except Err β'}
    (h : ∀ a, f' a = (f a).map G) : x.bind f' = (x.bind f).map G := by
  cases x with
  | error e => rfl
  | ok a => exact h a

theorem unlock_adj (s : St) (f g : Nat → Nat) (e : Nat) : unlock (adj f g s) e = (unlock s e).map (adj f g) := by
  unfold unlock adj
  simp only []
  split <;> rfl

theorem addTraj_adj (s : St) (ens : Int) (pn : Nat) (valid : List Rat) (f g : Nat → Nat) :
    addTraj (adj f g s) ens pn valid = (addTraj s ens pn valid).map (adj f g) := by
  unfold addTraj
  have hv : padValid (adj f g s) ens valid = padValid s ens valid := rfl
  simp only [hv, show (adj f g s).n = s.n from rfl, show (adj f g s).trajs = s.trajs from rfl]
  split
  · rfl
  · split
    · rfl
    · split
      · rfl
      · split
        · rfl
        · exact unlock_adj ({ s with trajs := s.trajs.set (ens + (off : Int)).toNat (some pn),
                                       W := s.W.set (ens + (off : Int)).toNat (padValid s ens valid) }) f g _

theorem perEns_adj (status : Status) (f g : Nat → Nat) : ∀ (l : List (Picked × List Rat)) (s : St) (tn : Nat),
    treatOutput.perEns status (adj f g s) tn l = (treatOutput.perEns status s tn l).map (Prod.map (adj f g) id) := by
  intro l
  induction l with
  | nil => intro s tn; rfl
  | cons x tl ih =>
    intro s tn
    obtain ⟨pk, w⟩ := x
    -- the round is the same `add_traj`, on a state changed in the same two fields
    have hround : ∀ pn v tn1, (addTraj (perEnsPre status (adj f g s) tn pk w) pk.ens pn v).bind (fun s3 =>
          (treatOutput.perEns status s3 tn1 tl).map fun r => (r.1, r.2.1, pn :: r.2.2)) =
        ((addTraj (perEnsPre status s tn pk w) pk.ens pn v).bind fun s3 =>
          (treatOutput.perEns status s3 tn1 tl).map fun r => (r.1, r.2.1, pn :: r.2.2)).map
            (Prod.map (adj f g) id) := by
      intro pn v tn1
      rw [show perEnsPre status (adj f g s) tn pk w = adj f g (perEnsPre status s tn pk w) from rfl, addTraj_adj]
      refine map_bind fun s3 => ?_
      rw [ih s3 tn1]
      cases treatOutput.perEns status s3 tn1 tl with
      | error e => rfl
      | ok r => rfl
    rw [perEns_cons, perEns_cons]
    cases status
    · exact hround tn w (tn + 1)
    · show (match s.wts.lookup pk.pn with | none => _ | some wOld => _) = _
      cases s.wts.lookup pk.pn with
      | none => rfl
      | some wOld => exact hround pk.pn wOld tn

theorem recordFrac_adj (s : St) (f g : Nat → Nat) : recordFrac (adj f g s) = (recordFrac s).map (adj f g) := by
  rw [recordFrac_eq, recordFrac_eq]
  exact bind_map fun fr => rfl

theorem writeRows_adj (f g : Nat → Nat) : ∀ (l : List Nat) (s : St),
    writeRows (adj f g s) l = (writeRows s l).map (adj f g) := by
  intro l
  induction l with
  | nil => intro s; rfl
  | cons pn rest ih =>
    intro s
    simp only [writeRows]
    have e1 : (adj f g s).frac = s.frac := rfl
    have e2 : (adj f g s).wts = s.wts := rfl
    rw [e1, e2]
    split
    · rename_i f w _ _
      exact ih { s with rows := s.rows ++ [(pn, f, w)], frac := s.frac.filter (·.1 != pn),
                        wts := s.wts.filter (·.1 != pn) }
    · rfl

theorem sortStep_adj (s : St) (f g : Nat → Nat) :
    sortStep (adj f g s) = (sortStep s).map (fun o => o.map (adj f g)) := by
  unfold sortStep
  have e1 : needsToMove (adj f g s) = needsToMove s := rfl
  have e2 : lockedPaths (adj f g s) = lockedPaths s := rfl
  simp only [e1, e2, show (adj f g s).toinitiate = s.toinitiate from rfl, show (adj f g s).W = s.W from rfl,
    show (adj f g s).n = s.n from rfl, show (adj f g s).trajs = s.trajs from rfl]
  split
  · rfl
  · split
    · rfl
    · split
      · rfl
      · rfl

theorem sortTrajstate_adj (f g : Nat → Nat) : ∀ (fuel : Nat) (s : St),
    sortTrajstate fuel (adj f g s) = (sortTrajstate fuel s).map (Prod.map (adj f g) id) := by
  intro fuel
  induction fuel with
  | zero => intro s; rfl
  | succ k ih =>
    intro s
    rw [sortTrajstate_succ, sortTrajstate_succ, sortStep_adj]
    refine map_bind fun o => ?_
    cases o with
    | none => rfl
    | some s1 =>
      dsimp only [Option.map]
      rw [ih]
      exact map_bind fun r => rfl

theorem writeRowsIf_adj {c : Prop} [Decidable c] (f g : Nat → Nat) (l : List Nat) (s : St) :
    (if c then writeRows (adj f g s) l else .ok (adj f g s)) = (if c then writeRows s l else .ok s).map (adj f g) := by
  split
  · exact writeRows_adj f g l s
  · rfl

theorem treatOutput_adj (s : St) (job : Job) (status : Status) (newW : List (List Rat)) (fuel : Nat) (f g : Nat → Nat) :
    treatOutput (adj f g s) job status newW fuel = (treatOutput s job status newW fuel).map (Prod.map (adj f g) id) := by
  rw [treatOutput_bind, treatOutput_bind]
  split
  · rfl
  rw [show (adj f g s).trajNum = s.trajNum from rfl, perEns_adj]
  refine map_bind fun r1 => ?_
  dsimp only [Prod.map, id]
  rw [recordFrac_adj]
  refine map_bind fun s2 => ?_
  rw [writeRowsIf_adj]
  refine map_bind fun s3 => ?_
  rw [sortTrajstate_adj]
  exact map_bind fun r4 => rfl

/-- the completion half of a `.step` commutes with the change as well, provided `loop()` — which reads `steps` —
    answers the same -/
theorem stepTreat_adj (y : Sys) (f g : Nat → Nat) (k : Nat) (st : Status) (w : List (List Rat))
    (hloop : loop (adj f g y.s) = (adj f g (loop y.s).1, (loop y.s).2)) :
    stepTreat { y with s := adj f g y.s } k st w = (stepTreat y k st w).map (Prod.map (adj f g) id) := by
  rw [stepTreat_eq, stepTreat_eq]
  dsimp only
  rw [hloop]
  split
  · rfl
  cases y.jobs[k]? with
  | none => rfl
  | some job =>
    dsimp only
    rw [show sortFuel (adj f g (loop y.s).1) = sortFuel (loop y.s).1 from rfl, treatOutput_adj]
    exact map_bind fun r => rfl

end Infretis.Repex
