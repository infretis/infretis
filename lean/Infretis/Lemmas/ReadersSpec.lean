import Infretis.Lemmas.Readers
/-!
# Lemmas for C13: what the stage specification `exactStages` implies, and the counts `completeCount` /
`lmpCount` it and `lmpStages` are built from (pure list arithmetic; no text, no reader).  `lmpStages` itself is
treated as the slack-one case of `lmpStagesS` in `ReadersSpecS`.
-/
namespace Infretis.Readers

theorem completeCount_mono (lens : List Nat) (c c' : Nat) (h : c ≤ c') :
    completeCount lens c ≤ completeCount lens c' := by
  induction lens generalizing c c' with
  | nil => simp [completeCount]
  | cons l ls ih =>
    simp only [completeCount]
    by_cases h1 : l ≤ c
    · have h2 : l ≤ c' := by omega
      simp only [h1, h2, if_true]
      have := ih (c - l) (c' - l) (by omega)
      omega
    · simp [h1]

theorem completeCount_resume (lens : List Nat) (d c : Nat) (h : d ≤ completeCount lens c) :
    completeCount lens c = d + completeCount (lens.drop d) (c - sumLens (lens.take d)) := by
  induction lens generalizing d c with
  | nil => simp [completeCount] at h; subst h; simp [completeCount]
  | cons l ls ih =>
    cases d with
    | zero => simp [sumLens]
    | succ d =>
      simp only [completeCount] at h ⊢
      by_cases h1 : l ≤ c
      · simp only [h1, if_true] at h ⊢
        have := ih d (c - l) (by omega)
        simp only [List.drop_succ_cons, List.take_succ_cons, sumLens]
        rw [this, Nat.sub_add_eq]
        omega
      · simp [h1] at h

theorem completeCount_all (lens : List Nat) (c : Nat) (h : sumLens lens ≤ c) :
    completeCount lens c = lens.length := by
  induction lens generalizing c with
  | nil => simp [completeCount]
  | cons l ls ih =>
    simp only [sumLens] at h
    have h1 : l ≤ c := by omega
    simp only [completeCount, h1, if_true, List.length_cons]
    rw [ih (c - l) (by omega)]

/-- **exact reader, stage by stage**: with non-decreasing cuts, after poll `k` the frames returned so far
    are precisely the first `completeCount lens cuts[k]` frames. -/
theorem exactStages_prefix {F : Type} (lens : List Nat) (dec : List F) (cuts : List Nat) (done : Nat)
    (hs : cuts.Pairwise (· ≤ ·)) (hd : ∀ c ∈ cuts, done ≤ completeCount lens c)
    (k : Nat) (hk : k < cuts.length) :
    dec.take done ++ ((exactStages lens dec cuts done).take (k + 1)).flatten
      = dec.take (completeCount lens cuts[k]) := by
  induction cuts generalizing done k with
  | nil => simp at hk
  | cons c cs ih =>
    have hc := hd c (by simp)
    have hres := completeCount_resume lens done c hc
    simp only [exactStages, List.take_succ_cons, List.flatten_cons]
    rw [← List.append_assoc, ← List.take_add, ← hres]
    cases k with
    | zero => simp
    | succ k =>
      simp only [List.length_cons] at hk
      simp only [List.getElem_cons_succ]
      rw [List.pairwise_cons] at hs
      apply ih _ hs.2
      intro c' hc'
      exact completeCount_mono lens c c' (hs.1 c' hc')

theorem exactStages_length {F : Type} (lens : List Nat) (dec : List F) (cuts : List Nat) (done : Nat) :
    (exactStages lens dec cuts done).length = cuts.length := by
  induction cuts generalizing done with
  | nil => rfl
  | cons c cs ih => simp [exactStages, ih]

theorem sumLens_take_mono (l : List Nat) (a b : Nat) (h : a ≤ b) :
    sumLens (l.take a) ≤ sumLens (l.take b) := by
  obtain ⟨k, rfl⟩ := Nat.exists_eq_add_of_le h
  rw [sumLens_take_add]; omega

theorem le_completeCount (lens : List Nat) (d c : Nat) (hd : d ≤ lens.length)
    (hs : sumLens (lens.take d) ≤ c) : d ≤ completeCount lens c := by
  induction lens generalizing d c with
  | nil => simp at hd; omega
  | cons l ls ih =>
    cases d with
    | zero => omega
    | succ d =>
      simp only [List.take_succ_cons, sumLens, List.length_cons] at hs hd
      have h1 : l ≤ c := by omega
      simp only [completeCount, h1, if_true]
      have := ih d (c - l) (by omega) (by omega)
      omega

/-- `lmpCount` = the complete frames, plus possibly one frame that lacks exactly its final byte -/
theorem lmpCount_spec (ls : List Nat) (n : Nat) :
    ((lmpCount ls n).2 = false ∧ (lmpCount ls n).1 = completeCount ls n) ∨
    ((lmpCount ls n).2 = true ∧ (lmpCount ls n).1 = completeCount ls n + 1 ∧
      sumLens (ls.take (completeCount ls n + 1)) = n + 1 ∧ completeCount ls n < ls.length) := by
  induction ls generalizing n with
  | nil => left; simp [lmpCount, completeCount]
  | cons l ls ih =>
    by_cases h1 : l ≤ n
    · simp only [lmpCount, completeCount, h1, if_true]
      rcases ih (n - l) with ⟨hb, hm⟩ | ⟨hb, hm, hsum, hlt⟩
      · left; exact ⟨hb, by omega⟩
      · right
        refine ⟨hb, by omega, ?_, by simp; omega⟩
        simp only [List.take_succ_cons, sumLens]
        omega
    · by_cases h2 : l = n + 1
      · right
        subst h2
        have h3 : ¬ (n + 1 ≤ n) := by omega
        simp [lmpCount, completeCount, h3, sumLens]
      · left; simp [lmpCount, completeCount, h1, h2]

end Infretis.Readers
