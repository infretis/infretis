import Infretis.Lemmas.RepexFootprint
import Infretis.Lemmas.ListAux
/-
The scheduler loop.  `Step y ev oj y'` says what a successful event consists of: `initiate()` or `loop()` +
`treat_output` bring the scheduler to a state `ym` in which at most one `prep_md_items` is called, always for the worker
`ym.s.cworker`.  `Kept G P M` is what a package proves about `initiate()`, a completion and a submission; every event
and every run then keep `P`.  For proofs that compare two runs, failures included, a `.step` event is also a chain of
two functions, `stepTreat` then `stepPrep`; a successful `.step` alone is read with `Completes.of_step`.
-/
namespace Infretis.Repex

/-- the scheduler after a call of `initiate()` -/
abbrev Sys.initiated (y : Sys) : Sys := { y with s := (initiate y.s).1 }

/-- the condition on which `scheduler()` gives the worker that has just finished a new job, read after `loop()` has
    counted the step -/
abbrev Sys.resubmits (y : Sys) : Prop := y.s.cstep + y.s.workers ≤ y.s.tsteps

/-- the `k`-th job in flight, `job`, completes: `loop()` counts the step and `treat_output` returns.  `ym` is the
    scheduler at the instant `treat_output` has written the restart file; `job` is no longer in flight -/
inductive Completes (y : Sys) (k : Nat) (st : Status) (w : List (List Rat)) : Job → Sys → Prop
  | mk {job : Job} {s2 : St} {pns : List Nat} {it : Nat} : (loop y.s).2 = true → y.jobs[k]? = some job →
      treatOutput (loop y.s).1 job st w (sortFuel (loop y.s).1) = .ok (s2, pns, it) →
      Completes y k st w job { s := s2, jobs := y.jobs.eraseIdx k }

/-- `prep_md_items` with `prev` as the pin in the dict: `job`, drawn with the requests `ds`, joins the jobs in flight -/
inductive Submits (y : Sys) (prev : Option Nat) (o : PickOutcome) (saved : Nat) : Job × List Draw → Sys → Prop
  | mk {s' : St} {job : Job} {ds : List Draw} : prep y.s prev o saved = .ok (s', job, ds) →
      Submits y prev o saved (job, ds) { s := s', jobs := y.jobs ++ [job] }

theorem Submits.ok {y y' : Sys} {prev : Option Nat} {o : PickOutcome} {saved : Nat} {jd : Job × List Draw}
    (h : Submits y prev o saved jd y') : prep y.s prev o saved = .ok (y'.s, jd.1, jd.2) ∧ y'.jobs = y.jobs ++ [jd.1] := by
  cases h with | mk hp => exact ⟨hp, rfl⟩

/-- a successful event, with the job it submitted (if any) -/
inductive Step : Sys → Ev → Option (Job × List Draw) → Sys → Prop
  | start {y y' : Sys} {o : PickOutcome} {saved : Nat} {jd : Job × List Draw} : (initiate y.s).2 = true →
      Submits y.initiated none o saved jd y' → Step y (.start o saved) (some jd) y'
  | initDone {y : Sys} : (initiate y.s).2 = false → Step y .initDone none y.initiated
  | resubmit {y ym y' : Sys} {k : Nat} {st : Status} {w : List (List Rat)} {o : PickOutcome} {job : Job}
      {jd : Job × List Draw} : Completes y k st w job ym → ym.resubmits → Submits ym (some job.pin) o 0 jd y' →
      Step y (.step k st w o) (some jd) y'
  | last {y ym : Sys} {k : Nat} {st : Status} {w : List (List Rat)} {o : PickOutcome} {job : Job} :
      Completes y k st w job ym → ¬ ym.resubmits → Step y (.step k st w o) none ym

/-- `sysStep` that also reports the job issued by the event (if any) and the draw requests made on
    the scheduler stream for it -/
def sysStepJ (y : Sys) : Ev → Except Err (Sys × Option (Job × List Draw))
  | .start o saved =>
    let (s1, go) := initiate y.s
    if ¬ go then .error .value else
    match prep s1 none o saved with
    | .error er => .error er
    | .ok (s2, job, ds) => .ok ({ s := s2, jobs := y.jobs ++ [job] }, some (job, ds))
  | .initDone =>
    let (s1, go) := initiate y.s
    if go then .error .value else .ok ({ y with s := s1 }, none)
  | .step k status newW o =>
    let (s1, go) := loop y.s
    if ¬ go then .error .value else
    match y.jobs[k]? with
    | none => .error .index
    | some job =>
      match treatOutput s1 job status newW (sortFuel s1) with
      | .error er => .error er
      | .ok (s2, _, _) =>
        let rest := y.jobs.eraseIdx k
        if s2.cstep + s2.workers ≤ s2.tsteps then
          match prep s2 (some job.pin) o with
          | .error er => .error er
          | .ok (s3, job', ds) => .ok ({ s := s3, jobs := rest ++ [job'] }, some (job', ds))
        else .ok ({ s := s2, jobs := rest }, none)

theorem sysStepJ_sys (y : Sys) (ev : Ev) :
    sysStep y ev = (match sysStepJ y ev with | .ok r => .ok r.1 | .error e => .error e) := by
  cases ev with
  | start o saved =>
    simp only [sysStep, sysStepJ]
    split
    · rfl
    · cases prep (initiate y.s).1 none o saved with
      | error er => rfl
      | ok r => obtain ⟨s2, job, ds⟩ := r; rfl
  | initDone =>
    simp only [sysStep, sysStepJ]
    split <;> rfl
  | step k status newW o =>
    simp only [sysStep, sysStepJ]
    split
    · rfl
    · cases y.jobs[k]? with
      | none => rfl
      | some job =>
        simp only []
        cases treatOutput (loop y.s).1 job status newW (sortFuel (loop y.s).1) with
        | error er => rfl
        | ok r =>
          obtain ⟨s2, a, b⟩ := r
          simp only []
          split
          · cases prep s2 (some job.pin) o with
            | error er => rfl
            | ok r => obtain ⟨s3, job', ds⟩ := r; rfl
          · rfl

theorem sysStepJ_ok_iff {y y' : Sys} {ev : Ev} {oj : Option (Job × List Draw)} :
    sysStepJ y ev = .ok (y', oj) ↔ Step y ev oj y' := by
  constructor
  · intro h
    cases ev with
    | start o saved =>
      simp only [sysStepJ] at h
      split at h
      · exact absurd h (by simp)
      rename_i hgo
      split at h
      · exact absurd h (by simp)
      rename_i s2 job ds hprep
      cases h
      exact .start (by simpa using hgo) (.mk (y := y.initiated) hprep)
    | initDone =>
      simp only [sysStepJ] at h
      split at h
      · exact absurd h (by simp)
      rename_i hgo
      cases h
      exact .initDone (by simpa using hgo)
    | step k st w o =>
      simp only [sysStepJ] at h
      split at h
      · exact absurd h (by simp)
      rename_i hgo
      split at h
      · exact absurd h (by simp)
      rename_i job hjob
      split at h
      · exact absurd h (by simp)
      rename_i s2 pns it htreat
      have hc := Completes.mk (by simpa using hgo) hjob htreat
      split at h
      · rename_i hre
        split at h
        · exact absurd h (by simp)
        rename_i s3 job' ds hprep
        cases h
        exact .resubmit hc hre (.mk (y := ⟨s2, _⟩) hprep)
      · rename_i hre
        cases h
        exact .last hc hre
  · intro h
    cases h with
    | start hgo hs =>
      cases hs with | mk hprep =>
      simp only at hprep
      simp [sysStepJ, hgo, hprep]
    | initDone hgo => simp [sysStepJ, hgo]
    | resubmit hc hre hs =>
      cases hc with | mk hgo hjob htreat =>
      cases hs with | mk hprep =>
      simp only at hprep
      simp [sysStepJ, hgo, hjob, htreat, show _ + _ ≤ _ from hre, hprep]
    | last hc hre =>
      cases hc with | mk hgo hjob htreat =>
      simp [sysStepJ, hgo, hjob, htreat, show ¬ _ + _ ≤ _ from hre]

theorem sysStep_ok_iff {y y' : Sys} {ev : Ev} : sysStep y ev = .ok y' ↔ ∃ oj, Step y ev oj y' := by
  simp only [← sysStepJ_ok_iff, sysStepJ_sys]
  cases sysStepJ y ev with
  | error e => simp
  | ok r => exact ⟨fun h => ⟨r.2, by cases h; rfl⟩, fun ⟨_, h⟩ => by cases h; rfl⟩

theorem Step.of_ok {y y' : Sys} {ev : Ev} (h : sysStep y ev = .ok y') : ∃ oj, Step y ev oj y' := sysStep_ok_iff.mp h

theorem Completes.ok {y ym : Sys} {k : Nat} {st : Status} {w : List (List Rat)} {job : Job}
    (h : Completes y k st w job ym) : (loop y.s).2 = true ∧ y.jobs[k]? = some job ∧ ym.jobs = y.jobs.eraseIdx k ∧
      ∃ pns it, treatOutput (loop y.s).1 job st w (sortFuel (loop y.s).1) = .ok (ym.s, pns, it) := by
  cases h with | mk hgo hjob ht => exact ⟨hgo, hjob, rfl, _, _, ht⟩

theorem Completes.of_step {y y' : Sys} {k : Nat} {st : Status} {w : List (List Rat)} {o : PickOutcome}
    (h : sysStep y (.step k st w o) = .ok y') :
    ∃ job ym, Completes y k st w job ym ∧
      ((¬ ym.resubmits ∧ y' = ym) ∨ (ym.resubmits ∧ ∃ jd, Submits ym (some job.pin) o 0 jd y')) := by
  obtain ⟨_, h⟩ := Step.of_ok h
  cases h with
  | resubmit hc hre hs => exact ⟨_, _, hc, Or.inr ⟨hre, _, hs⟩⟩
  | last hc hre => exact ⟨_, _, hc, Or.inl ⟨hre, rfl⟩⟩

/-- `prep_md_items` reads the pin in the dict only after the initiation -/
theorem prep_init {s : St} (h : 0 ≤ s.toinitiate) (prev prev' : Option Nat) (o : PickOutcome) (saved : Nat) :
    prep s prev o saved = prep s prev' o saved := by
  unfold prep
  simp only [ge_iff_le, h, if_true]

theorem Completes.cworker {y ym : Sys} {k : Nat} {st : Status} {w : List (List Rat)} {job : Job}
    (h : Completes y k st w job ym) : ym.s.cworker = job.pin := by
  cases h with | mk _ _ ht =>
  obtain ⟨_, _, _, _, _, _, _, _, _, _, _, rfl⟩ := treatOutput_parts ht
  rfl

theorem initiated_toinit {y : Sys} (h : (initiate y.s).2 = true) : 0 ≤ y.initiated.s.toinitiate := by
  obtain ⟨_, h1, _, heq⟩ := initiate_go h
  rw [Sys.initiated, heq]
  show 0 ≤ y.s.toinitiate - 1
  omega

theorem Completes.touches {y ym : Sys} {k : Nat} {st : Status} {w : List (List Rat)} {job : Job}
    (h : Completes y k st w job ym) :
    Touches [.W, .trajs, .locks, .locked, .lockedOrd, .frac, .wts, .rows, .trajNum, .cworker, .cstep] y.s ym.s := by
  cases h with | mk _ _ ht => exact (loop_touches y.s).comp (treatOutput_touches ht)

theorem Submits.touches {y y' : Sys} {prev : Option Nat} {o : PickOutcome} {saved : Nat} {jd : Job × List Draw}
    (h : Submits y prev o saved jd y') :
    Touches [.W, .trajs, .locks, .locked, .lockedOrd, .spawned, .mainDraws, .rgenRestored, .locked0, .locked0Ord,
      .occ] y.s y'.s := by
  cases h with | mk hp => exact prep_touches hp

theorem Submits.permutes {y y' : Sys} {prev : Option Nat} {o : PickOutcome} {saved : Nat} {jd : Job × List Draw}
    (h : Submits y prev o saved jd y') : Permutes y.s y'.s := by
  cases h with | mk hp => exact prep_permutes hp

theorem Completes.ctr {y ym : Sys} {k : Nat} {st : Status} {w : List (List Rat)} {job : Job}
    (h : Completes y k st w job ym) :
    y.s.cstep < y.s.tsteps ∧ ctr ym.s = ⟨y.s.cstep + 1, y.s.tsteps, y.s.workers, y.s.toinitiate⟩ := by
  cases h with | mk hgo _ ht =>
  rw [(loop_go hgo).2] at ht
  exact ⟨(loop_go hgo).1, (treatOutput_touches ht).ctr⟩

theorem Submits.ctr {y y' : Sys} {prev : Option Nat} {o : PickOutcome} {saved : Nat} {jd : Job × List Draw}
    (h : Submits y prev o saved jd y') : ctr y'.s = ctr y.s :=
  h.touches.ctr

theorem Submits.init_prev {y y' : Sys} (h : 0 ≤ y.s.toinitiate) {prev : Option Nat} (prev' : Option Nat) {o : PickOutcome}
    {saved : Nat} {jd : Job × List Draw} (hs : Submits y prev o saved jd y') : Submits y prev' o saved jd y' := by
  cases hs with | mk hp => exact .mk (by rw [← hp]; exact prep_init h ..)

theorem Submits.pin {ym y' : Sys} {o : PickOutcome} {saved : Nat} {jd : Job × List Draw}
    (hs : Submits ym (some ym.s.cworker) o saved jd y') : jd.1.pin = ym.s.cworker := by
  cases hs with | mk h =>
  obtain ⟨_, _, _, _, _, _, hpin, _, _, _, hjp, _⟩ := prep_parts h
  rw [ite_self] at hpin
  exact hjp.trans (Option.some.inj hpin).symm

/-- the converse of `Step.shape`, here and in `Step.resubmit_served`: an event from a `Submits` stated with the worker
    it serves, `some cworker` -/
theorem Step.start_served {y y' : Sys} {o : PickOutcome} {saved : Nat} {jd : Job × List Draw} (hgo : (initiate y.s).2 = true)
    (hs : Submits y.initiated (some y.initiated.s.cworker) o saved jd y') : Step y (.start o saved) (some jd) y' :=
  .start hgo (hs.init_prev (initiated_toinit hgo) none)

theorem Step.resubmit_served {y ym y' : Sys} {k : Nat} {st : Status} {w : List (List Rat)} {o : PickOutcome} {job : Job}
    {jd : Job × List Draw} (hc : Completes y k st w job ym) (hre : ym.resubmits)
    (hs : Submits ym (some ym.s.cworker) o 0 jd y') : Step y (.step k st w o) (some jd) y' :=
  .resubmit hc hre (hc.cworker ▸ hs)

/-- the part of an event before its `prep_md_items`: a call of `initiate()`, or the completion of a job; the last
    argument says whether a submission follows -/
inductive Prelude : Sys → Ev → Sys → Prop → Prop
  | go {y : Sys} {o : PickOutcome} {saved : Nat} : (initiate y.s).2 = true → Prelude y (.start o saved) y.initiated True
  | stop {y : Sys} : (initiate y.s).2 = false → Prelude y .initDone y.initiated False
  | done {y ym : Sys} {k : Nat} {st : Status} {w : List (List Rat)} {o : PickOutcome} {job : Job} :
      Completes y k st w job ym → Prelude y (.step k st w o) ym ym.resubmits

/-- **every event is a prelude followed by at most one submission, which serves the worker `cworker`** of the state
    `ym` it is called in -/
theorem Step.shape {y y' : Sys} {ev : Ev} {oj : Option (Job × List Draw)} (h : Step y ev oj y') :
    ∃ ym sub, Prelude y ev ym sub ∧
      match oj with
      | some jd => sub ∧ ∃ o saved, Submits ym (some ym.s.cworker) o saved jd y'
      | none => ¬ sub ∧ y' = ym := by
  cases h with
  | start hgo hs => exact ⟨_, _, .go hgo, trivial, _, _, hs.init_prev (initiated_toinit hgo) _⟩
  | initDone hgo => exact ⟨_, _, .stop hgo, not_false, rfl⟩
  | resubmit hc hre hs => exact ⟨_, _, .done hc, hre, _, _, hc.cworker ▸ hs⟩
  | last hc hre => exact ⟨_, _, .done hc, hre, rfl⟩

/-- **what an event does to the scheduler's counters and to the number of jobs in flight**: `tsteps` and `workers`
    never change; a `.start` happens only while a step is left for one more worker and uses the worker up; the closing
    `initiate()` changes nothing once no step is left, and closes the initiation otherwise; a `.step` counts one move
    and replaces the job it consumes exactly when more steps than workers are left -/
theorem sysStep_effect {y y' : Sys} {ev : Ev} (h : sysStep y ev = .ok y') :
    y'.s.tsteps = y.s.tsteps ∧ y'.s.workers = y.s.workers ∧
    match ev with
    | .start _ _ => y.s.cstep < y.s.tsteps ∧ 1 ≤ y.s.toinitiate ∧
        (y.s.cstep : Int) + ((y.s.workers : Int) - y.s.toinitiate) < (y.s.tsteps : Int) ∧
        y'.s.cstep = y.s.cstep ∧ y'.s.toinitiate = y.s.toinitiate - 1 ∧ y'.jobs.length = y.jobs.length + 1
    | .initDone => y'.s.cstep = y.s.cstep ∧ y'.jobs = y.jobs ∧
        ((y.s.tsteps ≤ y.s.cstep ∧ y'.s = y.s) ∨
         (y.s.cstep < y.s.tsteps ∧ y'.s.toinitiate < 0 ∧ y'.s.toinitiate ≤ y.s.toinitiate ∧
          (0 ≤ y.s.toinitiate → y'.s.toinitiate = -1) ∧
          ¬ (1 ≤ y.s.toinitiate ∧ (y.s.cstep : Int) + ((y.s.workers : Int) - y.s.toinitiate) < (y.s.tsteps : Int))))
    | .step k _ _ _ => y.s.cstep < y.s.tsteps ∧ k < y.jobs.length ∧ y'.s.cstep = y.s.cstep + 1 ∧
        y'.s.toinitiate = y.s.toinitiate ∧
        y'.jobs.length = y.jobs.length - 1 + (if y.s.cstep + 1 + y.s.workers ≤ y.s.tsteps then 1 else 0) := by
  have hi := initiate_touches y.s
  obtain ⟨_, h⟩ := Step.of_ok h
  cases h with
  | start hgo hs =>
    obtain ⟨h1, h2, h3, heq⟩ := initiate_go hgo
    injection hs.ctr with c1 c2 c3 c4
    cases hs with | mk _ =>
    rw [Sys.initiated, heq] at c1 c2 c3 c4
    exact ⟨c2, c3, h1, h2, h3, c1, c4, List.length_append⟩
  | initDone hgo =>
    exact ⟨hi.tsteps, hi.workers, hi.cstep, rfl, initiate_stop hgo⟩
  | resubmit hc hre hs =>
    obtain ⟨hlt, hctr⟩ := hc.ctr
    injection hctr with d1 d2 d3 d4
    injection hs.ctr with c1 c2 c3 c4
    cases hc with | mk _ hjob _ =>
    cases hs with | mk _ =>
    have hk := getElem?_lt_of_some hjob
    have hre' : y.s.cstep + 1 + y.s.workers ≤ y.s.tsteps := by rw [← d1, ← d2, ← d3]; exact hre
    refine ⟨c2.trans d2, c3.trans d3, hlt, hk, c1.trans d1, c4.trans d4, ?_⟩
    rw [if_pos hre', List.length_append, List.length_eraseIdx, if_pos hk]
    rfl
  | last hc hre =>
    obtain ⟨hlt, hctr⟩ := hc.ctr
    injection hctr with d1 d2 d3 d4
    cases hc with | mk _ hjob _ =>
    have hk := getElem?_lt_of_some hjob
    have hre' : ¬ y.s.cstep + 1 + y.s.workers ≤ y.s.tsteps := by rw [← d1, ← d2, ← d3]; exact hre
    refine ⟨d2, d3, hlt, hk, d1, d4, ?_⟩
    rw [if_neg hre', List.length_eraseIdx, if_pos hk]
    rfl

/-- **What a package proves about the scheduler**: `P` holds between events and `M` when `prep_md_items` is called,
    given that the events satisfy `G`.  `initiate()` (by its answer), the completion of a job (by whether a new job
    follows) and the submission each take one to the other.  `done` names the pick outcome `o` only so that `G` of the
    event can be stated: `Completes` does not depend on it. -/
structure Kept (G : Sys → Ev → Prop) (P M : Sys → Prop) : Prop where
  go : ∀ {y : Sys}, P y → (initiate y.s).2 = true → M y.initiated
  stop : ∀ {y : Sys}, P y → (initiate y.s).2 = false → P y.initiated
  done : ∀ {y ym : Sys} {k : Nat} {st : Status} {w : List (List Rat)} {job : Job} (o : PickOutcome), P y →
    G y (.step k st w o) → Completes y k st w job ym → if ym.resubmits then M ym else P ym
  submit : ∀ {ym y' : Sys} {o : PickOutcome} {saved : Nat} {jd : Job × List Draw}, M ym →
    Submits ym (some ym.s.cworker) o saved jd y' → P y'

theorem Kept.step {G : Sys → Ev → Prop} {P M : Sys → Prop} (K : Kept G P M) {y y' : Sys} {ev : Ev}
    {oj : Option (Job × List Draw)} (hp : P y) (hg : G y ev) (h : Step y ev oj y') : P y' := by
  obtain ⟨ym, sub, hpre, htail⟩ := h.shape
  cases oj with
  | some jd =>
    obtain ⟨hre, o, saved, hs⟩ := htail
    cases hpre with
    | go hgo => exact K.submit (K.go hp hgo) hs
    | stop _ => exact hre.elim
    | done hc =>
      have := K.done _ hp hg hc
      rw [if_pos hre] at this
      exact K.submit this hs
  | none =>
    obtain ⟨hre, rfl⟩ := htail
    cases hpre with
    | go _ => exact (hre trivial).elim
    | stop hgo => exact K.stop hp hgo
    | done hc =>
      have := K.done _ hp hg hc
      rw [if_neg hre] at this
      exact this

/-- a further invariant `Q` (`N` at the submission) whose preservation rests on `P` (`M`) -/
theorem Kept.and {G : Sys → Ev → Prop} {P M Q N : Sys → Prop} (K : Kept G P M)
    (go : ∀ {y : Sys}, P y → Q y → (initiate y.s).2 = true → N y.initiated)
    (stop : ∀ {y : Sys}, P y → Q y → (initiate y.s).2 = false → Q y.initiated)
    (done : ∀ {y ym : Sys} {k : Nat} {st : Status} {w : List (List Rat)} {job : Job} (o : PickOutcome), P y → Q y →
      G y (.step k st w o) → Completes y k st w job ym → if ym.resubmits then N ym else Q ym)
    (submit : ∀ {ym y' : Sys} {o : PickOutcome} {saved : Nat} {jd : Job × List Draw}, M ym → N ym →
      Submits ym (some ym.s.cworker) o saved jd y' → Q y') :
    Kept G (fun y => P y ∧ Q y) (fun y => M y ∧ N y) where
  go h hgo := ⟨K.go h.1 hgo, go h.1 h.2 hgo⟩
  stop h hgo := ⟨K.stop h.1 hgo, stop h.1 h.2 hgo⟩
  done o h hg hc := by
    have h1 := K.done o h.1 hg hc
    have h2 := done o h.1 h.2 hg hc
    split
    · rename_i hre
      rw [if_pos hre] at h1 h2
      exact ⟨h1, h2⟩
    · rename_i hre
      rw [if_neg hre] at h1 h2
      exact ⟨h1, h2⟩
  submit h hs := ⟨K.submit h.1 hs, submit h.1 h.2 hs⟩

theorem Kept.sysStep {G : Sys → Ev → Prop} {P M : Sys → Prop} (K : Kept G P M) {y y' : Sys} {ev : Ev}
    (hp : P y) (hg : G y ev) (h : sysStep y ev = .ok y') : P y' := by
  obtain ⟨oj, h⟩ := Step.of_ok h
  exact K.step hp hg h

/-- **The rule for an invariant `Q` of the sampler alone**, which may rest on something (`C`) known of the scheduler
    between events, and on `G` of the events: `initiate()`, the completion of a job and `prep_md_items` each keep it. -/
structure KeptSt (G : Sys → Ev → Prop) (C : Sys → Prop) (Q : St → Prop) : Prop where
  init : ∀ {s : St}, Q s → Q (initiate s).1
  done : ∀ {y ym : Sys} {k : Nat} {st : Status} {w : List (List Rat)} {job : Job} (o : PickOutcome), C y → Q y.s →
    G y (.step k st w o) → Completes y k st w job ym → Q ym.s
  prep : ∀ {s s' : St} {prev : Option Nat} {o : PickOutcome} {saved : Nat} {job : Job} {ds : List Draw}, Q s →
    prep s prev o saved = .ok (s', job, ds) → Q s'

theorem KeptSt.sysStep {G : Sys → Ev → Prop} {C : Sys → Prop} {Q : St → Prop} (K : KeptSt G C Q) {y y' : Sys} {ev : Ev}
    (hc : C y) (hq : Q y.s) (hg : G y ev) (h : sysStep y ev = .ok y') : Q y'.s := by
  obtain ⟨oj, h⟩ := Step.of_ok h
  obtain ⟨ym, _, hpre, htail⟩ := h.shape
  have hm : Q ym.s := by
    cases hpre with
    | go _ => exact K.init hq
    | stop _ => exact K.init hq
    | done hd => exact K.done _ hc hq hg hd
  cases oj with
  | some jd =>
    obtain ⟨_, o, saved, hs⟩ := htail
    cases hs with | mk hp => exact K.prep hm hp
  | none => exact htail.2 ▸ hm

/-- the first half of a `.step` iteration: `loop()`, the `k`-th job completes, `treat_output` (which ends by
    writing the restart file: `persist` of the state returned here is what is on disk) -/
def stepTreat (y : Sys) (k : Nat) (status : Status) (newW : List (List Rat)) : Except Err (St × Job × List Job) :=
  let (s1, go) := loop y.s
  if ¬ go then .error .value else
  match y.jobs[k]? with
  | none => .error .index
  | some job =>
    match treatOutput s1 job status newW (sortFuel s1) with
    | .error er => .error er
    | .ok (s2, _, _) => .ok (s2, job, y.jobs.eraseIdx k)

/-- the second half: the worker that just finished is given a new job (if steps remain) -/
def stepPrep (r : St × Job × List Job) (o : PickOutcome) : Except Err Sys :=
  if r.1.cstep + r.1.workers ≤ r.1.tsteps then
    match prep r.1 (some r.2.1.pin) o with
    | .error er => .error er
    | .ok (s3, job', _) => .ok { s := s3, jobs := r.2.2 ++ [job'] }
  else .ok { s := r.1, jobs := r.2.2 }

theorem stepTreat_eq (y : Sys) (k : Nat) (status : Status) (newW : List (List Rat)) :
    stepTreat y k status newW =
      if ¬ (loop y.s).2 then .error .value else
      match y.jobs[k]? with
      | none => .error .index
      | some job => (treatOutput (loop y.s).1 job status newW (sortFuel (loop y.s).1)).bind fun r =>
          .ok (r.1, job, y.jobs.eraseIdx k) := by
  unfold stepTreat
  dsimp only
  refine ite_congr rfl (fun _ => rfl) fun _ => ?_
  cases y.jobs[k]? with
  | none => rfl
  | some job =>
    dsimp only [Except.bind]
    cases treatOutput (loop y.s).1 job status newW (sortFuel (loop y.s).1) with
    | error e => rfl
    | ok r => rfl

theorem stepPrep_eq (r : St × Job × List Job) (o : PickOutcome) :
    stepPrep r o =
      if r.1.cstep + r.1.workers ≤ r.1.tsteps then
        (prep r.1 (some r.2.1.pin) o).bind fun r3 => .ok { s := r3.1, jobs := r.2.2 ++ [r3.2.1] }
      else .ok { s := r.1, jobs := r.2.2 } := by
  unfold stepPrep
  refine ite_congr rfl (fun _ => ?_) fun _ => rfl
  cases prep r.1 (some r.2.1.pin) o with
  | error e => rfl
  | ok r3 => rfl

theorem sysStep_step_eq (y : Sys) (k : Nat) (status : Status) (newW : List (List Rat)) (o : PickOutcome) :
    sysStep y (.step k status newW o) = (stepTreat y k status newW).bind fun r => stepPrep r o := by
  simp only [sysStep, stepTreat, stepPrep]
  split
  · rfl
  · cases y.jobs[k]? with
    | none => rfl
    | some job =>
      simp only []
      cases treatOutput (loop y.s).1 job status newW (sortFuel (loop y.s).1) with
      | error e => rfl
      | ok r => rfl

theorem stepTreat_completes {y : Sys} {k : Nat} {st : Status} {w : List (List Rat)} {r : St × Job × List Job}
    (h : stepTreat y k st w = .ok r) : Completes y k st w r.2.1 ⟨r.1, r.2.2⟩ := by
  rw [stepTreat_eq] at h
  split at h
  · cases h
  rename_i hgo
  split at h
  · cases h
  rename_i job hjob
  obtain ⟨⟨s2, pns, it⟩, ht, h⟩ := bind_ok_iff.mp h
  cases h
  exact .mk (by simpa using hgo) hjob ht

theorem sysStep_step_inv {y y' : Sys} {k : Nat} {st : Status} {w : List (List Rat)} {o : PickOutcome}
    (h : sysStep y (.step k st w o) = .ok y') : ∃ r, stepTreat y k st w = .ok r ∧ stepPrep r o = .ok y' := by
  rw [sysStep_step_eq] at h
  exact bind_ok_iff.mp h

theorem run_cons_eq (y : Sys) (ev : Ev) (rest : List Ev) :
    run y (ev :: rest) = (sysStep y ev).bind fun y' => run y' rest := by
  rw [run]
  cases sysStep y ev with
  | error e => rfl
  | ok y' => rfl

theorem run_cons_ok {y yN : Sys} {ev : Ev} {rest : List Ev} (h : run y (ev :: rest) = .ok yN) :
    ∃ y', sysStep y ev = .ok y' ∧ run y' rest = .ok yN := by
  rw [run_cons_eq] at h
  exact bind_ok_iff.mp h

/-- every event of the history, in the state it is applied in, satisfies `G` -/
def Along (G : Sys → Ev → Prop) : Sys → List Ev → Prop
  | _, [] => True
  | y, ev :: rest => G y ev ∧ ∀ y', sysStep y ev = .ok y' → Along G y' rest

theorem run_guarded {P : Sys → Prop} {G : Sys → Ev → Prop}
    (hstep : ∀ (ev : Ev) {y y' : Sys}, P y → G y ev → sysStep y ev = .ok y' → P y') :
    ∀ (evs : List Ev) {y y' : Sys}, P y → Along G y evs → run y evs = .ok y' → P y' := by
  intro evs
  induction evs with
  | nil => intro y y' hp _ h; simp only [run, Except.ok.injEq] at h; subst h; exact hp
  | cons ev rest ih =>
    intro y y' hp hg h
    obtain ⟨y1, h1, h⟩ := run_cons_ok h
    exact ih (hstep ev hp hg.1 h1) (hg.2 y1 h1) h

theorem along_true : ∀ (evs : List Ev) (y : Sys), Along (fun _ _ => True) y evs
  | [], _ => trivial
  | _ :: rest, _ => ⟨trivial, fun y' _ => along_true rest y'⟩

theorem along_of_forall {G : Sys → Ev → Prop} : ∀ {evs : List Ev}, (∀ ev ∈ evs, ∀ y, G y ev) → ∀ y, Along G y evs
  | [], _, _ => trivial
  | ev :: _, h, y => ⟨h ev (List.mem_cons_self ..) y,
      fun y' _ => along_of_forall (fun e he => h e (List.mem_cons_of_mem _ he)) y'⟩

theorem Along.rest {G : Sys → Ev → Prop} : ∀ {a b : List Ev} {y ym : Sys}, Along G y (a ++ b) → run y a = .ok ym →
    Along G ym b
  | [], _, _, _, h, hr => by cases hr; exact h
  | _ :: _, _, _, _, h, hr => by
    obtain ⟨y1, h1, hr⟩ := run_cons_ok hr
    exact Along.rest (h.2 y1 h1) hr

theorem Along.prefix {G : Sys → Ev → Prop} : ∀ {a b : List Ev} {y : Sys}, Along G y (a ++ b) → Along G y a
  | [], _, _, _ => trivial
  | _ :: _, _, _, h => ⟨h.1, fun y' hy' => Along.prefix (h.2 y' hy')⟩

theorem Along.mono {G G' : Sys → Ev → Prop} (h : ∀ y ev, G y ev → G' y ev) :
    ∀ {evs : List Ev} {y : Sys}, Along G y evs → Along G' y evs
  | [], _, _ => trivial
  | _ :: _, _, ha => ⟨h _ _ ha.1, fun y' hy' => Along.mono h (ha.2 y' hy')⟩

theorem Along.snoc {G : Sys → Ev → Prop} {ev : Ev} : ∀ {evs : List Ev} {y y1 : Sys}, Along G y evs →
    run y evs = .ok y1 → G y1 ev → Along G y (evs ++ [ev])
  | [], _, _, _, hr, he => by cases hr; exact ⟨he, fun _ _ => trivial⟩
  | _ :: _, _, _, h, hr, he => by
    obtain ⟨y2, h2, hr⟩ := run_cons_ok hr
    refine ⟨h.1, fun y' hy' => ?_⟩
    rw [h2] at hy'
    cases hy'
    exact Along.snoc (h.2 y2 h2) hr he

theorem run_invariant {P : Sys → Prop} (hstep : ∀ (ev : Ev) {y y' : Sys}, P y → sysStep y ev = .ok y' → P y')
    (evs : List Ev) {y y' : Sys} (hp : P y) (h : run y evs = .ok y') : P y' :=
  run_guarded (G := fun _ _ => True) (fun ev _ _ hp _ => hstep ev hp) evs hp (along_true evs y) h

theorem Kept.run {G : Sys → Ev → Prop} {P M : Sys → Prop} (K : Kept G P M) (evs : List Ev) {y y' : Sys} (hp : P y)
    (hg : Along G y evs) (h : run y evs = .ok y') : P y' :=
  run_guarded (fun _ _ _ hp hg h => K.sysStep hp hg h) evs hp hg h

/-- jobs as `prep_md_items` builds them: `pnum_old` lists the picked paths -/
def PnumOk (jobs : List Job) : Prop := ∀ j ∈ jobs, j.pnumOld = j.picked.map (·.pn)

theorem PnumOk.eraseIdx {jobs : List Job} (h : PnumOk jobs) (k : Nat) : PnumOk (jobs.eraseIdx k) :=
  fun j hj => h j (List.mem_of_mem_eraseIdx hj)

theorem PnumOk.append {jobs : List Job} (h : PnumOk jobs) {j : Job} (hj : j.pnumOld = j.picked.map (·.pn)) :
    PnumOk (jobs ++ [j]) := by
  intro x hx
  rw [List.mem_append] at hx
  rcases hx with hx | hx
  · exact h x hx
  · simp only [List.mem_singleton] at hx; subst hx; exact hj

theorem pnumOk_kept : Kept (fun _ _ => True) (fun y => PnumOk y.jobs) (fun y => PnumOk y.jobs) where
  go h _ := h
  stop h _ := h
  done _ h _ hc := by cases hc with | mk => split <;> exact h.eraseIdx _
  submit h hs := by cases hs with | mk hprep => exact h.append (prep_pnumOld hprep)

theorem run_append_eq : ∀ (a b : List Ev) (y : Sys), run y (a ++ b) = (run y a).bind fun ym => run ym b
  | [], _, _ => rfl
  | ev :: rest, b, y => by
    rw [List.cons_append, run_cons_eq, run_cons_eq]
    cases sysStep y ev with
    | error e => rfl
    | ok y' => exact run_append_eq rest b y'

theorem run_append_inv (a b : List Ev) {y yN : Sys} (h : run y (a ++ b) = .ok yN) :
    ∃ ym, run y a = .ok ym ∧ run ym b = .ok yN := by
  rw [run_append_eq] at h
  exact bind_ok_iff.mp h

/-- every prefix of a history that runs runs, to the state a definition like `exAt k` names -/
theorem run_take_eq {y y' : Sys} {evs : List Ev} (h : run y evs = .ok y') (k : Nat) :
    run y (evs.take k) = .ok (match run y (evs.take k) with | .ok z => z | .error _ => y) := by
  obtain ⟨yk, hk, _⟩ := run_append_inv (evs.take k) (evs.drop k) (by rwa [List.take_append_drop])
  rw [hk]

theorem run_rest {y ym yN : Sys} {a b : List Ev} (h : run y (a ++ b) = .ok yN) (ha : run y a = .ok ym) :
    run ym b = .ok yN := by
  obtain ⟨_, h1, h2⟩ := run_append_inv a b h
  rw [ha] at h1
  cases h1
  exact h2

end Infretis.Repex
