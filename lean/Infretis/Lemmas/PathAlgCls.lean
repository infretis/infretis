import Infretis.Model.PathAlg
/-!
Classification of an order sequence: the `np.argmin` / `np.argmax` scans find the first extreme member
(`IsFirstMin`, `IsFirstMax`), Python `min` / `max` of the interface list, and the closed form of
`check_interfaces` (`check_closed`).
-/
namespace Infretis.PathAlg

/-- `v` is the minimum of `l` and `j` is the FIRST index where it is attained -/
def IsFirstMin (l : List Int) (v : Int) (j : Nat) : Prop :=
  l[j]? = some v ∧ (∀ x ∈ l, v ≤ x) ∧ (∀ k y, k < j → l[k]? = some y → v < y)

/-- `v` is the maximum of `l` and `j` is the FIRST index where it is attained -/
def IsFirstMax (l : List Int) (v : Int) (j : Nat) : Prop :=
  l[j]? = some v ∧ (∀ x ∈ l, x ≤ v) ∧ (∀ k y, k < j → l[k]? = some y → y < v)

theorem argminGo_inv : ∀ (t pre : List Int) (best : Int) (bi : Nat), IsFirstMin pre best bi →
    IsFirstMin (pre ++ t) (argminGo best bi pre.length t).1 (argminGo best bi pre.length t).2 := by
  intro t
  induction t with
  | nil => intro pre best bi h; simpa [argminGo] using h
  | cons x t ih =>
    intro pre best bi ⟨h1, h2, h3⟩
    have hbi := (List.getElem?_eq_some_iff.1 h1).1
    have hpre : pre ++ x :: t = (pre ++ [x]) ++ t := by simp
    have hlen : (pre ++ [x]).length = pre.length + 1 := by simp
    unfold argminGo
    by_cases hx : x < best
    · rw [if_pos hx, hpre, ← hlen]
      apply ih
      refine ⟨by simp, ?_, ?_⟩
      · intro y hy
        rcases List.mem_append.1 hy with hy | hy
        · have := h2 y hy; omega
        · simp at hy; omega
      · intro k y hk hy
        rw [List.getElem?_append_left hk] at hy
        have := h2 y (List.mem_of_getElem? hy); omega
    · rw [if_neg hx, hpre, ← hlen]
      apply ih
      refine ⟨by rw [List.getElem?_append_left hbi]; exact h1, ?_, ?_⟩
      · intro y hy
        rcases List.mem_append.1 hy with hy | hy
        · exact h2 y hy
        · simp at hy; omega
      · intro k y hk hy
        rw [List.getElem?_append_left (by omega)] at hy
        exact h3 k y hk hy

theorem ordermin_isFirstMin (a : Int) (t : List Int) :
    IsFirstMin (a :: t) (argminGo a 0 1 t).1 (argminGo a 0 1 t).2 := by
  have := argminGo_inv t [a] a 0 ⟨by simp, by simp, by intro k y hk; omega⟩
  simpa using this

/-- `np.argmax` is `np.argmin` on the negated values -/
theorem argmaxGo_eq_neg : ∀ (t : List Int) (best : Int) (bi i : Nat),
    argmaxGo best bi i t
      = (-(argminGo (-best) bi i (t.map (-·))).1, (argminGo (-best) bi i (t.map (-·))).2) := by
  intro t
  induction t with
  | nil => intro best bi i; simp [argmaxGo, argminGo]
  | cons x t ih =>
    intro best bi i
    simp only [argmaxGo, argminGo, List.map_cons]
    by_cases hx : x > best
    · rw [if_pos hx, if_pos (by omega), ih]
    · rw [if_neg hx, if_neg (by omega), ih]

theorem isFirstMax_of_neg (l : List Int) (m : Int) (j : Nat) (h : IsFirstMin (l.map (-·)) m j) :
    IsFirstMax l (-m) j := by
  obtain ⟨h1, h2, h3⟩ := h
  refine ⟨?_, ?_, ?_⟩
  · rw [List.getElem?_map] at h1
    cases hl : l[j]? with
    | none => simp [hl] at h1
    | some y => simp only [hl, Option.map_some, Option.some.injEq] at h1; rw [← h1, Int.neg_neg]
  · intro x hx
    have := h2 (-x) (List.mem_map.2 ⟨x, hx, rfl⟩); omega
  · intro k y hk hy
    have := h3 k (-y) hk (by rw [List.getElem?_map, hy]; rfl); omega

theorem ordermax_isFirstMax (a : Int) (t : List Int) :
    IsFirstMax (a :: t) (argmaxGo a 0 1 t).1 (argmaxGo a 0 1 t).2 := by
  rw [argmaxGo_eq_neg]
  exact isFirstMax_of_neg (a :: t) _ _ (ordermin_isFirstMin (-a) (t.map (-·)))

/-! Python `min` / `max` of a list: the value the `np.argmin` / `np.argmax` scan ends with -/

theorem argminGo_fst : ∀ (t : List Int) (best : Int) (bi i : Nat),
    (argminGo best bi i t).1 = t.foldl (fun m x => if x < m then x else m) best := by
  intro t
  induction t with
  | nil => intro best bi i; rfl
  | cons x t ih =>
    intro best bi i
    rw [argminGo, List.foldl_cons]
    by_cases hx : x < best
    · rw [if_pos hx, if_pos hx]; exact ih x i (i + 1)
    · rw [if_neg hx, if_neg hx]; exact ih best bi (i + 1)

theorem argmaxGo_fst : ∀ (t : List Int) (best : Int) (bi i : Nat),
    (argmaxGo best bi i t).1 = t.foldl (fun m x => if x > m then x else m) best := by
  intro t
  induction t with
  | nil => intro best bi i; rfl
  | cons x t ih =>
    intro best bi i
    rw [argmaxGo, List.foldl_cons]
    by_cases hx : x > best
    · rw [if_pos hx, if_pos hx]; exact ih x i (i + 1)
    · rw [if_neg hx, if_neg hx]; exact ih best bi (i + 1)

theorem minList_spec (l : List Int) (m : Int) (h : minList l = some m) : m ∈ l ∧ ∀ x ∈ l, m ≤ x := by
  cases l with
  | nil => simp [minList] at h
  | cons a t =>
    simp only [minList, Option.some.injEq, ← argminGo_fst t a 0 1] at h
    rw [← h]
    exact ⟨List.mem_of_getElem? (ordermin_isFirstMin a t).1, (ordermin_isFirstMin a t).2.1⟩

theorem maxList_spec (l : List Int) (m : Int) (h : maxList l = some m) : m ∈ l ∧ ∀ x ∈ l, x ≤ m := by
  cases l with
  | nil => simp [maxList] at h
  | cons a t =>
    simp only [maxList, Option.some.injEq, ← argmaxGo_fst t a 0 1] at h
    rw [← h]
    exact ⟨List.mem_of_getElem? (ordermax_isFirstMax a t).1, (ordermax_isFirstMax a t).2.1⟩

theorem le_min_iff {l : List Int} {m : Int} (hm : m ∈ l) (hle : ∀ x ∈ l, m ≤ x) (c : Int) :
    c ≤ m ↔ ∀ x ∈ l, c ≤ x :=
  ⟨fun h x hx => Int.le_trans h (hle x hx), fun h => h m hm⟩

theorem min_lt_iff {l : List Int} {m : Int} (hm : m ∈ l) (hle : ∀ x ∈ l, m ≤ x) (c : Int) :
    m < c ↔ ∃ x ∈ l, x < c :=
  ⟨fun h => ⟨m, hm, h⟩, fun ⟨x, hx, h⟩ => Int.lt_of_le_of_lt (hle x hx) h⟩

theorem max_le_iff {l : List Int} {m : Int} (hm : m ∈ l) (hge : ∀ x ∈ l, x ≤ m) (c : Int) :
    m ≤ c ↔ ∀ x ∈ l, x ≤ c :=
  ⟨fun h x hx => Int.le_trans (hge x hx) h, fun h => h m hm⟩

theorem le_max_iff {l : List Int} {m : Int} (hm : m ∈ l) (hge : ∀ x ∈ l, x ≤ m) (c : Int) :
    c ≤ m ↔ ∃ x ∈ l, c ≤ x :=
  ⟨fun h => ⟨m, hm, h⟩, fun ⟨x, hx, h⟩ => Int.le_trans h (hge x hx)⟩

theorem sideOf_eq_L (left right x : Int) : sideOf left right x = .L ↔ x ≤ left := by
  unfold sideOf; split <;> rename_i h
  · simp [h]
  · split <;> simp [h]

theorem sideOf_eq_R (left right x : Int) : sideOf left right x = .R ↔ ¬ x ≤ left ∧ right ≤ x := by
  unfold sideOf; split <;> rename_i h
  · simp [h]
  · split <;> rename_i h2 <;> simp [h, h2]

theorem check_closed (a : Int) (t : List Int) (i0 i1 : Int) (rest : List Int) (left right last : Int)
    (hleft : minList (i0 :: i1 :: rest) = some left) (hright : maxList (i0 :: i1 :: rest) = some right)
    (hlast : (a :: t).getLast? = some last) :
    checkInterfaces (a :: t) (i0 :: i1 :: rest) = .ok
      ⟨some (sideOf left right a), some (sideOf left right last),
       decide ((argminGo a 0 1 t).1 < i1) && decide (i1 ≤ (argmaxGo a 0 1 t).1),
       (i0 :: i1 :: rest).map
         (fun x => decide ((argminGo a 0 1 t).1 < x) && decide (x ≤ (argmaxGo a 0 1 t).1))⟩ := by
  have hle : left ≤ right := by
    have := (minList_spec _ _ hleft).2 i0 (by simp)
    have := (maxList_spec _ _ hright).2 i0 (by simp)
    omega
  unfold checkInterfaces
  rw [if_neg (by simp)]
  simp only [ordermax, ordermin, hleft, hright, endPoint, startPoint, if_pos hle, hlast,
    List.head?_cons, List.map_cons]
  rfl

end Infretis.PathAlg
