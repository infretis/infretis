import Infretis.Lemmas.ReadersLmp
import Infretis.Lemmas.Readers
import Infretis.Lemmas.ListAux
/-!
`lammpstrj_reader`, frame by frame.  `LAt N f st0 k S` says what the loop's state `S` is after the first `k` lines of
the frame `f`, read from a state `st0` in which it expects a frame (`LReady`), with one lemma per class of line.  A
frame cut inside a line is then decided by one step on that line from a known state (`lmpRun_frame_torn`).  Then the
cut guard `tbFree` of the one-byte-lag specification, one poll of the reader object with the next frame partly visible
(`lmpReader_poll_partial`, `lmpReader_late_line_end`), and the rows the atom lines are stored in (`atomIdx`,
`decode_row`).
-/
namespace Infretis.Readers

variable {v : Variant}

/-- the text of one LAMMPS dump frame, line by line -/
structure LmpF where
  l0 : Line   -- ITEM: TIMESTEP
  l1 : Line   -- t
  l2 : Line   -- ITEM: NUMBER OF ATOMS
  l3 : Line   -- n
  l4 : Line   -- ITEM: BOX BOUNDS …
  b0 : Line
  b1 : Line
  b2 : Line
  l8 : Line   -- ITEM: ATOMS id type x y z vx vy vz id
  atoms : List Line

def LmpF.hdr (f : LmpF) : List Line := [f.l0, f.l1, f.l2, f.l3, f.l4, f.b0, f.b1, f.b2, f.l8]
def LmpF.lines (f : LmpF) : List Line := f.hdr ++ f.atoms
def LmpF.enc (f : LmpF) : List Char := f.lines.flatten
def LmpF.len (f : LmpF) : Nat := f.enc.length

def boxRow (b : Line) : List Tok := split b ++ List.replicate (3 - (split b).length) zeroTok

/-- `coordinate_snapshot[int(spl[0]) - 1, :] = spl[2:8]` -/
def lplace (N : Nat) (arr : List (List Tok)) (a : Line) : List (List Tok) :=
  match parseInt ((split a).headD []) with
  | some id =>
    match pyIndex N (id - 1) with
    | some k => arr.set k (((split a).drop 2).take 6)
    | none => arr
  | none => arr

/-- the values of the frame: six tokens per atom, stored at row `id - 1`; three box rows padded with 0 -/
def LmpF.decode (N : Nat) (f : LmpF) : LFrame :=
  (f.atoms.foldl (lplace N) (zeros N 6), [boxRow f.b0, boxRow f.b1, boxRow f.b2])

structure LBoxOK (b : Line) : Prop where
  line : IsLine b
  len : (split b).length = 2 ∨ (split b).length = 3
  fl : (split b).all floatOk = true

/-- what `lammpstrj_reader` looks at in an atom line (it never asks for the newline) -/
structure LAtomTok (N : Nat) (a : Line) : Prop where
  len : (split a).length = 9
  sent : (split a).head? = (split a).getLast?
  idx : ∃ id k, parseInt ((split a).headD []) = some id ∧ pyIndex N (id - 1) = some k
  fl : (((split a).drop 2).take 6).all floatOk = true

structure LAtomOK (N : Nat) (a : Line) : Prop where
  body : ∃ init c tb, a = ((init ++ [c]) ++ tb) ++ ['\n'] ∧ '\n' ∉ init ∧ isBlank c = false
    ∧ ∀ x ∈ tb, isBlank x = true ∧ x ≠ '\n'
  tok : LAtomTok N a

/-- well-formed frame of `N` atoms: complete lines; line 4 starts with the integer `N`; three box lines
    of two or three float literals; `N` atom lines `id type x y z vx vy vz id` (nine tokens, first = last,
    a valid row index, float literals, any blanks or tabs between the trailing id and the newline). The first
    line is not white space only. Header texts, blanks between tokens, number formats and the order of the ids
    are arbitrary. -/
structure LmpF.WF (N : Nat) (f : LmpF) : Prop where
  l0 : IsLine f.l0
  l0nb : ∃ c ∈ f.l0, isBlank c = false
  l1 : IsLine f.l1
  l2 : IsLine f.l2
  l3 : IsLine f.l3
  l3tok : ∃ t rest, split f.l3 = t :: rest ∧ parseInt t = some (N : Int)
  l4 : IsLine f.l4
  b0 : LBoxOK f.b0
  b1 : LBoxOK f.b1
  b2 : LBoxOK f.b2
  l8 : IsLine f.l8
  natoms : f.atoms.length = N
  atoms : ∀ a ∈ f.atoms, LAtomOK N a

theorem lmpLate_of_nonblank (l : Line) (h : ∃ c ∈ l, isBlank c = false) : lmpLate v l = false := by
  obtain ⟨c, hc, hb⟩ := h
  cases v with
  | asIs =>
    simp only [lmpLate, beq_eq_false_iff_ne, ne_eq]
    rintro rfl
    simp only [List.mem_singleton] at hc
    subst hc
    simp [isBlank] at hb
  | repaired =>
    simp only [lmpLate, Bool.and_eq_false_iff]
    right
    rw [List.all_eq_false]
    exact ⟨c, hc, by simp [hb]⟩

theorem lmpLate_of_noNl (p : Line) (hp : '\n' ∉ p) : lmpLate v p = false := by
  cases v with
  | asIs =>
    simp only [lmpLate, beq_eq_false_iff_ne, ne_eq]
    rintro rfl
    simp at hp
  | repaired =>
    simp [lmpLate, endsNl_false_of_noNl p hp]

theorem LAtomOK.isLine {N : Nat} {a : Line} (h : LAtomOK N a) : IsLine a := by
  obtain ⟨init, c, tb, rfl, hi, hc, htb⟩ := h.body
  refine ⟨(init ++ [c]) ++ tb, rfl, ?_⟩
  intro hm
  simp only [List.mem_append, List.mem_singleton] at hm
  rcases hm with (hm | hm) | hm
  · exact hi hm
  · subst hm; simp [isBlank] at hc
  · exact (htb _ hm).2 rfl

theorem LmpF.WF.allLines {N : Nat} {f : LmpF} (h : f.WF N) : ∀ l ∈ f.lines, IsLine l := by
  intro l hl
  simp only [LmpF.lines, LmpF.hdr, List.mem_append, List.mem_cons, List.not_mem_nil, or_false] at hl
  rcases hl with (rfl | rfl | rfl | rfl | rfl | rfl | rfl | rfl | rfl) | hl
  · exact h.l0
  · exact h.l1
  · exact h.l2
  · exact h.l3
  · exact h.l4
  · exact h.b0.line
  · exact h.b1.line
  · exact h.b2.line
  · exact h.l8
  · exact (h.atoms l hl).isLine

/-- a line that is neither the atom-count line of the first frame, nor a box line, nor an atom line -/
theorem lmpStep_plain (st : LSt) (line : Line) (h0 : ¬ (st.i = 0 ∧ lmpLate v line = true)) (h3 : st.i ≠ 3)
    (hb : ¬ (5 ≤ st.i % st.block ∧ st.i % st.block ≤ 7)) (ha : ¬ 9 ≤ st.i % st.block)
    (he : ¬ (st.i % st.block = st.block - 1 ∧ st.i > 0)) :
    lmpStep v st line = .cont { st with i := st.i + 1, tell := st.tell + line.length } := by
  simp only [lmpStep, h0, h3, if_false, lBody, hb, ha, lEnd, he]

theorem lmpStep_natoms (N : Nat) (st : LSt) (line : Line) (hi : st.i = 3) (hl : IsLine line)
    (htok : ∃ t rest, split line = t :: rest ∧ parseInt t = some (N : Int)) :
    lmpStep v st line = .cont { st with i := 4, natoms := N, block := N + 9, coords := zeros N 6,
                                        box := zeros 3 3, tell := st.tell + line.length } := by
  obtain ⟨t, rest, hs, hp⟩ := htok
  have hN : ¬ ((N : Int) < 0) := by omega
  have hm : 3 % (N + 9) = 3 := Nat.mod_eq_of_lt (by omega)
  simp only [lmpStep, hi, if_false, if_true, hs, List.isEmpty_cons, hl.endsNl, List.headD_cons, hp, hN,
    Int.toNat_natCast, lBody, hm, lEnd, Bool.false_eq_true]
  have h2 : ¬ (9 ≤ 3) := by omega
  simp [h2]

theorem lmpStep_box (st : LSt) (b : Line) (hb : LBoxOK b) (r : Nat) (hr : st.i % st.block = r)
    (h5 : 5 ≤ r) (h7 : r ≤ 7) (hbl : 9 ≤ st.block) (hi : 4 ≤ st.i) :
    lmpStep v st b = .cont { st with i := st.i + 1, tell := st.tell + b.length,
                                     box := st.box.set (r - 5) (boxRow b) } := by
  have h0 : ¬ (st.i = 0 ∧ lmpLate v b = true) := by omega
  have h3 : st.i ≠ 3 := by omega
  have hc : 5 ≤ r ∧ r ≤ 7 := ⟨h5, h7⟩
  have hn : ¬ (((split b).length ≠ 2 ∧ (split b).length ≠ 3) ∨ endsNl b = false) := by
    have := hb.len; simp [hb.line.endsNl]; omega
  have he : ¬ (r = st.block - 1 ∧ st.i > 0) := by omega
  simp only [lmpStep, h0, h3, if_false, lBody, hr, hc, and_self, if_true, hn, hb.fl, lEnd, he, boxRow]

/-- an atom line — complete, or complete except for its newline: only its tokens matter -/
theorem lmpStep_atom (N : Nat) (st : LSt) (a : Line) (ha : LAtomTok N a) (hr : 9 ≤ st.i % st.block)
    (hi : 4 ≤ st.i) (hn : st.natoms = N) :
    lmpStep v st a = .cont (lEnd { st with coords := lplace N st.coords a } (st.tell + a.length)) := by
  have h0 : ¬ (st.i = 0 ∧ lmpLate v a = true) := by omega
  have h3 : st.i ≠ 3 := by omega
  have hb : ¬ (5 ≤ st.i % st.block ∧ st.i % st.block ≤ 7) := by omega
  obtain ⟨id, k, hp, hk⟩ := ha.idx
  have hc : ¬ ((split a).length ≠ 9 ∨ (split a).head? ≠ (split a).getLast?) := by
    simp [ha.len, ha.sent]
  simp only [lmpStep, h0, h3, if_false, lBody, hb, hr, if_true, hc, hp, hn, hk, ha.fl, lplace]

/-- state in which the loop meets the first line of a frame -/
structure LReady (N : Nat) (st : LSt) : Prop where
  imod : st.i % (N + 9) = 0
  kind : (st.i = 0 ∧ st.block = 4) ∨
    (st.i ≠ 0 ∧ st.natoms = N ∧ st.block = N + 9 ∧ st.coords = zeros N 6 ∧ st.box = zeros 3 3)
  pos : st.pos = st.tell

theorem lInit_ready (N pos : Nat) : LReady N (lInit pos) :=
  ⟨by simp [lInit], Or.inl ⟨rfl, rfl⟩, rfl⟩

theorem LReady.ge {N : Nat} {st : LSt} (h : LReady N st) (hne : st.i ≠ 0) : N + 9 ≤ st.i := by
  rcases Nat.lt_or_ge st.i (N + 9) with hlt | hge
  · have := Nat.mod_eq_of_lt hlt
    rw [h.imod] at this; omega
  · exact hge

/-- `box_snapshot` after `k` lines of the frame -/
def boxAt (f : LmpF) (k : Nat) : List (List Tok) :=
  [if 6 ≤ k then boxRow f.b0 else List.replicate 3 zeroTok, if 7 ≤ k then boxRow f.b1 else List.replicate 3 zeroTok,
   if 8 ≤ k then boxRow f.b2 else List.replicate 3 zeroTok]

theorem boxAt_congr (f : LmpF) {k k' : Nat} (h : (6 ≤ k ↔ 6 ≤ k') ∧ (7 ≤ k ↔ 7 ≤ k') ∧ (8 ≤ k ↔ 8 ≤ k')) :
    boxAt f k = boxAt f k' := by
  simp only [boxAt, h.1, h.2.1, h.2.2]

theorem LmpF.lines_length {N : Nat} {f : LmpF} (hf : f.WF N) : f.lines.length = N + 9 := by
  simp [LmpF.lines, LmpF.hdr, hf.natoms]

theorem LmpF.atom_line (f : LmpF) (k : Nat) (hk : 9 ≤ k) : f.lines[k]? = f.atoms[k - 9]? := by
  rw [LmpF.lines, List.getElem?_append_right (by simpa [LmpF.hdr] using hk)]
  rfl

theorem flatten_take_succ_length (fl : List Line) (k : Nat) (l : Line) (h : fl[k]? = some l) :
    ((fl.take (k + 1)).flatten).length = ((fl.take k).flatten).length + l.length := by
  obtain ⟨hk, rfl⟩ := List.getElem?_eq_some_iff.mp h
  rw [List.take_succ_eq_append_getElem hk, List.flatten_append, List.length_append, List.flatten_singleton]

/-- the loop has consumed the first `k` lines of the frame `f` since the ready state `st0`: nothing returned,
    nothing moved; `block_size`/`N_atoms` are those of the previous frame, or learned at line 4 of the first frame of
    the poll; the arrays hold what the lines read so far put there -/
structure LAt (N : Nat) (f : LmpF) (st0 : LSt) (k : Nat) (S : LSt) : Prop where
  i : S.i = st0.i + k
  traj : S.traj = st0.traj
  pos : S.pos = st0.pos
  tell : S.tell = st0.tell + ((f.lines.take k).flatten).length
  -- `block_size` starts as 4 (engineparts.py:564) and becomes `N_atoms + 9` on line 3 of the first frame of a poll; up
  -- to there `i % block_size` is `k` all the same
  size : (st0.i = 0 ∧ k ≤ 3 ∧ S.block = 4) ∨ (S.block = N + 9 ∧ S.natoms = N ∧ (st0.i = 0 → 4 ≤ k))
  arrays : st0.i ≠ 0 ∨ 4 ≤ k →
    S.coords = (f.atoms.take (k - 9)).foldl (lplace N) (zeros N 6) ∧ S.box = boxAt f k

variable {N : Nat} {f : LmpF} {st0 S : LSt} {k : Nat}

theorem LAt.zero (hst : LReady N st0) : LAt N f st0 0 st0 where
  i := rfl
  traj := rfl
  pos := rfl
  tell := rfl
  size := hst.kind.imp (fun h => ⟨h.1, Nat.zero_le _, h.2⟩) (fun h => ⟨h.2.2.1, h.2.1, fun h0 => absurd h0 h.1⟩)
  arrays hk := by
    rcases hst.kind with ⟨h0, _⟩ | ⟨_, _, _, hc, hb⟩
    · omega
    · exact ⟨hc, hb⟩

theorem LAt.mod (hst : LReady N st0) (h : LAt N f st0 k S) (hk : k ≤ N + 8) : S.i % S.block = k := by
  rcases h.size with ⟨h0, hk3, hb⟩ | ⟨hb, _, _⟩
  · rw [h.i, h0, hb]; omega
  · rw [h.i, hb]; exact add_mod_of_mod_zero st0.i k (N + 9) hst.imod (by omega)

/-- an atom line, or what is visible of it once its trailing id is there: stored; the last one ends the frame -/
theorem LAt.lmpStep_atom (hst : LReady N st0) (h : LAt N f st0 k S) (hk9 : 9 ≤ k) (hk : k ≤ N + 8) (p : Line)
    (hp : LAtomTok N p) :
    lmpStep v S p = .cont (if k = N + 8 then
        { S with i := S.i + 1, traj := S.traj ++ [(lplace N S.coords p, S.box)], pos := S.tell + p.length,
                 tell := S.tell + p.length, coords := zeros N 6, box := zeros 3 3 }
      else { S with i := S.i + 1, coords := lplace N S.coords p, tell := S.tell + p.length }) := by
  have hmod := h.mod hst hk
  obtain ⟨hb, hn⟩ : S.block = N + 9 ∧ S.natoms = N := by
    rcases h.size with ⟨_, h3, _⟩ | ⟨a, b, _⟩
    · omega
    · exact ⟨a, b⟩
  rw [Readers.lmpStep_atom N S p hp (by rw [hmod]; exact hk9) (by rw [h.i]; omega) hn]
  have hc : (S.i % S.block = S.block - 1 ∧ S.i > 0) ↔ k = N + 8 := by rw [hmod, hb, h.i]; omega
  simp only [lEnd, hc, hn]

theorem LAt.tell_succ {l : Line} (h : LAt N f st0 k S) (hl : f.lines[k]? = some l) :
    S.tell + l.length = st0.tell + ((f.lines.take (k + 1)).flatten).length := by
  rw [flatten_take_succ_length _ _ _ hl, h.tell, Nat.add_assoc]

/-- a header line that is not the atom-count line of the first frame of the poll (`hk3`) -/
theorem LAt.succ_header {l : Line} {S' : LSt} (h : LAt N f st0 k S) (hl : f.lines[k]? = some l) (hk8 : k ≤ 8)
    (hk3 : st0.i = 0 → k ≠ 3) (hi : S'.i = S.i + 1) (ht : S'.traj = S.traj) (hp : S'.pos = S.pos)
    (hte : S'.tell = S.tell + l.length) (hb : S'.block = S.block) (hn : S'.natoms = S.natoms)
    (hc : S'.coords = S.coords) (hbox : S.box = boxAt f k → S'.box = boxAt f (k + 1)) : LAt N f st0 (k + 1) S' := by
  refine ⟨by rw [hi, h.i]; rfl, ht.trans h.traj, hp.trans h.pos, by rw [hte, h.tell_succ hl], ?_, fun a => ?_⟩
  · rw [hb, hn]
    exact h.size.imp (fun a => ⟨a.1, by have := hk3 a.1; omega, a.2.2⟩)
      (fun a => ⟨a.1, a.2.1, fun b => by have := a.2.2 b; omega⟩)
  · have a' : st0.i ≠ 0 ∨ 4 ≤ k := by
      by_cases b : st0.i = 0
      · have := hk3 b
        exact Or.inr (by omega)
      · exact Or.inl b
    obtain ⟨ha1, ha2⟩ := h.arrays a'
    exact ⟨by rw [hc, ha1, show k + 1 - 9 = k - 9 by omega], hbox ha2⟩

/-- the atom-count line of the first frame of the poll: `N_atoms`, `block_size` and fresh arrays -/
theorem LAt.next_atomCount (hf : f.WF N) (h : LAt N f st0 3 S) (h0 : st0.i = 0) :
    ∃ S', lmpStep v S f.l3 = .cont S' ∧ LAt N f st0 4 S' :=
  ⟨_, lmpStep_natoms N S f.l3 (by rw [h.i, h0]) hf.l3 hf.l3tok, by rw [h0], h.traj, h.pos,
    h.tell_succ (l := f.l3) rfl, Or.inr ⟨rfl, rfl, fun _ => Nat.le_refl _⟩, fun _ => ⟨rfl, rfl⟩⟩

theorem LAt.next_box {l : Line} (hf : f.WF N) (hst : LReady N st0) (h : LAt N f st0 k S) (h5 : 5 ≤ k) (h7 : k ≤ 7)
    (hl : f.lines[k]? = some l) : ∃ S', lmpStep v S l = .cont S' ∧ LAt N f st0 (k + 1) S' := by
  have hlb : LBoxOK l ∧ (boxAt f k).set (k - 5) (boxRow l) = boxAt f (k + 1) := by
    obtain rfl | rfl | rfl : k = 5 ∨ k = 6 ∨ k = 7 := by omega
    · obtain rfl : f.b0 = l := Option.some.inj hl
      exact ⟨hf.b0, rfl⟩
    · obtain rfl : f.b1 = l := Option.some.inj hl
      exact ⟨hf.b1, rfl⟩
    · obtain rfl : f.b2 = l := Option.some.inj hl
      exact ⟨hf.b2, rfl⟩
  have hb : S.block = N + 9 := by
    rcases h.size with ⟨_, h3, _⟩ | ⟨a, _⟩
    · omega
    · exact a
  exact ⟨_, lmpStep_box S l hlb.1 k (h.mod hst (by omega)) h5 h7 (by omega) (by rw [h.i]; omega),
    h.succ_header hl (by omega) (fun _ => by omega) rfl rfl rfl rfl rfl rfl rfl (fun e => by rw [← hlb.2, ← e])⟩

/-- a header line the reader only counts -/
theorem LAt.next_counted {l : Line} (hf : f.WF N) (hst : LReady N st0) (h : LAt N f st0 k S) (hk8 : k ≤ 8)
    (hk : k < N + 8) (hbox : ¬ (5 ≤ k ∧ k ≤ 7)) (hk3 : st0.i = 0 → k ≠ 3) (hl : f.lines[k]? = some l) :
    ∃ S', lmpStep v S l = .cont S' ∧ LAt N f st0 (k + 1) S' := by
  have hmod := h.mod hst (by omega)
  have h0 : ¬ (S.i = 0 ∧ lmpLate v l = true) := by
    rintro ⟨a, b⟩
    obtain ⟨_, rfl⟩ : st0.i = 0 ∧ k = 0 := by rw [h.i] at a; omega
    obtain rfl : f.l0 = l := Option.some.inj hl
    rw [lmpLate_of_nonblank f.l0 hf.l0nb] at b
    cases b
  have h3 : S.i ≠ 3 := by
    rw [h.i]
    by_cases b : st0.i = 0
    · have := hk3 b
      omega
    · have := hst.ge b
      omega
  have he : ¬ (S.i % S.block = S.block - 1 ∧ S.i > 0) := by
    rw [hmod]
    rcases h.size with ⟨b, _, c⟩ | ⟨c, _⟩
    · have := hk3 b
      omega
    · omega
  exact ⟨_, lmpStep_plain S l h0 h3 (by rw [hmod]; exact hbox) (by rw [hmod]; omega) he,
    h.succ_header hl hk8 hk3 rfl rfl rfl rfl rfl rfl rfl (fun e => e.trans (boxAt_congr f (by omega)))⟩

theorem LAt.next_atom {l : Line} (hf : f.WF N) (hst : LReady N st0) (h : LAt N f st0 k S) (hk9 : 9 ≤ k)
    (hk : k < N + 8) (hl : f.lines[k]? = some l) : ∃ S', lmpStep v S l = .cont S' ∧ LAt N f st0 (k + 1) S' := by
  have hla : f.atoms[k - 9]? = some l := by rw [← f.atom_line k hk9]; exact hl
  obtain ⟨ha1, ha2⟩ := h.arrays (Or.inr (by omega))
  refine ⟨_, h.lmpStep_atom hst hk9 (Nat.le_of_lt hk) l (hf.atoms l (List.mem_of_getElem? hla)).tok, ?_⟩
  rw [if_neg (by omega)]
  refine ⟨by rw [h.i]; rfl, h.traj, h.pos, h.tell_succ hl,
    h.size.imp (fun a => by omega) (fun a => ⟨a.1, a.2.1, fun _ => by omega⟩),
    fun _ => ⟨?_, ha2.trans (boxAt_congr f (by omega))⟩⟩
  show lplace N S.coords l = _
  rw [ha1, show k + 1 - 9 = (k - 9) + 1 by omega, List.take_add_one, hla, List.foldl_append]
  rfl

theorem LAt.next {l : Line} (hf : f.WF N) (hst : LReady N st0) (h : LAt N f st0 k S) (hk : k < N + 8)
    (hl : f.lines[k]? = some l) : ∃ S', lmpStep v S l = .cont S' ∧ LAt N f st0 (k + 1) S' := by
  by_cases hk9 : 9 ≤ k
  · exact h.next_atom hf hst hk9 hk hl
  · by_cases hcount : k = 3 ∧ st0.i = 0
    · obtain ⟨rfl, h0⟩ := hcount
      obtain rfl : f.l3 = l := Option.some.inj hl
      exact h.next_atomCount hf h0
    · by_cases hbox : 5 ≤ k ∧ k ≤ 7
      · exact h.next_box hf hst hbox.1 hbox.2 hl
      · exact h.next_counted hf hst (by omega) hk hbox (fun a b => hcount ⟨b, a⟩) hl

/-- a header line that is still being written never makes the reader return a frame or raise -/
theorem LAt.torn_hdr (hN : 1 ≤ N) (hst : LReady N st0) (h : LAt N f st0 k S) (hk : k ≤ 8) (p : Line)
    (hp : '\n' ∉ p) :
    (∃ s', lmpStep v S p = .cont s' ∧ s'.traj = S.traj ∧ s'.pos = S.pos) ∨ lmpStep v S p = .ret (S.traj, S.pos) := by
  have hnl := endsNl_false_of_noNl p hp
  have hm := h.mod hst (by omega)
  have h0 : ¬ (S.i = 0 ∧ lmpLate v p = true) := by
    intro a
    rw [lmpLate_of_noNl p hp] at a
    exact absurd a.2 (by simp)
  by_cases hcount : k = 3 ∧ st0.i = 0
  · right
    have : S.i = 3 := by rw [h.i]; omega
    simp [lmpStep, this, hnl]
  · have h3 : S.i ≠ 3 := by
      rw [h.i]
      by_cases b : st0.i = 0
      · omega
      · have := hst.ge b
        omega
    by_cases hbox : 5 ≤ k ∧ k ≤ 7
    · right
      simp [lmpStep, h0, h3, lBody, hm, hbox, hnl]
    · left
      refine ⟨_, lmpStep_plain S p h0 h3 (by rw [hm]; exact hbox) (by rw [hm]; omega) ?_, rfl, rfl⟩
      rw [hm]
      rcases h.size with ⟨b, _, c⟩ | ⟨c, _⟩
      · omega
      · omega

theorem lmpRun_take (hf : f.WF N) (hst : LReady N st0) (k : Nat) (hk : k ≤ N + 8) :
    ∃ S, resRun (lmpStep v) (f.lines.take k) st0 = .cont S ∧ LAt N f st0 k S := by
  induction k with
  | zero => exact ⟨st0, rfl, LAt.zero hst⟩
  | succ k ih =>
    obtain ⟨S, hS, hA⟩ := ih (by omega)
    have hlt : k < f.lines.length := by rw [LmpF.lines_length hf]; omega
    obtain ⟨S', hs, hA'⟩ := hA.next (v := v) hf hst (by omega) (List.getElem?_eq_getElem hlt)
    exact ⟨S', by rw [List.take_succ_eq_append_getElem hlt, resRun_append, hS]; simp only [resRun, hs], hA'⟩

theorem flatten_length_pos (fl : List Line) (h : ∀ l ∈ fl, IsLine l) (hne : fl ≠ []) :
    0 < fl.flatten.length := by
  cases fl with
  | nil => exact absurd rfl hne
  | cons l fl => have := (h l (by simp)).length_pos; simp; omega

/-- number of white-space characters at the end of a line, its newline included -/
def trailLen (a : Line) : Nat := (a.reverse.takeWhile isBlank).length

/-- how many bytes of a frame may still be missing when `lammpstrj_reader` accepts it: the white space and the
    newline behind the trailing id of its last atom line (1 = only the newline) -/
def LmpF.slack (f : LmpF) : Nat :=
  match f.atoms.getLast? with
  | some a => trailLen a
  | none => 1

theorem takeWhile_append_stop (p : Char → Bool) (l1 l2 : List Char) (c : Char) (h1 : ∀ x ∈ l1, p x = true)
    (hc : p c = false) : (l1 ++ c :: l2).takeWhile p = l1 := by
  rw [List.takeWhile_append_of_pos h1, List.takeWhile_cons_of_neg (by simp [hc]), List.append_nil]

theorem trailLen_body (init tb : List Char) (c : Char) (hc : isBlank c = false)
    (htb : ∀ x ∈ tb, isBlank x = true ∧ x ≠ '\n') :
    trailLen (((init ++ [c]) ++ tb) ++ ['\n']) = tb.length + 1 := by
  unfold trailLen
  have : (((init ++ [c]) ++ tb) ++ ['\n']).reverse = ('\n' :: tb.reverse) ++ c :: init.reverse := by simp
  rw [this, takeWhile_append_stop isBlank _ _ c ?_ hc]
  · simp
  · intro x hx
    simp only [List.mem_cons, List.mem_reverse] at hx
    rcases hx with rfl | hx
    · decide
    · exact (htb x hx).1

theorem flatten_length_split (fl : List Line) (k : Nat) (hk : k < fl.length) :
    fl.flatten.length = ((fl.take k).flatten).length + (fl[k].length + ((fl.drop (k + 1)).flatten).length) := by
  have := congrArg (fun x => x.flatten.length) (split_at fl k hk)
  simpa only [List.flatten_append, List.flatten_cons, List.length_append] using this

theorem cut_arith_t (fl : List Line) (k : Nat) (hk : k < fl.length) (j : Nat)
    (hj : j < fl[k].length) (last : Line) (hlast : fl.getLast? = some last) (t : Nat) (ht : t < last.length) :
    fl.flatten.length ≤ ((fl.take k).flatten).length + j + t ↔ (k + 1 = fl.length ∧ fl[k].length ≤ j + t) := by
  have hlen := flatten_length_split fl k hk
  by_cases hkl : k + 1 = fl.length
  · have hnil : fl.drop (k + 1) = [] := List.drop_eq_nil_iff.mpr (by omega)
    rw [hlen, hnil]
    simp only [List.flatten_nil, List.length_nil, Nat.add_zero]
    constructor
    · intro h; exact ⟨hkl, by omega⟩
    · rintro ⟨_, h⟩; omega
  · have hmem : last ∈ fl.drop (k + 1) := by
      have hne : fl.drop (k + 1) ≠ [] := by
        intro h; have := List.drop_eq_nil_iff.mp h; omega
      have hl2 : (fl.drop (k + 1)).getLast? = some last := by
        rw [List.getLast?_drop]; simp [hlast]; omega
      exact List.mem_of_getLast? hl2
    have := (List.sublist_flatten_of_mem hmem).length_le
    constructor
    · intro h; omega
    · rintro ⟨h, _⟩; exact absurd h hkl

theorem cut_arith (fl : List Line) (h : ∀ l ∈ fl, IsLine l) (k : Nat) (hk : k < fl.length) (j : Nat)
    (hj : j < fl[k].length) :
    ((fl.take k).flatten).length + j + 1 = fl.flatten.length ↔ (k + 1 = fl.length ∧ j + 1 = fl[k].length) := by
  have hlen := flatten_length_split fl k hk
  constructor
  · intro he
    have hQ : ((fl.drop (k + 1)).flatten).length = 0 := by omega
    have hnil : fl.drop (k + 1) = [] := by
      cases hd : fl.drop (k + 1) with
      | nil => rfl
      | cons x xs =>
        have := flatten_length_pos (fl.drop (k + 1)) (fun l hl => h l (List.mem_of_mem_drop hl)) (by simp [hd])
        omega
    have : fl.length ≤ k + 1 := by simpa using List.drop_eq_nil_iff.mp hnil
    exact ⟨by omega, by omega⟩
  · rintro ⟨h1, h2⟩
    have hnil : fl.drop (k + 1) = [] := List.drop_eq_nil_iff.mpr (by omega)
    rw [hlen, hnil]; simp; omega

theorem lplace_congr (N : Nat) (arr : List (List Tok)) (a b : Line) (h : split a = split b) :
    lplace N arr a = lplace N arr b := by
  unfold lplace; rw [h]

theorem LAtomTok.of_split {N : Nat} {a b : Line} (h : LAtomTok N a) (hs : split b = split a) :
    LAtomTok N b :=
  ⟨by rw [hs]; exact h.len, by rw [hs]; exact h.sent, by rw [hs]; exact h.idx, by rw [hs]; exact h.fl⟩

theorem LmpF.WF.last_line {N : Nat} {f : LmpF} (hf : f.WF N) (hN : 1 ≤ N) :
    ∃ last, f.lines.getLast? = some last ∧ f.atoms[N - 1]? = some last ∧ f.slack = trailLen last
      ∧ f.slack < last.length ∧ 1 ≤ f.slack := by
  have hlt : N - 1 < f.atoms.length := by rw [hf.natoms]; omega
  have hne : f.atoms ≠ [] := by intro h; rw [h] at hlt; simp at hlt
  have hlast : f.atoms.getLast? = some f.atoms[N - 1] := by
    rw [List.getLast?_eq_getElem?, hf.natoms, List.getElem?_eq_getElem hlt]
  refine ⟨f.atoms[N - 1], ?_, List.getElem?_eq_getElem hlt, ?_, ?_, ?_⟩
  · simp only [LmpF.lines]
    rw [List.getLast?_append, hlast]; rfl
  · simp only [LmpF.slack, hlast]
  all_goals
    obtain ⟨init, c, tb, hb, _, hc, htb⟩ := (hf.atoms _ (List.getElem_mem hlt)).body
    simp only [LmpF.slack, hlast]
    rw [hb, trailLen_body init tb c hc htb]
    first
      | omega
      | (simp only [List.length_append, List.length_cons, List.length_nil]; omega)

theorem boxAt_full (f : LmpF) {k : Nat} (h : 8 ≤ k) : boxAt f k = [boxRow f.b0, boxRow f.b1, boxRow f.b2] := by
  simp only [boxAt, show 6 ≤ k by omega, show 7 ≤ k by omega, h, if_true]

theorem LAt.decode (hN : 1 ≤ N) (hf : f.WF N) (h : LAt N f st0 (N + 8) S) (last p : Line)
    (hlast : f.atoms[N - 1]? = some last) (hp : split p = split last) :
    (lplace N S.coords p, S.box) = f.decode N := by
  obtain ⟨ha1, ha2⟩ := h.arrays (Or.inr (by omega))
  have hatoms : f.atoms = f.atoms.take (N - 1) ++ [last] := by
    have := List.take_add_one (l := f.atoms) (i := N - 1)
    rw [hlast, show N - 1 + 1 = N by omega, List.take_of_length_le (by rw [hf.natoms]; exact Nat.le_refl _)] at this
    exact this
  rw [ha1, ha2, show N + 8 - 9 = N - 1 by omega, lplace_congr N _ p last hp, LmpF.decode]
  conv => rhs; rw [hatoms, List.foldl_append]
  rw [boxAt_full f (by omega)]
  rfl

/-- a whole frame: appended, position moved behind it, loop ready for the next frame -/
theorem lmpRun_frame (N : Nat) (hN : 1 ≤ N) (f : LmpF) (hf : f.WF N) (st : LSt) (hst : LReady N st) :
    ∃ S, resRun (lmpStep v) f.lines st = .cont S ∧ LReady N S ∧ S.traj = st.traj ++ [f.decode N]
      ∧ S.pos = st.pos + f.enc.length := by
  obtain ⟨last, _, hlastA, _⟩ := hf.last_line hN
  obtain ⟨S, hS, hA⟩ := lmpRun_take (v := v) hf hst (N + 8) (Nat.le_refl _)
  have hl : f.lines[N + 8]? = some last := by
    rw [f.atom_line _ (by omega), show N + 8 - 9 = N - 1 by omega]; exact hlastA
  have hfull : f.lines = f.lines.take (N + 8) ++ [last] := by
    have := List.take_add_one (l := f.lines) (i := N + 8)
    rw [hl, List.take_of_length_le (by rw [LmpF.lines_length hf]; omega)] at this
    exact this
  have hstep := hA.lmpStep_atom (v := v) hst (by omega) (Nat.le_refl _) last (hf.atoms last (List.mem_of_getElem? hlastA)).tok
  rw [if_pos rfl, hA.decode hN hf last last hlastA rfl] at hstep
  have hn : S.natoms = N := by
    rcases hA.size with ⟨_, h3, _⟩ | ⟨_, b, _⟩
    · omega
    · exact b
  refine ⟨{ S with i := S.i + 1, traj := S.traj ++ [f.decode N], pos := S.tell + last.length,
                   tell := S.tell + last.length, coords := zeros N 6, box := zeros 3 3 },
    by rw [hfull, resRun_append, hS]; simp only [resRun, hstep],
    ⟨?_, Or.inr ⟨by simp only []; omega, hn, ?_, rfl, rfl⟩, rfl⟩, by simp only [hA.traj], ?_⟩
  · show (S.i + 1) % (N + 9) = 0
    rw [hA.i, Nat.add_assoc, Nat.add_mod_right]
    exact hst.imod
  · rcases hA.size with ⟨_, h3, _⟩ | ⟨a, _⟩
    · omega
    · exact a
  · show S.tell + last.length = _
    rw [hA.tell, hst.pos, Nat.add_assoc, ← flatten_take_succ_length _ _ _ hl,
      List.take_of_length_le (by rw [LmpF.lines_length hf]; omega)]
    rfl

/-- **a frame that is not completely visible**: nothing is returned and nothing raised — except when
    at most the white space and the newline behind the trailing id of its last atom line are missing
    (`slack` bytes; 1 = only the final newline): then the frame is returned (all its values are there) and
    the position is left at the end of the visible bytes. -/
theorem lmpRun_frame_torn (N : Nat) (hN : 1 ≤ N) (f : LmpF) (hf : f.WF N) (st : LSt) (hst : LReady N st)
    (n : Nat) (hn : n < f.enc.length) :
    finish (fun st => (st.traj, st.pos)) (resRun (lmpStep v) (lines (f.enc.take n)) st)
      = .ok (if f.enc.length ≤ n + f.slack then (st.traj ++ [f.decode N], st.tell + n) else (st.traj, st.pos)) := by
  have henc : f.enc = f.lines.flatten := rfl
  rw [henc] at hn ⊢
  obtain ⟨k, p, hk, hp, he, hlines, l, hl, j, hj, hpj⟩ := lines_take_flatten f.lines hf.allLines n hn
  have hlen9 := LmpF.lines_length hf
  obtain ⟨_, hgk⟩ := List.getElem?_eq_some_iff.mp hl
  have hpl : p.length = j := by rw [hpj, List.length_take]; omega
  have hnP : n = ((f.lines.take k).flatten).length + j := by
    have := congrArg List.length he
    rw [List.length_take, List.length_append, hpl] at this
    omega
  obtain ⟨last, hlast, hlastA, hslk, hslt, hsl1⟩ := hf.last_line hN
  have harith := cut_arith_t f.lines k hk j (by rw [hgk]; exact hj) last hlast f.slack hslt
  rw [hgk, Nat.add_assoc, ← Nat.add_assoc _ j, ← hnP, hlen9] at harith
  -- in the last line of the frame, `l` is that line
  have hlastl : k + 1 = N + 9 → last = l := by
    intro hkl
    rw [List.getLast?_eq_getElem?, hlen9, show N + 9 - 1 = k by omega, hl] at hlast
    exact (Option.some.inj hlast).symm
  -- the complete lines leave the state `S`; what is left is one step on the cut line `p`
  obtain ⟨S, hS, hA⟩ := lmpRun_take (v := v) hf hst k (by omega)
  rw [hlines, resRun_append, hS]
  simp only [harith]
  by_cases hp0 : p = []
  · have hj0 : j = 0 := by rw [hp0] at hpl; simpa using hpl.symm
    rw [if_pos hp0, if_neg (by rintro ⟨h1, h2⟩; rw [hlastl h1] at hslt; omega)]
    simp [resRun, finish, hA.traj, hA.pos]
  · rw [if_neg hp0]
    simp only [resRun]
    by_cases hk8 : k ≤ 8
    · rw [if_neg (by omega)]
      rcases hA.torn_hdr (v := v) hN hst hk8 p hp with ⟨s', hs, ht, hpp⟩ | hs
      · rw [hs]; simp [finish, ht, hpp, hA.traj, hA.pos]
      · rw [hs]; simp [finish, hA.traj, hA.pos]
    · have hla : f.atoms[k - 9]? = some l := by rw [← f.atom_line k (by omega)]; exact hl
      have hlok := hf.atoms l (List.mem_of_getElem? hla)
      obtain ⟨init, c, tb, hbody, hinit, hc, htb⟩ := hlok.body
      have hll : l.length = (init ++ [c]).length + tb.length + 1 := by rw [hbody]; simp; omega
      have hcl : (init ++ [c] ++ tb).length = (init ++ [c]).length + tb.length := List.length_append
      have htbb : ∀ x ∈ tb, isBlank x = true := fun x hx => (htb x hx).1
      have hspl : split (init ++ [c]) = split l := by
        rw [hbody, split_append_nl, split_append_blanks _ _ htbb]
      -- in the last line of the frame, `slack` is what lies behind the trailing id
      have hslack : k + 1 = N + 9 → f.slack = tb.length + 1 := by
        intro hkl
        rw [hslk, hlastl hkl, hbody, trailLen_body init tb c hc htb]
      by_cases hjb : j < (init ++ [c]).length
      · -- cut inside the tokens: the trailing-id sentinel rejects the line
        have hstep : lmpStep v S p = .ret (S.traj, S.pos) := by
          have hmod := hA.mod hst (by omega)
          have h0 : ¬ (S.i = 0 ∧ lmpLate v p = true) := by rw [hA.i]; omega
          have h3 : S.i ≠ 3 := by rw [hA.i]; omega
          simp only [lmpStep, h0, h3, if_false]
          have hpc : p = ((init ++ [c]) ++ ['\n']).take j := by
            rw [hpj, hbody, List.take_append_of_le_length (by omega), List.take_append_of_le_length (by omega)]
            exact (List.take_append_of_le_length (by omega)).symm
          rw [hpc]
          exact lBody_torn_atom _ (init ++ [c]) init c rfl hc (by rw [hspl]; exact hlok.tok.len)
            (by rw [hspl]; exact hlok.tok.sent) j hjb (by rw [hmod]; omega) _
        rw [hstep, if_neg (by rintro ⟨h1, _⟩; have := hslack h1; omega)]
        simp [finish, hA.traj, hA.pos]
      · -- everything up to the trailing id is there: the line is read like the complete line
        have hsplp : split p = split l := by
          rw [hpj, hbody, List.take_append_of_le_length (by omega), List.take_append,
            List.take_of_length_le (by omega),
            split_append_blanks _ _ (fun x hx => htbb x (List.mem_of_mem_take hx)), hspl, hbody]
        rw [hA.lmpStep_atom (v := v) hst (by omega) (by omega) p (hlok.tok.of_split hsplp)]
        by_cases hlast' : k = N + 8
        · subst hlast'
          have := hslack rfl
          rw [if_pos rfl, if_pos ⟨rfl, by omega⟩, hA.decode hN hf last p hlastA (by rw [hlastl rfl]; exact hsplp)]
          simp only [finish, hA.traj, hA.tell, hnP, hpl, Nat.add_assoc]
        · rw [if_neg hlast', if_neg (by omega)]
          simp [finish, hA.traj, hA.pos]

/-- the cut `n` (relative to the start of `fs`) does not fall strictly inside the white space behind the trailing
    id of the last atom line of the first incomplete frame: either that frame misses more than its `slack`
    bytes, or exactly its final newline.  Trivially true when no last atom line has such white space.  Under it
    `lmpStagesS` is the one-byte-lag specification `lmpStages` (`lmpCountS_of_tbFree` in `ReadersLmpAny`): it guards
    the `*_trailing_partial` theorems of `Props/C13`; those about `lmpStagesS` hold for every cut. -/
def tbFree : List LmpF → Nat → Prop
  | [], _ => True
  | f :: fs, n => if f.len ≤ n then tbFree fs (n - f.len) else (f.len ≤ n + f.slack → f.len = n + 1)

theorem tbFree_of_slack_one (fs : List LmpF) (h : ∀ f ∈ fs, f.slack = 1) (n : Nat) : tbFree fs n := by
  induction fs generalizing n with
  | nil => trivial
  | cons f fs ih =>
    simp only [tbFree]
    split
    · exact ih (fun g hg => h g (by simp [hg])) _
    · intro hle; have := h f (by simp); omega

theorem tbFree_all_of_slack_one (fs : List LmpF) (h : ∀ f ∈ fs, f.slack = 1) (c d : Nat) :
    tbFree (fs.drop d) (c - sumLens ((fs.map LmpF.len).take d)) :=
  tbFree_of_slack_one _ (fun f hf => h f (List.mem_of_mem_drop hf)) _

theorem LmpF.WF.slack_lt_len {N : Nat} {f : LmpF} (hf : f.WF N) (hN : 1 ≤ N) : f.slack < f.len := by
  obtain ⟨last, hlast, _, _, hslt, _⟩ := hf.last_line hN
  have := (List.sublist_flatten_of_mem (List.mem_of_getLast? hlast)).length_le
  simp only [LmpF.len, LmpF.enc]; omega

theorem tbFree_zero (N : Nat) (hN : 1 ≤ N) (fs : List LmpF) (hwf : ∀ f ∈ fs, f.WF N) : tbFree fs 0 := by
  cases fs with
  | nil => trivial
  | cons f fs =>
    have := (hwf f (by simp)).slack_lt_len hN
    simp only [tbFree]
    split
    · omega
    · intro h; omega

theorem tbFree_drop (N : Nat) (hN : 1 ≤ N) (fs : List LmpF) (hwf : ∀ f ∈ fs, f.WF N) (c : Nat)
    (h : tbFree fs c) (d : Nat) :
    tbFree (fs.drop d) (c - sumLens ((fs.map LmpF.len).take d)) := by
  induction fs generalizing c d with
  | nil => simp [tbFree]
  | cons f fs ih =>
    cases d with
    | zero => simpa [sumLens] using h
    | succ d =>
      have hwf' : ∀ g ∈ fs, g.WF N := fun g hg => hwf g (by simp [hg])
      simp only [List.drop_succ_cons, List.map_cons, List.take_succ_cons, sumLens]
      simp only [tbFree] at h
      by_cases hle : f.len ≤ c
      · simp only [hle, if_true] at h
        have := ih hwf' (c - f.len) h d
        rw [Nat.sub_add_eq]; exact this
      · have h0 : c - (f.len + sumLens ((fs.map LmpF.len).take d)) = 0 := by omega
        rw [h0]
        exact tbFree_zero N hN _ (fun g hg => hwf' g (List.mem_of_mem_drop hg))

theorem flatten_lenc_length (fs : List LmpF) :
    ((fs.map LmpF.enc).flatten).length = sumLens (fs.map LmpF.len) := by
  induction fs with
  | nil => simp [sumLens]
  | cons f fs ih => simp [sumLens, ih, LmpF.len]

/-- **one poll from a frame boundary, the next frame partly visible** — with any white space behind the trailing
    ids: the frame is returned iff at most its `slack` bytes (white space + newline behind the trailing id of its
    last atom line) are missing; the position is then the end of the visible bytes; otherwise nothing is returned
    and nothing moves.  Never an exception. -/
theorem lmpReader_poll_partial (N : Nat) (hN : 1 ≤ N) (done : List LmpF) (f : LmpF) (rest : List LmpF)
    (hf : f.WF N) (c : Nat) (h1 : ((done.map LmpF.enc).flatten).length ≤ c)
    (h2 : c < ((done.map LmpF.enc).flatten).length + f.len) :
    lmpReader v ((((done ++ f :: rest).map LmpF.enc).flatten).take c) ((done.map LmpF.enc).flatten).length
      = .ok (if f.enc.length ≤ (c - ((done.map LmpF.enc).flatten).length) + f.slack
             then ([f.decode N], c) else ([], ((done.map LmpF.enc).flatten).length)) := by
  unfold lmpReader
  rw [lmpRun_eq_resRun, List.drop_take, List.map_append, List.flatten_append, List.drop_left, List.map_cons,
    List.flatten_cons,
    List.take_append_of_le_length (by simp only [LmpF.len] at h2; omega)]
  have := lmpRun_frame_torn (v := v) N hN f hf (lInit ((done.map LmpF.enc).flatten).length) (lInit_ready N _)
    (c - ((done.map LmpF.enc).flatten).length) (by simp only [LmpF.len] at h2; omega)
  rw [this]
  simp only [lInit, List.nil_append]
  by_cases hacc : f.enc.length ≤ c - ((done.map LmpF.enc).flatten).length + f.slack
  · rw [if_pos hacc, if_pos hacc]
    congr 2; omega
  · rw [if_neg hacc, if_neg hacc]

/-- **the late line end** (`repaired`): a poll that starts in front of white space and a newline (what is left
    of a frame that was returned early) skips them as soon as the newline is visible and returns nothing;
    before that it returns nothing and does not move.  Never an exception. -/
theorem lmpReader_late_line_end (pre ws rest : List Char) (hws : ∀ x ∈ ws, isBlank x = true ∧ x ≠ '\n') (c : Nat) :
    lmpReader .repaired ((pre ++ (ws ++ '\n' :: rest)).take c) pre.length
      = .ok ([], if pre.length + ws.length + 1 ≤ c then pre.length + ws.length + 1 else pre.length) := by
  have hnl : '\n' ∉ ws := fun h => (hws _ h).2 rfl
  unfold lmpReader
  rw [List.drop_take, List.drop_left]
  by_cases hc : pre.length + ws.length + 1 ≤ c
  · obtain ⟨m, hm⟩ : ∃ m, c - pre.length = ws.length + 1 + m := ⟨c - pre.length - ws.length - 1, by omega⟩
    have htake : (ws ++ '\n' :: rest).take (c - pre.length) = ws ++ '\n' :: rest.take m := by
      rw [hm, List.take_append, List.take_of_length_le (by omega)]
      have : ws.length + 1 + m - ws.length = m + 1 := by omega
      rw [this, List.take_succ_cons]
    have hlate : lmpLate .repaired (ws ++ ['\n']) = true := by
      simp only [lmpLate, Bool.and_eq_true, List.all_eq_true]
      refine ⟨by simp [endsNl], ?_⟩
      intro x hx
      rcases List.mem_append.mp hx with h | h
      · exact (hws x h).1
      · rw [List.mem_singleton.mp h]; decide
    rw [htake, lines_body_nl ws hnl, if_pos hc]
    simp [lmpRun, lmpStep, lInit, hlate, finish]
    omega
  · have hle : c - pre.length ≤ ws.length := by omega
    have htake : (ws ++ '\n' :: rest).take (c - pre.length) = ws.take (c - pre.length) := by
      rw [List.take_append_of_le_length hle]
    rw [htake, if_neg hc]
    by_cases hw : ws.take (c - pre.length) = []
    · simp [hw, lines, lmpRun, finish, lInit]
    · have hnl' : '\n' ∉ ws.take (c - pre.length) := fun h => hnl (List.mem_of_mem_take h)
      rw [lines_noNl _ hnl' hw]
      have hl0 : lmpLate .repaired (ws.take (c - pre.length)) = false := lmpLate_of_noNl _ hnl'
      simp [lmpRun, lmpStep, lInit, hl0, lBody, lEnd, finish]

/-- the row an atom line is stored in: `int(spl[0]) - 1` as a numpy index -/
def atomIdx (N : Nat) (a : Line) : Option Nat :=
  (parseInt ((split a).headD [])).bind (fun id => pyIndex N (id - 1))

theorem lplace_eq (N : Nat) (arr : List (List Tok)) (a : Line) :
    lplace N arr a = match atomIdx N a with
      | some k => arr.set k (((split a).drop 2).take 6)
      | none => arr := by
  unfold lplace atomIdx
  cases parseInt ((split a).headD []) with
  | none => rfl
  | some id => cases pyIndex N (id - 1) <;> rfl

theorem foldl_lplace_keep (N : Nat) (bs : List Line) (arr : List (List Tok)) (k : Nat)
    (h : ∀ b ∈ bs, atomIdx N b ≠ some k) : (bs.foldl (lplace N) arr)[k]? = arr[k]? := by
  induction bs generalizing arr with
  | nil => rfl
  | cons b bs ih =>
    rw [List.foldl_cons, ih _ (fun x hx => h x (by simp [hx])), lplace_eq]
    have hb := h b (by simp)
    cases hi : atomIdx N b with
    | none => rfl
    | some j =>
      have : j ≠ k := by intro e; apply hb; rw [hi, e]
      simp [this]

/-- **values exactly as written, at row `id − 1`**: if the atom lines of a frame go to pairwise different
    rows, the decoded array holds in the row of each atom its six tokens `x y z vx vy vz` -/
theorem decode_row (N : Nat) (atoms : List Line) (arr : List (List Tok))
    (hd : atoms.Pairwise (fun x y => atomIdx N x ≠ atomIdx N y)) (a : Line) (ha : a ∈ atoms) (k : Nat)
    (hk : atomIdx N a = some k) (hlt : k < arr.length) :
    (atoms.foldl (lplace N) arr)[k]? = some (((split a).drop 2).take 6) := by
  induction atoms generalizing arr with
  | nil => simp at ha
  | cons b bs ih =>
    rw [List.pairwise_cons] at hd
    rw [List.foldl_cons]
    rcases List.mem_cons.mp ha with rfl | hmem
    · rw [foldl_lplace_keep N bs _ k (fun x hx => by rw [← hk]; exact (hd.1 x hx).symm), lplace_eq, hk]
      simp [hlt]
    · apply ih _ hd.2 hmem
      rw [lplace_eq]
      cases atomIdx N b <;> simp [hlt]

end Infretis.Readers
