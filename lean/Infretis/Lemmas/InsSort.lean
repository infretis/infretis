/-!
# Insertion sort by a key

`sorted(interfaces)`, `sorted(traj_data.keys())` (`[current.frac]` of the restart file), `atoms[np.argsort(atoms[:, 0])]`
(LAMMPS data file) and `posvel[np.argsort(posvel[:, 0])]` (LAMMPS dump) are each modelled as an insertion sort by a key.  `IsInsSort` says that a pair of functions satisfies the
four equations of insertion sort (`rfl` for each sort of the model); what the packages need follows once, for any
key and any order given by its two laws: the result is a permutation, sorted, unchanged on sorted input, and — where
equal keys mean equal elements — the same for every arrangement of the input.
-/
namespace Infretis

structure IsInsSort {α κ : Type} (key : α → κ) (le : κ → κ → Prop) [DecidableRel le]
    (ins : α → List α → List α) (sort : List α → List α) : Prop where
  ins_nil : ∀ a, ins a [] = [a]
  ins_cons : ∀ a b t, ins a (b :: t) = if le (key a) (key b) then a :: b :: t else b :: ins a t
  sort_nil : sort [] = []
  sort_cons : ∀ a t, sort (a :: t) = ins a (sort t)

namespace IsInsSort
variable {α κ : Type} {key : α → κ} {le : κ → κ → Prop} [DecidableRel le] {ins : α → List α → List α}
  {sort : List α → List α} (S : IsInsSort key le ins sort)
include S

theorem ins_perm (a : α) : ∀ l, (ins a l).Perm (a :: l)
  | [] => S.ins_nil a ▸ .refl _
  | b :: t => by
    rw [S.ins_cons]
    split
    · exact .refl _
    · exact ((ins_perm a t).cons b).trans (.swap a b t)

theorem perm : ∀ l : List α, (sort l).Perm l
  | [] => by rw [S.sort_nil]
  | a :: t => S.sort_cons a t ▸ (S.ins_perm a _).trans ((perm t).cons a)

theorem ins_pairwise (htrans : ∀ {x y z}, le x y → le y z → le x z) (htotal : ∀ {x y}, ¬ le x y → le y x) (a : α) :
    ∀ l : List α, l.Pairwise (fun x y => le (key x) (key y)) →
      (ins a l).Pairwise (fun x y => le (key x) (key y))
  | [], _ => by simp [S.ins_nil]
  | b :: t, h => by
    rw [S.ins_cons]
    split
    · rename_i hab
      exact .cons (fun x hx => (List.mem_cons.1 hx).elim (· ▸ hab)
        fun hx => htrans hab (List.rel_of_pairwise_cons h hx)) h
    · rename_i hab
      exact .cons (fun x hx => (List.mem_cons.1 ((S.ins_perm a t).subset hx)).elim (· ▸ htotal hab)
        (List.rel_of_pairwise_cons h)) (ins_pairwise htrans htotal a t h.tail)

theorem pairwise (htrans : ∀ {x y z}, le x y → le y z → le x z) (htotal : ∀ {x y}, ¬ le x y → le y x) :
    ∀ l : List α, (sort l).Pairwise (fun x y => le (key x) (key y))
  | [] => by rw [S.sort_nil]; exact .nil
  | a :: t => S.sort_cons a t ▸ S.ins_pairwise htrans htotal a _ (pairwise htrans htotal t)

theorem of_pairwise : ∀ l : List α, l.Pairwise (fun x y => le (key x) (key y)) → sort l = l
  | [], _ => S.sort_nil
  | a :: t, h => by
    rw [S.sort_cons, of_pairwise t h.tail]
    cases t with
    | nil => exact S.ins_nil a
    | cons b t => rw [S.ins_cons, if_pos (List.rel_of_pairwise_cons h List.mem_cons_self)]

/-- where equal keys mean equal elements the sorted arrangement is unique: every arrangement of the input (and every
    sorting algorithm) gives the same list -/
theorem perm_eq (htrans : ∀ {x y z}, le x y → le y z → le x z) (htotal : ∀ {x y}, ¬ le x y → le y x)
    {l l' : List α} (h : l.Perm l')
    (hinj : ∀ a ∈ l, ∀ b ∈ l, le (key a) (key b) → le (key b) (key a) → a = b) : sort l = sort l' :=
  List.Perm.eq_of_pairwise (le := fun a b => le (key a) (key b))
    (fun a b ha hb => hinj a ((S.perm l).subset ha) b (h.symm.subset ((S.perm l').subset hb)))
    (S.pairwise htrans htotal l) (S.pairwise htrans htotal l') ((S.perm l).trans (h.trans (S.perm l').symm))

end IsInsSort
end Infretis
