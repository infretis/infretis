import Infretis.Lemmas.RepexC07Frame
import Infretis.Lemmas.RepexRun
import Infretis.Lemmas.RepexLoad
import Infretis.Lemmas.RepexPop
/-!
# C07 — the jobs issued along a scheduler history, their ordinals and their streams

`sysStepJ` (RepexRun) is `sysStep` with a ghost output: the job the event issued (if any) together with the
draw requests its `pick()` made on the scheduler stream; `sysStepJ_sys` shows that it is `sysStep`
as far as the state goes, `sysStepJ_ok_iff` that what it reports is the job of `Step`.  `ghost y evs` collects these
outputs along a history as `Entry`s:
the job, the ordinal put on record with it (`lockedOrd`, third component of the `locked` entry),
whether it was a FRESH job (spawn counter advanced) or the RE-ISSUE of a job recorded in the restart
file under its ordinal, and the draw requests.  The statements about the log hold from ANY state.
At the end what a restart does to the seed sequence, the counters and the records (`restore_spec`,
`restore_continues`): where RepexC07Chain starts from.
-/
namespace Infretis.Repex

/-- `restarted = false`, or the one-time restore of the stream position already happened -/
def NoRestore (s : St) : Prop := s.restarted = false ∨ s.rgenRestored = true

theorem NoRestore.congr {s s' : St} (h : NoRestore s) (hr : s'.restarted = s.restarted)
    (hg : s'.rgenRestored = s.rgenRestored) : NoRestore s' := by
  unfold NoRestore
  rw [hr, hg]
  exact h

theorem pickLock_draws {s s' : St} {o : PickOutcome} {d : Nat} {ps : List Picked} {ds : List Draw}
    (hp : pickLock s o d = .ok (s', ps, ds)) (hr : NoRestore s) :
    s'.mainDraws = s.mainDraws + ds.length ∧ NoRestore s' ∧ (ds = [] ∨ DrawShape ds) := by
  rcases pickLock_parts hp with ⟨_, hp⟩ | ⟨enss0, trajs0, rest, s1, pairs, _, hre, _, rfl, rfl⟩
  · rw [restoreStreamOnce_idle d hr] at hp
    obtain ⟨hi, hm, hsh, _⟩ := pick_issue hp
    exact ⟨hm, hr.congr hi.restarted (pick_touches hp).rgenRestored, Or.inr hsh⟩
  · have q := reissue_touches hre
    exact ⟨q.mainDraws, hr.congr q.restarted q.rgenRestored, Or.inl rfl⟩

/-- the first fresh `pick_lock()` after a restart starts from the stream position of the restart file -/
theorem pickLock_draws_restored {s s' : St} {o : PickOutcome} {d : Nat} {ps : List Picked}
    {ds : List Draw} (hp : pickLock s o d = .ok (s', ps, ds)) (h0 : s.locked0 = [])
    (hr : s.restarted = true) (hn : s.rgenRestored = false) :
    s'.mainDraws = d + ds.length ∧ s'.rgenRestored = true := by
  rw [pickLock_restored h0 hr hn] at hp
  exact ⟨(pick_issue hp).2.1, (pick_touches hp).rgenRestored⟩

/-- `prep_md_items` = `pick_lock()` / `pick()` + pin + engine assignment: the latter touch `occ` only
    and re-label `eng_idx` of the picked entries -/
theorem prep_decomp {s s' : St} {prev : Option Nat} {o : PickOutcome} {d : Nat} {job : Job}
    {ds : List Draw} (h : prep s prev o d = .ok (s', job, ds)) :
    ∃ s1 ps, pickPart s o d = .ok (s1, ps, ds) ∧ Touches [.occ] s1 s' ∧
      ∃ f : Picked → List (Nat × Nat), job.picked = ps.map (fun p => { p with engIdx := f p }) := by
  rw [prep_eq] at h
  obtain ⟨⟨s1, ps, ds1⟩, hr, h⟩ := bind_ok_iff.mp h
  have t := prepTail_touches h
  obtain ⟨_, _, _, _, _, _, _, rfl, rfl⟩ := prepTail_parts h
  exact ⟨s1, ps, hr, t, _, rfl⟩

theorem map_pn_map_engIdx (ps : List Picked) (f : Picked → List (Nat × Nat)) :
    (ps.map (fun p => { p with engIdx := f p })).map (·.pn) = ps.map (·.pn) := by
  simp [List.map_map, Function.comp_def]

theorem map_ens_map_engIdx (ps : List Picked) (f : Picked → List (Nat × Nat)) :
    (ps.map (fun p => { p with engIdx := f p })).map (·.ens) = ps.map (·.ens) := by
  simp [List.map_map, Function.comp_def]

theorem StreamsAt.map_engIdx {en ord : Nat} {ps : List Picked} (h : StreamsAt en ord ps)
    (f : Picked → List (Nat × Nat)) : StreamsAt en ord (ps.map (fun p => { p with engIdx := f p })) := by
  intro j p' hp'
  rw [List.getElem?_map] at hp'
  cases hp : ps[j]? with
  | none => rw [hp] at hp'; cases hp'
  | some p =>
    rw [hp] at hp'
    cases hp'
    exact h j p hp

/-- of the state after, `Issue` reads the seed sequence, the counters and the records: what touches none of them
    keeps it, also when it re-labels `eng_idx` of the picked entries -/
theorem Issue.frame {fs : List Fld} {s s1 s' : St} {ps : List Picked} {ord : Nat} {fresh : Bool}
    (hi : Issue s s1 ps ord fresh) (f : Picked → List (Nat × Nat)) (t : Touches fs s1 s')
    (hd : ∀ f ∈ [Fld.seed, .entropy, .restarted, .cstep, .workers, .tsteps, .locked, .lockedOrd, .spawned,
      .locked0Ord], f ∉ fs := by decide) :
    Issue s s' (ps.map (fun p => { p with engIdx := f p })) ord fresh := by
  have q := t.keeps hd
  refine ⟨q.seed.trans hi.seed, q.entropy.trans hi.entropy, q.restarted.trans hi.restarted,
    q.cstep.trans hi.cstep, q.workers.trans hi.workers, q.tsteps.trans hi.tsteps,
    hi.streams.map_engIdx f, ?_, by rw [q.lockedOrd, hi.lockedOrd], ?_⟩
  · obtain ⟨entry, he⟩ := hi.locked
    exact ⟨entry, by rw [q.locked, he]⟩
  · rw [q.spawned, q.locked0Ord]
    exact hi.kind

/-- **`prep_md_items` issues one job** carrying the streams of the ordinal put on record with it:
    the next fresh ordinal (counter advanced) or the ordinal on record of a re-issued job. -/
theorem prep_issue {s s' : St} {prev : Option Nat} {o : PickOutcome} {d : Nat} {job : Job}
    {ds : List Draw} (h : prep s prev o d = .ok (s', job, ds)) :
    ∃ ord fresh, Issue s s' job.picked ord fresh := by
  obtain ⟨s1, ps, hr, hq, f, hf⟩ := prep_decomp h
  have hi : ∃ ord fresh, Issue s s1 ps ord fresh := by
    unfold pickPart at hr
    split at hr
    · exact pickLock_issue hr
    · exact ⟨_, _, (pick_issue hr).1⟩
  obtain ⟨ord, fresh, hi⟩ := hi
  rw [hf]
  exact ⟨ord, fresh, hi.frame f hq⟩

theorem prep_draws {s s' : St} {prev : Option Nat} {o : PickOutcome} {d : Nat} {job : Job}
    {ds : List Draw} (h : prep s prev o d = .ok (s', job, ds)) (hn : NoRestore s) :
    s'.mainDraws = s.mainDraws + ds.length ∧ NoRestore s' ∧ (ds = [] ∨ DrawShape ds) := by
  obtain ⟨s1, ps, hr, q, _⟩ := prep_decomp h
  have key : s1.mainDraws = s.mainDraws + ds.length ∧ NoRestore s1 ∧ (ds = [] ∨ DrawShape ds) := by
    unfold pickPart at hr
    split at hr
    · exact pickLock_draws hr hn
    · obtain ⟨hi, hm, hsh, _⟩ := pick_issue hr
      exact ⟨hm, hn.congr hi.restarted (pick_touches hr).rgenRestored, Or.inr hsh⟩
  exact ⟨q.mainDraws.trans key.1, key.2.1.congr q.restarted q.rgenRestored, key.2.2⟩

theorem prep_fresh {s s' : St} {prev : Option Nat} {o : PickOutcome} {d : Nat} {job : Job}
    {ds : List Draw} (h : prep s prev o d = .ok (s', job, ds)) (h0 : s.locked0 = []) :
    Issue s s' job.picked s.spawned true ∧ s'.locked0 = [] ∧
      s'.locked = s.locked ++ [(job.picked.map (·.ens), job.picked.map (·.pn))] := by
  obtain ⟨s1, ps, hr, hq, f, hf⟩ := prep_decomp h
  have key : Issue s s1 ps s.spawned true ∧ s1.locked0 = [] ∧
      s1.locked = s.locked ++ [(ps.map (·.ens), ps.map (·.pn))] := by
    unfold pickPart at hr
    split at hr
    · exact pickLock_fresh hr h0
    · obtain ⟨hi, _, _, hl⟩ := pick_issue hr
      exact ⟨hi, by rw [(pick_touches hr).locked0, h0], hl⟩
  obtain ⟨hi, k0, hl⟩ := key
  rw [hf, map_pn_map_engIdx, map_ens_map_engIdx]
  exact ⟨hi.frame f hq, by rw [hq.locked0, k0], by rw [hq.locked, hl]⟩

theorem sysStep_of_J {y y' : Sys} {ev : Ev} {oj : Option (Job × List Draw)}
    (h : sysStepJ y ev = .ok (y', oj)) : sysStep y ev = .ok y' :=
  sysStep_ok_iff.mpr ⟨oj, sysStepJ_ok_iff.mp h⟩

theorem sysStepJ_of_sys {y y' : Sys} {ev : Ev} (h : sysStep y ev = .ok y') :
    ∃ oj, sysStepJ y ev = .ok (y', oj) :=
  (Step.of_ok h).imp fun _ => sysStepJ_ok_iff.mpr

structure Entry where
  /-- the ordinal put on record with the job (third component of its `locked` entry) -/
  ord : Nat
  /-- `true`: a fresh job (spawn counter advanced); `false`: a recorded job re-issued under its ordinal -/
  fresh : Bool
  job : Job
  draws : List Draw

/-- the tag of the job issued between states `sb` (before) and `sa` (after): the last recorded
    ordinal, and whether the spawn counter moved -/
def tagOf (sb sa : St) : Nat × Bool := ((sa.lockedOrd.getLast?).getD 0, sa.spawned != sb.spawned)

/-- ghost log of a history: one `Entry` per issuing event, in order; stops where the sampler raises -/
def ghost (y : Sys) : List Ev → List Entry
  | [] => []
  | ev :: rest =>
    match sysStepJ y ev with
    | .error _ => []
    | .ok (y', oj) =>
      (oj.toList.map (fun jd =>
        { ord := (tagOf y.s y'.s).1, fresh := (tagOf y.s y'.s).2, job := jd.1, draws := jd.2 : Entry }))
        ++ ghost y' rest

/-- the jobs issued along a history (fresh and re-issued), in issue order -/
def issued (y : Sys) (evs : List Ev) : List Job := (ghost y evs).map (·.job)

/-- the draw requests made on the scheduler stream along a history, in order -/
def schedDraws (y : Sys) (evs : List Ev) : List Draw := (ghost y evs).flatMap (·.draws)

theorem run_cons {y y' : Sys} {ev : Ev} {rest : List Ev} (h : run y (ev :: rest) = .ok y') :
    ∃ y1 oj, sysStepJ y ev = .ok (y1, oj) ∧ run y1 rest = .ok y' := by
  obtain ⟨y1, h1, h⟩ := run_cons_ok h
  obtain ⟨oj, hj⟩ := sysStepJ_of_sys h1
  exact ⟨y1, oj, hj, h⟩

theorem ghost_append : ∀ (evs : List Ev) {y y1 : Sys} (evs' : List Ev), run y evs = .ok y1 →
    ghost y (evs ++ evs') = ghost y evs ++ ghost y1 evs' := by
  intro evs
  induction evs with
  | nil =>
    intro y y1 evs' h
    cases h
    simp [ghost]
  | cons ev rest ih =>
    intro y y1 evs' h
    obtain ⟨y2, oj, hj, hr⟩ := run_cons h
    simp only [List.cons_append, ghost, hj]
    rw [ih evs' hr, List.append_assoc]

theorem run_append7 {y y1 y2 : Sys} : ∀ {evs : List Ev} {evs' : List Ev}, run y evs = .ok y1 →
    run y1 evs' = .ok y2 → run y (evs ++ evs') = .ok y2 := by
  intro evs evs' h h'
  rw [run_append_eq, h]
  exact h'

/-- the state `treat_output` leaves behind when job `k` completes: the instant at which the code
    writes `restart.toml` (before the next `prep_md_items`) -/
def midState (y : Sys) (k : Nat) (status : Status) (newW : List (List Rat)) : Except Err St :=
  let s1 : St := { y.s with cstep := y.s.cstep + 1 }
  match y.jobs[k]? with
  | none => .error .index
  | some job =>
    match treatOutput s1 job status newW (sortFuel s1) with
    | .error er => .error er
    | .ok (s2, _, _) => .ok s2

theorem Completes.midState {y ym : Sys} {k : Nat} {status : Status} {newW : List (List Rat)} {job : Job}
    (hc : Completes y k status newW job ym) : y.jobs[k]? = some job ∧ midState y k status newW = .ok ym.s := by
  cases hc with | mk hgo hjob htreat =>
  rw [(loop_go hgo).2] at htreat
  exact ⟨hjob, by simp only [Infretis.Repex.midState, hjob, htreat]⟩

/-! ### one event

Every event first brings the state to some `sm` without touching the seed sequence (`initiate`; or `loop` +
`treat_output`, which is where `restart.toml` is written: `midState`) and then issues one job from `sm` by
`prep_md_items`, or none. -/

theorem midState_ok {y : Sys} {k : Nat} {status : Status} {newW : List (List Rat)} {s2 : St}
    (h : midState y k status newW = .ok s2) :
    ∃ job pns it, y.jobs[k]? = some job ∧
      treatOutput { y.s with cstep := y.s.cstep + 1 } job status newW
        (sortFuel { y.s with cstep := y.s.cstep + 1 }) = .ok (s2, pns, it) := by
  unfold midState at h
  simp only [] at h
  split at h
  · cases h
  rename_i job hjob
  split at h
  · cases h
  rename_i s2' pns it htreat
  cases h
  exact ⟨job, pns, it, hjob, htreat⟩

theorem midState_touches {y : Sys} {k : Nat} {status : Status} {newW : List (List Rat)} {s2 : St}
    (h : midState y k status newW = .ok s2) :
    Touches [.W, .trajs, .locks, .locked, .lockedOrd, .frac, .wts, .rows, .trajNum, .cworker, .cstep] y.s s2 := by
  obtain ⟨_, _, _, _, htreat⟩ := midState_ok h
  refine Agree.comp (b := { y.s with cstep := y.s.cstep + 1 }) (fs := [.cstep]) ?_ (treatOutput_touches htreat)
  intro f hf
  cases f <;> first | rfl | exact absurd (by decide) hf

theorem midState_cstep {y : Sys} {k : Nat} {status : Status} {newW : List (List Rat)} {s2 : St}
    (h : midState y k status newW = .ok s2) : s2.cstep = y.s.cstep + 1 := by
  obtain ⟨_, _, _, _, htreat⟩ := midState_ok h
  exact (treatOutput_touches htreat).cstep

theorem midState_pops {y : Sys} {k : Nat} {status : Status} {newW : List (List Rat)} {s2 : St}
    (h : midState y k status newW = .ok s2) :
    ∃ job, y.jobs[k]? = some job ∧ (s2.locked, s2.lockedOrd) = popAll job.picked (y.s.locked, y.s.lockedOrd) := by
  obtain ⟨job, _, _, hjob, htreat⟩ := midState_ok h
  have hp := treatOutput_popAll htreat
  exact ⟨job, hjob, hp⟩

/-- what holds between a state and the state from which the event's job (if any) is issued: the seed
    sequence, its position and the records waiting to be re-issued are the same; ordinals only leave the
    in-flight record -/
structure Before (s sm : St) : Prop where
  keeps : Keeps [.seed, .entropy, .spawned, .mainDraws, .restarted, .rgenRestored, .locked0, .locked0Ord] s sm
  ordSub : ∀ o ∈ sm.lockedOrd, o ∈ s.lockedOrd

theorem initiate_before (s : St) : Before s (initiate s).1 :=
  ⟨(initiate_touches s).keeps, fun _ ho => (initiate_touches s).lockedOrd ▸ ho⟩

theorem midState_before {y : Sys} {k : Nat} {status : Status} {newW : List (List Rat)} {s2 : St}
    (h : midState y k status newW = .ok s2) : Before y.s s2 := by
  obtain ⟨job, _, hl⟩ := midState_pops h
  refine ⟨(midState_touches h).keeps, fun o ho => ?_⟩
  rw [show s2.lockedOrd = (popAll job.picked (y.s.locked, y.s.lockedOrd)).2 from congrArg Prod.snd hl] at ho
  exact popAll_ord_subset _ _ _ o ho

theorem sysStepJ_shape {y y' : Sys} {ev : Ev} {oj : Option (Job × List Draw)}
    (h : sysStepJ y ev = .ok (y', oj)) :
    ∃ sm, Before y.s sm ∧
      ((∃ prev o d job ds, prep sm prev o d = .ok (y'.s, job, ds) ∧ oj = some (job, ds)) ∨
       (y'.s = sm ∧ oj = none)) := by
  obtain ⟨ym, _, hpre, htail⟩ := (sysStepJ_ok_iff.mp h).shape
  refine ⟨ym.s, ?_, ?_⟩
  · cases hpre with
    | go _ => exact initiate_before y.s
    | stop _ => exact initiate_before y.s
    | done hc => exact midState_before hc.midState.2
  · cases oj with
    | some jd =>
      obtain ⟨_, o, d, hs⟩ := htail
      cases hs with | mk hprep => exact Or.inl ⟨_, _, _, _, _, hprep, rfl⟩
    | none => exact Or.inr ⟨by rw [htail.2], rfl⟩

theorem sysStepJ_issue {y y' : Sys} {ev : Ev} {oj : Option (Job × List Draw)}
    (h : sysStepJ y ev = .ok (y', oj)) :
    y'.s.seed = y.s.seed ∧ y'.s.entropy = y.s.entropy ∧
    (oj = none → y'.s.spawned = y.s.spawned ∧ y'.s.locked0Ord = y.s.locked0Ord) ∧
    ∀ job ds, oj = some (job, ds) → ∃ ord fresh, tagOf y.s y'.s = (ord, fresh) ∧
      StreamsAt y.s.entropy ord job.picked ∧
      ((fresh = true ∧ ord = y.s.spawned ∧ y'.s.spawned = y.s.spawned + 1 ∧
          (y'.s.locked0Ord = y.s.locked0Ord ∨ y'.s.locked0Ord = y.s.locked0Ord.tail)) ∨
       (fresh = false ∧ y'.s.spawned = y.s.spawned ∧ y.s.locked0Ord = some ord :: y'.s.locked0Ord)) := by
  obtain ⟨sm, hb, hrest⟩ := sysStepJ_shape h
  rcases hrest with ⟨prev, o, d, job, ds, hprep, hoj⟩ | ⟨hs, hoj⟩
  · obtain ⟨ord, fresh, hi⟩ := prep_issue hprep
    refine ⟨hi.seed.trans hb.keeps.seed, hi.entropy.trans hb.keeps.entropy, fun hn => (by rw [hn] at hoj; cases hoj), ?_⟩
    intro job' ds' he
    rw [hoj] at he
    cases he
    have hk := hi.kind
    rw [hb.keeps.spawned, hb.keeps.locked0Ord] at hk
    refine ⟨ord, fresh, ?_, by rw [← hb.keeps.entropy]; exact hi.streams, hk⟩
    -- the tag reads the ordinal off the record just appended, the kind off the counter
    unfold tagOf
    rw [hi.lockedOrd]
    simp only [List.getLast?_append, List.getLast?_singleton, Option.some_or, Option.getD_some]
    rcases hk with ⟨hf, _, h3, _⟩ | ⟨hf, h3, _⟩
    · rw [h3, hf]; simp
    · rw [h3, hf]; simp
  · rw [hs]
    exact ⟨hb.keeps.seed, hb.keeps.entropy, fun _ => ⟨hb.keeps.spawned, hb.keeps.locked0Ord⟩,
      fun _ _ he => by rw [hoj] at he; cases he⟩

theorem sysStepJ_draws {y y' : Sys} {ev : Ev} {oj : Option (Job × List Draw)}
    (h : sysStepJ y ev = .ok (y', oj)) (hn : NoRestore y.s) :
    NoRestore y'.s ∧ y'.s.mainDraws = y.s.mainDraws + (oj.toList.flatMap (·.2)).length ∧
      ∀ job ds, oj = some (job, ds) → ds = [] ∨ DrawShape ds := by
  obtain ⟨sm, hb, hrest⟩ := sysStepJ_shape h
  have hnm : NoRestore sm := hn.congr hb.keeps.restarted hb.keeps.rgenRestored
  rcases hrest with ⟨prev, o, d, job, ds, hprep, hoj⟩ | ⟨hs, hoj⟩
  · obtain ⟨hm, hn2, hsh⟩ := prep_draws hprep hnm
    subst hoj
    refine ⟨hn2, by rw [hm, hb.keeps.mainDraws]; simp, ?_⟩
    intro job' ds' he
    cases he
    exact hsh
  · subst hoj
    rw [hs]
    exact ⟨hnm, by simpa using hb.keeps.mainDraws, fun _ _ he => by cases he⟩

/-- every entry of the log carries the streams of its ordinal in the seed sequence of entropy `en` -/
def Tagged (en : Nat) (log : List Entry) : Prop := ∀ e ∈ log, StreamsAt en e.ord e.job.picked

theorem Tagged.append {en : Nat} {l1 l2 : List Entry} (h1 : Tagged en l1) (h2 : Tagged en l2) :
    Tagged en (l1 ++ l2) := by
  intro e he
  rcases List.mem_append.mp he with h | h
  · exact h1 e h
  · exact h2 e h

def freshOrds (log : List Entry) : List Nat := (log.filter (·.fresh)).map (·.ord)

def reissueOrds (log : List Entry) : List Nat := (log.filter (fun e => !e.fresh)).map (·.ord)

theorem freshOrds_cons (e : Entry) (l : List Entry) :
    freshOrds (e :: l) = if e.fresh then e.ord :: freshOrds l else freshOrds l := by
  unfold freshOrds
  rw [List.filter_cons]
  cases e.fresh <;> rfl

theorem reissueOrds_cons (e : Entry) (l : List Entry) :
    reissueOrds (e :: l) = if e.fresh then reissueOrds l else e.ord :: reissueOrds l := by
  unfold reissueOrds
  rw [List.filter_cons]
  cases e.fresh <;> rfl

theorem mem_freshOrds {log : List Entry} {e : Entry} (he : e ∈ log) (hf : e.fresh = true) :
    e.ord ∈ freshOrds log :=
  List.mem_map.mpr ⟨e, List.mem_filter.mpr ⟨he, hf⟩, rfl⟩

theorem mem_reissueOrds {log : List Entry} {e : Entry} (he : e ∈ log) (hf : e.fresh = false) :
    e.ord ∈ reissueOrds log :=
  List.mem_map.mpr ⟨e, List.mem_filter.mpr ⟨he, by rw [hf]; rfl⟩, rfl⟩

theorem freshOrds_append (l1 l2 : List Entry) : freshOrds (l1 ++ l2) = freshOrds l1 ++ freshOrds l2 := by
  simp [freshOrds]

/-- **the log of any history from any state**: (a) every entry carries the streams of its ordinal;
    (b) the fresh entries have the ordinals `spawned, spawned+1, …`; (c) the re-issue entries take,
    in order, ordinals that are on record in `locked0Ord`. -/
theorem ghost_spec : ∀ (evs : List Ev) (y : Sys),
    Tagged y.s.entropy (ghost y evs) ∧
    freshOrds (ghost y evs) = List.range' y.s.spawned (freshOrds (ghost y evs)).length ∧
    ((reissueOrds (ghost y evs)).map some).Sublist y.s.locked0Ord := by
  intro evs
  induction evs with
  | nil => intro y; exact ⟨by intro e he; simp [ghost] at he, by simp [ghost, freshOrds], by simp [ghost, reissueOrds]⟩
  | cons ev rest ih =>
    intro y
    simp only [ghost]
    split
    · exact ⟨by intro e he; simp at he, by simp [freshOrds], by simp [reissueOrds]⟩
    rename_i y1 oj hj
    obtain ⟨_, hen, hnone, hsome⟩ := sysStepJ_issue hj
    obtain ⟨i1, i2, i3⟩ := ih y1
    rw [hen] at i1
    cases oj with
    | none =>
      obtain ⟨hsp, hl0⟩ := hnone rfl
      simp only [Option.toList_none, List.map_nil, List.nil_append]
      rw [hsp] at i2
      rw [hl0] at i3
      exact ⟨i1, i2, i3⟩
    | some jd =>
      obtain ⟨job, ds⟩ := jd
      obtain ⟨ord, fresh, htag, hst, hk⟩ := hsome job ds rfl
      simp only [Option.toList_some, List.map_cons, List.map_nil, htag]
      refine ⟨?_, ?_, ?_⟩
      · apply Tagged.append _ i1
        intro e he
        simp only [List.mem_singleton] at he
        subst he
        exact hst
      · rcases hk with ⟨hf, ho, hsp, _⟩ | ⟨hf, hsp, _⟩
        · subst hf
          rw [List.singleton_append, freshOrds_cons, if_pos rfl, List.length_cons, List.range'_succ, ← hsp, ← i2]
          exact congrArg (· :: _) ho
        · subst hf
          rw [List.singleton_append, freshOrds_cons, if_neg Bool.false_ne_true, ← hsp]
          exact i2
      · rcases hk with ⟨hf, _, _, hl⟩ | ⟨hf, _, hl⟩
        · subst hf
          rw [List.singleton_append, reissueOrds_cons, if_pos rfl]
          rcases hl with hl | hl
          · rw [← hl]; exact i3
          · rw [hl] at i3
            exact i3.trans (List.tail_sublist _)
        · subst hf
          rw [List.singleton_append, reissueOrds_cons, if_neg Bool.false_ne_true, hl, List.map_cons]
          exact List.Sublist.cons_cons _ i3

theorem ghost_fresh_ord {evs : List Ev} {y : Sys} {m : Nat} {e : Entry}
    (hm : ((ghost y evs).filter (·.fresh))[m]? = some e) : e.ord = y.s.spawned + m := by
  have h2 := (ghost_spec evs y).2.1
  unfold freshOrds at h2
  have := congrArg (fun l => l[m]?) h2
  obtain ⟨hlt, _⟩ := List.getElem?_eq_some_iff.mp hm
  simp only [List.getElem?_map, hm, Option.map_some, List.length_map] at this
  rw [List.getElem?_range' hlt] at this
  simpa using this

theorem ghost_ords_of_no_record (evs : List Ev) (y : Sys) (h0 : y.s.locked0Ord = []) :
    (∀ e ∈ ghost y evs, e.fresh = true) ∧
    (ghost y evs).map (·.ord) = List.range' y.s.spawned (ghost y evs).length := by
  obtain ⟨_, h2, h3⟩ := ghost_spec evs y
  rw [h0] at h3
  have hnil : reissueOrds (ghost y evs) = [] := by
    have := List.eq_nil_of_sublist_nil h3
    simpa using this
  have hall : ∀ e ∈ ghost y evs, e.fresh = true := by
    intro e he
    cases hf : e.fresh with
    | true => rfl
    | false =>
      have := mem_reissueOrds he hf
      rw [hnil] at this
      cases this
  have hfil : (ghost y evs).filter (·.fresh) = ghost y evs :=
    List.filter_eq_self.mpr hall
  refine ⟨hall, ?_⟩
  unfold freshOrds at h2
  rw [hfil] at h2
  rw [List.length_map] at h2
  exact h2

theorem run_spawned : ∀ (evs : List Ev) {y y' : Sys}, run y evs = .ok y' →
    y'.s.seed = y.s.seed ∧ y'.s.entropy = y.s.entropy ∧
      y'.s.spawned = y.s.spawned + (freshOrds (ghost y evs)).length := by
  intro evs
  induction evs with
  | nil =>
    intro y y' h
    cases h
    exact ⟨rfl, rfl, by simp [ghost, freshOrds]⟩
  | cons ev rest ih =>
    intro y y' h
    obtain ⟨y1, oj, hj, hr⟩ := run_cons h
    obtain ⟨h1, h2, hnone, hsome⟩ := sysStepJ_issue hj
    obtain ⟨g1, g2, g3⟩ := ih hr
    refine ⟨g1.trans h1, g2.trans h2, ?_⟩
    rw [g3]
    simp only [ghost, hj]
    cases oj with
    | none =>
      simp only [Option.toList_none, List.map_nil, List.nil_append]
      rw [(hnone rfl).1]
    | some jd =>
      obtain ⟨job, ds⟩ := jd
      obtain ⟨ord, fresh, htag, _, hk⟩ := hsome job ds rfl
      simp only [Option.toList_some, List.map_cons, List.map_nil, htag, List.singleton_append, freshOrds_cons]
      rcases hk with ⟨hf, _, hsp, _⟩ | ⟨hf, hsp, _⟩
      · subst hf
        rw [if_pos rfl, List.length_cons, hsp]
        omega
      · subst hf
        rw [if_neg Bool.false_ne_true, hsp]

theorem run_mainDraws : ∀ (evs : List Ev) {y y' : Sys}, run y evs = .ok y' → NoRestore y.s →
    NoRestore y'.s ∧ y'.s.mainDraws = y.s.mainDraws + (schedDraws y evs).length := by
  intro evs
  induction evs with
  | nil =>
    intro y y' h hn
    cases h
    exact ⟨hn, by simp [schedDraws, ghost]⟩
  | cons ev rest ih =>
    intro y y' h hn
    obtain ⟨y1, oj, hj, hr⟩ := run_cons h
    obtain ⟨hn1, hm1, _⟩ := sysStepJ_draws hj hn
    obtain ⟨hn2, hm2⟩ := ih hr hn1
    refine ⟨hn2, ?_⟩
    rw [hm2, hm1]
    simp only [schedDraws, ghost, hj, List.flatMap_append, List.length_append]
    cases oj with
    | none => simp
    | some jd => simp; omega

/-- every group of requests in the ghost log has one of the three shapes of `pick()` (or is empty:
    a re-issued job draws nothing) -/
theorem ghost_drawShape : ∀ (evs : List Ev) (y : Sys), NoRestore y.s →
    ∀ e ∈ ghost y evs, e.draws = [] ∨ DrawShape e.draws := by
  intro evs
  induction evs with
  | nil => intro y _ e h; simp [ghost] at h
  | cons ev rest ih =>
    intro y hn e he
    simp only [ghost] at he
    split at he
    · simp at he
    rename_i y1 oj hj
    obtain ⟨hn1, _, hsh⟩ := sysStepJ_draws hj hn
    rcases List.mem_append.mp he with hm | hm
    · cases oj with
      | none => simp at hm
      | some x =>
        simp only [Option.toList_some, List.map_cons, List.map_nil, List.mem_singleton] at hm
        subst hm
        exact hsh x.1 x.2 rfl
    · exact ih y1 hn1 e hm

theorem jobs_subset_issued : ∀ (evs : List Ev) {y y' : Sys}, run y evs = .ok y' →
    ∀ job ∈ y'.jobs, job ∈ y.jobs ∨ job ∈ issued y evs := by
  intro evs
  induction evs with
  | nil =>
    intro y y' h job hm
    cases h
    exact Or.inl hm
  | cons ev rest ih =>
    intro y y' h job hm
    obtain ⟨y1, oj, hj, hr⟩ := run_cons h
    have hstep : ∀ job ∈ y1.jobs, job ∈ y.jobs ∨ job ∈ oj.toList.map (·.1) := by
      intro job hm1
      obtain ⟨ym, _, hpre, htail⟩ := (sysStepJ_ok_iff.mp hj).shape
      have hsub : ∀ j ∈ ym.jobs, j ∈ y.jobs := by
        cases hpre with
        | go _ => exact fun _ h => h
        | stop _ => exact fun _ h => h
        | done hc => cases hc with | mk => exact fun _ h => List.mem_of_mem_eraseIdx h
      cases oj with
      | some jd =>
        obtain ⟨_, _, _, hs⟩ := htail
        cases hs with | mk _ =>
        rcases List.mem_append.mp hm1 with h1 | h1
        · exact Or.inl (hsub _ h1)
        · exact Or.inr (by simpa using h1)
      | none => exact Or.inl (hsub _ (htail.2 ▸ hm1))
    rcases ih hr job hm with h1 | h1
    · rcases hstep job h1 with h2 | h2
      · exact Or.inl h2
      · right
        simp only [issued, ghost, hj, List.map_append, List.mem_append, List.map_map]
        exact Or.inl h2
    · right
      simp only [issued, ghost, hj, List.map_append, List.mem_append]
      exact Or.inr h1

/-- **what a restart rebuilds** (`setup_config` + `__init__` + `set_rgen` + `load_paths`): the seed
    sequence of the configured seed with the spawn counter on record (`current.spawned`), or
    `cstep + #recorded in-flight jobs` when none is on record; the recorded jobs wait in `locked0`
    with their ordinals in `locked0Ord`. -/
theorem restore_spec {im : Image} {n workers tsteps : Nat} {occ : List (List Int)}
    {ensEng : List (List Nat)} {weightOf : Nat → List Rat} {s' : St}
    (h : restore im n workers tsteps occ ensEng weightOf = .ok s') :
    s'.seed = im.seed ∧ s'.entropy = im.seed ∧
      s'.spawned = im.spawnedRec.getD (im.cstep + im.locked.length) ∧
      s'.cstep = im.cstep ∧ s'.locked = [] ∧ s'.lockedOrd = [] ∧ s'.locked0 = im.locked ∧
      s'.locked0Ord = im.lockedOrd.map some ∧ s'.restarted = true ∧ s'.rgenRestored = false := by
  rw [restore_eq_loadPaths] at h
  have q := loadPaths_touches h
  exact ⟨q.seed, q.entropy, q.spawned, q.cstep, q.locked, q.lockedOrd, q.locked0, q.locked0Ord, q.restarted,
    q.rgenRestored⟩

theorem persist_fields (s : St) : (persist s).seed = s.seed ∧ (persist s).cstep = s.cstep ∧
    (persist s).locked.length = s.locked.length ∧ (persist s).rngDraws = s.mainDraws ∧
    (persist s).lockedOrd = s.lockedOrd ∧ (persist s).spawnedRec = spawnedKey s := by
  simp [persist]

/-- **a restart continues the spawn counter, always**: `write_toml` records the counter whenever it
    is not `cstep + #locked`, so the restarted sampler continues the same seed sequence at the same
    counter — whatever was or was not re-issued before the stop — and the ordinals on record wait in
    `locked0Ord` -/
theorem restore_continues {s s' : St} {n workers tsteps : Nat} {occ : List (List Int)}
    {ensEng : List (List Nat)} {weightOf : Nat → List Rat}
    (h : restore (persist s) n workers tsteps occ ensEng weightOf = .ok s') :
    s'.seed = s.seed ∧ s'.entropy = s.seed ∧ s'.spawned = s.spawned ∧ s'.locked = [] ∧
      s'.lockedOrd = [] ∧ s'.locked0.length = s.locked.length ∧ s'.cstep = s.cstep ∧
      s'.locked0Ord = s.lockedOrd.map some := by
  obtain ⟨h1, h2, h3, h4, h5, h5', h6, h7, _, _⟩ := restore_spec h
  obtain ⟨p1, p2, p3, _, p5, _⟩ := persist_fields s
  exact ⟨h1.trans p1, h2.trans p1, h3.trans (persist_spawned s), h5, h5', by rw [h6, p3], h4.trans p2,
    by rw [h7, p5]⟩

end Infretis.Repex
