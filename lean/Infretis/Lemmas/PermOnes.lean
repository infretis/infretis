import Infretis.Lemmas.PermAnyOrder
import Infretis.Lemmas.PermFull
/-!
# The all-shooting state with `p` plus ensembles (C02): a member of the family of every size

Used as the non-vacuity witness of the "any number of ensembles" theorems beyond 12 idle ensembles, where concrete
evaluation by `decide` is out of reach (`permC` is a Laplace expansion).
-/
namespace Infretis.Perm

def onesRow (p : Nat) : Row := 0 :: (List.replicate p 1 ++ [0])
/-- all-shooting state with `p` plus ensembles, every path valid everywhere: `[0-]` row, `p` rows `(0,1,…,1,0)`, ghost -/
def onesW (p : Nat) : Mat :=
  (1 :: List.replicate (p + 1) 0) :: (List.replicate p (onesRow p) ++ [List.replicate (p + 2) 0])
def onesLocks (p : Nat) : List Bool := List.replicate (p + 1) false ++ [true]

theorem keep_all_but_last {α : Type} (n : Nat) (xs : List α) (y : α) (h : xs.length = n) :
    keep (List.replicate n false ++ [true]) (xs ++ [y]) = xs := by
  induction n generalizing xs with
  | zero =>
    have : xs = [] := List.eq_nil_of_length_eq_zero h
    subst this; simp [keep]
  | succ n ih =>
    cases xs with
    | nil => simp at h
    | cons x xs =>
      simp only [List.replicate_succ, List.cons_append, keep, Bool.false_eq_true, if_false]
      rw [ih xs (by simpa using h)]

theorem idle_ones (p : Nat) :
    idle (onesW p) (onesLocks p) = (1 :: List.replicate p 0) :: List.replicate p (0 :: List.replicate p 1) := by
  have h1 : keep (onesLocks p) (onesW p) = (1 :: List.replicate (p + 1) 0) :: List.replicate p (onesRow p) := by
    have : onesW p = ((1 :: List.replicate (p + 1) 0) :: List.replicate p (onesRow p)) ++ [List.replicate (p + 2) 0] := by
      simp [onesW]
    rw [this]
    exact keep_all_but_last (p + 1) _ _ (by simp)
  unfold idle
  rw [h1]
  simp only [List.map_cons, List.map_replicate]
  congr 1
  · have : (1 : Rat) :: List.replicate (p + 1) 0 = (1 :: List.replicate p 0) ++ [0] := by
      simp [List.replicate_succ']
    rw [this]
    exact keep_all_but_last (p + 1) _ _ (by simp)
  · congr 1
    have : onesRow p = (0 :: List.replicate p 1) ++ [0] := by simp [onesRow]
    rw [this]
    exact keep_all_but_last (p + 1) _ _ (by simp)

theorem getD_replicate_rat_x (n c : Nat) (x : Rat) (h : c < n) : (List.replicate n x).getD c 0 = x := by
  simp [List.getD_eq_getElem?_getD, h]

theorem onesRow_getD_mid (p c : Nat) (h1 : 1 ≤ c) (h2 : c < 1 + p) : (onesRow p).getD c 0 = 1 := by
  obtain ⟨c', rfl⟩ : ∃ c', c = c' + 1 := ⟨c - 1, by omega⟩
  have hc : c' < p := by omega
  simp [onesRow, List.getD_eq_getElem?_getD, List.getElem?_append_left, hc]

theorem onesRow_getD_last (p : Nat) : (onesRow p).getD (p + 1) 0 = 0 := by
  simp [onesRow, List.getD_eq_getElem?_getD]

theorem fullReach_ones (p : Nat) : FullReach (onesW p) (onesLocks p) (List.replicate p p) := by
  refine ⟨by simp [onesW, onesLocks], by simp [onesLocks], ?_, ⟨by simp [onesW, onesLocks], ?_, ?_⟩, ?_⟩
  · simp [onesLocks]
  · simp [onesW]
  · intro c h1 h2
    obtain ⟨c', rfl⟩ : ∃ c', c = c' + 1 := ⟨c - 1, by omega⟩
    simp only [onesW, List.getD_cons_zero, List.getD_cons_succ]
    exact getD_replicate_self _ _ _
  · intro k hk
    rw [List.length_replicate] at hk
    have hrow : (onesW p).getD (1 + k) [] = onesRow p := by
      simp [onesW, List.getD_eq_getElem?_getD, Nat.add_comm 1 k, List.getElem?_append_left, hk]
    have hcnt : (List.replicate p p).getD k 0 = p := by
      simp [List.getD_eq_getElem?_getD, hk]
    have hl : (onesLocks p).length = p + 2 := by simp [onesLocks]
    rw [hrow, hcnt, hl]
    refine ⟨⟨by simp [onesRow], by omega, ?_, ?_, ?_⟩, by omega⟩
    · intro c hc
      have : c = 0 := by omega
      subst this; rfl
    · intro c h1 h2
      rw [onesRow_getD_mid p c h1 h2]; decide
    · intro c h1 h2
      have : c = p + 1 := by omega
      subst this
      exact onesRow_getD_last p

theorem getD_replicate_one_nonneg (n c : Nat) : 0 ≤ (List.replicate n (1 : Rat)).getD c 0 := by
  simp only [List.getD_eq_getElem?_getD, List.getElem?_replicate]
  split <;> decide

theorem permC_ones_ne (p : Nat) : permC (idle (onesW p) (onesLocks p)) ≠ 0 := by
  rw [idle_ones]
  apply ne_of_gt
  apply permC_pos
  · intro r hr c
    rcases List.mem_cons.mp hr with rfl | hr
    · cases c with
      | zero => simp
      | succ c => simp only [List.getD_cons_succ]; rw [getD_replicate_self]
    · rw [List.eq_of_mem_replicate hr]
      cases c with
      | zero => simp
      | succ c => simp only [List.getD_cons_succ]; exact getD_replicate_one_nonneg _ _
  · intro i hi
    simp only [List.length_cons, List.length_replicate] at hi
    cases i with
    | zero => simp [entry]
    | succ i =>
      have hi' : i < p := by omega
      simp [entry, List.getD_eq_getElem?_getD, hi']

theorem rowConst_ones (p : Nat) : ∀ r ∈ onesW p, RowConst r := by
  have key : ∀ r ∈ onesW p, ∀ x ∈ r, x = 0 ∨ x = 1 := by
    intro r hr x hx
    simp only [onesW, List.mem_cons, List.mem_append, List.mem_replicate, List.not_mem_nil, or_false] at hr
    rcases hr with rfl | ⟨_, rfl⟩ | rfl
    · simp only [List.mem_cons, List.mem_replicate] at hx
      rcases hx with rfl | ⟨_, rfl⟩ <;> simp
    · simp only [onesRow, List.mem_cons, List.mem_append, List.mem_replicate, List.not_mem_nil, or_false] at hx
      rcases hx with rfl | ⟨_, rfl⟩ | rfl <;> simp
    · simp only [List.mem_replicate] at hx
      exact Or.inl hx.2
  intro r hr x hx y hy hx0 hy0
  rcases key r hr x hx with rfl | rfl
  · exact absurd rfl hx0
  · rcases key r hr y hy with rfl | rfl
    · exact absurd rfl hy0
    · rfl

end Infretis.Perm
