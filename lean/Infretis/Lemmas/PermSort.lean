import Infretis.Model.PermEval
/-!
# The two argsorts of `inf_retis` permute the rows of the idle block (C02)

`Infretis.Perm.argsort` sorts stably (`List.mergeSort`); numpy's default `argsort` (introsort / AVX-512 sort) does
not: on in-family matrices with several live paths that end at the same ensemble the real `sort_idx` differs from
the model's.  The pipeline lemmas are therefore proved for `prepareGiven off W locks a b` with ARBITRARY results
`a`, `b` of the two argsort calls, assuming only what any correct argsort guarantees (`Sorts`); the model's own
order is one instance (`sorts_argsort`), and `prepare`, `infRetis` are `prepareGiven`, `finishOf` at that instance
by `rfl` (`Lemmas/PermEval.lean`).
-/
namespace Infretis.Perm

theorem map_getD_range {α : Type} (N : List α) (d : α) :
    (List.range N.length).map (fun i => N.getD i d) = N := by
  apply List.ext_getElem
  · simp
  · intro i h1 h2
    simp [List.getD_eq_getElem?_getD, List.getElem?_eq_getElem h2]

theorem perm_map_getD {α : Type} (N : List α) (idx : List Nat) (d : α)
    (hp : idx.Perm (List.range N.length)) : (idx.map (fun i => N.getD i d)).Perm N := by
  have := hp.map (fun i => N.getD i d)
  rwa [map_getD_range] at this

/-- what `np.argsort(keys)` guarantees whatever its tie order: `idx` is a permutation of the positions and the keys
    read in that order are non-decreasing -/
def Sorts (keys : List Int) (idx : List Nat) : Prop :=
  idx.Perm (List.range keys.length) ∧ idx.Pairwise (fun a b => keys.getD a 0 ≤ keys.getD b 0)

theorem argsort_perm (keys : List Int) : (argsort keys).Perm (List.range keys.length) := by
  unfold argsort
  have h := (List.mergeSort_perm (keys.zipIdx) (fun a b => decide (a.1 ≤ b.1))).map (fun p => p.2)
  rwa [List.zipIdx_map_snd, ← List.range_eq_range'] at h

theorem argsort_sorted (keys : List Int) :
    (argsort keys).Pairwise (fun a b => keys.getD a 0 ≤ keys.getD b 0) := by
  unfold argsort
  rw [List.pairwise_map]
  have h := List.pairwise_mergeSort (le := fun (a b : Int × Nat) => decide (a.1 ≤ b.1))
    (fun a b c h1 h2 => by
      simp only [decide_eq_true_eq] at h1 h2 ⊢; omega)
    (fun a b => by
      simp only [Bool.or_eq_true, decide_eq_true_eq]; omega) (keys.zipIdx)
  refine List.Pairwise.imp_of_mem ?_ h
  intro a b ha hb hab
  -- an element `(key, position)` of `zipIdx` carries the key of its position
  have ha' := (List.mergeSort_perm _ _).mem_iff.mp ha
  have hb' := (List.mergeSort_perm _ _).mem_iff.mp hb
  rw [List.mem_zipIdx_iff_getElem?] at ha' hb'
  simp only [List.getD_eq_getElem?_getD, ha', hb', Option.getD_some]
  simpa using hab

theorem sorts_argsort (keys : List Int) : Sorts keys (argsort keys) :=
  ⟨argsort_perm keys, argsort_sorted keys⟩

theorem pairwise_of_nondecr (l : List Int) (h : nondecr l = true) : l.Pairwise (fun a b => a ≤ b) := by
  induction l with
  | nil => exact List.Pairwise.nil
  | cons a l ih =>
    cases l with
    | nil => exact List.pairwise_singleton _ _
    | cons c rest =>
      simp only [nondecr, Bool.and_eq_true, decide_eq_true_eq] at h
      have ih' := ih h.2
      refine List.Pairwise.cons ?_ ih'
      intro b hb
      rcases List.mem_cons.mp hb with rfl | hb
      · exact h.1
      · exact Int.le_trans h.1 (List.rel_of_pairwise_cons ih' hb)

theorem perm_range_le_one (o : Nat) (ho : o ≤ 1) (idx : List Nat) (h : idx.Perm (List.range o)) :
    idx = List.range o := by
  obtain rfl | rfl : o = 0 ∨ o = 1 := by omega
  · simpa using h
  · exact List.perm_singleton.mp (by simpa [List.range_succ] using h)

theorem prepare_m (off : Nat) (W : Mat) (locks : List Bool) :
    (prepare off W locks).m = (idle W locks).length := rfl

theorem prepare_sorted_eq (off : Nat) (W : Mat) (locks : List Bool) :
    (prepare off W locks).sorted
      = (prepare off W locks).sortIdx.map (fun i => (idle W locks).getD i []) := rfl

theorem offset_prepare (off : Nat) (W : Mat) (locks : List Bool) :
    (prepare off W locks).offset = offsetOf off locks := rfl

theorem prepareGiven_offset (off : Nat) (W : Mat) (locks : List Bool) (a b : List Nat) :
    (prepareGiven off W locks a b).offset = offsetOf off locks := rfl

theorem prepareGiven_m (off : Nat) (W : Mat) (locks : List Bool) (a b : List Nat) :
    (prepareGiven off W locks a b).m = (idle W locks).length := rfl

theorem prepareGiven_sortIdx (off : Nat) (W : Mat) (locks : List Bool) (a b : List Nat) :
    (prepareGiven off W locks a b).sortIdx = a ++ b.map (fun i => i + offsetOf off locks) := rfl

theorem prepareGiven_sorted (off : Nat) (W : Mat) (locks : List Bool) (a b : List Nat) :
    (prepareGiven off W locks a b).sorted
      = (a ++ b.map (fun i => i + offsetOf off locks)).map (fun i => (idle W locks).getD i []) := rfl

theorem prepareGiven_equal (off : Nat) (W : Mat) (locks : List Bool) (a b : List Nat) :
    (prepareGiven off W locks a b).equal
      = (rowConstAt ((prepareGiven off W locks a b).offset - 1)
            ((prepareGiven off W locks a b).sorted.take (prepareGiven off W locks a b).offset)
          && (if (prepareGiven off W locks a b).m ≤ (prepareGiven off W locks a b).offset then true
              else rowConstAt (prepareGiven off W locks a b).offset
                ((prepareGiven off W locks a b).sorted.drop (prepareGiven off W locks a b).offset))) := rfl

/-- `sort_idx`: a permutation of the first `o` positions followed by one of the remaining positions -/
theorem sortIdx_perm (o n : Nat) (a b : List Nat) (ha : a.Perm (List.range (min o n)))
    (hb : b.Perm (List.range (n - o))) : (a ++ b.map (fun i => i + o)).Perm (List.range n) := by
  refine (ha.append (hb.map _)).trans ?_
  rcases Nat.le_total o n with h | h
  · rw [Nat.min_eq_left h]
    have e : (fun i => i + o) = (fun i => o + i) := by funext i; omega
    rw [e, ← List.range_add, Nat.add_sub_cancel' h]
  · rw [Nat.min_eq_right h, Nat.sub_eq_zero_of_le h]
    simp

theorem prepareGiven_sortIdx_perm (off : Nat) (W : Mat) (locks : List Bool) (a b : List Nat)
    (ha : Sorts (keysMinus off W locks) a) (hb : Sorts (keysPlus off W locks) b) :
    (prepareGiven off W locks a b).sortIdx.Perm (List.range (idle W locks).length) := by
  apply sortIdx_perm
  · simpa [keysMinus] using ha.1
  · simpa [keysPlus] using hb.1

theorem prepareGiven_sorted_length (off : Nat) (W : Mat) (locks : List Bool) (a b : List Nat)
    (ha : Sorts (keysMinus off W locks) a) (hb : Sorts (keysPlus off W locks) b) :
    (prepareGiven off W locks a b).sorted.length = (idle W locks).length := by
  rw [prepareGiven_sorted, List.length_map, ← prepareGiven_sortIdx]
  exact (prepareGiven_sortIdx_perm off W locks a b ha hb).length_eq.trans List.length_range

theorem subBlock_length_le (A : Mat) (start stop : Nat) (dir : Int) :
    (subBlock A start stop dir).length ≤ A.length := by
  simp only [subBlock, List.length_map, List.length_take, List.length_drop]
  omega

end Infretis.Perm
