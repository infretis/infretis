import Infretis.Lemmas.Perm
import Mathlib.Algebra.BigOperators.Ring.List
/-!
# Laplace expansion of the list permanent along an arbitrary column and row (C02)
-/
namespace Infretis.Perm

theorem sumPick_swap {α : Type} (G : α → α → List α → Rat) (l : List α) :
    sumPick (fun x xs => sumPick (fun y ys => G x y ys) xs) l
      = sumPick (fun y ys => sumPick (fun x xs => G x y xs) ys) l := by
  induction l generalizing G with
  | nil => rfl
  | cons a t ih =>
    simp only [sumPick]
    rw [sumPick_add, sumPick_add, ih (fun x y zs => G x y (a :: zs))]
    ring

theorem sumPick_eq_sum_range {α : Type} (f : α → List α → Rat) (l : List α) (d : α) :
    sumPick f l = ((List.range l.length).map (fun i => f (l.getD i d) (l.eraseIdx i))).sum := by
  induction l generalizing f with
  | nil => rfl
  | cons a t ih =>
    simp only [sumPick, List.length_cons, List.range_succ_eq_map, List.map_cons, List.sum_cons,
      List.map_map]
    rw [ih]
    rfl

theorem getD_eraseIdx (l : List Rat) (j i : Nat) :
    (l.eraseIdx j).getD i 0 = if i < j then l.getD i 0 else l.getD (i + 1) 0 := by
  simp only [List.getD_eq_getElem?_getD, List.getElem?_eraseIdx]
  split <;> rfl

theorem permN_congr_cols (m : Nat) (g1 g2 : Row → Row) (l : Mat)
    (h : ∀ r c, c < m → (g1 r).getD c 0 = (g2 r).getD c 0) :
    permN m (l.map g1) = permN m (l.map g2) := by
  induction m generalizing l with
  | zero => rfl
  | succ m ih =>
    simp only [permN]
    rw [sumPick_map, sumPick_map]
    apply sumPick_congr
    intro x xs
    rw [h x m (Nat.lt_succ_self m), ih xs (fun r c hc => h r c (Nat.lt_succ_of_lt hc))]

theorem permN_map_congr (m : Nat) (g : Row → Row) (l : Mat)
    (h : ∀ r c, c < m → (g r).getD c 0 = r.getD c 0) : permN m (l.map g) = permN m l := by
  simpa using permN_congr_cols m g id l h

def dropCol (j : Nat) (l : Mat) : Mat := l.map (fun r => r.eraseIdx j)

theorem minor_eq (W : Mat) (i j : Nat) : minor W i j = dropCol j (W.eraseIdx i) := rfl

theorem permN_col (k j : Nat) (hj : j ≤ k) (l : Mat) :
    permN (k + 1) l = sumPick (fun r rest => r.getD j 0 * permN k (dropCol j rest)) l := by
  induction k generalizing l with
  | zero =>
    have : j = 0 := by omega
    subst this
    simp [permN]
  | succ k ih =>
    rcases Nat.eq_or_lt_of_le hj with h | h
    · subst h
      rw [permN]
      apply sumPick_congr
      intro x xs
      unfold dropCol
      rw [permN_map_congr]
      intro r c hc
      rw [getD_eraseIdx, if_pos hc]
    · have hjk : j ≤ k := by omega
      -- LHS: expand along the last column, then each cofactor along column j
      have hL : permN (k + 1 + 1) l
          = sumPick (fun r rest => sumPick (fun s rest2 =>
              r.getD (k + 1) 0 * s.getD j 0 * permN k (dropCol j rest2)) rest) l := by
        rw [permN]
        apply sumPick_congr
        intro r rest
        rw [ih hjk rest, ← sumPick_mul_left]
        apply sumPick_congr
        intro s rest2
        ring
      -- RHS: each cofactor expanded along its last column
      have hR : sumPick (fun s rest => s.getD j 0 * permN (k + 1) (dropCol j rest)) l
          = sumPick (fun s rest => sumPick (fun r rest2 =>
              r.getD (k + 1) 0 * s.getD j 0 * permN k (dropCol j rest2)) rest) l := by
        apply sumPick_congr
        intro s rest
        rw [permN]
        unfold dropCol
        rw [sumPick_map, ← sumPick_mul_left]
        apply sumPick_congr
        intro r rest2
        rw [getD_eraseIdx, if_neg (by omega)]
        ring
      rw [hL, hR, sumPick_swap]

theorem sumPick_sum_range {α : Type} (n : Nat) (F : Nat → α → List α → Rat) (l : List α) :
    sumPick (fun x xs => ((List.range n).map (fun j => F j x xs)).sum) l
      = ((List.range n).map (fun j => sumPick (F j) l)).sum := by
  induction n with
  | zero => simp [sumPick_zero]
  | succ n ih =>
    simp only [List.range_succ, List.map_append, List.sum_append, List.map_cons, List.map_nil,
      List.sum_cons, List.sum_nil, add_zero]
    rw [sumPick_add, ih]

theorem permN_row (k : Nat) (r : Row) (rest : Mat) (hlen : rest.length = k) :
    permN (k + 1) (r :: rest)
      = ((List.range (k + 1)).map (fun j => r.getD j 0 * permN k (dropCol j rest))).sum := by
  induction k generalizing r rest with
  | zero =>
    have : rest = [] := List.eq_nil_of_length_eq_zero hlen
    subst this
    simp [permN, sumPick]
  | succ k ih =>
    rw [permN]
    simp only [sumPick]
    -- the picks from `rest`
    have h2 : sumPick (fun y ys => y.getD (k + 1) 0 * permN (k + 1) (r :: ys)) rest
        = ((List.range (k + 1)).map (fun j => r.getD j 0 * permN (k + 1) (dropCol j rest))).sum := by
      have e1 : sumPick (fun y ys => y.getD (k + 1) 0 * permN (k + 1) (r :: ys)) rest
          = sumPick (fun y ys => ((List.range (k + 1)).map (fun j =>
              r.getD j 0 * (y.getD (k + 1) 0 * permN k (dropCol j ys)))).sum) rest := by
        apply sumPick_congr'
        intro y ys hy
        have hl : ys.length = k := by
          have := hy.length_eq
          simp only [List.length_cons] at this
          omega
        rw [ih r ys hl, ← List.sum_map_mul_left]
        congr 1
        apply List.map_congr_left
        intro j _
        ring
      rw [e1, sumPick_sum_range]
      congr 1
      apply List.map_congr_left
      intro j hjm
      have hj : j < k + 1 := List.mem_range.mp hjm
      rw [sumPick_mul_left]
      congr 1
      rw [permN]
      unfold dropCol
      rw [sumPick_map]
      apply sumPick_congr
      intro y ys
      rw [getD_eraseIdx, if_neg (by omega)]
    rw [h2]
    rw [List.range_succ (n := k + 1), List.map_append, List.sum_append]
    simp only [List.map_cons, List.map_nil, List.sum_cons, List.sum_nil, add_zero]
    have h3 : permN (k + 1) (dropCol (k + 1) rest) = permN (k + 1) rest := by
      unfold dropCol
      apply permN_map_congr
      intro r c hc
      rw [getD_eraseIdx, if_pos hc]
    rw [h3]
    ring

end Infretis.Perm
