import Infretis.Lemmas.RepexFootprint
/-!
# C07 — which operation of the sampler touches the scheduler's seed sequence

The fields that describe the scheduler's `SeedSequence` / bit generator and the counters the restart
arithmetic uses (`RngEq` lists them) lie outside the footprint of every operation of `REPEX_state` except
`pick` / `pick_lock` (and `loop`, for `cstep`).  No lemma is stated on `RngEq`: where an equality is needed it is a
projection of the operation's `…_touches` lemma (`Issue.frame`, `Before` in RepexC07Issue).
`pick` spawns exactly one child (`spawned + 1`), hands out the streams `(entropy, [spawned, j])` and
`(entropy, [spawned, j, 0])`, and advances the scheduler stream by exactly the returned draw requests;
`pick_lock` does the same or re-issues a recorded job under the ordinal on record (`Issue`).
-/
namespace Infretis.Repex

structure RngEq (s s' : St) : Prop where
  seed : s'.seed = s.seed
  entropy : s'.entropy = s.entropy
  spawned : s'.spawned = s.spawned
  mainDraws : s'.mainDraws = s.mainDraws
  restarted : s'.restarted = s.restarted
  rgenRestored : s'.rgenRestored = s.rgenRestored
  locked0 : s'.locked0 = s.locked0
  cstep : s'.cstep = s.cstep
  workers : s'.workers = s.workers
  tsteps : s'.tsteps = s.tsteps
  locked0Ord : s'.locked0Ord = s.locked0Ord

/-- the move and engine streams of job ordinal `k`, picked entry `j`, in a sequence with entropy `en` -/
def moveStream (en k j : Nat) : Stream := { entropy := en, key := [k, j] }
def engStream (en k j : Nat) : Stream := { entropy := en, key := [k, j, 0] }

theorem mkPicked_go_streams (child : Stream) (pairs : List (Int × Option Nat)) (j : Nat)
    (ps : List Picked) (h : mkPicked.go child j pairs = .ok ps) :
    ps.map (fun p => (p.ens, some p.pn)) = pairs ∧
    ∀ i p, ps[i]? = some p →
      p.rgen = spawnStream child (j + i) ∧ p.rgenEng = spawnStream (spawnStream child (j + i)) 0 := by
  obtain ⟨L, rfl, rfl⟩ := mkPickedGo_ok_iff.mp h
  refine ⟨?_, fun i p hp => ?_⟩
  · rw [List.map_map]
    conv => rhs; rw [← List.zipIdx_map_fst j L, List.map_map]
    rfl
  · rw [List.getElem?_map, List.getElem?_zipIdx] at hp
    cases hL : L[i]? with
    | none => rw [hL] at hp; cases hp
    | some x =>
      rw [hL] at hp
      cases hp
      exact ⟨rfl, rfl⟩

theorem mkPicked_ens {s : St} {pairs : List (Int × Option Nat)} {ps : List Picked}
    (h : mkPicked s pairs = .ok ps) : ps.map (fun p => (p.ens, some p.pn)) = pairs := by
  unfold mkPicked at h
  exact (mkPicked_go_streams _ pairs 0 ps h).1

/-- **`mkPicked`**: entry `j` of the job gets `(entropy, [spawned, j])` and `(entropy, [spawned, j, 0])` -/
theorem mkPicked_streams {s : St} {pairs : List (Int × Option Nat)} {ps : List Picked}
    (h : mkPicked s pairs = .ok ps) :
    ∀ j p, ps[j]? = some p →
      p.rgen = moveStream s.entropy s.spawned j ∧ p.rgenEng = engStream s.entropy s.spawned j := by
  unfold mkPicked at h
  intro j p hp
  obtain ⟨h1, h2⟩ := (mkPicked_go_streams _ pairs 0 ps h).2 j p hp
  rw [Nat.zero_add] at h1 h2
  rw [h1, h2]
  exact ⟨rfl, rfl⟩

/-- the shapes of the draw requests of one `pick()` on the scheduler stream -/
def DrawShape (ds : List Draw) : Prop :=
  (∃ P, ds = [Draw.choiceAll P]) ∨ (∃ P, ds = [Draw.choiceAll P, Draw.coin]) ∨
  (∃ P c col, ds = [Draw.choiceAll P, Draw.coin, Draw.choiceCol c col])

theorem pickCore_shape {s s' : St} {o : PickOutcome} {pairs : List (Int × Option Nat)} {ds : List Draw}
    (hp : pickCore s o = .ok (s', pairs, ds)) : DrawShape ds := by
  obtain ⟨_, s2, _, hcase⟩ := pickCore_parts hp
  rcases hcase with ⟨_, _, _, _, _, _, _, rfl⟩ | ⟨_, _, _, rfl⟩
  · exact Or.inr (Or.inr ⟨_, _, _, rfl⟩)
  · split
    · exact Or.inr (Or.inl ⟨_, rfl⟩)
    · exact Or.inl ⟨_, rfl⟩

/-- streams of ordinal `ord` in the seed sequence with entropy `en`, entry by entry -/
def StreamsAt (en ord : Nat) (ps : List Picked) : Prop :=
  ∀ j p, ps[j]? = some p → p.rgen = moveStream en ord j ∧ p.rgenEng = engStream en ord j

/-- what issuing one job does to the scheduler's seed sequence: the job carries the streams of the
    ordinal `ord` that is put on record with it; either `ord` is the next fresh ordinal and the
    counter advances (`fresh`), or the job is re-issued under the ordinal on record and the counter
    stays -/
structure Issue (s s' : St) (ps : List Picked) (ord : Nat) (fresh : Bool) : Prop where
  seed : s'.seed = s.seed
  entropy : s'.entropy = s.entropy
  restarted : s'.restarted = s.restarted
  cstep : s'.cstep = s.cstep
  workers : s'.workers = s.workers
  tsteps : s'.tsteps = s.tsteps
  streams : StreamsAt s.entropy ord ps
  locked : ∃ entry, s'.locked = s.locked ++ [entry]
  lockedOrd : s'.lockedOrd = s.lockedOrd ++ [ord]
  kind : (fresh = true ∧ ord = s.spawned ∧ s'.spawned = s.spawned + 1 ∧
           (s'.locked0Ord = s.locked0Ord ∨ s'.locked0Ord = s.locked0Ord.tail)) ∨
         (fresh = false ∧ s'.spawned = s.spawned ∧ s.locked0Ord = some ord :: s'.locked0Ord)

/-- **`pick()`**: one child spawned, streams `(entropy, [spawned, j])`, the scheduler stream advanced
    by exactly the returned requests, one record (with the ordinal) appended to `locked`. -/
theorem pick_issue {s s' : St} {o : PickOutcome} {ps : List Picked} {ds : List Draw}
    (hp : pick s o = .ok (s', ps, ds)) :
    Issue s s' ps s.spawned true ∧ s'.mainDraws = s.mainDraws + ds.length ∧ DrawShape ds ∧
      s'.locked = s.locked ++ [(ps.map (·.ens), ps.map (·.pn))] := by
  obtain ⟨s1, pairs, hpc, hmk, rfl⟩ := pick_parts hp
  have q := pickCore_touches hpc
  have hst := mkPicked_streams hmk
  rw [q.entropy, q.spawned] at hst
  refine ⟨⟨q.seed, q.entropy, q.restarted, q.cstep, q.workers, q.tsteps, hst,
      ⟨(pairs.map (·.1), ps.map (·.pn)), ?_⟩, ?_, Or.inl ⟨rfl, rfl, ?_, Or.inl q.locked0Ord⟩⟩, ?_,
    pickCore_shape hpc, ?_⟩
  · show s1.locked ++ _ = s.locked ++ _
    rw [q.locked]
  · show s1.lockedOrd ++ [s1.spawned] = s.lockedOrd ++ [s.spawned]
    rw [q.lockedOrd, q.spawned]
  · show s1.spawned + 1 = s.spawned + 1
    rw [q.spawned]
  · show s1.mainDraws + drawCount ds = s.mainDraws + ds.length
    rw [q.mainDraws]
    rfl
  · show s1.locked ++ [(pairs.map (·.1), ps.map (·.pn))] = s.locked ++ _
    rw [q.locked]
    have := congrArg (List.map Prod.fst) (mkPicked_ens hmk)
    simp only [List.map_map, Function.comp_def] at this
    rw [← this]

/-- the seed sequence (not the position of its bit generator) is unchanged -/
structure RngEqUpToDraws (s s' : St) : Prop where
  seed : s'.seed = s.seed
  entropy : s'.entropy = s.entropy
  spawned : s'.spawned = s.spawned
  restarted : s'.restarted = s.restarted
  cstep : s'.cstep = s.cstep
  workers : s'.workers = s.workers
  tsteps : s'.tsteps = s.tsteps
  locked : s'.locked = s.locked
  lockedOrd : s'.lockedOrd = s.lockedOrd
  locked0 : s'.locked0 = s.locked0
  locked0Ord : s'.locked0Ord = s.locked0Ord

theorem restoreStreamOnce_idle {s : St} (d : Nat) (h : s.restarted = false ∨ s.rgenRestored = true) :
    restoreStreamOnce s d = s := by
  unfold restoreStreamOnce
  split
  · rename_i hc
    rcases h with h | h
    · rw [h] at hc; exact absurd hc.1 (by simp)
    · rw [h] at hc; exact absurd hc.2 (by simp)
  · rfl

theorem restoreStreamOnce_seq (s : St) (d : Nat) : RngEqUpToDraws s (restoreStreamOnce s d) :=
  have t := restoreStreamOnce_touches s d
  ⟨t.seed, t.entropy, t.spawned, t.restarted, t.cstep, t.workers, t.tsteps, t.locked, t.lockedOrd, t.locked0,
    t.locked0Ord⟩

/-- the one-time restore moves the stream position only: an issue from the restored state is an issue
    from the state itself -/
theorem Issue.of_restore {s s' : St} {d : Nat} {ps : List Picked} {ord : Nat} {fresh : Bool}
    (hi : Issue (restoreStreamOnce s d) s' ps ord fresh) : Issue s s' ps ord fresh := by
  have hr := restoreStreamOnce_seq s d
  refine ⟨hi.seed.trans hr.seed, hi.entropy.trans hr.entropy, hi.restarted.trans hr.restarted,
    hi.cstep.trans hr.cstep, hi.workers.trans hr.workers, hi.tsteps.trans hr.tsteps, ?_, ?_, ?_, ?_⟩
  · rw [← hr.entropy]; exact hi.streams
  · rw [← hr.locked]; exact hi.locked
  · rw [← hr.lockedOrd]; exact hi.lockedOrd
  · rw [← hr.spawned, ← hr.locked0Ord]; exact hi.kind

theorem pickLock_fresh {s s' : St} {o : PickOutcome} {d : Nat} {ps : List Picked} {ds : List Draw}
    (hp : pickLock s o d = .ok (s', ps, ds)) (h0 : s.locked0 = []) :
    Issue s s' ps s.spawned true ∧ s'.locked0 = [] ∧
      s'.locked = s.locked ++ [(ps.map (·.ens), ps.map (·.pn))] := by
  rcases pickLock_parts hp with ⟨_, hp⟩ | ⟨_, _, _, _, _, hc, _⟩
  · obtain ⟨hi, _, _, hl⟩ := pick_issue hp
    have hr := restoreStreamOnce_seq s d
    rw [hr.spawned] at hi
    exact ⟨hi.of_restore, by rw [(pick_touches hp).locked0, hr.locked0, h0], by rw [hl, hr.locked]⟩
  · rw [h0] at hc
    cases hc

/-- **`pick_lock()`** (both branches): the job carries the streams of the ordinal put on record with
    it.  A fresh pick (or the re-issue of a record without ordinal) takes the next ordinal and
    advances the counter; the re-issue of a record with ordinal `ord` uses `ord` and leaves the
    counter alone. -/
theorem pickLock_issue {s s' : St} {o : PickOutcome} {d : Nat} {ps : List Picked} {ds : List Draw}
    (hp : pickLock s o d = .ok (s', ps, ds)) : ∃ ord fresh, Issue s s' ps ord fresh := by
  rcases pickLock_parts hp with ⟨hl0, _⟩ | ⟨enss0, trajs0, rest, s1, pairs, _, hre, hmk, rfl, _⟩
  · exact ⟨_, _, (pickLock_fresh hp hl0).1⟩
  · have q := reissue_touches hre
    have hst : StreamsAt s.entropy (reissueOrd s s1) ps := by
      intro j p hj
      rw [← q.entropy]
      exact mkPicked_streams hmk j p hj
    -- the job is a fresh one exactly when the record carries no ordinal
    refine ⟨reissueOrd s s1, !(s.locked0Ord.head?.join).isSome, q.seed, q.entropy, q.restarted, q.cstep,
      q.workers, q.tsteps, hst,
      ⟨(enss0.map (fun (e : Nat) => ((e : Int) - (off : Int))), trajs0), ?_⟩, ?_, ?_⟩
    · show s1.locked ++ _ = s.locked ++ _
      rw [q.locked]
    · show s1.lockedOrd ++ _ = s.lockedOrd ++ _
      rw [q.lockedOrd]
    · have hsp : (reissued s s1 enss0 trajs0).spawned
          = if (s.locked0Ord.head?.join).isSome then s.spawned else s.spawned + 1 := by
        rw [← q.spawned]; rfl
      have hlo : (reissued s s1 enss0 trajs0).locked0Ord = s.locked0Ord.tail := q.locked0Ord
      rw [hsp, hlo]
      unfold reissueOrd
      cases hl : s.locked0Ord with
      | nil => exact Or.inl ⟨rfl, q.spawned, rfl, Or.inl rfl⟩
      | cons x xs =>
        cases x with
        | none => exact Or.inl ⟨rfl, q.spawned, rfl, Or.inr rfl⟩
        | some ord => exact Or.inr ⟨rfl, rfl, rfl⟩

end Infretis.Repex
