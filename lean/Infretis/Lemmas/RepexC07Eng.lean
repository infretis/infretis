import Infretis.Model.EngSetup
import Infretis.Lemmas.RepexC07Frame
/-!
# C07 — the engine set-up of `select_shoot`: every engine object of a job holds a stream of that job

`assignEngineStreams tbl picked` (Model/EngSetup.lean) mirrors the loop that does
`engine.rgen = pens["rgen-eng"]` for every engine object of every picked ensemble.  After it:
* an engine object listed by a picked ensemble holds the engine stream of the LAST picked ensemble
  that lists it — in particular a stream of this job, and exactly its own ensemble's stream when no
  later ensemble of the job shares the object (zero swap with distinct engines for `[0-]` and `[0+]`);
* an engine object the job does not use is untouched.
-/
namespace Infretis.Repex

theorem engRgen_set_self (tbl : EngTbl) (e : EngObj) (x : Stream) :
    engRgen (setEngRgen tbl e x) e = some x := by
  simp [engRgen, setEngRgen]

theorem engRgen_set_ne (tbl : EngTbl) (e e' : EngObj) (x : Stream) (h : e' ≠ e) :
    engRgen (setEngRgen tbl e x) e' = engRgen tbl e' := by
  have h1 : (e' == e) = false := by simpa using h
  simp only [engRgen, setEngRgen, List.lookup_cons, h1]
  rw [Assoc.lookup_filter tbl (fun k => k != e), if_pos (by simpa using h)]

theorem assignList_spec (x : Stream) : ∀ (l : List EngObj) (tbl : EngTbl) (e : EngObj),
    engRgen (l.foldl (fun t e => setEngRgen t e x) tbl) e = if e ∈ l then some x else engRgen tbl e := by
  intro l
  induction l with
  | nil => intro tbl e; simp
  | cons a l ih =>
    intro tbl e
    rw [List.foldl_cons, ih]
    by_cases hl : e ∈ l
    · simp [hl]
    · by_cases ha : e = a
      · subst ha
        simp [hl, engRgen_set_self]
      · have : e ∉ a :: l := by simp [ha, hl]
        rw [if_neg hl, if_neg this, engRgen_set_ne _ _ _ _ ha]

theorem assignOne_spec (tbl : EngTbl) (p : Picked) (e : EngObj) :
    engRgen (assignOne tbl p) e = if e ∈ p.engIdx then some p.rgenEng else engRgen tbl e :=
  assignList_spec p.rgenEng p.engIdx tbl e

theorem assign_untouched : ∀ (picked : List Picked) (tbl : EngTbl) (e : EngObj),
    (∀ p ∈ picked, e ∉ p.engIdx) → engRgen (assignEngineStreams tbl picked) e = engRgen tbl e := by
  intro picked
  induction picked with
  | nil => intro tbl e _; rfl
  | cons p rest ih =>
    intro tbl e h
    unfold assignEngineStreams
    rw [List.foldl_cons]
    have := ih (assignOne tbl p) e (fun q hq => h q (List.mem_cons_of_mem _ hq))
    unfold assignEngineStreams at this
    rw [this, assignOne_spec, if_neg (h p (List.mem_cons_self ..))]

theorem assign_last (l1 l2 : List Picked) (p : Picked) (tbl : EngTbl) (e : EngObj)
    (he : e ∈ p.engIdx) (hl : ∀ q ∈ l2, e ∉ q.engIdx) :
    engRgen (assignEngineStreams tbl (l1 ++ p :: l2)) e = some p.rgenEng := by
  unfold assignEngineStreams
  rw [List.foldl_append, List.foldl_cons]
  have := assign_untouched l2 (assignOne (List.foldl assignOne tbl l1) p) e hl
  unfold assignEngineStreams at this
  rw [this, assignOne_spec, if_pos he]

/-- **every engine object used by a job holds an engine stream of that job** after the set-up,
    whatever it held before (a stale generator of an earlier job, or nothing) -/
theorem assign_job_stream : ∀ (picked : List Picked) (e : EngObj),
    (∃ p ∈ picked, e ∈ p.engIdx) →
    ∃ q ∈ picked, e ∈ q.engIdx ∧ ∀ tbl, engRgen (assignEngineStreams tbl picked) e = some q.rgenEng := by
  intro picked
  induction picked with
  | nil => intro e h; obtain ⟨p, hp, _⟩ := h; simp at hp
  | cons p rest ih =>
    intro e h
    by_cases hr : ∃ q ∈ rest, e ∈ q.engIdx
    · obtain ⟨q, hq, he, hres⟩ := ih e hr
      refine ⟨q, List.mem_cons_of_mem _ hq, he, fun tbl => ?_⟩
      have := hres (assignOne tbl p)
      unfold assignEngineStreams at this ⊢
      rw [List.foldl_cons]
      exact this
    · have hnone : ∀ q ∈ rest, e ∉ q.engIdx := fun q hq he => hr ⟨q, hq, he⟩
      obtain ⟨p', hp', he'⟩ := h
      have hp : e ∈ p.engIdx := by
        rcases List.mem_cons.mp hp' with h1 | h1
        · rw [← h1]; exact he'
        · exact absurd he' (hnone p' h1)
      exact ⟨p, List.mem_cons_self .., hp, fun tbl => assign_last [] rest p tbl e hp hnone⟩

/-- with the streams of ordinal `ord` (what `prep_md_items` hands out): every engine object used by
    the job holds `(en, [ord, j, 0])` for an entry `j` of that job that lists it -/
theorem assign_job_ordinal {en ord : Nat} {picked : List Picked} (hs : StreamsAt en ord picked)
    (tbl : EngTbl) (e : EngObj) (h : ∃ p ∈ picked, e ∈ p.engIdx) :
    ∃ j q, picked[j]? = some q ∧ e ∈ q.engIdx ∧
      engRgen (assignEngineStreams tbl picked) e = some (engStream en ord j) := by
  obtain ⟨q, hq, he, hres⟩ := assign_job_stream picked e h
  obtain ⟨j, hj⟩ := List.mem_iff_getElem?.mp hq
  exact ⟨j, q, hj, he, by rw [hres, (hs j q hj).2]⟩

end Infretis.Repex
