import Infretis.Model.TemplateRepaired
import Infretis.Lemmas.TemplateNow
/-!
The repaired variant of `_modify_input` (`Model/TemplateRepaired.lean`, names compared up to `-`/`_`): the line
structure of its output (as `mdp_edit_exact` for the code as it is) and what `C19.mdp_edit_exact_normalised_repaired`
is put together from, the statement the open finding C19:mdp:dash-underscore-key refutes for the code as it is: a
requested parameter that the template has under either spelling is edited in place and not appended.
-/
namespace Infretis.Template

theorem lookupN_some_mem {s : Settings} {k v : Str} (h : lookupN s k = some v) :
    ∃ k', (k', v) ∈ s ∧ normKey k' = normKey k := by
  induction s with
  | nil => simp [lookupN] at h
  | cons kv t ih =>
    obtain ⟨k', v'⟩ := kv
    simp only [lookupN] at h
    by_cases e : normKey k' = normKey k
    · simp only [e, if_true, Option.some.injEq] at h
      subst h; exact ⟨k', by simp, e⟩
    · simp only [e, if_false] at h
      obtain ⟨k'', hm, hn⟩ := ih h
      exact ⟨k'', List.mem_cons_of_mem _ hm, hn⟩

theorem lookupN_none {s : Settings} {k : Str} (h : lookupN s k = none) : ∀ kv ∈ s, normKey kv.1 ≠ normKey k := by
  induction s with
  | nil => intro kv hkv; simp at hkv
  | cons kv t ih =>
    obtain ⟨k', v'⟩ := kv
    simp only [lookupN] at h
    by_cases e : normKey k' = normKey k
    · simp [e] at h
    · simp only [e, if_false] at h
      intro x hx
      rcases List.mem_cons.1 hx with rfl | hx
      · exact e
      · exact ih h x hx

theorem lookupN_isSome_of_mem {s : Settings} {k : Str} (kv : Str × Str) (hm : kv ∈ s) (hn : normKey kv.1 = normKey k) :
    (lookupN s k).isSome = true := by
  cases h : lookupN s k with
  | some v => rfl
  | none => exact absurd hn (lookupN_none h kv hm)

theorem editOutR_requested (s : Settings) (l kw v : Str)
    (hm : matchKey l = some kw) (hv : lookupN s (strip kw) = some v) : editOutR s l = setLine kw v := by
  simp [editOutR, editLineR, hm, hv]

theorem editOutR_unrequested (s : Settings) (l : Str)
    (h : ∀ kw, matchKey l = some kw → lookupN s (strip kw) = none) : editOutR s l = l := by
  unfold editOutR editLineR
  cases hm : matchKey l with
  | none => rfl
  | some kw => simp [h kw hm]

theorem editOutR_eq (s : Settings) : editOutR s = editWith (lookupN s) := by
  funext l
  unfold editOutR editLineR editWith
  cases matchKey l with
  | none => rfl
  | some kw => simp only []; cases lookupN s (strip kw) <;> rfl

theorem lookupN_nonl {s : Settings} (hv : ∀ kv ∈ s, '\n' ∉ kv.2) : ∀ k v, lookupN s k = some v → '\n' ∉ v :=
  fun _ _ h => let ⟨_, hm, _⟩ := lookupN_some_mem h; hv _ hm

theorem editOutR_closeNL (s : Settings) (hv : ∀ kv ∈ s, '\n' ∉ kv.2) {l : Str} (h : LineLike l) :
    editOutR s (closeNL l) = closeNL (editOutR s l) := by
  rw [editOutR_eq]; exact editWith_closeNL _ (lookupN_nonl hv) h

theorem appendedR_mem {s : Settings} {w : List Str} {l : Str} (h : l ∈ appendedR s w) :
    ∃ k v, (k, v) ∈ s ∧ normKey k ∉ w ∧ l = newLine k v := by
  simp only [appendedR, List.mem_filterMap] at h
  obtain ⟨⟨k, v⟩, hm, he⟩ := h
  by_cases hw : normKey k ∈ w
  · simp [hw] at he
  · simp only [hw, if_false, Option.some.injEq] at he
    exact ⟨k, v, hm, hw, he.symm⟩

def outLinesR (s : Settings) (ls : List Str) : List Str :=
  linesWithApp (editOutR s) (appendedR s (writtenKeysR ls)) ls

theorem modifyInputR_lines (s : Settings) (t : Str)
    (hk : ∀ kv ∈ s, '\n' ∉ kv.1) (hv : ∀ kv ∈ s, '\n' ∉ kv.2) :
    linesKeep (modifyInputR s t) = outLinesR s (linesKeep t) :=
  linesKeep_pieces (editOutR s) _ _
    (by rw [editOutR_eq]; exact lines_map_editWith _ (lookupN_nonl hv) _ (linesKeep_lines t))
    (by intro l hl
        obtain ⟨k, v, hm, _, rfl⟩ := appendedR_mem hl
        exact newLine_proper (hk _ hm) (hv _ hm))

theorem appendedR_exact (s : Settings) (w : List Str) :
    appendedR s w = (s.filter (fun kv => decide (normKey kv.1 ∉ w))).map (fun kv => newLine kv.1 kv.2) := by
  induction s with
  | nil => rfl
  | cons kv t ih =>
    simp only [appendedR] at ih ⊢
    by_cases h : normKey kv.1 ∈ w
    · simp [h, ih]
    · simp [h, ih]

theorem writtenKeysR_of_line {ls : List Str} {l kw : Str} (hl : l ∈ ls) (hm : matchKey l = some kw) :
    normKey (strip kw) ∈ writtenKeysR ls := by
  simp only [writtenKeysR, List.mem_filterMap]
  exact ⟨l, hl, by simp [hm]⟩

end Infretis.Template
