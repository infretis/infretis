import Infretis.Lemmas.MovesShoot
import Infretis.Lemmas.WFCv
/-! The trial paths `Moves.shoot` accepts: exactly the reaching trials that fit the drawn limit (`shoot_acc_iff`), and
    what the final checks say about such a path in terms of its frames (`ReachingTrial.facts`). -/
namespace Infretis.C09
open Infretis.Moves

/-- A shooting trial whose trajectories reach the interfaces: old path with interior points, an
    interior shooting index, a kick that stays inside, both engine streams leave `[l, r]`
    (after `preB` / `preF` inside frames), and the completed path
    `fullTrial = xB :: reverse(preB) ++ kick :: preF ++ [xF]` is a path of the ensemble (starts on an
    allowed side, passes the `0-L` and `NCR` checks). -/
structure ReachingTrial (i : ShootIn) (preB preF restB restF : List Int) (xB xF : Int) : Prop where
  hL : 3 ≤ i.old.length
  hidx1 : 1 ≤ i.idx
  hidx2 : i.idx + 2 ≤ i.old.length
  hk1 : i.l ≤ i.kick
  hk2 : i.kick < i.r
  hB : Reaches i.l i.r i.back preB xB restB
  hF : Reaches i.l i.r i.forw preF xF restF
  hside : sideIn (WF.endPoint i.l i.r xB) i.sc = true
  hshape : finalChecks i (fullTrial i.kick preB xB preF xF) = (true, .ACC)

end Infretis.C09

namespace Infretis.Moves
open Infretis.C09

theorem checkInterfaces_cons (a : Int) (t : List Int) (l m r : Int) :
    ∃ b mn mx, (a :: t).getLast? = some b ∧ minOf (a :: t) = some mn ∧ WF.maxOf (a :: t) = some mx ∧
      checkInterfaces (a :: t) l m r =
        (WF.startPoint (min3 l m r) (max3 l m r) a, WF.endPoint (min3 l m r) (max3 l m r) b,
          decide (mn < m) && decide (m ≤ mx)) := by
  cases h : (a :: t).getLast? with
  | none => simp at h
  | some b =>
    refine ⟨b, _, _, rfl, rfl, rfl, ?_⟩
    simp only [checkInterfaces, List.head?_cons, h, minOf, WF.maxOf]

theorem startPoint_L (lo hi a : Int) : WF.startPoint lo hi a = .L ↔ a ≤ lo := by
  unfold WF.startPoint
  split
  · simp [*]
  · split <;> simp [*]

theorem endPoint_L (lo hi a : Int) : WF.endPoint lo hi a = .L ↔ a ≤ lo := startPoint_L lo hi a

/-- what `shoot` hands back when it accepts the reaching trial `preB, xB, preF, xF` -/
@[simp] def ShootOut.accepted (i : ShootIn) (d2 : List Draw) (preB : List Int) (xB : Int) (preF : List Int) (xF : Int) :
    ShootOut :=
  { accept := true, status := .ACC, trial := fullTrial i.kick preB xB preF xF, genSp := i.kick, genIdx := i.idx,
    genNb := preB.length + 1, timeOrigin := i.oldTimeOrigin + i.idx - ((preB.length + 1 : Nat) : Int),
    draws := .integers 1 (i.old.length - 1) :: d2, usedB := preB.length + 2, usedF := preF.length + 2 }

theorem paste_fullTrial (kick : Int) (preB preF : List Int) (xB xF : Int) (M : Nat)
    (h : preB.length + preF.length + 3 ≤ M) :
    paste (kick :: preB ++ [xB]) (kick :: preF ++ [xF]) M = fullTrial kick preB xB preF xF := by
  rw [paste_fits _ _ _ (by simp; omega)]
  simp [fullTrial]

theorem ShootOut.pasted_eq_accepted (i : ShootIn) (d2 : List Draw) (preB : List Int) (xB : Int) (preF : List Int)
    (xF : Int) (h : preB.length + preF.length + 3 ≤ i.maxlength) :
    ShootOut.pasted i true .ACC d2 (i.kick :: preB ++ [xB]) (i.kick :: preF ++ [xF]) (preB.length + 2)
      (preF.length + 2) = .accepted i d2 preB xB preF xF := by
  simp only [ShootOut.pasted, ShootOut.accepted, paste_fullTrial _ _ _ _ _ _ h, ShootOut.mk.injEq, true_and, and_true]
  simp only [List.length_append, List.length_cons, List.length_nil]
  omega

/-- **Acceptance, exactly.**  `shoot` returns `ACC` iff both streams reach an interface, the completed path passes the
    final checks, and its `|preB| + |preF| + 3` frames fit the drawn limit (one frame to spare before the repair).
    `→`: each successful leg ended on its first frame outside with room to spare; `←`: such legs succeed. -/
theorem shoot_acc_iff (v : Variant) (i : ShootIn) (o : ShootOut) : shoot v i = .ok o ∧ o.status = .ACC ↔
    ∃ preB preF restB restF xB xF maxlen d2, ReachingTrial i preB preF restB restF xB xF ∧
      drawMaxlen i = .ok (maxlen, d2) ∧ preB.length + preF.length + 3 + slack v ≤ maxlen ∧
      o = .accepted i d2 preB xB preF xF := by
  constructor
  · rintro ⟨h, hs⟩
    obtain ⟨maxlen, d2, pb, uB, e, pf, uF, F, hfc, rfl⟩ := shoot_acc_inv v i o h hs
    have hML := drawMaxlen_le i maxlen d2 F.draw
    have hk : i.l ≤ i.kick ∧ i.kick ≤ i.r := ⟨F.kick1, Int.le_of_lt F.kick2⟩
    obtain ⟨preB, xB, restB, hB, hMB, rfl, rfl⟩ := feedV_start_inv v i.l i.r _ i.kick i.back pb uB hk F.back
    obtain ⟨preF, xF, restF, hF, hMF, rfl, rfl⟩ := feedV_start_inv v i.l i.r _ i.kick i.forw pf uF hk F.forw
    simp only [List.length_append, List.length_cons, List.length_nil] at hMF
    obtain rfl : e = xB := by
      have := F.last
      rw [List.getLast?_append] at this
      simpa using this.symm
    have hfit : preB.length + preF.length + 3 + slack v ≤ maxlen := by omega
    rw [paste_fullTrial _ _ _ _ _ _ (by omega)] at hfc
    exact ⟨preB, preF, restB, restF, e, xF, maxlen, d2, ⟨F.len, F.idx1, F.idx2, F.kick1, F.kick2, hB, hF, F.side, hfc⟩,
      F.draw, hfit, ShootOut.pasted_eq_accepted i d2 preB e preF xF (by omega)⟩
  · rintro ⟨preB, preF, restB, restF, xB, xF, maxlen, d2, T, hd, hfit, rfl⟩
    have hML := drawMaxlen_le i maxlen d2 hd
    have hk : i.l ≤ i.kick ∧ i.kick ≤ i.r := ⟨T.hk1, Int.le_of_lt T.hk2⟩
    have F : ForwLeg v i maxlen d2 (i.kick :: preB ++ [xB]) (preB.length + 2) xB (i.kick :: preF ++ [xF]) true
        (preF.length + 2) :=
      ⟨⟨T.hL, T.hidx1, T.hidx2, T.hk1, T.hk2, hd, T.hB.feedV hk (by omega)⟩, by omega,
        by rw [List.getLast?_append]; simp, T.hside, T.hF.feedV hk (by simp; omega)⟩
    have hsh := shoot_of_run (.final F)
    rw [paste_fullTrial _ _ _ _ _ _ (by omega), T.hshape] at hsh
    exact ⟨hsh.trans (congrArg _ (ShootOut.pasted_eq_accepted i d2 preB xB preF xF (by omega))), rfl⟩

/-- what the side test and the final checks say about a reaching trial, frame by frame: it starts strictly outside on
    an allowed side, avoids the lowest interface at both ends if `L` is not allowed, and crosses the middle interface
    unless both start sides are allowed -/
theorem _root_.Infretis.C09.ReachingTrial.facts {i : ShootIn} {preB preF restB restF : List Int} {xB xF : Int}
    (T : ReachingTrial i preB preF restB restF xB xF) :
    ((xB < i.l ∧ i.sc.hasL = true) ∨ (i.r < xB ∧ i.sc.hasR = true)) ∧
    (i.sc.hasL = false → min3 i.l i.m i.r < xB ∧ min3 i.l i.m i.r < xF) ∧
    (((effSc i).hasL = true ∧ (effSc i).hasR = true) ∨
      ((∃ y ∈ fullTrial i.kick preB xB preF xF, y < i.m) ∧ ∃ y ∈ fullTrial i.kick preB xB preF xF, i.m ≤ y)) := by
  have hside := T.hside
  have hstart : (xB < i.l ∧ i.sc.hasL = true) ∨ (i.r < xB ∧ i.sc.hasR = true) := by
    unfold WF.endPoint sideIn at hside
    rcases T.hB.outside with hx | hx
    · left
      have : xB ≤ i.l := by omega
      simp only [this, if_true] at hside
      exact ⟨hx, hside⟩
    · right
      have h1 : ¬ xB ≤ i.l := by have := T.hk1; have := T.hk2; omega
      have h2 : xB ≥ i.r := by omega
      simp only [h1, h2, if_false, if_true] at hside
      exact ⟨hx, hside⟩
  have hft : fullTrial i.kick preB xB preF xF = xB :: (preB.reverse ++ i.kick :: (preF ++ [xF])) := by
    simp [fullTrial]
  obtain ⟨b, mn, mx, hb, hmn, hmx, hci⟩ := checkInterfaces_cons xB (preB.reverse ++ i.kick :: (preF ++ [xF])) i.l i.m i.r
  obtain rfl : b = xF := by
    have : (xB :: (preB.reverse ++ i.kick :: (preF ++ [xF]))) = (xB :: (preB.reverse ++ i.kick :: preF)) ++ [xF] := by simp
    rw [this, List.getLast?_append] at hb
    simpa using hb.symm
  rw [← hft] at hmn hmx hci
  obtain ⟨hz, hc⟩ := (finalChecks_eq_acc i _).1 T.hshape
  rw [hci] at hz hc
  refine ⟨hstart, fun hL0 => ?_, ?_⟩
  · have := not_and.1 hz hL0
    rw [startPoint_L, endPoint_L] at this
    omega
  · rw [← minOf_lt _ mn i.m hmn, ← WF.maxOf_ge _ mx i.m hmx]
    simpa using hc

end Infretis.Moves
