import Infretis.Model.Repex
/-!
# `swapList`: exchanging two positions of a list

Position `k` of `swapList l i j` is position `swapIdx i j k` of `l` (`swapList_get`), `swapIdx` the transposition, which
keeps bounds and is injective.  What every package that follows rows or path slots through `swap` uses of it (C03–C06);
the Monte-Carlo routine of C02 exchanges columns by `swapAt`, which is `swapList` on `List Nat`.
-/
namespace Infretis.Repex

theorem swapList_length {α : Type} (l : List α) (i j : Nat) : (swapList l i j).length = l.length := by
  unfold swapList
  split <;> simp

theorem swapList_eq_of_lt {α : Type} (l : List α) (i j : Nat) (hi : i < l.length)
    (hj : j < l.length) : swapList l i j = (l.set i l[j]).set j l[i] := by
  simp [swapList, List.getElem?_eq_getElem hi, List.getElem?_eq_getElem hj]

/-- the transposition of positions `i` and `j` -/
def swapIdx (i j k : Nat) : Nat := if k = j then i else if k = i then j else k

theorem swapIdx_lt {i j k m : Nat} (hi : i < m) (hj : j < m) (hk : k < m) : swapIdx i j k < m := by
  unfold swapIdx; split
  · exact hi
  · split
    · exact hj
    · exact hk

theorem swapIdx_right (i j : Nat) : swapIdx i j j = i := if_pos rfl

theorem swapIdx_left (i j : Nat) : swapIdx i j i = j := by
  unfold swapIdx
  split
  · rename_i h; exact h
  · exact if_pos rfl

theorem swapIdx_of_ne {i j k : Nat} (hi : k ≠ i) (hj : k ≠ j) : swapIdx i j k = k := by
  rw [swapIdx, if_neg hj, if_neg hi]

theorem swapIdx_swapIdx (i j k : Nat) : swapIdx i j (swapIdx i j k) = k := by
  by_cases hj : k = j
  · rw [hj, swapIdx_right, swapIdx_left]
  · by_cases hi : k = i
    · rw [hi, swapIdx_left, swapIdx_right]
    · rw [swapIdx_of_ne hi hj, swapIdx_of_ne hi hj]

theorem swapIdx_inj {i j a b : Nat} (h : swapIdx i j a = swapIdx i j b) : a = b := by
  rw [← swapIdx_swapIdx i j a, h, swapIdx_swapIdx]

theorem swapList_get {α : Type} (l : List α) (i j k : Nat) (hi : i < l.length) (hj : j < l.length) :
    (swapList l i j)[k]? = l[swapIdx i j k]? := by
  rw [swapList_eq_of_lt l i j hi hj, List.getElem?_set]
  by_cases hkj : k = j
  · subst hkj; simp [swapIdx_right, hj, hi]
  · rw [if_neg (fun h => hkj h.symm), List.getElem?_set]
    by_cases hki : k = i
    · subst hki; simp [swapIdx_left, hi, hj]
    · rw [if_neg (fun h => hki h.symm), swapIdx_of_ne hki hkj]

theorem swapList_self {α : Type} (l : List α) (i : Nat) : swapList l i i = l := by
  by_cases hi : i < l.length
  · rw [swapList_eq_of_lt l i i hi hi]
    simp
  · simp [swapList, List.getElem?_eq_none (Nat.le_of_not_lt hi)]

theorem swapList_perm {α : Type} (l : List α) (i j : Nat) : (swapList l i j).Perm l := by
  unfold swapList
  split
  · rename_i a b hi hj
    obtain ⟨hil, rfl⟩ := List.getElem?_eq_some_iff.mp hi
    obtain ⟨hjl, rfl⟩ := List.getElem?_eq_some_iff.mp hj
    exact List.set_set_perm hil hjl
  · exact List.Perm.refl _

theorem swap_self (s : St) (e : Nat) : swap s e e = s := by
  unfold swap
  rw [swapList_self, swapList_self]

end Infretis.Repex
