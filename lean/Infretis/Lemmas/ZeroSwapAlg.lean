/-
The path surgery of `quantis_swap_zero` done with the path algebra of C15
(`PathAlg.paste`, `PathAlg.Path.reverse` on a heap of System objects) gives the frames the private list
functions of Model/ZeroSwap.lean (`appendAll`) give.
-/
import Infretis.Lemmas.PathAlgRev
import Infretis.Lemmas.ZeroSwap
import Infretis.Model.ZeroSwapAlg

namespace Infretis.ZeroSwap
open Infretis.PathAlg

/-- the values a list of frames has as System objects -/
def fvals (fs : List Frame) : List (Option Vals) := fs.map (fun f => some f.toVals)

theorem fvals_length (fs : List Frame) : (fvals fs).length = fs.length := by simp [fvals]

theorem vals_length (h : Heap) (p : Path) : (vals h p).length = p.frames.length := by simp [vals]

theorem wf_of_vals {h : Heap} {p : Path} {fs : List Frame} (hv : vals h p = fvals fs) : WF h p.frames := by
  intro r hr
  have hmem : (h.look r).map (·.v) ∈ vals h p := List.mem_map_of_mem (f := fun r => (h.look r).map (·.v)) hr
  rw [hv] at hmem
  obtain ⟨f, _, hf⟩ := List.mem_map.mp hmem
  cases hl : h.look r with
  | none => rw [hl] at hf; simp at hf
  | some s =>
    unfold Heap.look at hl
    exact (List.getElem?_eq_some_iff.mp hl).1

theorem capTake_nat {α : Type} (m : Nat) (xs : List α) : capTake (some (m : Int)) xs = xs.take m := by
  simp [capTake]

/-- **`paste_paths(back, forw, maxlen=m)` of C15 on frames = the private `appendAll`s of the swap model.**
    In any heap in which the frames of `B` / `F` hold the values of `back` / `forw`. -/
theorem paste_alg (h : Heap) (B F : Path) (back forw : List Frame) (m : Nat)
    (hB : vals h B = fvals back) (hF : vals h F = fvals forw) :
    ∃ P, PathAlg.paste B F true (some (m : Int)) = .ok P ∧
      vals h P = fvals (appendAll (appendAll [] m back.reverse) m forw.tail) ∧
      P.maxlen = some (m : Int) ∧ P.timeOrigin = B.timeOrigin - (back.length : Int) + 1 := by
  have hlen : B.frames.length = back.length := by
    rw [← vals_length h B, hB, fvals_length]
  have hc := paste_closed B F true (some (m : Int)) (some (m : Int)) rfl
  refine ⟨_, hc, ?_, rfl, ?_⟩
  · rw [appendAll2_eq]
    unfold vals at hB hF ⊢
    simp only [withFrames_frames, capTake_nat, forwPart, if_true]
    rw [List.map_take, List.map_append, List.map_reverse, List.map_drop, hB, hF]
    simp [fvals, List.map_take, List.map_reverse]
  · simp [hlen]; rfl

/-- tis.py:1265 -/
theorem paste0_alg (h : Heap) (B T : Path) (back tmp0 : List Frame) (m : Nat)
    (hB : vals h B = fvals back) (hT : vals h T = fvals tmp0) :
    ∃ P, quantisPaste0 B T m = .ok P ∧
      vals h P = fvals (appendAll (appendAll [] m back.reverse) m tmp0.tail) ∧
      P.maxlen = some (m : Int) ∧ P.timeOrigin = B.timeOrigin - (back.length : Int) + 1 :=
  paste_alg h B T back tmp0 m hB hT

/-- tis.py:1303-1305: `tmp_path1.reverse(None, rev_v=False)` (copies, same values, reversed order; `tmp_path1`
    holds at most its `maxlen` frames) pasted in front of the forward completion -/
theorem paste1_alg (h : Heap) (T F : Path) (tmp1 forw : List Frame) (m : Nat)
    (hT : vals h T = fvals tmp1) (hF : vals h F = fvals forw)
    (hfit : capLen T.maxlen tmp1.length = tmp1.length) :
    ∃ h1 P, quantisPaste1 h T F m = .ok (h1, P) ∧
      vals h1 P = fvals (appendAll (appendAll [] m tmp1.reverse.reverse) m forw.tail) ∧
      P.maxlen = some (m : Int) ∧ P.timeOrigin = 0 - (tmp1.length : Int) + 1 ∧
      (∀ r, r < h.sys.length → h1.look r = h.look r) := by
  have hwT := wf_of_vals hT
  have hwF := wf_of_vals hF
  have hrv := reverse_vals h T none false hwT
  obtain ⟨_, hold⟩ := reverse_heap h T none false hwT
  have hR : vals (Path.reverse h T none false).1 (Path.reverse h T none false).2 = fvals tmp1.reverse := by
    rw [hrv, hT]
    have hid : ∀ v, revVals none false v = v := fun v => by simp [revVals]
    have : (fvals tmp1).reverse.map (Option.map (revVals none false)) = fvals tmp1.reverse := by
      simp [fvals, hid, List.map_reverse]
    rw [this]
    apply capTake_of_fits
    rw [fvals_length, List.length_reverse]; exact hfit
  have hF' : vals (Path.reverse h T none false).1 F = fvals forw := by
    rw [← hF]
    unfold vals
    apply List.map_congr_left
    intro r hr
    rw [hold r (hwF r hr)]
  obtain ⟨P, hP, hv, hm, ht⟩ := paste_alg _ _ F tmp1.reverse forw m hR hF'
  refine ⟨(Path.reverse h T none false).1, P, ?_, hv, hm, ?_, hold⟩
  · unfold quantisPaste1
    simp only [hP]
  · rw [ht]
    have : (Path.reverse h T none false).2.timeOrigin = 0 := by
      rw [reverse_snd h T none false hwT]; rfl
    rw [this]; simp

end Infretis.ZeroSwap
