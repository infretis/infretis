import Infretis.Model.PermRandom
import Infretis.Lemmas.SwapList
import Mathlib.Algebra.Order.Field.Rat
import Mathlib.Tactic.Ring
import Mathlib.Data.List.Nodup
/-!
# Sure properties of the Monte-Carlo routine `random_prob` (model: `Infretis.PermRandom`)

For EVERY sequence of draws (`start ∈ {0,1}`, `r_nums ≥ 0`):
* every visited state is a permutation of the paths over the columns (`visited_perm`); counting the visits by state
  instead of by column (`double_count`, `one_column`, `one_row`) then gives that every row and every column of the
  returned matrix sums to exactly 1 (`Props/C02.lean`: `randomProb_rows_sum_one`, `randomProb_cols_sum_one`);
* if the diagonal of the block is non-zero (the identity start has non-zero weight), every visited state has
  non-zero weight (`Inv`, `visited_inv`), so the returned matrix is zero wherever the weight is zero
  (`randomProb_zero_where_weight_zero`).
-/
namespace Infretis.PermRandom
open Infretis.Perm

theorem swapAt_eq_swapList (l : List Nat) (i j : Nat) : swapAt l i j = Repex.swapList l i j := by
  unfold swapAt Repex.swapList
  cases l[i]? <;> cases l[j]? <;> rfl

theorem swapAt_length (l : List Nat) (i j : Nat) : (swapAt l i j).length = l.length :=
  swapAt_eq_swapList l i j ▸ Repex.swapList_length l i j

theorem swapAt_perm (l : List Nat) (i j : Nat) : (swapAt l i j).Perm l :=
  swapAt_eq_swapList l i j ▸ Repex.swapList_perm l i j

theorem swapAt_getD (l : List Nat) (i j c d : Nat) (hi : i < l.length) (hj : j < l.length) :
    (swapAt l i j).getD c d = l.getD (Repex.swapIdx i j c) d := by
  simp only [List.getD_eq_getElem?_getD, swapAt_eq_swapList, Repex.swapList_get l i j c hi hj]

theorem applySwaps_perm (k : Nat) (left : Bool) (ps : List (Nat × Bool)) :
    ∀ perm : List Nat, (applySwaps k left ps perm).Perm perm := by
  induction ps with
  | nil => intro perm; exact List.Perm.refl _
  | cons p ps ih =>
    intro perm
    obtain ⟨idx, ok⟩ := p
    simp only [applySwaps]
    cases ok with
    | true => exact (ih _).trans (swapAt_perm perm idx _)
    | false => exact ih perm

theorem mcIter_perm (arr : Mat) (k : Nat) (perm : List Nat) (d : Draw) : (mcIter arr k perm d).Perm perm :=
  applySwaps_perm k d.left _ perm

theorem visited_forall (arr : Mat) (k : Nat) (P : List Nat → Prop) (ds : List Draw)
    (hstep : ∀ perm, ∀ d ∈ ds, P perm → P (mcIter arr k perm d)) :
    ∀ perm : List Nat, P perm → ∀ p ∈ visited arr k ds perm, P p := by
  induction ds with
  | nil =>
    intro perm h p hp
    exact List.mem_singleton.1 hp ▸ h
  | cons d ds ih =>
    intro perm h p hp
    rcases List.mem_cons.1 hp with rfl | hp
    · exact h
    · exact ih (fun q d' hd' => hstep q d' (List.mem_cons_of_mem _ hd')) _ (hstep perm d List.mem_cons_self h) p hp

theorem visited_perm (arr : Mat) (k : Nat) (ds : List Draw) (perm : List Nat) :
    ∀ p ∈ visited arr k ds perm, p.Perm perm :=
  visited_forall arr k (·.Perm perm) ds (fun q d _ h => (mcIter_perm arr k q d).trans h) perm (List.Perm.refl _)

theorem visited_length (arr : Mat) (k : Nat) (ds : List Draw) :
    ∀ perm : List Nat, (visited arr k ds perm).length = ds.length + 1 := by
  induction ds with
  | nil => intro perm; rfl
  | cons d ds ih => intro perm; simp [visited, ih]

theorem one_column (k : Nat) (p : List Nat) (hp : p.Perm (List.range k)) (r : Nat) (hr : r < k) :
    ((List.range k).filter (fun c => p.getD c k == r)).length = 1 := by
  have hlen : p.length = k := by simpa using hp.length_eq
  have hmap : p = (List.range k).map (fun c => p.getD c k) := by
    apply List.ext_getElem
    · simp [hlen]
    · intro i h1 h2
      simp [List.getD_eq_getElem?_getD, List.getElem?_eq_getElem h1]
  have hc : p.count r = 1 := by
    rw [hp.count_eq]
    exact List.count_eq_one_of_mem List.nodup_range (List.mem_range.mpr hr)
  rw [← hc]
  conv => rhs; rw [hmap]
  rw [List.count_eq_countP, List.countP_map, List.countP_eq_length_filter]
  rfl

theorem one_row (k : Nat) (p : List Nat) (c : Nat) (h : p.getD c k < k) :
    ((List.range k).filter (fun r => p.getD c k == r)).length = 1 := by
  have : (List.range k).count (p.getD c k) = 1 :=
    List.count_eq_one_of_mem List.nodup_range (List.mem_range.mpr h)
  rw [← this, List.count_eq_countP, List.countP_eq_length_filter]
  congr 1
  apply List.filter_congr
  intro x _
  exact Bool.beq_comm

theorem sum_zero_map {β : Type} (l : List β) : (l.map (fun _ => (0 : Nat))).sum = 0 := by
  induction l with
  | nil => rfl
  | cons x l ih => simp

theorem double_count {α β : Type} (P : α → β → Bool) (vs : List α) (l : List β) :
    (l.map (fun c => (vs.filter (fun p => P p c)).length)).sum
      = (vs.map (fun p => (l.filter (fun c => P p c)).length)).sum := by
  induction vs with
  | nil => simp
  | cons p vs ih =>
    have key : ∀ l : List β, (l.map (fun c => ((p :: vs).filter (fun p => P p c)).length)).sum
        = (l.filter (fun c => P p c)).length
          + (l.map (fun c => (vs.filter (fun p => P p c)).length)).sum := by
      intro l
      induction l with
      | nil => simp
      | cons c l ihl =>
        simp only [List.map_cons, List.sum_cons, ihl]
        by_cases h : P p c = true
        · simp only [List.filter_cons, h, if_true, List.length_cons]; omega
        · simp only [List.filter_cons, h, Bool.false_eq_true, if_false]; omega
    rw [key, ih]
    simp

theorem sum_const_one {α : Type} (l : List α) (f : α → Nat) (h : ∀ x ∈ l, f x = 1) :
    (l.map f).sum = l.length := by
  induction l with
  | nil => rfl
  | cons x l ih =>
    simp only [List.map_cons, List.sum_cons, List.length_cons]
    rw [h x (List.mem_cons_self ..), ih (fun y hy => h y (List.mem_cons_of_mem _ hy))]
    omega

theorem sum_cast_div (l : List Nat) (f : Nat → Nat) (d : Rat) :
    (l.map (fun c => ((f c : Nat) : Rat) / d)).sum = (((l.map f).sum : Nat) : Rat) / d := by
  induction l with
  | nil => simp
  | cons x l ih =>
    simp only [List.map_cons, List.sum_cons, ih, Nat.cast_add]
    ring

theorem entry_randomProb (arr : Mat) (draws : List Draw) (r c : Nat) (hr : r < arr.length)
    (hc : c < arr.length) :
    entry (randomProb arr draws) r c
      = ((visits (visited arr arr.length draws (List.range arr.length)) arr.length r c : Nat) : Rat)
          / ((draws.length + 1 : Nat) : Rat) := by
  simp [entry, randomProb, List.getD_eq_getElem?_getD, hr, hc]

theorem row_randomProb (arr : Mat) (draws : List Draw) (r : Nat) (hr : r < arr.length) :
    (randomProb arr draws).getD r [] = (List.range arr.length).map (fun c =>
      ((visits (visited arr arr.length draws (List.range arr.length)) arr.length r c : Nat) : Rat)
          / ((draws.length + 1 : Nat) : Rat)) := by
  simp [randomProb, List.getD_eq_getElem?_getD, hr]

/-- the state has non-zero weight: every column holds a path whose weight there is non-zero -/
def Inv (arr : Mat) (k : Nat) (perm : List Nat) : Prop :=
  perm.length = k ∧ ∀ c, c < k → entry arr (perm.getD c 0) c ≠ 0

/-- the draws are what numpy can return: `start ∈ {0, 1}`, `r_nums ≥ 0` -/
def DrawOk (d : Draw) : Prop := d.s2 ≤ 1 ∧ ∀ r ∈ d.rs, 0 ≤ r

theorem partner_left (k idx : Nat) (hk : idx < k) :
    partner k true idx = if idx = 0 then k - 1 else idx - 1 := by
  simp only [partner, if_true]
  by_cases h : idx = 0
  · subst h
    simp only [if_true, Nat.zero_add]
    exact Nat.mod_eq_of_lt (by omega)
  · simp only [h, if_false]
    have : idx + k - 1 = (idx - 1) + k := by omega
    rw [this, Nat.add_mod_right]
    exact Nat.mod_eq_of_lt (by omega)

theorem quot_ne_zero (x y : Rat) (hy : y ≠ 0) (h : quot x y ≠ 0) : x ≠ 0 := by
  intro hx
  apply h
  simp [quot, hy, hx]

/-- an accepted proposal leads to a state of non-zero weight -/
theorem accept_nonzero (arr : Mat) (k : Nat) (left : Bool) (perm : List Nat) (idx : Nat) (r : Rat)
    (hinv : Inv arr k perm) (hidx : idx < k) (hp : partner k left idx < k) (hr : 0 ≤ r)
    (hacc : r < pairProb arr k left perm idx) :
    entry arr (perm.getD idx 0) (partner k left idx) ≠ 0
      ∧ entry arr (perm.getD (partner k left idx) 0) idx ≠ 0 := by
  have hpos : pairProb arr k left perm idx ≠ 0 := by
    intro h; rw [h] at hacc; exact absurd hacc (not_lt.mpr hr)
  have d1 := hinv.2 idx hidx
  have d2 := hinv.2 _ hp
  cases left with
  | true =>
    simp only [pairProb, if_true] at hpos
    have hq := mul_ne_zero_iff.mp hpos
    have e1 : (idx + k - 1) % k = partner k true idx := by simp [partner]
    have e2 : (partner k true idx + 1) % k = idx := by
      rw [partner_left k idx hidx]
      by_cases h : idx = 0
      · subst h
        simp only [if_true]
        have : k - 1 + 1 = k := by omega
        rw [this, Nat.mod_self]
      · simp only [h, if_false]
        have : idx - 1 + 1 = idx := by omega
        rw [this]; exact Nat.mod_eq_of_lt hidx
    constructor
    · have := quot_ne_zero _ _ d1 hq.1
      rwa [e1] at this
    · have := quot_ne_zero _ _ d2 hq.2
      rwa [e2] at this
  | false =>
    simp only [pairProb, Bool.false_eq_true, if_false] at hpos
    have hq := mul_ne_zero_iff.mp hpos
    have hp' : idx + 1 < k := by simpa [partner] using hp
    have e0 : partner k false idx = idx + 1 := by simp [partner]
    have e1 : (idx + 1) % k = idx + 1 := Nat.mod_eq_of_lt hp'
    have e2 : (idx + 1 + k - 1) % k = idx := by
      have : idx + 1 + k - 1 = idx + k := by omega
      rw [this, Nat.add_mod_right]; exact Nat.mod_eq_of_lt hidx
    rw [e0] at d2 hq ⊢
    constructor
    · have := quot_ne_zero _ _ d1 hq.1
      simpa [probRight, e1] using this
    · have := quot_ne_zero _ _ d2 hq.2
      rw [e2] at this
      exact this

theorem inv_swap (arr : Mat) (k : Nat) (perm : List Nat) (i j : Nat) (hinv : Inv arr k perm)
    (hi : i < k) (hj : j < k) (h1 : entry arr (perm.getD i 0) j ≠ 0) (h2 : entry arr (perm.getD j 0) i ≠ 0) :
    Inv arr k (swapAt perm i j) := by
  refine ⟨by rw [swapAt_length]; exact hinv.1, ?_⟩
  intro c hc
  rw [swapAt_getD perm i j c 0 (by rw [hinv.1]; exact hi) (by rw [hinv.1]; exact hj)]
  by_cases e1 : c = j
  · subst e1; rw [Repex.swapIdx_right]; exact h1
  · by_cases e2 : c = i
    · subst e2; rw [Repex.swapIdx_left]; exact h2
    · rw [Repex.swapIdx_of_ne e2 e1]; exact hinv.2 c hc

/-- `applySwaps` keeps `Inv`, stated as what the induction needs: a list of index pairs with their acceptance flags,
    each accepted pair non-zero w.r.t. the ORIGINAL state `perm0`, later pairs touching neither column of an earlier
    one (as the pairs `(idx, partner)` of one iteration do not: `mcIter_inv`). -/
theorem applySwaps_inv (arr : Mat) (k : Nat) (left : Bool) (perm0 : List Nat) (ps : List (Nat × Bool)) :
    ∀ perm : List Nat, Inv arr k perm →
      (∀ q ∈ ps, q.1 < k ∧ partner k left q.1 < k
        ∧ perm.getD q.1 0 = perm0.getD q.1 0
        ∧ perm.getD (partner k left q.1) 0 = perm0.getD (partner k left q.1) 0) →
      (∀ q ∈ ps, q.2 = true → entry arr (perm0.getD q.1 0) (partner k left q.1) ≠ 0
        ∧ entry arr (perm0.getD (partner k left q.1) 0) q.1 ≠ 0) →
      ps.Pairwise (fun a b => b.1 ≠ a.1 ∧ b.1 ≠ partner k left a.1
        ∧ partner k left b.1 ≠ a.1 ∧ partner k left b.1 ≠ partner k left a.1) →
      Inv arr k (applySwaps k left ps perm) := by
  induction ps with
  | nil => intro perm h _ _ _; exact h
  | cons q ps ih =>
    intro perm hinv hsame hacc hdis
    obtain ⟨idx, ok⟩ := q
    simp only [applySwaps]
    have hq := hsame (idx, ok) (List.mem_cons_self ..)
    simp only at hq
    obtain ⟨hi, hp, s1, s2⟩ := hq
    rw [List.pairwise_cons] at hdis
    cases ok with
    | false =>
      simp only [Bool.false_eq_true, if_false]
      exact ih perm hinv (fun q hq => hsame q (List.mem_cons_of_mem _ hq))
        (fun q hq => hacc q (List.mem_cons_of_mem _ hq)) hdis.2
    | true =>
      simp only [if_true]
      have ha := hacc (idx, true) (List.mem_cons_self ..) rfl
      simp only at ha
      have hinv' : Inv arr k (swapAt perm idx (partner k left idx)) :=
        inv_swap arr k perm idx _ hinv hi hp (by rw [s1]; exact ha.1) (by rw [s2]; exact ha.2)
      apply ih _ hinv' _ (fun q hq => hacc q (List.mem_cons_of_mem _ hq)) hdis.2
      intro q hq
      have hd := hdis.1 q hq
      simp only at hd
      obtain ⟨qi, qp, q1, q2⟩ := hsame q (List.mem_cons_of_mem _ hq)
      refine ⟨qi, qp, ?_, ?_⟩
      · rw [swapAt_getD perm idx _ _ 0 (by rw [hinv.1]; exact hi) (by rw [hinv.1]; exact hp)]
        rw [Repex.swapIdx_of_ne hd.1 hd.2.1]; exact q1
      · rw [swapAt_getD perm idx _ _ 0 (by rw [hinv.1]; exact hi) (by rw [hinv.1]; exact hp)]
        rw [Repex.swapIdx_of_ne hd.2.2.1 hd.2.2.2]; exact q2

theorem pairwise_zip_fst {α β : Type} (R : α → α → Prop) (l : List α) :
    ∀ m : List β, l.Pairwise R → (l.zip m).Pairwise (fun a b => R a.1 b.1) := by
  induction l with
  | nil => intro m _; simp
  | cons x xs ih =>
    intro m h
    cases m with
    | nil => simp
    | cons y ys =>
      rw [List.pairwise_cons] at h
      simp only [List.zip_cons_cons, List.pairwise_cons]
      exact ⟨fun q hq => h.1 q.1 (List.of_mem_zip hq).1, ih ys h.2⟩

theorem accepted_of_mem (g : Nat → Rat) (idxs : List Nat) :
    ∀ rs : List Rat, ∀ q ∈ idxs.zip (List.zipWith (fun r p => decide (r < p)) rs (idxs.map g)),
      q.2 = true → q.1 ∈ idxs ∧ ∃ r ∈ rs, r < g q.1 := by
  induction idxs with
  | nil => intro rs q hq; simp at hq
  | cons x xs ih =>
    intro rs q hq hq2
    cases rs with
    | nil => simp at hq
    | cons r rs =>
      simp only [List.map_cons, List.zipWith_cons_cons, List.zip_cons_cons, List.mem_cons] at hq
      rcases hq with hq | hq
      · subst hq
        simp only [decide_eq_true_eq] at hq2
        exact ⟨List.mem_cons_self .., r, List.mem_cons_self .., hq2⟩
      · obtain ⟨h1, r', hr', h2⟩ := ih rs q hq hq2
        exact ⟨List.mem_cons_of_mem _ h1, r', List.mem_cons_of_mem _ hr', h2⟩

theorem idx_bound (k j s : Nat) (hj : j < k / 2) (hs : s ≤ 1) (he : (k / 2) * 2 = k → s = 0) :
    2 * j + s + 2 ≤ k := by
  by_cases h : (k / 2) * 2 = k
  · have := he h; omega
  · omega

theorem mcIter_inv (arr : Mat) (k : Nat) (perm : List Nat) (d : Draw) (hinv : Inv arr k perm)
    (hd : DrawOk d) : Inv arr k (mcIter arr k perm d) := by
  unfold mcIter
  have hs : startOf k d ≤ 1 := by
    unfold startOf; split
    · omega
    · exact hd.1
  have he : (k / 2) * 2 = k → startOf k d = 0 := by
    intro h; simp [startOf, h]
  have hb : ∀ j, j < k / 2 → 2 * j + startOf k d + 2 ≤ k := fun j hj => idx_bound k j _ hj hs he
  have hmem : ∀ x ∈ (List.range (k / 2)).map (fun j => 2 * j + startOf k d), x + 2 ≤ k := by
    intro x hx
    obtain ⟨j, hj, rfl⟩ := List.mem_map.mp hx
    exact hb j (List.mem_range.mp hj)
  have hpart : ∀ x, x + 2 ≤ k → partner k d.left x < k := by
    intro x hx
    cases hl : d.left with
    | true => rw [partner_left k x (by omega)]; split <;> omega
    | false => simp [partner]; omega
  apply applySwaps_inv arr k d.left perm _ perm hinv
  · intro q hq
    have hx := hmem q.1 (List.of_mem_zip hq).1
    exact ⟨by omega, hpart _ hx, rfl, rfl⟩
  · intro q hq hq2
    obtain ⟨h1, r, hr, hacc⟩ := accepted_of_mem (pairProb arr k d.left perm) _ d.rs q hq hq2
    have hx := hmem q.1 h1
    exact accept_nonzero arr k d.left perm q.1 r hinv (by omega) (hpart _ hx) (hd.2 r hr) hacc
  · apply pairwise_zip_fst (fun a b : Nat => b ≠ a ∧ b ≠ partner k d.left a
        ∧ partner k d.left b ≠ a ∧ partner k d.left b ≠ partner k d.left a)
    rw [List.pairwise_map]
    apply List.Pairwise.imp_of_mem _ (List.pairwise_lt_range (n := k / 2))
    intro a b ha hb' hab
    have ba := hb a (List.mem_range.mp ha)
    have bb := hb b (List.mem_range.mp hb')
    cases hl : d.left with
    | true =>
      rw [partner_left k _ (by omega), partner_left k _ (by omega)]
      refine ⟨by omega, ?_, ?_, ?_⟩ <;> (repeat' split) <;> omega
    | false =>
      simp only [partner, Bool.false_eq_true, if_false]
      omega

theorem visited_inv (arr : Mat) (k : Nat) (ds : List Draw) (perm : List Nat) (h : Inv arr k perm)
    (hd : ∀ d ∈ ds, DrawOk d) : ∀ p ∈ visited arr k ds perm, Inv arr k p :=
  visited_forall arr k (Inv arr k) ds (fun q d hm hq => mcIter_inv arr k q d hq (hd d hm)) perm h

theorem inv_identity (arr : Mat) (hdiag : ∀ c, c < arr.length → entry arr c c ≠ 0) :
    Inv arr arr.length (List.range arr.length) := by
  refine ⟨by simp, ?_⟩
  intro c hc
  have : (List.range arr.length).getD c 0 = c := by
    simp [List.getD_eq_getElem?_getD, hc]
  rw [this]; exact hdiag c hc

end Infretis.PermRandom
