import Infretis.Model.Perm
import Mathlib.Tactic.Ring
import Mathlib.Tactic.FieldSimp
import Mathlib.Tactic.Linarith
/-!
# Core lemmas about the list permanent `permN` / `permC` (C02)

Algebra of `sumPick` (the sum over "pick one element, keep the rest"), invariance of the
permanent under permutation of the rows, and its sign on non-negative matrices.
-/
namespace Infretis.Perm

theorem sumPick_congr {α : Type} (f g : α → List α → Rat) (l : List α)
    (h : ∀ x xs, f x xs = g x xs) : sumPick f l = sumPick g l := by
  induction l generalizing f g with
  | nil => rfl
  | cons x xs ih => simp only [sumPick, h]

theorem sumPick_congr' {α : Type} (f g : α → List α → Rat) (l : List α)
    (h : ∀ x xs, (x :: xs).Perm l → f x xs = g x xs) : sumPick f l = sumPick g l := by
  induction l generalizing f g with
  | nil => rfl
  | cons a t ih =>
    simp only [sumPick]
    rw [h a t (List.Perm.refl _)]
    congr 1
    apply ih
    intro y ys hy
    apply h
    exact (List.Perm.swap a y ys).trans (List.Perm.cons a hy)

theorem sumPick_add {α : Type} (f g : α → List α → Rat) (l : List α) :
    sumPick (fun x xs => f x xs + g x xs) l = sumPick f l + sumPick g l := by
  induction l generalizing f g with
  | nil => simp [sumPick]
  | cons x xs ih => simp only [sumPick]; rw [ih]; ring

theorem sumPick_mul_left {α : Type} (c : Rat) (f : α → List α → Rat) (l : List α) :
    sumPick (fun x xs => c * f x xs) l = c * sumPick f l := by
  induction l generalizing f with
  | nil => simp [sumPick]
  | cons x xs ih => simp only [sumPick]; rw [ih]; ring

theorem sumPick_zero {α : Type} (l : List α) : sumPick (fun _ _ => (0 : Rat)) l = 0 := by
  induction l with
  | nil => rfl
  | cons x xs ih => simp only [sumPick]; rw [ih]; ring

theorem sumPick_map {α β : Type} (g : α → β) (f : β → List β → Rat) (l : List α) :
    sumPick f (l.map g) = sumPick (fun x xs => f (g x) (xs.map g)) l := by
  induction l generalizing f with
  | nil => rfl
  | cons x xs ih => simp only [List.map_cons, sumPick]; rw [ih]

theorem sumPick_append {α : Type} (f : α → List α → Rat) (l₁ l₂ : List α) :
    sumPick f (l₁ ++ l₂) =
      sumPick (fun x xs => f x (xs ++ l₂)) l₁ + sumPick (fun y ys => f y (l₁ ++ ys)) l₂ := by
  induction l₁ generalizing f with
  | nil => simp [sumPick]
  | cons x xs ih =>
    simp only [List.cons_append, sumPick]
    rw [ih]; ring

theorem sumPick_perm {α : Type} (f : α → List α → Rat)
    (hf : ∀ x l₁ l₂, l₁.Perm l₂ → f x l₁ = f x l₂) {l₁ l₂ : List α} (h : l₁.Perm l₂) :
    sumPick f l₁ = sumPick f l₂ := by
  induction h generalizing f with
  | nil => rfl
  | cons x hp ih =>
    simp only [sumPick]
    rw [hf x _ _ hp, ih _ (fun y a b hab => hf y _ _ (List.Perm.cons x hab))]
  | swap x y l =>
    simp only [sumPick]
    have h2 : sumPick (fun y_1 ys => f y_1 (y :: x :: ys)) l
        = sumPick (fun y_1 ys => f y_1 (x :: y :: ys)) l :=
      sumPick_congr _ _ _ (fun z zs => hf z _ _ (List.Perm.swap x y zs))
    rw [h2]; ring
  | trans _ _ ih1 ih2 => exact (ih1 f hf).trans (ih2 f hf)

theorem permN_perm (m : Nat) {r₁ r₂ : Mat} (h : r₁.Perm r₂) : permN m r₁ = permN m r₂ := by
  induction m generalizing r₁ r₂ with
  | zero => rfl
  | succ m ih =>
    simp only [permN]
    exact sumPick_perm _ (fun x l₁ l₂ hl => by rw [ih hl]) h

theorem permC_perm {r₁ r₂ : Mat} (h : r₁.Perm r₂) : permC r₁ = permC r₂ := by
  unfold permC; rw [h.length_eq]; exact permN_perm _ h

theorem sumPick_nonneg {α : Type} (f : α → List α → Rat) (l : List α)
    (h : ∀ x xs, (x :: xs).Perm l → 0 ≤ f x xs) : 0 ≤ sumPick f l := by
  induction l generalizing f with
  | nil => simp [sumPick]
  | cons a t ih =>
    simp only [sumPick]
    apply add_nonneg (h a t (List.Perm.refl _))
    apply ih
    intro y ys hy
    apply h
    exact (List.Perm.swap a y ys).trans (List.Perm.cons a hy)

theorem permN_nonneg (m : Nat) (rows : Mat) (h : ∀ r ∈ rows, ∀ c, 0 ≤ r.getD c 0) :
    0 ≤ permN m rows := by
  induction m generalizing rows with
  | zero => simp [permN]
  | succ m ih =>
    rw [permN]
    apply sumPick_nonneg
    intro x xs hp
    exact mul_nonneg (h x (hp.subset List.mem_cons_self) m)
      (ih xs (fun r hr => h r (hp.subset (List.mem_cons_of_mem _ hr))))

/-- a non-negative matrix with a positive diagonal has a positive permanent: the diagonal is one of its terms -/
theorem permN_pos (m : Nat) (rows : Mat) (hl : rows.length = m) (h : ∀ r ∈ rows, ∀ c, 0 ≤ r.getD c 0)
    (hd : ∀ i, i < m → 0 < entry rows i i) : 0 < permN m rows := by
  induction m generalizing rows with
  | zero => simp [permN]
  | succ m ih =>
    rcases List.eq_nil_or_concat rows with h0 | ⟨init, last, h0⟩
    · subst h0; simp at hl
    · rw [List.concat_eq_append] at h0
      subst h0
      have hil : init.length = m := by simpa using hl
      rw [permN, sumPick_append]
      have h1 : 0 ≤ sumPick (fun x xs => x.getD m 0 * permN m (xs ++ [last])) init := by
        apply sumPick_nonneg
        intro x xs hp
        have hx : x ∈ init := hp.subset List.mem_cons_self
        apply mul_nonneg (h x (List.mem_append_left _ hx) m)
        apply permN_nonneg
        intro r hr
        rcases List.mem_append.mp hr with hr | hr
        · exact h r (List.mem_append_left _ (hp.subset (List.mem_cons_of_mem _ hr)))
        · exact h r (List.mem_append_right _ hr)
      have h2 : 0 < last.getD m 0 * permN m init := by
        apply mul_pos
        · have := hd m (Nat.lt_succ_self m)
          simpa [entry, ← hil, List.getD_eq_getElem?_getD] using this
        · apply ih init hil (fun r hr => h r (List.mem_append_left _ hr))
          intro i hi
          have := hd i (Nat.lt_succ_of_lt hi)
          have hi' : i < init.length := by omega
          simpa [entry, List.getD_eq_getElem?_getD, List.getElem?_append_left hi'] using this
      simp only [sumPick, List.append_nil, add_zero]
      linarith

theorem permC_pos (rows : Mat) (h : ∀ r ∈ rows, ∀ c, 0 ≤ r.getD c 0)
    (hd : ∀ i, i < rows.length → 0 < entry rows i i) : 0 < permC rows :=
  permN_pos _ rows rfl h hd

end Infretis.Perm
