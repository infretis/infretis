import Infretis.Lemmas.MovesWfA
import Infretis.Lemmas.MovesMember
/-! Wire fencing: what the extender returns (`extender_shape`; with both ends extended, a path of the ensemble), the jump
    loop ends on an accepted sub-shoot, and the two together: an accepted move from its last accepted jump on
    (`WfAccepted`, `wf_acc_shape`). -/
namespace Infretis.Moves

/-- a path of the ensemble `[l, r]`: both ends outside `[l, r)`, every other frame inside `[l, r]` -/
def EnsPath (l r : Int) (p : List Int) : Prop :=
  ∃ a mid b, p = a :: (mid ++ [b]) ∧ (a < l ∨ r ≤ a) ∧ (b < l ∨ r ≤ b) ∧ ∀ y ∈ mid, l ≤ y ∧ y ≤ r

theorem EnsPath.reverse {l r : Int} {p : List Int} (h : EnsPath l r p) : EnsPath l r p.reverse := by
  obtain ⟨a, mid, b, hp, ha, hb, hm⟩ := h
  refine ⟨b, mid.reverse, a, by rw [hp]; simp, hb, ha, ?_⟩
  intro y hy
  exact hm y (by simpa using hy)

/-- an end frame with its extension, read outwards: frames inside `[l, r]`, then one outside `[l, r)` -/
theorem Extension.ends {l r e : Int} {T : List Int} (h : Extension l r e T) :
    ∃ m b, e :: T = m ++ [b] ∧ (∀ y ∈ m, l ≤ y ∧ y ≤ r) ∧ (b < l ∨ r ≤ b) := by
  unfold Extension at h
  split at h
  · obtain ⟨pre, x, rfl, hin, hx⟩ := h
    exact ⟨e :: pre, x, rfl, List.forall_mem_cons.2 ⟨by omega, hin⟩, by omega⟩
  · subst h
    exact ⟨[], e, rfl, nofun, by omega⟩

theorem ensPath_of_extension {l r xB xF : Int} {mid A B : List Int} (hmid : ∀ y ∈ mid, l ≤ y ∧ y ≤ r)
    (hA : Extension l r xB A) (hB : Extension l r xF B) :
    EnsPath l r (A.reverse ++ xB :: (mid ++ [xF]) ++ B) := by
  obtain ⟨mA, a, eA, hmA, ha⟩ := hA.ends
  obtain ⟨mB, b, eB, hmB, hb⟩ := hB.ends
  refine ⟨a, mA.reverse ++ mid ++ mB, b, ?_, ha, hb, ?_⟩
  · have : A.reverse ++ xB :: (mid ++ [xF]) ++ B = (xB :: A).reverse ++ mid ++ (xF :: B) := by simp
    rw [this, eA, eB]
    simp
  · intro y hy
    simp only [List.mem_append, List.mem_reverse] at hy
    rcases hy with (hy | hy) | hy
    · exact hmA y hy
    · exact hmid y hy
    · exact hmB y hy

/-- **What the extender returns** when its result stays below the length limit: the segment with the frames of the
    backward run, reversed, in front and those of the forward run behind; if the MD programs run at least `maxlength`
    steps (they do: engines run `path.maxlen` steps) each run ended on its first frame outside. -/
theorem extender_shape {v : Variant} {i : WfIn} {seg t : List Int} {tor tor' : Int} {b : Bool} {st : Status}
    (h : extender v i seg tor = .ok (b, st, t, tor')) (hlen : t.length < i.maxlength) :
    ∃ first last A B, seg.head? = some first ∧ seg.getLast? = some last ∧ t = A.reverse ++ seg ++ B ∧
      (i.maxlength ≤ i.extBack.length → Extension i.l i.r first A) ∧
      (i.maxlength ≤ i.extForw.length → Extension i.l i.r last B) := by
  obtain ⟨first, t1, last, hh, hB, hlast, hF, _⟩ := extender_inv v i seg tor b st t tor' h
  have hseg : seg ≠ [] := fun e => by rw [e] at hh; cases hh
  -- forward step: the last frame of `t1` is the first of the forward frames
  obtain ⟨B, rfl, hextB⟩ : ∃ B, t = t1 ++ B ∧ (i.maxlength ≤ i.extForw.length → Extension i.l i.r last B) := by
    cases hF with
    | run hin hf =>
      obtain ⟨q, rfl, _, hext⟩ := ext_feed v i.l i.r i.maxlength last i.extForw _ _ _ hin hf
      obtain ⟨d, rfl⟩ := List.getLast?_eq_some_iff.1 hlast
      exact ⟨q, by simp, hext (by simp at hlen ⊢; omega)⟩
    | skip hout => exact ⟨[], by simp, fun _ => by rw [Extension, if_neg hout]⟩
  have hl1 : t1.length < i.maxlength := by simp at hlen; omega
  -- backward step: nothing is cut off in pasting, since `t1` is short
  obtain ⟨A, rfl, hextA⟩ : ∃ A, t1 = A.reverse ++ seg ∧ (i.maxlength ≤ i.extBack.length → Extension i.l i.r first A) := by
    cases hB with
    | run hin hf =>
      obtain ⟨q, rfl, _, hext⟩ := ext_feed v i.l i.r i.maxlength first i.extBack _ _ _ hin hf
      have e2 : (first :: q).reverse ++ seg.tail = q.reverse ++ seg := by
        obtain ⟨s', rfl⟩ : ∃ s', seg = first :: s' := by
          cases seg with
          | nil => cases hh
          | cons a s' => cases hh; exact ⟨s', rfl⟩
        simp
      rw [paste_take, e2] at hl1 ⊢
      have hnt : (q.reverse ++ seg).length ≤ i.maxlength := by
        rw [List.length_take] at hl1
        omega
      rw [List.take_of_length_le hnt] at hl1 ⊢
      have := List.length_pos_iff.2 hseg
      exact ⟨q, rfl, hext (by simp at hl1 ⊢; omega)⟩
    | skip hout => exact ⟨[], rfl, fun _ => by rw [Extension, if_neg hout]⟩
  rw [List.getLast?_append, List.getLast?_eq_some_getLast hseg, Option.some_or] at hlast
  exact ⟨first, last, A, B, hh, by rw [← hlast, List.getLast?_eq_some_getLast hseg], rfl, hextA, hextB⟩

theorem wfJumps_acc (v : Variant) (i : WfIn) : ∀ (n : Nat) (js : List WfJump) (seg : List Int) (to : Int)
    (succ : Nat) (d : List Draw) (seg' : List Int) (to' : Int) (succ' : Nat) (d' : List Draw),
    wfJumps v i n js seg to succ d = .ok (seg', to', succ', d') →
    (succ' = succ ∧ seg' = seg) ∨
    (succ < succ' ∧ ∃ s t j o, shoot v (subShootIn i s t j) = .ok o ∧ o.accept = true ∧ seg' = o.trial) := by
  intro n
  induction n with
  | zero =>
    intro js seg to succ d seg' to' succ' d' h
    simp only [wfJumps, Except.ok.injEq, Prod.mk.injEq] at h
    left; exact ⟨h.2.2.1.symm, h.1.symm⟩
  | succ n ih =>
    intro js seg to succ d seg' to' succ' d' h
    cases js with
    | nil => simp [wfJumps] at h
    | cons j js =>
      simp only [wfJumps] at h
      cases hs : shoot v (subShootIn i seg to j) with
      | error e => rw [hs] at h; cases h
      | ok o =>
        rw [hs] at h
        simp only at h
        by_cases ha : o.accept = true
        · simp only [ha, if_true] at h
          rcases ih _ _ _ _ _ _ _ _ _ h with ⟨h1, h2⟩ | ⟨h1, h2⟩
          · right
            exact ⟨by omega, seg, to, j, o, hs, ha, h2⟩
          · right
            exact ⟨by omega, h2⟩
        · simp only [ha] at h
          exact ih _ _ _ _ _ _ _ _ _ h


/-- An accepted wire-fencing move, from its last accepted jump on.  That jump's trial path is a path of the sub-ensemble
    `[m, cap]` through the kicked point; the extender put `A` (reversed) in front of it and `B` behind; the path
    handed back is the extended path or its reverse, starts on the side the start condition names, and is a new
    object. -/
structure WfAccepted (i : WfIn) (o : WfOut) (kick : Int) (preB preF : List Int) (xB xF : Int) (A B : List Int) :
    Prop where
  inside : ∀ y ∈ preB.reverse ++ kick :: preF, i.m ≤ y ∧ y ≤ capOf i
  kick_lt : kick < capOf i
  outB : xB < i.m ∨ capOf i < xB
  outF : xF < i.m ∨ capOf i < xF
  cross : (i.scEns.hasL = true ∧ i.scEns.hasR = true) ∨ ∃ y ∈ fullTrial kick preB xB preF xF, y < i.m
  path : o.path = A.reverse ++ fullTrial kick preB xB preF xF ++ B ∨
    o.path = (A.reverse ++ fullTrial kick preB xB preF xF ++ B).reverse
  back : i.maxlength ≤ i.extBack.length → Extension i.l i.r xB A
  forw : i.maxlength ≤ i.extForw.length → Extension i.l i.r xF B
  short : o.path.length < i.maxlength
  lcap : i.l ≤ capOf i
  start : i.l ≤ i.r ∧ ∃ first, o.path.head? = some first ∧ scIs i.sc (WF.startPoint i.l i.r first) = true
  fresh : ∃ succ tor draws, succ ≠ 0 ∧ o = .fresh true .ACC o.path succ tor draws

theorem wf_acc_shape (v : Variant) (i : WfIn) (o : WfOut) (h : wireFencing v i = .ok o) (hs : o.status = .ACC) :
    ∃ kick preB preF xB xF A B, WfAccepted i o kick preB preF xB xF A B := by
  obtain ⟨seg, segTO, succ, draws, t1, to1, t2, to2, first, ⟨_, hj, hsucc⟩, hext, hsub, hlr, hfirst, hsc, rfl⟩ :=
    wf_acc_inv v i o h hs
  rcases wfJumps_acc v i _ _ _ _ _ _ _ _ _ _ hj with ⟨h1, _⟩ | ⟨_, s, t, j, so, hsh, hacc, rfl⟩
  · exact absurd h1 hsucc
  obtain ⟨preB, preF, restB, restF, xB, xF, _, _, T, _, _, hso⟩ :=
    (shoot_acc_iff v _ so).1 ⟨hsh, (shoot_accept_status v _ so hsh).1 hacc⟩
  obtain ⟨hstart, _, hcross⟩ := T.facts
  have htr : so.trial = fullTrial j.kick preB xB preF xF := by rw [hso]; rfl
  rw [htr] at hext
  have hlen1 : t1.length < i.maxlength := (extender_flag v i _ _ _ _ _ _ hext).2.1 rfl
  obtain ⟨fst, lst, A, B, hhd, hlt, rfl, hA, hB⟩ := extender_shape hext hlen1
  obtain rfl : xB = fst := by simpa [fullTrial] using hhd
  obtain rfl : xF = lst := by
    have e : fullTrial j.kick preB xB preF xF = (xB :: (preB.reverse ++ j.kick :: preF)) ++ [xF] := by simp [fullTrial]
    rw [e, List.getLast?_append] at hlt
    simpa using hlt
  have h12 := (subt_flag i _ to1 _ _ _ _ hsub).2.2
  have hlcap : i.l ≤ capOf i := by
    unfold subtAcceptance at hsub
    by_cases hc : capOf i < i.l
    · simp [hc] at hsub
    · omega
  refine ⟨j.kick, preB, preF, xB, xF, A, B, T.hB.between T.hF ⟨T.hk1, Int.le_of_lt T.hk2⟩, T.hk2,
    hstart.imp And.left And.left, T.hF.outside, ?_, h12, hA, hB, ?_, hlcap, ⟨hlr, first, hfirst, hsc⟩,
    succ, to2, draws, hsucc, rfl⟩
  · rcases hcross with hc | ⟨hc, _⟩
    · exact Or.inl (by simpa [effSc, subShootIn] using hc)
    · exact Or.inr hc
  · show t2.length < i.maxlength
    rcases h12 with e | e
    · rw [e]; exact hlen1
    · rw [e, List.length_reverse]; exact hlen1

end Infretis.Moves
