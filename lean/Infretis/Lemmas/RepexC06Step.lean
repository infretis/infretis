import Infretis.Lemmas.RepexC06Obs
import Infretis.Lemmas.RepexRun
/-
C06: every operation of the state machine respects `ObsR`: on related states it fails with the same error or returns
related results (`RelE`).  An operation that is a chain of calls is read as a chain of `Except.bind` (`pick_eq`,
`treatOutput_bind`, `sysStep_step_eq` …) and follows link by link from `RelE.bind`.  Of a job `treat_output` reads the
ensembles, the paths and `pnum_old` only, so the two sides may hold different jobs with these in common
(`perEns_rel`, `treatOutput_rel`); `stepTreat_rel` compares the completion half of a `.step` for jobs in flight that
agree position by position in any such part of a job.
-/
namespace Infretis.Repex
open Infretis.Perm

variable {p : Prop} {t0 : Int} {ra rb : List Row} {a b : St}

theorem swap_rel (h : ObsR p t0 ra rb a b) (t e : Nat) : ObsR p t0 ra rb (swap a t e) (swap b t e) :=
  { h with W := by simp only [swap]; rw [h.W], trajs := by simp only [swap]; rw [h.trajs] }

theorem lock_rel (h : ObsR p t0 ra rb a b) (e : Nat) : RelE (ObsR p t0 ra rb) (lock a e) (lock b e) := by
  unfold lock
  rw [h.locks]
  cases hb : b.locks[e]? with
  | none => simp [RelE]
  | some v =>
    cases v
    · simp only [RelE]
      exact { h with locks := by simp only [] }
    · simp [RelE]

theorem unlock_rel (h : ObsR p t0 ra rb a b) (e : Nat) : RelE (ObsR p t0 ra rb) (unlock a e) (unlock b e) := by
  unfold unlock
  rw [h.locks]
  cases hb : b.locks[e]? with
  | none => simp [RelE]
  | some v =>
    cases v
    · simp [RelE]
    · simp only [RelE]
      exact { h with locks := by simp only [] }

theorem prob_eq (h : ObsR p t0 ra rb a b) : prob a = prob b := by
  unfold prob; rw [h.W, h.locks]

theorem lockedPaths_eq (h : ObsR p t0 ra rb a b) : lockedPaths a = lockedPaths b := by
  unfold lockedPaths; rw [h.trajs, h.locks]

theorem livePaths_eq (h : ObsR p t0 ra rb a b) : livePaths a = livePaths b := by
  unfold livePaths; rw [h.trajs]


def RS (p : Prop) (t0 : Int) (ra rb : List Row) {β : Type} (x y : St × β) : Prop := ObsR p t0 ra rb x.1 y.1 ∧ x.2 = y.2

theorem pickCore_rel (h : ObsR p t0 ra rb a b) (o : PickOutcome) :
    RelE (RS p t0 ra rb) (pickCore a o) (pickCore b o) := by
  rw [pickCore_eq, pickCore_eq, prob_eq h]
  split
  · exact rfl
  · refine (lock_rel (swap_rel h o.t o.e) o.e).bind fun a2 b2 h2 => ?_
    rw [h2.trajs, h2.locks, prob_eq h2]
    split
    · split
      · exact rfl
      · refine (lock_rel (swap_rel h2 o.partner _) _).bind fun a4 b4 h4 => ?_
        rw [h4.trajs]
        exact ⟨h4, rfl⟩
    · exact ⟨h2, rfl⟩

theorem mkPicked_eq (h : ObsR p t0 ra rb a b) (pairs : List (Int × Option Nat)) : mkPicked a pairs = mkPicked b pairs := by
  unfold mkPicked mainStream
  rw [h.entropy, h.spawned]

theorem pick_rel (h : ObsR p t0 ra rb a b) (o : PickOutcome) : RelE (RS p t0 ra rb) (pick a o) (pick b o) := by
  rw [pick_eq, pick_eq]
  refine (pickCore_rel h o).bind fun ⟨a1, pairs, ds⟩ ⟨b1, _, _⟩ ⟨h2, rfl⟩ => ?_
  dsimp only at h2 ⊢
  rw [mkPicked_eq h2]
  refine (RelE.refl (fun _ => rfl) _).bind ?_
  rintro ps _ rfl
  exact ⟨{ h2 with locked := by simp only []; rw [h2.locked], spawned := by simp only []; rw [h2.spawned],
                   lockedOrd := by simp only []; rw [h2.lockedOrd, h2.spawned],
                   mainDraws := by simp only []; rw [h2.mainDraws] }, rfl⟩

/-- what `prepTail` gives on states related without `strict`: related results with the same engine table and the same
    job and draws; `toinitiate` and `cworker`, which `ObsR False` does not compare, are each side's own as before, so
    that a caller that had them equal has them equal again (`ObsR.strengthen`) -/
def RT (t0 : Int) (ra rb : List Row) (a1 b1 : St) (x y : St × Job × List Draw) : Prop :=
  ObsR False t0 ra rb x.1 y.1 ∧ x.1.occ = y.1.occ ∧ x.1.toinitiate = a1.toinitiate ∧ y.1.toinitiate = b1.toinitiate ∧
    x.1.cworker = a1.cworker ∧ y.1.cworker = b1.cworker ∧ x.2 = y.2

theorem prepTail_rel {a1 b1 : St} (h : ObsR False t0 ra rb a1 b1)
    (ps : List Picked) (ds : List Draw) (pin? : Option Nat)
    (hocc : ∀ pin, pin? = some pin → ∀ names, assignEngines a1.occ names pin = assignEngines b1.occ names pin) :
    RelE (RT t0 ra rb a1 b1) (prepTail a1 ps ds pin?) (prepTail b1 ps ds pin?) := by
  unfold prepTail
  cases pin? with
  | none => simp [RelE]
  | some pin =>
    simp only []
    rw [h.ensEng, hocc pin rfl]
    cases hae : assignEngines b1.occ (dedup ((ps.map (fun p => b1.ensEng.getD (p.ens + 1).toNat [])).flatten)) pin with
    | error e => simp [RelE]
    | ok r =>
      obtain ⟨occ', idx⟩ := r
      simp only []
      split
      · simp [RelE]
      · simp only [RelE, RT, and_true]
        exact { h with ensEng := rfl, occ := fun _ => rfl }


theorem addTraj_rel (h : ObsR p t0 ra rb a b) (ens : Int) (pn : Nat) (valid : List Rat) :
    RelE (ObsR p t0 ra rb) (addTraj a ens pn valid) (addTraj b ens pn valid) := by
  unfold addTraj
  have hv : padValid a ens valid = padValid b ens valid := by unfold padValid; rw [h.n]
  simp only []
  rw [hv, h.n, h.trajs, h.W]
  generalize padValid b ens valid = v
  split
  · simp [RelE]
  · split
    · simp [RelE]
    · split
      · simp [RelE]
      · split
        · simp [RelE]
        · apply unlock_rel
          exact { h with trajs := rfl, W := rfl, n := rfl }


theorem FEq.newEntry {f g : AL} (h : FEq f g) (status : Status) (k : Nat) (v : List Rat) :
    FEq (f ++ newEntry status k v) (g ++ newEntry status k v) := by
  unfold Repex.newEntry
  split
  · exact h.append k v
  · simpa using h

theorem perEnsPre_rel (h : ObsR p t0 ra rb a b) (status : Status) (tn : Nat) {pk pk' : Picked} (hpn : pk.pn = pk'.pn)
    (w : List Rat) : ObsR p t0 ra rb (perEnsPre status a tn pk w) (perEnsPre status b tn pk' w) :=
  { h with locked := by simp only [perEnsPre]; rw [h.locked, hpn],
           lockedOrd := by simp only [perEnsPre]; rw [h.locked, h.lockedOrd, hpn],
           frac := by simp only [perEnsPre]; rw [h.n]; exact h.frac.newEntry _ _ _,
           wts := h.wts.newEntry _ _ _ }

/-- of each picked ensemble the loop of `treat_output` reads the ensemble and the path number -/
theorem perEns_rel (status : Status) : ∀ (l l' : List (Picked × List Rat)) (tn : Nat) {a b : St},
    l.map (Prod.map (fun q => (q.ens, q.pn)) id) = l'.map (Prod.map (fun q => (q.ens, q.pn)) id) →
    ObsR p t0 ra rb a b →
    RelE (RS p t0 ra rb) (treatOutput.perEns status a tn l) (treatOutput.perEns status b tn l') := by
  intro l
  induction l with
  | nil =>
    intro l' tn a b hk h
    cases l' with
    | nil => exact ⟨h, rfl⟩
    | cons hd' tl' => cases hk
  | cons hd tl ih =>
    intro l' tn a b hk h
    cases l' with
    | nil => cases hk
    | cons hd' tl' =>
      obtain ⟨pk, w⟩ := hd
      obtain ⟨pk', w'⟩ := hd'
      simp only [List.map_cons, List.cons.injEq, Prod.map_apply, id_eq, Prod.mk.injEq] at hk
      obtain ⟨⟨⟨hens, hpn⟩, rfl⟩, htl⟩ := hk
      have hpre := perEnsPre_rel h status tn hpn w
      -- the round: `add_traj` on related states, then the rest of the loop
      have hround : ∀ pn v tn1, RelE (RS p t0 ra rb)
          ((addTraj (perEnsPre status a tn pk w) pk.ens pn v).bind fun s3 =>
            (treatOutput.perEns status s3 tn1 tl).map fun r => (r.1, r.2.1, pn :: r.2.2))
          ((addTraj (perEnsPre status b tn pk' w) pk.ens pn v).bind fun s3 =>
            (treatOutput.perEns status s3 tn1 tl').map fun r => (r.1, r.2.1, pn :: r.2.2)) :=
        fun pn v tn1 => (addTraj_rel hpre pk.ens pn v).bind fun a3 b3 h3 =>
          (ih tl' tn1 htl h3).map fun r r' hr => ⟨hr.1, by rw [hr.2]⟩
      rw [perEns_cons, perEns_cons, ← hpn, ← hens]
      cases status
      · exact hround tn w (tn + 1)
      · show RelE _ (match a.wts.lookup pk.pn with | none => _ | some wOld => _) _
        rw [h.wts pk.pn]
        cases b.wts.lookup pk.pn with
        | none => exact rfl
        | some wOld => exact hround pk.pn wOld tn

theorem recordFrac_go_rel (lp : List (Option Nat)) (P : Mat) : ∀ (l : List (Nat × Option Nat)) {f g : AL},
    FEq f g → RelE FEq (recordFrac.go lp P f l) (recordFrac.go lp P g l) := by
  intro l
  induction l with
  | nil => intro f g h; exact h
  | cons hd tl ih =>
    intro f g h
    obtain ⟨idx, live⟩ := hd
    rw [recordFrac_go_cons, recordFrac_go_cons]
    split
    · exact ih h
    · cases live with
      | none => exact rfl
      | some pn => exact (updFrac_rel h pn (P.getD idx [])).bind fun f' g' h2 => ih h2

theorem recordFrac_rel (h : ObsR p t0 ra rb a b) : RelE (ObsR p t0 ra rb) (recordFrac a) (recordFrac b) := by
  rw [recordFrac_eq, recordFrac_eq, lockedPaths_eq h, prob_eq h, livePaths_eq h]
  exact (recordFrac_go_rel _ _ _ h.frac).bind fun f' g' h2 => { h with frac := h2 }

theorem writeRows_rel : ∀ (pns : List Nat) {a b : St}, ObsR p t0 ra rb a b →
    RelE (ObsR p t0 ra rb) (writeRows a pns) (writeRows b pns) := by
  intro pns
  induction pns with
  | nil => intro a b h; simpa [writeRows, RelE] using h
  | cons pn tl ih =>
    intro a b h
    simp only [writeRows]
    rw [h.frac pn, h.wts pn]
    cases hf : b.frac.lookup pn with
    | none => simp [RelE]
    | some f =>
      cases hw : b.wts.lookup pn with
      | none => simp [RelE]
      | some w =>
        simp only []
        apply ih
        obtain ⟨r, hra, hrb⟩ := h.rows
        exact { h with frac := h.frac.filter pn, wts := h.wts.filter pn,
                       rows := ⟨r ++ [(pn, f, w)], by simp only []; rw [hra, List.append_assoc],
                                by simp only []; rw [hrb, List.append_assoc]⟩ }

theorem sortStep_rel (h : ObsR p t0 ra rb a b) (hta : a.toinitiate = b.toinitiate) :
    RelE (fun x y => match x, y with
                     | none, none => True
                     | some x, some y => ObsR p t0 ra rb x y
                     | _, _ => False) (sortStep a) (sortStep b) := by
  unfold sortStep needsToMove
  simp only []
  rw [lockedPaths_eq h, h.n, h.W, hta, h.trajs]
  split
  · simp [RelE]
  · split
    · simp [RelE]
    · split
      · simp [RelE]
      · simp only [RelE]
        exact swap_rel h _ _

theorem sortTrajstate_rel : ∀ (fuel : Nat) {a b : St}, ObsR p t0 ra rb a b → a.toinitiate = b.toinitiate →
    RelE (RS p t0 ra rb) (sortTrajstate fuel a) (sortTrajstate fuel b) := by
  intro fuel
  induction fuel with
  | zero => intro a b h _; exact rfl
  | succ k ih =>
    intro a b h hta
    rw [sortTrajstate_succ, sortTrajstate_succ]
    refine (sortStep_rel h hta).bind_ok fun oa ob ha hb h2 => ?_
    cases oa with
    | none =>
      cases ob with
      | none => exact ⟨h, rfl⟩
      | some b1 => exact h2.elim
    | some a1 =>
      cases ob with
      | none => exact h2.elim
      | some b1 =>
        refine (ih h2 ?_).bind fun ⟨a4, it⟩ ⟨b4, _⟩ ⟨h4, e⟩ => ⟨h4, congrArg (· + 1) e⟩
        rw [(sortStep_touches ha).toinitiate, (sortStep_touches hb).toinitiate, hta]

theorem writeRowsIf_rel {c : Prop} [Decidable c] (pns : List Nat) (h : ObsR p t0 ra rb a b) :
    RelE (ObsR p t0 ra rb) (if c then writeRows a pns else .ok a) (if c then writeRows b pns else .ok b) := by
  split
  · exact writeRows_rel pns h
  · exact h

theorem treatOutput_rel (h : ObsR p t0 ra rb a b) (hta : a.toinitiate = b.toinitiate) {j j' : Job}
    (hpk : j.picked.map (fun q => (q.ens, q.pn)) = j'.picked.map (fun q => (q.ens, q.pn)))
    (hpo : j.pnumOld = j'.pnumOld) (status : Status) (newW : List (List Rat)) (fuel : Nat) :
    RelE (RS p t0 ra rb) (treatOutput a j status newW fuel) (treatOutput b j' status newW fuel) := by
  have hlen : j.picked.length = j'.picked.length := by simpa using congrArg List.length hpk
  have hws : Frac.jobWs j status newW = Frac.jobWs j' status newW := by
    unfold Frac.jobWs
    rw [List.map_const', List.map_const', hlen]
  rw [treatOutput_bind, treatOutput_bind, hws, hlen, hpo, h.trajNum]
  split
  · exact rfl
  refine (perEns_rel status _ _ _ (by rw [← List.zip_map_left, ← List.zip_map_left, hpk]) h).bind_ok
    fun ⟨a1, tn, pns⟩ ⟨b1, _, _⟩ ha1 hb1 ⟨h2, rfl⟩ => ?_
  refine (recordFrac_rel h2).bind_ok fun a2 b2 ha2 hb2 h4 => ?_
  refine (writeRowsIf_rel _ h4).bind_ok fun a3 b3 ha3 hb3 h6 => ?_
  refine (sortTrajstate_rel fuel h6 ?_).bind fun ⟨a4, it⟩ ⟨b4, _⟩ ⟨h8, e⟩ =>
    ⟨{ h8 with trajNum := rfl }, congrArg (Prod.mk pns) e⟩
  -- none of the three calls before the sort writes `toinitiate`
  rw [(writeRowsIf_touches ha3).toinitiate, (recordFrac_touches ha2).toinitiate, (perEns_touches _ _ ha1).toinitiate,
    (writeRowsIf_touches hb3).toinitiate, (recordFrac_touches hb2).toinitiate, (perEns_touches _ _ hb1).toinitiate, hta]

theorem loop_rel (h : ObsR p t0 ra rb a b) : ObsR p t0 ra rb (loop a).1 (loop b).1 ∧ (loop a).2 = (loop b).2 := by
  unfold loop
  rw [h.cstep, h.tsteps]
  split
  · exact ⟨h, rfl⟩
  · exact ⟨{ h with cstep := rfl, tsteps := rfl }, rfl⟩


theorem prepTail_rel_strict {a1 b1 : St} (h : ObsR True t0 ra rb a1 b1)
    (ps : List Picked) (ds : List Draw) (pin? : Option Nat) :
    RelE (RS True t0 ra rb) (prepTail a1 ps ds pin?) (prepTail b1 ps ds pin?) :=
  (prepTail_rel (h.weaken (p := False)) ps ds pin? (fun pin _ names => by rw [h.occ trivial])).mono
    fun _ _ _ _ ⟨h2, ho, hta, htb, _, _, hj⟩ =>
      ⟨h2.strengthen (hta.trans (h.toinitiate trivial).1) (htb.trans (h.toinitiate trivial).2) ho, hj⟩

theorem prep_closed_rel (h : ObsR True t0 ra rb a b) (ht : t0 < 0) (prev : Option Nat) (o : PickOutcome) (sv : Nat) :
    RelE (RS True t0 ra rb) (prep a prev o sv) (prep b prev o sv) := by
  have hta : ¬ a.toinitiate ≥ 0 := by rw [(h.toinitiate trivial).1]; omega
  have htb : ¬ b.toinitiate ≥ 0 := by rw [(h.toinitiate trivial).2]; omega
  rw [prep_eq, prep_eq, pickPart, pickPart, if_neg hta, if_neg hta, if_neg htb, if_neg htb]
  exact (pick_rel h o).bind fun ⟨a1, ps, ds⟩ ⟨b1, _, _⟩ ⟨h2, rfl⟩ => prepTail_rel_strict h2 ps ds prev

theorem map_eraseIdx {α β : Type} (f : α → β) : ∀ (l : List α) (k : Nat), (l.eraseIdx k).map f = (l.map f).eraseIdx k
  | [], _ => rfl
  | _ :: _, 0 => rfl
  | x :: t, k + 1 => by simp only [List.eraseIdx_cons_succ, List.map_cons, map_eraseIdx f t k]

/-- the completion half of a `.step` on two systems whose jobs in flight agree position by position in `key`, a
    part of a job that determines what `treat_output` reads of it (`id`: the same jobs; `jobKey`: the same up to the
    worker) -/
theorem stepTreat_rel {κ : Type} (key : Job → κ)
    (hkey : ∀ j j', key j = key j' →
      j.picked.map (fun q => (q.ens, q.pn)) = j'.picked.map (fun q => (q.ens, q.pn)) ∧ j.pnumOld = j'.pnumOld)
    {x y : Sys} (hs : ObsR p t0 ra rb x.s y.s) (hti : x.s.toinitiate = y.s.toinitiate)
    (hj : x.jobs.map key = y.jobs.map key) (k : Nat) (st : Status) (w : List (List Rat)) :
    RelE (fun rx ry => ObsR p t0 ra rb rx.1 ry.1 ∧ key rx.2.1 = key ry.2.1 ∧ rx.2.2.map key = ry.2.2.map key)
      (stepTreat x k st w) (stepTreat y k st w) := by
  obtain ⟨hl, hgo⟩ := loop_rel hs
  have hk : (x.jobs[k]?).map key = (y.jobs[k]?).map key := by rw [← List.getElem?_map, ← List.getElem?_map, hj]
  rw [stepTreat_eq, stepTreat_eq, hgo, show sortFuel (loop x.s).1 = sortFuel (loop y.s).1 by unfold sortFuel; rw [hl.n]]
  split
  · exact rfl
  cases hx : x.jobs[k]? with
  | none =>
    cases hy : y.jobs[k]? with
    | none => exact rfl
    | some jy => rw [hx, hy] at hk; cases hk
  | some jx =>
    cases hy : y.jobs[k]? with
    | none => rw [hx, hy] at hk; cases hk
    | some jy =>
      rw [hx, hy] at hk
      have hjj : key jx = key jy := Option.some.inj hk
      obtain ⟨hpk, hpo⟩ := hkey _ _ hjj
      refine (treatOutput_rel hl (by rw [(loop_touches _).toinitiate, (loop_touches _).toinitiate, hti]) hpk hpo st w _).bind fun r r' h2 => ?_
      exact ⟨h2.1, hjj, by rw [map_eraseIdx, map_eraseIdx, hj]⟩

def RY (t0 : Int) (ra rb : List Row) (x y : Sys) : Prop := ObsR True t0 ra rb x.s y.s ∧ x.jobs = y.jobs

theorem stepPrep_rel {a2 b2 : St} (h2 : ObsR True t0 ra rb a2 b2) (ht : t0 < 0) (job : Job) (rest : List Job)
    (o : PickOutcome) : RelE (RY t0 ra rb) (stepPrep (a2, job, rest) o) (stepPrep (b2, job, rest) o) := by
  rw [stepPrep_eq, stepPrep_eq]
  dsimp only
  rw [h2.cstep, h2.workers, h2.tsteps]
  split
  · exact (prep_closed_rel h2 ht (some job.pin) o 0).bind fun ⟨a3, j3, _⟩ ⟨b3, _, _⟩ ⟨h4, rfl⟩ => ⟨h4, rfl⟩
  · exact ⟨h2, rfl⟩

theorem sysStep_step_rel {x y : Sys} (h : RY t0 ra rb x y) (ht : t0 < 0)
    (k : Nat) (status : Status) (newW : List (List Rat)) (o : PickOutcome) :
    RelE (RY t0 ra rb) (sysStep x (.step k status newW o)) (sysStep y (.step k status newW o)) := by
  obtain ⟨hs, hj⟩ := h
  rw [sysStep_step_eq, sysStep_step_eq]
  refine (stepTreat_rel id (fun j j' e => by cases (e : j = j'); exact ⟨rfl, rfl⟩) hs
    ((hs.toinitiate trivial).1.trans (hs.toinitiate trivial).2.symm) (by rw [hj]) k status newW).bind ?_
  rintro ⟨a2, ja, ja'⟩ ⟨b2, jb, jb'⟩ ⟨h2, hj1, hj2⟩
  obtain rfl : ja = jb := hj1
  obtain rfl : ja' = jb' := by simpa using hj2
  exact stepPrep_rel h2 ht ja ja' o

def StepsOnly : List Ev → Prop
  | [] => True
  | .step _ _ _ _ :: rest => StepsOnly rest
  | _ :: _ => False

theorem run_steps_rel : ∀ (evs : List Ev) {x y : Sys}, StepsOnly evs → RY t0 ra rb x y → t0 < 0 →
    RelE (RY t0 ra rb) (run x evs) (run y evs) := by
  intro evs
  induction evs with
  | nil => intro x y _ h _; exact h
  | cons ev rest ih =>
    intro x y hs h ht
    cases ev with
    | start o sv => exact hs.elim
    | initDone => exact hs.elim
    | step k st w o =>
      rw [run_cons_eq, run_cons_eq]
      exact (sysStep_step_rel h ht k st w o).bind fun x' y' h2 => ih hs h2 ht

end Infretis.Repex
