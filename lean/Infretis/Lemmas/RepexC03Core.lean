import Infretis.Lemmas.PermEmbed
import Infretis.Lemmas.RepexReissue
import Infretis.Lemmas.ListAux
/-!
# C03 — the slot / lock invariant of the replica-exchange state and its preservation

`CoreR s H tn`: in state `s` exactly the slots listed in `H : List (slot × path number)` (plus the
ghost) are locked, each listed slot holds the listed path with a non-zero diagonal weight, every
non-ghost slot holds a path number `< tn`, distinct slots hold distinct paths, and — as long as
`toinitiate ≥ 0` — the jobs recorded in `locked0` (in flight when the run was stopped, re-issued one
by one by `pick_lock`) are reserved (`Resv`): each recorded (slot, path) sits idle in its slot with a
non-zero own-ensemble weight, recorded slots are pairwise distinct, and a record is one ensemble or
exactly `[0-],[0+]`.  Once `toinitiate < 0` nothing is re-issued any more and leftover records carry
no obligation.  `Core` is the case of a fresh start: `locked0 = []`.
Preservation is proved per operation for `CoreR` and read off for `Core`.  For the re-issue of a record it is a fact
about the invariant alone: locking the slots of the record taken off `locked0` (`Popped`) keeps it, and by
`Reissue.inplace` that is all the loop does.
-/
namespace Infretis.Repex
open Infretis.Perm

theorem entryM_eq_entry (P : Mat) (i j : Nat) : entryM P i j = entry P i j := rfl

theorem entryM_congr (W W' : Mat) (i j : Nat) (h : W'[i]? = W[i]?) : entryM W' i j = entryM W i j := by
  simp only [entryM, List.getD_eq_getElem?_getD, h]

theorem col_getD (P : Mat) (i j : Nat) :
    (P.map (fun r => r.getD j 0)).getD i 0 = entryM P i j := by
  unfold entryM
  rw [List.getD_eq_getElem?_getD, List.getD_eq_getElem?_getD (l := P), List.getElem?_map]
  cases P[i]? <;> simp

/-- slot of a picked ensemble: `ens_num + offset` -/
def slotOf (p : Picked) : Nat := (p.ens + 1).toNat

/-- what a job holds: (slot, path number) per picked ensemble -/
def heldJob (j : Job) : List (Nat × Nat) := j.picked.map (fun p => (slotOf p, p.pn))

/-- everything held by the jobs in flight -/
def held (jobs : List Job) : List (Nat × Nat) := jobs.flatMap heldJob

theorem mem_held {jobs : List Job} {j : Job} {p : Picked} (hj : j ∈ jobs) (hp : p ∈ j.picked) :
    (slotOf p, p.pn) ∈ held jobs :=
  List.mem_flatMap.mpr ⟨j, hj, List.mem_map.mpr ⟨p, hp, rfl⟩⟩

structure Core (s : St) (H : List (Nat × Nat)) (tn : Nat) : Prop where
  n2 : 2 ≤ s.n
  lenW : s.W.length = s.n
  lenT : s.trajs.length = s.n
  lenL : s.locks.length = s.n
  ghost : s.locks[s.n - 1]? = some true
  busy : ∀ e, e < s.n - 1 → (s.locks[e]? = some true ↔ e ∈ H.map Prod.fst)
  nodup : (H.map Prod.fst).Nodup
  heldOk : ∀ e pn, (e, pn) ∈ H → e < s.n - 1 ∧ s.trajs[e]? = some (some pn) ∧ entryM s.W e e ≠ 0
  live : ∀ e, e < s.n - 1 → ∃ pn, s.trajs[e]? = some (some pn) ∧ pn < tn
  inj : ∀ a b pn, a < s.n - 1 → b < s.n - 1 →
    s.trajs[a]? = some (some pn) → s.trajs[b]? = some (some pn) → a = b
  l0 : s.locked0 = []

/-- equality of the fields `Core` does not talk about but the scheduler invariant needs -/
structure AuxEq (s s' : St) : Prop where
  n : s'.n = s.n
  toinitiate : s'.toinitiate = s.toinitiate
  workers : s'.workers = s.workers
  cworker : s'.cworker = s.cworker
  occ : s'.occ = s.occ
  ensEng : s'.ensEng = s.ensEng
  trajNum : s'.trajNum = s.trajNum
  cstep : s'.cstep = s.cstep
  tsteps : s'.tsteps = s.tsteps

/-- the (slot, path) pairs recorded in `locked0` -/
def held0 (l0 : List (List Nat × List Nat)) : List (Nat × Nat) := l0.flatMap (fun en => en.1.zip en.2)

theorem held0_cons (hd : List Nat × List Nat) (rest : List (List Nat × List Nat)) :
    held0 (hd :: rest) = hd.1.zip hd.2 ++ held0 rest := by simp [held0]

structure Resv (s : St) : Prop where
  shape : ∀ en ∈ s.locked0, en.1.length = en.2.length ∧ (en.1.length = 1 ∨ en.1 = [0, 1])
  nodup : ((held0 s.locked0).map Prod.fst).Nodup
  ok : ∀ e pn, (e, pn) ∈ held0 s.locked0 →
    s.locks[e]? = some false ∧ s.trajs[e]? = some (some pn) ∧ entryM s.W e e ≠ 0

theorem Resv.ofNil {s : St} (h : s.locked0 = []) : Resv s := by
  constructor
  · rw [h]; simp
  · rw [h]; simp [held0]
  · rw [h]; simp [held0]

theorem Resv.congr {s s' : St} (h : Resv s) (h0 : s'.locked0 = s.locked0) (hL : s'.locks = s.locks)
    (hT : s'.trajs = s.trajs) (hW : s'.W = s.W) : Resv s' := by
  constructor
  · rw [h0]; exact h.shape
  · rw [h0]; exact h.nodup
  · rw [h0, hL, hT, hW]; exact h.ok

theorem Resv.ofFresh {s s' : St} (hfresh : s.toinitiate < 0 ∨ s.locked0 = [])
    (hto : s'.toinitiate = s.toinitiate) (h0 : s'.locked0 = s.locked0) :
    0 ≤ s'.toinitiate → Resv s' := by
  intro h
  rcases hfresh with hf | hf
  · rw [hto] at h; omega
  · exact Resv.ofNil (by rw [h0]; exact hf)

/-- a change confined to a LOCKED slot leaves the reserved (idle) slots alone -/
theorem Resv.touchLocked {s s' : St} (h : Resv s) (e : Nat) (hl : s.locks[e]? = some true)
    (h0 : s'.locked0 = s.locked0) (hL : ∀ a, a ≠ e → s'.locks[a]? = s.locks[a]?)
    (hT : ∀ a, a ≠ e → s'.trajs[a]? = s.trajs[a]?) (hW : ∀ a, a ≠ e → s'.W[a]? = s.W[a]?) : Resv s' := by
  constructor
  · rw [h0]; exact h.shape
  · rw [h0]; exact h.nodup
  · rw [h0]
    intro a pn hm
    obtain ⟨h1, h2, h3⟩ := h.ok a pn hm
    have hne : a ≠ e := by
      intro heq; rw [heq, hl] at h1; exact absurd h1 (by simp)
    rw [hL a hne, hT a hne, entryM_congr _ _ _ _ (hW a hne)]
    exact ⟨h1, h2, h3⟩

/-- releasing a locked slot does not touch the reserved ones (they are idle) -/
theorem Resv.unlock {s s' : St} (h : Resv s) (e : Nat) (hl : s.locks[e]? = some true) {x : Option Nat}
    {v : List Rat} (h0 : s'.locked0 = s.locked0) (hL : s'.locks = s.locks.set e false)
    (hT : s'.trajs = s.trajs.set e x) (hW : s'.W = s.W.set e v) : Resv s' :=
  h.touchLocked e hl h0 (fun a ha => by rw [hL, List.getElem?_set_ne ha.symm])
    (fun a ha => by rw [hT, List.getElem?_set_ne ha.symm])
    (fun a ha => by rw [hW, List.getElem?_set_ne ha.symm])

theorem Resv.lockOther {s s' : St} (h : Resv s) (e : Nat)
    (hne : e ∉ (held0 s.locked0).map Prod.fst) (h0 : s'.locked0 = s.locked0)
    (hL : s'.locks = s.locks.set e true) (hT : s'.trajs = s.trajs) (hW : s'.W = s.W) : Resv s' := by
  constructor
  · rw [h0]; exact h.shape
  · rw [h0]; exact h.nodup
  · rw [h0]
    intro a pn hm
    obtain ⟨h1, h2, h3⟩ := h.ok a pn hm
    have hea : e ≠ a := by
      intro heq
      exact hne (List.mem_map.mpr ⟨(a, pn), hm, heq.symm⟩)
    rw [hL, hT, hW, List.getElem?_set_ne hea]
    exact ⟨h1, h2, h3⟩

structure CoreR (s : St) (H : List (Nat × Nat)) (tn : Nat) : Prop where
  n2 : 2 ≤ s.n
  lenW : s.W.length = s.n
  lenT : s.trajs.length = s.n
  lenL : s.locks.length = s.n
  ghost : s.locks[s.n - 1]? = some true
  busy : ∀ e, e < s.n - 1 → (s.locks[e]? = some true ↔ e ∈ H.map Prod.fst)
  nodup : (H.map Prod.fst).Nodup
  heldOk : ∀ e pn, (e, pn) ∈ H → e < s.n - 1 ∧ s.trajs[e]? = some (some pn) ∧ entryM s.W e e ≠ 0
  live : ∀ e, e < s.n - 1 → ∃ pn, s.trajs[e]? = some (some pn) ∧ pn < tn
  inj : ∀ a b pn, a < s.n - 1 → b < s.n - 1 →
    s.trajs[a]? = some (some pn) → s.trajs[b]? = some (some pn) → a = b
  resv : 0 ≤ s.toinitiate → Resv s

/-- equality of the fields `CoreR` does not talk about but the scheduler invariant needs -/
structure AuxEqR (s s' : St) : Prop where
  n : s'.n = s.n
  toinitiate : s'.toinitiate = s.toinitiate
  workers : s'.workers = s.workers
  cworker : s'.cworker = s.cworker
  occ : s'.occ = s.occ
  ensEng : s'.ensEng = s.ensEng
  trajNum : s'.trajNum = s.trajNum
  cstep : s'.cstep = s.cstep
  tsteps : s'.tsteps = s.tsteps
  locked0 : s'.locked0 = s.locked0

structure CoreEqR (s s' : St) : Prop where
  n : s'.n = s.n
  W : s'.W = s.W
  trajs : s'.trajs = s.trajs
  locks : s'.locks = s.locks
  locked0 : s'.locked0 = s.locked0
  toinitiate : s'.toinitiate = s.toinitiate

theorem Core.coreR {s : St} {H : List (Nat × Nat)} {tn : Nat} (h : Core s H tn) : CoreR s H tn :=
  ⟨h.n2, h.lenW, h.lenT, h.lenL, h.ghost, h.busy, h.nodup, h.heldOk, h.live, h.inj,
    fun _ => Resv.ofNil h.l0⟩

theorem CoreR.core {s : St} {H : List (Nat × Nat)} {tn : Nat} (h : CoreR s H tn)
    (h0 : s.locked0 = []) : Core s H tn :=
  ⟨h.n2, h.lenW, h.lenT, h.lenL, h.ghost, h.busy, h.nodup, h.heldOk, h.live, h.inj, h0⟩

/-- `CoreR` only reads `n`, `W`, `trajs`, `locks` and, through `Resv`, `toinitiate` and `locked0` -/
theorem CoreR.transfer {s s' : St} {H : List (Nat × Nat)} {tn : Nat} (h : CoreR s H tn)
    (h1 : s'.n = s.n) (h2 : s'.W = s.W) (h3 : s'.trajs = s.trajs) (h4 : s'.locks = s.locks)
    (hres : 0 ≤ s'.toinitiate → Resv s') : CoreR s' H tn := by
  constructor
  · rw [h1]; exact h.n2
  · rw [h1, h2]; exact h.lenW
  · rw [h1, h3]; exact h.lenT
  · rw [h1, h4]; exact h.lenL
  · rw [h1, h4]; exact h.ghost
  · rw [h1, h4]; exact h.busy
  · exact h.nodup
  · rw [h1, h2, h3]; exact h.heldOk
  · rw [h1, h3]; exact h.live
  · rw [h1, h3]; exact h.inj
  · exact hres

/-- `CoreR` survives a change of `toinitiate` that can only switch the re-issue obligation off -/
theorem CoreR.congrTo {s s' : St} {H : List (Nat × Nat)} {tn : Nat} (h : CoreR s H tn)
    (h1 : s'.n = s.n) (h2 : s'.W = s.W) (h3 : s'.trajs = s.trajs) (h4 : s'.locks = s.locks)
    (h5 : s'.locked0 = s.locked0) (hto : 0 ≤ s'.toinitiate → 0 ≤ s.toinitiate) : CoreR s' H tn :=
  h.transfer h1 h2 h3 h4 (fun h0 => (h.resv (hto h0)).congr h5 h4 h3 h2)

theorem CoreR.frame {s s' : St} {H : List (Nat × Nat)} {tn : Nat} {fs : List Fld} (h : CoreR s H tn)
    (t : Touches fs s s') (hd : ∀ f ∈ [Fld.n, .W, .trajs, .locks, .locked0, .toinitiate], f ∉ fs := by decide) :
    CoreR s' H tn :=
  have e := t.keeps hd
  h.congrTo e.n e.W e.trajs e.locks e.locked0 (by rw [e.toinitiate]; exact id)

theorem Core.frame {s s' : St} {H : List (Nat × Nat)} {tn : Nat} {fs : List Fld} (h : Core s H tn)
    (t : Touches fs s s') (hd : ∀ f ∈ [Fld.n, .W, .trajs, .locks, .locked0], f ∉ fs := by decide) :
    Core s' H tn :=
  have e := t.keeps hd
  (h.coreR.transfer e.n e.W e.trajs e.locks (fun _ => Resv.ofNil (e.locked0.trans h.l0))).core
    (e.locked0.trans h.l0)

theorem CoreR.perm {s : St} {H H' : List (Nat × Nat)} {tn : Nat} (h : CoreR s H tn)
    (hp : H.Perm H') : CoreR s H' tn :=
  { h with
    busy := fun e he => (h.busy e he).trans (hp.map Prod.fst).mem_iff
    nodup := (hp.map Prod.fst).nodup_iff.mp h.nodup
    heldOk := fun e pn hm => h.heldOk e pn (hp.mem_iff.mpr hm) }

theorem CoreR.mono {s : St} {H : List (Nat × Nat)} {tn tn' : Nat} (h : CoreR s H tn)
    (hle : tn ≤ tn') : CoreR s H tn' :=
  { h with
    live := fun e he => by
      obtain ⟨pn, h1, h2⟩ := h.live e he
      exact ⟨pn, h1, by omega⟩ }

theorem CoreR.unlocked_lt {s : St} {H : List (Nat × Nat)} {tn : Nat} (h : CoreR s H tn) (e : Nat)
    (he : s.locks[e]? = some false) : e < s.n - 1 := by
  have h1 := getElem?_lt_of_some he
  rw [h.lenL] at h1
  have h2 := h.ghost
  by_cases heq : e = s.n - 1
  · rw [heq, h2] at he; exact absurd he (by simp)
  · omega

theorem CoreR.held_locked {s : St} {H : List (Nat × Nat)} {tn : Nat} (h : CoreR s H tn) (e pn : Nat)
    (hm : (e, pn) ∈ H) : s.locks[e]? = some true :=
  (h.busy e (h.heldOk e pn hm).1).mpr (List.mem_map.mpr ⟨(e, pn), hm, rfl⟩)

theorem Core.perm {s : St} {H H' : List (Nat × Nat)} {tn : Nat} (h : Core s H tn)
    (hp : H.Perm H') : Core s H' tn :=
  (h.coreR.perm hp).core h.l0

theorem Core.mono {s : St} {H : List (Nat × Nat)} {tn tn' : Nat} (h : Core s H tn)
    (hle : tn ≤ tn') : Core s H tn' :=
  (h.coreR.mono hle).core h.l0

theorem CoreR.uniqLive {s : St} {H : List (Nat × Nat)} {tn : Nat} (h : CoreR s H tn) : UniqLive s.trajs := by
  intro i j q hi hj
  rw [List.getElem?_dropLast] at hi hj
  split at hi
  · split at hj
    · rename_i h1 h2
      rw [h.lenT] at h1 h2
      exact h.inj i j q h1 h2 hi hj
    · exact absurd hj (by simp)
  · exact absurd hi (by simp)

theorem swap_coreR {s : St} {H : List (Nat × Nat)} {tn : Nat} (h : CoreR s H tn) (i j : Nat)
    (hi : s.locks[i]? = some false) (hj : s.locks[j]? = some false)
    (hfresh : s.toinitiate < 0 ∨ s.locked0 = []) :
    CoreR (swap s i j) H tn := by
  -- a swap of idle slots could move a reserved path out of its recorded slot (`Resv.ok`); `hfresh` says nothing is
  -- reserved: `pick` runs once `toinitiate < 0`, and `pick_lock` picks afresh only once `locked0 = []`
  have hi' := h.unlocked_lt i hi
  have hj' := h.unlocked_lt j hj
  have hT : ∀ k, (swap s i j).trajs[k]? = s.trajs[swapIdx i j k]? := fun k =>
    swapList_get s.trajs i j k (by rw [h.lenT]; omega) (by rw [h.lenT]; omega)
  have hW : ∀ k, (swap s i j).W[k]? = s.W[swapIdx i j k]? := fun k =>
    swapList_get s.W i j k (by rw [h.lenW]; omega) (by rw [h.lenW]; omega)
  refine { h with lenW := (swapList_length ..).trans h.lenW, lenT := (swapList_length ..).trans h.lenT,
                  heldOk := fun e pn hm => ?_, live := fun e he => ?_, inj := fun a b pn ha hb h1 h2 => ?_,
                  resv := fun h0 => ?_ }
  · -- a held slot is locked, hence neither `i` nor `j`
    have hl := h.held_locked e pn hm
    have hte : swapIdx i j e = e :=
      swapIdx_of_ne (fun heq => by rw [heq, hi] at hl; cases hl) (fun heq => by rw [heq, hj] at hl; cases hl)
    have hTe := hT e
    have hWe := hW e
    rw [hte] at hTe hWe
    rw [hTe, entryM_congr _ _ _ _ hWe]
    exact h.heldOk e pn hm
  · rw [hT e]; exact h.live _ (swapIdx_lt hi' hj' he)
  · rw [hT] at h1 h2
    exact swapIdx_inj (h.inj _ _ pn (swapIdx_lt hi' hj' ha) (swapIdx_lt hi' hj' hb) h1 h2)
  · rcases hfresh with hf | hf
    · exact absurd h0 (by show ¬ (0 ≤ s.toinitiate); omega)
    · exact Resv.ofNil hf


theorem lock_coreR {s : St} {H : List (Nat × Nat)} {tn : Nat} (h : CoreR s H tn) (e pn : Nat)
    (he : s.locks[e]? = some false) (hp : s.trajs[e]? = some (some pn)) (hw : entryM s.W e e ≠ 0)
    (hres : 0 ≤ s.toinitiate → Resv { s with locks := s.locks.set e true }) :
    CoreR { s with locks := s.locks.set e true } ((e, pn) :: H) tn := by
  have he' := h.unlocked_lt e he
  have heL : e < s.locks.length := by rw [h.lenL]; omega
  have hnot : e ∉ H.map Prod.fst := fun hm => by
    have := (h.busy e he').mpr hm
    rw [he] at this; exact absurd this (by simp)
  refine { h with lenL := ?_, ghost := ?_, busy := fun x hx => ?_, nodup := ?_, heldOk := fun x q hm => ?_, resv := hres }
  · rw [List.length_set]; exact h.lenL
  · exact (List.getElem?_set_ne (Nat.ne_of_lt he')).trans h.ghost
  · by_cases hxe : x = e
    · subst hxe
      rw [List.getElem?_set_self heL]
      simp
    · rw [List.getElem?_set_ne (fun h => hxe h.symm), h.busy x hx]
      simp [hxe]
  · simp only [List.map_cons, List.nodup_cons]
    exact ⟨hnot, h.nodup⟩
  · rcases List.mem_cons.mp hm with hm | hm
    · obtain ⟨rfl, rfl⟩ := Prod.mk.inj hm
      exact ⟨he', hp, hw⟩
    · exact h.heldOk x q hm


/-- what is written into a LOCKED slot does not reach the reserved (idle) ones -/
theorem CoreR.resv_held {s s' : St} {H : List (Nat × Nat)} {tn e pn : Nat} (h : CoreR s ((e, pn) :: H) tn)
    (h0 : s'.locked0 = s.locked0) (hto : s'.toinitiate = s.toinitiate)
    (hL : ∀ a, a ≠ e → s'.locks[a]? = s.locks[a]?) (hT : ∀ a, a ≠ e → s'.trajs[a]? = s.trajs[a]?)
    (hW : ∀ a, a ≠ e → s'.W[a]? = s.W[a]?) : 0 ≤ s'.toinitiate → Resv s' := fun h00 =>
  (h.resv (hto ▸ h00)).touchLocked e (h.held_locked e pn (List.mem_cons_self ..)) h0 hL hT hW

/-- after `self._trajs[ens] = traj`: the slot is still locked and now holds the new path -/
theorem setTraj_coreR {s : St} {H : List (Nat × Nat)} {tn tn' : Nat} (e pnOld pn : Nat)
    (h : CoreR s ((e, pnOld) :: H) tn)
    (hfresh : ∀ b, b < s.n - 1 → b ≠ e → s.trajs[b]? ≠ some (some pn))
    (hpn : pn < tn') (hle : tn ≤ tn') :
    CoreR { s with trajs := s.trajs.set e (some pn) } ((e, pn) :: H) tn' := by
  have he' : e < s.n - 1 := (h.heldOk e pnOld (List.mem_cons_self ..)).1
  have heT : e < s.trajs.length := by rw [h.lenT]; omega
  have hnd := h.nodup
  simp only [List.map_cons, List.nodup_cons] at hnd
  have hget : ∀ a, a ≠ e → (s.trajs.set e (some pn))[a]? = s.trajs[a]? :=
    fun a ha => List.getElem?_set_ne ha.symm
  refine { h with lenT := ?_, busy := fun x hx => ?_, nodup := ?_, heldOk := fun x q hm => ?_, live := fun x hx => ?_,
                  inj := fun a b q ha hb h1 h2 => ?_,
                  resv := h.resv_held rfl rfl (fun _ _ => rfl) hget (fun _ _ => rfl) }
  · rw [List.length_set]; exact h.lenT
  · rw [h.busy x hx]; simp
  · simpa using hnd
  · rcases List.mem_cons.mp hm with hm1 | hm2
    · obtain ⟨rfl, rfl⟩ := Prod.mk.inj hm1
      exact ⟨he', List.getElem?_set_self heT, (h.heldOk x pnOld (List.mem_cons_self ..)).2.2⟩
    · have hxe : x ≠ e := fun heq => hnd.1 (List.mem_map.mpr ⟨(x, q), hm2, heq⟩)
      obtain ⟨h1, h2, h3⟩ := h.heldOk x q (List.mem_cons_of_mem _ hm2)
      exact ⟨h1, (hget x hxe).trans h2, h3⟩
  · by_cases hxe : x = e
    · subst hxe
      exact ⟨pn, List.getElem?_set_self heT, hpn⟩
    · obtain ⟨q, h1, h2⟩ := h.live x hx
      exact ⟨q, (hget x hxe).trans h1, by omega⟩
  · -- a slot other than `e` holds an old path, and the new one is fresh
    have key : ∀ a b, a = e → b ≠ e → b < s.n - 1 → (s.trajs.set e (some pn))[a]? = some (some q) →
        s.trajs[b]? = some (some q) → False := fun a b hae hbe hb h1 h2 => by
      rw [hae, List.getElem?_set_self heT] at h1
      obtain rfl : pn = q := by simpa using h1
      exact hfresh b hb hbe h2
    by_cases hae : a = e <;> by_cases hbe : b = e
    · rw [hae, hbe]
    · exact (key a b hae hbe hb h1 ((hget b hbe).symm.trans h2)).elim
    · exact (key b a hbe hae ha h2 ((hget a hae).symm.trans h1)).elim
    · exact h.inj a b q ha hb ((hget a hae).symm.trans h1) ((hget b hbe).symm.trans h2)

theorem entryM_set_self' (W : Mat) (e : Nat) (v : List Rat) (he : e < W.length) :
    entryM (W.set e v) e e = v.getD e 0 := by
  simp only [entryM, List.getD_eq_getElem?_getD, List.getElem?_set_self he]
  rfl

/-- after `self.state[ens, :] = valid` (the new row has a non-zero own-ensemble weight: the assert) -/
theorem setRow_coreR {s : St} {H : List (Nat × Nat)} {tn : Nat} (e pn : Nat) (v : List Rat)
    (h : CoreR s ((e, pn) :: H) tn) (hv : v.getD e 0 ≠ 0) :
    CoreR { s with W := s.W.set e v } ((e, pn) :: H) tn := by
  have he' : e < s.n - 1 := (h.heldOk e pn (List.mem_cons_self ..)).1
  have heW : e < s.W.length := by rw [h.lenW]; omega
  refine { h with lenW := ?_, heldOk := fun x q hm => ?_,
                  resv := h.resv_held rfl rfl (fun _ _ => rfl) (fun _ _ => rfl) (fun a ha => List.getElem?_set_ne ha.symm) }
  · rw [List.length_set]; exact h.lenW
  · obtain ⟨h1, h2, h3⟩ := h.heldOk x q hm
    refine ⟨h1, h2, ?_⟩
    by_cases hxe : x = e
    · subst hxe
      rw [entryM_set_self' _ _ _ heW]; exact hv
    · rw [entryM_congr _ _ _ _ (List.getElem?_set_ne (fun h => hxe h.symm))]; exact h3

/-- after `self.unlock(ens)`: the slot is idle and no longer held -/
theorem release_coreR {s : St} {H : List (Nat × Nat)} {tn : Nat} (e pn : Nat) (h : CoreR s ((e, pn) :: H) tn) :
    CoreR { s with locks := s.locks.set e false } H tn := by
  have he' : e < s.n - 1 := (h.heldOk e pn (List.mem_cons_self ..)).1
  have heL : e < s.locks.length := by rw [h.lenL]; omega
  have hnd := h.nodup
  simp only [List.map_cons, List.nodup_cons] at hnd
  refine { h with lenL := ?_, ghost := ?_, busy := fun x hx => ?_, nodup := hnd.2,
                  heldOk := fun x q hm => h.heldOk x q (List.mem_cons_of_mem _ hm),
                  resv := h.resv_held rfl rfl (fun a ha => List.getElem?_set_ne ha.symm) (fun _ _ => rfl) (fun _ _ => rfl) }
  · rw [List.length_set]; exact h.lenL
  · exact (List.getElem?_set_ne (Nat.ne_of_lt he')).trans h.ghost
  · by_cases hxe : x = e
    · subst hxe
      rw [List.getElem?_set_self heL]
      simp only [Option.some.injEq, Bool.false_eq_true, false_iff]
      exact hnd.1
    · rw [List.getElem?_set_ne (fun h => hxe h.symm), h.busy x hx]
      simp [hxe]

theorem addTrajWrites_coreR {s : St} {H : List (Nat × Nat)} {tn tn' : Nat} (e pnOld pn : Nat) (v : List Rat)
    (h : CoreR s ((e, pnOld) :: H) tn) (hv : v.getD e 0 ≠ 0)
    (hfresh : ∀ b, b < s.n - 1 → b ≠ e → s.trajs[b]? ≠ some (some pn)) (hpn : pn < tn') (hle : tn ≤ tn') :
    CoreR { s with trajs := s.trajs.set e (some pn), W := s.W.set e v, locks := s.locks.set e false } H tn' :=
  release_coreR e pn (setRow_coreR e pn v (setTraj_coreR e pnOld pn h hfresh hpn hle) hv)

theorem prob_posR {s : St} {H : List (Nat × Nat)} {tn : Nat} (h : CoreR s H tn) (t e : Nat)
    (hpos : 0 < entryM (prob s) t e) :
    s.locks[t]? = some false ∧ s.locks[e]? = some false ∧ entryM s.W t e ≠ 0 := by
  have hW : s.W.length = s.locks.length := by rw [h.lenW, h.lenL]
  exact probMatrix_ne_zero s.W s.locks hW t e (ne_of_gt hpos)


/-- the elementary step of `pick`: a positive-probability `(t, e)`, `swap(t, e)`, `lock(e)` -/
theorem lockStep_coreR {s s2 : St} {H : List (Nat × Nat)} {tn : Nat} (h : CoreR s H tn) (t e : Nat)
    (hpos : 0 < entryM (prob s) t e) (hl : lock (swap s t e) e = .ok s2)
    (hfresh : s.toinitiate < 0 ∨ s.locked0 = []) :
    ∃ pn, s2.trajs.getD e none = some pn ∧ CoreR s2 ((e, pn) :: H) tn ∧
      s.locks[t]? = some false ∧ s.locks[e]? = some false ∧ s2.locks = s.locks.set e true := by
  obtain ⟨ht, he, hw⟩ := prob_posR h t e hpos
  have hc := swap_coreR h t e ht he hfresh
  obtain ⟨_, hs2⟩ := lock_ok hl
  have ht' := h.unlocked_lt t ht
  have he' := h.unlocked_lt e he
  have htT : t < s.trajs.length := by rw [h.lenT]; omega
  have heT : e < s.trajs.length := by rw [h.lenT]; omega
  have htW : t < s.W.length := by rw [h.lenW]; omega
  have heW : e < s.W.length := by rw [h.lenW]; omega
  obtain ⟨pn, hpn, _⟩ := h.live t ht'
  have hTe : (swap s t e).trajs[e]? = some (some pn) := by
    show (swapList s.trajs t e)[e]? = _
    rw [swapList_get _ _ _ _ htT heT, swapIdx_right]; exact hpn
  have hWe : (swap s t e).W[e]? = s.W[t]? := by
    show (swapList s.W t e)[e]? = _
    rw [swapList_get _ _ _ _ htW heW, swapIdx_right]
  have hwe : entryM (swap s t e).W e e ≠ 0 := by
    have : entryM (swap s t e).W e e = entryM s.W t e := by
      simp only [entryM, List.getD_eq_getElem?_getD, hWe]
    rw [this]; exact hw
  subst hs2
  refine ⟨pn, ?_, ?_, ht, he, rfl⟩
  · show (swap s t e).trajs.getD e none = some pn
    rw [List.getD_eq_getElem?_getD, hTe]; rfl
  · exact lock_coreR hc e pn he hTe hwe (fun h0 => Resv.ofFresh hfresh rfl rfl h0)

theorem lockStep_core {s s2 : St} {H : List (Nat × Nat)} {tn : Nat} (h : Core s H tn) (t e : Nat)
    (hpos : 0 < entryM (prob s) t e) (hl : lock (swap s t e) e = .ok s2) :
    ∃ pn, s2.trajs.getD e none = some pn ∧ Core s2 ((e, pn) :: H) tn ∧
      s.locks[t]? = some false ∧ s.locks[e]? = some false ∧ s2.locks = s.locks.set e true := by
  obtain ⟨pn, h1, h2, h4, h5, h6⟩ := lockStep_coreR h.coreR t e hpos hl (Or.inr h.l0)
  exact ⟨pn, h1, h2.core ((lockStep_touches hl).locked0.trans h.l0), h4, h5, h6⟩

/-- (ens_num, path) pairs as the model's `pick` returns them -/
def pairsOf (L : List (Int × Nat)) : List (Int × Option Nat) := L.map (fun x => (x.1, some x.2))

/-- (slot, path) entries of a list of (ens_num, path) -/
def slotsOf (L : List (Int × Nat)) : List (Nat × Nat) := L.map (fun x => ((x.1 + 1).toNat, x.2))

/-- **`pick()` without the bookkeeping.**  The result holds one ensemble, or exactly `[0-]` and
    `[0+]`; the latter only if both were idle before the pick. -/
theorem pickCore_coreR {s s' : St} {H : List (Nat × Nat)} {tn : Nat} (h : CoreR s H tn) (o : PickOutcome)
    (pairs : List (Int × Option Nat)) (ds : List Draw) (hp : pickCore s o = .ok (s', pairs, ds))
    (hfresh : s.toinitiate < 0 ∨ s.locked0 = []) :
    ∃ L : List (Int × Nat), pairs = pairsOf L ∧ CoreR s' (slotsOf L ++ H) tn ∧
      (L.length = 1 ∨ (L.map Prod.fst = [-1, 0] ∧
        s.locks[0]? = some false ∧ s.locks[1]? = some false)) ∧ (∀ x ∈ L, -1 ≤ x.1) := by
  obtain ⟨hpos, s2, hl, hcase⟩ := pickCore_parts hp
  obtain ⟨pn, hpn, hc2, hlt, hle, hL2⟩ := lockStep_coreR h o.t o.e hpos hl hfresh
  have ha2 := lockStep_touches hl
  rcases hcase with ⟨hzs, _, hpos2, s4, hl4, rfl, rfl, _⟩ | ⟨_, rfl, rfl, _⟩
  · -- zero swap: the same elementary step again, for the other one of slots 0 and 1
    rw [col_getD] at hpos2
    have hfresh2 : s2.toinitiate < 0 ∨ s2.locked0 = [] := by
      rw [ha2.toinitiate, ha2.locked0]; exact hfresh
    obtain ⟨pn2, hpn2, hc4, _, hlo, _⟩ := lockStep_coreR hc2 _ _ hpos2 hl4 hfresh2
    rw [hpn, hpn2]
    rw [hL2] at hlo
    rcases zsPossible_cases hzs with ⟨he, hoth, _⟩ | ⟨he, hoth, _⟩
    · rw [hoth] at hc4 hlo
      rw [he] at hc4 hlo hle
      rw [List.getElem?_set_ne (by decide)] at hlo
      exact ⟨[(-1, pn2), (0, pn)], by simp [he, off, pairsOf], by simpa [slotsOf] using hc4,
        Or.inr ⟨rfl, hlo, hle⟩, by simp⟩
    · rw [hoth] at hc4 hlo
      rw [he] at hc4 hlo hle
      rw [List.getElem?_set_ne (by decide)] at hlo
      exact ⟨[(-1, pn), (0, pn2)], by simp [he, off, pairsOf],
        by simpa [slotsOf] using hc4.perm (List.Perm.swap _ _ _), Or.inr ⟨rfl, hle, hlo⟩, by simp⟩
  · rw [hpn]
    refine ⟨[((o.e : Int) - (off : Int), pn)], rfl, ?_, Or.inl rfl, by simp [off]⟩
    have : slotsOf [((o.e : Int) - (off : Int), pn)] = [(o.e, pn)] := by
      simp [slotsOf, off]
    rw [this]
    exact hc2

/-- (slot, path) entries of a list of picked ensembles -/
def heldPicked (ps : List Picked) : List (Nat × Nat) := ps.map (fun p => (slotOf p, p.pn))

theorem heldPicked_zip {job : Job} {ws : List (List Rat)} (h : ws.length = job.picked.length) :
    heldPicked ((job.picked.zip ws).map Prod.fst) = heldJob job := by
  rw [List.map_fst_zip (by omega)]
  rfl

theorem mkPicked_go_spec (child : Stream) (L : List (Int × Nat)) (j : Nat) (ps : List Picked)
    (h : mkPicked.go child j (pairsOf L) = .ok ps) :
    ps.map (fun p => (p.ens, p.pn)) = L ∧ ∀ p ∈ ps, p.engIdx = [] := by
  obtain rfl := mkPickedGo_some.mp h
  refine ⟨pickedAt_keys child L j, fun p hp => ?_⟩
  obtain ⟨xi, _, rfl⟩ := List.mem_map.mp hp
  rfl

theorem heldPicked_of_map (ps : List Picked) (L : List (Int × Nat))
    (h : ps.map (fun p => (p.ens, p.pn)) = L) : heldPicked ps = slotsOf L := by
  subst h
  simp [heldPicked, slotsOf, slotOf]

/-- the shape of a job and the zero-swap precondition, as a predicate on the picked list and the
    locks *before* the pick -/
def PickShape (locksBefore : List Bool) (ps : List Picked) : Prop :=
  ps.length = 1 ∨ (ps.map (·.ens) = [-1, 0] ∧
    locksBefore[0]? = some false ∧ locksBefore[1]? = some false)

/-- what a successful `pick()` / `pick_lock()` establishes: the picked slots are locked and held, the job
    has the shape of one ensemble or of `[0-]`, `[0+]`, and it goes on record -/
structure PickSpecR (s s' : St) (H : List (Nat × Nat)) (tn : Nat) (ps : List Picked) : Prop where
  core : CoreR s' (heldPicked ps ++ H) tn
  engIdx : ∀ p ∈ ps, p.engIdx = []
  shape : PickShape s.locks ps
  ensGe : ∀ p ∈ ps, -1 ≤ p.ens
  locked : s'.locked = s.locked ++ [(ps.map (·.ens), ps.map (·.pn))]

/-- what `mkPicked` makes of the pairs `L` carries `L`'s ensembles and paths and no engine yet: with the slot
    invariant for `L`, its shape and the new record, that is `PickSpecR` -/
theorem PickSpecR.of_pairs {s s' : St} {H : List (Nat × Nat)} {tn j : Nat} {L : List (Int × Nat)} {child : Stream}
    {ps : List Picked} (hmk : mkPicked.go child j (pairsOf L) = .ok ps) (hc : CoreR s' (slotsOf L ++ H) tn)
    (hshape : L.length = 1 ∨ (L.map Prod.fst = [-1, 0] ∧ s.locks[0]? = some false ∧ s.locks[1]? = some false))
    (hge : ∀ x ∈ L, -1 ≤ x.1) (hl : s'.locked = s.locked ++ [(L.map Prod.fst, L.map Prod.snd)]) :
    PickSpecR s s' H tn ps := by
  obtain ⟨hmap, heng⟩ := mkPicked_go_spec _ L j ps hmk
  have hens : ps.map (·.ens) = L.map Prod.fst := by rw [← hmap]; simp
  have hpns : ps.map (·.pn) = L.map Prod.snd := by rw [← hmap]; simp
  refine ⟨heldPicked_of_map ps L hmap ▸ hc, heng, ?_, fun p hp => ?_, by rw [hens, hpns]; exact hl⟩
  · rcases hshape with h1 | h2
    · exact Or.inl (by rw [← h1, ← hmap]; simp)
    · exact Or.inr (by rw [hens]; exact h2)
  · exact hge (p.ens, p.pn) (by rw [← hmap]; exact List.mem_map.mpr ⟨p, hp, rfl⟩)

theorem pick_coreR {s s' : St} {H : List (Nat × Nat)} {tn : Nat} (h : CoreR s H tn) (o : PickOutcome)
    (ps : List Picked) (ds : List Draw) (hp : pick s o = .ok (s', ps, ds))
    (hfresh : s.toinitiate < 0 ∨ s.locked0 = []) :
    PickSpecR s s' H tn ps := by
  obtain ⟨s1, pairs, hpc, hmk, rfl⟩ := pick_parts hp
  obtain ⟨L, rfl, hc, hshape, hge⟩ := pickCore_coreR h o pairs ds hpc hfresh
  refine .of_pairs hmk (hc.congrTo rfl rfl rfl rfl rfl id) hshape hge ?_
  show s1.locked ++ [((pairsOf L).map (·.1), ps.map (·.pn))] = _
  rw [(pickCore_touches hpc).locked, ← (mkPicked_go_spec _ L 0 ps hmk).1]
  simp [pairsOf, List.map_map, Function.comp_def]

/-- the slots of a record taken off `locked0` that the re-issue loop has yet to lock: pairwise distinct, idle with
    the recorded path and a non-zero own-ensemble weight (what `Resv` said while the record was in `locked0`), and
    named by no record still there -/
structure Popped (s : St) (l : List (Nat × Nat)) : Prop where
  nodup : (l.map Prod.fst).Nodup
  ok : ∀ e pn, (e, pn) ∈ l → s.locks[e]? = some false ∧ s.trajs[e]? = some (some pn) ∧ entryM s.W e e ≠ 0
  apart : ∀ e pn, (e, pn) ∈ l → e ∉ (held0 s.locked0).map Prod.fst

/-- the state `pick_lock` hands to `reissue`: the first record `(enss0, trajs0)` taken off `locked0` -/
theorem CoreR.popRecord {s : St} {H : List (Nat × Nat)} {tn : Nat} (h : CoreR s H tn)
    (h0 : 0 ≤ s.toinitiate) {enss0 trajs0 : List Nat} {rest : List (List Nat × List Nat)}
    (hcons : s.locked0 = (enss0, trajs0) :: rest) :
    CoreR { s with locked0 := rest, locked0Ord := s.locked0Ord.tail } H tn ∧
      (enss0.length = trajs0.length ∧ (enss0.length = 1 ∨ enss0 = [0, 1])) ∧
      Popped { s with locked0 := rest, locked0Ord := s.locked0Ord.tail } (enss0.zip trajs0) := by
  have hR := h.resv h0
  have hnd := hR.nodup
  rw [hcons, held0_cons, List.map_append, List.nodup_append] at hnd
  refine ⟨{ h with resv := fun _ => ⟨?_, hnd.2.1, ?_⟩ },
    hR.shape (enss0, trajs0) (by rw [hcons]; exact List.mem_cons_self ..), hnd.1, ?_, ?_⟩
  · intro en hen
    exact hR.shape en (by rw [hcons]; exact List.mem_cons_of_mem _ hen)
  · intro e pn hm
    apply hR.ok
    rw [hcons, held0_cons]
    exact List.mem_append_right _ hm
  · intro e pn hm
    apply hR.ok
    rw [hcons, held0_cons]
    exact List.mem_append_left _ hm
  · intro e pn hm hin
    exact hnd.2.2 e (List.mem_map.mpr ⟨(e, pn), hm, rfl⟩) e hin rfl

/-- locking the first slot of a popped record: the records still in `locked0` stay reserved (`Resv.lockOther`), and
    the other slots of this record stay idle -/
theorem Popped.lockHead_coreR {s : St} {H : List (Nat × Nat)} {tn e tr : Nat} {rest : List (Nat × Nat)}
    (hp : Popped s ((e, tr) :: rest)) (h : CoreR s H tn) :
    CoreR { s with locks := s.locks.set e true } ((e, tr) :: H) tn ∧
      Popped { s with locks := s.locks.set e true } rest := by
  obtain ⟨hle, hte, hwe⟩ := hp.ok e tr (List.mem_cons_self ..)
  have hnd := List.nodup_cons.mp hp.nodup
  refine ⟨lock_coreR h e tr hle hte hwe
      (fun h00 => (h.resv h00).lockOther e (hp.apart e tr (List.mem_cons_self ..)) rfl rfl rfl rfl),
    hnd.2, fun e' pn' hm => ?_, fun e' pn' hm => hp.apart e' pn' (List.mem_cons_of_mem _ hm)⟩
  obtain ⟨h1, h2, h3⟩ := hp.ok e' pn' (List.mem_cons_of_mem _ hm)
  have hne : e ≠ e' := fun heq => hnd.1 (List.mem_map.mpr ⟨(e', pn'), hm, heq.symm⟩)
  exact ⟨by rw [List.getElem?_set_ne hne]; exact h1, h2, h3⟩

/-- locking all slots of a popped record keeps the invariant -/
theorem Popped.lockAll_coreR : ∀ {l : List (Nat × Nat)} {s : St} {H : List (Nat × Nat)} {tn : Nat},
    Popped s l → CoreR s H tn → CoreR { s with locks := lockAll l s.locks } (l ++ H) tn := by
  intro l
  induction l with
  | nil => intro s H tn _ h; exact h
  | cons x rest ih =>
    intro s H tn hp h
    obtain ⟨hc2, hp2⟩ := hp.lockHead_coreR h
    exact (ih hp2 hc2).perm List.perm_middle

/-- the recorded paths sit in their recorded slots, none of them the ghost: what `Reissue.inplace` asks for -/
theorem Popped.live {s : St} {H l : List (Nat × Nat)} {tn : Nat} (hp : Popped s l) (h : CoreR s H tn) :
    ∀ x ∈ l, s.trajs[x.1]? = some (some x.2) ∧ x.1 + 1 < s.trajs.length := by
  intro x hx
  obtain ⟨h1, h2, _⟩ := hp.ok x.1 x.2 hx
  have := h.unlocked_lt x.1 h1
  exact ⟨h2, by rw [h.lenT]; omega⟩

theorem slotsOf_recJob (hd : List Nat × List Nat) : slotsOf (recJob hd) = hd.1.zip hd.2 := by
  unfold slotsOf recJob recPairs
  rw [List.map_map]
  have : ((fun x : Int × Nat => ((x.1 + 1).toNat, x.2)) ∘ fun x : Nat × Nat => ((x.1 : Int) - 1, x.2))
      = id := by
    funext x
    simp
  rw [this, List.map_id]

/-- **`pick_lock()`** in general: a fresh pick when nothing is left to re-issue, otherwise the
    first recorded job is handed out again, its (idle, reserved) slots are locked, the record is
    consumed.  In both cases the job goes on record in `locked`. -/
theorem pickLock_coreR {s s' : St} {H : List (Nat × Nat)} {tn : Nat} (h : CoreR s H tn) (h0 : 0 ≤ s.toinitiate)
    (o : PickOutcome) (d : Nat) (ps : List Picked) (ds : List Draw)
    (hp : pickLock s o d = .ok (s', ps, ds)) :
    PickSpecR s s' H tn ps := by
  rcases pickLock_parts hp with ⟨hnil, hp⟩ | ⟨enss0, trajs0, rest, s1, pairs, hcons, hre, hmk, rfl, _⟩
  · have hr := restoreStreamOnce_touches s d
    have hk := pick_coreR (h.frame hr) o ps ds hp (Or.inr (by rw [hr.locked0]; exact hnil))
    exact ⟨hk.core, hk.engIdx, hr.locks ▸ hk.shape, hk.ensGe, hr.locked ▸ hk.locked⟩
  · obtain ⟨hc0, hsh, hpop⟩ := h.popRecord h0 hcons
    obtain ⟨hs1, rfl⟩ := (reissueGo_ok_iff.mp hre).inplace (hpop.live hc0) hc0.uniqLive
    have hc1 : CoreR s1 (enss0.zip trajs0 ++ H) tn := hs1 ▸ hpop.lockAll_coreR hc0
    unfold mkPickedAt mkPicked at hmk
    have hfst : (recJob (enss0, trajs0)).map Prod.fst = enss0.map (fun (e : Nat) => (e : Int) - (off : Int)) := by
      have h2 : (enss0.zip trajs0).map Prod.fst = enss0 := List.map_fst_zip (by omega)
      conv_rhs => rw [← h2]
      simp [recJob, recPairs, List.map_map, Function.comp_def, off]
    have hsnd : (recJob (enss0, trajs0)).map Prod.snd = trajs0 := by
      have h2 : (enss0.zip trajs0).map Prod.snd = trajs0 := List.map_snd_zip (by omega)
      conv_rhs => rw [← h2]
      simp [recJob, recPairs, List.map_map, Function.comp_def]
    refine .of_pairs (L := recJob (enss0, trajs0)) (by simpa [pairsOf, recJob, recPairs, List.map_map, Function.comp_def, off] using hmk)
      (by rw [slotsOf_recJob]; exact hc1.congrTo (s' := reissued s s1 enss0 trajs0) rfl rfl rfl rfl rfl id) ?_
      (fun x hx => ?_) ?_
    · rcases hsh.2 with h1 | h2
      · exact Or.inl (by rw [← h1]; simpa using congrArg List.length hfst)
      · subst h2
        match trajs0, hsh.1 with
        | [a, b], _ => exact Or.inr ⟨by rw [hfst]; simp [off], (hpop.ok 0 a (by simp)).1, (hpop.ok 1 b (by simp)).1⟩
    · have : x.1 ∈ (recJob (enss0, trajs0)).map Prod.fst := List.mem_map_of_mem hx
      rw [hfst] at this
      obtain ⟨e, _, he⟩ := List.mem_map.mp this
      rw [← he]
      simp [off]
    · show s1.locked ++ [(enss0.map (fun (e : Nat) => (e : Int) - (off : Int)), trajs0)] = _
      rw [(reissueGo_touches _ hre).locked, hfst, hsnd]

end Infretis.Repex
