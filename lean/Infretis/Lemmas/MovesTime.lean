import Infretis.Model.MovesTime
import Mathlib.Tactic.Ring
/-!
C09 "ordered in time": the algebra of frame lists lying on one trajectory (`LineS`, `Lined`): what the engine contract,
`paste_paths`, `Path.reverse` and the extender do to a line; `TimeOrdered` and its executable form.
-/
namespace Infretis.Moves

/-- frames on trajectory `tr`, all with velocity `u` along the path, time labels `t0, t0 + s, t0 + 2s, …` -/
def LineS (tr : Nat) (u s : Int) : Int → List TFrame → Prop
  | _, [] => True
  | t0, f :: fs => f.traj = tr ∧ f.u = u ∧ f.t = t0 ∧ LineS tr u s (t0 + s) fs

/-- a trajectory in the direction of the path: the step of the time label IS the velocity along the path -/
def Lined (fs : List TFrame) : Prop := ∃ tr u t0, LineS tr u u t0 fs

theorem lineS_append (tr : Nat) (u s : Int) : ∀ (a b : List TFrame) (t0 : Int),
    LineS tr u s t0 (a ++ b) ↔ LineS tr u s t0 a ∧ LineS tr u s (t0 + a.length * s) b
  | [], b, t0 => by simp [LineS]
  | f :: a, b, t0 => by
    have ih := lineS_append tr u s a b (t0 + s)
    have e : t0 + s + (a.length : Int) * s = t0 + ((f :: a).length : Int) * s := by
      simp only [List.length_cons]; push_cast; ring
    simp only [List.cons_append, LineS, ih, e]
    constructor
    · rintro ⟨h1, h2, h3, h4, h5⟩; exact ⟨⟨h1, h2, h3, h4⟩, h5⟩
    · rintro ⟨⟨h1, h2, h3, h4⟩, h5⟩; exact ⟨h1, h2, h3, h4, h5⟩

theorem lineS_get (tr : Nat) (u s : Int) : ∀ (fs : List TFrame) (t0 : Int) (k : Nat) (f : TFrame),
    LineS tr u s t0 fs → fs[k]? = some f → f.traj = tr ∧ f.u = u ∧ f.t = t0 + k * s
  | [], _, _, _, _, h => by simp at h
  | g :: fs, t0, 0, f, hl, h => by
    simp only [List.getElem?_cons_zero, Option.some.injEq] at h
    subst h
    obtain ⟨h1, h2, h3, _⟩ := hl
    exact ⟨h1, h2, by simp [h3]⟩
  | g :: fs, t0, k + 1, f, hl, h => by
    simp only [List.getElem?_cons_succ] at h
    obtain ⟨_, _, _, h4⟩ := hl
    obtain ⟨a, b, c⟩ := lineS_get tr u s fs (t0 + s) k f h4 h
    refine ⟨a, b, ?_⟩
    rw [c]; push_cast; ring

theorem lineS_reverse (tr : Nat) (u s : Int) : ∀ (fs : List TFrame) (t0 : Int),
    LineS tr u s t0 fs → LineS tr u (-s) (t0 + fs.length * s - s) fs.reverse
  | [], _, _ => by simp [LineS]
  | f :: fs, t0, h => by
    obtain ⟨h1, h2, h3, h4⟩ := h
    have ih := lineS_reverse tr u s fs (t0 + s) h4
    rw [List.reverse_cons, lineS_append]
    refine ⟨?_, ?_⟩
    · have e : t0 + ((f :: fs).length : Int) * s - s = t0 + s + (fs.length : Int) * s - s := by
        simp only [List.length_cons]; push_cast; ring
      rw [e]; exact ih
    · refine ⟨h1, h2, ?_, trivial⟩
      rw [h3]
      simp only [List.length_cons, List.length_reverse]
      push_cast; ring

theorem flipRev_u (f : TFrame) : (flipRev f).u = -f.u := by
  cases f with
  | mk op traj t v rev => cases rev <;> simp [flipRev, TFrame.u]

theorem lineS_map_flip (tr : Nat) (u s : Int) : ∀ (fs : List TFrame) (t0 : Int),
    LineS tr u s t0 fs → LineS tr (-u) s t0 (fs.map flipRev)
  | [], _, _ => by simp [LineS]
  | f :: fs, t0, h => by
    obtain ⟨h1, h2, h3, h4⟩ := h
    exact ⟨h1, by rw [flipRev_u, h2], h3, lineS_map_flip tr u s fs (t0 + s) h4⟩

theorem lineS_take (tr : Nat) (u s : Int) : ∀ (n : Nat) (fs : List TFrame) (t0 : Int),
    LineS tr u s t0 fs → LineS tr u s t0 (fs.take n)
  | 0, _, _, _ => by simp [LineS]
  | _ + 1, [], _, _ => by simp [LineS]
  | n + 1, f :: fs, t0, h => by
    obtain ⟨h1, h2, h3, h4⟩ := h
    exact ⟨h1, h2, h3, lineS_take tr u s n fs (t0 + s) h4⟩

theorem lineS_tail (tr : Nat) (u s : Int) (fs : List TFrame) (t0 : Int) (h : LineS tr u s t0 fs) :
    LineS tr u s (t0 + s) fs.tail := by
  cases fs with
  | nil => simp [LineS]
  | cons f fs => exact h.2.2.2

theorem lineS_dropLast (tr : Nat) (u s : Int) (fs : List TFrame) (t0 : Int) (h : LineS tr u s t0 fs) :
    LineS tr u s t0 fs.dropLast := by
  rw [List.dropLast_eq_take]
  exact lineS_take tr u s _ fs t0 h

theorem lineS_getLast (tr : Nat) (u s : Int) (fs : List TFrame) (t0 : Int) (fl : TFrame) (h : LineS tr u s t0 fs)
    (hl : fs.getLast? = some fl) : fl.traj = tr ∧ fl.u = u ∧ fl.t = t0 + fs.length * s - s := by
  have hne : fs ≠ [] := by intro e; subst e; simp at hl
  have hk : fs[fs.length - 1]? = some fl := by
    rw [← hl, List.getLast?_eq_getElem?]
  obtain ⟨a, b, c⟩ := lineS_get tr u s fs t0 _ fl h hk
  refine ⟨a, b, ?_⟩
  have hp : 0 < fs.length := List.length_pos_iff.mpr hne
  rw [c]
  have : ((fs.length - 1 : Nat) : Int) = (fs.length : Int) - 1 := by omega
  rw [this]; ring

theorem lineS_head (tr : Nat) (u s : Int) (fs : List TFrame) (t0 : Int) (f0 : TFrame) (h : LineS tr u s t0 fs)
    (hh : fs.head? = some f0) : f0.traj = tr ∧ f0.u = u ∧ f0.t = t0 := by
  rw [List.head?_eq_getElem?] at hh
  simpa using lineS_get tr u s fs t0 0 f0 h hh

theorem lineS_engineGo (tr : Nat) (v0 : Int) (d : Bool) : ∀ (ops : List Int) (t : Int),
    LineS tr (if d then -v0 else v0) v0 t (engineGo tr v0 d t ops)
  | [], _ => by simp [engineGo, LineS]
  | x :: xs, t => by
    refine ⟨rfl, ?_, rfl, lineS_engineGo tr v0 d xs (t + v0)⟩
    cases d <;> simp [TFrame.u]

theorem engineT_forward (s : TFrame) (ops : List Int) : LineS s.traj s.u s.u s.t (engineT s false ops) := by
  have h := lineS_engineGo s.traj (if s.rev = false then s.v else -s.v) false ops s.t
  have e : (if s.rev = false then s.v else -s.v) = s.u := by
    cases hs : s.rev <;> simp [TFrame.u, hs]
  simp only [Bool.false_eq_true, if_false] at h
  unfold engineT
  rw [e] at h ⊢
  exact h

theorem engineT_backward (s : TFrame) (ops : List Int) : LineS s.traj s.u (-s.u) s.t (engineT s true ops) := by
  have h := lineS_engineGo s.traj (if s.rev = true then s.v else -s.v) true ops s.t
  have e : (if s.rev = true then s.v else -s.v) = -s.u := by
    cases hs : s.rev <;> simp [TFrame.u, hs]
  simp only [if_true] at h
  unfold engineT
  rw [e] at h ⊢
  simpa using h

theorem pasteT_line (tr : Nat) (u tK : Int) (back forw : List TFrame) (M : Nat)
    (hb : LineS tr u (-u) tK back) (hf : LineS tr u u tK forw) :
    LineS tr u u (tK - back.length * u + u) (pasteT back forw M) := by
  unfold pasteT
  apply lineS_take
  rw [lineS_append]
  constructor
  · have h := lineS_reverse tr u (-u) back tK hb
    have e : tK + (back.length : Int) * -u - -u = tK - back.length * u + u := by ring
    rw [e] at h
    simpa using h
  · have h := lineS_tail tr u u forw tK hf
    have e : tK - (back.length : Int) * u + u + (back.reverse.length : Int) * u = tK + u := by
      simp only [List.length_reverse]; ring
    rw [e]; exact h

theorem lined_reverseT (fs : List TFrame) (h : Lined fs) : Lined (reverseT fs) := by
  obtain ⟨tr, u, t0, h⟩ := h
  have h1 := lineS_reverse tr u u fs t0 h
  have h2 := lineS_map_flip tr u (-u) _ _ h1
  exact ⟨tr, -u, _, h2⟩

theorem lined_pasteT_head (segT : List TFrame) (f0 : TFrame) (pb : List Int) (M : Nat) (hl : Lined segT)
    (hf0 : segT.head? = some f0) : Lined (pasteT (engineT f0 true pb) segT M) := by
  obtain ⟨tr, u, t0, hl⟩ := hl
  obtain ⟨a0, b0, c0⟩ := lineS_head tr u u segT t0 f0 hl hf0
  have hb := engineT_backward f0 pb
  rw [a0, b0, c0] at hb
  exact ⟨tr, u, _, pasteT_line tr u t0 _ _ _ hb hl⟩

theorem lined_extend (t1T : List TFrame) (fl : TFrame) (pf : List Int) (hl : Lined t1T)
    (hfl : t1T.getLast? = some fl) : Lined (t1T.dropLast ++ engineT fl false pf) := by
  obtain ⟨tr, u, t1', hl1⟩ := hl
  obtain ⟨a1, b1, c1⟩ := lineS_getLast tr u u t1T t1' fl hl1 hfl
  refine ⟨tr, u, t1', ?_⟩
  rw [lineS_append]
  refine ⟨lineS_dropLast tr u u t1T t1' hl1, ?_⟩
  have hf := engineT_forward fl pf
  rw [a1, b1, c1] at hf
  have hne : t1T ≠ [] := by intro e; subst e; simp at hfl
  have hp : 0 < t1T.length := List.length_pos_iff.mpr hne
  have e : t1' + (t1T.dropLast.length : Int) * u = t1' + (t1T.length : Int) * u - u := by
    rw [List.length_dropLast]
    have : ((t1T.length - 1 : Nat) : Int) = (t1T.length : Int) - 1 := by omega
    rw [this]; ring
  rw [e]; exact hf

/-- **Ordered in time** (the statement used in the property theorems): every frame and its successor lie on the same
    trajectory, point the same way along the path, and one MD step in that direction leads from the one to the other. -/
def TimeOrdered (fs : List TFrame) : Prop :=
  ∀ (k : Nat) (a b : TFrame), fs[k]? = some a → fs[k + 1]? = some b → b.traj = a.traj ∧ b.u = a.u ∧ b.t = a.t + a.u

theorem timeOrdered_cons2 (a b : TFrame) (r : List TFrame) :
    TimeOrdered (a :: b :: r) ↔ (b.traj = a.traj ∧ b.u = a.u ∧ b.t = a.t + a.u) ∧ TimeOrdered (b :: r) := by
  constructor
  · intro h
    refine ⟨h 0 a b rfl rfl, ?_⟩
    intro k x y hx hy
    exact h (k + 1) x y hx hy
  · rintro ⟨h0, h1⟩ k x y hx hy
    cases k with
    | zero =>
      cases hx
      cases hy
      exact h0
    | succ k => exact h1 k x y hx hy

theorem timeOrdered_of_lined (fs : List TFrame) (h : Lined fs) : TimeOrdered fs := by
  intro k a b ha hb
  obtain ⟨tr, u, t0, h⟩ := h
  obtain ⟨a1, a2, a3⟩ := lineS_get tr u u fs t0 k a h ha
  obtain ⟨b1, b2, b3⟩ := lineS_get tr u u fs t0 (k + 1) b h hb
  refine ⟨by rw [a1, b1], by rw [a2, b2], ?_⟩
  rw [a3, b3, a2]; push_cast; ring

theorem lined_of_timeOrdered : ∀ (fs : List TFrame), TimeOrdered fs → Lined fs
  | [], _ => ⟨0, 0, 0, trivial⟩
  | [a], _ => ⟨a.traj, a.u, a.t, rfl, rfl, rfl, trivial⟩
  | a :: b :: r, h => by
    obtain ⟨⟨h1, h2, h3⟩, hr⟩ := (timeOrdered_cons2 a b r).1 h
    obtain ⟨tr, u, t0, hl⟩ := lined_of_timeOrdered (b :: r) hr
    obtain ⟨rfl, rfl, rfl, _⟩ := id hl
    refine ⟨a.traj, a.u, a.t, rfl, rfl, rfl, ?_⟩
    rw [← h3, ← h1, ← h2]
    exact hl

theorem timeOrderedB_iff : ∀ (fs : List TFrame), timeOrderedB fs = true ↔ TimeOrdered fs
  | [] => by simp [timeOrderedB, TimeOrdered]
  | [a] => by simp [timeOrderedB, TimeOrdered]
  | a :: b :: r => by
    rw [timeOrdered_cons2, ← timeOrderedB_iff (b :: r)]
    simp [timeOrderedB, stepB, and_assoc]

end Infretis.Moves
