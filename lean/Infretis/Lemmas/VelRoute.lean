import Infretis.Model.VelRoute
/-!
C16, settings routing (`Infretis.VelRoute`): Python-dict reads after in-place writes,
what `wire_fencing`'s two writes leave alone, the routed dicts of every move.
-/
namespace Infretis.VelRoute
open Infretis.Vel

theorem getKey_setKey_self (d : Settings) (k : String) (v : SVal) :
    getKey (setKey d k v) k = some v := by
  induction d with
  | nil => simp [setKey, getKey]
  | cons p t ih =>
    obtain ⟨k', v'⟩ := p
    by_cases h : k' = k
    · simp [setKey, getKey, h]
    · simp [setKey, getKey, h, ih]

theorem getKey_setKey_ne (d : Settings) (k k' : String) (v : SVal) (h : k' ≠ k) :
    getKey (setKey d k v) k' = getKey d k' := by
  induction d with
  | nil => simp [setKey, getKey, Ne.symm h]
  | cons p t ih =>
    obtain ⟨k1, v1⟩ := p
    by_cases h1 : k1 = k
    · subst h1
      simp [setKey, getKey, Ne.symm h]
    · simp [setKey, h1, getKey, ih]

theorem getKey_setKey_isSome (d : Settings) (k k' : String) (v : SVal) (h : (getKey d k').isSome) :
    (getKey (setKey d k v) k').isSome := by
  by_cases hk : k' = k
  · subst hk; simp [getKey_setKey_self]
  · rw [getKey_setKey_ne d k k' v hk]; exact h

/-- the two in-place writes of `wire_fencing` leave every key other than `allowmaxlength` as configured -/
theorem wfSubSettings_getKey (ts d : Settings) (h : wfSubSettings ts = .ok d) :
    (∀ k, k ≠ "allowmaxlength" → getKey d k = getKey ts k)
    ∧ getKey d "allowmaxlength" = some (.bool true) := by
  unfold wfSubSettings at h
  simp only at h
  split at h
  · cases h
  · rename_i m hm
    cases h
    have hne : ("maxlength" : String) ≠ "allowmaxlength" := by decide
    have hm' : getKey ts "maxlength" = some m := by
      rw [getKey_setKey_ne ts "allowmaxlength" "maxlength" _ hne] at hm
      exact hm
    constructor
    · intro k hk
      by_cases hkm : k = "maxlength"
      · subst hkm
        rw [getKey_setKey_self, hm']
      · rw [getKey_setKey_ne _ _ _ _ hkm, getKey_setKey_ne _ _ _ _ hk]
    · rw [getKey_setKey_ne _ _ _ _ (Ne.symm hne), getKey_setKey_self]

theorem routeSettings_sh_ok {ts : Settings} {hasSeg : Bool} {r : Routed}
    (h : routeSettings .sh ts hasSeg = .ok r) : r = ⟨[ts], ts⟩ := by
  simp only [routeSettings] at h
  split at h
  · cases h
  · cases h; rfl

theorem routeSettings_zeroSwap_ok {ts : Settings} {hasSeg : Bool} {r : Routed}
    (h : routeSettings .zeroSwap ts hasSeg = .ok r) : r = ⟨[], ts⟩ := by
  simp only [routeSettings] at h
  split at h
  · cases h
  · cases h; rfl

theorem routeSettings_wf_seg_ok {ts : Settings} {r : Routed} (h : routeSettings .wf ts true = .ok r) :
    ∃ sub n, wfSubSettings ts = .ok sub ∧ nJumps ts = .ok n ∧ r = ⟨List.replicate n sub, sub⟩ := by
  simp only [routeSettings, Bool.not_true, Bool.false_eq_true, if_false] at h
  split at h
  · cases h
  · rename_i sub hsub
    split at h
    · cases h
    · rename_i n hn
      cases h
      exact ⟨sub, n, hsub, hn, rfl⟩

/-- every dict a move hands to `modify_velocities` agrees with the configured `tis_set` on every key except
    `allowmaxlength` -/
theorem routeSettings_getKey (mv : Move) (ts : Settings) (hasSeg : Bool) (r : Routed)
    (h : routeSettings mv ts hasSeg = .ok r) :
    ∀ d ∈ r.calls, ∀ k, k ≠ "allowmaxlength" → getKey d k = getKey ts k := by
  intro d hd k hk
  cases mv
  case sh =>
    rw [routeSettings_sh_ok h, List.mem_singleton] at hd
    rw [hd]
  case wf =>
    cases hasSeg
    · cases h; simp at hd
    · obtain ⟨sub, n, hsub, _, rfl⟩ := routeSettings_wf_seg_ok h
      rw [List.eq_of_mem_replicate hd]
      exact (wfSubSettings_getKey ts sub hsub).1 k hk
  case zeroSwap =>
    rw [routeSettings_zeroSwap_ok h] at hd
    simp at hd

/-- `regenerate` pairs dicts and inputs one by one; when every routed dict has the configured `zero_momentum`
    entry it is a plain map over the inputs that get a dict -/
theorem regenerate_eq_map (vk vr : Variant) (s : Setup) (ts : Settings) :
    ∀ (ds : List Settings) (inputs : List CallInput), (∀ d ∈ ds, zmEntry d = zmEntry ts) →
      regenerate vk vr s ds inputs
        = (inputs.take ds.length).map
            (fun i => modifyVelocities vk vr s i.src i.sysEkin (zmEntry ts) i.sig i.z)
  | [], _, _ => by simp [regenerate]
  | _ :: _, [], _ => by simp [regenerate]
  | d :: ds, i :: is, hall => by
    simp only [regenerate, List.length_cons, List.take_succ_cons, List.map_cons, hall d (by simp),
      regenerate_eq_map vk vr s ts ds is fun d' hd' => hall d' (by simp [hd'])]

end Infretis.VelRoute
