import Infretis.Lemmas.Vel
/-!
C16, degrees of freedom: `reset_momentum` as a linear map on one velocity column and the variance it leaves.

`reset_momentum` subtracts the centre-of-mass velocity: `v'ᵢ = vᵢ − (Σₖ mₖ vₖ)/M = Σₖ cᵢₖ vₖ` with
`cᵢₖ = δᵢₖ − mₖ/M` (`coeffRow`).  For independent components with variances `sₖ` the variance of a linear
combination is `Σₖ cᵢₖ² sₖ` (`quadForm`; the probabilistic fact itself is outside the model, like the Gaussian).
With `sₖ = k_BT/mₖ` that is `k_BT·(1/mᵢ − 1/M)`.
-/
namespace Infretis.Vel

/-- row `i` of the matrix `reset_momentum` applies to a column: `δᵢₖ − mₖ/M` -/
def coeffRow (M : Rat) : List Rat → Nat → List Rat
  | [], _ => []
  | m :: t, 0 => (1 - m / M) :: t.map (fun m' => -(m' / M))
  | m :: t, i + 1 => (-(m / M)) :: coeffRow M t i

/-- `Σₖ cₖ² sₖ` -/
def quadForm (c s : List Rat) : Rat := dot (mulCol c c) s

theorem dot_map_neg_div (M : Rat) : ∀ (t col : List Rat),
    dot (t.map (fun m' => -(m' / M))) col = -(dot t col) / M := by
  intro t
  induction t with
  | nil => intro col; simp [dot_nil_left]
  | cons m t ih =>
    intro col
    cases col with
    | nil => simp [dot_nil_right]
    | cons c col =>
      simp only [List.map_cons, dot, ih col]
      ring

theorem dot_coeffRow (M : Rat) : ∀ (ms col : List Rat) (i : Nat) (ci : Rat),
    col.length = ms.length → col[i]? = some ci →
    dot (coeffRow M ms i) col = ci - dot ms col / M := by
  intro ms
  induction ms with
  | nil =>
    intro col i ci hlen hci
    cases col with
    | nil => simp at hci
    | cons c col => simp at hlen
  | cons m ms ih =>
    intro col i ci hlen hci
    cases col with
    | nil => simp at hlen
    | cons c col =>
      simp only [List.length_cons, Nat.add_right_cancel_iff] at hlen
      cases i with
      | zero =>
        simp only [List.getElem?_cons_zero, Option.some.injEq] at hci
        subst hci
        simp only [coeffRow, dot, dot_map_neg_div]
        ring
      | succ i =>
        simp only [List.getElem?_cons_succ] at hci
        simp only [coeffRow, dot, ih col i ci hlen hci]
        ring

theorem resetCol_getElem? (ms col : List Rat) (i : Nat) (ci : Rat) (hlen : col.length = ms.length)
    (hci : col[i]? = some ci) :
    (resetCol ms col)[i]? = some (dot (coeffRow (sumL ms) ms i) col) := by
  rw [dot_coeffRow (sumL ms) ms col i ci hlen hci]
  simp [resetCol, hci]

theorem quadForm_map_neg_div (kT M : Rat) (hM : M ≠ 0) : ∀ (t : List Rat), (∀ m ∈ t, m ≠ 0) →
    quadForm (t.map (fun m' => -(m' / M))) (t.map (fun m => kT / m)) = kT * sumL t / (M * M) := by
  intro t
  induction t with
  | nil => intro _; simp [quadForm, mulCol, dot, sumL]
  | cons m t ih =>
    intro hm
    have hm0 : m ≠ 0 := hm m (by simp)
    have ih' := ih (fun m' hm' => hm m' (by simp [hm']))
    simp only [quadForm] at ih' ⊢
    simp only [List.map_cons, mulCol, dot, sumL, ih']
    field_simp

/-- for any `M`, not only `M = Σm`: `Σₖ cᵢₖ² k_BT/mₖ = k_BT/mᵢ − 2k_BT/M + k_BT·(Σm)/M²` -/
theorem quadForm_coeffRow (kT M : Rat) (hM : M ≠ 0) : ∀ (ms : List Rat) (i : Nat) (mi : Rat),
    (∀ m ∈ ms, m ≠ 0) → ms[i]? = some mi →
    quadForm (coeffRow M ms i) (ms.map (fun m => kT / m))
      = kT / mi - 2 * kT / M + kT * sumL ms / (M * M) := by
  intro ms
  induction ms with
  | nil => intro i mi _ hmi; simp at hmi
  | cons m ms ih =>
    intro i mi hm hmi
    have hm0 : m ≠ 0 := hm m (by simp)
    have hrest : ∀ m' ∈ ms, m' ≠ 0 := fun m' hm' => hm m' (by simp [hm'])
    cases i with
    | zero =>
      simp only [List.getElem?_cons_zero, Option.some.injEq] at hmi
      subst hmi
      have h := quadForm_map_neg_div kT M hM ms hrest
      simp only [quadForm] at h ⊢
      simp only [coeffRow, List.map_cons, mulCol, dot, sumL, h]
      field_simp
      ring
    | succ i =>
      simp only [List.getElem?_cons_succ] at hmi
      have h := ih i mi hrest hmi
      simp only [quadForm] at h ⊢
      simp only [coeffRow, List.map_cons, mulCol, dot, sumL, h]
      have hmi0 : mi ≠ 0 := hrest mi (List.mem_of_getElem? hmi)
      field_simp
      ring

theorem sumL_mass_times_var (kT M : Rat) (hM : M ≠ 0) : ∀ (ms : List Rat), (∀ m ∈ ms, m ≠ 0) →
    sumL (ms.map (fun m => m * (kT * (1 / m - 1 / M)))) = kT * ms.length - kT * sumL ms / M := by
  intro ms
  induction ms with
  | nil => intro _; simp [sumL]
  | cons m ms ih =>
    intro hm
    have hm0 : m ≠ 0 := hm m (by simp)
    have ih' := ih (fun m' hm' => hm m' (by simp [hm']))
    simp only [List.map_cons, sumL, ih', List.length_cons, Nat.cast_succ]
    field_simp
    ring

end Infretis.Vel
