import Infretis.Model.LatticeMoves
/-!
C01 (core Lean only): bounds of the length limit `maxlenOf`, the plug-in's propagation loop `prop` branch by branch and
against segments `Seg` (the coins of a segment generate it, a successful run returns one, the coins determine it),
symmetry of the match count.
-/
namespace Infretis.LatticeMoves

theorem maxlenOf_le (e : Ens) (L : Nat) (ld : Bool) (xi : Rat) : maxlenOf e L ld xi ≤ e.maxlength := by
  unfold maxlenOf; split
  · exact Nat.le_refl _
  · exact Nat.min_le_right _ _

theorem two_le_maxlenOf (e : Ens) (L : Nat) (ld : Bool) (xi : Rat) (h : 2 ≤ e.maxlength) : 2 ≤ maxlenOf e L ld xi := by
  unfold maxlenOf; split
  · exact h
  · exact Nat.le_min.2 ⟨by omega, h⟩

theorem stepTo_coin (x y : Int) (h : y = x + 1 ∨ y = x - 1) : stepTo x (decide (y = x + 1)) = y := by
  unfold stepTo
  rcases h with h | h
  · simp [h]
  · have : ¬ (y = x + 1) := by omega
    rw [decide_eq_false this]; simp [h]

theorem seg_length_pos (top : Int) : ∀ (x : Int) (seg : List Int), Seg top x seg → 0 < seg.length
  | _, [], h => by simp [Seg] at h
  | _, _ :: _, _ => by simp

theorem seg_getLast? (top : Int) : ∀ (x : Int) (seg : List Int), Seg top x seg → (x :: seg).getLast? = seg.getLast?
  | _, [], h => by simp [Seg] at h
  | _, _ :: _, _ => List.getLast?_cons_cons

theorem seg_cons_iff (top x y : Int) (t : List Int) :
    Seg top x (y :: t) ↔ (y = x + 1 ∨ y = x - 1) ∧ (t = [] ∧ (y ≤ 0 ∨ top ≤ y) ∨ (0 < y ∧ y < top) ∧ Seg top y t) := by
  cases t <;> simp [Seg]

theorem coinsOf_length : ∀ (x : Int) (seg : List Int), (coinsOf x seg).length = seg.length
  | _, [] => rfl
  | _, y :: t => by simp [coinsOf, coinsOf_length y t]

theorem prop_outside (top : Int) (cap : Nat) (x : Int) (coins : List Bool) (h : x ≤ 0 ∨ top ≤ x) :
    prop top (cap + 1) x coins = some ([x], true, 0) := by
  simp [prop, h]

theorem prop_step (top : Int) (cap : Nat) (x : Int) (c : Bool) (t : List Bool)
    (hin : ¬ (x ≤ 0 ∨ top ≤ x)) (hc : cap ≠ 0) :
    prop top (cap + 1) x (c :: t) =
      match prop top cap (stepTo x c) t with
      | none => none
      | some (fr, ok, k) => some (x :: fr, ok, k + 1) := by
  rw [prop]; simp only [hin, if_false, hc]
  cases prop top cap (stepTo x c) t <;> rfl

theorem prop_full (top : Int) (x : Int) (coins : List Bool) (hin : ¬ (x ≤ 0 ∨ top ≤ x)) :
    prop top 1 x coins = some ([x], false, 0) := by
  simp [prop, hin]

theorem prop_noCoins (top : Int) (cap : Nat) (x : Int) (hin : ¬ (x ≤ 0 ∨ top ≤ x)) (hc : cap ≠ 0) :
    prop top (cap + 1) x [] = none := by
  simp [prop, hin, hc]

/-- **Generation.**  From a site inside, the coins of a segment reproduce exactly that segment, with success,
    consuming exactly those coins — provided the path is allowed to be that long. -/
theorem prop_seg (top : Int) : ∀ (seg : List Int) (cap : Nat) (x : Int) (extra : List Bool),
    0 < x → x < top → Seg top x seg → seg.length + 1 ≤ cap →
    prop top cap x (coinsOf x seg ++ extra) = some (x :: seg, true, seg.length)
  | [], _, _, _, _, _, h, _ => by simp [Seg] at h
  | y :: t, cap, x, extra, h0, h1, h, hc => by
    obtain ⟨hs, h⟩ := (seg_cons_iff ..).1 h
    obtain ⟨c, rfl⟩ : ∃ c, cap = c + 2 := ⟨cap - 2, by simp at hc; omega⟩
    rw [coinsOf, List.cons_append, prop_step top (c + 1) x _ _ (by omega) (by omega), stepTo_coin x y hs]
    rcases h with ⟨rfl, ho⟩ | ⟨hi, h⟩
    · rw [prop_outside top c y _ ho]; rfl
    · rw [prop_seg top t (c + 1) y extra hi.1 hi.2 h (by simp at hc ⊢; omega)]; rfl

/-- **Rejection by length.**  If the segment does not fit (`cap ≤ seg.length`, cap ≥ 1) the loop stops without success
    after `cap` frames. -/
theorem prop_seg_short (top : Int) : ∀ (seg : List Int) (cap : Nat) (x : Int) (extra : List Bool),
    0 < x → x < top → Seg top x seg → 0 < cap → cap ≤ seg.length →
    ∃ fr k, prop top cap x (coinsOf x seg ++ extra) = some (fr, false, k) ∧ fr.length = cap
  | [], _, _, _, _, _, h, _, _ => by simp [Seg] at h
  | y :: t, cap, x, extra, h0, h1, h, hc0, hc => by
    have hin : ¬ (x ≤ 0 ∨ top ≤ x) := by omega
    obtain ⟨c, rfl⟩ : ∃ c, cap = c + 1 := ⟨cap - 1, by omega⟩
    by_cases hc1 : c = 0
    · subst hc1
      exact ⟨[x], 0, prop_full top x _ hin, rfl⟩
    · obtain ⟨hs, h⟩ := (seg_cons_iff ..).1 h
      rcases h with ⟨rfl, _⟩ | ⟨hi, h⟩
      · simp at hc; omega
      · obtain ⟨fr, k, ih, hl⟩ := prop_seg_short top t c y extra hi.1 hi.2 h (by omega) (by simp at hc ⊢; omega)
        refine ⟨x :: fr, k + 1, ?_, by simp [hl]⟩
        rw [coinsOf, List.cons_append, prop_step top c x _ _ hin hc1, stepTo_coin x y hs, ih]

/-- **Soundness.**  Whatever the coins, a successful propagation from a site inside returns the start frame followed by
    a segment, fitted the cap, and consumed exactly the coins of that segment. -/
theorem prop_success (top : Int) (cap : Nat) (x : Int) (coins : List Bool) (fr : List Int) (k : Nat)
    (h0 : 0 < x) (h1 : x < top) (h : prop top cap x coins = some (fr, true, k)) :
    ∃ seg, fr = x :: seg ∧ Seg top x seg ∧ k = seg.length ∧ coins.take k = coinsOf x seg ∧ seg.length + 1 ≤ cap := by
  fun_induction prop top cap x coins generalizing fr k
  -- only a turn of the loop that drew a coin and went on can end in success from a site inside
  case case6 cap x hin hc c t fr' ok' k' hr ih =>
    cases h
    have hstep : stepTo x c = x + 1 ∨ stepTo x c = x - 1 := by unfold stepTo; cases c <;> simp
    have hcoin : decide (stepTo x c = x + 1) = c := by unfold stepTo; cases c <;> simp <;> omega
    by_cases hy : stepTo x c ≤ 0 ∨ top ≤ stepTo x c
    · obtain ⟨cap, rfl⟩ : ∃ c', cap = c' + 1 := ⟨cap - 1, by omega⟩
      rw [prop_outside top cap _ t hy] at hr
      cases hr
      exact ⟨[stepTo x c], rfl, (seg_cons_iff ..).2 ⟨hstep, Or.inl ⟨rfl, hy⟩⟩, rfl, by simp [coinsOf, hcoin], by simp⟩
    · obtain ⟨seg, rfl, hseg, rfl, htake, hlen⟩ := ih fr' k' (by omega) (by omega) hr
      refine ⟨stepTo x c :: seg, rfl, (seg_cons_iff ..).2 ⟨hstep, Or.inr ⟨⟨by omega, by omega⟩, hseg⟩⟩, rfl, ?_,
        by simp only [List.length_cons]; omega⟩
      simp [coinsOf, hcoin, htake]
  case case2 => omega
  all_goals cases h

/-- a segment ends at its first frame outside, so a prefix of the coins of `s1` that spells `s2` spells all of `s1` -/
theorem seg_coins_unique (top : Int) : ∀ (s1 : List Int) (x : Int) (s2 : List Int) (e1 : List Bool),
    Seg top x s1 → Seg top x s2 → (coinsOf x s1 ++ e1).take s2.length = coinsOf x s2 → s1 = s2
  | [], _, _, _, h, _, _ => by simp [Seg] at h
  | _, _, [], _, _, h, _ => by simp [Seg] at h
  | y :: t, x, y' :: t', e1, h1, h2, hc => by
    obtain ⟨hs, h1⟩ := (seg_cons_iff ..).1 h1
    obtain ⟨hs', h2⟩ := (seg_cons_iff ..).1 h2
    simp only [coinsOf, List.cons_append, List.length_cons, List.take_succ_cons, List.cons.injEq] at hc
    obtain rfl : y = y' := by rw [← stepTo_coin x y hs, hc.1, stepTo_coin x y' hs']
    -- the common frame is outside for both (both end here) or inside for both (both go on)
    rcases h1 with ⟨rfl, ho⟩ | ⟨hi, h1⟩ <;> rcases h2 with ⟨rfl, ho'⟩ | ⟨hi', h2⟩
    · rfl
    · omega
    · omega
    · rw [seg_coins_unique top t y t' e1 h1 h2 hc.2]

theorem matchCount_nil_right : ∀ a : List Int, matchCount a [] = 0
  | [] => rfl
  | x :: t => by simp [matchCount, countEq, matchCount_nil_right t]

theorem matchCount_cons_right (y : Int) : ∀ (a n : List Int),
    matchCount a (y :: n) = countEq y a + matchCount a n
  | [], n => by simp [matchCount, countEq]
  | x :: t, n => by
    simp only [matchCount, countEq, matchCount_cons_right y t n]
    by_cases h : y = x
    · subst h; simp; omega
    · have h' : ¬ x = y := fun e => h e.symm
      simp [h, h']; omega

theorem matchCount_symm : ∀ (a b : List Int), matchCount a b = matchCount b a
  | [], b => by simp [matchCount, matchCount_nil_right]
  | x :: t, b => by
    rw [matchCount_cons_right x b t, ← matchCount_symm t b]
    simp [matchCount]

end Infretis.LatticeMoves
