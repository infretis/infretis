import Infretis.Lemmas.RepexC05Pos
import Infretis.Lemmas.RepexC05Keep
import Infretis.Lemmas.RepexC03Core
/-!
# C05 — the weight-family / matchability invariant `Fam` of the replica-exchange state

`Fam s tn` (on top of C03's slot/lock invariant `CoreR`, which covers restarted runs; `Core`
implies it, `Core.coreR`):
* `rows`   slot 0 holds a minus row `(w,0,…,0)`, `w > 0`; every other real slot a staircase plus row
           (zero in column 0, positive on columns `1..cnt`, zero after, `cnt ≤ n-2`),
* `perm`   the idle block has a positive permanent (it admits a perfect matching),
* `wts`    `traj_data[pn]['weights']` of every live path is the (un-padded) row of its slot,
* `wkeys`, `fkeys`, `rkeys`   all keys of `traj_data` and all rows of the data file are `< tn`.
-/
namespace Infretis.Repex
open Infretis.Perm Infretis.Perm.C05

/-- the (padded) row of a path sitting in slot `i` of an `n`-slot state is in C02's family -/
def RowOk (n i : Nat) (r : Row) : Prop :=
  (i = 0 → IsMinusRow n r) ∧ (1 ≤ i → ∃ cnt, IsPlusRow 1 n cnt r ∧ 1 + cnt ≤ n - 1)

theorem RowOk.congr_idx {n i j : Nat} {r : Row} (h : RowOk n j r) (hij : i = 0 ↔ j = 0) : RowOk n i r := by
  refine ⟨fun hi => h.1 (hij.mp hi), fun hi => h.2 ?_⟩
  rcases Nat.eq_zero_or_pos j with hj | hj
  · have := hij.mpr hj; omega
  · exact hj

theorem RowOk.length {n i : Nat} {r : Row} (h : RowOk n i r) : r.length = n := by
  rcases Nat.eq_zero_or_pos i with hi | hi
  · exact (h.1 hi).1
  · obtain ⟨_, hp, _⟩ := h.2 hi
    exact hp.1

theorem RowOk.nonneg {n i : Nat} {r : Row} (h : RowOk n i r) : ∀ x ∈ r, (0 : Rat) ≤ x := by
  intro x hx
  obtain ⟨c, hc, rfl⟩ := exists_getD_of_mem 0 hx
  rcases Nat.eq_zero_or_pos i with hi | hi
  · obtain ⟨hlen, hpos, hz⟩ := h.1 hi
    rcases Nat.eq_zero_or_pos c with h0 | h0
    · subst h0; exact le_of_lt hpos
    · rw [hz c h0 (by omega)]
  · obtain ⟨cnt, ⟨hlen, _, hz, hp, hz'⟩, _⟩ := h.2 hi
    rcases Nat.lt_or_ge c 1 with h1 | h1
    · rw [hz c h1]
    · rcases Nat.lt_or_ge c (1 + cnt) with h2 | h2
      · exact le_of_lt (hp c h1 h2)
      · rw [hz' c h2 (by omega)]

theorem padValid_idx {s s' : St} (hn : s'.n = s.n) {i j : Nat} (hij : i = 0 ↔ j = 0) (w : List Rat) :
    padValid s' ((i : Int) - 1) w = padValid s ((j : Int) - 1) w := by
  unfold padValid
  rw [hn]
  have : ((i : Int) - 1 ≥ 0) ↔ ((j : Int) - 1 ≥ 0) := by omega
  by_cases h : (i : Int) - 1 ≥ 0
  · rw [if_pos h, if_pos (this.mp h)]
  · rw [if_neg h, if_neg (fun h' => h (this.mpr h'))]

structure Fam (s : St) (tn : Nat) : Prop where
  rows : ∀ i, i < s.n - 1 → RowOk s.n i (s.W.getD i [])
  perm : 0 < permC (idle s.W s.locks)
  wts : ∀ i pn, i < s.n - 1 → s.trajs[i]? = some (some pn) →
    ∃ w, s.wts.lookup pn = some w ∧ padValid s ((i : Int) - 1) w = s.W.getD i []
  wkeys : ∀ k ∈ s.wts.map Prod.fst, k < tn
  fkeys : ∀ k ∈ s.frac.map Prod.fst, k < tn
  rkeys : ∀ x ∈ s.rows, x.1 < tn

/-- `Fam` reads the locks only through the permanent of the idle block -/
theorem Fam.relock {s s' : St} {tn : Nat} (h : Fam s tn) (h1 : s'.n = s.n) (h2 : s'.W = s.W)
    (h3 : s'.trajs = s.trajs) (h5 : s'.wts = s.wts) (h6 : s'.frac = s.frac) (h7 : s'.rows = s.rows)
    (hperm : 0 < permC (idle s'.W s'.locks)) : Fam s' tn := by
  refine ⟨by rw [h1, h2]; exact h.rows, hperm, ?_, by rw [h5]; exact h.wkeys,
    by rw [h6]; exact h.fkeys, by rw [h7]; exact h.rkeys⟩
  rw [h1, h2, h3, h5]
  intro i pn hi ht
  obtain ⟨w, hw1, hw2⟩ := h.wts i pn hi ht
  exact ⟨w, hw1, by rw [padValid_congr h1]; exact hw2⟩

theorem Fam.frame {s s' : St} {tn : Nat} {fs : List Fld} (h : Fam s tn) (t : Touches fs s s')
    (hd : ∀ f ∈ [Fld.n, .W, .trajs, .locks, .wts, .frac, .rows], f ∉ fs := by decide) : Fam s' tn :=
  have e := t.keeps hd
  h.relock e.n e.W e.trajs e.wts e.frac e.rows (by rw [e.W, e.locks]; exact h.perm)

theorem Fam.mono {s : St} {tn tn' : Nat} (h : Fam s tn) (hle : tn ≤ tn') : Fam s tn' :=
  { h with
    wkeys := fun k hk => Nat.lt_of_lt_of_le (h.wkeys k hk) hle
    fkeys := fun k hk => Nat.lt_of_lt_of_le (h.fkeys k hk) hle
    rkeys := fun x hx => Nat.lt_of_lt_of_le (h.rkeys x hx) hle }

theorem rows_nonneg (n : Nat) (W : Mat) (locks : List Bool) (hlenL : locks.length = n)
    (hghost : locks[n - 1]? = some true)
    (rows : ∀ i, i < n - 1 → RowOk n i (W.getD i [])) : NonNegM (idle W locks) := by
  apply idle_nonneg
  intro i r hi hr x hx
  have h1 := getElem?_lt_of_some hi
  have hlt : i < n - 1 := by
    by_cases heq : i = n - 1
    · rw [heq, hghost] at hi; exact absurd hi (by simp)
    · omega
  have := rows i hlt
  rw [List.getD_eq_getElem?_getD, hr] at this
  exact this.nonneg x hx

theorem Fam.nonneg {s : St} {H : List (Nat × Nat)} {tn tn' : Nat} (hc : CoreR s H tn') (hf : Fam s tn) :
    NonNegM (idle s.W s.locks) :=
  rows_nonneg s.n s.W s.locks hc.lenL hc.ghost hf.rows

/-! ### identity matching: a positive diagonal gives a positive permanent -/

theorem permC_nil : permC ([] : Mat) = 1 := rfl

theorem entry_minor_lt (N : Mat) (m k : Nat) (hk : k < m) (hm : m < N.length) :
    entry (minor N m m) k k = entry N k k := by
  unfold entry minor
  have hk' : k < (N.eraseIdx m).length := by rw [List.length_eraseIdx, if_pos hm]; omega
  rw [List.getD_eq_getElem?_getD (l := List.map _ _), List.getElem?_map,
    List.getElem?_eq_getElem hk']
  simp only [Option.map_some, Option.getD_some]
  rw [getD_eraseIdx, if_pos hk, List.getElem_eraseIdx_of_lt hk' hk]
  rw [List.getD_eq_getElem?_getD (l := N), List.getElem?_eq_getElem (by omega)]
  rfl

theorem permC_pos_of_diag : ∀ (m : Nat) (N : Mat), N.length = m → NonNegM N →
    (∀ k, k < m → 0 < entry N k k) → 0 < permC N := by
  intro m
  induction m with
  | zero =>
    intro N hlen _ _
    have : N = [] := List.eq_nil_of_length_eq_zero hlen
    subst this
    rw [permC_nil]; exact zero_lt_one
  | succ m ih =>
    intro N hlen hnn hdiag
    have hge := permC_ge_term N hnn m m (by omega) (by omega)
    have hmin : 0 < permC (minor N m m) := by
      apply ih
      · rw [length_minor N m m (by omega)]; omega
      · exact hnn.minor m m
      · intro k hk
        rw [entry_minor_lt N m k hk (by omega)]
        exact hdiag k (by omega)
    exact lt_of_lt_of_le (mul_pos (hdiag m (by omega)) hmin) hge

theorem idle_perm_pos_of_diag (n : Nat) (W : Mat) (locks : List Bool) (hlenW : W.length = n)
    (hlenL : locks.length = n) (hghost : locks[n - 1]? = some true)
    (rows : ∀ i, i < n - 1 → RowOk n i (W.getD i []))
    (hdiag : ∀ i : Nat, locks[i]? = some false → entry W i i ≠ 0) : 0 < permC (idle W locks) := by
  have hWL : W.length = locks.length := by rw [hlenW, hlenL]
  have hnn := rows_nonneg n W locks hlenL hghost rows
  apply permC_pos_of_diag (nIdle locks) _ (idle_length W locks hWL) hnn
  intro k hk
  obtain ⟨i, hi, rfl⟩ := exists_idle_of_lt_nIdle locks k hk
  have h0 := entry_nonneg _ hnn (rank locks i) (rank locks i)
  rw [entry_idle W locks i i hi hi] at h0 ⊢
  exact lt_of_le_of_ne h0 (Ne.symm (hdiag i hi))

/-- while recorded jobs of a restart file are still to be re-issued (`toinitiate ≥ 0`,
    `locked0 ≠ []`) every idle slot still holds a path with non-zero weight in its own ensemble:
    no pick has swapped anything yet -/
def DiagR (s : St) : Prop :=
  0 ≤ s.toinitiate → s.locked0 ≠ [] → ∀ i : Nat, s.locks[i]? = some false → entryM s.W i i ≠ 0

theorem DiagR.of_fresh {s : St} (h : s.toinitiate < 0 ∨ s.locked0 = []) : DiagR s := by
  intro h0 hne
  rcases h with h | h
  · omega
  · exact absurd h hne

theorem DiagR.congr {s s' : St} (h : DiagR s) (hW : s'.W = s.W) (hL : s'.locks = s.locks)
    (h0 : s'.locked0 = s.locked0) (hto : 0 ≤ s'.toinitiate → 0 ≤ s.toinitiate) : DiagR s' := by
  intro h1 h2 i hi
  rw [hW]
  exact h (hto h1) (by rw [← h0]; exact h2) i (by rw [← hL]; exact hi)

theorem DiagR.frame {s s' : St} {fs : List Fld} (h : DiagR s) (t : Touches fs s s')
    (hd : ∀ f ∈ [Fld.W, .locks, .locked0, .toinitiate], f ∉ fs := by decide) : DiagR s' :=
  have e := t.keeps hd
  h.congr e.W e.locks e.locked0 (by rw [e.toinitiate]; exact id)

theorem swapIdx_zero_iff {t e k : Nat} (h0 : t = 0 ↔ e = 0) : k = 0 ↔ swapIdx t e k = 0 := by
  unfold swapIdx
  split
  · rename_i h; subst h; exact h0.symm
  · split
    · rename_i _ h; subst h; exact h0
    · exact Iff.rfl

theorem swap_W_getD (s : St) (t e k : Nat) (ht : t < s.W.length) (he : e < s.W.length) :
    (swap s t e).W.getD k [] = s.W.getD (swapIdx t e k) [] := by
  rw [List.getD_eq_getElem?_getD, List.getD_eq_getElem?_getD]
  exact congrArg (·.getD []) (swapList_get s.W t e k ht he)

theorem swap_rows_wts {s : St} {tn : Nat} (hf : Fam s tn) (hlenW : s.W.length = s.n)
    (hlenT : s.trajs.length = s.n) (t e : Nat) (ht : t < s.n - 1) (he : e < s.n - 1)
    (h0 : t = 0 ↔ e = 0) :
    (∀ i, i < s.n - 1 → RowOk s.n i ((swap s t e).W.getD i [])) ∧
    (∀ i pn, i < s.n - 1 → (swap s t e).trajs[i]? = some (some pn) →
      ∃ w, s.wts.lookup pn = some w ∧ padValid s ((i : Int) - 1) w = (swap s t e).W.getD i []) := by
  have htW : t < s.W.length := by omega
  have heW : e < s.W.length := by omega
  have htT : t < s.trajs.length := by omega
  have heT : e < s.trajs.length := by omega
  constructor
  · intro i hi
    rw [swap_W_getD s t e i htW heW]
    exact (hf.rows _ (swapIdx_lt ht he hi)).congr_idx (swapIdx_zero_iff h0)
  · intro i pn hi htr
    obtain ⟨w, hw1, hw2⟩ := hf.wts _ pn (swapIdx_lt ht he hi) ((swapList_get s.trajs t e i htT heT).symm.trans htr)
    refine ⟨w, hw1, ?_⟩
    rw [swap_W_getD s t e i htW heW, ← hw2]
    exact padValid_idx rfl (swapIdx_zero_iff h0) w

theorem zero_iff_of_entry_ne {s : St} {tn : Nat} (hf : Fam s tn) (t e : Nat) (ht : t < s.n - 1)
    (he : e < s.n - 1) (hw : entryM s.W t e ≠ 0) : t = 0 ↔ e = 0 := by
  have hrow := hf.rows t ht
  constructor
  · intro h
    subst h
    obtain ⟨_, _, hz⟩ := hrow.1 rfl
    by_contra hne
    exact hw (hz e (by omega) (by omega))
  · intro h
    subst h
    by_contra hne
    obtain ⟨cnt, ⟨_, _, hz, _, _⟩, _⟩ := hrow.2 (by omega)
    exact hw (hz 0 (by omega))

theorem lockStep_fam {s s2 : St} {H : List (Nat × Nat)} {tn tn' : Nat} (hc : CoreR s H tn')
    (hf : Fam s tn) (t e : Nat) (hpos : 0 < entryM (prob s) t e)
    (hl : lock (swap s t e) e = .ok s2) : Fam s2 tn := by
  obtain ⟨ht, he, hw⟩ := prob_posR hc t e hpos
  have ht' := hc.unlocked_lt t ht
  have he' := hc.unlocked_lt e he
  have h0 := zero_iff_of_entry_ne hf t e ht' he' hw
  obtain ⟨hr, hwt⟩ := swap_rows_wts hf hc.lenW hc.lenT t e ht' he' h0
  obtain ⟨_, hs2⟩ := lock_ok hl
  subst hs2
  have hWL : s.W.length = s.locks.length := by rw [hc.lenW, hc.lenL]
  refine ⟨hr, ?_, hwt, hf.wkeys, hf.fkeys, hf.rkeys⟩
  -- the new idle block is, up to the order of its rows, the old one without row `rank t` and column `rank e`;
  -- `prob[t][e]` is `pSpec` of the old block at these ranks, and where that is positive so is the minor's permanent
  show 0 < permC (idle (swapList s.W t e) (s.locks.set e true))
  rw [permC_perm (idle_pick_perm s.W s.locks t e hWL ht he)]
  have hp : 0 < pSpec (idle s.W s.locks) (rank s.locks t) (rank s.locks e) := by
    rw [← probMatrix_idle s.W s.locks hWL t e ht he]
    exact hpos
  exact (pSpec_pos _ (hf.nonneg hc) hf.perm _ _ hp).2

theorem pickCore_steps {s s' : St} {o : PickOutcome} {pairs : List (Int × Option Nat)} {ds : List Draw}
    (hp : pickCore s o = .ok (s', pairs, ds)) :
    ∃ s2, 0 < entryM (prob s) o.t o.e ∧ lock (swap s o.t o.e) o.e = .ok s2 ∧
      (s' = s2 ∨ ∃ other, 0 < entryM (prob s2) o.partner other ∧
        lock (swap s2 o.partner other) other = .ok s') := by
  obtain ⟨hpos, s2, hl, hcase⟩ := pickCore_parts hp
  refine ⟨s2, hpos, hl, ?_⟩
  rcases hcase with ⟨_, _, hpos2, s4, hl4, rfl, _⟩ | ⟨_, rfl, _⟩
  · rw [col_getD] at hpos2
    exact Or.inr ⟨_, hpos2, hl4⟩
  · exact Or.inl rfl

theorem pickCore_fam {s s' : St} {H : List (Nat × Nat)} {tn tn' : Nat} (hc : CoreR s H tn')
    (hf : Fam s tn) (o : PickOutcome) (pairs : List (Int × Option Nat)) (ds : List Draw)
    (hp : pickCore s o = .ok (s', pairs, ds)) (hfresh : s.toinitiate < 0 ∨ s.locked0 = []) :
    Fam s' tn := by
  obtain ⟨s2, hpos, hl, hrest⟩ := pickCore_steps hp
  have hf2 := lockStep_fam hc hf o.t o.e hpos hl
  rcases hrest with rfl | ⟨other, hpos2, hl4⟩
  · exact hf2
  · obtain ⟨_, _, hc2, _⟩ := lockStep_coreR hc o.t o.e hpos hl hfresh
    exact lockStep_fam hc2 hf2 _ _ hpos2 hl4

theorem pick_fam {s s' : St} {H : List (Nat × Nat)} {tn tn' : Nat} (hc : CoreR s H tn')
    (hf : Fam s tn) (o : PickOutcome) (ps : List Picked) (ds : List Draw)
    (hp : pick s o = .ok (s', ps, ds)) (hfresh : s.toinitiate < 0 ∨ s.locked0 = []) : Fam s' tn := by
  obtain ⟨s1, pairs, hpc, _, rfl⟩ := pick_parts hp
  have hf1 := pickCore_fam hc hf o pairs ds hpc hfresh
  exact hf1.relock rfl rfl rfl rfl rfl rfl hf1.perm

/-- **`pick_lock()`**: a fresh pick, or the re-issue of a recorded job (which only re-locks slots
    whose paths still sit in their own ensembles) -/
theorem pickLock_fam {s s' : St} {H : List (Nat × Nat)} {tn tn' : Nat} (hc : CoreR s H tn')
    (hf : Fam s tn) (hd : DiagR s) (h0 : 0 ≤ s.toinitiate) (o : PickOutcome) (d : Nat)
    (ps : List Picked) (ds : List Draw)
    (hp : pickLock s o d = .ok (s', ps, ds)) : Fam s' tn ∧ DiagR s' := by
  have hc' := (pickLock_coreR hc h0 o d ps ds hp).core
  rcases pickLock_parts hp with ⟨hnil, hp⟩ | ⟨enss0, trajs0, rest, s1, pairs, hcons, hre, _, rfl, _⟩
  · have hr := restoreStreamOnce_touches s d
    have hfr : (restoreStreamOnce s d).toinitiate < 0 ∨ (restoreStreamOnce s d).locked0 = [] :=
      Or.inr (by rw [hr.locked0]; exact hnil)
    refine ⟨pick_fam (hc.frame hr) (hf.frame hr) o ps ds hp hfr, ?_⟩
    apply DiagR.of_fresh
    right
    rw [(pick_touches hp).locked0, hr.locked0]
    exact hnil
  · obtain ⟨hc0, _, hpop⟩ := hc.popRecord h0 hcons
    obtain ⟨rfl, _⟩ := (reissueGo_ok_iff.mp hre).inplace (hpop.live hc0) hc0.uniqLive
    -- re-issue locks slots without the pick's test on `prob`, so `Fam.perm` of the smaller idle block does not follow
    -- from that of the old one; it is rebuilt from the identity matching, which `DiagR` keeps available: every idle
    -- slot of the old state has a non-zero diagonal, and the new idle slots are among them
    have hdiag : ∀ i : Nat, (lockAll (enss0.zip trajs0) s.locks)[i]? = some false → entryM s.W i i ≠ 0 :=
      fun i hi => hd h0 (by rw [hcons]; simp) i (lockAll_false _ _ i hi)
    exact ⟨hf.relock rfl rfl rfl rfl rfl rfl
      (idle_perm_pos_of_diag s.n s.W _ hc.lenW hc'.lenL hc'.ghost hf.rows hdiag), fun _ _ => hdiag⟩

theorem prep_fam {s s' : St} {H : List (Nat × Nat)} {tn tn' : Nat} (hc : CoreR s H tn')
    (hf : Fam s tn) (hd : DiagR s) (prev : Option Nat) (o : PickOutcome) (saved : Nat) (job : Job)
    (ds : List Draw) (h : prep s prev o saved = .ok (s', job, ds)) : Fam s' tn ∧ DiagR s' := by
  obtain ⟨s1, ps, pin, occ', idx, hr, _, _, _, rfl, _⟩ := prep_parts h
  have hf1 : Fam s1 tn ∧ DiagR s1 := by
    unfold pickPart at hr
    split at hr
    · rename_i h0
      exact pickLock_fam hc hf hd h0 o saved ps ds hr
    · rename_i h0
      have hfr : s.toinitiate < 0 ∨ s.locked0 = [] := Or.inl (by omega)
      exact ⟨pick_fam hc hf o ps ds hr hfr,
        DiagR.of_fresh (Or.inl (by rw [(pick_touches hr).toinitiate]; omega))⟩
  exact ⟨hf1.1.relock rfl rfl rfl rfl rfl rfl hf1.1.perm, hf1.2⟩

end Infretis.Repex
