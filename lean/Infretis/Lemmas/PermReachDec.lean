import Infretis.Lemmas.PermReach
/-!
# The family predicates are decidable (C02)

so that membership of a concrete matrix is settled by evaluation (`decide +kernel`).  The row predicates bound a
column by two inequalities; the instances put the bound that `Nat.decidableBallLT` needs first.
-/
namespace Infretis.Perm

instance (o m cnt : Nat) (r : Row) : Decidable (IsPlusRow o m cnt r) :=
  decidable_of_iff (r.length = m ∧ o + cnt ≤ m ∧ (∀ c, c < o → r.getD c 0 = 0) ∧
      (∀ c, c < o + cnt → o ≤ c → 0 < r.getD c 0) ∧ (∀ c, c < m → o + cnt ≤ c → r.getD c 0 = 0))
    ⟨fun h => ⟨h.1, h.2.1, h.2.2.1, fun c h1 h2 => h.2.2.2.1 c h2 h1, fun c h1 h2 => h.2.2.2.2 c h2 h1⟩,
     fun h => ⟨h.1, h.2.1, h.2.2.1, fun c h1 h2 => h.2.2.2.1 c h2 h1, fun c h1 h2 => h.2.2.2.2 c h2 h1⟩⟩

instance (m : Nat) (r : Row) : Decidable (IsMinusRow m r) :=
  decidable_of_iff (r.length = m ∧ 0 < r.getD 0 0 ∧ ∀ c, c < m → 1 ≤ c → r.getD c 0 = 0)
    ⟨fun h => ⟨h.1, h.2.1, fun c h1 h2 => h.2.2 c h2 h1⟩, fun h => ⟨h.1, h.2.1, fun c h1 h2 => h.2.2 c h2 h1⟩⟩

instance (o : Nat) (N : Mat) (cnts : List Nat) : Decidable (Reach o N cnts) :=
  decidable_of_iff (o ≤ 1 ∧ N.length = o + cnts.length ∧ (o = 1 → IsMinusRow N.length (N.getD 0 [])) ∧
      ∀ k, k < cnts.length → IsPlusRow o N.length (cnts.getD k 0) (N.getD (o + k) []))
    ⟨fun h => ⟨h.1, h.2.1, h.2.2.1, h.2.2.2⟩, fun h => ⟨h.ho, h.hlen, h.minus, h.plus⟩⟩

instance (o : Nat) (S : Mat) (cnts : List Nat) : Decidable (SortedReach o S cnts) :=
  decidable_of_iff (Reach o S cnts ∧ cnts.Pairwise (fun a b => a ≤ b) ∧
      ∀ k, k < cnts.length → k + 1 ≤ cnts.getD k 0)
    ⟨fun h => ⟨h.1, h.2.1, h.2.2⟩, fun h => ⟨h.toReach, h.sorted, h.hall⟩⟩

end Infretis.Perm
