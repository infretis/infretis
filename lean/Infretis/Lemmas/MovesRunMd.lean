import Infretis.Lemmas.MovesWfA
import Infretis.Model.MovesRun
import Infretis.Lemmas.WFCv
/-! `run_md` for a one-ensemble job (`Model/MovesRun.lean`): what a completed `runMove` / `runMdOne` went through, and
    what it stores for the ensemble's own interface: entry `k` of the weight vector `calc_cv_vector` computes (model
    `WF.cvVector`, owned by C10; `mdWeights_get`). -/
namespace Infretis.Moves

theorem runMove_sh_ok {v : Variant} {i : ShootIn} {st : Status} {trial : List Int} {isOld : Bool}
    (h : runMove v (.sh i) = .ok (st, trial, isOld)) :
    ∃ sce so, i.scEns = some sce ∧ shoot v { i with sc := sce } = .ok so ∧ so.status = st ∧ so.trial = trial ∧
      isOld = false := by
  simp only [runMove] at h
  split at h
  · cases h
  · rename_i sce hsce
    split at h
    · cases h
    · rename_i so hso
      simp only [Except.ok.injEq, Prod.mk.injEq] at h
      exact ⟨sce, so, hsce, hso, h.1, h.2.1, h.2.2.symm⟩

theorem runMove_wf_ok {v : Variant} {i : WfIn} {st : Status} {trial : List Int} {isOld : Bool}
    (h : runMove v (.wf i) = .ok (st, trial, isOld)) :
    ∃ wo, wireFencing v { i with sc := i.scEns } = .ok wo ∧ wo.status = st ∧ wo.path = trial ∧
      wo.returnedOld = isOld := by
  simp only [runMove] at h
  cases hwo : wireFencing v { i with sc := i.scEns } with
  | error e => rw [hwo] at h; cases h
  | ok wo =>
    rw [hwo] at h
    simp only [Except.ok.injEq, Prod.mk.injEq] at h
    exact ⟨wo, rfl, h.1, h.2.1, h.2.2⟩

/-- a move that ends with `ACC` hands back a new path object, never the old one -/
theorem runMove_acc_new {v : Variant} {x : OneIn} {trial : List Int} {isOld : Bool}
    (h : runMove v x = .ok (.ACC, trial, isOld)) : isOld = false := by
  cases x with
  | sh i => obtain ⟨_, _, _, _, _, _, e⟩ := runMove_sh_ok h; exact e
  | wf i =>
    obtain ⟨wo, hwo, hst, _, rfl⟩ := runMove_wf_ok h
    cases (wf_ok_iff v _ wo).1 hwo with
    | accepted => rfl
    | _ => cases hst
  | other o => simp [runMove] at h

theorem runMdOne_ok {v : Variant} {cfg : MdCfg} {x : OneIn} {o : MdOneOut} (h : runMdOne v cfg x = .ok o) :
    ∃ st trial isOld mn mx, runMove v x = .ok (st, trial, isOld) ∧ minOf trial = some mn ∧
      WF.maxOf trial = some mx ∧
      ((st = .ACC ∧ ∃ w, mdWeights cfg trial = .ok w ∧
          o = { status := .ACC, live := trial, replaced := !isOld, trialLen := trial.length, trialMin := mn,
                trialMax := mx, weights := some w }) ∨
       (st ≠ .ACC ∧
          o = { status := st, live := x.old, replaced := false, trialLen := trial.length, trialMin := mn,
                trialMax := mx, weights := none })) := by
  unfold runMdOne at h
  cases hm : runMove v x with
  | error e => rw [hm] at h; cases h
  | ok r =>
    obtain ⟨st, trial, isOld⟩ := r
    rw [hm] at h
    simp only at h
    split at h
    · cases h
    split at h
    · rename_i mn mx hmn hmx
      refine ⟨st, trial, isOld, mn, mx, rfl, hmn, hmx, ?_⟩
      by_cases hs : st = .ACC
      · subst hs
        simp only [if_true] at h
        cases hw : mdWeights cfg trial with
        | error e => rw [hw] at h; cases h
        | ok w => rw [hw] at h; cases h; exact Or.inl ⟨rfl, w, rfl, rfl⟩
      · simp only [hs, if_false] at h
        cases h
        exact Or.inr ⟨hs, rfl⟩
    · cases h

open Infretis.WF

/-- `cap if cap is not None else interfaces[-1]` -/
def capOr (cap : Option Int) (ilast : Int) : Int := cap.getD ilast

theorem mdWeights_get (cfg : MdCfg) (trial : List Int) (ws : List Nat) (h : mdWeights cfg trial = .ok ws) (k : Nat)
    (hk : cfg.ensNum = (k : Int)) (m : Int) (f : Bool) (hm : cfg.interfaces.dropLast[k]? = some m)
    (hf : cfg.movesTail[k]? = some f) :
    ∃ pmax i0 ilast w, maxOf trial = some pmax ∧ cfg.interfaces.head? = some i0 ∧
      cfg.interfaces.getLast? = some ilast ∧ ws[k]? = some w ∧
      (if f then computeWeight trial i0 m (capOr cfg.cap ilast) true
       else .ok (if m ≤ pmax then 1 else 0)) = .ok w := by
  unfold mdWeights at h
  have hnn : ¬ cfg.ensNum < 0 := by omega
  simp only [hnn, if_false] at h
  cases hcv : cvVector trial cfg.interfaces cfg.movesTail cfg.cap with
  | error e => rw [hcv] at h; cases h
  | ok ws' =>
    rw [hcv] at h
    simp only [Except.mapError, Except.ok.injEq] at h
    subst h
    obtain ⟨pmax, i0, ilast, h1, h2, h3, _, _, hent⟩ := cvVector_get hcv
    have hk1 := (List.getElem?_eq_some_iff.mp hm).1
    rw [List.length_dropLast] at hk1
    rw [List.getElem?_dropLast, if_pos hk1] at hm
    obtain ⟨f', w, hf', hw, he⟩ := hent k m (by omega) hm
    rw [hf] at hf'
    cases hf'
    exact ⟨pmax, i0, ilast, w, h1, h2, h3, hw, he⟩

end Infretis.Moves
