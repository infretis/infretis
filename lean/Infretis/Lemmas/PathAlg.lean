import Infretis.Model.PathAlg
/-!
Path algebra (C15): limits as truncation (`room`, `capLen`, `capTake`), closed forms of the append loops
(`appendAll_eq`, `paste_closed`) and of the copy loops (`copyEach_spec`: the heap grows by copies of the
sources, the path receives consecutive fresh references), and `Heap.Writes`: what a re-assignment of a field, or any
sequence of them, leaves alone (`assignField_writes`, `assignFields_writes`, `assignFields_fresh_refs`).
-/
namespace Infretis.PathAlg

/-- `p` with its frame list replaced (all other attributes kept) -/
def Path.withFrames (p : Path) (fs : List Nat) : Path := { p with frames := fs }

@[simp] theorem withFrames_frames (p : Path) (fs : List Nat) : (p.withFrames fs).frames = fs := rfl
@[simp] theorem withFrames_maxlen (p : Path) (fs : List Nat) : (p.withFrames fs).maxlen = p.maxlen := rfl
@[simp] theorem withFrames_status (p : Path) (fs : List Nat) : (p.withFrames fs).status = p.status := rfl
@[simp] theorem withFrames_generated (p : Path) (fs : List Nat) : (p.withFrames fs).generated = p.generated := rfl
@[simp] theorem withFrames_pathNumber (p : Path) (fs : List Nat) : (p.withFrames fs).pathNumber = p.pathNumber := rfl
@[simp] theorem withFrames_weights (p : Path) (fs : List Nat) : (p.withFrames fs).weights = p.weights := rfl
@[simp] theorem withFrames_weight (p : Path) (fs : List Nat) : (p.withFrames fs).weight = p.weight := rfl
@[simp] theorem withFrames_timeOrigin (p : Path) (fs : List Nat) : (p.withFrames fs).timeOrigin = p.timeOrigin := rfl
@[simp] theorem withFrames_withFrames (p : Path) (a b : List Nat) : (p.withFrames a).withFrames b = p.withFrames b := rfl
@[simp] theorem withFrames_self (p : Path) : p.withFrames p.frames = p := rfl

@[simp] theorem empty_maxlen (ml : Option Int) (t : Int) : (Path.empty ml t).maxlen = ml := rfl
@[simp] theorem empty_frames (ml : Option Int) (t : Int) : (Path.empty ml t).frames = [] := rfl

/-- how many of `n` offered frames `p` can still take -/
def room (p : Path) (n : Nat) : Nat :=
  match p.maxlen with
  | none => n
  | some m => min n (m - (p.frames.length : Int)).toNat

/-- truncation of a frame list at a limit (`None` = no limit; limits ≤ 0 keep nothing) -/
def capTake {α : Type} (ml : Option Int) (xs : List α) : List α :=
  match ml with
  | none => xs
  | some m => xs.take m.toNat

def capLen (ml : Option Int) (n : Nat) : Nat :=
  match ml with
  | none => n
  | some m => min m.toNat n

theorem length_capTake {α : Type} (ml : Option Int) (xs : List α) :
    (capTake ml xs).length = capLen ml xs.length := by
  cases ml <;> simp [capTake, capLen]

theorem map_capTake {α β : Type} (f : α → β) (ml : Option Int) (xs : List α) :
    (capTake ml xs).map f = capTake ml (xs.map f) := by
  cases ml <;> simp [capTake, List.map_take]

theorem capLen_le (ml : Option Int) (n : Nat) : capLen ml n ≤ n := by
  unfold capLen; split <;> omega

theorem capLen_mono (ml : Option Int) {n n' : Nat} (h : n ≤ n') : capLen ml n ≤ capLen ml n' := by
  unfold capLen; split <;> omega

theorem take_capLen {α : Type} (cap : Option Int) (xs : List α) :
    xs.take (capLen cap xs.length) = capTake cap xs := by
  cases cap with
  | none => simp [capLen, capTake]
  | some m =>
    simp only [capLen, capTake]
    rw [List.take_eq_take_iff]
    omega

theorem capTake_of_fits {α : Type} (ml : Option Int) (xs : List α) (h : capLen ml xs.length = xs.length) :
    capTake ml xs = xs := by
  rw [← take_capLen, h, List.take_length]

theorem capTake_eq_self_iff {α : Type} (ml : Option Int) (xs : List α) :
    capTake ml xs = xs ↔ capLen ml xs.length = xs.length :=
  ⟨fun h => by rw [← length_capTake, h], capTake_of_fits ml xs⟩

theorem capTake_getElem?_lt {α : Type} (ml : Option Int) (xs : List α) (k : Nat)
    (hk : k < (capTake ml xs).length) : (capTake ml xs)[k]? = xs[k]? := by
  cases ml with
  | none => rfl
  | some m =>
    simp only [capTake, List.length_take] at hk ⊢
    rw [List.getElem?_take, if_pos (Nat.lt_min.1 hk).1]

theorem capTake_getElem?_of_some {α : Type} (ml : Option Int) (xs : List α) (k : Nat) (y : α)
    (h : (capTake ml xs)[k]? = some y) : xs[k]? = some y := by
  rw [← capTake_getElem?_lt ml xs k (List.getElem?_eq_some_iff.1 h).1]; exact h

theorem mem_of_mem_capTake {α : Type} {ml : Option Int} {xs : List α} {x : α} (h : x ∈ capTake ml xs) :
    x ∈ xs := by
  cases ml with
  | none => exact h
  | some m => exact List.mem_of_mem_take h

theorem capTake_append_of_short {α : Type} (cap : Option Int) (xs ys : List α)
    (h : capLen cap xs.length ≠ xs.length) : capTake cap (xs ++ ys) = capTake cap xs := by
  cases cap with
  | none => exact absurd rfl h
  | some m =>
    simp only [capLen] at h
    simp only [capTake]
    exact List.take_append_of_le_length (by omega)

theorem room_none (p : Path) (n : Nat) (h : p.maxlen = none) : room p n = n := by
  simp [room, h]

theorem room_some (p : Path) (n : Nat) (m : Int) (h : p.maxlen = some m) :
    room p n = min n (m - (p.frames.length : Int)).toNat := by
  simp [room, h]

theorem room_zero (p : Path) : room p 0 = 0 := by
  unfold room; split <;> simp

theorem room_le (p : Path) (n : Nat) : room p n ≤ n := by
  unfold room; split <;> omega

theorem canAppend_true_room (p : Path) (n : Nat) (r : Nat) (h : p.canAppend = true) :
    room p (n + 1) = room (p.withFrames (p.frames ++ [r])) n + 1 := by
  unfold Path.canAppend at h
  cases hm : p.maxlen with
  | none => simp [room, hm]
  | some m =>
    simp only [hm, decide_eq_true_eq] at h
    -- one more frame uses up one unit of what is left below the limit
    have e : (m - (p.frames.length : Int)).toNat = (m - ((p.frames.length + 1 : Nat) : Int)).toNat + 1 := by
      have := Int.lt_toNat.2 h
      rw [Int.toNat_sub', Int.toNat_sub']; omega
    simp only [room, withFrames_maxlen, withFrames_frames, hm, List.length_append, List.length_cons,
      List.length_nil, Nat.zero_add, e, Nat.succ_min_succ]

theorem canAppend_false_room (p : Path) (n : Nat) (h : p.canAppend = false) : room p n = 0 := by
  unfold Path.canAppend at h
  cases hm : p.maxlen with
  | none => simp [hm] at h
  | some m =>
    simp only [hm, decide_eq_false_iff_not] at h
    have := mt Int.lt_toNat.1 h
    simp only [room, hm, Int.toNat_sub']
    omega

theorem append_of_can (p : Path) (r : Nat) (h : p.canAppend = true) :
    p.append r = (p.withFrames (p.frames ++ [r]), true) := by
  simp [Path.append, h, Path.withFrames]

theorem append_of_cannot (p : Path) (r : Nat) (h : p.canAppend = false) :
    p.append r = (p, false) := by
  simp [Path.append, h]

/-- closed form of the append loops of `paste_paths` (and of the stop logic of `__iadd__`): the first
    `room` offered frames are taken, and the loop reports whether that was all of them -/
theorem appendAll_eq : ∀ (xs : List Nat) (np : Path),
    appendAll np xs
      = (np.withFrames (np.frames ++ xs.take (room np xs.length)), decide (room np xs.length = xs.length)) := by
  intro xs
  induction xs with
  | nil => intro np; simp [appendAll, room_zero]
  | cons r rs ih =>
    intro np
    cases hc : np.canAppend with
    | true =>
      simp only [appendAll, append_of_can np r hc, if_true, ih, List.length_cons,
        canAppend_true_room np rs.length r hc, withFrames_withFrames, withFrames_frames,
        List.take_succ_cons, List.append_assoc, List.singleton_append, Nat.add_right_cancel_iff]
    | false =>
      simp [appendAll, append_of_cannot np r hc, canAppend_false_room np _ hc]

theorem room_empty (ml : Option Int) (t : Int) (n : Nat) : room (Path.empty ml t) n = capLen ml n := by
  cases ml with
  | none => rfl
  | some m =>
    show min n (m - ((0 : Nat) : Int)).toNat = min m.toNat n
    rw [Int.natCast_zero, Int.sub_zero, Nat.min_comm]

theorem appendAll_maxlen (xs : List Nat) (np : Path) : (appendAll np xs).1.maxlen = np.maxlen := by
  rw [appendAll_eq]; rfl

/-- the first loop of `paste_paths` -/
theorem appendAll_empty (cap : Option Int) (t : Int) (xs : List Nat) :
    appendAll (Path.empty cap t) xs
      = ((Path.empty cap t).withFrames (capTake cap xs), decide (capLen cap xs.length = xs.length)) := by
  rw [appendAll_eq, room_empty, take_capLen]; rfl

/-- the second loop of `paste_paths`, entered when all of `xs` fitted: together the two loops truncate
    `xs ++ ys` at the limit -/
theorem appendAll_full (cap : Option Int) (t : Int) (xs ys : List Nat)
    (hfit : capLen cap xs.length = xs.length) :
    appendAll ((Path.empty cap t).withFrames xs) ys
      = ((Path.empty cap t).withFrames (capTake cap (xs ++ ys)),
         decide (capLen cap (xs.length + ys.length) = xs.length + ys.length)) := by
  rw [appendAll_eq]
  cases cap with
  | none => simp [room, capTake, capLen]
  | some m =>
    have hle : xs.length ≤ m.toNat := by simp only [capLen] at hfit; omega
    simp only [room, withFrames_maxlen, empty_maxlen, withFrames_frames, withFrames_withFrames, capTake,
      capLen, List.take_append, List.take_of_length_le hle, Int.toNat_sub']
    congr 1
    · congr 2
      rw [List.take_eq_take_iff]; omega
    · exact decide_eq_decide.2 (by omega)

/-- where the limit computation before 960b399 does not raise, the repaired one computes the same limit -/
theorem pasteMaxlen_of_asIs (bm fm ml c : Option Int) (h : pasteMaxlenV .asIs bm fm ml = .ok c) :
    pasteMaxlen bm fm ml = .ok c := by
  unfold pasteMaxlen
  unfold pasteMaxlenV at h ⊢
  cases ml with
  | some m => exact h
  | none =>
    cases bm with
    | none =>
      cases fm with
      | none => exact h
      | some b => simp at h
    | some a =>
      cases fm with
      | none => simp at h
      | some b => exact h

/-- the frames offered to the second loop of `paste_paths` -/
def forwPart (forw : Path) (ov : Bool) : List Nat := if ov then forw.frames.drop 1 else forw.frames

theorem paste_closed (back forw : Path) (ov : Bool) (ml cap : Option Int)
    (hcap : pasteMaxlen back.maxlen forw.maxlen ml = .ok cap) :
    paste back forw ov ml = .ok
      ((Path.empty cap (back.timeOrigin - (back.frames.length : Int) + 1)).withFrames
        (capTake cap (back.frames.reverse ++ forwPart forw ov))) := by
  unfold paste
  rw [hcap]
  simp only [appendAll_empty]
  by_cases hfit : capLen cap back.frames.reverse.length = back.frames.reverse.length
  · simp only [hfit, decide_true, Bool.not_true, Bool.false_eq_true, if_false]
    rw [capTake_of_fits cap _ hfit, appendAll_full cap _ _ _ hfit]
    rfl
  · simp only [hfit, decide_false, Bool.not_false, if_true]
    rw [capTake_append_of_short cap _ _ hfit]

theorem paste_ok (back forw np : Path) (ov : Bool) (ml : Option Int) (h : paste back forw ov ml = .ok np) :
    ∃ cap, pasteMaxlen back.maxlen forw.maxlen ml = .ok cap
      ∧ np = (Path.empty cap (back.timeOrigin - (back.frames.length : Int) + 1)).withFrames
              (capTake cap (back.frames.reverse ++ forwPart forw ov)) := by
  cases hc : pasteMaxlen back.maxlen forw.maxlen ml with
  | error e => simp [paste, hc] at h
  | ok cap =>
    rw [paste_closed back forw ov ml cap hc] at h
    exact ⟨cap, rfl, (Except.ok.inj h).symm⟩

theorem mem_forwPart {forw : Path} {ov : Bool} {r : Nat} (h : r ∈ forwPart forw ov) : r ∈ forw.frames := by
  unfold forwPart at h
  cases ov with
  | true => exact List.mem_of_mem_drop h
  | false => exact h

/-- no System is copied by `paste_paths`: every frame of the result is a frame of one of the segments -/
theorem paste_frames_sub (back forw np : Path) (ov : Bool) (ml : Option Int)
    (h : paste back forw ov ml = .ok np) : ∀ r ∈ np.frames, r ∈ back.frames ∨ r ∈ forw.frames := by
  obtain ⟨cap, _, rfl⟩ := paste_ok back forw np ov ml h
  intro r hr
  rcases List.mem_append.1 (mem_of_mem_capTake hr) with h1 | h1
  · exact Or.inl (List.mem_reverse.1 h1)
  · exact Or.inr (mem_forwPart h1)

/-- dereference of a reference known to be valid -/
def Heap.getD (h : Heap) (r : Nat) : Sys := (h.look r).getD default

def WF (h : Heap) (rs : List Nat) : Prop := ∀ r ∈ rs, r < h.sys.length

theorem WF_nil (h : Heap) : WF h [] := fun _ hr => nomatch hr

theorem WF_mono (h h' : Heap) (rs : List Nat) (hle : h.sys.length ≤ h'.sys.length) (hwf : WF h rs) :
    WF h' rs := fun r hr => Nat.lt_of_lt_of_le (hwf r hr) hle

def Heap.push (h : Heap) (ss : List Sys) : Heap := { h with sys := h.sys ++ ss }

@[simp] theorem push_sys (h : Heap) (ss : List Sys) : (h.push ss).sys = h.sys ++ ss := rfl
@[simp] theorem push_nOrd (h : Heap) (ss : List Sys) : (h.push ss).nOrd = h.nOrd := rfl
@[simp] theorem push_nil (h : Heap) : h.push [] = h := by simp [Heap.push]
@[simp] theorem push_push (h : Heap) (a b : List Sys) : (h.push a).push b = h.push (a ++ b) := by
  simp [Heap.push]

theorem look_of_lt (h : Heap) (r : Nat) (hr : r < h.sys.length) : h.look r = some (h.getD r) := by
  unfold Heap.getD Heap.look
  rw [List.getElem?_eq_getElem hr]; rfl

theorem lt_of_look (h : Heap) (r : Nat) (s : Sys) (hs : h.look r = some s) : r < h.sys.length :=
  (List.getElem?_eq_some_iff.1 hs).1

theorem look_push_lt (h : Heap) (ss : List Sys) (r : Nat) (hr : r < h.sys.length) :
    (h.push ss).look r = h.look r := by
  unfold Heap.look
  simp only [push_sys]
  rw [List.getElem?_append_left hr]

theorem getD_push_lt (h : Heap) (ss : List Sys) (r : Nat) (hr : r < h.sys.length) :
    (h.push ss).getD r = h.getD r := by
  unfold Heap.getD; rw [look_push_lt h ss r hr]

theorem look_push_ge (h : Heap) (ss : List Sys) (i : Nat) :
    (h.push ss).look (h.sys.length + i) = ss[i]? := by
  unfold Heap.look
  simp only [push_sys]
  rw [List.getElem?_append_right (Nat.le_add_right _ _), Nat.add_sub_cancel_left]

/-- `System.copy()` of a valid reference: one more object, equal to the source -/
theorem copySys_of_lt (h : Heap) (r : Nat) (hr : r < h.sys.length) :
    h.copySys r = (h.push [h.getD r], h.sys.length) := by
  simp [Heap.copySys, look_of_lt h r hr, Heap.push]

theorem copyEach_cons (f : Sys → Sys) (stop : Bool) (h : Heap) (np : Path) (r : Nat) (rs : List Nat)
    (hr : r < h.sys.length) :
    copyEach f stop h np (r :: rs) =
      if np.canAppend then
        copyEach f stop (h.push [f (h.getD r)]) (np.withFrames (np.frames ++ [h.sys.length])) rs
      else if stop then (h.push [f (h.getD r)], np)
      else copyEach f stop (h.push [f (h.getD r)]) np rs := by
  have h2 : (h.push [h.getD r]).look h.sys.length = some (h.getD r) := by
    simpa using look_push_ge h [h.getD r] 0
  have h3 : (h.push [h.getD r]).put h.sys.length (f (h.getD r)) = h.push [f (h.getD r)] := by
    simp [Heap.put, Heap.push]
  rw [copyEach]
  simp only [copySys_of_lt h r hr, h2, h3]
  cases hc : np.canAppend with
  | true => rw [append_of_can _ _ hc]; simp
  | false => rw [append_of_cannot _ _ hc]; cases stop <;> simp

/-- how many copies a loop allocates: `__iadd__` stops after the first copy that did not fit -/
def nAlloc (stop : Bool) (np : Path) (n : Nat) : Nat :=
  if stop then min n (room np n + 1) else n

theorem copyEach_spec (f : Sys → Sys) (stop : Bool) : ∀ (rs : List Nat) (h : Heap) (np : Path),
    WF h rs →
    copyEach f stop h np rs =
      (h.push ((rs.take (nAlloc stop np rs.length)).map (fun r => f (h.getD r))),
       np.withFrames (np.frames ++ List.range' h.sys.length (room np rs.length))) := by
  intro rs
  induction rs with
  | nil => intro h np _; simp [copyEach, room_zero]
  | cons r rs ih =>
    intro h np hwf
    have hr : r < h.sys.length := hwf r (by simp)
    have hwf' : ∀ s, WF (h.push [s]) rs := by
      intro s x hx
      have := hwf x (by simp [hx])
      show x < (h.sys ++ [s]).length
      rw [List.length_append, List.length_singleton]; omega
    have hmap : ∀ s (k : Nat), (rs.take k).map (fun x => f ((h.push [s]).getD x))
        = (rs.take k).map (fun x => f (h.getD x)) := by
      intro s k
      apply List.map_congr_left
      intro x hx
      rw [getD_push_lt h [s] x (hwf x (by simp [List.mem_of_mem_take hx]))]
    rw [copyEach_cons f stop h np r rs hr]
    cases hc : np.canAppend with
    | true =>
      simp only [if_true]
      rw [ih _ _ (hwf' _), hmap]
      have hroom := canAppend_true_room np rs.length h.sys.length hc
      have hn : nAlloc stop np (rs.length + 1)
          = nAlloc stop (np.withFrames (np.frames ++ [h.sys.length])) rs.length + 1 := by
        unfold nAlloc; rw [hroom]; cases stop <;> simp <;> omega
      simp only [List.length_cons, hn, hroom, List.take_succ_cons, List.map_cons, push_push,
        push_sys, List.length_append, List.length_nil, withFrames_withFrames, withFrames_frames,
        List.append_assoc, List.range'_succ, List.cons_append, List.nil_append]
    | false =>
      have hroom : ∀ k, room np k = 0 := fun k => canAppend_false_room np k hc
      simp only [Bool.false_eq_true, if_false]
      cases stop with
      | true =>
        simp [nAlloc, hroom]
      | false =>
        simp only [Bool.false_eq_true, if_false]
        rw [ih _ _ (hwf' _), hmap]
        simp [nAlloc, hroom]

theorem map_look_getD (h : Heap) (rs : List Nat) (hwf : WF h rs) :
    rs.map h.look = rs.map (fun r => some (h.getD r)) := by
  apply List.map_congr_left
  intro r hr
  exact look_of_lt h r (hwf r hr)

theorem map_look_range' (h : Heap) (ss : List Sys) (k : Nat) (hk : k ≤ ss.length) :
    (List.range' h.sys.length k).map (h.push ss).look = (ss.take k).map some := by
  apply List.ext_getElem
  · simp; omega
  · intro i h1 h2
    simp only [List.length_map, List.length_range'] at h1
    simp only [List.getElem_map, List.getElem_range', Nat.one_mul, List.getElem_take]
    rw [look_push_ge]
    exact List.getElem?_eq_getElem (by omega)

theorem le_nAlloc (stop : Bool) (np : Path) (n : Nat) : room np n ≤ nAlloc stop np n := by
  have := room_le np n
  unfold nAlloc; cases stop <;> simp <;> omega

theorem copyEach_new_looks (f : Sys → Sys) (stop : Bool) (rs : List Nat) (h : Heap) (np : Path)
    (hwf : WF h rs) :
    (List.range' h.sys.length (room np rs.length)).map (copyEach f stop h np rs).1.look
      = (rs.take (room np rs.length)).map (fun r => (h.look r).map f) := by
  rw [copyEach_spec f stop rs h np hwf]
  simp only
  have hle := le_nAlloc stop np rs.length
  have hle2 := room_le np rs.length
  rw [map_look_range' h _ _ (by simp; omega)]
  rw [← List.map_take, List.take_take, Nat.min_eq_left hle, List.map_map]
  have hwf' : WF h (rs.take (room np rs.length)) := fun r hr => hwf r (List.mem_of_mem_take hr)
  apply List.map_congr_left
  intro r hr
  simp [look_of_lt h r (hwf' r hr)]

theorem copyEach_frames (f : Sys → Sys) (stop : Bool) (rs : List Nat) (h : Heap) (np : Path)
    (hwf : WF h rs) :
    (copyEach f stop h np rs).2 = np.withFrames (np.frames ++ List.range' h.sys.length (room np rs.length)) := by
  rw [copyEach_spec f stop rs h np hwf]

theorem copyEach_old (f : Sys → Sys) (stop : Bool) (rs : List Nat) (h : Heap) (np : Path)
    (hwf : WF h rs) (r : Nat) (hr : r < h.sys.length) :
    (copyEach f stop h np rs).1.look r = h.look r := by
  rw [copyEach_spec f stop rs h np hwf]
  exact look_push_lt h _ r hr

theorem copyEach_len (f : Sys → Sys) (stop : Bool) (rs : List Nat) (h : Heap) (np : Path)
    (hwf : WF h rs) :
    (copyEach f stop h np rs).1.sys.length = h.sys.length + min rs.length (nAlloc stop np rs.length) := by
  rw [copyEach_spec f stop rs h np hwf]
  simp; omega

/-- `Path.copy` = the copy loop into an empty path with the same limit; `status`, `time_origin`, `generated`,
    `path_number` and `weights` are carried over, `weight` is not -/
theorem copy_eq (h : Heap) (p : Path) (hwf : WF h p.frames) :
    Path.copy h p = ((copyEach id false h (Path.empty p.maxlen 0) p.frames).1,
      { p with weight := 0, frames := List.range' h.sys.length (capLen p.maxlen p.frames.length) }) := by
  have hf := copyEach_frames id false p.frames h (Path.empty p.maxlen 0) hwf
  rw [room_empty] at hf
  show ((copyEach id false h (Path.empty p.maxlen 0) p.frames).1,
    ({ (copyEach id false h (Path.empty p.maxlen 0) p.frames).2 with
        status := p.status, timeOrigin := p.timeOrigin, generated := p.generated, maxlen := p.maxlen,
        pathNumber := p.pathNumber, weights := p.weights } : Path)) = _
  rw [hf]
  rfl

def SysFresh (n : Nat) (s : Sys) : Prop := s.orderObj < n ∧ ∀ a, s.arrObj a < n

/-- every container identity in the heap is smaller than the next fresh identity -/
def Heap.Fresh (h : Heap) : Prop := ∀ s ∈ h.sys, SysFresh h.nOrd s

theorem SysFresh.mono {n n' : Nat} {s : Sys} (hle : n ≤ n') (hs : SysFresh n s) : SysFresh n' s :=
  ⟨Nat.lt_of_lt_of_le hs.1 hle, fun a => Nat.lt_of_lt_of_le (hs.2 a) hle⟩

theorem sysFresh_withV (n : Nat) (s : Sys) (v : Vals) (hs : SysFresh n s) : SysFresh n { s with v := v } :=
  ⟨hs.1, fun a => by have := hs.2 a; cases a <;> exact this⟩

theorem look_mem (h : Heap) (r : Nat) (s : Sys) (hs : h.look r = some s) : s ∈ h.sys :=
  List.mem_of_getElem? hs

/-- `h'` is `h` with (at most) the objects behind the references `rs` overwritten: nothing is allocated, every other
    object is the same, and container identities that were fresh stay fresh.  Every re-assignment of a field, and
    every loop of re-assignments, is of this kind. -/
structure Heap.Writes (h : Heap) (rs : List Nat) (h' : Heap) : Prop where
  len : h'.sys.length = h.sys.length
  look_ne : ∀ r, r ∉ rs → h'.look r = h.look r
  fresh : h.Fresh → h'.Fresh

theorem Heap.Writes.refl (h : Heap) (rs : List Nat) : h.Writes rs h := ⟨rfl, fun _ _ => rfl, id⟩

theorem Heap.Writes.cons {h h1 h2 : Heap} {r : Nat} {rs : List Nat} (a : h.Writes [r] h1) (b : h1.Writes rs h2) :
    h.Writes (r :: rs) h2 :=
  ⟨b.len.trans a.len,
   fun x hx => (b.look_ne x fun hh => hx (List.mem_cons_of_mem _ hh)).trans
     (a.look_ne x fun hh => hx (List.mem_singleton.1 hh ▸ List.mem_cons_self)),
   fun hf => b.fresh (a.fresh hf)⟩

theorem Heap.Writes.set {h : Heap} {r : Nat} {s : Sys} (hs : h.look r = some s) (s' : Sys) {n' : Nat}
    (hle : h.nOrd ≤ n') (hs' : SysFresh h.nOrd s → SysFresh n' s') : h.Writes [r] ⟨h.sys.set r s', n'⟩ := by
  refine ⟨by simp, fun x hx => List.getElem?_set_ne (fun e => hx (by simp [e])), fun hf t ht => ?_⟩
  rcases List.mem_or_eq_of_mem_set ht with ht | rfl
  · exact (hf t ht).mono hle
  · exact hs' (hf s (look_mem h r s hs))

theorem look_set_self (h : Heap) (r : Nat) (s : Sys) (n : Nat) (hr : r < h.sys.length) :
    (Heap.mk (h.sys.set r s) n).look r = some s :=
  List.getElem?_set_self hr

theorem modV_writes (h : Heap) (r : Nat) (g : Vals → Vals) : h.Writes [r] (h.modV r g) := by
  unfold Heap.modV
  split
  · rename_i s hs
    exact .set hs _ (Nat.le_refl _) (sysFresh_withV _ s _)
  · exact .refl ..

theorem setOrder_writes (h : Heap) (r : Nat) (o : List Int) : h.Writes [r] (h.setOrder r o) := by
  unfold Heap.setOrder
  split
  · rename_i s hs
    exact .set hs _ (Nat.le_succ _) fun hsf =>
      ⟨Nat.lt_succ_self _, fun a => by have := hsf.2 a; cases a <;> exact Nat.lt_succ_of_lt this⟩
  · exact .refl ..

theorem setArr_writes (h : Heap) (r : Nat) (a : Arr) (x : Int) : h.Writes [r] (h.setArr r a x) := by
  unfold Heap.setArr
  split
  · rename_i s hs
    refine .set hs _ (Nat.le_succ _) fun hsf => ?_
    have h1 := hsf.1
    have hp := hsf.2 .pos; have hv := hsf.2 .vel; have hb := hsf.2 .box; have ht := hsf.2 .temp
    simp only [Sys.arrObj] at hp hv hb ht
    cases a <;> refine ⟨?_, fun b => ?_⟩ <;> (try cases b) <;>
      simp only [Sys.withArrObj, Sys.arrObj] <;> omega
  · exact .refl ..

theorem assignField_writes (h : Heap) (r : Nat) (fld : Field) : h.Writes [r] (assignField h r fld) := by
  cases fld <;> simp only [assignField] <;> first
    | exact modV_writes h r _
    | exact setOrder_writes h r _
    | exact setArr_writes h r _ _

theorem setOrder_look_self (h : Heap) (r : Nat) (o : List Int) (s : Sys) (hs : h.look r = some s) :
    ((h.setOrder r o).look r).map (·.v) = some { s.v with order := o } := by
  unfold Heap.setOrder
  simp only [hs]
  rw [look_set_self h r _ _ (lt_of_look h r s hs)]
  rfl

theorem updGo_writes (ekin vpot : List Int) : ∀ (rs : List Nat) (i : Nat) (h : Heap),
    h.Writes rs (updGo ekin vpot i h rs)
  | [], _, _ => .refl ..
  | r :: rs, i, h => (modV_writes h r _).cons (updGo_writes ekin vpot rs (i + 1) _)

theorem assignFields_writes : ∀ (as : List (Nat × Field)) (h : Heap),
    h.Writes (as.map Prod.fst) (as.foldl (fun g a => assignField g a.1 a.2) h)
  | [], _ => .refl ..
  | a :: as, h => (assignField_writes h a.1 a.2).cons (assignFields_writes as _)

/-- why a path of fresh copies is independent of what existed before: in a heap `h'` that agrees with `h` on the
    objects of `h`, any sequence of re-assignments through references allocated later leaves those objects alone -/
theorem assignFields_fresh_refs (h h' : Heap) (hold : ∀ r, r < h.sys.length → h'.look r = h.look r)
    (as : List (Nat × Field)) (hge : ∀ a ∈ as, h.sys.length ≤ a.1) (r : Nat) (hr : r < h.sys.length) :
    (as.foldl (fun g a => assignField g a.1 a.2) h').look r = h.look r := by
  rw [(assignFields_writes as h').look_ne r fun hm => by
    obtain ⟨a, ha, rfl⟩ := List.mem_map.1 hm
    exact Nat.not_le_of_lt hr (hge a ha)]
  exact hold r hr

theorem assignField_fresh_ref (h h' : Heap) (hold : ∀ r, r < h.sys.length → h'.look r = h.look r)
    (r' : Nat) (hge : h.sys.length ≤ r') (fld : Field) (r : Nat) (hr : r < h.sys.length) :
    (assignField h' r' fld).look r = h.look r :=
  assignFields_fresh_refs h h' hold [(r', fld)] (by simpa using hge) r hr

end Infretis.PathAlg
