import Infretis.Lemmas.Moves
import Infretis.Model.EngineLoops
/-!
What every `_propagate_from` loop does to its path (C12): it makes an entry for the next frame and hands it to
`add_to_path` (`push`), until that says stop.  A path is `Open` while the loop is running and `Closed` when it is
left; `push_step` is the one step all loop proofs share.  Both carry the two things claimed of a path: which frame
each entry was made from (`Tracks`, the loop says how entry `k` relates to what the program wrote) and that feeding
the path's own order values through `add_to_path` reproduces it (`FeedOK`), so the stop and success rules proved
for `feed` hold for every loop.  Last, what the loops over an external program (`EngineLoopsExt`, `EngineLoopsGmx`)
share: `poll_spec`, and the frames not yet taken as a prefix of those written (`prefix_extend`, `cons_prefix_drop`).
-/
namespace Infretis.EngineLoops
open Infretis.Engine

/-- `add_to_path` for the entry `e`: what `record` and `gmxRecord` do once the entry is made -/
def push (c : Cfg) (es : List Entry) (e : Entry) : Option (List Entry × AddResult) :=
  match addToPath (es.map (·.order)) (some c.maxlen) e.order c.left c.right with
  | none => none
  | some (_, r) => some (if r.added then es ++ [e] else es, r)

/-- what the GROMACS loop stores for frame `f` at index `i` -/
def gmxEntry (gv : Variant) (c : Cfg) (i : Nat) (f : Frame) : Entry :=
  { idx := i, cid := f.cid, bid := f.bid, vel := gmxVel gv c.rev f.vel,
    order := c.ord f.cid f.bid (gmxVel gv c.rev f.vel) }

theorem record_eq_push (c : Cfg) (es : List Entry) (idx cid bid : Nat) (v : Int) :
    record c es idx cid bid v = push c es (mkEntry c idx cid bid v) := rfl

theorem gmxRecord_eq_push (gv : Variant) (c : Cfg) (es : List Entry) (idx : Nat) (f : Frame) :
    gmxRecord gv c es idx f = push c es (gmxEntry gv c idx f) := rfl

def Tracks (ent : Nat → Entry → Prop) (es : List Entry) : Prop := ∀ k (h : k < es.length), ent k es[k]

theorem Tracks.nil (ent : Nat → Entry → Prop) : Tracks ent [] := by
  intro k h; simp at h

theorem Tracks.snoc {ent : Nat → Entry → Prop} {es : List Entry} {e : Entry} (h : Tracks ent es)
    (he : ent es.length e) : Tracks ent (es ++ [e]) := by
  intro k hk
  by_cases hlt : k < es.length
  · rw [List.getElem_append_left hlt]; exact h k hlt
  · have hk' : k = es.length := by simp at hk; omega
    subst hk'
    simpa using he

theorem Tracks.mono {ent ent' : Nat → Entry → Prop} {es : List Entry} (hm : ∀ k e, ent k e → ent' k e)
    (h : Tracks ent es) : Tracks ent' es := fun k hk => hm k _ (h k hk)

/-- feeding the path's own order values through `add_to_path` reproduces the path, its success flag, and
    consumes all of them: no earlier frame would have stopped propagation, and the flag is the one
    `add_to_path` computed for the last one. -/
def FeedOK (c : Cfg) (es : List Entry) (succ : Bool) : Prop :=
  feed c.left c.right (some c.maxlen) [] (es.map (·.order)) 0 = some (es.map (·.order), succ, es.length)

/-- propagation has not been stopped: every frame inside, the limit not reached, no success reported.
    (`maxlen = 0`: the first `add_to_path` raises IndexError and the path stays empty.) -/
structure Open (c : Cfg) (ent : Nat → Entry → Prop) (es : List Entry) (succ : Bool) : Prop where
  tracks : Tracks ent es
  inside : ∀ e ∈ es, c.left ≤ e.order ∧ e.order ≤ c.right
  room : es.length < c.maxlen ∨ (c.maxlen = 0 ∧ es = [])
  noSuccess : succ = false

structure Closed (c : Cfg) (ent : Nat → Entry → Prop) (es : List Entry) (succ : Bool) : Prop where
  tracks : Tracks ent es
  feed : FeedOK c es succ

theorem Open.nil (c : Cfg) (ent : Nat → Entry → Prop) : Open c ent [] false :=
  ⟨Tracks.nil ent, by simp, (Nat.eq_zero_or_pos c.maxlen).elim (fun h => Or.inr ⟨h, rfl⟩) Or.inl, rfl⟩

theorem Open.mono {c : Cfg} {ent ent' : Nat → Entry → Prop} {es : List Entry} {succ : Bool}
    (hm : ∀ k e, ent k e → ent' k e) (h : Open c ent es succ) : Open c ent' es succ :=
  ⟨h.tracks.mono hm, h.inside, h.room, h.noSuccess⟩

theorem Open.closed {c : Cfg} {ent : Nat → Entry → Prop} {es : List Entry} {succ : Bool}
    (h : Open c ent es succ) : Closed c ent es succ := by
  refine ⟨h.tracks, ?_⟩
  unfold FeedOK
  rw [h.noSuccess]
  rcases h.room with hlt | ⟨_, he⟩
  · exact (Moves.feed_iff (by simp; omega)).2 ⟨_, .dry _ (List.forall_mem_map.2 h.inside) (by simpa using hlt), rfl, by simp⟩
  · subst he; rfl

theorem push_fits (c : Cfg) (es : List Entry) (e : Entry) (h : es.length < c.maxlen) :
    ∃ r, push c es e = some (es ++ [e], r) ∧
      (r.stop = true ↔ (e.order < c.left ∨ e.order > c.right ∨ es.length + 1 = c.maxlen)) ∧
      (r.success = true ↔ (e.order < c.left ∨ e.order > c.right)) := by
  obtain ⟨res, h1, h2, h3, h4⟩ := Moves.addToPathV_room .repaired (ops := es.map (·.order)) (ml := some c.maxlen) e.order
    c.left c.right (by simpa using h)
  rw [Moves.addToPathV_repaired] at h1
  refine ⟨res, by simp only [push, h1, h2, if_true], ?_, ?_⟩
  · rw [h3]; simp; omega
  · rw [h4]; simp [Moves.isRep]

theorem push_step {c : Cfg} {ent : Nat → Entry → Prop} {es es' : List Entry} {succ : Bool} {e : Entry}
    {r : AddResult} (ho : Open c ent es succ) (he : ent es.length e) (h : push c es e = some (es', r)) :
    es' = es ++ [e] ∧ Closed c ent es' r.success ∧ (r.stop = false → Open c ent es' r.success) := by
  rcases ho.room with hlt | ⟨hm, hes⟩
  · obtain ⟨r', hres, hstop, hsucc⟩ := push_fits c es e hlt
    rw [hres] at h
    cases h
    have htr := ho.tracks.snoc he
    have hopen : r.stop = false → Open c ent (es ++ [e]) r.success := by
      intro hs
      have hns : ¬ (e.order < c.left ∨ e.order > c.right ∨ es.length + 1 = c.maxlen) :=
        fun hh => by rw [hstop.2 hh] at hs; cases hs
      refine ⟨htr, ?_, by simp only [List.length_append, List.length_singleton]; omega, ?_⟩
      · intro e' he'
        rcases List.mem_append.mp he' with he' | he'
        · exact ho.inside e' he'
        · cases List.mem_singleton.mp he'; omega
      · cases hsu : r.success with
        | false => rfl
        | true => rcases hsucc.1 hsu with h1 | h1 <;> omega
    refine ⟨rfl, ?_, hopen⟩
    cases hs : r.stop with
    | false => exact (hopen hs).closed
    | true =>
      refine ⟨htr, (Moves.feed_iff (by simp; omega)).2 ⟨_, ?_, rfl, by simp⟩⟩
      -- the last frame stopped propagation: it is outside, or it is inside and fills the path
      have hin : ∀ y ∈ es.map (·.order), c.left ≤ y ∧ y ≤ c.right := List.forall_mem_map.2 ho.inside
      rw [List.map_append, List.map_singleton]
      by_cases hout : e.order < c.left ∨ c.right < e.order
      · exact .crossed _ _ [] hin hout (by simpa using hlt) (by simp [Moves.isRep, hsucc.2 (by omega)])
      · have hns : r.success = false := Bool.eq_false_iff.2 fun h => hout (by have := hsucc.1 h; omega)
        rw [hns, ← List.append_nil [e.order]]
        exact .full _ _ [] hin (by omega) (by have := hstop.1 hs; simp; omega)
  · subst hes
    simp [push, addToPath, pathAppend, hm] at h

/-! ### `poll` touches the clock, the world and the process flags only -/

theorem poll_spec (sched : Sched) (s : XState) :
    ∃ d, poll sched s = ({ s with t := s.t + 1, cur := sched s.t, dead := d }, !d) ∧ (s.dead = true → d = true) := by
  unfold poll tick
  simp only
  split
  · rename_i h
    exact ⟨true, by simp only [show s.dead = true from h, Bool.not_true], fun _ => rfl⟩
  · rename_i h
    have hd : s.dead = false := by simpa using h
    split
    · exact ⟨false, by simp only [hd, Bool.not_false], fun h' => by rw [hd] at h'; cases h'⟩
    · exact ⟨true, rfl, fun _ => rfl⟩

theorem prefix_extend {α : Type} (frames pos : List α) (st vis : Nat) (h : pos <+: frames.drop st) :
    pos ++ (frames.take vis).drop (st + pos.length) <+: frames.drop st := by
  have hp : pos = (frames.drop st).take pos.length := List.prefix_iff_eq_take.mp h
  have h2 : (frames.take vis).drop (st + pos.length)
      = ((frames.drop st).drop pos.length).take (vis - (st + pos.length)) := by
    rw [List.drop_take, List.drop_drop]
  rw [h2]
  conv => lhs; lhs; rw [hp]
  rw [← List.take_add]
  exact List.take_prefix _ _

theorem cons_prefix_drop {α : Type} (frames rest : List α) (f : α) (st : Nat) (h : f :: rest <+: frames.drop st) :
    frames[st]? = some f ∧ rest <+: frames.drop (st + 1) := by
  obtain ⟨t, ht⟩ := h
  have h0 : (frames.drop st)[0]? = some f := by rw [← ht]; simp
  have h1 : frames[st]? = some f := by simpa using h0
  refine ⟨h1, ?_⟩
  have : frames.drop (st + 1) = (frames.drop st).drop 1 := by rw [List.drop_drop]
  rw [this, ← ht]
  simp

end Infretis.EngineLoops
