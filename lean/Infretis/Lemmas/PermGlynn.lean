import Infretis.Lemmas.Perm
import Mathlib.Data.Nat.Bitwise
import Mathlib.Data.Finset.Powerset
import Mathlib.Algebra.BigOperators.Ring.Finset
import Mathlib.Algebra.BigOperators.Group.Finset.Sigma
import Mathlib.Tactic.NormNum
/-!
# `fast_glynn_perm` computes the permanent (C02)

`glynn_eq_permC`: for every non-empty square matrix the Gray-code loop of `fast_glynn_perm`
(model `glynn`) never raises and returns the permanent `permC`.

* Glynn's identity (`glynn_identity`), by induction over the columns with a parity set `E`.
* The loop walks the reflected Gray code; its total is the Glynn sum over all sign vectors with
  the last row fixed to `+1` (`glynn_eq_gS`).
-/
namespace Infretis.Perm

section
open Finset

/-- sign of row `i` for the set `T` of negated rows -/
def sgm (T : Finset ℕ) (i : ℕ) : ℚ := if i ∈ T then -1 else 1

def tog (E : Finset ℕ) (k : ℕ) : Finset ℕ := if k ∈ E then E.erase k else insert k E

/-- generalised Glynn sum: rows `0..N`, row `N` fixed to `+1`, first `c` columns,
    sign product over the rows in `E`.  Expanding a column picks a row `k` and toggles it in `E` (`gS_succ`); with no
    column left the sum over the signs is `2 ^ N` for `E = ∅` and `0` once `E` holds a row below `N`.  So the sum
    vanishes when `E` has more such rows than columns are left to remove them (`gS_vanish`), and for `E.card = c` only
    the picks inside `E` survive: Laplace along the last column (`gS_perm`). -/
def gS (a : ℕ → ℕ → ℚ) (N c : ℕ) (E : Finset ℕ) : ℚ :=
  ∑ T ∈ (range N).powerset, (∏ i ∈ E, sgm T i) * ∏ j ∈ range c, ∑ i ∈ range (N + 1), sgm T i * a i j

theorem sgm_mul_self (T : Finset ℕ) (i : ℕ) : sgm T i * sgm T i = 1 := by
  unfold sgm; split <;> norm_num

theorem prod_tog (T E : Finset ℕ) (k : ℕ) :
    (∏ i ∈ E, sgm T i) * sgm T k = ∏ i ∈ tog E k, sgm T i := by
  unfold tog
  split
  next h =>
    rw [← Finset.mul_prod_erase E _ h, mul_comm (sgm T k), mul_assoc, sgm_mul_self, mul_one]
  next h =>
    rw [Finset.prod_insert h, mul_comm]

theorem gS_succ (a : ℕ → ℕ → ℚ) (N c : ℕ) (E : Finset ℕ) :
    gS a N (c + 1) E = ∑ k ∈ range (N + 1), a k c * gS a N c (tog E k) := by
  unfold gS
  simp only [Finset.mul_sum]
  rw [Finset.sum_comm]
  refine Finset.sum_congr rfl (fun T _ => ?_)
  rw [Finset.prod_range_succ, Finset.mul_sum, Finset.mul_sum]
  refine Finset.sum_congr rfl (fun k _ => ?_)
  rw [← prod_tog]; ring

theorem prod_sgm_comm (T E : Finset ℕ) :
    ∏ i ∈ E, sgm T i = ∏ i ∈ T, (if i ∈ E then (-1 : ℚ) else 1) := by
  unfold sgm
  rw [Finset.prod_ite_mem, Finset.prod_ite_mem, Finset.inter_comm]

theorem gS_zero (a : ℕ → ℕ → ℚ) (N : ℕ) (E : Finset ℕ) :
    gS a N 0 E = ∏ i ∈ range N, ((if i ∈ E then (-1 : ℚ) else 1) + 1) := by
  unfold gS
  rw [Finset.prod_add]
  refine Finset.sum_congr rfl (fun T _ => ?_)
  simp [prod_sgm_comm]

theorem gS_zero_empty (a : ℕ → ℕ → ℚ) (N : ℕ) : gS a N 0 ∅ = 2 ^ N := by
  rw [gS_zero]; simp; norm_num

theorem gS_zero_ne (a : ℕ → ℕ → ℚ) (N : ℕ) (E : Finset ℕ) (i : ℕ) (hi : i ∈ E) (hN : i < N) :
    gS a N 0 E = 0 := by
  rw [gS_zero]
  apply Finset.prod_eq_zero (Finset.mem_range.2 hN)
  simp [hi]

theorem tog_subset {E : Finset ℕ} {N k : ℕ} (hE : E ⊆ range (N + 1)) (hk : k ∈ range (N + 1)) :
    tog E k ⊆ range (N + 1) := by
  unfold tog
  split
  · exact (Finset.erase_subset _ _).trans hE
  · exact Finset.insert_subset hk hE

theorem card_tog_erase (E : Finset ℕ) (N k : ℕ) :
    (E.erase N).card ≤ ((tog E k).erase N).card + 1 := by
  have h1 : (E.erase N).erase k ⊆ (tog E k).erase N := by
    intro x hx
    simp only [Finset.mem_erase] at hx
    unfold tog
    split <;> simp [Finset.mem_erase, Finset.mem_insert, hx]
  have h2 := Finset.card_le_card h1
  have h3 := Finset.pred_card_le_card_erase (s := E.erase N) (a := k)
  omega

theorem gS_vanish (a : ℕ → ℕ → ℚ) (N : ℕ) : ∀ (c : ℕ) (E : Finset ℕ), E ⊆ range (N + 1) →
    c < (E.erase N).card → gS a N c E = 0 := by
  intro c
  induction c with
  | zero =>
    intro E hE hc
    obtain ⟨i, hi⟩ := Finset.card_pos.1 hc
    rw [Finset.mem_erase] at hi
    have := Finset.mem_range.1 (hE hi.2)
    exact gS_zero_ne a N E i hi.2 (by omega)
  | succ c ih =>
    intro E hE hc
    rw [gS_succ]
    apply Finset.sum_eq_zero
    intro k hk
    rw [ih (tog E k) (tog_subset hE hk) (by have := card_tog_erase E N k; omega), mul_zero]

theorem sumPick_nodup (f : ℕ → List ℕ → ℚ) (l : List ℕ) (h : l.Nodup) :
    sumPick f l = ∑ k ∈ l.toFinset, f k (l.erase k) := by
  induction l generalizing f with
  | nil => simp [sumPick]
  | cons x xs ih =>
    rw [List.nodup_cons] at h
    simp only [sumPick, List.toFinset_cons]
    rw [Finset.sum_insert (by simpa using h.1), ih _ h.2]
    congr 1
    · simp
    · refine Finset.sum_congr rfl (fun k hk => ?_)
      have : x ≠ k := by
        rintro rfl; exact h.1 (List.mem_toFinset.1 hk)
      rw [List.erase_cons_tail (by simpa using this)]

/-- the rows of `M` with index in `E` (indices `≤ N`), in order -/
def rowsOf (M : Mat) (N : ℕ) (E : Finset ℕ) : Mat :=
  ((List.range (N + 1)).filter (· ∈ E)).map (fun i => M.getD i [])

theorem gS_perm (M : Mat) (N : ℕ) : ∀ (c : ℕ) (E : Finset ℕ), E ⊆ range (N + 1) →
    E.card = c → gS (entry M) N c E = 2 ^ N * permN c (rowsOf M N E) := by
  intro c
  induction c with
  | zero =>
    intro E hE hc
    rw [Finset.card_eq_zero] at hc
    subst hc
    rw [gS_zero_empty]; simp [permN]
  | succ c ih =>
    intro E hE hc
    rw [gS_succ, ← Finset.sum_subset hE]
    · simp only [permN, rowsOf]
      rw [sumPick_map, sumPick_nodup _ _ (List.nodup_range.filter _), Finset.mul_sum]
      have hfin : ((List.range (N + 1)).filter (· ∈ E)).toFinset = E := by
        ext x; simp only [List.mem_toFinset, List.mem_filter, List.mem_range, decide_eq_true_eq]
        constructor
        · exact fun h => h.2
        · exact fun h => ⟨Finset.mem_range.1 (hE h), h⟩
      rw [hfin]
      refine Finset.sum_congr rfl (fun k hk => ?_)
      have htog : tog E k = E.erase k := by unfold tog; rw [if_pos hk]
      rw [htog, ih (E.erase k) ((Finset.erase_subset _ _).trans hE)
        (by rw [Finset.card_erase_of_mem hk]; omega)]
      have : ((List.range (N + 1)).filter (· ∈ E)).erase k
          = (List.range (N + 1)).filter (· ∈ E.erase k) := by
        rw [(List.nodup_range.filter _).erase_eq_filter, List.filter_filter]
        apply List.filter_congr
        intro x _
        by_cases hxk : x = k <;> simp [Finset.mem_erase, hxk]
      rw [this]
      unfold rowsOf entry
      ring
    · intro k hk hkE
      have htog : tog E k = insert k E := by unfold tog; rw [if_neg hkE]
      rw [gS_vanish _ _ _ _ (tog_subset hE hk), mul_zero]
      rw [htog]
      by_cases hkN : k = N
      · subst hkN
        rw [Finset.erase_insert hkE]; omega
      · rw [Finset.erase_insert_of_ne hkN, Finset.card_insert_of_notMem (by simp [hkE])]
        have := Finset.pred_card_le_card_erase (s := E) (a := N)
        omega

theorem rowsOf_full (M : Mat) (N : ℕ) (hM : M.length = N + 1) : rowsOf M N (range (N + 1)) = M := by
  unfold rowsOf
  have hf : (List.range (N + 1)).filter (· ∈ range (N + 1)) = List.range (N + 1) := by
    rw [List.filter_eq_self]; intro x hx; simpa using hx
  rw [hf]
  apply List.ext_getElem
  · simp [hM]
  · intro i h1 h2
    simp [List.getD, List.getElem?_eq_getElem h2]

/-- **Glynn's identity** (last row fixed to `+1`). -/
theorem glynn_identity (M : Mat) (N : ℕ) (hM : M.length = N + 1) :
    gS (entry M) N (N + 1) (range (N + 1)) = 2 ^ N * permC M := by
  rw [gS_perm M N (N + 1) _ (Finset.Subset.refl _) (by simp), rowsOf_full M N hM, permC, hM]

def gray (k : ℕ) : ℕ := k ^^^ (k / 2)

theorem xor4_mod_two (a b c d : ℕ) : ((a ^^^ b) ^^^ (c ^^^ d)) % 2 = (a + b + c + d) % 2 := by
  rw [Nat.xor_mod_two_eq, Nat.add_mod, Nat.xor_mod_two_eq, Nat.xor_mod_two_eq]; omega

theorem gray_step : ∀ k : ℕ, 1 ≤ k → ∃ t, gray (k - 1) ^^^ gray k = 2 ^ t ∧ 2 ^ t ∣ k := by
  intro k
  induction k using Nat.strong_induction_on with
  | _ k ih =>
    intro hk
    rcases Nat.even_or_odd' k with ⟨m, rfl | rfl⟩
    · -- k = 2m
      have hm : 1 ≤ m := by omega
      obtain ⟨t, ht, hd⟩ := ih m (by omega) hm
      refine ⟨t + 1, ?_, ?_⟩
      · have h2 : (gray (2 * m - 1) ^^^ gray (2 * m)) / 2 = gray (m - 1) ^^^ gray m := by
          unfold gray
          simp only [Nat.xor_div_two]
          have e1 : (2 * m - 1) / 2 = m - 1 := by omega
          have e2 : 2 * m / 2 = m := by omega
          rw [e1, e2]
        have h3 : (gray (2 * m - 1) ^^^ gray (2 * m)) % 2 = 0 := by
          unfold gray
          rw [xor4_mod_two]
          omega
        rw [ht] at h2
        rw [pow_succ]; omega
      · rw [pow_succ, mul_comm]; exact Nat.mul_dvd_mul_left 2 hd
    · refine ⟨0, ?_, by simp⟩
      have e0 : 2 * m + 1 - 1 = 2 * m := by omega
      rw [e0]
      have h2 : (gray (2 * m) ^^^ gray (2 * m + 1)) / 2 = 0 := by
        unfold gray
        simp only [Nat.xor_div_two]
        have e1 : (2 * m + 1) / 2 = m := by omega
        have e2 : 2 * m / 2 = m := by omega
        rw [e1, e2]; simp
      have h3 : (gray (2 * m) ^^^ gray (2 * m + 1)) % 2 = 1 := by
        unfold gray
        rw [xor4_mod_two]
        omega
      simp; omega

theorem pow2Index_pow {n t : ℕ} (h : t < n) : pow2Index n (2 ^ t) = some t := by
  unfold pow2Index
  rw [List.find?_eq_some_iff_append]
  refine ⟨by simp, List.range t, (List.range' (t + 1) (n - t - 1)), ?_, ?_⟩
  · rw [List.range_eq_range', List.range_eq_range']
    have : n = t + (1 + (n - t - 1)) := by omega
    conv_lhs => rw [this]
    rw [← List.range'_append_1, ← List.range'_append_1]
    simp
  · intro i hi
    have : i < t := List.mem_range.1 hi
    simp
    omega

theorem flip_testBit {g g' t : ℕ} (h : g ^^^ g' = 2 ^ t) (i : ℕ) :
    g'.testBit i = (g.testBit i ^^ decide (t = i)) := by
  have : g' = g ^^^ 2 ^ t := by rw [← h, ← Nat.xor_assoc, Nat.xor_self, Nat.zero_xor]
  rw [this, Nat.testBit_xor, Nat.testBit_two_pow]

theorem flip_cmpDir {g g' t : ℕ} (h : g ^^^ g' = 2 ^ t) :
    cmpDir g g' = if g.testBit t then 2 else -2 := by
  have hb := flip_testBit h
  have ht := hb t
  simp at ht
  unfold cmpDir
  cases hg : g.testBit t
  · have : g < g' := Nat.lt_of_testBit t hg (by rw [ht, hg]; rfl) (by
      intro j hj; rw [hb j]; simp [Nat.ne_of_lt hj])
    rw [if_neg (by omega), if_neg (by omega)]; simp
  · have : g' < g := Nat.lt_of_testBit t (by rw [ht, hg]; rfl) hg (by
      intro j hj; rw [hb j]; simp [Nat.ne_of_lt hj])
    rw [if_neg (by omega), if_pos (by omega)]; simp

/-- sign of row `i` when the Gray code is `g` (bit set = row negated) -/
def sgb (g i : ℕ) : ℚ := if g.testBit i then -1 else 1

def vecG (a : ℕ → ℕ → ℚ) (n g : ℕ) : List ℚ :=
  (List.range n).map (fun j => ∑ i ∈ range n, sgb g i * a i j)

def sgnG (n g : ℕ) : ℚ := ∏ i ∈ range n, sgb g i

/-- the loop state after `k` iterations -/
def stG (M : Mat) (n k : ℕ) (tot : ℚ) : GState :=
  { total := tot, rowComb := vecG (entry M) n (gray k), old := gray k, sign := sgnG n (gray k) }

theorem sgb_flip {g g' t : ℕ} (h : g ^^^ g' = 2 ^ t) (i : ℕ) :
    sgb g' i = sgb g i * (if i = t then -1 else 1) := by
  unfold sgb
  rw [flip_testBit h i]
  by_cases hit : i = t
  · subst hit; cases g.testBit i <;> simp
  · have : ¬ t = i := fun e => hit e.symm
    cases g.testBit i <;> simp [hit, this]

theorem sgnG_flip {n g g' t : ℕ} (h : g ^^^ g' = 2 ^ t) (ht : t < n) :
    sgnG n g' = - sgnG n g := by
  unfold sgnG
  simp only [sgb_flip h]
  rw [Finset.prod_mul_distrib, Finset.prod_ite_eq', if_pos (Finset.mem_range.2 ht)]
  ring

theorem sum_flip (a : ℕ → ℕ → ℚ) {n g g' t : ℕ} (h : g ^^^ g' = 2 ^ t) (ht : t < n) (j : ℕ) :
    ∑ i ∈ range n, sgb g' i * a i j
      = ∑ i ∈ range n, sgb g i * a i j + a t j * ((cmpDir g g' : ℤ) : ℚ) := by
  have e : ∀ i, sgb g' i * a i j = sgb g i * a i j + (if i = t then -2 * sgb g t * a t j else 0) := by
    intro i
    rw [sgb_flip h i]
    by_cases hit : i = t
    · subst hit; simp; ring
    · simp [hit]
  simp only [e]
  rw [Finset.sum_add_distrib, Finset.sum_ite_eq', if_pos (Finset.mem_range.2 ht), flip_cmpDir h]
  unfold sgb
  cases g.testBit t <;> simp <;> ring

theorem row_eq_map (M : Mat) (n : ℕ) (hsq : ∀ r ∈ M, r.length = n) (hn : M.length = n) {t : ℕ}
    (ht : t < n) : M.getD t [] = (List.range n).map (entry M t) := by
  have hl : (M.getD t []).length = n := by
    apply hsq
    rw [List.getD_eq_getElem _ _ (by omega)]
    exact List.getElem_mem _
  have he : entry M t = fun j => (M.getD t []).getD j 0 := rfl
  rw [he]
  generalize M.getD t [] = r at hl ⊢
  apply List.ext_getElem
  · simp [hl]
  · intro i h1 h2
    simp [List.getD, List.getElem?_eq_getElem h1]

theorem glynnStep_inv (M : Mat) (n : ℕ) (hsq : ∀ r ∈ M, r.length = n) (hn : M.length = n)
    (k : ℕ) (hk : k + 1 ≤ 2 ^ (n - 1)) (hn0 : 0 < n) (tot : ℚ) :
    glynnStep M n (k + 1) (stG M n k tot)
      = .ok (stG M n (k + 1) (tot + sgnG n (gray k) * prodL (vecG (entry M) n (gray k)))) := by
  obtain ⟨t, ht, hd⟩ := gray_step (k + 1) (by omega)
  rw [Nat.add_sub_cancel] at ht
  have htn : t < n := by
    have h1 : 2 ^ t ≤ 2 ^ (n - 1) := (Nat.le_of_dvd (by omega) hd).trans hk
    have := (Nat.pow_le_pow_iff_right (by norm_num : 1 < 2)).1 h1
    omega
  have hg : (k + 1) ^^^ ((k + 1) / 2) = gray (k + 1) := rfl
  unfold glynnStep
  simp only [stG, hg, ht, pow2Index_pow htn]
  have hdir : cmpDir (gray k) (gray (k + 1)) ≠ 0 := by
    rw [flip_cmpDir ht]; split <;> decide
  rw [if_neg hdir]
  congr 2
  · rw [row_eq_map M n hsq hn htn]
    unfold vecG
    rw [List.zipWith_map, List.zipWith_self]
    apply List.map_congr_left
    intro j _
    rw [sum_flip (entry M) ht htn j]
  · rw [sgnG_flip ht htn]

/-- the term the loop adds in the iteration that starts in Gray state `gray k` -/
def termG (M : Mat) (n k : ℕ) : ℚ := sgnG n (gray k) * prodL (vecG (entry M) n (gray k))

theorem glynnLoop_inv (M : Mat) (n : ℕ) (hsq : ∀ r ∈ M, r.length = n) (hn : M.length = n)
    (hn0 : 0 < n) : ∀ (fuel k : ℕ) (tot : ℚ), k + fuel ≤ 2 ^ (n - 1) →
    glynnLoop M n fuel (k + 1) (stG M n k tot)
      = .ok (stG M n (k + fuel) (tot + ∑ m ∈ range fuel, termG M n (k + m))) := by
  intro fuel
  induction fuel with
  | zero => intro k tot _; simp [glynnLoop]
  | succ fuel ih =>
    intro k tot hk
    unfold glynnLoop
    rw [glynnStep_inv M n hsq hn k (by omega) hn0 tot]
    simp only
    rw [ih (k + 1) _ (by omega)]
    rw [Finset.sum_range_succ']
    congr 2
    · omega
    · simp only [termG, Nat.add_zero]
      have : ∀ m, k + 1 + m = k + (m + 1) := by intro m; omega
      simp only [this]
      ring

theorem list_sum_map_getD {α : Type} (l : List α) (f : α → ℚ) (d : α) :
    (l.map f).sum = ∑ i ∈ range l.length, f (l.getD i d) := by
  induction l with
  | nil => simp
  | cons x xs ih =>
    simp only [List.map_cons, List.sum_cons, List.length_cons]
    rw [Finset.sum_range_succ', ih]
    simp [add_comm]

theorem stG_zero (M : Mat) (n : ℕ) (hsq : ∀ r ∈ M, r.length = n) (hn : M.length = n)
    (hn0 : 0 < n) :
    ({ total := 0, rowComb := colSums M, old := 0, sign := 1 } : GState) = stG M n 0 0 := by
  have hg : gray 0 = 0 := by decide
  have hs : ∀ i, sgb 0 i = 1 := by intro i; simp [sgb]
  unfold stG
  rw [hg]
  congr 1
  · unfold colSums vecG
    have hc : ncols M = n := by
      cases M with
      | nil => simp at hn; omega
      | cons r rs => exact hsq r (by simp)
    rw [hc]
    apply List.map_congr_left
    intro j _
    unfold colOf
    rw [list_sum_map_getD M _ [], hn]
    simp [hs, entry]
  · simp [sgnG, hs]

theorem gray_inj {a b : ℕ} (h : gray a = gray b) : a = b := by
  have h1 : (a ^^^ b) ^^^ ((a ^^^ b) / 2) = 0 := by
    have : (a ^^^ b) ^^^ ((a ^^^ b) / 2) = gray a ^^^ gray b := by
      unfold gray
      rw [Nat.xor_div_two]
      ac_rfl
    rw [this, h, Nat.xor_self]
  have h2 : a ^^^ b = (a ^^^ b) / 2 := Nat.xor_eq_zero_iff.1 h1
  have h3 : a ^^^ b = 0 := by omega
  exact Nat.xor_eq_zero_iff.1 h3

theorem gray_lt {N m : ℕ} (h : m < 2 ^ N) : gray m < 2 ^ N :=
  Nat.xor_lt_two_pow h (by omega)

/-- the set of negated rows (`< N`) encoded by `g` -/
def bitsF (N g : ℕ) : Finset ℕ := (range N).filter (fun i => g.testBit i)

theorem sgb_eq_sgm {N g i : ℕ} (hg : g < 2 ^ N) (hi : i < N + 1) : sgb g i = sgm (bitsF N g) i := by
  unfold sgb sgm bitsF
  by_cases hiN : i < N
  · simp [hiN]
  · have : i = N := by omega
    subst this
    simp [Nat.testBit_lt_two_pow hg]

theorem prodL_map_range (f : ℕ → ℚ) (n : ℕ) : prodL ((List.range n).map f) = ∏ j ∈ range n, f j := by
  have hp : ∀ l₁ l₂ : List ℚ, prodL (l₁ ++ l₂) = prodL l₁ * prodL l₂ := by
    intro l₁ l₂
    induction l₁ with
    | nil => simp [prodL]
    | cons x xs ih => simp [prodL, ih, mul_assoc]
  induction n with
  | zero => simp [prodL]
  | succ n ih =>
    rw [List.range_succ, List.map_append, hp, ih, Finset.prod_range_succ]
    simp [prodL]

theorem termG_eq (M : Mat) (N m : ℕ) (hm : m < 2 ^ N) :
    termG M (N + 1) m = (∏ i ∈ range (N + 1), sgm (bitsF N (gray m)) i) *
      ∏ j ∈ range (N + 1), ∑ i ∈ range (N + 1), sgm (bitsF N (gray m)) i * entry M i j := by
  have hg := gray_lt hm
  unfold termG sgnG vecG
  rw [prodL_map_range]
  congr 1
  · exact Finset.prod_congr rfl (fun i hi => sgb_eq_sgm hg (Finset.mem_range.1 hi))
  · refine Finset.prod_congr rfl (fun j _ => Finset.sum_congr rfl (fun i hi => ?_))
    rw [sgb_eq_sgm hg (Finset.mem_range.1 hi)]

theorem bitsF_injOn (N : ℕ) : Set.InjOn (fun m => bitsF N (gray m)) (range (2 ^ N) : Set ℕ) := by
  intro a ha b hb h
  simp only [Finset.coe_range, Set.mem_Iio] at ha hb
  apply gray_inj
  apply Nat.eq_of_testBit_eq
  intro i
  by_cases hi : i < N
  · have h1 : i ∈ bitsF N (gray a) ↔ i ∈ bitsF N (gray b) := by
      simp only [] at h; rw [h]
    simp only [bitsF, Finset.mem_filter, Finset.mem_range, hi, true_and] at h1
    cases h2 : (gray a).testBit i <;> cases h3 : (gray b).testBit i <;> simp_all
  · rw [Nat.testBit_lt_two_pow ((gray_lt ha).trans_le (Nat.pow_le_pow_right (by norm_num) (by omega))),
      Nat.testBit_lt_two_pow ((gray_lt hb).trans_le (Nat.pow_le_pow_right (by norm_num) (by omega)))]

theorem image_bitsF (N : ℕ) :
    (range (2 ^ N)).image (fun m => bitsF N (gray m)) = (range N).powerset := by
  apply Finset.eq_of_subset_of_card_le
  · intro T hT
    rw [Finset.mem_image] at hT
    obtain ⟨m, _, rfl⟩ := hT
    rw [Finset.mem_powerset]
    exact Finset.filter_subset _ _
  · rw [Finset.card_image_of_injOn (bitsF_injOn N)]
    simp

theorem sum_termG (M : Mat) (N : ℕ) :
    ∑ m ∈ range (2 ^ N), termG M (N + 1) (0 + m) = gS (entry M) N (N + 1) (range (N + 1)) := by
  unfold gS
  rw [← image_bitsF N, Finset.sum_image (bitsF_injOn N)]
  refine Finset.sum_congr rfl (fun m hm => ?_)
  rw [Nat.zero_add, termG_eq M N m (Finset.mem_range.1 hm)]

theorem glynn_eq_gS (M : Mat) (N : ℕ) (hM : M.length = N + 1)
    (hsq : ∀ r ∈ M, r.length = M.length) :
    glynn M = .ok (gS (entry M) N (N + 1) (range (N + 1)) / 2 ^ N) := by
  rw [hM] at hsq
  unfold glynn
  simp only [hM, Nat.add_sub_cancel]
  rw [if_neg (by omega), stG_zero M (N + 1) hsq hM (by omega)]
  have := glynnLoop_inv M (N + 1) hsq hM (by omega) (2 ^ N) 0 0 (by simp)
  rw [Nat.zero_add] at this
  rw [this, sum_termG]
  simp [stG]

theorem glynn_eq_permC (M : Mat) (hn : 0 < M.length) (hsq : ∀ r ∈ M, r.length = M.length) :
    glynn M = .ok (permC M) := by
  obtain ⟨N, hN⟩ : ∃ N, M.length = N + 1 := ⟨M.length - 1, by omega⟩
  rw [glynn_eq_gS M N hN hsq, glynn_identity M N hN]
  congr 1
  have : (2 : ℚ) ^ N ≠ 0 := by positivity
  field_simp

end

theorem glynn_eq_permC_1 (a : Rat) : glynn [[a]] = .ok (permC [[a]]) :=
  glynn_eq_permC _ (Nat.succ_pos _) (by simp)

theorem glynn_eq_permC_2 (a b c d : Rat) :
    glynn [[a, b], [c, d]] = .ok (permC [[a, b], [c, d]]) :=
  glynn_eq_permC _ (Nat.succ_pos _) (by simp)

theorem glynn_eq_permC_3 (a b c d e f g h i : Rat) :
    glynn [[a, b, c], [d, e, f], [g, h, i]] = .ok (permC [[a, b, c], [d, e, f], [g, h, i]]) :=
  glynn_eq_permC _ (Nat.succ_pos _) (by simp)

end Infretis.Perm
