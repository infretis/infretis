import Infretis.Lemmas.RepexC05Sort
import Infretis.Lemmas.RepexC05Treat
import Infretis.Lemmas.RepexC03Init
/-!
# C05 — `treat_output` and the scheduler events preserve the family invariant

`preSort` (RepexLoops) is `treat_output` up to (not including) the call of `sort_trajstate`, so "the sort does not
fail on the state `treat_output` hands it" can be stated exactly.  `preSort_fam` and `preSort_diagR` carry `Fam` and
`DiagR` to that state along the links of `preSort_ok_iff`; `CoreR` there is C03's `preSort_coreR`.
`Inv5 y` = C03's scheduler invariant `InvR y` + `Fam` + `DiagR` + "every job records the paths it holds"; `Init5`:
the fresh start states that satisfy it.
-/
namespace Infretis.Repex

theorem preSort_fam {s s3 : St} {H : List (Nat × Nat)} (job : Job) (status : Status)
    (newW : List (List Rat)) (tn : Nat) (pns : List Nat)
    (hc : CoreR s (heldJob job ++ H) s.trajNum) (hf : Fam s s.trajNum)
    (hge : ∀ p ∈ job.picked, -1 ≤ p.ens) (hold : job.pnumOld = job.picked.map (·.pn))
    (hvec : status = .acc → ∀ pw ∈ job.picked.zip newW, VecOk s.n pw.1.ens pw.2)
    (hp : preSort s job status newW = .ok (s3, tn, pns)) :
    Fam s3 tn ∧ s.trajNum ≤ tn ∧ (status = .acc → ∀ q ∈ pns, s.trajNum ≤ q ∧ q < tn) := by
  obtain ⟨s1, s2, hlen, hper, hrec, hwr⟩ := preSort_ok_iff.mp hp
  obtain ⟨hf1, hle⟩ := perEns_fam (heldPicked_zip hlen ▸ hc) hf
    (fun pw hpw => hge pw.1 (List.of_mem_zip hpw).1)
    (fun ha pw hpw => hvec ha pw (by rwa [Frac.jobWs, if_pos ha] at hpw)) hper
  have hf2 := recordFrac_fam hf1 hrec
  by_cases hacc : status = .acc
  · rw [if_pos hacc] at hwr
    subst hacc
    have hheld : ∀ p ∈ job.picked, slotOf p < s.n - 1 ∧ s.trajs[slotOf p]? = some (some p.pn) ∧
        p.pn < s.trajNum := by
      intro p hp
      have hm : (slotOf p, p.pn) ∈ heldJob job ++ H :=
        List.mem_append_left _ (List.mem_map.mpr ⟨p, hp, rfl⟩)
      obtain ⟨h1, h2, _⟩ := hc.heldOk _ _ hm
      obtain ⟨q, hq, hqlt⟩ := hc.live _ h1
      rw [h2] at hq
      have : q = p.pn := by simpa using hq.symm
      exact ⟨h1, h2, by omega⟩
    have hf3 : Fam s3 tn := by
      apply writeRows_fam job.pnumOld hf2 _ _ hwr
      · intro pn hpn
        rw [hold] at hpn
        obtain ⟨p, hp, rfl⟩ := List.mem_map.mp hpn
        have := (hheld p hp).2.2
        omega
      · intro i q hi hq hmem
        rw [hold] at hmem
        obtain ⟨p, hp, hpq⟩ := List.mem_map.mp hmem
        obtain ⟨h1, h2, h3⟩ := hheld p hp
        rw [(recordFrac_touches hrec).trajs] at hq
        rcases (perEns_acc_spec hper).2.2 i q hq with hq1 | ⟨hq1, hq2⟩
        · omega
        · rw [← hpq] at hq1
          rw [(recordFrac_touches hrec).n, hper.touches.n] at hi
          have := hc.inj i (slotOf p) p.pn hi h1 hq1 h2
          apply hq2
          rw [map_fst_of_zip slotOf hlen, this]
          exact List.mem_map.mpr ⟨p, hp, rfl⟩
    refine ⟨hf3, hle, ?_⟩
    intro _ q hq
    obtain ⟨h1, h2, _⟩ := perEns_acc_spec hper
    subst h2
    rw [List.mem_range'_1] at hq
    omega
  · rw [if_neg hacc] at hwr
    simp only [Except.ok.injEq] at hwr
    subst hwr
    exact ⟨hf2, hle, fun h => absurd h hacc⟩

theorem preSort_diagR {s s3 : St} {H : List (Nat × Nat)} {tn0 : Nat} (job : Job) (status : Status)
    (newW : List (List Rat)) (tn : Nat) (pns : List Nat) (hc : CoreR s H tn0) (hd : DiagR s)
    (hp : preSort s job status newW = .ok (s3, tn, pns)) : DiagR s3 := by
  obtain ⟨s1, s2, _, hper, hrec, hwr⟩ := preSort_ok_iff.mp hp
  obtain ⟨_, g4⟩ := perEns_idle (by rw [hc.lenW, hc.lenL]) hper
  have t := (recordFrac_touches hrec).comp (writeRowsIf_touches hwr) (hs := [.rows, .frac, .wts])
  intro h0 hne i hi
  rw [(preSort_touches hp).toinitiate] at h0
  rw [(preSort_touches hp).locked0] at hne
  rw [t.locks] at hi
  rw [t.W]
  rcases g4 i hi with ⟨h1, h2⟩ | h1
  · rw [entryM_congr _ _ _ _ h2]
    exact hd h0 hne i h1
  · exact h1

/-- **the sort never fails** on a state with the two invariants, such as `treat_output` hands it (any number of
    workers): it stops within `mu s3 ≤ n²` iterations (`mu` of `RepexC05Sort`), so any fuel above `n²` does -/
theorem sort_after_preSort {s3 : St} {H : List (Nat × Nat)} {tn tn' : Nat} (fuel : Nat)
    (hc : CoreR s3 H tn') (hf : Fam s3 tn) (hfuel : s3.n * s3.n < fuel) :
    ∃ s4 k, sortTrajstate fuel s3 = .ok (s4, k) ∧ k ≤ mu s3 := by
  obtain ⟨s4, k, hs, _, _, hle⟩ := sorts_exists hc hf
  have hmu := mu_le s3 hc.lenW
  exact ⟨s4, k, sortTrajstate_ok_iff.mpr ⟨by omega, hs⟩, by omega⟩

theorem treatOutput_inv {s s' : St} {H : List (Nat × Nat)} (job : Job) (status : Status)
    (newW : List (List Rat)) (fuel : Nat) (pns : List Nat) (it : Nat)
    (hc : CoreR s (heldJob job ++ H) s.trajNum) (hf : Fam s s.trajNum) (hd : DiagR s)
    (hge : ∀ p ∈ job.picked, -1 ≤ p.ens) (hold : job.pnumOld = job.picked.map (·.pn))
    (hvec : status = .acc → ∀ pw ∈ job.picked.zip newW, VecOk s.n pw.1.ens pw.2)
    (ht : treatOutput s job status newW fuel = .ok (s', pns, it)) :
    Fam s' s'.trajNum ∧ s.trajNum ≤ s'.trajNum ∧
      (s.toinitiate = -1 → ∀ i, i < s'.n - 1 → entryM s'.W i i ≠ 0) ∧
      (status = .acc → ∀ q ∈ pns, s.trajNum ≤ q ∧ q < s'.trajNum) ∧ DiagR s' := by
  obtain ⟨s3, tn, s4, hpre, hsort, rfl⟩ := treatOutput_ok_iff.mp ht
  obtain ⟨hf3, hle, hfresh⟩ := preSort_fam job status newW tn pns hc hf hge hold hvec hpre
  obtain ⟨_, hf4, hfix, _⟩ := sortTrajstate_inv (preSort_coreR hc hpre) hf3 (Sorts.of_ok hsort)
  have hd3 := preSort_diagR job status newW tn pns hc hd hpre
  refine ⟨hf4.relock rfl rfl rfl rfl rfl rfl hf4.perm, hle, ?_, hfresh, ?_⟩
  -- after the initiation the diagonal is that of the sort's fixed point; `DiagR` asks something only during it,
  -- when the sort does nothing and `DiagR` of the state before the sort carries over
  · intro hto i hi
    have hto4 : s4.toinitiate = -1 := by
      rw [(sortTrajstate_touches _ hsort).toinitiate, (preSort_touches hpre).toinitiate]; exact hto
    exact diag_of_sortStep_none hfix hto4 i hi
  · intro h0
    have h03 : s3.toinitiate ≠ -1 := by
      have : s4.toinitiate = s3.toinitiate := (sortTrajstate_touches _ hsort).toinitiate
      have h0' : 0 ≤ s4.toinitiate := h0
      omega
    have := sortTrajstate_noop h03 (Sorts.of_ok hsort)
    subst this
    exact hd3 h0

structure Inv5 (y : Sys) : Prop where
  inv : InvR y
  fam : Fam y.s y.s.trajNum
  diagR : DiagR y.s
  pnum : ∀ j ∈ y.jobs, j.pnumOld = j.picked.map (·.pn)

theorem inv5_of_diag {y : Sys} (hinv : InvR y)
    (rows : ∀ i, i < y.s.n - 1 → RowOk y.s.n i (y.s.W.getD i []))
    (diag : ∀ i, i < y.s.n - 1 → entryM y.s.W i i ≠ 0)
    (wts : ∀ i pn, i < y.s.n - 1 → y.s.trajs[i]? = some (some pn) →
      ∃ w, y.s.wts.lookup pn = some w ∧ padValid y.s ((i : Int) - 1) w = y.s.W.getD i [])
    (wkeys : ∀ k ∈ y.s.wts.map Prod.fst, k < y.s.trajNum)
    (fkeys : ∀ k ∈ y.s.frac.map Prod.fst, k < y.s.trajNum)
    (rkeys : ∀ x ∈ y.s.rows, x.1 < y.s.trajNum) (hj : y.jobs = []) : Inv5 y := by
  have hidle : ∀ i : Nat, y.s.locks[i]? = some false → entryM y.s.W i i ≠ 0 :=
    fun i hi => diag i (hinv.core.unlocked_lt i hi)
  refine ⟨hinv, ⟨rows, ?_, wts, wkeys, fkeys, rkeys⟩, fun _ _ => hidle, fun j hj' => ?_⟩
  · exact idle_perm_pos_of_diag y.s.n _ _ hinv.core.lenW hinv.core.lenL hinv.core.ghost rows hidle
  · rw [hj] at hj'
    exact absurd hj' (List.not_mem_nil)

theorem mem_zip_map_left {α β γ : Type} (f : α → β) {l : List α} {ws : List γ} {pw : α × γ}
    (h : pw ∈ l.zip ws) : (f pw.1, pw.2) ∈ (l.map f).zip ws := by
  rw [List.zip_map_left]
  exact List.mem_map.mpr ⟨pw, h, rfl⟩

/-- the outcomes an event brings in are in C02's weight family: for an accepted move, the new
    weight vector of every picked ensemble -/
def EvOk (y : Sys) : Ev → Prop
  | .step k status newW _ => status = .acc → ∀ job, y.jobs[k]? = some job →
      ∀ pw ∈ job.picked.zip newW, VecOk y.s.n pw.1.ens pw.2
  | _ => True

/-- the state `treat_output` of the `k`-th job in flight starts from (`loop()` has counted the
    step): the invariants with the job's slots split off, and what `preSort_fam` asks of the job -/
theorem Inv5.atJob {y : Sys} (hi : Inv5 y) {k : Nat} {job : Job} (hjob : y.jobs[k]? = some job) :
    CoreR (loop y.s).1 (heldJob job ++ held (y.jobs.eraseIdx k)) (loop y.s).1.trajNum ∧
    Fam (loop y.s).1 (loop y.s).1.trajNum ∧ (loop y.s).1.n = y.s.n ∧
    (∀ p ∈ job.picked, -1 ≤ p.ens) ∧ job.pnumOld = job.picked.map (·.pn) := by
  have hl := loop_touches y.s
  have hjmem : job ∈ y.jobs := List.mem_of_getElem? hjob
  refine ⟨hi.inv.core_completion hjob, ?_, hl.n, (hi.inv.jobs job hjmem).ensGe, hi.pnum job hjmem⟩
  rw [hl.trajNum]
  exact hi.fam.frame hl

theorem Inv5.unused_of_ge {y : Sys} (hi : Inv5 y) {q : Nat} (hq : y.s.trajNum ≤ q) :
    (∀ e, e < y.s.n - 1 → y.s.trajs[e]? ≠ some (some q)) ∧
    q ∉ y.s.wts.map Prod.fst ∧ q ∉ y.s.frac.map Prod.fst ∧ q ∉ y.s.rows.map (·.1) := by
  refine ⟨fun e he hcontra => ?_, fun hm => ?_, fun hm => ?_, fun hm => ?_⟩
  · obtain ⟨pn, hpn, hlt⟩ := hi.inv.core.live e he
    rw [hpn, Option.some.injEq, Option.some.injEq] at hcontra
    omega
  · have := hi.fam.wkeys q hm; omega
  · have := hi.fam.fkeys q hm; omega
  · obtain ⟨x, hx, rfl⟩ := List.mem_map.mp hm
    have := hi.fam.rkeys x hx; omega

/-- under `Inv5` the sort inside `treat_output` returns with the scheduler's fuel `sortFuel` = `n² + 4` -/
theorem Inv5.sort_returns {y : Sys} (hi : Inv5 y) {k : Nat} {job : Job} (hjob : y.jobs[k]? = some job)
    (status : Status) (newW : List (List Rat))
    (hvec : status = .acc → ∀ pw ∈ job.picked.zip newW, VecOk y.s.n pw.1.ens pw.2)
    {s3 : St} {tn : Nat} {pns : List Nat}
    (hpre : preSort (loop y.s).1 job status newW = .ok (s3, tn, pns)) :
    ∃ s4 it, sortTrajstate (sortFuel (loop y.s).1) s3 = .ok (s4, it) ∧ it ≤ mu s3 ∧
      mu s3 ≤ s3.n * s3.n := by
  obtain ⟨hc1, hf1, hn, hge, hold⟩ := hi.atJob hjob
  have hc3 := preSort_coreR hc1 hpre
  obtain ⟨hf3, _, _⟩ := preSort_fam job status newW tn pns hc1 hf1 hge hold
    (fun ha => by rw [hn]; exact hvec ha) hpre
  obtain ⟨s4, it, hs, hle⟩ := sort_after_preSort (sortFuel (loop y.s).1) hc3 hf3
    (by unfold sortFuel; rw [(preSort_touches hpre).n]; omega)
  exact ⟨s4, it, hs, hle, mu_le s3 hc3.lenW⟩

theorem Inv5.initiated {y : Sys} (hi : Inv5 y) : Inv5 y.initiated := by
  have t := initiate_touches y.s
  refine ⟨initiate_invR hi.inv, ?_, hi.diagR.congr t.W t.locks t.locked0 (initiate_nonneg y.s), hi.pnum⟩
  show Fam _ (initiate y.s).1.trajNum
  rw [t.trajNum]
  exact hi.fam.frame t

/-- the completion of a job whose outcome is in the weight family: what holds when `treat_output` has returned -/
theorem Inv5.done {y ym : Sys} (hi : Inv5 y) {k : Nat} {status : Status} {newW : List (List Rat)} {job : Job}
    (o : PickOutcome) (hev : EvOk y (.step k status newW o)) (hc : Completes y k status newW job ym) :
    Inv5 ym ∧ InvMid ym ∧ y.s.trajNum ≤ ym.s.trajNum ∧
      (y.s.toinitiate = -1 → ∀ i, i < ym.s.n - 1 → entryM ym.s.W i i ≠ 0) ∧
      (∃ i : Nat, ym.s.locks[i]? = some false) ∧
      -- `Completes` hides the path numbers `treat_output` returned, hence the call once more
      ∀ {s2 pns it}, treatOutput (loop y.s).1 job status newW (sortFuel (loop y.s).1) = .ok (s2, pns, it) →
        status = .acc → ∀ q ∈ pns, y.s.trajNum ≤ q ∧ q < ym.s.trajNum := by
  have hm := hi.inv.mid_done hc
  cases hc with | @mk s2 pns it _ hjob htreat =>
  have hl := loop_touches y.s
  obtain ⟨hc1, hf1, hn1, hge, hold⟩ := hi.atJob hjob
  have hd1 : DiagR (loop y.s).1 := hi.diagR.frame hl
  have hjok := hi.inv.jobs job (List.mem_of_getElem? hjob)
  have hvec : status = .acc → ∀ pw ∈ job.picked.zip newW, VecOk (loop y.s).1.n pw.1.ens pw.2 := by
    intro ha
    rw [hn1]
    exact hev ha job hjob
  have hc2 := treatOutput_coreR job status newW _ pns it hc1 htreat
  have hn2 := (treatOutput_touches htreat).n
  have hidle : ∃ i : Nat, s2.locks[i]? = some false := by
    obtain ⟨p, hp⟩ := List.exists_mem_of_ne_nil _ hjok.ne_nil
    have hmem : (slotOf p, p.pn) ∈ heldJob job ++ held (y.jobs.eraseIdx k) :=
      List.mem_append_left _ (List.mem_map.mpr ⟨p, hp, rfl⟩)
    have hlt := (hc1.heldOk _ _ hmem).1
    have hnd := hc1.nodup
    rw [List.map_append, List.nodup_append] at hnd
    have hnot : slotOf p ∉ (held (y.jobs.eraseIdx k)).map Prod.fst := by
      intro hmem
      exact hnd.2.2 (slotOf p)
        (List.mem_map.mpr ⟨(slotOf p, p.pn), List.mem_map.mpr ⟨p, hp, rfl⟩, rfl⟩) (slotOf p) hmem rfl
    refine ⟨slotOf p, unlocked_of_not_locked _ _ (by rw [hc2.lenL, hn2]; omega) ?_⟩
    intro hl
    exact hnot ((hc2.busy (slotOf p) (by rw [hn2]; exact hlt)).mp hl)
  obtain ⟨hf2, hle, hdiag, hfresh, hd2⟩ := treatOutput_inv job status newW _ pns it hc1 hf1 hd1
    hge hold hvec htreat
  rw [hl.trajNum] at hle hfresh
  rw [hl.toinitiate] at hdiag
  refine ⟨⟨hm.inv, hf2, hd2, PnumOk.eraseIdx hi.pnum k⟩, hm, hle, hdiag, hidle, ?_⟩
  intro s2' pns' it' ht'
  rw [htreat] at ht'
  cases ht'
  exact hfresh

theorem Inv5.submit {ym y' : Sys} (hi : Inv5 ym) (hm : InvMid ym) {o : PickOutcome} {saved : Nat}
    {jd : Job × List Draw} (hs : Submits ym (some ym.s.cworker) o saved jd y') :
    Inv5 y' ∧ y'.s.trajNum = ym.s.trajNum := by
  have hinv := (hm.submit hs).1
  cases hs with | @mk s' job ds hprep =>
  obtain ⟨hf2, hd2⟩ := prep_fam hi.inv.core hi.fam hi.diagR _ o saved job ds hprep
  have htn2 := (prep_touches hprep).trajNum
  refine ⟨⟨hinv, ?_, hd2, PnumOk.append hi.pnum (prep_pnumOld hprep)⟩, htn2⟩
  show Fam s' s'.trajNum
  rw [htn2]; exact hf2

/-- `Kept` takes predicates of one state: that `trajNum` never falls rides along as `n0 ≤ trajNum`, `n0` the
    counter at the start -/
theorem inv5_kept (n0 : Nat) : Kept EvOk (fun y => Inv5 y ∧ n0 ≤ y.s.trajNum)
    (fun y => (Inv5 y ∧ InvMid y) ∧ n0 ≤ y.s.trajNum) where
  go {y} h hgo := ⟨⟨h.1.initiated, h.1.inv.mid_go hgo⟩, (initiate_touches y.s).trajNum ▸ h.2⟩
  stop {y} h _ := ⟨h.1.initiated, (initiate_touches y.s).trajNum ▸ h.2⟩
  done o h hev hc := by
    obtain ⟨h5, hm, hle, _⟩ := h.1.done o hev hc
    split
    · exact ⟨⟨h5, hm⟩, h.2.trans hle⟩
    · exact ⟨h5, h.2.trans hle⟩
  submit h hs := ⟨(h.1.1.submit h.1.2 hs).1, (h.1.1.submit h.1.2 hs).2 ▸ h.2⟩

theorem sysStep_preserves5 {y y' : Sys} (ev : Ev) (hi : Inv5 y) (hev : EvOk y ev)
    (h : sysStep y ev = .ok y') : Inv5 y' ∧ y.s.trajNum ≤ y'.s.trajNum :=
  (inv5_kept y.s.trajNum).sysStep ⟨hi, Nat.le_refl _⟩ hev h

/-- a history whose outcomes stay in the weight family (checked along the run) -/
def HistOk : Sys → List Ev → Prop
  | _, [] => True
  | y, ev :: rest => EvOk y ev ∧ ∀ y', sysStep y ev = .ok y' → HistOk y' rest

theorem histOk_iff_along : ∀ (evs : List Ev) (y : Sys), HistOk y evs ↔ Along EvOk y evs
  | [], _ => Iff.rfl
  | _ :: rest, _ => and_congr_right fun _ => forall_congr' fun y' => imp_congr_right fun _ => histOk_iff_along rest y'

theorem histOk_rest (a b : List Ev) {y ym : Sys} (h : HistOk y (a ++ b)) (hr : run y a = .ok ym) : HistOk ym b :=
  (histOk_iff_along b ym).mpr (((histOk_iff_along _ y).mp h).rest hr)

theorem histOk_prefix (a b : List Ev) {y : Sys} (h : HistOk y (a ++ b)) : HistOk y a :=
  (histOk_iff_along a y).mpr ((histOk_iff_along _ y).mp h).prefix

theorem run_preserves5 (evs : List Ev) {y y' : Sys} (hi : Inv5 y) (hh : HistOk y evs) (h : run y evs = .ok y') :
    Inv5 y' ∧ y.s.trajNum ≤ y'.s.trajNum :=
  (inv5_kept y.s.trajNum).run evs ⟨hi, Nat.le_refl _⟩ ((histOk_iff_along evs y).mp hh) h

/-! ### the initial state: every path valid in its own ensemble gives the identity matching -/

/-- The state `scheduler()` starts from (C03's `Init`) with initial paths from C02's weight family,
    each valid in its own ensemble (what `load_paths` asserts), their weights recorded in
    `traj_data`, and all recorded numbers below `traj_num`. -/
structure Init5 (y : Sys) : Prop where
  init : Init y
  rows : ∀ i, i < y.s.n - 1 → RowOk y.s.n i (y.s.W.getD i [])
  diag : ∀ i, i < y.s.n - 1 → entryM y.s.W i i ≠ 0
  wts : ∀ i pn, i < y.s.n - 1 → y.s.trajs[i]? = some (some pn) →
    ∃ w, y.s.wts.lookup pn = some w ∧ padValid y.s ((i : Int) - 1) w = y.s.W.getD i []
  wkeys : ∀ k ∈ y.s.wts.map Prod.fst, k < y.s.trajNum
  fkeys : ∀ k ∈ y.s.frac.map Prod.fst, k < y.s.trajNum
  rkeys : ∀ x ∈ y.s.rows, x.1 < y.s.trajNum

theorem Init5.inv5 {y : Sys} (h : Init5 y) : Inv5 y :=
  inv5_of_diag h.init.invR h.rows h.diag h.wts h.wkeys h.fkeys h.rkeys h.init.jobs

end Infretis.Repex
