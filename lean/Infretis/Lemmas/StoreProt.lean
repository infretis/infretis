import Infretis.Lemmas.StoreInv
/-!
C14 part B: `Prot` — the paths named by the restart file on disk keep their files — and its preservation
by `replace`, `finish` and a stale file appearing; `Good` through the latter two.
-/
namespace Infretis.Store

theorem idx_push (ks : List Nat) (k p : Nat) (hp : p ∈ (if k ∈ ks then ks else ks ++ [k])) :
    (p ∈ ks ∧ (if k ∈ ks then ks else ks ++ [k]).idxOf p = ks.idxOf p) ∨
    (p ∉ ks ∧ p = k ∧ (if k ∈ ks then ks else ks ++ [k]) = ks ++ [k] ∧ (ks ++ [k]).idxOf p = ks.length) := by
  by_cases hk : k ∈ ks
  · simp only [hk, if_true] at hp ⊢
    exact Or.inl ⟨hp, trivial⟩
  · simp only [hk, if_false] at hp ⊢
    by_cases hpk : p ∈ ks
    · left
      refine ⟨hpk, ?_⟩
      rw [List.idxOf_append]; simp [hpk]
    · right
      have : p = k := by
        rcases List.mem_append.mp hp with h | h
        · exact absurd h hpk
        · simpa using h
      subst this
      refine ⟨hpk, rfl, trivial, ?_⟩
      rw [List.idxOf_append]; simp [hpk]

structure Prot (s : St) : Prop where
  restart_lt : ∀ p ∈ s.restart, p < s.trajNum
  restart_intact : ∀ p ∈ s.restart, Intact s p
  olds_len : s.pnOlds.length + 1 ≤ s.n
  restart_prot : ∀ p ∈ s.restart, p ∈ keys s.pnOlds →
    s.n ≤ (s.n - 1 - s.pnOlds.length) + (keys s.pnOlds).idxOf p + 1 + s.cnt

theorem prot_replace (s : St) (hp : Prot s) (hb : s.cnt + 1 < s.n)
    (pnOld : Nat) (files kept : List String) : Prot (replace s pnOld files kept).1 := by
  have hlen := hp.olds_len
  -- the head of a full queue is not named by the restart file
  have hhead : ∀ p ∈ s.restart, ¬ Pops s pnOld p := by
    intro p hpr h
    have := hp.restart_prot p hpr h.mem_keys
    have hl := h.2.1
    rw [h.idxOf] at this
    omega
  have hint : ∀ p ∈ s.restart, Intact (replace s pnOld files kept).1 p := fun p hpr =>
    replace_intact s pnOld files kept p (hp.restart_lt p hpr) (hhead p hpr) (hp.restart_intact p hpr)
  have hol := olds_len_replace s hlen pnOld files kept
  rcases replace_cases s pnOld files kept with ⟨_, he⟩ | ⟨adr, olds, disk, dirs, e, _, hd, he⟩
  · rw [he]; exact hp
  rw [he] at hint hol ⊢
  refine ⟨fun p hpr => Nat.lt_succ_of_lt (hp.restart_lt p hpr), hint, hol, fun p hpr hpk => ?_⟩
  change p ∈ keys olds at hpk
  show s.n ≤ (s.n - 1 - olds.length) + (keys olds).idxOf p + 1 + (s.cnt + 1)
  have old := hp.restart_prot p hpr
  cases hd with
  | skip _ | raise _ _ _ _ _ _ _ => have := old hpk; omega
  | push _ hl =>
    rw [keys_dictSet] at hpk ⊢
    rw [length_dictSet]
    rcases idx_push (keys s.pnOlds) pnOld p hpk with ⟨h1, h2⟩ | ⟨h1, h2, h3, h4⟩
    · have := old h1
      rw [h2]
      split <;> omega
    · rw [h3, h4, keys_length]
      have : pnOld ∉ keys s.pnOlds := h2 ▸ h1
      simp only [this, if_false]
      omega
  | pop pd adrd rest _ _ hq hl ho _ _ =>
    have hL : s.pnOlds.length = rest.length + 1 := congrArg List.length ho
    have hrl : (rest.length : Int) ≤ (s.n : Int) - 2 := by omega
    rw [if_pos hrl] at hpk ⊢
    rw [keys_dictSet] at hpk ⊢
    rw [length_dictSet]
    rcases idx_push (keys rest) pnOld p hpk with ⟨h1, h2⟩ | ⟨h1, h2, h3, h4⟩
    · have hk : p ∈ keys s.pnOlds := by rw [ho]; exact List.mem_cons_of_mem _ h1
      have hne : pd ≠ p := fun e => hhead p hpr ⟨hq, hl, by rw [ho, e]; rfl⟩
      have hidx : (keys s.pnOlds).idxOf p = (keys rest).idxOf p + 1 := by
        rw [ho]
        exact idxOf_cons_of_ne pd p _ hne
      have := old hk
      rw [h2]
      split <;> omega
    · rw [h3, h4, keys_length]
      have : pnOld ∉ keys rest := h2 ▸ h1
      simp only [this, if_false]
      omega

theorem popAll_keys_sub : ∀ (ps : List Nat) (td : List (Nat × List String)) (q : Nat),
    q ∈ keys (popAll ps td).1 → q ∈ keys td := by
  intro ps
  induction ps with
  | nil => intro td q h; exact h
  | cons p ps ih =>
    intro td q h
    unfold popAll at h
    split at h
    · exact h
    · have := ih _ q h
      simp only [keys, erase, List.mem_map, List.mem_filter] at this ⊢
      obtain ⟨e, ⟨he, _⟩, hq⟩ := this
      exact ⟨e, he, hq⟩

theorem good_finish (s : St) (hg : Good s) : Good (finish s).1 := by
  unfold finish
  dsimp only
  split <;>
    exact ⟨hg.olds_dead, hg.live_lt, fun p hp => hg.td_lt p (popAll_keys_sub _ _ p hp), hg.live_intact⟩

theorem prot_finish (s : St) (hg : Good s) (hp : Prot s) : Prot (finish s).1 := by
  unfold finish
  dsimp only
  split
  · exact ⟨hp.restart_lt, hp.restart_intact, hp.olds_len, hp.restart_prot⟩
  · refine ⟨hg.live_lt, hg.live_intact, hp.olds_len, ?_⟩
    intro p hpl hpk
    exact absurd hpl (hg.olds_dead p hpk).1

/-- the end of `treat_output` archives the replaced paths and writes the restart file: no file is touched -/
theorem finish_touches (s : St) :
    (finish s).1 =
      { s with trajData := (finish s).1.trajData, pending := (finish s).1.pending,
               restart := (finish s).1.restart, cnt := (finish s).1.cnt } := by
  unfold finish
  dsimp only
  split
  · rfl
  · rfl

/-! ### a stale file appearing in an accepted/ directory -/

theorem addStale_touches (s : St) (p : Nat) (nm : String) :
    addStale s p nm = { s with disk := (addStale s p nm).disk } := by
  unfold addStale
  split
  · rfl
  · rfl

theorem stale_disk (s : St) (p : Nat) (nm : String) (g : DFile) (h : g ∈ s.disk) : g ∈ (addStale s p nm).disk := by
  unfold addStale
  split
  · exact List.mem_cons_of_mem _ h
  · exact h

theorem stale_disk_inv (s : St) (p : Nat) (nm : String) (g : DFile) (h : g ∈ (addStale s p nm).disk) :
    g ∈ s.disk ∨ (g = .acc p nm ∧ DDir.accepted p ∈ s.dirs) := by
  unfold addStale at h
  split at h
  · rename_i hd
    rcases List.mem_cons.mp h with h | h
    · exact Or.inr ⟨h, hd⟩
    · exact Or.inl h
  · exact Or.inl h

theorem intact_stale (s : St) (p : Nat) (nm : String) (q : Nat) (h : Intact s q) : Intact (addStale s p nm) q :=
  h.mono (congrArg (fun u => lookup q u.txt) (addStale_touches s p nm) :) (fun g hg _ => stale_disk s p nm g hg)

theorem good_stale (s : St) (hg : Good s) (p : Nat) (nm : String) : Good (addStale s p nm) := by
  have hi := fun q => intact_stale s p nm q
  rw [addStale_touches] at hi ⊢
  exact ⟨hg.olds_dead, hg.live_lt, hg.td_lt, fun q hq => hi q (hg.live_intact q hq)⟩

theorem prot_stale (s : St) (hp : Prot s) (p : Nat) (nm : String) : Prot (addStale s p nm) := by
  have hi := fun q => intact_stale s p nm q
  rw [addStale_touches] at hi ⊢
  exact ⟨hp.restart_lt, fun q hq => hi q (hp.restart_intact q hq), hp.olds_len, hp.restart_prot⟩

end Infretis.Store
