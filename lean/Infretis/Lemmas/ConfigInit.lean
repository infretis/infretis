import Infretis.Model.ConfigInit
import Infretis.Lemmas.Assoc
import Infretis.Lemmas.WFCv
/-!
For the initialisation part of C18 (`Infretis/Model/ConfigInit.lean`): the weight vector the property demands for an
initial path, stated with C10's scan-free `specWeight`, and the loops of `load_paths`, `initiate_ensembles` and
`create_engines` in closed form.
-/
namespace Infretis.Config
open Infretis.WF

/-- the weight of a path (order values `ops`, maximum `pmax`, first and last value given) in the
    ensemble on interface `lam` whose right end is `r` (the cap, or the last interface):
    shooting: 1 iff the path reaches `lam`; wire fencing: the number of frames on valid
    sub-paths of `[lam, r)` (C10's `specWeight`), doubled unless the path starts and ends on the
    same side of `(i0, r)` -/
def specEntry (ops : List Int) (i0 r pmax first last : Int) (lam : Int) (wf : Bool) : Nat :=
  if wf then
    (if sidesDiffer (startPoint i0 r first) (endPoint i0 r last)
     then 2 * specWeight lam r ops else specWeight lam r ops)
  else if lam ≤ pmax then 1 else 0

def specRowGo (ops : List Int) (i0 r pmax first last : Int) : List Int → List Bool → List Nat
  | lam :: is, m :: ms => specEntry ops i0 r pmax first last lam m :: specRowGo ops i0 r pmax first last is ms
  | _, _ => []

theorem specRowGo_eq_zipWith (ops : List Int) (i0 r pmax first last : Int) :
    ∀ (intfs : List Int) (mv : List Bool),
      specRowGo ops i0 r pmax first last intfs mv = List.zipWith (specEntry ops i0 r pmax first last) intfs mv
  | [], _ => by simp [specRowGo]
  | _ :: _, [] => by simp [specRowGo]
  | lam :: is, m :: ms => by rw [specRowGo, List.zipWith_cons_cons, specRowGo_eq_zipWith]

theorem specRowGo_length (ops : List Int) (i0 r pmax first last : Int) (intfs : List Int) (mv : List Bool)
    (h : intfs.length ≤ mv.length) : (specRowGo ops i0 r pmax first last intfs mv).length = intfs.length := by
  rw [specRowGo_eq_zipWith, List.length_zipWith]
  omega

theorem specRowGo_getElem? (ops : List Int) (i0 r pmax first last : Int) (intfs : List Int) (mv : List Bool)
    (k : Nat) (lam : Int) (m : Bool) (h : intfs[k]? = some lam) (hm : mv[k]? = some m) :
    (specRowGo ops i0 r pmax first last intfs mv)[k]? = some (specEntry ops i0 r pmax first last lam m) := by
  rw [specRowGo_eq_zipWith, List.getElem?_zipWith, h, hm]

/-- **`calc_cv_vector` computes the demanded entries.**  For a non-empty path and a right end `r`
    with `i0 ≤ r`, the loop of `calc_cv_vector` raises nothing and returns exactly the demanded entries. -/
theorem cvVectorGo_eq_spec (ops : List Int) (i0 r pmax first last : Int) (h0r : i0 ≤ r)
    (hf : ops.head? = some first) (hl : ops.getLast? = some last) :
    ∀ (intfs : List Int) (mv : List Bool), intfs.length ≤ mv.length →
      cvVectorGo ops i0 r pmax intfs mv = .ok (specRowGo ops i0 r pmax first last intfs mv) := by
  intro intfs
  induction intfs with
  | nil => intro mv _; cases mv <;> simp [cvVectorGo, specRowGo]
  | cons a t ih =>
    intro mv hlen
    cases mv with
    | nil => simp at hlen
    | cons m ms =>
      have ih' := ih ms (by simpa using hlen)
      simp only [cvVectorGo, specRowGo, ih']
      cases m with
      | false => simp [specEntry]
      | true =>
        rw [if_pos rfl, computeWeight_wf ops i0 a r first last h0r hf hl,
          weight_eq_spec a r]
        simp [specEntry]

theorem specWeight_first_crossing_pos (l r : Int) (pre suf : List Int) (x last : Int)
    (hpre : pre ≠ []) (hbelow : ∀ y ∈ pre, y < l) (hx : l ≤ x ∧ x < r)
    (hlast : (pre ++ x :: suf).getLast? = some last) (hout : last < l ∨ r ≤ last) :
    0 < specWeight l r (pre ++ x :: suf) :=
  weight_eq_spec l r _ ▸ weight_first_crossing_pos l r pre suf x last hpre hbelow hx hlast hout

theorem loadPlus_ok (c : Cfg) (paths : List (List Int)) (f : Nat → List Nat) :
    ∀ (count start : Nat),
      (∀ k, k < count → loadPlusOne c (start + k) paths = .ok (f (start + k))) →
      loadPlus c paths start count = .ok ((List.range' start count).map f) := by
  intro count
  induction count with
  | zero => intro start _; simp [loadPlus]
  | succ n ih =>
    intro start h
    have h0 := h 0 (by omega)
    simp only [Nat.add_zero] at h0
    have hrest := ih (start + 1) (fun k hk => by
      have := h (k + 1) (by omega)
      rw [show start + 1 + k = start + (k + 1) by omega]
      exact this)
    simp only [loadPlus, h0, hrest, List.range'_succ, List.map_cons]

theorem loadPlus_error (c : Cfg) (paths : List (List Int)) (e : InitErr) :
    ∀ (count start j : Nat), j < count →
      (∀ k, k < j → ∃ row, loadPlusOne c (start + k) paths = .ok row) →
      loadPlusOne c (start + j) paths = .error e →
      loadPlus c paths start count = .error e := by
  intro count
  induction count with
  | zero => intro start j h; omega
  | succ n ih =>
    intro start j hj hbefore herr
    cases j with
    | zero =>
      simp only [Nat.add_zero] at herr
      simp [loadPlus, herr]
    | succ j =>
      obtain ⟨row, hrow⟩ := hbefore 0 (by omega)
      simp only [Nat.add_zero] at hrow
      have := ih (start + 1) j (by omega)
        (fun k hk => by
          obtain ⟨row', h'⟩ := hbefore (k + 1) (by omega)
          exact ⟨row', by rw [show start + 1 + k = start + (k + 1) by omega]; exact h'⟩)
        (by rw [show start + 1 + j = start + (j + 1) by omega]; exact herr)
      simp [loadPlus, hrow, this]

/-- an ensemble after the first: starts "L" only -/
def ensLater (x : Option Rat × Rat × Rat) (m : Bool) : Ens :=
  { left := x.1, middle := x.2.1, right := x.2.2, wf := m, startL := true, startR := false }

/-- with a move for every ensemble the comprehension raises nothing; from ensemble 1 on the start condition is "L" -/
theorem mkEns_pos (b : Bool) : ∀ (ei : List (Option Rat × Rat × Rat)) (mv : List Bool) (i : Nat), 0 < i →
    ei.length ≤ mv.length → mkEns b i ei mv = .ok (List.zipWith ensLater ei mv)
  | [], _, _, _, _ => by simp [mkEns]
  | _ :: _, [], _, _, h => by simp at h
  | (a, mid, r) :: t, m :: ms, i, hi, h => by
    have hi0 : (i != 0) = true := by simpa using Nat.ne_of_gt hi
    have hi1 : (i == 0) = false := by simpa using Nat.ne_of_gt hi
    simp only [mkEns, mkEns_pos b t ms (i + 1) (Nat.succ_pos i) (by simpa using h), List.zipWith_cons_cons, ensLater,
      hi0, hi1, Bool.true_or]

/-- the first ensemble starts "R", and "L" too when there is a λ₋₁ -/
theorem mkEns_zero (b : Bool) (x : Option Rat × Rat × Rat) (ei : List (Option Rat × Rat × Rat)) (m : Bool)
    (mv : List Bool) (h : ei.length ≤ mv.length) :
    mkEns b 0 (x :: ei) (m :: mv) = .ok
      ({ left := x.1, middle := x.2.1, right := x.2.2, wf := m, startL := b, startR := true } ::
        List.zipWith ensLater ei mv) := by
  obtain ⟨x1, x2, x3⟩ := x
  simp [mkEns, mkEns_pos b ei mv 1 Nat.one_pos h]

/-- `ens_intfs` on at least two interfaces: [0-], then `(λ0, λ, λN)` for every interface `λ` but the last -/
theorem ensIntfs_cons (a b : Int) (t : List Int) (lm1 : Lm1) (l : Int) (hl : (a :: b :: t).getLast? = some l) :
    ensIntfs (a :: b :: t) lm1 = .ok
      ((match lm1 with
        | .val x => (some (x : Rat), ((x : Rat) + (a : Rat)) / 2, (a : Rat))
        | _ => (none, (a : Rat), (a : Rat))) ::
       (a :: b :: t).dropLast.map (fun (m : Int) => (some (a : Rat), (m : Rat), (l : Rat)))) := by
  simp only [ensIntfs, List.head?_cons, hl, List.dropLast_cons_cons, List.map_cons, List.drop_succ_cons, List.drop_zero]
  rfl

/-- `engine_count[e] = engine_count.get(e, 0) + 1` read through `lookup` -/
theorem bump_lookup (e k : String) : ∀ acc : List (String × Nat),
    (bump e acc).lookup k = if k = e then some ((acc.lookup e).getD 0 + 1) else acc.lookup k
  | [] => by
    by_cases hk : k = e
    · simp [bump, List.lookup, hk]
    · simp [bump, List.lookup, hk, show (k == e) = false by simpa using hk]
  | (k0, n) :: t => by
    have ih := bump_lookup e k t
    by_cases h0 : k0 = e
    · subst h0
      by_cases hk : k = k0
      · simp [bump, List.lookup, hk]
      · simp [bump, List.lookup, hk, show (k == k0) = false by simpa using hk]
    · have h0' : (e == k0) = false := by simpa using fun h => h0 h.symm
      by_cases hk : k = k0
      · subst hk; simp [bump, List.lookup, h0]
      · simp [bump, List.lookup, h0, h0', show (k == k0) = false by simpa using hk, ih]

/-- **the first loop of `create_engines` counts occurrences**: the entry of an engine name is the number of times it
    is written in `ensemble_engines` (absent iff never) -/
theorem engineCount_lookup (ee : List (List String)) (e : String) :
    (engineCount ee).lookup e = if ee.flatten.count e = 0 then none else some (ee.flatten.count e) :=
  Infretis.Assoc.lookup_foldl_count_nil (fun acc e => bump e acc) (fun acc k k' => bump_lookup k k' acc) _ e

theorem engineCount_keys (ee : List (List String)) (k : String) (n : Nat) (h : (k, n) ∈ engineCount ee) :
    ∃ names ∈ ee, k ∈ names := by
  have hs := Infretis.Assoc.lookup_isSome_iff.2 (List.mem_map_of_mem (f := Prod.fst) h)
  rw [engineCount_lookup] at hs
  split at hs
  · cases hs
  · exact List.mem_flatten.1 (List.count_pos_iff.1 (Nat.pos_of_ne_zero ‹_›))

theorem occGo_ok (c : Cfg) : ∀ (l : List (String × Nat)),
    (∀ k n, (k, n) ∈ l → (c.engines.lookup k).isSome = true) →
    occGo c l = .ok (l.map (fun kn => (kn.1, (min (kn.2 : Int) c.workers).toNat))) := by
  intro l
  induction l with
  | nil => intro _; rfl
  | cons x t ih =>
    intro h
    obtain ⟨e, n⟩ := x
    have hnone : (c.engines.lookup e).isNone = false :=
      Option.isNone_eq_false_iff.2 (h e n List.mem_cons_self)
    simp only [occGo, hnone, Bool.and_false, Bool.false_eq_true, if_false,
      ih (fun k n hk => h k n (List.mem_cons_of_mem _ hk)), List.map_cons]

end Infretis.Config
