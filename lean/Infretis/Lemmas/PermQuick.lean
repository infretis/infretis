import Infretis.Lemmas.PermStair
import Infretis.Lemmas.PermSpec
import Infretis.Lemmas.PermReach
import Infretis.Lemmas.ListAux
import Mathlib.Data.List.GetD
/-!
# `quick_prob` beyond 0/1 staircases (C02)

* `quick_prob` only looks at the zero pattern of its argument (`quickProb_congr`), and a leading all-zero column
  only produces a zero output column (`quickProb_pad`);
* so it is unchanged when rows are multiplied by non-zero factors (`quickProb_scaleAll`), as the specification is:
  it returns the permanent ratios of every matrix whose rows are multiples of the rows of a 0/1 staircase with
  Hall's condition (`quickProb_scaled_stair`), such as a row-constant positive staircase block (`IsBlk.quick`).
-/
namespace Infretis.Perm

theorem quickCols_succ (arr : Mat) (c : Nat) (t : List Rat) :
    quickCols arr (c + 1) t
      = (quickCol ((colOf arr c).map indicator) t).1
        :: quickCols arr c (quickCol ((colOf arr c).map indicator) t).2 := rfl

theorem quickCols_congr (arr arr' : Mat) (k : Nat)
    (h : ∀ c, c < k → (colOf arr c).map indicator = (colOf arr' c).map indicator) (t : List Rat) :
    quickCols arr k t = quickCols arr' k t := by
  induction k generalizing t with
  | zero => rfl
  | succ k ih =>
    rw [quickCols_succ, quickCols_succ, h k (by omega), ih (fun c hc => h c (by omega))]

theorem quickProb_congr (arr arr' : Mat) (hl : arr.length = arr'.length)
    (hn : ncols arr = ncols arr')
    (h : ∀ c, c < ncols arr → (colOf arr c).map indicator = (colOf arr' c).map indicator) :
    quickProb arr = quickProb arr' := by
  unfold quickProb
  rw [quickCols_congr arr arr' _ h, hl, hn]

theorem quickProb_scaleAll (f : Row → Rat) (B : Mat) (hf : ∀ r ∈ B, f r ≠ 0) :
    quickProb (scaleAll f B) = quickProb B := by
  apply quickProb_congr
  · simp [scaleAll]
  · cases B <;> simp [ncols, scaleAll, scaleRow]
  · intro c _
    simp only [colOf, scaleAll, List.map_map]
    apply List.map_congr_left
    intro r hr
    simp only [Function.comp, getD_scaleRow, indicator, mul_eq_zero, hf r hr, false_or]

/-- **`quick_prob` returns the permanent ratios of every matrix whose rows are non-zero multiples of the rows of a
    0/1 staircase that satisfies Hall's condition** (rows in any order): neither side sees the factors. -/
theorem quickProb_scaled_stair (f : Row → Rat) (sub : Mat) (cnts : List Nat) (hf : ∀ r ∈ sub, f r ≠ 0)
    (hst : scaleAll f sub = stair cnts) (hall : ∀ c, c < cnts.length → 1 ≤ Dnum cnts c) :
    quickProb sub = specMat sub := by
  rw [← quickProb_scaleAll f sub hf, ← specMat_scaleAll f sub hf, hst, quickProb_stair_eq_spec cnts hall]

theorem quickCol_length (col t : List Rat) (n : Nat) (hc : col.length = n) (ht : t.length = n) :
    (quickCol col t).2.length = n := by
  unfold quickCol
  simp only
  split <;> simp [hc, ht]

theorem zipWith_zero_mul (n : Nat) (t : List Rat) (ht : t.length = n) :
    List.zipWith (fun c x => c * x) (List.replicate n (0:Rat)) t = List.replicate n 0 := by
  induction n generalizing t with
  | zero => simp
  | succ n ih =>
    cases t with
    | nil => simp at ht
    | cons x xs =>
      simp only [List.length_cons, Nat.add_right_cancel_iff] at ht
      simp [List.replicate_succ, ih xs ht]

theorem quickCol_zero_fst (n : Nat) (t : List Rat) (ht : t.length = n) :
    (quickCol ((List.replicate n (0:Rat)).map indicator) t).1 = List.replicate n 0 := by
  unfold quickCol
  simp only [List.map_replicate, show indicator 0 = 0 by simp [indicator], zipWith_zero_mul n t ht]
  simp

theorem colOf_zero_col_zero (rows : Mat) :
    colOf (rows.map (fun r => (0:Rat) :: r)) 0 = List.replicate rows.length 0 := by
  induction rows with
  | nil => rfl
  | cons r rs ih =>
    simp only [colOf, List.map_cons, List.length_cons, List.replicate_succ, List.getD_cons_zero]
      at ih ⊢
    rw [ih]

theorem colOf_zero_col_succ (rows : Mat) (c : Nat) :
    colOf (rows.map (fun r => (0:Rat) :: r)) (c + 1) = colOf rows c := by
  simp [colOf]

theorem quickCols_zero_col (rows : Mat) (k : Nat) (t : List Rat) (ht : t.length = rows.length) :
    quickCols (rows.map (fun r => (0:Rat) :: r)) (k + 1) t
      = quickCols rows k t ++ [List.replicate rows.length 0] := by
  induction k generalizing t with
  | zero =>
    rw [quickCols_succ, colOf_zero_col_zero, quickCol_zero_fst _ _ ht]
    rfl
  | succ k ih =>
    rw [quickCols_succ, colOf_zero_col_succ, quickCols_succ rows k t, ih]
    · rfl
    · exact quickCol_length _ _ _ (by simp [colOf]) ht

theorem quickProb_zero_col (rows : Mat) (hne : rows ≠ []) :
    quickProb (rows.map (fun r => (0:Rat) :: r)) = (quickProb rows).map (fun r => (0:Rat) :: r) := by
  have hn : ncols (rows.map (fun r => (0:Rat) :: r)) = ncols rows + 1 := by
    cases rows with
    | nil => exact absurd rfl hne
    | cons r rs => simp [ncols]
  unfold quickProb
  rw [hn, List.length_map, quickCols_zero_col rows _ _ (by simp)]
  simp only [List.reverse_append, List.reverse_cons, List.reverse_nil, List.nil_append,
    List.cons_append, List.map_cons, List.map_map]
  apply List.map_congr_left
  intro r _
  simp only [Function.comp, getD_replicate_self]

theorem quickProb_pad (o : Nat) (rows : Mat) (hne : rows ≠ []) :
    quickProb (rows.map (fun r => List.replicate o (0:Rat) ++ r))
      = (quickProb rows).map (fun r => List.replicate o (0:Rat) ++ r) := by
  induction o with
  | zero => simp
  | succ o ih =>
    have e : rows.map (fun r => List.replicate (o + 1) (0:Rat) ++ r)
        = (rows.map (fun r => List.replicate o (0:Rat) ++ r)).map (fun r => (0:Rat) :: r) := by
      simp [List.replicate_succ]
    rw [e, quickProb_zero_col _ (by simpa using hne), ih]
    simp [List.replicate_succ]

theorem quickCols_single_dead (row : Row) (k : Nat) :
    quickCols [row] k [0] = List.replicate k [0] := by
  induction k with
  | zero => rfl
  | succ k ih =>
    rw [quickCols_succ]
    have : quickCol ((colOf [row] k).map indicator) [0] = ([0], [0]) := by
      simp [quickCol, colOf]
    rw [this, ih]
    rfl

theorem quickProb_single (row : Row) (k : Nat) (hl : row.length = k + 1)
    (hw : row.getD k 0 ≠ 0) : quickProb [row] = [List.replicate k 0 ++ [1]] := by
  unfold quickProb
  have hn : ncols [row] = k + 1 := by simp [ncols, hl]
  rw [hn, quickCols_succ]
  have : quickCol ((colOf [row] k).map indicator) (List.replicate [row].length 1) = ([1], [0]) := by
    have hw' : row[k]?.getD 0 ≠ 0 := by simpa [List.getD_eq_getElem?_getD] using hw
    simp [quickCol, colOf, indicator, hw']
  rw [this, quickCols_single_dead]
  simp [List.getD_eq_getElem?_getD]

theorem minus_out (r0 : Row) (n : Nat) (hr0 : IsMinusRow (n + 1) r0) :
    (quickProb [r0.reverse]).map List.reverse = [1 :: List.replicate n 0] := by
  obtain ⟨hl, hw, _⟩ := hr0
  have hg : r0.reverse.getD n 0 = r0.getD 0 0 := by
    simp [List.getD_eq_getElem?_getD, hl]
  rw [quickProb_single r0.reverse n (by simp [hl]) (by rw [hg]; exact ne_of_gt hw)]
  simp

theorem rowConstAt_iff (ref : Nat) (rows : Mat) :
    rowConstAt ref rows = true ↔ ∀ r ∈ rows, ∀ x ∈ r, x = r.getD ref 0 ∨ x = 0 := by
  simp only [rowConstAt, List.all_eq_true, Bool.or_eq_true, beq_iff_eq]

namespace Blk

theorem entry_eq_getElem (S : Mat) (i c : Nat) (hi : i < S.length) :
    entry S i c = S[i].getD c 0 := by
  simp [entry, List.getD_eq_getElem?_getD, hi]

/-- the counts of the 0/1 staircase with the zero pattern of a block: `g i`, capped at the width -/
def capped (k : Nat) (g : Nat → Nat) : List Nat := (List.range k).map (fun i => min (g i) k)

/-- **`quick_prob` on a row-constant positive staircase block** returns its permanent ratios: dividing each row
    by its first entry gives the 0/1 staircase `stair (capped k g)`. -/
theorem IsBlk.quick {sub : Mat} {k : Nat} {g : Nat → Nat} (h : IsBlk sub k g)
    (hrc : rowConstAt 0 sub = true) : quickProb sub = specMat sub := by
  have hcl : (capped k g).length = k := by simp [capped]
  have hcg : ∀ i (hi : i < (capped k g).length), (capped k g)[i] = min (g i) k := fun i hi => by
    simp [capped]
  have hik : ∀ {i}, i < sub.length → i < k := fun hi => h.hk ▸ hi
  -- the entries of row `i`: positive and all equal up to `g i`, zero after
  have hw : ∀ i (hi : i < sub.length), 0 < sub[i].getD 0 0 := fun i hi => by
    rw [← entry_eq_getElem sub i 0 hi]
    exact h.hpos i 0 (hik hi) (Nat.zero_lt_of_lt (hik hi)) (by have := h.hg i (hik hi); omega)
  have hval : ∀ i c (hi : i < sub.length), c < k →
      sub[i].getD c 0 = if c < min (g i) k then sub[i].getD 0 0 else 0 := by
    intro i c hi hc
    have hcl' : c < sub[i].length := by rw [h.hrow _ (List.getElem_mem hi)]; exact hc
    by_cases hcg : c < g i
    · rw [if_pos (by omega)]
      have hp := h.hpos i c (hik hi) hc hcg
      rw [entry_eq_getElem sub i c hi] at hp
      rcases (rowConstAt_iff 0 sub).mp hrc sub[i] (List.getElem_mem hi) (sub[i].getD c 0)
        (by rw [List.getD_eq_getElem _ _ hcl']; exact List.getElem_mem hcl') with e | e
      · exact e
      · rw [e] at hp; exact absurd hp (lt_irrefl 0)
    · rw [if_neg (by omega), ← entry_eq_getElem sub i c hi]
      exact h.hzero i c (hik hi) hc (by omega)
  have hst : stair (capped k g) = scaleAll (fun r => 1 / r.getD 0 0) sub := by
    apply List.ext_getElem
    · simp [stair_length, scaleAll, hcl, h.hk]
    · intro i h1 h2
      have hi : i < sub.length := by simpa [scaleAll] using h2
      simp only [stair, scaleAll, List.getElem_map, hcg, hcl]
      apply List.ext_getElem
      · simp [stairRow, scaleRow, h.hrow _ (List.getElem_mem hi)]
      · intro c h3 h4
        have hc : c < k := by simpa [stairRow] using h3
        rw [← List.getD_eq_getElem _ 0 h3, ← List.getD_eq_getElem _ 0 h4, stairRow_getD _ _ _ hc,
          getD_scaleRow, hval i c hi hc]
        have := hw i hi
        split
        · field_simp
        · ring
  refine quickProb_scaled_stair _ sub _ (fun r hr => ?_) hst.symm (hall_Dnum _ fun i hi => by
    rw [List.getD_eq_getElem _ _ hi, hcg]; have := h.hg i (hcl ▸ hi); omega)
  obtain ⟨i, hi, rfl⟩ := List.getElem_of_mem hr
  exact one_div_ne_zero (ne_of_gt (hw i hi))

end Blk

end Infretis.Perm
