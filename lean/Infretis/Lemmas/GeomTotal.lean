import Infretis.Lemmas.ExceptAux
import Infretis.Lemmas.GeomSys
/-! When the repaired `value` raises IndexError, when it returns a value (`Ends`, `value_ends`: all six classes at once), and
    the form of what `Puckering` returns. -/
namespace Infretis.Geom

def inRange (n : Nat) (i : Int) : Bool := (pyIdx n i).isSome

theorem pyIdx_lt (n : Nat) (i : Int) (j : Nat) (h : pyIdx n i = some j) : j < n := by
  unfold pyIdx at h
  split at h
  · rename_i h1; simp only [Option.some.injEq] at h; omega
  · split at h
    · rename_i h1 h2; simp only [Option.some.injEq] at h; omega
    · cases h

theorem getAtom_cases (l : List V3) (i : Int) :
    (inRange l.length i = true ∧ ∃ v, getAtom l i = .ok v) ∨
    (inRange l.length i = false ∧ getAtom l i = .error .index) := by
  unfold inRange getAtom
  cases h : pyIdx l.length i with
  | none => right; simp
  | some j =>
    left
    have hj := pyIdx_lt _ _ _ h
    refine ⟨by simp, l[j], ?_⟩
    simp [List.getElem?_eq_getElem hj]

theorem getComp_cases (v : V3) (k : Int) :
    (inRange 3 k = true ∧ ∃ x, getComp v k = .ok x) ∨ (inRange 3 k = false ∧ getComp v k = .error .index) := by
  unfold inRange getComp
  cases h : pyIdx 3 k with
  | none => right; simp
  | some j =>
    left
    have hj := pyIdx_lt _ _ _ h
    refine ⟨by simp, ?_⟩
    match j, hj with
    | 0, _ => exact ⟨_, rfl⟩
    | 1, _ => exact ⟨_, rfl⟩
    | 2, _ => exact ⟨_, rfl⟩

theorem inRange_natCast (n d : Nat) : inRange n (d : Int) = decide (d < n) := by
  unfold inRange pyIdx
  by_cases h : d < n
  · have : (0 : Int) ≤ (d : Int) ∧ (d : Int) < (n : Int) := by omega
    simp [this, h]
  · simp [h]

/-- no box, or none of the (at most three) box lengths the classes use is zero -/
def BoxNonzero (b : Option (List ℚ)) : Prop := ∀ l, b = some l → ∀ x ∈ l.take 3, x ≠ 0

theorem compNan_false (d L : ℚ) (h : L ≠ 0) : compNan d L = false := by simp [compNan, h]

theorem pbcDist_take3 (d : V3) (b : List ℚ) :
    ∃ w, pbcDist d (b.take 3) = .ok w ∧ ((∀ x ∈ b.take 3, x ≠ 0) → w.nan = false) := by
  match b with
  | [] => exact ⟨_, rfl, fun _ => rfl⟩
  | [a] => exact ⟨_, rfl, fun h => by simp [compNan_false _ _ (h a (by simp))]⟩
  | [a, b] =>
    exact ⟨_, rfl, fun h => by simp [compNan_false _ _ (h a (by simp)), compNan_false _ _ (h b (by simp))]⟩
  | a :: b :: c :: _ =>
    exact ⟨_, rfl, fun h => by simp [compNan_false _ _ (h a (by simp)), compNan_false _ _ (h b (by simp)),
      compNan_false _ _ (h c (by simp))]⟩

/-- with the sliced box (`box[:3]`) `pbc_dist_coordinate` cannot raise, and no component is NaN unless a box
    length is zero -/
theorem applyBox_slice_spec (p : Bool) (b : Option (List ℚ)) (d : V3) :
    ∃ w, applyBox p b true d = .ok w ∧ ((p = true → BoxNonzero b) → w.nan = false) := by
  unfold applyBox
  cases p with
  | false => exact ⟨_, rfl, fun _ => rfl⟩
  | true =>
    cases b with
    | none => exact ⟨_, rfl, fun _ => rfl⟩
    | some l =>
      obtain ⟨w, hw, hn⟩ := pbcDist_take3 d l
      exact ⟨w, by simpa using hw, fun hb => hn (hb rfl l rfl)⟩

/-! ### how a chain ends

Every class is `look-up; …; look-up; wrap; …; wrap; NaN test; value`.  `Ends b H x`: the chain `x` raises IndexError
exactly when `b` is false, and returns a value when `b` holds and `H` does (`H`: no zero box length).  One rule per
kind of link; a class is proved by going down its chain once. -/

def Ends {α : Type} (b : Bool) (H : Prop) (x : Except Err α) : Prop :=
  (x = .error .index ↔ b = false) ∧ (b = true → H → ∃ r, x = .ok r)

theorem Ends.atom {α : Type} {l : List V3} {i : Int} {f : V3 → Except Err α} {b : Bool} {H : Prop}
    (hf : ∀ v, Ends b H (f v)) : Ends (inRange l.length i && b) H (getAtom l i >>= f) := by
  rcases getAtom_cases l i with ⟨r, v, hv⟩ | ⟨r, hv⟩ <;> rw [hv, r]
  · rw [Bool.true_and]; exact hf v
  · exact ⟨iff_of_true rfl rfl, nofun⟩

theorem Ends.lastAtom {α : Type} {l : List V3} {i : Int} {f : V3 → Except Err α} {H : Prop}
    (hf : ∀ v, Ends true H (f v)) : Ends (inRange l.length i) H (getAtom l i >>= f) :=
  Bool.and_true (inRange l.length i) ▸ Ends.atom hf

theorem Ends.comp {v : V3} {k : Int} {H : Prop} : Ends (inRange 3 k) H (getComp v k) := by
  rcases getComp_cases v k with ⟨r, x, hx⟩ | ⟨r, hx⟩ <;> rw [hx, r]
  · exact ⟨iff_of_false nofun Bool.noConfusion, fun _ _ => ⟨x, rfl⟩⟩
  · exact ⟨iff_of_true rfl rfl, nofun⟩

theorem Ends.wrap {α : Type} {p : Bool} {box : Option (List ℚ)} {d : V3} {f : Wrapped → Except Err α} {b : Bool}
    {H : Prop} (hH : H → p = true → BoxNonzero box) (hf : ∀ w, (H → w.nan = false) → Ends b H (f w)) :
    Ends b H (applyBox p box true d >>= f) := by
  obtain ⟨w, hw, hn⟩ := applyBox_slice_spec p box d
  rw [hw]; exact hf w fun h => hn (hH h)

theorem Ends.nanTest {α : Type} {c : Bool} {a : α} {H : Prop} (hc : H → c = false) :
    Ends true H (if c then throw Err.nan else pure a : Except Err α) :=
  ⟨iff_of_false (by cases c <;> exact fun h => by cases h) Bool.noConfusion,
    fun _ h => by rw [hc h]; exact ⟨a, rfl⟩⟩

theorem Ends.map {α β : Type} {b : Bool} {H : Prop} {x : Except Err α} (h : Ends b H x) (f : α → β) :
    Ends b H (x.map f) := by
  cases x with
  | ok a => exact ⟨iff_of_false nofun (fun hb => nomatch h.1.2 hb), fun _ _ => ⟨f a, rfl⟩⟩
  | error e => exact ⟨by simpa only [Except.map, Except.error.injEq] using h.1, fun hb hH => nomatch h.2 hb hH⟩

/-- every array access the order parameter makes is legal on this system
    (listed in the order in which `calculate` makes them) -/
def OP.indicesValid (op : OP) (s : Sys) : Bool :=
  match op with
  | .distance i0 i1 _ => inRange s.pos.length i1 && inRange s.pos.length i0
  | .distancevel i0 i1 _ =>
    inRange s.pos.length i1 && inRange s.pos.length i0 && inRange s.vel.length i1 && inRange s.vel.length i0
  | .position i d => inRange s.pos.length i && inRange 3 d
  | .velocity i d => inRange s.vel.length i && decide (d < 3)
  | .dihedral i0 i1 i2 i3 _ =>
    inRange s.pos.length i0 && inRange s.pos.length i1 && inRange s.pos.length i2 && inRange s.pos.length i3
  | .puckering i0 i1 i2 i3 i4 i5 _ =>
    inRange s.pos.length i0 && inRange s.pos.length i1 && inRange s.pos.length i2 && inRange s.pos.length i3 &&
      inRange s.pos.length i4 && inRange s.pos.length i5

/-- **every class at once** (repaired variant): IndexError exactly for an illegal index; a value when moreover no box
    length used is zero -/
theorem value_ends (op : OP) (s : Sys) :
    Ends (op.indicesValid s) (op.periodic = true → BoxNonzero s.box) (value .repaired op s) := by
  cases op with
  | distance i0 i1 p =>
    refine Ends.map ?_ _
    unfold distanceSq OP.indicesValid
    refine .atom fun p1 => Ends.lastAtom fun p0 => .wrap id fun w hw => .nanTest hw
  | distancevel i0 i1 p =>
    refine Ends.map ?_ _
    unfold distancevelNum OP.indicesValid
    simp only [Bool.and_assoc]
    refine .atom fun p1 => .atom fun p0 => .wrap id fun w hw => .atom fun v1 =>
      Ends.lastAtom fun v0 => .nanTest hw
  | position i d => exact Ends.map (.atom fun v => .comp) _
  | velocity i d =>
    refine Ends.map ?_ _
    unfold velocity
    simp only [OP.indicesValid, ← inRange_natCast]
    exact .atom fun v => .comp
  | dihedral i0 i1 i2 i3 p =>
    refine Ends.map ?_ _
    unfold dihedral OP.indicesValid
    simp only [Bool.and_assoc]
    refine .atom fun p0 => .atom fun p1 => .atom fun p2 => Ends.lastAtom fun p3 =>
      .wrap id fun w1 h1 => .wrap id fun w2 h2 => .wrap id fun w3 h3 => .nanTest fun h => ?_
    rw [h1 h, h2 h, h3 h]; rfl
  | puckering i0 i1 i2 i3 i4 i5 p =>
    refine Ends.map ?_ _
    unfold puckering OP.indicesValid
    simp only [Bool.and_assoc]
    refine .atom fun p0 => .atom fun p1 => .atom fun p2 => .atom fun p3 => .atom fun p4 =>
      Ends.lastAtom fun p5 => ?_
    split
    · refine .wrap id fun w1 h1 => .wrap id fun w2 h2 => .wrap id fun w3 h3 => .wrap id fun w4 h4 =>
        .wrap id fun w5 h5 => .nanTest fun h => ?_
      rw [h1 h, h2 h, h3 h, h4 h, h5 h]; rfl
    · exact ⟨iff_of_false nofun Bool.noConfusion, fun _ _ => ⟨_, rfl⟩⟩

/-- whatever `Puckering.calculate` returns is `puckerOf` of SOME six points (the ring atoms, or their
    minimum-image copies around atom 0) -/
theorem puckering_ok_form (s : Sys) (i0 i1 i2 i3 i4 i5 : Int) (p : Bool) (r : PuckerPre)
    (h : puckering s i0 i1 i2 i3 i4 i5 p = .ok r) : ∃ ring, r = puckerOf ring := by
  unfold puckering at h
  obtain ⟨p0, -, h⟩ := bind_ok_iff.mp h
  obtain ⟨p1, -, h⟩ := bind_ok_iff.mp h
  obtain ⟨p2, -, h⟩ := bind_ok_iff.mp h
  obtain ⟨p3, -, h⟩ := bind_ok_iff.mp h
  obtain ⟨p4, -, h⟩ := bind_ok_iff.mp h
  obtain ⟨p5, -, h⟩ := bind_ok_iff.mp h
  split at h
  · obtain ⟨w1, -, h⟩ := bind_ok_iff.mp h
    obtain ⟨w2, -, h⟩ := bind_ok_iff.mp h
    obtain ⟨w3, -, h⟩ := bind_ok_iff.mp h
    obtain ⟨w4, -, h⟩ := bind_ok_iff.mp h
    obtain ⟨w5, -, h⟩ := bind_ok_iff.mp h
    split at h
    · cases h
    · exact ⟨_, (Except.ok.inj h).symm⟩
  · exact ⟨_, (Except.ok.inj h).symm⟩

end Infretis.Geom
