import Infretis.Lemmas.RepexC04Disk
import Infretis.Lemmas.RepexC04Restart
import Infretis.Lemmas.RepexC05Load
/-!
# C04 — the states a run starts from satisfy the hypotheses of the law on the files

Fresh: `load_paths` on `n − 1` initial paths (distinct numbers, zero fractions, weights in C02's family) into a blank
state leaves tidy tables (C06's `Tidy`: ghost slot empty, ghost row zero, both tables keyed exactly by the live
paths), hence `DiskStart` (`FreshLoad.diskStart`).  `tidy_core` derives `Tidy` from what `load_paths` establishes; it
serves restored states as well.

Restored: `restore (persist y.s)` of a reachable quiescent state (nothing recorded as in flight), with the weights the
stored paths have, satisfies again everything the conservation theorems need (`Reach4` and `JInv`), with the same
column totals in the table and an empty model row list (`restore_reach4`).  So every theorem stated "from a `Reach4`
state" applies again after the restart, to any depth; the restart file being the image of the mid-state
`treat_output` leaves (`mid_reach4`, RepexC04Disk), this is what really is on disk.
-/
namespace Infretis.Repex.Data
open Infretis.Repex.Frac

theorem filterMap_id_length {α : Type} (l : List (Option α)) (h : none ∉ l) :
    (l.filterMap id).length = l.length := by
  induction l with
  | nil => rfl
  | cons o t ih =>
    cases o with
    | none => exact absurd List.mem_cons_self h
    | some a =>
      have := ih (fun hm => h (List.mem_cons_of_mem _ hm))
      simp only [List.filterMap_cons, id, List.length_cons] at this ⊢
      omega

theorem tidy_core {s : St} (hinit : Init ⟨s, []⟩) (hL : LiveOK s) (hklen : (s.frac.map Prod.fst).length = s.n - 1)
    (hsame : s.frac.map Prod.fst = s.wts.map Prod.fst) (hgW : s.W[s.n - 1]? = some (List.replicate s.n 0)) :
    Tidy s := by
  have hn := hinit.n2
  have hsub : ∀ q ∈ s.trajs.filterMap id, q ∈ s.frac.map Prod.fst := fun q hq => hL.1 q (mem_fm.mp hq)
  have hsp : (s.trajs.filterMap id).Subperm (s.frac.map Prod.fst) := List.subperm_of_subset hL.2 hsub
  have hT : s.trajs.length = s.n := hinit.lenT
  have hnone : none ∈ s.trajs := by
    by_contra hno
    have := filterMap_id_length s.trajs hno
    have hle := hsp.length_le
    rw [this, hT, hklen] at hle
    simp only at hn
    omega
  have hlive : ((livePaths s).filterMap id).length = s.n - 1 := by
    rw [hinit.inv.core.coreR.allLive.filterMap_livePaths, length_livePns]
  have hsp2 : ((livePaths s).filterMap id).Subperm (s.frac.map Prod.fst) :=
    List.subperm_of_subset (hL.2.sublist ((List.dropLast_sublist _).filterMap id))
      (fun q hq => hL.1 q ((List.dropLast_sublist _).subset (mem_fm.mp hq)))
  have hperm : ((livePaths s).filterMap id).Perm (s.frac.map Prod.fst) :=
    hsp2.perm_of_length_le (by rw [hlive, hklen])
  refine ⟨hnone, List.mem_of_getElem? hgW, hsame, ?_⟩
  intro q
  rw [← hsame]
  constructor
  · intro hq
    have := hperm.mem_iff.mpr hq
    exact (List.dropLast_sublist _).subset (mem_fm.mp this)
  · intro hq; exact hL.1 q hq

theorem _root_.Infretis.Repex.FreshLoad.diskStart {n : Nat} {paths : List (Nat × List Rat × List Rat)} {s : St} (hf : FreshLoad n paths s)
    (hz : ∀ p ∈ paths, p.2.2 = List.replicate n 0)
    (hfam : ∀ (i : Nat) (hi : i < paths.length), VecOk n ((i : Int) - 1) (paths[i]).2.1) : DiskStart ⟨s, []⟩ :=
  ⟨hf.rowInit hz, hf.init5 hfam, hf.tidy⟩

theorem dRun_snoc : ∀ (evs : List Ev) {z z1 z' : DSys} (ev : Ev), dRun z evs = .ok z1 → dStep z1 ev = .ok z' →
    dRun z (evs ++ [ev]) = .ok z' := by
  intro evs
  induction evs with
  | nil =>
    intro z z1 z' ev h1 h2
    simp only [dRun, Except.ok.injEq] at h1
    subst h1
    simp only [List.nil_append, dRun, h2]
  | cons e rest ih =>
    intro z z1 z' ev h1 h2
    unfold dRun at h1
    split at h1
    · exact absurd h1 (by simp)
    rename_i z2 hz2
    show dRun z (e :: (rest ++ [ev])) = _
    unfold dRun
    rw [hz2]
    exact ih ev h1 h2

theorem histOk_snoc : ∀ (evs : List Ev) {y y1 : Sys} (ev : Ev), HistOk y evs → run y evs = .ok y1 → EvOk y1 ev →
    HistOk y (evs ++ [ev]) :=
  fun evs y _ _ hh hr he => (histOk_iff_along _ y).mpr (((histOk_iff_along evs y).mp hh).snoc hr he)

theorem restore_reach4 {y1 : Sys} {s2 : St} {workers tsteps : Nat} {occ : List (List Int)}
    {ensEng : List (List Nat)} (hr : Reach4 y1) (hlk : y1.s.locked = [])
    (h : restore (persist y1.s) y1.s.n workers tsteps occ ensEng (fun pn => (y1.s.wts.lookup pn).getD []) = .ok s2) :
    Reach4 ⟨s2, []⟩ ∧ JInv ⟨s2, []⟩ ∧ Init ⟨s2, []⟩ ∧ (∀ c, colTotal s2.frac c = colTotal y1.s.frac c) ∧
      s2.rows = [] ∧ s2.n = y1.s.n := by
  have hc := hr.hinv.inv.core
  obtain ⟨hinit, fw2⟩ := restore_init hr.hinv hr.rinv hlk h
  obtain ⟨hk, hv, hrows, hn2, ht2⟩ := restore_frac h
  have hlnd := (live_nodup_bound hr.hinv hr.rinv).1
  have htab : (y1.s.frac.map Prod.fst).Perm ((livePaths y1.s).filterMap id) :=
    (activeKeys_persistD hc.coreR hr.tidy.tidy hr.hinv.fw.keys hr.rinv.liveNodup).symm
  have hl := hc.coreR.allLive
  -- slots and tables
  have hL : LiveOK s2 :=
    loadPaths_live (fresh_imgBlank (persist y1.s) y1.s.n workers tsteps occ ensEng)
      ((imgPaths_keys (persist y1.s) y1.s.n _).symm ▸ hlnd) h
  have hs2 := ((restore_persist_ok_iff hl).mp h).2
  obtain ⟨hfk, hwk⟩ := restoredSt_keys y1.s workers tsteps occ ensEng (fun pn => (y1.s.wts.lookup pn).getD [])
  have hklen : (s2.frac.map Prod.fst).length = s2.n - 1 := by
    rw [hs2, hfk, (loadOrder_perm _).length_eq, length_livePns]
    rfl
  have hsame : s2.frac.map Prod.fst = s2.wts.map Prod.fst := by
    rw [hs2, hfk, hwk]
  have hgW : s2.W[s2.n - 1]? = some (List.replicate s2.n 0) := by
    rw [hs2]
    exact restoredSt_ghostW ..
  have htidy : Tidy s2 := tidy_core hinit hL hklen hsame hgW
  -- C05
  have hs2locked : s2.locked = [] := by rw [hs2]; rfl
  have hinitR : InitR ⟨s2, []⟩ :=
    ⟨hinit.jobs, hinit.n2, hinit.lenW, hinit.lenT, hinit.locks, hinit.live, hinit.inj,
     Resv.ofNil hinit.locked0, hs2locked, hinit.toinit⟩
  have h5 : Init5R ⟨s2, []⟩ := restore_init5R hr.inv5.inv.core hr.inv5.fam workers tsteps occ ensEng h hinitR
  -- support
  have hsup : SupInv s2 := by
    constructor
    · intro q w hw
      rw [hn2]
      -- `q` is live in `y1`, and its weight record in the restored state is the one it had there
      have hact : q ∈ (livePaths y1.s).filterMap id := by
        rw [← hk.mem_iff, hsame]
        exact List.mem_map_of_mem (f := Prod.fst) (Assoc.mem_of_lookup hw)
      have ho : some q ∈ livePaths y1.s := mem_fm.mp hact
      have hqk : q ∈ y1.s.frac.map Prod.fst := htab.mem_iff.mpr hact
      have hqw : q ∈ y1.s.wts.map Prod.fst := by rw [← hr.tidy.tidy.sameKeys]; exact hqk
      obtain ⟨w1, hw1⟩ := Assoc.exists_lookup hqw
      rw [restore_wts_lookup h q hact, hw1] at hw
      simp only [Option.getD_some, Option.some.injEq] at hw
      subst hw
      have hfa : ∀ c, fracAt s2.frac q c = fracAt y1.s.frac q c := by
        intro c
        unfold fracAt
        rw [restore_lookup h q ho]
        obtain ⟨f1, hf1⟩ := Assoc.exists_lookup hqk
        rw [hf1]; rfl
      obtain ⟨t1, t2⟩ := hr.sup.tab q w1 hw1
      exact ⟨fun c hc hsh => by rw [hfa c]; exact t1 c hc hsh, by rw [hfa]; exact t2⟩
    · rw [hrows]; intro r hr'; simp at hr'
  have hrinv : RInv ⟨s2, []⟩ := by
    constructor
    · show (s2.rows.map (·.1)).Nodup; rw [hrows]; exact List.nodup_nil
    · show ∀ pn ∈ s2.rows.map (·.1), _; rw [hrows]; intro pn hpn; simp at hpn
    · show ∀ pn ∈ s2.rows.map (·.1), _; rw [hrows]; intro pn hpn; simp at hpn
    · exact hL.1
    · exact hL.2
    · intro j hj; simp at hj
  exact ⟨⟨⟨hinit.inv, fw2⟩, hrinv, h5.inv5, ⟨htidy, by intro j hj; simp at hj⟩, hsup⟩, jinv_of_init hinit, hinit,
    fun c => restore_colTotal h hr.hinv.fw.keys htab c, hrows, hn2⟩

end Infretis.Repex.Data
