import Infretis.Lemmas.Template
/-!
The editors as they are after the repairs in /repo: `modifyLines` / `modifyInput` with the newline before the first
appended setting (eaf64e1), on texts whose last line may lack its newline (`Lines`, `closeLast`, `outLines`);
`write_for_run` with `not_found.pop(var, None)` (f746fff) for any replacement (`varsWith`, `linesWith`; instances:
whole-word `re.sub`, 48a6c1e, and the substring `str.replace` before it).  Last section: the loop before f746fff.
-/
namespace Infretis.Template

/-- a non-empty piece with no newline except possibly as its last character -/
def LineLike (l : Str) : Prop := l ≠ [] ∧ '\n' ∉ l.dropLast

/-- the pieces text-mode iteration yields: complete lines, the last one possibly unterminated -/
def Lines : List Str → Prop
  | [] => True
  | [l] => LineLike l
  | l :: l' :: r => Proper l ∧ Lines (l' :: r)

theorem Proper.lineLike {l : Str} (h : Proper l) : LineLike l := by
  obtain ⟨b, rfl, hb⟩ := h
  exact ⟨by simp, by simpa using hb⟩

theorem Proper.ne_nil {l : Str} (h : Proper l) : l ≠ [] := h.lineLike.1

theorem lines_cons {l : Str} {r : List Str} (hl : Proper l) (hr : Lines r) : Lines (l :: r) := by
  cases r with
  | nil => exact hl.lineLike
  | cons a b => exact ⟨hl, hr⟩

theorem Lines.ne_nil : ∀ {ls : List Str}, Lines ls → ∀ l ∈ ls, l ≠ []
  | [], _, l, h => by simp at h
  | [a], h, l, hm => by simp only [List.mem_singleton] at hm; subst hm; exact h.1
  | a :: b :: r, h, l, hm => by
    rcases List.mem_cons.1 hm with e | hm'
    · subst e; exact h.1.ne_nil
    · exact Lines.ne_nil h.2 l hm'

theorem lines_of_proper : ∀ (ls : List Str), (∀ l ∈ ls, Proper l) → Lines ls
  | [], _ => trivial
  | [a], h => (h a (by simp)).lineLike
  | a :: b :: r, h => ⟨h a (by simp), lines_of_proper (b :: r) (fun l hl => h l (List.mem_cons_of_mem _ hl))⟩

theorem linesKeep_lines (t : Str) : Lines (linesKeep t) := by
  rw [linesKeep_eq_lines]
  induction t with
  | nil => trivial
  | cons c t ih =>
    by_cases hc : c = '\n'
    · simp only [Readers.lines, hc, if_true]
      exact lines_cons ⟨[], rfl, by simp⟩ ih
    · simp only [Readers.lines, hc, if_false]
      cases hls : Readers.lines t with
      | nil => exact ⟨by simp, by simp⟩
      | cons l ls =>
        rw [hls] at ih
        have hne : l ≠ [] := Lines.ne_nil ih l List.mem_cons_self
        cases ls with
        | nil => exact ⟨by simp, by rw [List.dropLast_cons_of_ne_nil hne]; simpa [Ne.symm hc] using ih.2⟩
        | cons l' r =>
          obtain ⟨b, rfl, hb⟩ := ih.1
          exact ⟨⟨c :: b, rfl, by simpa [Ne.symm hc] using hb⟩, ih.2⟩

theorem lineLike_cases {l : Str} (h : LineLike l) : Proper l ∨ '\n' ∉ l := by
  obtain ⟨hne, hd⟩ := h
  have hdec : l.dropLast ++ [l.getLast hne] = l := List.dropLast_concat_getLast hne
  by_cases hl : l.getLast hne = '\n'
  · left; exact ⟨l.dropLast, by rw [← hl]; exact hdec.symm, hd⟩
  · right
    intro hm
    rw [← hdec] at hm
    rcases List.mem_append.1 hm with hm | hm
    · exact hd hm
    · simp only [List.mem_singleton] at hm; exact hl hm.symm

theorem linesKeep_single {l : Str} (h : LineLike l) : linesKeep l = [l] := by
  rw [linesKeep_eq_lines]
  rcases lineLike_cases h with ⟨b, rfl, hb⟩ | hn
  · simpa [Readers.lines] using Readers.lines_body_nl b hb []
  · exact Readers.lines_noNl l hn h.1

theorem linesKeep_flatten_lines : ∀ (ls : List Str), Lines ls → linesKeep ls.flatten = ls
  | [], _ => rfl
  | [a], h => by simpa using linesKeep_single h
  | a :: b :: r, h => by
    have ih := linesKeep_flatten_lines (b :: r) h.2
    rw [linesKeep_eq_lines] at ih ⊢
    rw [List.flatten_cons, Readers.lines_line_append h.1, ih]

def closeNL (l : Str) : Str := if l.getLast? = some '\n' then l else l ++ ['\n']

def closeLast : List Str → List Str
  | [] => []
  | [l] => [closeNL l]
  | l :: l' :: r => l :: closeLast (l' :: r)

theorem closeNL_proper {l : Str} (h : LineLike l) : Proper (closeNL l) := by
  unfold closeNL
  rcases lineLike_cases h with hp | hn
  · obtain ⟨b, rfl, hb⟩ := hp
    simp only [List.getLast?_append, List.getLast?_singleton, Option.some_or, if_true]
    exact ⟨b, rfl, hb⟩
  · have : l.getLast? ≠ some '\n' := by
      intro e; exact hn (List.mem_of_getLast? e)
    simp only [this, if_false]
    exact ⟨l, rfl, hn⟩

theorem closeNL_of_proper {l : Str} (h : Proper l) : closeNL l = l := by
  obtain ⟨b, rfl, _⟩ := h
  simp [closeNL]

theorem closeLast_proper : ∀ (ls : List Str), Lines ls → ∀ l ∈ closeLast ls, Proper l
  | [], _, l, h => by simp [closeLast] at h
  | [a], h, l, hm => by
    simp only [closeLast, List.mem_singleton] at hm; subst hm; exact closeNL_proper h
  | a :: b :: r, h, l, hm => by
    simp only [closeLast, List.mem_cons] at hm
    rcases hm with e | hm
    · subst e; exact h.1
    · exact closeLast_proper (b :: r) h.2 l (by simpa [closeLast] using hm)

theorem flatten_needNL : ∀ (out : List Str), (∀ l ∈ out, l ≠ []) →
    (if needNL out then out ++ [['\n']] else out).flatten = (closeLast out).flatten
  | [], _ => by simp [needNL, closeLast]
  | [a], h => by
    have hne : a ≠ [] := h a (by simp)
    have he : a.isEmpty = false := by cases a with | nil => exact absurd rfl hne | cons _ _ => rfl
    by_cases hl : a.getLast? = some '\n'
    · simp [needNL, closeLast, closeNL, hl, he]
    · simp [needNL, closeLast, closeNL, hl, he]
  | a :: b :: r, h => by
    have ih := flatten_needNL (b :: r) (fun l hl => h l (List.mem_cons_of_mem _ hl))
    have hn : needNL (a :: b :: r) = needNL (b :: r) := by
      simp [needNL, List.getLast?_cons_cons]
    rw [hn]
    have hc : (closeLast (a :: b :: r)).flatten = a ++ (closeLast (b :: r)).flatten := by
      simp [closeLast]
    by_cases hb : needNL (b :: r) = true
    · simp only [hb, if_true] at ih ⊢
      have : ((a :: b :: r) ++ [['\n']]).flatten = a ++ ((b :: r) ++ [['\n']]).flatten := by simp
      rw [this, ih, hc]
    · simp only [hb, Bool.false_eq_true, if_false] at ih ⊢
      have : (a :: b :: r).flatten = a ++ (b :: r).flatten := by simp
      rw [this, ih, hc]

theorem matchKey_snoc_nl : ∀ (l : Str), '\n' ∉ l → matchKey (l ++ ['\n']) = matchKey l := by
  intro l
  induction l with
  | nil => intro _; simp [matchKey]
  | cons c l ih =>
    intro h
    have := ih (by intro m; apply h; simp [m])
    simp [matchKey, this]

theorem matchKey_closeNL {l : Str} (h : LineLike l) : matchKey (closeNL l) = matchKey l := by
  rcases lineLike_cases h with hp | hn
  · rw [closeNL_of_proper hp]
  · have : l.getLast? ≠ some '\n' := fun e => hn (List.mem_of_getLast? e)
    simp only [closeNL, this, if_false]
    exact matchKey_snoc_nl l hn

theorem setLine_proper' {kw v : Str} (h1 : '\n' ∉ kw) (h2 : '\n' ∉ v) : Proper (setLine kw v) :=
  setLine_proper h1 h2

theorem editWith_closeNL (look : Str → Option Str) (hv : ∀ k v, look k = some v → '\n' ∉ v) {l : Str}
    (h : LineLike l) : editWith look (closeNL l) = closeNL (editWith look l) := by
  have hm := matchKey_closeNL h
  cases hk : matchKey l with
  | none => simp only [editWith, hm, hk]
  | some kw =>
    cases hl : look (strip kw) with
    | none => simp only [editWith, hm, hk, hl]
    | some v =>
      obtain ⟨_, _, _, b⟩ := matchKey_some hk
      simpa only [editWith, hm, hk, hl] using (closeNL_of_proper (setLine_proper b (hv _ _ hl))).symm

theorem editWith_lineLike (look : Str → Option Str) (hv : ∀ k v, look k = some v → '\n' ∉ v) {l : Str}
    (h : LineLike l) : LineLike (editWith look l) := by
  rcases editWith_cases look l with e | ⟨kw, v, hk, hl, e⟩
  · rw [e]; exact h
  · obtain ⟨_, _, _, b⟩ := matchKey_some hk
    rw [e]; exact (setLine_proper b (hv _ _ hl)).lineLike

theorem lines_map_editWith (look : Str → Option Str) (hv : ∀ k v, look k = some v → '\n' ∉ v) :
    ∀ (ls : List Str), Lines ls → Lines (ls.map (editWith look))
  | [], _ => trivial
  | [_], h => editWith_lineLike look hv h
  | a :: b :: r, h => ⟨editWith_proper look hv a h.1, lines_map_editWith look hv (b :: r) h.2⟩

theorem editOut_closeNL (s : Settings) (hv : ∀ kv ∈ s, '\n' ∉ kv.2) {l : Str} (h : LineLike l) :
    editOut s (closeNL l) = closeNL (editOut s l) := by
  rw [editOut_eq]; exact editWith_closeNL _ (lookup_nonl hv) h

theorem lines_map_editOut (s : Settings) (hv : ∀ kv ∈ s, '\n' ∉ kv.2) (ls : List Str) (h : Lines ls) :
    Lines (ls.map (editOut s)) := by
  rw [editOut_eq]; exact lines_map_editWith _ (lookup_nonl hv) ls h

theorem writtenKeys_closeLast : ∀ (ls : List Str), Lines ls → writtenKeys (closeLast ls) = writtenKeys ls
  | [], _ => rfl
  | [a], h => by
    have h' : LineLike a := h
    simp only [closeLast, writtenKeys, List.filterMap_cons, List.filterMap_nil, matchKey_closeNL h']
  | a :: b :: r, h => by
    have ih := writtenKeys_closeLast (b :: r) h.2
    simp only [writtenKeys, closeLast, List.filterMap_cons] at ih ⊢
    rw [ih]

theorem map_editOut_closeLast (s : Settings) (hv : ∀ kv ∈ s, '\n' ∉ kv.2) :
    ∀ (ls : List Str), Lines ls → (closeLast ls).map (editOut s) = closeLast (ls.map (editOut s))
  | [], _ => rfl
  | [a], h => by simp [closeLast, editOut_closeNL s hv h]
  | a :: b :: r, h => by
    have ih := map_editOut_closeLast s hv (b :: r) h.2
    simp only [closeLast, List.map_cons] at ih ⊢
    rw [ih]

/-- the pieces `_modify_input` writes (`modifyLines`), and the same as a list of lines (the edited template lines, the
    last one completed with a newline if anything is appended, then the appended settings), with the edit of a line
    `f` and the appended lines `app` left open -/
def piecesWith (f : Str → Str) (app lines : List Str) : List Str :=
  match app with
  | [] => lines.map f
  | a :: r => if needNL (lines.map f) then lines.map f ++ ['\n'] :: a :: r else lines.map f ++ a :: r

def linesWithApp (f : Str → Str) (app ls : List Str) : List Str :=
  match app with
  | [] => ls.map f
  | a :: r => closeLast (ls.map f) ++ a :: r

theorem piecesWith_flatten (f : Str → Str) (app ls : List Str) (hmap : Lines (ls.map f)) :
    (piecesWith f app ls).flatten = (linesWithApp f app ls).flatten := by
  unfold piecesWith linesWithApp
  cases app with
  | nil => rfl
  | cons a r =>
    have := flatten_needNL (ls.map f) (Lines.ne_nil hmap)
    by_cases hn : needNL (ls.map f) = true
    · simp only [hn, if_true] at this ⊢
      simp only [List.flatten_append] at this ⊢
      rw [← this]; simp
    · simp only [hn, Bool.false_eq_true, if_false] at this ⊢
      simp only [List.flatten_append]
      rw [this]

theorem linesWithApp_lines (f : Str → Str) (app ls : List Str) (hmap : Lines (ls.map f))
    (happ : ∀ l ∈ app, Proper l) : Lines (linesWithApp f app ls) := by
  unfold linesWithApp
  cases app with
  | nil => exact hmap
  | cons a r =>
    apply lines_of_proper
    intro l hl
    rcases List.mem_append.1 hl with hl | hl
    · exact closeLast_proper _ hmap l hl
    · exact happ l hl

theorem linesKeep_pieces (f : Str → Str) (app ls : List Str) (hmap : Lines (ls.map f)) (happ : ∀ l ∈ app, Proper l) :
    linesKeep (piecesWith f app ls).flatten = linesWithApp f app ls := by
  rw [piecesWith_flatten f app ls hmap, linesKeep_flatten_lines _ (linesWithApp_lines f app ls hmap happ)]

def outLines (s : Settings) (ls : List Str) : List Str := linesWithApp (editOut s) (appended s (writtenKeys ls)) ls

theorem modifyInput_eq (s : Settings) (t : Str) (hv : ∀ kv ∈ s, '\n' ∉ kv.2) :
    modifyInput s t = (outLines s (linesKeep t)).flatten :=
  piecesWith_flatten (editOut s) _ _ (lines_map_editOut s hv _ (linesKeep_lines t))

theorem modifyInput_lines (s : Settings) (t : Str) (hk : ∀ kv ∈ s, '\n' ∉ kv.1) (hv : ∀ kv ∈ s, '\n' ∉ kv.2) :
    linesKeep (modifyInput s t) = outLines s (linesKeep t) :=
  linesKeep_pieces (editOut s) _ _ (lines_map_editOut s hv _ (linesKeep_lines t)) (by
    intro l hl
    obtain ⟨k, v, hm, _, rfl⟩ := appended_mem hl
    exact newLine_proper (hk _ hm) (hv _ hm))

theorem outLines_idem {s : Settings} (hs : WFSettings s) (ls : List Str) (h : Lines ls) :
    outLines s (outLines s ls) = outLines s ls := by
  have hv := hs.val_nonl
  have hM := lines_map_editOut s hv ls h
  cases happ : appended s (writtenKeys ls) with
  | nil =>
    have e : outLines s ls = ls.map (editOut s) := by simp [outLines, linesWithApp, happ]
    rw [e]
    simp only [outLines, linesWithApp, writtenKeys_map_editOut, happ]
    exact map_editOut_idem s ls
  | cons a r =>
    have e : outLines s ls = closeLast (ls.map (editOut s)) ++ a :: r := by simp [outLines, linesWithApp, happ]
    rw [e]
    have hwk : ∀ k ∈ keys s, k ∈ writtenKeys (closeLast (ls.map (editOut s)) ++ a :: r) := by
      intro k hk
      rw [writtenKeys_append, writtenKeys_closeLast _ hM, writtenKeys_map_editOut, ← happ]
      exact keys_written hs ls k hk
    have hkeep := map_editOut_appended hs (writtenKeys ls)
    rw [happ] at hkeep
    simp only [outLines, linesWithApp, appended_nil_of_subset hwk, List.map_append, map_editOut_closeLast s hv _ hM,
      map_editOut_idem, hkeep]

/-! ### `write_for_run` with `not_found.pop(var, None)`, for any replacement

`wfrVars` / `wfrLines` (the code as it is, whole-word `re.sub`) and `wfrVarsSub` / `wfrLinesSub` (RECORD: the code
between f746fff and 48a6c1e, substring `str.replace`) are the instances `reSubWord` and `replaceAll` of one loop. -/

def varsWith (rep : Str → Str → Str → Str) (spl : List Str) : Settings → Str → List Str → Str × List Str
  | [], line, nf => (line, nf)
  | (var, val) :: rest, line, nf =>
    if var ∈ spl then varsWith rep spl rest (rep var val line) (nf.erase var) else varsWith rep spl rest line nf

def linesWith (rep : Str → Str → Str → Str) (s : Settings) : List Str → List Str → List Str → WfrResult
  | [], nf, acc => { written := acc.reverse, err := if nf.isEmpty then none else some .value }
  | line :: t, nf, acc =>
    let r := varsWith rep (splitWS line) s line nf
    linesWith rep s t r.2 (r.1 :: acc)

theorem wfrVars_eq (spl : List Str) (s : Settings) (line : Str) (nf : List Str) :
    wfrVars spl s line nf = varsWith reSubWord spl s line nf := by
  induction s generalizing line nf with
  | nil => rfl
  | cons kv t ih => simp only [wfrVars, varsWith, ih]

theorem wfrVarsSub_eq (spl : List Str) (s : Settings) (line : Str) (nf : List Str) :
    wfrVarsSub spl s line nf = varsWith replaceAll spl s line nf := by
  induction s generalizing line nf with
  | nil => rfl
  | cons kv t ih => simp only [wfrVarsSub, varsWith, ih]

theorem wfrLines_eq (s : Settings) (lines nf acc : List Str) :
    wfrLines s lines nf acc = linesWith reSubWord s lines nf acc := by
  induction lines generalizing nf acc with
  | nil => rfl
  | cons l t ih => simp only [wfrLines, linesWith, wfrVars_eq, ih]

theorem wfrLinesSub_eq (s : Settings) (lines nf acc : List Str) :
    wfrLinesSub s lines nf acc = linesWith replaceAll s lines nf acc := by
  induction lines generalizing nf acc with
  | nil => rfl
  | cons l t ih => simp only [wfrLinesSub, linesWith, wfrVarsSub_eq, ih]

theorem substOfW_eq (s : Settings) : substOfW s = fun l => substWith reSubWord (splitWS l) s l :=
  funext fun _ => substLineW_eq _ _ _

theorem substOf_eq (s : Settings) : substOf s = fun l => substWith replaceAll (splitWS l) s l :=
  funext fun _ => substLine_eq _ _ _

variable (rep : Str → Str → Str → Str)

theorem varsWith_fst (spl : List Str) (s : Settings) (line : Str) (nf : List Str) :
    (varsWith rep spl s line nf).1 = substWith rep spl s line := by
  induction s generalizing line nf with
  | nil => rfl
  | cons kv t ih =>
    by_cases h : kv.1 ∈ spl
    · simp only [varsWith, substWith, h, if_true, ih]
    · simp only [varsWith, substWith, h, if_false, ih]

theorem varsWith_snd (spl : List Str) (s : Settings) (line : Str) (nf : List Str) (hnf : nf.Nodup) :
    (varsWith rep spl s line nf).2 = nf.filter (fun k => decide (¬ (k ∈ keys s ∧ k ∈ spl))) := by
  induction s generalizing line nf with
  | nil => exact (List.filter_eq_self.2 (fun k _ => decide_eq_true (fun h => nomatch h.1))).symm
  | cons kv t ih =>
    obtain ⟨var, v⟩ := kv
    by_cases h : var ∈ spl
    · simp only [varsWith, h, if_true]
      rw [ih _ _ (hnf.erase _), hnf.erase_eq_filter, List.filter_filter]
      apply List.filter_congr
      intro k _
      rw [Bool.eq_iff_iff]
      simp only [Bool.and_eq_true, decide_eq_true_eq, bne_iff_ne, mem_keys_cons]
      by_cases e : k = var
      · subst e; simp [h]
      · simp [e]
    · simp only [varsWith, h, if_false]
      rw [ih _ _ hnf]
      apply List.filter_congr
      intro k _
      rw [Bool.eq_iff_iff]
      simp only [decide_eq_true_eq, mem_keys_cons]
      by_cases e : k = var
      · subst e; simp [h]
      · simp [e]

/-- the line loop in closed form: what is left in `not_found` at the end are the variables that are a word of no line -/
theorem linesWith_eq (s : Settings) : ∀ (lines nf acc : List Str), nf.Nodup → (∀ k ∈ nf, k ∈ keys s) →
    linesWith rep s lines nf acc =
      { written := acc.reverse ++ lines.map (fun l => substWith rep (splitWS l) s l),
        err := if (nf.filter (fun k => decide (occ k lines = 0))).isEmpty then none else some .value }
  | [], nf, acc, _, _ => by
    have : nf.filter (fun k => decide (occ k [] = 0)) = nf := List.filter_eq_self.2 (fun k _ => decide_eq_true rfl)
    rw [linesWith, List.map_nil, List.append_nil, this]
  | line :: t, nf, acc, hnf, hsub => by
    have hf : (nf.filter (fun k => decide (¬ (k ∈ keys s ∧ k ∈ splitWS line)))).filter (fun k => decide (occ k t = 0)) =
        nf.filter (fun k => decide (occ k (line :: t) = 0)) := by
      rw [List.filter_filter]
      apply List.filter_congr
      intro k hk
      rw [Bool.eq_iff_iff, occ_cons]
      simp only [Bool.and_eq_true, decide_eq_true_eq]
      by_cases hs : k ∈ splitWS line
      · simp [hs, hsub k hk]
      · simp [hs]
    rw [linesWith, varsWith_snd rep _ s line nf hnf, varsWith_fst,
      linesWith_eq s t _ _ (hnf.filter _) (fun k hk => hsub k ((List.mem_filter.1 hk).1)), hf,
      List.reverse_cons, List.append_assoc, List.singleton_append, List.map_cons]

theorem err_of_notFound (l : List Str) :
    ((if l.isEmpty then none else some Err.value) = none ↔ l = []) ∧
    ((if l.isEmpty then none else some Err.value) = some Err.value ↔ ∃ k, k ∈ l) ∧
    (if l.isEmpty then none else some Err.value) ≠ some Err.key := by
  cases l with
  | nil => simp
  | cons a t => simp

/-- **the whole call, for any replacement**: every line is written, passed through the per-line function; the
    call ends without error iff every variable is a word of some line, with the ValueError iff some variable is a
    word of no line, and never with KeyError -/
theorem linesWith_total (s : Settings) (t : Str) (hnd : (keys s).Nodup) :
    (linesWith rep s (linesKeep t) (keys s) []).written = (linesKeep t).map (fun l => substWith rep (splitWS l) s l) ∧
    ((linesWith rep s (linesKeep t) (keys s) []).err = none ↔ ∀ k ∈ keys s, 1 ≤ occ k (linesKeep t)) ∧
    ((linesWith rep s (linesKeep t) (keys s) []).err = some .value ↔ ∃ k ∈ keys s, occ k (linesKeep t) = 0) ∧
    (linesWith rep s (linesKeep t) (keys s) []).err ≠ some .key := by
  rw [linesWith_eq rep s (linesKeep t) (keys s) [] hnd (fun _ h => h)]
  obtain ⟨h1, h2, h3⟩ := err_of_notFound ((keys s).filter (fun k => decide (occ k (linesKeep t) = 0)))
  refine ⟨rfl, h1.trans ?_, h2.trans ?_, h3⟩
  · rw [List.filter_eq_nil_iff]
    exact forall₂_congr fun k _ => by rw [decide_eq_true_eq]; omega
  · exact exists_congr fun k => by rw [List.mem_filter, decide_eq_true_eq]

theorem linesWith_without_vars (s : Settings) (t : Str) (hnd : (keys s).Nodup)
    (h0 : ∀ l ∈ linesKeep t, ∀ k ∈ keys s, k ∉ splitWS l) :
    (linesWith rep s (linesKeep t) (keys s) []).written.flatten = t ∧
    (linesWith rep s (linesKeep t) (keys s) []).err = if s = [] then none else some .value := by
  obtain ⟨o1, o2, o3, -⟩ := linesWith_total rep s t hnd
  constructor
  · rw [o1, List.map_congr_left (g := id) (fun l hl => substWith_untouched rep _ s l (h0 l hl)), List.map_id,
      linesKeep_join]
  · cases s with
    | nil => exact o2.2 (by simp [keys])
    | cons kv r =>
      have hocc : occ kv.1 (linesKeep t) = 0 := by
        unfold occ
        rw [List.length_eq_zero_iff, List.filter_eq_nil_iff]
        intro l hl
        simpa using h0 l hl kv.1 (by simp [keys])
      simp only [reduceCtorEq, if_false]
      exact o3.2 ⟨kv.1, by simp [keys], hocc⟩

/-! ### RECORD: `write_for_run` before f746fff (`not_found.pop(var)` raises KeyError) -/

/-- `wfrVarsAsIs` is the loop above with `str.replace`, unless a variable that is a token of the line has left
    `not_found` already: then it raises KeyError -/
theorem wfrVarsAsIs_eq (spl : List Str) (s : Settings) (line : Str) (nf : List Str) (hnd : (keys s).Nodup) :
    wfrVarsAsIs spl s line nf =
      if ∀ k ∈ keys s, k ∈ spl → k ∈ nf then .ok (varsWith replaceAll spl s line nf) else .error .key := by
  induction s generalizing line nf with
  | nil => simp [wfrVarsAsIs, varsWith, keys]
  | cons kv t ih =>
    obtain ⟨var, val⟩ := kv
    simp only [keys, List.map_cons, List.nodup_cons] at hnd
    simp only [keys, List.map_cons, List.mem_cons, forall_eq_or_imp]
    by_cases hsp : var ∈ spl
    · by_cases hin : var ∈ nf
      · -- the other variables are distinct from `var`, so erasing it from `not_found` does not matter to them
        have hcond : (∀ k ∈ t.map (·.1), k ∈ spl → k ∈ nf.erase var) ↔ (∀ k ∈ t.map (·.1), k ∈ spl → k ∈ nf) :=
          forall₂_congr fun k hk => imp_congr_right fun _ =>
            List.mem_erase_of_ne (fun e => hnd.1 (e ▸ hk))
        simp only [wfrVarsAsIs, varsWith, hsp, hin, if_true, ih _ _ hnd.2, keys, hcond, true_and, forall_const]
      · simp [wfrVarsAsIs, hsp, hin]
    · simp only [wfrVarsAsIs, varsWith, hsp, if_false, ih _ _ hnd.2, keys, false_imp_iff, true_and]
      rfl

/-- the state of `not_found` as the number of remaining lines a variable may still be a word of: one while it is in
    `not_found`, none once it has left; the loop raises KeyError iff some variable is a word of more (`quota nf k < occ k lines`) -/
def quota (nf : List Str) (k : Str) : Nat := if k ∈ nf then 1 else 0

/-- `wfrLinesAsIs` raises KeyError as soon as a variable that has left `not_found` is a word of a line, and is the
    loop above with `str.replace` otherwise -/
theorem wfrLinesAsIs_err (s : Settings) (hnd : (keys s).Nodup) :
    ∀ (lines nf acc : List Str), nf.Nodup → (∀ k ∈ nf, k ∈ keys s) →
    (wfrLinesAsIs s lines nf acc).err =
      if ∃ k ∈ keys s, quota nf k < occ k lines then some .key else (linesWith replaceAll s lines nf acc).err
  | [], nf, acc, _, _ => by
    rw [if_neg (fun ⟨k, _, h⟩ => Nat.not_lt_zero _ h)]
    rfl
  | line :: t, nf, acc, hnf, hsub => by
    have hspec := wfrVarsAsIs_eq (splitWS line) s line nf hnd
    by_cases hC : ∀ k ∈ keys s, k ∈ splitWS line → k ∈ nf
    · rw [if_pos hC] at hspec
      have hmem : ∀ k, k ∈ (varsWith replaceAll (splitWS line) s line nf).2 ↔ k ∈ nf ∧ ¬ (k ∈ keys s ∧ k ∈ splitWS line) :=
        fun k => by rw [varsWith_snd replaceAll _ s line nf hnf, List.mem_filter, decide_eq_true_eq]
      -- on this line a token variable uses up its quota, any other keeps it
      have hq : ∀ k ∈ keys s, quota nf k = (if k ∈ splitWS line then 1 else 0) +
          quota (varsWith replaceAll (splitWS line) s line nf).2 k := by
        intro k hk
        unfold quota
        by_cases hs : k ∈ splitWS line
        · simp [hs, hC k hk hs, hmem k, hk]
        · simp [hs, hmem k]
      rw [wfrLinesAsIs, hspec, linesWith]
      rw [wfrLinesAsIs_err s hnd t _ _ (varsWith_snd replaceAll _ s line nf hnf ▸ hnf.filter _)
        (fun k hk => hsub k ((hmem k).1 hk).1)]
      have hiff : (∃ k ∈ keys s, quota (varsWith replaceAll (splitWS line) s line nf).2 k < occ k t) ↔
          ∃ k ∈ keys s, quota nf k < occ k (line :: t) :=
        exists_congr fun k => and_congr_right fun hk => by rw [occ_cons, hq k hk]; omega
      by_cases hE : ∃ k ∈ keys s, quota nf k < occ k (line :: t)
      · rw [if_pos hE, if_pos (hiff.2 hE)]
      · rw [if_neg hE, if_neg (fun h => hE (hiff.1 h))]
    · rw [if_neg hC] at hspec
      obtain ⟨k, hk, hs, hn⟩ : ∃ k, k ∈ keys s ∧ k ∈ splitWS line ∧ k ∉ nf := by simpa using hC
      rw [wfrLinesAsIs, hspec, if_pos ⟨k, hk, by rw [occ_cons, if_pos hs, quota, if_neg hn]; omega⟩]
end Infretis.Template
