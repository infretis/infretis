import Infretis.Lemmas.RepexReissue
import Infretis.Lemmas.RepexLoad
import Infretis.Lemmas.RepexC06Restart
/-
C06: `restore (persist s)`.  The scalar part of the rebuilt state is what `__init__` builds from the image
(`restore_ok`, RepexLoad).
For a stop state with its jobs in flight on record (`StopStateM`: what a state right after `treat_output` looks like,
including the sorted diagonal that C05 proves) the load goes through (`restore_persist_ok_iff`) and `restoredSt` has W,
the slot order and — as finite maps — the fraction and weight tables of the stopped state (`RestoreRelM`).  The
one-worker stop (`StopState`, `RestoreRel`) is the case of an empty record whose spawn counter counts the steps.
-/
namespace Infretis.Repex

theorem FEq_of_keys (f g : AL) (h : ∀ q ∈ f.map (·.1) ++ g.map (·.1), f.lookup q = g.lookup q) : FEq f g := by
  intro q
  by_cases hq : q ∈ f.map (·.1) ++ g.map (·.1)
  · exact h q hq
  · rw [List.mem_append, not_or] at hq
    rw [Assoc.lookup_eq_none_iff.mpr hq.1, Assoc.lookup_eq_none_iff.mpr hq.2]

/-- A result known to be `.ok _` is `.ok x` for the `x` that every `.ok` value of it equals — in particular for an
    `x` defined by a `match` on the result.  Evaluating `isOk` follows the control flow only; comparing the two sides
    field by field would compute every field of the states twice. -/
theorem eq_ok_of_isOk {α : Type} {r : Except Err α} {x : α} (h : r.isOk = true)
    (hx : ∀ y, r = .ok y → x = y) : r = .ok x := by
  cases r with
  | ok y => rw [hx y rfl]
  | error e => exact absurd h (by simp [Except.isOk, Except.toBool])

/-- what the restart rebuilds from the image of a stop with jobs in flight (`recs`: the recorded jobs with their
    ordinals): the slots as they were, all unlocked but the ghost — re-locking the recorded slots gives the locks of the
    stopped state —, the record to be re-issued, a full initiation due, fresh engine table, no rows -/
structure RestoreRelM (occ : List (List Int)) (recs : List ((List Nat × List Nat) × Nat)) (s s' : St) : Prop where
  n : s'.n = s.n
  W : s'.W = s.W
  trajs : s'.trajs = s.trajs
  locks : lockAll (recs.flatMap (fun r => recPairs r.1)) s'.locks = s.locks
  locked : s'.locked = []
  lockedOrd : s'.lockedOrd = []
  locked0 : s'.locked0 = recs.map (·.1)
  locked0Ord : s'.locked0Ord = recs.map (fun r => some r.2)
  workers : s'.workers = s.workers
  cstep : s'.cstep = s.cstep
  tsteps : s'.tsteps = s.tsteps
  trajNum : s'.trajNum = s.trajNum
  frac : FEq s.frac s'.frac
  wts : FEq s.wts s'.wts
  ensEng : s'.ensEng = s.ensEng
  seed : s'.seed = s.seed
  entropy : s'.entropy = s.entropy
  spawned : s'.spawned = s.spawned
  toinitiate : s'.toinitiate = (s'.workers : Int)
  restarted : s'.restarted = true
  rgenRestored : s'.rgenRestored = false
  occ : s'.occ = occ
  rows : s'.rows = []

/-- a stop state with jobs in flight: as `StopState`, but the real slots may be locked (exactly the recorded ones:
    `locksRec`), the record `recs` is `locked`/`lockedOrd`, and the spawn counter is whatever it is -/
structure StopStateM (s : St) (pns : List Nat) (recs : List ((List Nat × List Nat) × Nat)) : Prop where
  n2 : 2 ≤ s.n
  lenW : s.W.length = s.n
  lenT : s.trajs.length = s.n
  lenL : s.locks.length = s.n
  pnsLen : pns.length = s.n - 1
  slot : ∀ (e pn : Nat), pns[e]? = some pn → s.trajs[e]? = some (some pn) ∧
    ∃ w, s.wts.lookup pn = some w ∧ s.W[e]? = some (padValid s ((e : Int) - 1) w) ∧
      (padValid s ((e : Int) - 1) w).length = s.n ∧ (padValid s ((e : Int) - 1) w).getD e 0 ≠ 0 ∧
      ∃ f, s.frac.lookup pn = some f
  ghostT : s.trajs[s.n - 1]? = some none
  ghostW : s.W[s.n - 1]? = some (List.replicate s.n 0)
  fracKeys : ∀ q ∈ s.frac.map (·.1), q ∈ pns
  wtsKeys : ∀ q ∈ s.wts.map (·.1), q ∈ pns
  locked : s.locked = recs.map (fun r => recEntry r.1)
  lockedOrd : s.lockedOrd = recs.map (·.2)
  locksRec : lockAll (recs.flatMap (fun r => recPairs r.1)) (List.replicate (s.n - 1) false ++ [true]) = s.locks
  locked0 : s.locked0 = []
  locked0Ord : s.locked0Ord = []
  entropy : s.entropy = s.seed

theorem StopStateM.allLive {s : St} {pns : List Nat} {recs : List ((List Nat × List Nat) × Nat)}
    (h : StopStateM s pns recs) : AllLive s :=
  ⟨h.n2, h.lenT, fun e he =>
    ⟨_, (h.slot e _ (List.getElem?_eq_getElem (by rw [h.pnsLen]; exact he))).1⟩⟩

theorem StopStateM.livePns {s : St} {pns : List Nat} {recs : List ((List Nat × List Nat) × Nat)}
    (h : StopStateM s pns recs) : livePns s = pns := by
  apply List.ext_getElem?
  intro e
  cases hp : pns[e]? with
  | some pn =>
    have he := getElem?_lt_of_some hp
    rw [h.pnsLen] at he
    exact h.allLive.livePns_get.mpr ⟨he, (h.slot e pn hp).1⟩
  | none =>
    apply List.getElem?_eq_none
    rw [length_livePns s, ← h.pnsLen]
    exact List.getElem?_eq_none_iff.mp hp

theorem restore_persist_multi {s : St} {pns : List Nat} {recs : List ((List Nat × List Nat) × Nat)}
    (h : StopStateM s pns recs) (occ : List (List Int)) :
    ∃ s', restore (persist s) s.n s.workers s.tsteps occ s.ensEng (fun pn => (s.wts.lookup pn).getD []) = .ok s' ∧
      RestoreRelM occ recs s s' := by
  have hl := h.allLive
  have hn2 := h.n2
  have hnums := h.livePns
  let wOf : Nat → List Rat := fun pn => (s.wts.lookup pn).getD []
  have hslot : ∀ (e pn : Nat), pns[e]? = some pn → s.trajs[e]? = some (some pn) ∧
      s.W[e]? = some (padValid s ((e : Int) - 1) (wOf pn)) ∧ (padValid s ((e : Int) - 1) (wOf pn)).length = s.n ∧
      (padValid s ((e : Int) - 1) (wOf pn)).getD e 0 ≠ 0 := by
    intro e pn hp
    obtain ⟨a, w, c, d, e1, e2, _⟩ := h.slot e pn hp
    have : wOf pn = w := by simp only [wOf, c, Option.getD_some]
    rw [this]
    exact ⟨a, d, e1, e2⟩
  refine ⟨_, (restore_persist_ok_iff hl).mpr ⟨fun e pn he => ?_, rfl⟩, ?_⟩
  · rw [hnums] at he
    exact (hslot e pn he).2.2
  have hext : ∀ {α : Type} {x y : List α}, x.length = s.n → y.length = s.n → (∀ e, e < s.n → x[e]? = y[e]?) →
      x = y := fun hx hy hxy => List.ext_getElem? fun e => by
    by_cases he : e < s.n
    · exact hxy e he
    · rw [List.getElem?_eq_none (by omega), List.getElem?_eq_none (by omega)]
  have hkeyed : ∀ (g : Nat → List Rat) (t : AL), (∀ q ∈ t.map (·.1), q ∈ pns) →
      (∀ q ∈ pns, t.lookup q = some (g q)) → FEq t ((loadOrder (livePns s)).map fun pn => (pn, g pn)) := by
    intro g t hk hv q
    rw [hnums, Assoc.lookup_keyed]
    by_cases hq : q ∈ pns
    · rw [if_pos ((loadOrder_perm pns).mem_iff.mpr hq)]; exact hv q hq
    · rw [if_neg (fun hc => hq ((loadOrder_perm pns).mem_iff.mp hc))]
      exact Assoc.lookup_eq_none_iff.mpr (fun hk' => hq (hk q hk'))
  exact
    { n := rfl
      W := hext (restoredSt_lenW hl ..) h.lenW fun e he => by
        by_cases h1 : e < s.n - 1
        · obtain ⟨pn, hp⟩ : ∃ pn, pns[e]? = some pn := ⟨_, List.getElem?_eq_getElem (by rw [h.pnsLen]; exact h1)⟩
          obtain ⟨a, b, _⟩ := hslot e _ hp
          rw [restoredSt_W hl _ _ _ _ _ h1 a, b]
        · obtain rfl : e = s.n - 1 := by omega
          rw [restoredSt_ghostW, h.ghostW]
      trajs := hext (restoredSt_lenT hl ..) h.lenT fun e he => by
        by_cases h1 : e < s.n - 1
        · exact restoredSt_trajs hl _ _ _ _ _ h1
        · obtain rfl : e = s.n - 1 := by omega
          rw [restoredSt_ghostT hl, h.ghostT]
      locks := h.locksRec
      locked := rfl, lockedOrd := rfl
      locked0 := by
        show s.locked.map _ = _
        rw [h.locked]
        simpa [List.map_map] using persist_locked_recEntry (recs.map (·.1))
      locked0Ord := by
        show s.lockedOrd.map some = _
        rw [h.lockedOrd, List.map_map]
        rfl
      workers := rfl, cstep := rfl, tsteps := rfl, trajNum := rfl
      frac := hkeyed (fun pn => (s.frac.lookup pn).getD (List.replicate s.n 0)) s.frac h.fracKeys fun q hq => by
        obtain ⟨e, he⟩ := List.mem_iff_getElem?.mp hq
        obtain ⟨_, w, _, _, _, _, f, hf⟩ := h.slot e q he
        rw [hf]; rfl
      wts := hkeyed wOf s.wts h.wtsKeys fun q hq => by
        obtain ⟨e, he⟩ := List.mem_iff_getElem?.mp hq
        obtain ⟨_, w, hw, _⟩ := h.slot e q he
        simp only [wOf, hw, Option.getD_some]
      ensEng := rfl, seed := rfl, entropy := h.entropy.symm
      spawned := persist_spawned s
      toinitiate := rfl, restarted := rfl, rgenRestored := rfl, occ := rfl, rows := rfl }

/-- a one-worker state right after `treat_output` ("stop state"), `pns` = its live path numbers in slot order:
    shapes; every real slot idle, holding a path whose padded weight vector is its W row, of full length, with a
    non-zero entry on the diagonal (the sorted-diagonal invariant, C05), and with a fraction entry; the ghost slot
    empty, zero and locked; no table entries for dead paths; nothing in flight or on record; entropy = seed and
    spawn counter = steps done. -/
structure StopState (s : St) (pns : List Nat) : Prop where
  n2 : 2 ≤ s.n
  lenW : s.W.length = s.n
  lenT : s.trajs.length = s.n
  lenL : s.locks.length = s.n
  pnsLen : pns.length = s.n - 1
  slot : ∀ (e pn : Nat), pns[e]? = some pn → s.trajs[e]? = some (some pn) ∧ s.locks[e]? = some false ∧
    ∃ w, s.wts.lookup pn = some w ∧ s.W[e]? = some (padValid s ((e : Int) - 1) w) ∧
      (padValid s ((e : Int) - 1) w).length = s.n ∧ (padValid s ((e : Int) - 1) w).getD e 0 ≠ 0 ∧
      ∃ f, s.frac.lookup pn = some f
  ghostT : s.trajs[s.n - 1]? = some none
  ghostW : s.W[s.n - 1]? = some (List.replicate s.n 0)
  ghostL : s.locks[s.n - 1]? = some true
  fracKeys : ∀ q ∈ s.frac.map (·.1), q ∈ pns
  wtsKeys : ∀ q ∈ s.wts.map (·.1), q ∈ pns
  locked : s.locked = []
  locked0 : s.locked0 = []
  lockedOrd : s.lockedOrd = []
  locked0Ord : s.locked0Ord = []
  entropy : s.entropy = s.seed
  spawned : s.spawned = s.cstep

theorem StopState.toM {s : St} {pns : List Nat} (h : StopState s pns) : StopStateM s pns [] := by
  have hn2 := h.n2
  refine ⟨h.n2, h.lenW, h.lenT, h.lenL, h.pnsLen, fun e pn hp => ?_, h.ghostT, h.ghostW, h.fracKeys, h.wtsKeys,
    h.locked, h.lockedOrd, ?_, h.locked0, h.locked0Ord, h.entropy⟩
  · obtain ⟨a, _, rest⟩ := h.slot e pn hp
    exact ⟨a, rest⟩
  · -- every real slot is idle, the ghost slot locked
    show List.replicate (s.n - 1) false ++ [true] = s.locks
    apply List.ext_getElem?
    intro e
    by_cases he : e < s.n - 1
    · obtain ⟨pn, hp⟩ : ∃ pn, pns[e]? = some pn := ⟨_, List.getElem?_eq_getElem (by rw [h.pnsLen]; exact he)⟩
      rw [(h.slot e pn hp).2.1, List.getElem?_append_left (by simpa using he), List.getElem?_replicate, if_pos he]
    · by_cases he2 : e = s.n - 1
      · rw [he2, h.ghostL, List.getElem?_append_right (by simp)]
        simp
      · rw [List.getElem?_eq_none (by simp; omega), List.getElem?_eq_none (by rw [h.lenL]; omega)]

theorem StopStateM.to1 {s : St} {pns : List Nat} (h : StopStateM s pns []) (hsp : s.spawned = s.cstep) :
    StopState s pns := by
  have hn2 := h.n2
  have hL : s.locks = List.replicate (s.n - 1) false ++ [true] := h.locksRec.symm
  refine ⟨h.n2, h.lenW, h.lenT, h.lenL, h.pnsLen, fun e pn hp => ?_, h.ghostT, h.ghostW, ?_, h.fracKeys, h.wtsKeys,
    h.locked, h.locked0, h.lockedOrd, h.locked0Ord, h.entropy, hsp⟩
  · have he : e < s.n - 1 := by rw [← h.pnsLen]; exact getElem?_lt_of_some hp
    obtain ⟨a, rest⟩ := h.slot e pn hp
    exact ⟨a, by rw [hL, List.getElem?_append_left (by simpa using he), List.getElem?_replicate, if_pos he], rest⟩
  · rw [hL, List.getElem?_append_right (by simp)]
    simp

theorem restore_persist_full {s : St} {pns : List Nat} (h : StopState s pns) (occ : List (List Int)) :
    ∃ s', restore (persist s) s.n s.workers s.tsteps occ s.ensEng (fun pn => (s.wts.lookup pn).getD []) = .ok s' ∧
      RestoreRel occ s s' := by
  obtain ⟨s', hres, hR⟩ := restore_persist_multi h.toM occ
  exact ⟨s', hres, ⟨hR.n.symm, hR.W.symm, hR.trajs.symm, hR.locks.symm, h.locked.trans hR.locked.symm,
    h.locked0.trans hR.locked0.symm, h.lockedOrd.trans hR.lockedOrd.symm, h.locked0Ord.trans hR.locked0Ord.symm,
    hR.workers.symm, hR.cstep.symm, hR.tsteps.symm, hR.trajNum.symm, hR.frac, hR.wts, hR.ensEng.symm, hR.seed.symm,
    hR.entropy.symm, hR.spawned.symm, rfl, fun f => f.elim, fun f => f.elim, ⟨[], by simp, by simp [hR.rows]⟩⟩,
    hR.toinitiate, hR.restarted, hR.rgenRestored, hR.occ⟩

end Infretis.Repex
