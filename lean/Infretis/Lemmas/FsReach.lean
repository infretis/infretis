import Infretis.Lemmas.FsInv
/-!
C08: the invariant is re-established by a completed step, and by a restart from any disk that the
restart cannot tell from a consistent state (`Resembles`); every crash point of a step that leaves a
complete record is such a disk, for the state before the step or the one after it.
-/
namespace Infretis.Fs

theorem Inv.record_eq {M : Manifest} {m : Mem} {d : Disk} {r : Rec} (hI : Inv M m d)
    (hr : d.restart = .complete r) :
    r.cstep = m.cstep ∧ r.active = pns m.live ∧ r.trajNum = m.trajNum
      ∧ r.restartedFrom ≠ some r.cstep := by
  obtain ⟨r', hr', h⟩ := hI.record
  rw [hr] at hr'
  cases hr'
  exact h

theorem new_live_facts {cfg : Cfg} {M : Manifest} {m : Mem} {c : Choice} {d : Disk}
    (hI : Inv M m d) (hW : WF cfg M m c d) :
    (∀ p ∈ c.newLive, p.pn < m.trajNum + c.accs.length ∧ M p.cid = some (p.files.map Prod.fst))
    ∧ (∀ q, q < m.trajNum → q ∉ pns m.live → q ∉ pns c.newLive)
    ∧ (∀ a ∈ c.accs, a.old.pn ∉ pns c.newLive) := by
  refine ⟨?_, ?_, ?_⟩
  · intro p hp
    rcases hW.new_live p hp with ⟨hl, _⟩ | ⟨i, a, hia, rfl⟩
    · have := hI.live_ok p hl
      exact ⟨by omega, this.2.2⟩
    · obtain ⟨hi, rfl⟩ := List.getElem?_eq_some_iff.1 hia
      exact ⟨by simp [newPath]; omega, hW.manifest _ (List.getElem_mem hi)⟩
  · intro q hq hnl hmem
    obtain ⟨p, hp, rfl⟩ := List.mem_map.1 hmem
    rcases hW.new_live p hp with ⟨hl, _⟩ | ⟨i, a, _, rfl⟩
    · exact hnl (List.mem_map_of_mem hl)
    · simp [newPath] at hq; omega
  · intro a ha hmem
    obtain ⟨p, hp, he⟩ := List.mem_map.1 hmem
    rcases hW.new_live p hp with ⟨_, hne⟩ | ⟨i, b, _, rfl⟩
    · exact hne a ha he.symm
    · have := (hI.live_ok a.old (hW.old_live a ha)).2.1
      simp [newPath] at he; omega

theorem newRec_rf {cfg : Cfg} {M : Manifest} {m : Mem} {c : Choice} {d : Disk}
    (hI : Inv M m d) (hW : WF cfg M m c d) :
    (newRec m c).restartedFrom ≠ some (newRec m c).cstep := by
  simp only [newRec]
  cases hinc : c.inc with
  | true =>
    intro h
    have := hI.rf _ h
    simp at this
    omega
  | false =>
    simpa using (hW.final hinc).2

theorem Inv.step {cfg : Cfg} {M : Manifest} {m : Mem} {c : Choice} {d : Disk}
    (hI : Inv M m d) (hW : WF cfg M m c d) :
    Inv M (stepMem cfg m c d) (run (stepEffs cfg m c d) d) := by
  have hr := run_step_restart cfg m c d
  obtain ⟨hfiles, hdata⟩ := run_step hW
  obtain ⟨nl1, nl2, nl3⟩ := new_live_facts hI hW
  obtain ⟨ht, hg, hnd, hnot⟩ := (rowsOK_iff _ _).1 hI.rows
  rw [appendRows_of_not_torn _ _ ht] at hdata
  have hlt : ∀ a ∈ c.accs, a.old.pn < m.trajNum := fun a ha => (hI.live_ok a.old (hW.old_live a ha)).2.1
  exact {
    record := ⟨newRec m c, hr, rfl, rfl, rfl, newRec_rf hI hW⟩
    live_ok := fun p hp => ⟨by rw [hfiles]; exact new_live_stored hI hW p hp, nl1 p hp⟩
    live_nodup := hW.new_nodup
    olds := by
      intro o ho
      show o.pn < m.trajNum + c.accs.length ∧ o.pn ∉ pns c.newLive
      -- the queue holds what it held before and paths replaced in this step
      rcases accOlds_mem cfg c.accs m.trajNum m.olds d o ho with h | ⟨a, ha, rfl⟩
      · have := hI.olds o h
        exact ⟨by omega, nl2 o.pn this.1 this.2⟩
      · have := hlt a ha
        exact ⟨by show a.old.pn < _; omega, nl3 a ha⟩
    rows := by
      rw [hdata, rowsOK_iff]
      refine ⟨ht, hg, ?_, ?_⟩
      · show (d.data.rows ++ c.accs.map (fun a => a.old.pn)).Nodup
        rw [List.nodup_append]
        refine ⟨hnd, hW.old_nodup, ?_⟩
        -- a replaced path was live, so it had no row
        rintro q hq _ hq' rfl
        obtain ⟨a, ha, rfl⟩ := List.mem_map.1 hq'
        exact hnot _ hq (List.mem_map_of_mem (hW.old_live a ha))
      · intro q hq
        rcases List.mem_append.1 hq with hq | hq
        · exact nl2 q (hI.rows_lt q hq) (hnot q hq)
        · obtain ⟨a, ha, rfl⟩ := List.mem_map.1 hq
          exact nl3 a ha
    rows_lt := by
      rw [hdata]
      intro q hq
      show q < m.trajNum + c.accs.length
      rcases List.mem_append.1 hq with hq | hq
      · have := hI.rows_lt q hq; omega
      · obtain ⟨a, ha, rfl⟩ := List.mem_map.1 hq
        have := hlt a ha; omega
    rf := by
      intro R hR
      have := hI.rf R hR
      simp only [stepMem, newRec]
      split <;> omega }

theorem restoreDisk_files (cfg : Cfg) (r : Rec) (d : Disk) : (restoreDisk cfg r d).files = d.files := by
  unfold restoreDisk; split <;> rfl

theorem restoreDisk_restart (cfg : Cfg) (r : Rec) (d : Disk) : (restoreDisk cfg r d).restart = d.restart := by
  unfold restoreDisk; split <;> rfl

/-- the restart cannot tell the disk `d'` from the consistent state `(m, d)`: restart.toml is the
    same, and every live path is completely stored.  (The data file may differ.) -/
structure Resembles (d' : Disk) (m : Mem) (d : Disk) : Prop where
  restart : d'.restart = d.restart
  live : ∀ p ∈ m.live, pathOK d'.files p = true

theorem Resembles.refl {M : Manifest} {m : Mem} {d : Disk} (hI : Inv M m d) : Resembles d m d :=
  ⟨rfl, fun p hp => (hI.live_ok p hp).1⟩

section
variable {M : Manifest} {m : Mem} {d d' : Disk} {r : Rec}

theorem Resembles.loads (hS : Resembles d' m d) (hI : Inv M m d) :
    ∀ p ∈ m.live, loadPath M d'.files p.pn = some p :=
  fun p hp => loadPath_of_pathOK M _ p (hS.live p hp) (hI.live_ok p hp).2.2

theorem Resembles.active_load (hS : Resembles d' m d) (hI : Inv M m d) (hr : d.restart = .complete r) :
    ∀ a ∈ r.active, ∃ p, loadPath M d'.files a = some p ∧ p.pn = a ∧ pathOK d'.files p = true := by
  intro a ha
  rw [(hI.record_eq hr).2.1] at ha
  obtain ⟨p, hp, rfl⟩ := List.mem_map.1 ha
  exact ⟨p, hS.loads hI p hp, rfl, hS.live p hp⟩

theorem Resembles.starts (hS : Resembles d' m d) (hI : Inv M m d) (hr : d.restart = .complete r) :
    restartOutcome M .restartToml d' = .starts r :=
  outcome_starts M d' r m.live (hS.restart.trans hr) (hI.record_eq hr).2.2.2 (hI.record_eq hr).2.1
    (fun p hp => ⟨hS.live p hp, (hI.live_ok p hp).2.2⟩)

theorem Resembles.restore_live (hS : Resembles d' m d) (hI : Inv M m d) (hr : d.restart = .complete r) :
    (restore M r d'.files).live = m.live := by
  simp only [restore, (hI.record_eq hr).2.1, pns]
  exact filterMap_load M _ m.live (hS.loads hI)

theorem Resembles.restore_inv (cfg : Cfg) (hS : Resembles d' m d) (hI : Inv M m d)
    (hr : d.restart = .complete r) (hdata : (restoreDisk cfg r d').data = d.data) :
    Inv M (restore M r d'.files) (restoreDisk cfg r d') := by
  obtain ⟨hcs, hact, htn, hrf⟩ := hI.record_eq hr
  have hlive := hS.restore_live hI hr
  exact {
    record := ⟨r, (restoreDisk_restart ..).trans (hS.restart.trans hr), rfl, by rw [hlive]; exact hact, rfl, hrf⟩
    live_ok := by
      rw [hlive, restoreDisk_files]
      intro p hp
      exact ⟨hS.live p hp, by show p.pn < r.trajNum; rw [htn]; exact (hI.live_ok p hp).2.1,
        (hI.live_ok p hp).2.2⟩
    live_nodup := by rw [hlive]; exact hI.live_nodup
    olds := fun o ho => nomatch ho
    rows := by rw [hlive, hdata]; exact hI.rows
    rows_lt := by
      rw [hdata]
      intro q hq
      show q < r.trajNum
      rw [htn]; exact hI.rows_lt q hq
    rf := by
      intro R hR
      cases hR
      exact Nat.le_refl _ }

/-- the data file of a consistent state has nothing for `clean_data_file` to drop -/
theorem Inv.restoreDisk_data (cfg : Cfg) (hI : Inv M m d) (hr : d.restart = .complete r) :
    (restoreDisk cfg r d).data = d.data := by
  unfold restoreDisk
  split
  · exact (hI.record_eq hr).2.1 ▸ cleanData_of_rowsOK _ _ hI.rows
  · rfl

end

/-- **every crash point of a step**: the disk resembles the state before the step (and then
    the restart works on the old data file: `clean_data_file` drops what the interrupted step had
    appended, and outside the row window nothing had been), or the step is complete, or
    restart.toml is torn, which happens only inside the truncation window -/
theorem crash_cases {cfg : Cfg} {M : Manifest} {m : Mem} {c : Choice} {d : Disk}
    (hI : Inv M m d) (hW : WF cfg M m c d) (k : Nat) (half : Bool) :
    (k < (stepEffs cfg m c d).length ∧ Resembles (crashStep cfg m c d k half) m d
        ∧ ∀ r, d.restart = .complete r →
            cfg.cleanOnRestart = true ∨ inRowWindow cfg m c d k half = false →
            (restoreDisk cfg r (crashStep cfg m c d k half)).data = d.data)
    ∨ ((stepEffs cfg m c d).length ≤ k ∧ crashStep cfg m c d k half = run (stepEffs cfg m c d) d)
    ∨ (inTruncWindow cfg m c d k = true
        ∧ ((crashStep cfg m c d k half).restart = .empty ∨ (crashStep cfg m c d k half).restart = .part)) := by
  by_cases hk : (stepEffs cfg m c d).length ≤ k
  · exact Or.inr (Or.inl ⟨hk, crashStep_done cfg m c d k half hk⟩)
  · have hk := Nat.lt_of_not_le hk
    cases hw : inTruncWindow cfg m c d k
    · obtain ⟨ho, hd, n, hrows, hg⟩ := crash_incomplete hI hW k half hk hw
      refine Or.inl ⟨hk, ⟨ho, old_live_safe hI hW k half⟩, fun r hr0 hok => ?_⟩
      unfold restoreDisk
      by_cases hc : cfg.cleanOnRestart = true
      · rw [if_pos hc]
        show cleanData _ r.active = d.data
        rw [(hI.record_eq hr0).2.1]
        refine cleanData_of_extra d.data _ (pns m.live) _ hI.rows hrows hg ?_
        -- the rows the step had appended are rows of paths that the old record lists as active
        intro q hq
        obtain ⟨a, ha, rfl⟩ := List.mem_map.1 (List.mem_of_mem_take hq)
        exact List.mem_map_of_mem (hW.old_live a ha)
      · rw [if_neg hc]
        exact hd (hok.resolve_left hc)
    · exact Or.inr (Or.inr ⟨rfl, crash_in_window cfg m c d k half hw⟩)

end Infretis.Fs
