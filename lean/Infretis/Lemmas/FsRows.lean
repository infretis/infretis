import Infretis.Lemmas.FsReach
/-!
C08: the LOWER bound of "every replaced path appears exactly once in the data file".

`Inv.rows` / `rowsOK` only say: whole rows, no path twice, no live path (at most once).  `Complete`
says that every path number handed out so far that is no longer live HAS its row.  It is preserved
by completed steps and by a restart that works on the same data file, provided the step keeps
the live paths it does not replace and makes the new paths live (`Cover`: what `add_traj` /
`sort_trajstate` / `live_paths()` do; the tie evaluates it on every real step).
-/
namespace Infretis.Fs

/-- every path number handed out so far that is not live any more has a row in the data file -/
def Complete (m : Mem) (d : Disk) : Prop :=
  ∀ q, q < m.trajNum → q ∉ pns m.live → q ∈ d.data.rows

/-- the step keeps every live path it does not replace, and every newly stored path becomes live -/
structure Cover (m : Mem) (c : Choice) : Prop where
  keeps : ∀ p ∈ m.live, p.pn ∈ pns c.newLive ∨ ∃ a ∈ c.accs, a.old.pn = p.pn
  news : ∀ i, i < c.accs.length → m.trajNum + i ∈ pns c.newLive

theorem complete_new (m : Mem) (c : Choice) (d : Disk) (hC : Complete m d) (hcov : Cover m c)
    (q : Nat) (hq : q < m.trajNum + c.accs.length) (hnl : q ∉ pns c.newLive) :
    q ∈ d.data.rows ++ c.accs.map (fun a => a.old.pn) := by
  by_cases hlt : q < m.trajNum
  · by_cases hl : q ∈ pns m.live
    · obtain ⟨p, hp, rfl⟩ := List.mem_map.1 hl
      rcases hcov.keeps p hp with h | ⟨a, ha, he⟩
      · exact absurd h hnl
      · exact List.mem_append_right _ (List.mem_map.2 ⟨a, ha, he⟩)
    · exact List.mem_append_left _ (hC q hlt hl)
  · have h1 : q - m.trajNum < c.accs.length := by omega
    have := hcov.news (q - m.trajNum) h1
    have h2 : m.trajNum + (q - m.trajNum) = q := by omega
    rw [h2] at this
    exact absurd this hnl

theorem step_complete {cfg : Cfg} {M : Manifest} {m : Mem} {c : Choice} {d : Disk}
    (hI : Inv M m d) (hW : WF cfg M m c d) (hcov : Cover m c) (hC : Complete m d) :
    Complete (stepMem cfg m c d) (run (stepEffs cfg m c d) d) := by
  intro q hq hnl
  rw [(run_step hW).2, appendRows_of_not_torn _ _ ((rowsOK_iff _ _).1 hI.rows).1]
  exact complete_new m c d hC hcov q hq hnl

theorem mem_cleanData (df : DataFile) (act : List Nat) (q : Nat) :
    q ∈ (cleanData df act).rows ↔ q ∈ df.rows ∧ q ∉ act := by
  simp [cleanData, List.mem_filter]

theorem Resembles.restore_complete {M : Manifest} {m : Mem} {d d' : Disk} {r : Rec} (cfg : Cfg)
    (hS : Resembles d' m d) (hI : Inv M m d) (hr : d.restart = .complete r)
    (hdata : (restoreDisk cfg r d').data = d.data) (hC : Complete m d) :
    Complete (restore M r d'.files) (restoreDisk cfg r d') := by
  intro q hq hnl
  rw [hS.restore_live hI hr] at hnl
  have hq' : q < r.trajNum := hq
  rw [(hI.record_eq hr).2.2.1] at hq'
  rw [hdata]
  exact hC q hq' hnl

end Infretis.Fs
