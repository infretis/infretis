import Infretis.Lemmas.ReadersSpec
import Infretis.Model.ReadersSlack
/-!
The per-frame-slack stage specification `lmpCountS` / `lmpStagesS` (Model/ReadersSlack.lean): pure list arithmetic.
A frame is a pair `(len, slack)`: its length in bytes, and how many of its last bytes (the white space and the newline
behind its last trailing id) may be missing when the reader accepts it.  The state between polls is `(d, m)`: `d` frames
returned, `m` bytes of the last of them neither seen nor skipped yet; the reader is *late* while `m > 0`.

`lmpFinalS`, `lmpStagesS` and `lmpStagesPosS` iterate one poll step, `pollS` (`lmpFinalS_cons`, `lmpStagesS_cons`,
`lmpStagesPosS_some`); what holds of a run of polls is an induction that supplies the fact about one step.
-/
namespace Infretis.Readers

theorem endOf_zero (fr : List (Nat × Nat)) : endOf fr 0 = 0 := by simp [endOf, sumLens]

theorem endOf_cons_succ (f : Nat × Nat) (fr : List (Nat × Nat)) (d : Nat) :
    endOf (f :: fr) (d + 1) = f.1 + endOf fr d := by
  simp [endOf, sumLens]

theorem endOf_add (fr : List (Nat × Nat)) (a b : Nat) : endOf fr (a + b) = endOf fr a + endOf (fr.drop a) b := by
  simp only [endOf]
  rw [List.take_add, List.map_append, sumLens_append]

theorem endOf_total (fr : List (Nat × Nat)) (d : Nat) :
    sumLens (fr.map Prod.fst) = endOf fr d + sumLens ((fr.drop d).map Prod.fst) := by
  have h : fr = fr.take d ++ fr.drop d := (List.take_append_drop d fr).symm
  have := congrArg (fun x => sumLens (x.map Prod.fst)) h
  simp only [List.map_append, sumLens_append] at this
  exact this

theorem endOf_mono (fr : List (Nat × Nat)) (a b : Nat) (h : a ≤ b) : endOf fr a ≤ endOf fr b := by
  obtain ⟨k, rfl⟩ := Nat.exists_eq_add_of_le h
  rw [endOf_add]; omega

theorem endOf_eq_sumLens (fr : List (Nat × Nat)) (d : Nat) : endOf fr d = sumLens ((fr.map Prod.fst).take d) := by
  simp [endOf, List.map_take]

/-- what `lmpCountS` returns: at most all frames; everything returned was visible except `miss` bytes, and
    these lie inside the slack of the last returned frame; no completely visible frame is left out -/
theorem lmpCountS_spec (fr : List (Nat × Nat)) (n : Nat) :
    (lmpCountS fr n).1 ≤ fr.length ∧ endOf fr (lmpCountS fr n).1 ≤ n + (lmpCountS fr n).2 ∧
    ((lmpCountS fr n).2 = 0 ∨ (1 ≤ (lmpCountS fr n).1 ∧ ∃ f, fr[(lmpCountS fr n).1 - 1]? = some f
        ∧ (lmpCountS fr n).2 ≤ f.2 ∧ endOf fr (lmpCountS fr n).1 = n + (lmpCountS fr n).2)) ∧
    completeCount (fr.map Prod.fst) n ≤ (lmpCountS fr n).1 := by
  induction fr generalizing n with
  | nil => simp [lmpCountS, endOf, sumLens, completeCount]
  | cons f fs ih =>
    by_cases h1 : f.1 ≤ n
    · obtain ⟨i1, i2, i3, i4⟩ := ih (n - f.1)
      simp only [lmpCountS, h1, if_true, List.length_cons, List.map_cons, completeCount, endOf_cons_succ]
      refine ⟨by omega, by omega, ?_, by omega⟩
      rcases i3 with i3 | ⟨j1, g, j2, j3, j4⟩
      · left; exact i3
      · right
        refine ⟨by omega, g, ?_, j3, by omega⟩
        have : (lmpCountS fs (n - f.1)).1 + 1 - 1 = ((lmpCountS fs (n - f.1)).1 - 1) + 1 := by omega
        rw [this, List.getElem?_cons_succ]; exact j2
    · by_cases h2 : f.1 ≤ n + f.2
      · simp only [lmpCountS, h1, h2, if_false, if_true, List.length_cons, List.map_cons, completeCount]
        refine ⟨by omega, ?_, ?_, by omega⟩
        · rw [endOf_cons_succ, endOf_zero]; omega
        · right
          refine ⟨by omega, f, by simp, by omega, ?_⟩
          rw [endOf_cons_succ, endOf_zero]; omega
      · simp [lmpCountS, h1, h2, completeCount, endOf_zero]

theorem lmpCountS_drop (fr : List (Nat × Nat)) (d n : Nat) :
    (lmpCountS (fr.drop d) n).2 = 0 ∨ (1 ≤ d + (lmpCountS (fr.drop d) n).1 ∧
      ∃ f, fr[d + (lmpCountS (fr.drop d) n).1 - 1]? = some f ∧ (lmpCountS (fr.drop d) n).2 ≤ f.2) := by
  rcases (lmpCountS_spec (fr.drop d) n).2.2.1 with s3 | ⟨j1, g, j2, j3, _⟩
  · exact Or.inl s3
  · rw [List.getElem?_drop] at j2
    refine Or.inr ⟨by omega, g, ?_, j3⟩
    rw [show d + (lmpCountS (fr.drop d) n).1 - 1 = d + ((lmpCountS (fr.drop d) n).1 - 1) by omega]
    exact j2

theorem lmpCountS_all (fr : List (Nat × Nat)) (n : Nat) (h : sumLens (fr.map Prod.fst) ≤ n) :
    lmpCountS fr n = (fr.length, 0) := by
  induction fr generalizing n with
  | nil => rfl
  | cons f fs ih =>
    simp only [List.map_cons, sumLens] at h
    have h1 : f.1 ≤ n := by omega
    simp only [lmpCountS, h1, if_true, ih (n - f.1) (by omega), List.length_cons]

/-- one poll of the specification that sees `c` bytes, from `done = d`, `miss = m`: in the late state nothing is
    returned and the line end is skipped once the frame's newline is visible; at a frame boundary `lmpCountS` more
    frames are returned -/
def pollS (fr : List (Nat × Nat)) (c d m : Nat) : Nat × Nat :=
  if m ≠ 0 then (d, if c < endOf fr d then m else 0)
  else (d + (lmpCountS (fr.drop d) (c - endOf fr d)).1, (lmpCountS (fr.drop d) (c - endOf fr d)).2)

theorem lmpFinalS_cons (fr : List (Nat × Nat)) (c : Nat) (cs : List Nat) (d m : Nat) :
    lmpFinalS fr (c :: cs) d m = lmpFinalS fr cs (pollS fr c d m).1 (pollS fr c d m).2 := by
  unfold pollS
  by_cases hm : m ≠ 0
  · by_cases h : c < endOf fr d <;> simp [lmpFinalS, hm, h]
  · simp [lmpFinalS, hm]

theorem lmpStagesS_cons {F : Type} (fr : List (Nat × Nat)) (dec : List F) (c : Nat) (cs : List Nat) (d m : Nat) :
    lmpStagesS fr dec (c :: cs) d m
      = (dec.drop d).take ((pollS fr c d m).1 - d) :: lmpStagesS fr dec cs (pollS fr c d m).1 (pollS fr c d m).2 := by
  unfold pollS
  by_cases hm : m ≠ 0
  · by_cases h : c < endOf fr d <;> simp [lmpStagesS, hm, h]
  · simp [lmpStagesS, hm]

theorem lmpStagesPosS_some {F : Type} (fr : List (Nat × Nat)) (dec : List F) (c : Nat) (es : List (Option Nat))
    (d m : Nat) :
    lmpStagesPosS fr dec (some c :: es) d m
      = ((dec.drop d).take ((pollS fr c d m).1 - d), endOf fr (pollS fr c d m).1 - (pollS fr c d m).2)
          :: lmpStagesPosS fr dec es (pollS fr c d m).1 (pollS fr c d m).2 := by
  unfold pollS
  by_cases hm : m ≠ 0
  · by_cases h : c < endOf fr d <;> simp [lmpStagesPosS, hm, h]
  · simp [lmpStagesPosS, hm]

theorem lmpStagesPosS_fst {F : Type} (fr : List (Nat × Nat)) (dec : List F) (cuts : List Nat) (d m : Nat) :
    (lmpStagesPosS fr dec (cuts.map some) d m).map Prod.fst = lmpStagesS fr dec cuts d m := by
  induction cuts generalizing d m with
  | nil => rfl
  | cons c cs ih => simp only [List.map_cons, lmpStagesPosS_some, lmpStagesS_cons, ih]

theorem le_pollS (fr : List (Nat × Nat)) (c d m : Nat) : d ≤ (pollS fr c d m).1 := by
  unfold pollS
  split
  · exact Nat.le_refl d
  · exact Nat.le_add_right d _

theorem pollS_le (fr : List (Nat × Nat)) (c d m : Nat) (hd : d ≤ fr.length) : (pollS fr c d m).1 ≤ fr.length := by
  unfold pollS
  split
  · exact hd
  · have := (lmpCountS_spec (fr.drop d) (c - endOf fr d)).1
    simp only [List.length_drop] at this ⊢
    omega

theorem lmpFinalS_append (fr : List (Nat × Nat)) (a b : List Nat) (d m : Nat) :
    lmpFinalS fr (a ++ b) d m = lmpFinalS fr b (lmpFinalS fr a d m).1 (lmpFinalS fr a d m).2 := by
  induction a generalizing d m with
  | nil => rfl
  | cons c cs ih => simp only [List.cons_append, lmpFinalS_cons, ih]

theorem lmpStagesS_take {F : Type} (fr : List (Nat × Nat)) (dec : List F) (cuts : List Nat) (j d m : Nat) :
    (lmpStagesS fr dec cuts d m).take j = lmpStagesS fr dec (cuts.take j) d m := by
  induction cuts generalizing j d m with
  | nil => simp [lmpStagesS]
  | cons c cs ih =>
    cases j with
    | zero => simp [lmpStagesS]
    | succ j => simp only [List.take_succ_cons, lmpStagesS_cons, ih]

theorem lmpStagesS_length {F : Type} (fr : List (Nat × Nat)) (dec : List F) (cuts : List Nat) (d m : Nat) :
    (lmpStagesS fr dec cuts d m).length = cuts.length := by
  induction cuts generalizing d m with
  | nil => rfl
  | cons c cs ih => simp only [lmpStagesS_cons, List.length_cons, ih]

/-- **each frame once, in order, whatever the cuts**: what the polls have returned is `dec.take done` -/
theorem lmpStagesS_flatten {F : Type} (fr : List (Nat × Nat)) (dec : List F) (cuts : List Nat) (d m : Nat) :
    dec.take d ++ (lmpStagesS fr dec cuts d m).flatten = dec.take (lmpFinalS fr cuts d m).1 := by
  induction cuts generalizing d m with
  | nil => simp [lmpStagesS, lmpFinalS]
  | cons c cs ih =>
    rw [lmpStagesS_cons, lmpFinalS_cons, List.flatten_cons, ← List.append_assoc, ← List.take_add,
      Nat.add_sub_of_le (le_pollS fr c d m)]
    exact ih _ _

theorem lmpStagesS_flatten_init {F : Type} (fr : List (Nat × Nat)) (dec : List F) (cuts : List Nat) :
    (lmpStagesS fr dec cuts 0 0).flatten = dec.take (lmpFinalS fr cuts 0 0).1 := by
  simpa using lmpStagesS_flatten fr dec cuts 0 0

/-- a state the reader can be in after a poll that saw `c` bytes: `d` frames returned, all their bytes visible
    except `m`, which lie inside the slack of frame `d - 1` -/
def LInvS (fr : List (Nat × Nat)) (c d m : Nat) : Prop :=
  d ≤ fr.length ∧ endOf fr d ≤ c + m ∧ (m = 0 ∨ (1 ≤ d ∧ ∃ f, fr[d - 1]? = some f ∧ m ≤ f.2))

theorem LInvS.zero (fr : List (Nat × Nat)) : LInvS fr 0 0 0 := ⟨Nat.zero_le _, by simp [endOf_zero], Or.inl rfl⟩

theorem LInvS.mono {fr : List (Nat × Nat)} {c c' d m : Nat} (h : c ≤ c') (hv : LInvS fr c d m) : LInvS fr c' d m :=
  ⟨hv.1, Nat.le_trans hv.2.1 (Nat.add_le_add_right h m), hv.2.2⟩

theorem pollS_slack (fr : List (Nat × Nat)) (c : Nat) {d m : Nat}
    (hm : m = 0 ∨ (1 ≤ d ∧ ∃ f, fr[d - 1]? = some f ∧ m ≤ f.2)) :
    (pollS fr c d m).2 = 0 ∨
      (1 ≤ (pollS fr c d m).1 ∧ ∃ f, fr[(pollS fr c d m).1 - 1]? = some f ∧ (pollS fr c d m).2 ≤ f.2) := by
  unfold pollS
  by_cases h0 : m ≠ 0
  · rw [if_pos h0]
    by_cases h : c < endOf fr d
    · rw [if_pos h]; exact hm
    · rw [if_neg h]; exact Or.inl rfl
  · rw [if_neg h0]; exact lmpCountS_drop fr d _

theorem pollS_inv {fr : List (Nat × Nat)} {c0 c d m : Nat} (h0 : c0 ≤ c) (hv : LInvS fr c0 d m) :
    LInvS fr c (pollS fr c d m).1 (pollS fr c d m).2 := by
  refine ⟨pollS_le fr c d m hv.1, ?_, pollS_slack fr c hv.2.2⟩
  have he := hv.2.1
  unfold pollS
  by_cases hm : m ≠ 0
  · rw [if_pos hm]
    by_cases h : c < endOf fr d
    · rw [if_pos h]; exact Nat.le_trans he (Nat.add_le_add_right h0 m)
    · rw [if_neg h]; exact Nat.le_of_not_lt h
  · rw [if_neg hm]
    have s2 := (lmpCountS_spec (fr.drop d) (c - endOf fr d)).2.1
    rw [endOf_add]
    omega

/-- with non-decreasing cuts the state after the polls is valid for every `c` from the last cut on -/
theorem lmpFinalS_inv {fr : List (Nat × Nat)} {cuts : List Nat} {c0 d m : Nat} (hs : (c0 :: cuts).Pairwise (· ≤ ·))
    (hv : LInvS fr c0 d m) {c : Nat} (hc : ∀ x ∈ c0 :: cuts, x ≤ c) :
    LInvS fr c (lmpFinalS fr cuts d m).1 (lmpFinalS fr cuts d m).2 := by
  induction cuts generalizing c0 d m with
  | nil => exact hv.mono (hc c0 List.mem_cons_self)
  | cons c1 cs ih =>
    rw [List.pairwise_cons] at hs
    rw [lmpFinalS_cons]
    exact ih hs.2 (pollS_inv (hs.1 c1 List.mem_cons_self) hv) (fun x hx => hc x (List.mem_cons_of_mem _ hx))

theorem pollS_all (fr : List (Nat × Nat)) (T : Nat) (hT : sumLens (fr.map Prod.fst) ≤ T) (d : Nat)
    (hd : d ≤ fr.length) : pollS fr T d 0 = (fr.length, 0) := by
  have htot := endOf_total fr d
  have := lmpCountS_all (fr.drop d) (T - endOf fr d) (by omega)
  simp only [pollS, ne_eq, not_true_eq_false, if_false, this, List.length_drop, Prod.mk.injEq, and_true]
  omega

theorem lmpS_final_polls (fr : List (Nat × Nat)) (T : Nat) (hT : sumLens (fr.map Prod.fst) ≤ T) (d m : Nat)
    (hd : d ≤ fr.length) : (lmpFinalS fr [T, T] d m).1 = fr.length := by
  rw [lmpFinalS_cons, lmpFinalS_cons, lmpFinalS]
  by_cases hm : m = 0
  · subst hm
    rw [pollS_all fr T hT d hd, pollS_all fr T hT _ (Nat.le_refl _)]
  · have htot := endOf_total fr d
    have h1 : ¬ T < endOf fr d := by omega
    have : pollS fr T d m = (d, 0) := by simp [pollS, hm, h1]
    rw [this, pollS_all fr T hT d hd]

theorem lmpFinalS_le (fr : List (Nat × Nat)) (cuts : List Nat) (d m : Nat) (hd : d ≤ fr.length) :
    (lmpFinalS fr cuts d m).1 ≤ fr.length := by
  induction cuts generalizing d m with
  | nil => exact hd
  | cons c cs ih => rw [lmpFinalS_cons]; exact ih _ _ (pollS_le fr c d m hd)

/-! ### the one-byte-lag specification `lmpCount` / `lmpStages` is the case "every slack = 1" -/

theorem lmpCountS_slack_one (fr : List (Nat × Nat)) (h : ∀ f ∈ fr, f.2 = 1) (n : Nat) :
    lmpCountS fr n = ((lmpCount (fr.map Prod.fst) n).1, if (lmpCount (fr.map Prod.fst) n).2 then 1 else 0) := by
  induction fr generalizing n with
  | nil => rfl
  | cons f fs ih =>
    have hf : f.2 = 1 := h f (by simp)
    have hfs : ∀ g ∈ fs, g.2 = 1 := fun g hg => h g (by simp [hg])
    by_cases h1 : f.1 ≤ n
    · simp only [lmpCountS, lmpCount, List.map_cons, h1, if_true, ih hfs (n - f.1)]
    · by_cases h2 : f.1 = n + 1
      · have h3 : f.1 ≤ n + f.2 := by omega
        have h4 : ¬ (n + 1 ≤ n) := by omega
        have h5 : f.1 - n = 1 := by omega
        simp only [lmpCountS, lmpCount, List.map_cons, h1, h3, if_false, if_true, h5]
        simp only [h2, if_true]
      · have h3 : ¬ f.1 ≤ n + f.2 := by omega
        simp [lmpCountS, lmpCount, h1, h2, h3]

theorem lmpCountS_drop_slack_one (fr : List (Nat × Nat)) (h : ∀ f ∈ fr, f.2 = 1) (c d : Nat) :
    lmpCountS (fr.drop d) (c - endOf fr d)
      = ((lmpCount ((fr.map Prod.fst).drop d) (c - endOf fr d)).1,
         if (lmpCount ((fr.map Prod.fst).drop d) (c - endOf fr d)).2 then 1 else 0) := by
  simpa only [List.map_drop] using lmpCountS_slack_one _ (fun f hf => h f (List.mem_of_mem_drop hf)) _

theorem lmpStagesS_eq_lmpStages {F : Type} (fr : List (Nat × Nat)) (dec : List F) (cuts : List Nat)
    (h : ∀ c ∈ cuts, ∀ d, lmpCountS (fr.drop d) (c - endOf fr d)
      = ((lmpCount ((fr.map Prod.fst).drop d) (c - endOf fr d)).1,
         if (lmpCount ((fr.map Prod.fst).drop d) (c - endOf fr d)).2 then 1 else 0))
    (d : Nat) (late : Bool) :
    lmpStagesS fr dec cuts d (if late then 1 else 0) = lmpStages (fr.map Prod.fst) dec cuts d late := by
  induction cuts generalizing d late with
  | nil => rfl
  | cons c cs ih =>
    have ih' := ih (fun c' hc' => h c' (List.mem_cons_of_mem _ hc'))
    cases late with
    | true =>
      simp only [lmpStagesS, lmpStages, if_true, ne_eq, Nat.succ_ne_zero, not_false_eq_true, endOf_eq_sumLens]
      split
      · rw [← ih' d true]; rfl
      · rw [← ih' d false]; rfl
    | false =>
      simp only [lmpStagesS, lmpStages, Bool.false_eq_true, if_false, ne_eq, not_true_eq_false,
        h c List.mem_cons_self d, ih']
      rw [endOf_eq_sumLens]

theorem lmpStagesPosS_eq_lmpStagesPos {F : Type} (fr : List (Nat × Nat)) (dec : List F) (evs : List (Option Nat))
    (h : ∀ c, some c ∈ evs → ∀ d, lmpCountS (fr.drop d) (c - endOf fr d)
      = ((lmpCount ((fr.map Prod.fst).drop d) (c - endOf fr d)).1,
         if (lmpCount ((fr.map Prod.fst).drop d) (c - endOf fr d)).2 then 1 else 0))
    (d : Nat) (late : Bool) :
    lmpStagesPosS fr dec evs d (if late then 1 else 0) = lmpStagesPos (fr.map Prod.fst) dec evs d late := by
  induction evs generalizing d late with
  | nil => rfl
  | cons e es ih =>
    have ih' := ih (fun c' hc' => h c' (List.mem_cons_of_mem _ hc'))
    cases e with
    | none => simp only [lmpStagesPosS, lmpStagesPos, ih', endOf_eq_sumLens]
    | some c =>
      cases late with
      | true =>
        simp only [lmpStagesPosS, lmpStagesPos, if_true, ne_eq, Nat.succ_ne_zero, not_false_eq_true,
          endOf_eq_sumLens]
        split
        · rw [← ih' d true]; rfl
        · rw [← ih' d false]; rfl
      | false =>
        simp only [lmpStagesPosS, lmpStagesPos, Bool.false_eq_true, if_false, ne_eq, not_true_eq_false,
          h c List.mem_cons_self d, ih']
        simp only [endOf_eq_sumLens]

theorem map_fst_slack_one (lens : List Nat) : (lens.map (·, 1)).map Prod.fst = lens := by
  simp [List.map_map, Function.comp_def]

theorem lmpStages_eq_lmpStagesS {F : Type} (lens : List Nat) (dec : List F) (cuts : List Nat) (d : Nat)
    (late : Bool) :
    lmpStages lens dec cuts d late = lmpStagesS (lens.map (·, 1)) dec cuts d (if late then 1 else 0) := by
  have hone : ∀ f ∈ lens.map (·, 1), f.2 = 1 := fun f hf => by
    obtain ⟨l, _, rfl⟩ := List.mem_map.mp hf
    rfl
  have h := lmpStagesS_eq_lmpStages (lens.map (·, 1)) dec cuts
    (fun c _ d => lmpCountS_drop_slack_one _ hone c d) d late
  rw [map_fst_slack_one] at h
  exact h.symm

theorem lmpStages_length {F : Type} (lens : List Nat) (dec : List F) (cuts : List Nat) (d : Nat) (l : Bool) :
    (lmpStages lens dec cuts d l).length = cuts.length := by
  rw [lmpStages_eq_lmpStagesS, lmpStagesS_length]

theorem pollS_ge (fr : List (Nat × Nat)) (d c : Nat) (hd : d ≤ fr.length) (he : endOf fr d ≤ c) :
    completeCount (fr.map Prod.fst) c ≤ (pollS fr c d 0).1 := by
  have h1 : d ≤ completeCount (fr.map Prod.fst) c :=
    le_completeCount (fr.map Prod.fst) d c (by simpa using hd) (by rw [← endOf_eq_sumLens]; exact he)
  have h2 := completeCount_resume (fr.map Prod.fst) d c h1
  rw [← endOf_eq_sumLens] at h2
  have h3 := (lmpCountS_spec (fr.drop d) (c - endOf fr d)).2.2.2
  rw [List.map_drop] at h3
  simp only [pollS, ne_eq, not_true_eq_false, if_false]
  omega

/-- a frame that is complete at a poll has been returned at the latest by the next poll: from every valid state,
    after the polls `a ≤ b` at least the frames complete at `a` have been returned -/
theorem lmpS_two_polls (fr : List (Nat × Nat)) (c0 a b d m : Nat) (h0 : c0 ≤ a) (hab : a ≤ b)
    (hv : LInvS fr c0 d m) : completeCount (fr.map Prod.fst) a ≤ (lmpFinalS fr [a, b] d m).1 := by
  obtain ⟨hd, he, _⟩ := hv
  rw [lmpFinalS_cons, lmpFinalS_cons, lmpFinalS]
  by_cases hm : m = 0
  · subst hm
    exact Nat.le_trans (pollS_ge fr d a hd (by omega)) (le_pollS ..)
  · by_cases h : a < endOf fr d
    · -- still late: fewer than `d` frames are complete at `a`
      have hp : pollS fr a d m = (d, m) := by simp [pollS, hm, h]
      rw [hp]
      refine Nat.le_trans (Nat.le_of_not_lt fun hgt => ?_) (le_pollS ..)
      have h1 := completeCount_sum_le (fr.map Prod.fst) a
      have h2 := sumLens_take_mono (fr.map Prod.fst) d _ (Nat.le_of_lt hgt)
      rw [← endOf_eq_sumLens] at h2
      omega
    · -- the skip poll; the next poll starts at a frame boundary
      have hp : pollS fr a d m = (d, 0) := by simp [pollS, hm, h]
      rw [hp]
      exact Nat.le_trans (completeCount_mono _ a b hab) (pollS_ge fr d b hd (by omega))

end Infretis.Readers
