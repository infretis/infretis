/-!
# Lists: what several packages need and core does not state

Facts about `List` alone, each used by more than one module; they live in `namespace Infretis`, so every package
reaches them by their short names.  A fact core or an imported Mathlib module states is used under its library name
and is not repeated here.
-/
namespace Infretis
variable {α β γ : Type}

theorem first_failing_unique {P : α → Prop} {x x' : α} {rest rest' : List α} (hx : ¬ P x) (hx' : ¬ P x') :
    ∀ {pre pre' : List α}, pre ++ x :: rest = pre' ++ x' :: rest' → (∀ y ∈ pre, P y) → (∀ y ∈ pre', P y) →
    pre = pre' ∧ x = x' ∧ rest = rest'
  | [], [], h, _, _ => by simpa using h
  | [], z :: _, h, _, hp' => by cases h; exact absurd (hp' _ (List.mem_cons_self ..)) hx
  | y :: _, [], h, hp, _ => by cases h; exact absurd (hp _ (List.mem_cons_self ..)) hx'
  | y :: pre, z :: pre', h, hp, hp' => by
    obtain ⟨rfl, ht⟩ := List.cons.inj h
    obtain ⟨rfl, e⟩ := first_failing_unique hx hx' ht (fun w hw => hp w (List.mem_cons_of_mem _ hw))
      (fun w hw => hp' w (List.mem_cons_of_mem _ hw))
    exact ⟨rfl, e⟩

theorem take_of_short (xs : List α) (m : Nat) (h : (xs.take m).length < m) : xs.take m = xs := by
  apply List.take_of_length_le
  simp [List.length_take] at h
  omega

theorem foldl_pick (P : α → Prop) (f : α → α → α) (hf : ∀ a x, P (f a x) ↔ (P a ∨ P x)) :
    ∀ (t : List α) (a : α), P (t.foldl f a) ↔ (P a ∨ ∃ y ∈ t, P y)
  | [], a => by simp
  | x :: t, a => by
    rw [List.foldl_cons, foldl_pick P f hf t, hf]
    simp only [List.mem_cons, exists_eq_or_imp, or_assoc]

theorem idxOf_cons_of_ne [BEq α] [LawfulBEq α] (a q : α) (l : List α) (h : a ≠ q) :
    (a :: l).idxOf q = l.idxOf q + 1 := by
  have : (a == q) = false := by simpa using h
  simp [List.idxOf_cons, this]

theorem getElem?_lt_of_some {l : List α} {i : Nat} {a : α} (h : l[i]? = some a) : i < l.length :=
  (List.getElem?_eq_some_iff.mp h).1

theorem set_getElem?_self {l : List α} {i : Nat} {a : α} (h : l[i]? = some a) : l.set i a = l := by
  obtain ⟨hi, rfl⟩ := List.getElem?_eq_some_iff.mp h
  exact List.set_getElem_self hi

theorem split_at (l : List α) (k : Nat) (hk : k < l.length) : l = l.take k ++ l[k] :: l.drop (k + 1) := by
  rw [List.getElem_cons_drop hk, List.take_append_drop]

theorem split_at_some {l : List α} {e : Nat} {v : α} (h : l[e]? = some v) : ∃ A B, l = A ++ v :: B ∧ A.length = e := by
  obtain ⟨he, rfl⟩ := List.getElem?_eq_some_iff.mp h
  exact ⟨_, _, split_at l e he, List.length_take_of_le (Nat.le_of_lt he)⟩

theorem getD_replicate_self (n c : Nat) (d : α) : (List.replicate n d).getD c d = d := by
  rw [List.getD_eq_getElem?_getD, List.getElem?_replicate]
  split <;> rfl

theorem exists_getD_of_mem {l : List α} {x : α} (d : α) (hx : x ∈ l) : ∃ c, c < l.length ∧ l.getD c d = x := by
  obtain ⟨c, hc, rfl⟩ := List.getElem_of_mem hx
  exact ⟨c, hc, (List.getElem_eq_getD d).symm⟩

theorem mem_takeWhile {p : α → Bool} {l : List α} {x : α} (h : x ∈ l.takeWhile p) : p x = true :=
  List.all_eq_true.mp List.all_takeWhile x h

theorem pairwise_getElem? {R : α → α → Prop} {l : List α} (h : l.Pairwise R) {i j : Nat} {a b : α} (hij : i < j)
    (ha : l[i]? = some a) (hb : l[j]? = some b) : R a b := by
  obtain ⟨hi, rfl⟩ := List.getElem?_eq_some_iff.mp ha
  obtain ⟨hj, rfl⟩ := List.getElem?_eq_some_iff.mp hb
  exact List.pairwise_iff_getElem.mp h i j hi hj hij

theorem nodup_snoc {l : List α} {a : α} (h : l.Nodup) (ha : a ∉ l) : (l ++ [a]).Nodup := by
  refine List.nodup_append.mpr ⟨h, by simp, fun x hx y hy e => ha ?_⟩
  rwa [← List.mem_singleton.mp hy, ← e]

/-- with `f = id`: a map that is injective on a duplicate-free list gives a duplicate-free list -/
theorem nodup_map_of_nodup_map (f : α → β) (g : α → γ) : ∀ (l : List α),
    (l.map f).Nodup → (∀ x ∈ l, ∀ y ∈ l, g x = g y → f x = f y) → (l.map g).Nodup := by
  intro l
  induction l with
  | nil => intro _ _; simp
  | cons x l ih =>
    intro hn hfg
    simp only [List.map_cons, List.nodup_cons] at hn ⊢
    refine ⟨?_, ih hn.2 (fun a ha b hb => hfg a (List.mem_cons_of_mem _ ha) b (List.mem_cons_of_mem _ hb))⟩
    intro hm
    obtain ⟨y, hy, hgy⟩ := List.mem_map.mp hm
    apply hn.1
    rw [hfg x (List.mem_cons_self ..) y (List.mem_cons_of_mem _ hy) hgy.symm]
    exact List.mem_map.mpr ⟨y, hy, rfl⟩

theorem nodup_map_on (f : α → β) (l : List α) (hinj : ∀ a ∈ l, ∀ b ∈ l, f a = f b → a = b) (hnd : l.Nodup) :
    (l.map f).Nodup :=
  nodup_map_of_nodup_map id f l (by rwa [List.map_id]) hinj

theorem Repex.flatten_nodup_unique {α : Type} {LL : List (List α)} (hn : LL.flatten.Nodup) {i k : Nat}
    {a b : List α} {x : α} (hi : LL[i]? = some a) (hk : LL[k]? = some b) (ha : x ∈ a) (hb : x ∈ b) : i = k := by
  have hp := List.pairwise_iff_getElem.mp (List.pairwise_flatten.mp hn).2
  obtain ⟨hi', rfl⟩ := List.getElem?_eq_some_iff.mp hi
  obtain ⟨hk', rfl⟩ := List.getElem?_eq_some_iff.mp hk
  rcases Nat.lt_trichotomy i k with h | h | h
  · exact absurd rfl (hp i k hi' hk' h x ha x hb)
  · exact h
  · exact absurd rfl (hp k i hk' hi' h x hb x ha)

theorem map_fst_of_zip (f : α → γ) {l : List α} {ws : List β} (h : ws.length = l.length) :
    (l.zip ws).map (fun pw => f pw.1) = l.map f := by
  have : (l.zip ws).map (fun pw => f pw.1) = ((l.zip ws).map Prod.fst).map f := List.map_map.symm
  rw [this, List.map_fst_zip (by omega)]

theorem Repex.forall_mem_snoc {P : α → Prop} {l : List α} {a : α} (h1 : ∀ x ∈ l, P x) (h2 : P a) :
    ∀ x ∈ l ++ [a], P x := by
  intro x hx
  rcases List.mem_append.mp hx with hx | hx
  · exact h1 x hx
  · rw [List.mem_singleton.mp hx]; exact h2

end Infretis
