import Infretis.Lemmas.GeomVec
/-! What the symmetry statements of `Props/C20.lean` (one theorem per symmetry, over all six classes) are stated and
    proved with: which classes are relative / periodic and which differences they wrap, `Except` plumbing, velocity
    reversal on one component, and the box as the slicing classes see it (`value_box_take3`).  Every class is a chain of
    look-ups followed by vector algebra, and every transformation acts on a look-up through `getAtom_map` /
    `getAtom_mapIdx` (`GeomVec`). -/
namespace Infretis.Geom

/-- the "relative" built-in order parameters (functions of differences of positions) -/
def OP.relative : OP → Bool
  | .distance .. => true
  | .distancevel .. => true
  | .dihedral .. => true
  | .puckering .. => true
  | _ => false

/-- the `periodic` constructor argument (Position/Velocity have no periodic variant) -/
def OP.periodic : OP → Bool
  | .distance _ _ p => p
  | .distancevel _ _ p => p
  | .dihedral _ _ _ _ p => p
  | .puckering _ _ _ _ _ _ p => p
  | _ => false

/-- pairs `(a, b)` of particle indices whose difference `pos[a] − pos[b]` is wrapped -/
def OP.wrappedPairs : OP → List (Int × Int)
  | .distance i0 i1 _ => [(i1, i0)]
  | .distancevel i0 i1 _ => [(i1, i0)]
  | .dihedral i0 i1 i2 i3 _ => [(i0, i1), (i1, i2), (i3, i2)]
  | .puckering i0 i1 i2 i3 i4 i5 _ => [(i1, i0), (i2, i0), (i3, i0), (i4, i0), (i5, i0)]
  | _ => []

/-- none of the differences the order parameter wraps has a component at a half-box tie -/
def TieFreeSys (op : OP) (s : Sys) (L : V3) : Prop :=
  ∀ ab ∈ op.wrappedPairs, ∀ pa pb, getAtom s.pos ab.1 = .ok pa → getAtom s.pos ab.2 = .ok pb →
    TieFree (V3.sub pa pb) L

theorem bind_map {α β γ : Type} (x : Except Err α) (f : α → β) (g : β → Except Err γ) :
    (x.map f >>= g) = (x >>= fun a => g (f a)) := by
  cases x <;> rfl

theorem map_bind {α β γ : Type} (x : Except Err α) (g : α → Except Err β) (f : β → γ) :
    (x >>= g).map f = (x >>= fun a => (g a).map f) := by
  cases x <;> rfl

theorem ok_bind {α β : Type} (a : α) (f : α → Except Err β) : (Except.ok a >>= f) = f a := rfl

/-- `bind_congr` that remembers which value the first computation returned -/
theorem bind_congr_ok {α β : Type} {x : Except Err α} {f g : α → Except Err β}
    (h : ∀ a, x = .ok a → f a = g a) : (x >>= f) = (x >>= g) := by
  cases x with
  | error e => rfl
  | ok a => exact h a rfl

theorem applyBox_false (b : Option (List ℚ)) (sl : Bool) (d : V3) : applyBox false b sl d = .ok ⟨d, false⟩ := rfl

theorem getComp_neg (v : V3) (k : Int) : getComp (V3.neg v) k = (getComp v k).map (fun x => -x) := by
  unfold getComp
  cases pyIdx 3 k with
  | none => rfl
  | some j =>
    match j with
    | 0 => rfl
    | 1 => rfl
    | 2 => rfl
    | _ + 3 => rfl

theorem dot_sub_neg (w a b : V3) : V3.dot w (V3.sub (V3.neg a) (V3.neg b)) = - V3.dot w (V3.sub a b) := by
  simp only [V3.dot, V3.sub, V3.neg]; ring

theorem reverseVel_reverseVel (s : Sys) : reverseVel (reverseVel s) = s := by
  have neg_neg : ∀ v : V3, V3.neg (V3.neg v) = v := fun v => by ext <;> simp only [V3.neg, neg_neg]
  simp only [reverseVel, List.map_map, Function.comp_def, neg_neg, List.map_id']

theorem physical_toggle (f : Frame) : Frame.physical { f with velRev := !f.velRev } = reverseVel f.physical := by
  cases hv : f.velRev with
  | false => simp only [Frame.physical, hv, Bool.not_false, if_true, Bool.false_eq_true, if_false]
  | true =>
    simp only [Frame.physical, hv, Bool.not_true, if_true, Bool.false_eq_true, if_false, reverseVel_reverseVel]

theorem applyBox_take3 (p : Bool) (b : List ℚ) (d : V3) :
    applyBox p (some (b.take 3)) true d = applyBox p (some b) true d := by
  simp only [applyBox, if_true, List.take_take, Nat.min_self]

/-- **Only `box[:3]` is looked at** by every class that slices the box (`Position` and `Velocity` never read it): all of
    them in the repaired variant, all but a periodic `Distancevel` as the code was. -/
theorem value_box_take3 (var : Variant) (op : OP)
    (h : var = .repaired ∨ ∀ i0 i1, op ≠ .distancevel i0 i1 true) (s : Sys) (b : List ℚ) :
    value var op { s with box := some (b.take 3) } = value var op { s with box := some b } := by
  cases op with
  | distance i0 i1 p => simp only [value, distanceSq, applyBox_take3]
  | distancevel i0 i1 p =>
    rcases h with rfl | h
    · simp only [value, distancevelNum, distancevelSlices, applyBox_take3]
    · cases p with
      | true => exact absurd rfl (h i0 i1)
      | false => simp only [value, distancevelNum, applyBox_false]
  | position i d => rfl
  | velocity i d => rfl
  | dihedral i0 i1 i2 i3 p => simp only [value, dihedral, applyBox_take3]
  | puckering i0 i1 i2 i3 i4 i5 p => simp only [value, puckering, applyBox_take3, Option.isSome_some]

end Infretis.Geom
