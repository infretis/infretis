import Infretis.Model.Readers
/-!
# Lemmas for C13: the TRR size-guard state machine (`trrRun`: reads are safe, frame numbers are yielded once and in
order), and `read_trr_header` on the header bytes GROMACS writes (`trrHeader_encHeader`)
-/
namespace Infretis.Readers

/-- byte offset of frame `k` -/
def tOffset (frames : List TFrame) (k : Nat) : Nat :=
  ((frames.take k).map (fun f => f.hsize + f.dsize)).sum

theorem tOffset_succ (frames : List TFrame) (k : Nat) (f : TFrame) (h : frames[k]? = some f) :
    tOffset frames (k + 1) = tOffset frames k + (f.hsize + f.dsize) := by
  obtain ⟨hk, hf⟩ := List.getElem?_eq_some_iff.mp h
  unfold tOffset
  rw [List.take_succ_eq_append_getElem hk, hf]
  simp

/-- the reader is where it should be: at a frame start, or behind the header of frame `k` -/
def TInv (frames : List TFrame) (H : Nat) (st : TSt) : Prop :=
  (st.headerSize = 0 ∨ st.headerSize = H) ∧
  (match st.pending with
   | none => st.bytesRead = tOffset frames st.k
   | some d => ∃ f, frames[st.k]? = some f ∧ d = f.dsize ∧ st.bytesRead = tOffset frames st.k + f.hsize)

/-- an event is fine: a read only asks for bytes that are visible, and it is exactly the header or the
    data block of some frame, at that frame's offset -/
def EvOK (frames : List TFrame) : TEv → Prop
  | .read off len size =>
    off + len ≤ size ∧ ∃ k f, frames[k]? = some f ∧
      ((off = tOffset frames k ∧ len = f.hsize) ∨ (off = tOffset frames k + f.hsize ∧ len = f.dsize))
  | _ => True

/-- the three things a guard evaluation can do: pass the data guard, pass the header guard, wait -/
theorem trrTick_cases (frames : List TFrame) (size : Nat) (st : TSt) :
    (∃ d, st.pending = some d ∧ size ≥ st.bytesRead + d ∧
      trrTick frames size st = ({ st with bytesRead := st.bytesRead + d, pending := none, k := st.k + 1 },
        [.read st.bytesRead d size, .yield st.k])) ∨
    (∃ f, st.pending = none ∧ frames[st.k]? = some f ∧
      size ≥ st.bytesRead + (if st.headerSize = 0 then trrHeadSize else st.headerSize) ∧
      trrTick frames size st
        = ({ st with bytesRead := st.bytesRead + f.hsize, headerSize := f.hsize, pending := some f.dsize },
            [.read st.bytesRead f.hsize size])) ∨
    trrTick frames size st = (st, [.wait]) := by
  unfold trrTick
  cases st.pending with
  | some d =>
    by_cases hg : size ≥ st.bytesRead + d
    · exact Or.inl ⟨d, rfl, hg, by simp only [hg, if_true]⟩
    · exact Or.inr (Or.inr (by simp only [hg, if_false]))
  | none =>
    by_cases hg : size ≥ st.bytesRead + (if st.headerSize = 0 then trrHeadSize else st.headerSize)
    · cases hf : frames[st.k]? with
      | none => exact Or.inr (Or.inr (by simp only [hg, if_true]))
      | some f => exact Or.inr (Or.inl ⟨f, rfl, rfl, hg, by simp only [hg, if_true]⟩)
    · exact Or.inr (Or.inr (by simp only [hg, if_false]))

theorem trrTick_ok (frames : List TFrame) (H : Nat) (hH : ∀ f ∈ frames, f.hsize = H) (hle : H ≤ trrHeadSize)
    (hpos : 0 < H) (size : Nat) (st : TSt) (hinv : TInv frames H st) :
    TInv frames H (trrTick frames size st).1 ∧ ∀ e ∈ (trrTick frames size st).2, EvOK frames e := by
  obtain ⟨hhs, hp⟩ := hinv
  rcases trrTick_cases frames size st with ⟨d, hpd, hg, he⟩ | ⟨f, hpn, hf, hg, he⟩ | he
  · rw [hpd] at hp
    obtain ⟨f, hf, hd, hb⟩ := hp
    rw [he]
    refine ⟨⟨hhs, ?_⟩, ?_⟩
    · simp only []
      rw [tOffset_succ frames st.k f hf, hb, hd]; omega
    · intro e he'
      simp only [List.mem_cons, List.not_mem_nil, or_false] at he'
      rcases he' with rfl | rfl
      · exact ⟨hg, st.k, f, hf, Or.inr ⟨hb, hd⟩⟩
      · trivial
  · rw [hpn] at hp
    rw [he]
    refine ⟨⟨Or.inr (hH f (List.mem_of_getElem? hf)), f, hf, rfl, by simp only []; rw [hp]⟩, ?_⟩
    intro e he'
    simp only [List.mem_cons, List.not_mem_nil, or_false] at he'
    subst he'
    refine ⟨?_, st.k, f, hf, Or.inl ⟨hp, rfl⟩⟩
    -- the guard used `TRR_HEAD_SIZE` or the learned size `H`, both at least this header's size
    have hfH := hH f (List.mem_of_getElem? hf)
    rcases hhs with h0 | h1
    · rw [h0] at hg; simp at hg; omega
    · rw [h1, if_neg (by omega)] at hg; omega
  · rw [he]
    exact ⟨⟨hhs, hp⟩, by intro e he'; simp at he'; subst he'; trivial⟩

theorem trrRun_ok (frames : List TFrame) (H : Nat) (hH : ∀ f ∈ frames, f.hsize = H) (hle : H ≤ trrHeadSize)
    (hpos : 0 < H) (sizes : List Nat) (st : TSt) (hinv : TInv frames H st) :
    ∀ e ∈ trrRun frames sizes st, EvOK frames e := by
  induction sizes generalizing st with
  | nil => intro e he; simp [trrRun] at he
  | cons s ss ih =>
    obtain ⟨h1, h2⟩ := trrTick_ok frames H hH hle hpos s st hinv
    intro e he
    simp only [trrRun, List.mem_append] at he
    rcases he with he | he
    · exact h2 e he
    · exact ih _ h1 e he

theorem tInit_inv (frames : List TFrame) (H : Nat) : TInv frames H tInit :=
  ⟨Or.inl rfl, by simp [tInit, tOffset]⟩

theorem trr_one_tick_yield (frames : List TFrame) (st : TSt) (d : Nat) (hp : st.pending = some d) (size : Nat)
    (hs : st.bytesRead + d ≤ size) : TEv.yield st.k ∈ (trrTick frames size st).2 := by
  have hg : size ≥ st.bytesRead + d := hs
  simp [trrTick, hp, hg]

def tYield : TEv → Option Nat
  | .yield k => some k
  | _ => none

theorem trrTick_k_le (frames : List TFrame) (H : Nat) (size : Nat) (st : TSt) (hinv : TInv frames H st)
    (hk : st.k ≤ frames.length) : (trrTick frames size st).1.k ≤ frames.length := by
  rcases trrTick_cases frames size st with ⟨d, hpd, _, he⟩ | ⟨f, _, _, _, he⟩ | he <;> rw [he]
  · have h2 := hinv.2
    rw [hpd] at h2
    obtain ⟨f, hf, _⟩ := h2
    exact (List.getElem?_eq_some_iff.mp hf).1
  · exact hk
  · exact hk

/-- the guard machine yields frame numbers `k, k+1, …` without gap or repetition, and ends at the next one -/
theorem trrRun_yields (frames : List TFrame) (H : Nat) (hH : ∀ f ∈ frames, f.hsize = H) (hle : H ≤ trrHeadSize)
    (hpos : 0 < H) (sizes : List Nat) (st : TSt) (hinv : TInv frames H st) (hk : st.k ≤ frames.length) :
    ∃ n, (trrRun frames sizes st).filterMap tYield = List.range' st.k n
      ∧ (sizes.foldl (fun s size => (trrTick frames size s).1) st).k = st.k + n
      ∧ (sizes.foldl (fun s size => (trrTick frames size s).1) st).k ≤ frames.length := by
  induction sizes generalizing st with
  | nil => exact ⟨0, by simp [trrRun], by simp, by simpa using hk⟩
  | cons s ss ih =>
    obtain ⟨hinv', _⟩ := trrTick_ok frames H hH hle hpos s st hinv
    obtain ⟨n, h1, h2, h3⟩ := ih _ hinv' (trrTick_k_le frames H s st hinv hk)
    -- this tick yields `st.k` and moves on to `st.k + 1`, or yields nothing and keeps `k`
    suffices h : ∃ m, (trrTick frames s st).2.filterMap tYield ++ List.range' (trrTick frames s st).1.k n
        = List.range' st.k m ∧ (trrTick frames s st).1.k + n = st.k + m by
      obtain ⟨m, hm1, hm2⟩ := h
      simp only [trrRun, List.filterMap_append, List.foldl_cons]
      exact ⟨m, by rw [h1, hm1], by rw [h2, hm2], h3⟩
    rcases trrTick_cases frames s st with ⟨d, _, _, he⟩ | ⟨f, _, _, _, he⟩ | he <;> rw [he]
    · exact ⟨n + 1, by simp [List.filterMap_cons, tYield, List.range'_succ], by simp only []; omega⟩
    · exact ⟨n, by simp [tYield], rfl⟩
    · exact ⟨n, by simp [tYield], rfl⟩

def enc32be (n : Nat) : List Nat := [n / 16777216 % 256, n / 65536 % 256, n / 256 % 256, n % 256]
def enc32 (little : Bool) (n : Nat) : List Nat := if little then (enc32be n).reverse else enc32be n

theorem enc32_length (little : Bool) (n : Nat) : (enc32 little n).length = 4 := by
  cases little <;> simp [enc32, enc32be]

theorem flatMap_enc32_length (little : Bool) (l : List Nat) : (l.flatMap (enc32 little)).length = 4 * l.length := by
  induction l with
  | nil => rfl
  | cons x xs ih => simp [List.flatMap_cons, enc32_length, ih]; omega

theorem u32be_enc32be (n : Nat) (h : n < 4294967296) : u32be (enc32be n) = n := by
  simp only [u32be, enc32be]
  omega

theorem u32_enc32 (little : Bool) (n : Nat) (h : n < 4294967296) : u32 little (enc32 little n) = n := by
  cases little with
  | false => exact u32be_enc32be n h
  | true =>
    simp only [u32, enc32, if_true, List.reverse_reverse]
    exact u32be_enc32be n h

theorem s32_enc32 (little : Bool) (n : Nat) (h : n < 2147483648) : s32 little (enc32 little n) = (n : Int) := by
  unfold s32
  rw [u32_enc32 little n (by omega)]
  simp [h]

theorem ints32_enc (little : Bool) (ns : List Nat) (h : ∀ n ∈ ns, n < 2147483648) (rest : List Nat) :
    ints32 little ns.length (ns.flatMap (enc32 little) ++ rest) = ns.map Int.ofNat := by
  induction ns with
  | nil => simp [ints32]
  | cons n ns ih =>
    have hl := enc32_length little n
    simp only [List.flatMap_cons, List.length_cons, ints32, List.map_cons, List.append_assoc]
    rw [List.take_append_of_le_length (by omega), List.take_of_length_le (by omega),
      List.drop_append_of_le_length (by omega), List.drop_of_length_le (by omega), List.nil_append,
      s32_enc32 little n (h n (by simp)), ih (fun m hm => h m (by simp [hm]))]
    rfl

theorem readN_append (a b : List Nat) (n : Nat) (hn : a.length = n) (hpos : 0 < n) :
    readN (a ++ b) n = .ok (a, b) := by
  have hne : (a ++ b).isEmpty = false := by
    cases a with
    | nil => simp at hn; omega
    | cons x xs => simp
  have h0 : ¬ (n = 0) := by omega
  have hlt : ¬ ((a ++ b).length < n) := by simp; omega
  simp only [readN, h0, hne, hlt, false_or, Bool.false_eq_true, if_false]
  rw [← hn, List.take_left, List.drop_left]

/-- the header bytes GROMACS writes: magic, (13, 12), version string, 13 ints, two reals -/
def encHeader (little : Bool) (ns : List Nat) (reals : List Nat) : List Nat :=
  enc32 little 1993 ++ ((enc32 little 13 ++ enc32 little 12) ++ (trrVersion ++ (ns.flatMap (enc32 little) ++ reals)))

/-- **header bytes → header fields**: for either byte order and either precision, `read_trr_header`
    applied to the bytes of a header returns its 13 integers unchanged, the byte order it was written
    in, the precision, and consumes exactly 76 + 2·(4|8) bytes -/
theorem trrHeader_encHeader (little dbl : Bool) (ns : List Nat) (hlen : ns.length = 13)
    (hb : ∀ n ∈ ns, n < 2147483648) (hd : isDouble (ns.map Int.ofNat) = .ok dbl)
    (reals : List Nat) (hr : reals.length = 2 * (if dbl then 8 else 4)) (rest : List Nat) :
    trrHeader (encHeader little ns reals ++ rest)
      = .ok ({ little := little, double := dbl, ints := ns.map Int.ofNat,
               hlen := 76 + 2 * (if dbl then 8 else 4) }, rest) := by
  have hmagic : (!(s32 false (enc32 little 1993) == 1993)) = little := by
    cases little <;> decide
  have h52 : (ns.flatMap (enc32 little)).length = 52 := by rw [flatMap_enc32_length, hlen]
  have hints := ints32_enc little ns hb ([] : List Nat)
  rw [List.append_nil, hlen] at hints
  have hsl : s32 little ((enc32 little 13 ++ enc32 little 12).take 4) = 13 := by
    rw [List.take_append_of_le_length (by rw [enc32_length]; omega),
      List.take_of_length_le (by rw [enc32_length]; omega)]
    exact s32_enc32 little 13 (by omega)
  have hver : trrVersion.takeWhile (· ≠ 0) = trrVersion := by decide
  have hrpos : 0 < 2 * (if dbl then 8 else 4) := by cases dbl <;> simp
  unfold trrHeader encHeader
  simp only [List.append_assoc]
  rw [readN_append (enc32 little 1993) _ 4 (enc32_length _ _) (by omega)]
  simp only [hmagic]
  rw [← List.append_assoc (enc32 little 13) (enc32 little 12),
    readN_append (enc32 little 13 ++ enc32 little 12) _ 8 (by simp [enc32_length]) (by omega)]
  simp only [hsl]
  have h12 : ((13 : Int) - 1).toNat = 12 := by decide
  have hnn : ¬ ((13 : Int) - 1 < 0) := by decide
  simp only [hnn, if_false, h12]
  rw [readN_append trrVersion _ 12 (by decide) (by omega)]
  simp only [hver, ne_eq, not_true_eq_false, if_false]
  rw [readN_append (ns.flatMap (enc32 little)) _ 52 h52 (by omega)]
  simp only [hints, hd]
  rw [readN_append reals rest _ hr hrpos]

end Infretis.Readers
