import Infretis.Model.RepexDisk
import Infretis.Lemmas.RepexC07Frame
import Infretis.Lemmas.PermSort
/-!
# C07 — when `self.prob` draws on the scheduler stream (the Monte-Carlo branch of `inf_retis`)

`mcDims s ≠ []` needs an idle block with more than 12 rows; the matrix `inf_retis` works on has one row per
unlocked slot, so with at most 12 idle slots (`idleCount s ≤ 12`) no `self.prob` evaluation draws.
-/
namespace Infretis.Repex
open Infretis.Perm

/-- which branch of an `if` produced `x`; on a hypothesis about a large definition this is far cheaper to
    elaborate than `split at h`, which rewrites the whole term -/
theorem of_ite_eq {α : Type} {c : Prop} [Decidable c] {a b x : α} (h : (if c then a else b) = x) :
    (c ∧ a = x) ∨ (¬ c ∧ b = x) := by
  by_cases hc : c
  · rw [if_pos hc] at h; exact Or.inl ⟨hc, h⟩
  · rw [if_neg hc] at h; exact Or.inr ⟨hc, h⟩

theorem keep_length_le {α : Type} : ∀ (locks : List Bool) (xs : List α),
    (keep locks xs).length ≤ (locks.filter (fun b => !b)).length
  | [], [] => Nat.zero_le _
  | [], _ :: _ => Nat.zero_le _
  | _ :: _, [] => Nat.zero_le _
  | true :: ls, _ :: xs => keep_length_le ls xs
  | false :: ls, _ :: xs => Nat.succ_le_succ (keep_length_le ls xs)

theorem argsort_length (keys : List Int) : (argsort keys).length = keys.length := by
  simp [argsort]

/-- the block loop sends a block to `random_prob` only if it has more than 12 rows -/
theorem blockLoop_mc (sorted : Mat) (m : Nat) (hlen : sorted.length ≤ 12) :
    ∀ (bs : List (Nat × Nat × Int)) (acc : BlockAcc), acc.mc = [] → (blockLoop sorted m bs acc).mc = [] := by
  intro bs
  induction bs with
  | nil => intro acc h; simpa [blockLoop] using h
  | cons b bs ih =>
    intro acc h
    obtain ⟨start, stop, dir⟩ := b
    unfold blockLoop
    simp only []
    cases hb : branchOf (subBlock sorted start stop dir) with
    | single => exact ih _ h
    | quick => exact ih _ h
    | glynn =>
      simp only []
      split
      · exact ih _ h
      · exact ih _ h
      · exact h
    | random =>
      exfalso
      have hl := subBlock_length_le sorted start stop dir
      unfold branchOf at hb
      split at hb
      · cases hb
      · split at hb
        · cases hb
        · split at hb
          · cases hb
          · rename_i h12; omega

theorem prepare_sorted_length (o : Nat) (W : Mat) (locks : List Bool) :
    (prepare o W locks).sorted.length = (idle W locks).length := by
  simp only [prepare, List.length_map, List.length_append, argsort_length, List.length_take, List.length_drop]
  omega

theorem sortedOut_mc (s : Sorted) (hlen : s.sorted.length ≤ 12) : (sortedOut s).mc = [] := by
  unfold sortedOut
  split
  · rfl
  · split
    · rfl
    · exact blockLoop_mc s.sorted s.m hlen _ _ rfl

theorem mcDims_nil_of_idle_le (s : St) (h : idleCount s ≤ 12) : mcDims s = [] := by
  have hl : (prepare off s.W s.locks).sorted.length ≤ 12 := by
    rw [prepare_sorted_length]
    have := keep_length_le s.locks s.W
    simp only [idle, List.length_map]
    unfold idleCount at h
    omega
  have hmc := sortedOut_mc (prepare off s.W s.locks) hl
  have hno : ∀ dims, infRetis s.W s.locks off ≠ .monteCarlo dims := by
    intro dims hc
    unfold infRetis at hc
    simp only [] at hc
    rcases of_ite_eq hc with ⟨_, hc⟩ | ⟨_, hc⟩
    · cases hc
    split at hc
    · cases hc
    rcases of_ite_eq hc with ⟨_, hc⟩ | ⟨_, hc⟩
    · cases hc
    rcases of_ite_eq hc with ⟨hne, hc⟩ | ⟨_, hc⟩
    · exact hne hmc
    rcases of_ite_eq hc with ⟨_, hc⟩ | ⟨_, hc⟩ <;> cases hc
  unfold mcDims
  split
  · rename_i dims hd; exact absurd hd (hno dims)
  · rfl

theorem idleCount_set_true (l : List Bool) (e : Nat) :
    ((l.set e true).filter (fun b => !b)).length ≤ (l.filter (fun b => !b)).length := by
  induction l generalizing e with
  | nil => simp
  | cons b bs ih =>
    cases e with
    | zero => cases b <;> simp
    | succ e =>
      have := ih e
      cases b <;> simp [List.set_cons_succ, this]

theorem idleCount_lock {s s2 : St} {e : Nat} (h : lock s e = .ok s2) : idleCount s2 ≤ idleCount s := by
  obtain ⟨_, rfl⟩ := lock_ok h
  exact idleCount_set_true s.locks e

theorem pickMC_nil_of_idle_le (s : St) (o : PickOutcome) (h : idleCount s ≤ 12) :
    ∀ d ∈ pickMC s o, d = [] := by
  have h0 := mcDims_nil_of_idle_le s h
  intro d hd
  unfold pickMC at hd
  simp only [] at hd
  split at hd
  · simp only [List.mem_singleton] at hd; rw [hd, h0]
  · rename_i s2 hl
    have h2 : idleCount s2 ≤ 12 := by
      have := idleCount_lock hl
      have hs : idleCount (swap s o.t o.e) = idleCount s := rfl
      omega
    split at hd
    · simp only [List.mem_cons, List.not_mem_nil, or_false] at hd
      rcases hd with hd | hd
      · rw [hd, h0]
      · rw [hd]; exact mcDims_nil_of_idle_le s2 h2
    · simp only [List.mem_singleton] at hd; rw [hd, h0]

end Infretis.Repex
