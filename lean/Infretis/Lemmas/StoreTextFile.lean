import Infretis.Lemmas.StoreText
import Infretis.Lemmas.StorePath
/-!
C14, text level: the three files a stored path consists of, read back by the text-level `load_path`.
-/
namespace Infretis.StoreText
-- white space: the definitions and lemmas of Model/StoreWs.lean + Lemmas/StoreWs.lean (Python's complete set), not Codec's
open Infretis.Codec hiding Err Line Text isWs lstrip rstrip strip splitWs NoWs fmtCore_noWs NoBrk_of_noWs splitWs_eq_split isWs_blank splitWs_strip
open Infretis.Store (PathObj Fill fill idx0)

theorem NoBrk_padL (w : Nat) (s : Str) (h : NoBrk s) : NoBrk (padL w s) := NoBrk_append (NoBrk_blanks _) h

theorem NoBrk_tokn {t : Str} (h : Tokn t) : NoBrk t := NoBrk_of_noWs h.2

theorem NoBrk_lit (l : Str) (h : l.all (fun c => c != '\n' && c != '\r') = true) : NoBrk l := by
  intro c hc
  have := List.all_eq_true.mp h c hc
  simp only [Bool.and_eq_true, bne_iff_ne, ne_eq] at this
  exact this

theorem NoBrk_cycleT (step : Nat) (mv : Option Str) (h : ∀ m, mv = some m → NoBrk m) : NoBrk (cycleT step mv) := by
  unfold cycleT
  refine NoBrk_append (NoBrk_append (NoBrk_append (NoBrk_lit _ (by decide)) (NoBrk_natDigits _)) (NoBrk_lit _ (by decide))) ?_
  cases mv with
  | none => exact NoBrk_nil
  | some m => exact NoBrk_append (NoBrk_lit _ (by decide)) (h m rfl)

theorem NoBrk_hdrTraj : NoBrk hdrTraj := NoBrk_lit _ (by decide)
theorem NoBrk_hdrOrder : NoBrk hdrOrder := NoBrk_lit _ (by decide)
theorem NoBrk_hdrEnergy : NoBrk hdrEnergy := NoBrk_lit _ (by decide)

theorem NoBrk_two : NoBrk [' ', ' '] := NoBrk_lit _ (by decide)

theorem NoBrk_trajRowT (i : Nat) (f : TFrame) (h : Tokn f.base) : NoBrk (trajRowT i f) := by
  unfold trajRowT
  exact NoBrk_append (NoBrk_append (NoBrk_append (NoBrk_append (NoBrk_append (NoBrk_append
    (NoBrk_padL _ _ (NoBrk_natDigits _)) NoBrk_two) (NoBrk_padL _ _ (NoBrk_tokn h))) NoBrk_two)
    (NoBrk_padL _ _ (NoBrk_tokn (tokn_intDigits _)))) NoBrk_two) (NoBrk_padL _ _ (NoBrk_tokn (tokn_intDigits _)))

theorem NoBrk_joinSp : ∀ (l : List Str), (∀ x ∈ l, NoBrk x) → NoBrk (joinSp l) := by
  intro l
  induction l with
  | nil => intro _; exact NoBrk_nil
  | cons a t ih =>
    intro h
    cases t with
    | nil => exact h a (by simp)
    | cons b t' =>
      simp only [joinSp]
      exact NoBrk_append (h a (by simp)) (NoBrk_cons (by decide) (ih (fun x hx => h x (List.mem_cons_of_mem _ hx))))

theorem NoBrk_fmtF (w : Nat) (x : FIn) : NoBrk (fmtF w x) := by
  rw [fmtF_eq]
  exact NoBrk_padL _ _ (NoBrk_tokn (tokn_tokF _))

theorem NoBrk_orderRowT (i : Nat) (f : TFrame) : NoBrk (orderRowT i f) := by
  unfold orderRowT
  apply NoBrk_joinSp
  intro x hx
  rcases List.mem_cons.mp hx with h | h
  · subst h; exact NoBrk_padL _ _ (NoBrk_natDigits _)
  · obtain ⟨y, _, rfl⟩ := List.mem_map.mp h
    exact NoBrk_fmtF _ _

theorem NoBrk_energyRowT (i : Nat) (f : TFrame) : NoBrk (energyRowT i f) := by
  unfold energyRowT
  apply NoBrk_joinSp
  intro x hx
  simp only [List.mem_cons, List.not_mem_nil, or_false] at hx
  rcases hx with h | h | h | h | h <;> subst h
  · exact NoBrk_padL _ _ (NoBrk_natDigits _)
  all_goals exact NoBrk_fmtF _ _

theorem mem_rowsFromT {row : Nat → TFrame → Str} : ∀ (fs : List TFrame) (i : Nat) (l : Str),
    l ∈ rowsFromT row i fs → ∃ j f, f ∈ fs ∧ l = row j f := by
  intro fs
  induction fs with
  | nil => intro i l h; simp [rowsFromT] at h
  | cons f fs ih =>
    intro i l h
    simp only [rowsFromT, List.mem_cons] at h
    rcases h with h | h
    · exact ⟨i, f, List.mem_cons_self, h⟩
    · obtain ⟨j, f', hf', hl⟩ := ih (i + 1) l h
      exact ⟨j, f', List.mem_cons_of_mem _ hf', hl⟩

theorem map_rowsFromT {γ : Type} {row : Nat → TFrame → Str} (g : Str → γ) (k : TFrame → γ) :
    ∀ (fs : List TFrame) (i : Nat), (∀ j f, f ∈ fs → g (row j f) = k f) → (rowsFromT row i fs).map g = fs.map k := by
  intro fs
  induction fs with
  | nil => intro i _; simp [rowsFromT]
  | cons f fs ih =>
    intro i h
    simp only [rowsFromT, List.map_cons]
    rw [h i f (by simp), ih (i + 1) (fun j f' hf' => h j f' (List.mem_cons_of_mem _ hf'))]

theorem trajRow_tokens (i : Nat) (f : TFrame) (h : Tokn f.base) :
    splitWs (strip (trajRowT i f)) =
      [natDigits i, f.base, intDigits (idx0 f.idx), intDigits (if f.velRev then -1 else 1)] := by
  have h2 : ∀ t : Str, Lex.Ends isWs (' ' :: ' ' :: t) := fun t => Lex.Ends.cons isWs_blank _
  rw [splitWs_strip]
  simp only [trajRowT, List.append_assoc, List.cons_append, List.nil_append]
  rw [split_padL _ (tokn_natDigits i) (h2 _), Lex.split_ws isWs_blank, Lex.split_ws isWs_blank,
    split_padL _ h (h2 _), Lex.split_ws isWs_blank, Lex.split_ws isWs_blank,
    split_padL _ (tokn_intDigits _) (h2 _), Lex.split_ws isWs_blank, Lex.split_ws isWs_blank]
  have := split_padL 5 (tokn_intDigits (if f.velRev then -1 else 1)) Lex.Ends.nil
  rw [List.append_nil] at this
  rw [this]
  rfl

theorem orderRow_tokens (i : Nat) (f : TFrame) :
    splitWs (strip (orderRowT i f)) = natDigits i :: (f.order.map written).map tokF := by
  have := split_joinSp_padL ((10, natDigits i) :: f.order.map (fun x => (12, tokF (written x))))
    (List.forall_mem_cons.2 ⟨tokn_natDigits i, List.forall_mem_map.2 (fun x _ => tokn_tokF _)⟩)
  rw [List.map_cons, List.map_cons, List.map_map, List.map_map] at this
  rw [splitWs_strip, orderRowT, List.map_congr_left (fun x _ => fmtF_eq 12 x), List.map_map]
  exact this

theorem energyRow_tokens (i : Nat) (f : TFrame) :
    splitWs (strip (energyRowT i f)) =
      [natDigits i, tokF (written (eIn f.vpot)), tokF (written (eIn f.ekin)), nanStr, nanStr] := by
  have := split_joinSp_padL [(10, natDigits i), (14, tokF (written (eIn f.vpot))), (14, tokF (written (eIn f.ekin))),
      (14, nanStr), (14, nanStr)]
    (by
      simp only [List.forall_mem_cons, List.not_mem_nil, false_imp_iff, implies_true, and_true]
      exact ⟨tokn_natDigits i, tokn_tokF _, tokn_tokF _, tokn_tokF .nan, tokn_tokF .nan⟩)
  rw [splitWs_strip, energyRowT, fmtF_eq, fmtF_eq, fmtF_eq]
  exact this

theorem joinSp_cons_prefix (a : Str) (l : List Str) : ∃ r, joinSp (a :: l) = a ++ r := by
  cases l with
  | nil => exact ⟨[], by simp [joinSp]⟩
  | cons b t => exact ⟨' ' :: joinSp (b :: t), rfl⟩

theorem isCommentT_trajRowT (i : Nat) (f : TFrame) : isCommentT (trajRowT i f) = false := by
  unfold trajRowT
  simp only [List.append_assoc]
  exact isCommentT_padL _ _ _ (tokn_natDigits i) (head_natDigits_ne_hash i)

theorem isCommentT_orderRowT (i : Nat) (f : TFrame) : isCommentT (orderRowT i f) = false := by
  unfold orderRowT
  obtain ⟨r, hr⟩ := joinSp_cons_prefix (padL 10 (natDigits i)) (f.order.map (fmtF 12))
  rw [hr]
  exact isCommentT_padL _ _ _ (tokn_natDigits i) (head_natDigits_ne_hash i)

theorem isCommentT_energyRowT (i : Nat) (f : TFrame) : isCommentT (energyRowT i f) = false := by
  unfold energyRowT
  obtain ⟨r, hr⟩ := joinSp_cons_prefix (padL 10 (natDigits i))
    [fmtF 14 (eIn f.vpot), fmtF 14 (eIn f.ekin), fmtF 14 .nan, fmtF 14 .nan]
  rw [hr]
  exact isCommentT_padL _ _ _ (tokn_natDigits i) (head_natDigits_ne_hash i)

theorem isCommentT_cycleT (step : Nat) (mv : Option Str) : isCommentT (cycleT step mv) = true := by
  rw [isCommentT_eq]
  rfl

theorem isCommentT_hdr : isCommentT hdrTraj = true ∧ isCommentT hdrOrder = true ∧ isCommentT hdrEnergy = true := by
  decide

def snapOfT (f : TFrame) : Str × Int × Bool := (f.base, idx0 f.idx, f.velRev)

theorem snapshotT_tokens (i : Nat) (f : TFrame) :
    snapshotT [natDigits i, f.base, intDigits (idx0 f.idx), intDigits (if f.velRev then -1 else 1)] = .ok (snapOfT f) := by
  unfold snapshotT
  simp only [pyInt_intDigits, snapOfT]
  cases f.velRev <;> rfl

/-- the `Time` column as `np.array` holds it -/
def timeVal (i : Nat) : FVal := .dec ⟨false, i * 1000000⟩

theorem parseNumT_tokens (i : Nat) (vs : List FVal) (l : Str) (h : splitWs l = natDigits i :: vs.map tokF) :
    parseNumT l = some (timeVal i :: vs) := by
  unfold parseNumT
  rw [h]
  simp only [pyInt_natDigits, mapOpt_pyFloat, timeVal]
  simp

def orderValsT (i : Nat) (f : TFrame) : List FVal := timeVal i :: f.order.map written
def energyValsT (i : Nat) (f : TFrame) : List FVal :=
  [timeVal i, written (eIn f.vpot), written (eIn f.ekin), .nan, .nan]

theorem parseNumT_orderRow (i : Nat) (f : TFrame) :
    parseNumT (strip (orderRowT i f)) = some (orderValsT i f) :=
  parseNumT_tokens i _ _ (orderRow_tokens i f)

theorem parseNumT_energyRow (i : Nat) (f : TFrame) :
    parseNumT (strip (energyRowT i f)) = some (energyValsT i f) := by
  have h := energyRow_tokens i f
  exact parseNumT_tokens i [written (eIn f.vpot), written (eIn f.ekin), .nan, .nan] _ (by rw [h]; rfl)

theorem firstBlockT_rows {β : Type} (parse : Str → Option (List β)) (g : Str → List β) (c : Nat)
    (c1 c2 : Str) (row : Nat → TFrame → Str) (fs : List TFrame) (blanks : List Str)
    (hb1 : NoBrk c1) (hb2 : NoBrk c2) (h1 : isCommentT c1 = true) (h2 : isCommentT c2 = true)
    (h : ∀ j, ∀ f ∈ fs, NoBrk (row j f) ∧ isCommentT (row j f) = false ∧
      parse (strip (row j f)) = some (g (row j f)) ∧ (g (row j f)).length = c ∧ g (row j f) ≠ [])
    (hbl : ∀ l ∈ blanks, Blank l) (hp0 : parse [] = some []) :
    firstBlockT parse (unlines (c1 :: c2 :: (rowsFromT row 0 fs ++ blanks))) = .ok ((rowsFromT row 0 fs).map g) := by
  have hrow : ∀ l ∈ rowsFromT row 0 fs, ∃ j f, f ∈ fs ∧ l = row j f := mem_rowsFromT fs 0
  unfold firstBlockT
  rw [pyLines_unlines _ (by
    intro l hl
    rcases List.mem_cons.mp hl with e | hl
    · exact e ▸ hb1
    · rcases List.mem_cons.mp hl with e | hl
      · exact e ▸ hb2
      · rcases List.mem_append.mp hl with hl | hl
        · obtain ⟨j, f, hf, rfl⟩ := hrow l hl
          exact (h j f hf).1
        · exact (hbl l hl).2)]
  rw [blockGo_stored_junk isCommentT (fun l => parse (strip l)) g c c1 c2 _ blanks h1 h2 (by
    intro l hl
    obtain ⟨j, f, hf, rfl⟩ := hrow l hl
    exact (h j f hf).2) (by
    intro l hl
    refine ⟨isCommentT_blank l (hbl l hl).1, ?_⟩
    show parse (strip l) = some []
    rw [strip_blank l (hbl l hl).1]
    exact hp0)]

theorem firstBlockT_traj (step : Nat) (fs : List TFrame) (hn : ∀ f ∈ fs, Tokn f.base)
    (b : List Str) (hb : ∀ l ∈ b, Blank l) :
    firstBlockT parseStrT (unlines (trajLines step fs ++ b)) =
      .ok ((rowsFromT trajRowT 0 fs).map (fun l => splitWs (strip l))) := by
  refine firstBlockT_rows parseStrT (fun l => splitWs (strip l)) 4 _ _ trajRowT fs b
    (NoBrk_cycleT _ _ (by intro m hm; cases hm)) NoBrk_hdrTraj (isCommentT_cycleT _ _) isCommentT_hdr.1 ?_ hb rfl
  intro j f hf
  refine ⟨NoBrk_trajRowT j f (hn f hf), isCommentT_trajRowT j f, rfl, ?_, ?_⟩
  · show (splitWs (strip (trajRowT j f))).length = 4
    rw [trajRow_tokens j f (hn f hf)]; rfl
  · show splitWs (strip (trajRowT j f)) ≠ []
    rw [trajRow_tokens j f (hn f hf)]; simp

def numRowT (l : Str) : List FVal := match parseNumT (strip l) with | some d => d | none => []

theorem firstBlockT_order (step : Nat) (gen : Str) (hg : NoBrk gen) (fs : List TFrame) (c : Nat)
    (hc : ∀ f ∈ fs, f.order.length = c) (b : List Str) (hb : ∀ l ∈ b, Blank l) :
    firstBlockT parseNumT (unlines (orderLines step gen fs ++ b)) = .ok ((rowsFromT orderRowT 0 fs).map numRowT) := by
  refine firstBlockT_rows parseNumT numRowT (c + 1) _ _ orderRowT fs b
    (NoBrk_cycleT _ _ (by intro m hm; cases hm; exact hg)) NoBrk_hdrOrder (isCommentT_cycleT _ _) isCommentT_hdr.2.1 ?_ hb rfl
  intro j f hf
  refine ⟨NoBrk_orderRowT j f, isCommentT_orderRowT j f, ?_, ?_, ?_⟩
  · simp [numRowT, parseNumT_orderRow]
  · simp [numRowT, parseNumT_orderRow, orderValsT, hc f hf]
  · simp [numRowT, parseNumT_orderRow, orderValsT]

theorem firstBlockT_energy (step : Nat) (gen : Str) (hg : NoBrk gen) (fs : List TFrame)
    (b : List Str) (hb : ∀ l ∈ b, Blank l) :
    firstBlockT parseNumT (unlines (energyLines step gen fs ++ b)) = .ok ((rowsFromT energyRowT 0 fs).map numRowT) := by
  refine firstBlockT_rows parseNumT numRowT 5 _ _ energyRowT fs b
    (NoBrk_cycleT _ _ (by intro m hm; cases hm; exact hg)) NoBrk_hdrEnergy (isCommentT_cycleT _ _) isCommentT_hdr.2.2 ?_ hb rfl
  intro j f _
  refine ⟨NoBrk_energyRowT j f, isCommentT_energyRowT j f, ?_, ?_, ?_⟩
  · simp [numRowT, parseNumT_energyRow]
  · simp [numRowT, parseNumT_energyRow, energyValsT]
  · simp [numRowT, parseNumT_energyRow, energyValsT]

theorem snapshotsT_rows : ∀ (fs : List TFrame) (i : Nat), (∀ f ∈ fs, Tokn f.base) →
    snapshotsT ((rowsFromT trajRowT i fs).map (fun l => splitWs (strip l))) = .ok (fs.map snapOfT) := by
  intro fs
  induction fs with
  | nil => intro i _; simp [rowsFromT, snapshotsT]
  | cons f fs ih =>
    intro i h
    simp only [rowsFromT, List.map_cons, snapshotsT]
    rw [trajRow_tokens i f (h f (by simp)), snapshotT_tokens, ih (i + 1) (fun g hg => h g (List.mem_cons_of_mem _ hg))]

theorem sourcesT_eq : ∀ (fs : List TFrame), sourcesT fs = Store.firstOcc (fs.map (fun f => (f.dir, f.base))) := by
  intro fs
  induction fs with
  | nil => rfl
  | cons f fs ih => simp only [sourcesT, List.map_cons, Store.firstOcc, ih]

theorem mem_sourcesT (fs : List TFrame) (f : TFrame) (h : f ∈ fs) : (f.dir, f.base) ∈ sourcesT fs := by
  rw [sourcesT_eq, Store.mem_firstOcc]
  exact List.mem_map_of_mem h

theorem sourcesT_sub : ∀ (fs : List TFrame) (s : Str × Str), s ∈ sourcesT fs → ∃ f ∈ fs, s = (f.dir, f.base) := by
  intro fs s h
  rw [sourcesT_eq, Store.mem_firstOcc] at h
  obtain ⟨f, hf, e⟩ := List.mem_map.mp h
  exact ⟨f, hf, e.symm⟩

theorem sourcesT_nodup : ∀ (fs : List TFrame), (sourcesT fs).Nodup :=
  fun fs => sourcesT_eq fs ▸ Store.firstOcc_nodup _

theorem files_checkT (fs : List TFrame) :
    (fs.map snapOfT).all (fun s => ((sourcesT fs).map (·.2)).contains s.1) = true := by
  simp only [List.all_map, List.all_eq_true]
  intro f hf
  simp only [Function.comp, snapOfT, List.contains_eq_mem, decide_eq_true_eq, List.mem_map]
  exact ⟨(f.dir, f.base), mem_sourcesT fs f hf, rfl⟩

theorem order_colsT (fs : List TFrame) (i : Nat) :
    ((rowsFromT orderRowT i fs).map numRowT).map List.tail = fs.map (fun f => f.order.map written) := by
  rw [List.map_map]
  exact map_rowsFromT _ _ fs i (fun j f _ => by simp [numRowT, parseNumT_orderRow, orderValsT])

def bareT (f : TFrame) : LFrameT :=
  { base := f.base, idx := idx0 f.idx, velRev := f.velRev, order := f.order.map written, vpot := none, ekin := none }

theorem zipFramesT_maps : ∀ (fs : List TFrame),
    zipFramesT (fs.map snapOfT) (fs.map (fun f => f.order.map written)) = fs.map bareT := by
  intro fs
  induction fs with
  | nil => simp [zipFramesT]
  | cons f fs ih => simp [zipFramesT, ih, bareT, snapOfT]

theorem setEnergiesT_rows : ∀ (fs : List TFrame) (i : Nat),
    setEnergiesT (fs.map bareT) ((rowsFromT energyRowT i fs).map numRowT) = fs.map expectedT := by
  intro fs
  induction fs with
  | nil => intro i; simp [setEnergiesT]
  | cons f fs ih =>
    intro i
    simp only [List.map_cons, rowsFromT, setEnergiesT, ih]
    congr 1
    simp [numRowT, parseNumT_energyRow, energyValsT, bareT, expectedT]

theorem setEnergiesT_take : ∀ (k : Nat) (fr : List LFrameT) (rows : List (List FVal)),
    setEnergiesT (fr.take k) rows = (setEnergiesT fr rows).take k := by
  intro k
  induction k with
  | zero => intro fr rows; simp [setEnergiesT]
  | succ k ih =>
    intro fr rows
    cases fr with
    | nil => simp [setEnergiesT]
    | cons f fr =>
      cases rows with
      | nil => simp [setEnergiesT, ih]
      | cons r rows => simp [setEnergiesT, ih]

theorem loadFramesT_stored (step : Nat) (gen : Str) (hg : NoBrk gen) (fs : List TFrame) (hne : fs ≠ [])
    (hn : ∀ f ∈ fs, Tokn f.base) (c : Nat) (hc : ∀ f ∈ fs, f.order.length = c)
    (b1 b2 : List Str) (hb1 : ∀ l ∈ b1, Blank l) (hb2 : ∀ l ∈ b2, Blank l) :
    loadFramesT (some (unlines (trajLines step fs ++ b1))) (some (unlines (orderLines step gen fs ++ b2)))
      ((sourcesT fs).map (·.2)) = .ok (fs.map bareT) := by
  unfold loadFramesT
  simp only
  rw [firstBlockT_traj step fs hn b1 hb1]
  simp only [snapshotsT_rows fs 0 hn]
  have hf := files_checkT fs
  simp only [hf, not_true_eq_false, if_false]
  rw [firstBlockT_order step gen hg fs c hc b2 hb2]
  simp only
  cases fs with
  | nil => exact absurd rfl hne
  | cons f fs' =>
    have := order_colsT (f :: fs') 0
    simp only [rowsFromT, List.map_cons] at this ⊢
    simp only [dropFirstColT, List.map_cons]
    rw [this]
    exact congrArg _ (zipFramesT_maps (f :: fs'))

theorem loadEnergiesT_stored (step : Nat) (gen : Str) (hg : NoBrk gen) (fs : List TFrame) (hne : fs ≠ []) (k : Nat)
    (b3 : List Str) (hb3 : ∀ l ∈ b3, Blank l) :
    loadEnergiesT (some (unlines (energyLines step gen fs ++ b3))) ((fs.map bareT).take k) = .ok ((fs.map expectedT).take k) := by
  unfold loadEnergiesT
  simp only
  rw [firstBlockT_energy step gen hg fs b3 hb3]
  simp only
  cases fs with
  | nil => exact absurd rfl hne
  | cons f fs' =>
    have := setEnergiesT_rows (f :: fs') 0
    simp only [rowsFromT, List.map_cons] at this ⊢
    have hlen : (numRowT (energyRowT 0 f)).length = 5 := by simp [numRowT, parseNumT_energyRow, energyValsT]
    simp only [hlen, show ¬ (5 < 3) by omega, if_false]
    rw [← List.map_cons (f := bareT), ← List.map_cons (f := expectedT), setEnergiesT_take]
    simp only [List.map_cons]
    rw [this]

/-- **Loading the text of a stored path** — any number of blank lines behind each of the three files,
    whichever way `load_path` fills the `Path()` object: the result is that object filled the same way
    with the frames the property expects. -/
theorem loadPathT_stored (v : Fill) (lim : Option Int) (step : Nat) (gen : Str) (hg : NoBrk gen) (fs : List TFrame)
    (hne : fs ≠ []) (hn : ∀ f ∈ fs, Tokn f.base) (c : Nat) (hc : ∀ f ∈ fs, f.order.length = c)
    (b1 b2 b3 : List Str) (hb1 : ∀ l ∈ b1, Blank l) (hb2 : ∀ l ∈ b2, Blank l) (hb3 : ∀ l ∈ b3, Blank l) :
    loadPathT v lim (some (unlines (trajLines step fs ++ b1))) (some (unlines (orderLines step gen fs ++ b2)))
      (some (unlines (energyLines step gen fs ++ b3))) ((sourcesT fs).map (·.2)) =
      .ok (fill v (PathObj.empty lim) (fs.map expectedT)) := by
  obtain ⟨k, hk⟩ := Store.fill_empty_take v lim fs.length
  unfold loadPathT
  rw [loadFramesT_stored step gen hg fs hne hn c hc b1 b2 hb1 hb2]
  simp only [hk (fs.map bareT) (by simp), hk (fs.map expectedT) (by simp), loadEnergiesT_stored step gen hg fs hne k b3 hb3]

theorem no_blanks : ∀ l ∈ ([] : List Str), Blank l := by intro l hl; cases hl

theorem loadStoredT_storeT (v : Fill) (lim : Option Int) (step : Nat) (gen : Str) (p : PathObj TFrame)
    (hfit : p.fits) (hne : p.pts ≠ []) (hg : NoBrk gen) (hn : ∀ f ∈ p.pts, Tokn f.base)
    (c : Nat) (hc : ∀ f ∈ p.pts, f.order.length = c) :
    loadStoredT v lim (storeT step gen p).1 = .ok (fill v (PathObj.empty lim) (p.pts.map expectedT)) := by
  unfold loadStoredT storeT
  simp only [Store.copy_of_fits p hfit]
  simpa only [List.append_nil] using
    loadPathT_stored v lim step gen hg p.pts hne hn c hc [] [] [] no_blanks no_blanks no_blanks

theorem firstBlockT_traj0 (step : Nat) (fs : List TFrame) (hn : ∀ f ∈ fs, Tokn f.base) :
    firstBlockT parseStrT (unlines (trajLines step fs)) =
      .ok ((rowsFromT trajRowT 0 fs).map (fun l => splitWs (strip l))) := by
  have := firstBlockT_traj step fs hn [] no_blanks
  rwa [List.append_nil] at this

end Infretis.StoreText
