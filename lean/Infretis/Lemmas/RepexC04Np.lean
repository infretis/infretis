import Infretis.Model.DataFileNp
import Infretis.Lemmas.RepexC04Rec
import Infretis.Lemmas.RepexTreatData
/-!
# C04 — the checked "record weights" loop (`Model/DataFileNp.lean`) against `Repex.recordFrac` / `treatOutput`

On a table whose vectors all have `n` entries (and a slot-well-formed state) the checked loop raises exactly when
`recordFrac` does, with the same result (`recordFracChecked_wf`); hence `treatOutputChecked … .toExcept = treatOutput …`
on every state whose recording state is well formed (`treatOutputChecked_eq`), in particular in every reachable state.
A vector of another length in an idle live slot makes the checked loop raise `ValueError` (`recGoChecked_value`),
whereas `recordFrac` goes on.
-/
namespace Infretis.Repex.Data
open Infretis.Repex.Frac Infretis.Perm

theorem updFracChecked_ok {frac f : List (Nat × List Rat)} {pn : Nat} {row : List Rat}
    (h : updFracChecked frac pn row = .ok f) : updFrac frac pn row = .ok f := by
  unfold updFracChecked at h
  split at h
  · exact absurd h (by simp)
  · split at h
    · exact h
    · exact absurd h (by simp)

theorem updFracChecked_eq (frac : List (Nat × List Rat)) (pn : Nat) (row : List Rat)
    (hl : ∀ kv ∈ frac, kv.2.length = row.length) : updFracChecked frac pn row = updFrac frac pn row := by
  unfold updFracChecked
  cases hlk : frac.lookup pn with
  | none =>
    simp only []
    unfold updFrac
    rw [Assoc.any_key, hlk]
    simp
  | some v =>
    simp only []
    rw [if_pos (hl (pn, v) (Assoc.mem_of_lookup hlk))]

theorem updFrac_lengths {frac f : List (Nat × List Rat)} {pn : Nat} {row : List Rat} {n : Nat}
    (hl : ∀ kv ∈ frac, kv.2.length = n) (hr : row.length = n) (h : updFrac frac pn row = .ok f) :
    ∀ kv ∈ f, kv.2.length = n := by
  obtain ⟨_, rfl⟩ := updFrac_ok h
  exact bumped_len pn n row frac hr hl

theorem recGoChecked_none (L : List (Option Nat)) (P : Mat) :
    ∀ (l : List (Nat × Option Nat)) (frac f : List (Nat × List Rat)),
      recGoChecked L P frac l = (f, none) → recordFrac.go L P frac l = .ok f := by
  intro l
  induction l with
  | nil =>
    intro frac f h
    simp only [recGoChecked, Prod.mk.injEq, and_true] at h
    subst h; rfl
  | cons il rest ih =>
    intro frac f h
    obtain ⟨idx, live⟩ := il
    unfold recGoChecked at h
    unfold recordFrac.go
    split at h
    · rename_i hc; rw [if_pos hc]; exact ih _ _ h
    · rename_i hc; rw [if_neg hc]
      cases live with
      | none => simp at h
      | some pn =>
        simp only [] at h ⊢
        split at h
        · simp at h
        · rename_i f' hu
          rw [updFracChecked_ok hu]
          exact ih _ _ h

theorem recGoChecked_wf (L : List (Option Nat)) (P : Mat) (n : Nat) :
    ∀ (l : List (Nat × Option Nat)) (frac : List (Nat × List Rat)),
      (∀ kv ∈ frac, kv.2.length = n) → (∀ il ∈ l, (P.getD il.1 []).length = n) →
      (match recordFrac.go L P frac l with
       | .ok f => recGoChecked L P frac l = (f, none)
       | .error e => (recGoChecked L P frac l).2 = some e) := by
  intro l
  induction l with
  | nil => intro frac _ _; simp [recordFrac.go, recGoChecked]
  | cons il rest ih =>
    intro frac hl hP
    obtain ⟨idx, live⟩ := il
    have hPr : ∀ il ∈ rest, (P.getD il.1 []).length = n := fun il h => hP il (List.mem_cons_of_mem _ h)
    have hrow : (P.getD idx []).length = n := hP (idx, live) List.mem_cons_self
    unfold recordFrac.go recGoChecked
    by_cases hc : L.contains live
    · rw [if_pos hc, if_pos hc]; exact ih frac hl hPr
    · rw [if_neg hc, if_neg hc]
      cases live with
      | none => simp
      | some pn =>
        simp only []
        rw [updFracChecked_eq frac pn _ (fun kv hkv => by rw [hl kv hkv, hrow])]
        cases hu : updFrac frac pn (P.getD idx []) with
        | error e => simp
        | ok f' =>
          simp only []
          exact ih f' (updFrac_lengths hl hrow hu) hPr

theorem recordFracChecked_wf {s : St} (wf : SlotWF s) (hl : ∀ kv ∈ s.frac, kv.2.length = s.n) :
    (match recordFrac s with
     | .ok s' => recordFracChecked s = (s', none)
     | .error e => (recordFracChecked s).2 = some e) := by
  have hP : ∀ il ∈ (List.range (livePaths s).length).zip (livePaths s), ((prob s).getD il.1 []).length = s.n := by
    intro il hil
    have h1 := (List.of_mem_zip hil).1
    rw [List.mem_range] at h1
    have : (livePaths s).length = s.n - 1 := by simp [livePaths, wf.lenT]
    exact prob_row_length wf il.1 (by omega)
  have := recGoChecked_wf (lockedPaths s) (prob s) s.n _ s.frac hl hP
  unfold recordFrac recordFracChecked
  simp only []
  split at this
  · rename_i f hf
    rw [hf, this]
  · rename_i e hf
    rw [hf]
    exact this

theorem treatOutputChecked_eq (s : St) (job : Job) (status : Status) (newW : List (List Rat)) (fuel : Nat)
    (h : ∀ s1 tn pns, recState s job status newW = .ok (s1, tn, pns) →
      SlotWF s1 ∧ ∀ kv ∈ s1.frac, kv.2.length = s1.n) :
    (treatOutputChecked s job status newW fuel).toExcept = treatOutput s job status newW fuel := by
  unfold treatOutputChecked treatOutput
  simp only []
  have hws : (if status = Status.acc then newW else job.picked.map (fun _ => []))
      = jobWs job status newW := rfl
  rw [hws]
  unfold recState at h
  by_cases hlen : (jobWs job status newW).length ≠ job.picked.length
  · rw [if_pos hlen, if_pos hlen]; rfl
  · rw [if_neg hlen, if_neg hlen]
    cases hper : treatOutput.perEns status s s.trajNum (job.picked.zip (jobWs job status newW)) with
    | error e => rfl
    | ok r =>
      obtain ⟨s1, tn, pnNews⟩ := r
      simp only []
      rw [hper] at h
      obtain ⟨wf, hl⟩ := h s1 tn pnNews rfl
      have hw := recordFracChecked_wf wf hl
      cases hrec : recordFrac s1 with
      | error e =>
        rw [hrec] at hw
        simp only [] at hw ⊢
        cases hc : recordFracChecked s1 with
        | mk sP oe =>
          rw [hc] at hw
          simp only [] at hw
          subst hw
          rfl
      | ok s2 =>
        rw [hrec] at hw
        simp only [] at hw ⊢
        rw [hw]
        simp only []
        cases (if status = Status.acc then writeRows s2 job.pnumOld else Except.ok s2) with
        | error e => rfl
        | ok s3 =>
          simp only []
          cases sortTrajstate fuel s3 with
          | error e => rfl
          | ok r => rfl

theorem recGoChecked_value (L : List (Option Nat)) (P : Mat) (frac : List (Nat × List Rat)) (idx pn : Nat)
    (rest : List (Nat × Option Nat)) (v : List Rat) (hL : L.contains (some pn) = false)
    (hv : frac.lookup pn = some v) (hne : v.length ≠ (P.getD idx []).length) :
    recGoChecked L P frac ((idx, some pn) :: rest) = (frac, some .value) := by
  unfold recGoChecked
  rw [if_neg (by rw [hL]; simp)]
  simp only []
  unfold updFracChecked
  rw [hv]
  simp only []
  rw [if_neg hne]

end Infretis.Repex.Data
