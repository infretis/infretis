import Infretis.Lemmas.StoreInv
import Infretis.Lemmas.ListAux
/-!
C14 part B: the lag of the pn_olds FIFO, one step at a time.  The two lag theorems (`C14.deletion_lag_queued`,
`C14.deletion_lag`) are arithmetic on `replace_queue`.
-/
namespace Infretis.Store

/-- number of further qualifying replacements after which the queued path `q` is deleted -/
def remn (s : St) (q : Nat) : Nat := (s.n - 1 - s.pnOlds.length) + (keys s.pnOlds).idxOf q + 1

theorem keys_dictSet_new {α : Type} (k : Nat) (v : α) (l : List (Nat × α)) (h : k ∉ keys l) :
    keys (dictSet k v l) = keys l ++ [k] := by
  rw [keys_dictSet]; simp [h]

theorem idxOf_new (ks : List Nat) (k : Nat) (h : k ∉ ks) : (ks ++ [k]).idxOf k = ks.length := by
  rw [List.idxOf_append]; simp [h]

theorem nodup_replace (s : St) (hnd : (keys s.pnOlds).Nodup) (pnOld : Nat) (files kept : List String) :
    (keys (replace s pnOld files kept).1.pnOlds).Nodup := by
  have push : ∀ (l : List (Nat × List String)) (adr : List String), (keys l).Nodup → (keys (dictSet pnOld adr l)).Nodup := by
    intro l adr h
    rw [keys_dictSet]
    split
    · exact h
    · rename_i hk
      exact nodup_snoc h hk
  rcases replace_cases s pnOld files kept with ⟨_, he⟩ | ⟨_, _, _, _, _, _, hb, he⟩ <;> rw [he]
  · exact hnd
  cases hb with
  | skip _ | raise _ _ _ _ _ _ _ => exact hnd
  | push _ _ => exact push _ _ hnd
  | pop pd adrd rest _ _ _ _ ho _ _ =>
    have hr : (keys rest).Nodup := by
      rw [ho] at hnd
      exact (List.nodup_cons.mp hnd).2
    show (keys (ite _ _ _)).Nodup
    split
    · exact push _ _ hr
    · exact hr

/-- what a qualifying replacement of a live path that goes through does to the queue (under the invariants):
    the head goes if the queue is full, the replaced path is queued last -/
theorem replace_queue (s : St) (hg : Good s) (hlen : s.pnOlds.length + 1 ≤ s.n) (pnOld : Nat) (files kept : List String)
    (hl : pnOld ∈ s.live) (hq : qualifies s pnOld = true) (hok : (replace s pnOld files kept).2 = none) :
    ∃ ks, keys (replace s pnOld files kept).1.pnOlds = ks ++ [pnOld] ∧ pnOld ∉ ks ∧
      ((¬ ((s.pnOlds.length : Int) > (s.n : Int) - 2) ∧ ks = keys s.pnOlds) ∨
       (((s.pnOlds.length : Int) > (s.n : Int) - 2) ∧ ∃ pd adrd rest, s.pnOlds = (pd, adrd) :: rest ∧ ks = keys rest ∧
          ∀ a ∈ adrd, DFile.acc pd a ∉ (replace s pnOld files kept).1.disk)) := by
  have hnk : pnOld ∉ keys s.pnOlds := fun h => (hg.olds_dead pnOld h).1 hl
  rcases replace_cases s pnOld files kept with ⟨_, he⟩ | ⟨_, _, _, _, _, _, hb, he⟩ <;> rw [he] at hok ⊢
  · cases hok
  cases hb with
  | skip h => rw [hq] at h; cases h
  | raise _ _ _ _ _ _ _ => cases hok
  | push _ hl' => exact ⟨_, keys_dictSet_new _ _ _ hnk, hnk, .inl ⟨hl', rfl⟩⟩
  | pop pd adrd rest _ _ _ hl' ho _ hgone =>
    have hnk' : pnOld ∉ keys rest := fun hm => hnk (by rw [ho]; exact List.mem_cons_of_mem _ hm)
    have hrl : (rest.length : Int) ≤ (s.n : Int) - 2 := by
      have : s.pnOlds.length = rest.length + 1 := congrArg List.length ho
      omega
    refine ⟨keys rest, ?_, hnk', .inr ⟨hl', pd, adrd, rest, ho, rfl, hgone⟩⟩
    show keys (ite _ _ _) = _
    rw [if_pos hrl, keys_dictSet_new _ _ _ hnk']

end Infretis.Store
