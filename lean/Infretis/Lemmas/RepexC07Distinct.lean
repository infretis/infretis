import Infretis.Lemmas.RepexC07Issue
/-!
# C07 — streams tagged by (ordinal, entry) are distinct exactly when the ordinals are

Pure list reasoning about a log every entry of which carries, for its `j`-th picked ensemble, the streams
`(en, [ord, j])` and `(en, [ord, j, 0])` of its ordinal `ord` (`Tagged`); entries with the same ordinal are a job and
its re-issue.  Distinct means distinct as `Stream` values, i.e. as `(entropy, spawn_key)` pairs.
-/
namespace Infretis.Repex

/-- the move-decision streams (`ens['rgen']`) of a list of jobs, in order -/
def moveStreams (jobs : List Job) : List Stream := jobs.flatMap (fun job => job.picked.map (·.rgen))

/-- the engine streams (`rgen-eng`) of a list of jobs, in order -/
def engStreams (jobs : List Job) : List Stream := jobs.flatMap (fun job => job.picked.map (·.rgenEng))

def allStreams (jobs : List Job) : List Stream := moveStreams jobs ++ engStreams jobs

theorem moveStream_inj (en k j k' j' : Nat) (h : moveStream en k j = moveStream en k' j') :
    k = k' ∧ j = j' := by
  simpa [moveStream] using h

theorem engStream_inj (en k j k' j' : Nat) (h : engStream en k j = engStream en k' j') :
    k = k' ∧ j = j' := by
  simpa [engStream] using h

theorem mem_flatMap_entries {f : Picked → Stream} {log : List Entry} {x : Stream}
    (h : x ∈ (log.map (·.job)).flatMap (fun job => job.picked.map f)) :
    ∃ (e : Entry) (j : Nat) (p : Picked), e ∈ log ∧ e.job.picked[j]? = some p ∧ x = f p := by
  rw [List.mem_flatMap] at h
  obtain ⟨job, hjob, hx⟩ := h
  rw [List.mem_map] at hjob hx
  obtain ⟨e, he, rfl⟩ := hjob
  obtain ⟨p, hp, rfl⟩ := hx
  obtain ⟨j, hj⟩ := List.mem_iff_getElem?.mp hp
  exact ⟨e, j, p, he, hj, rfl⟩

theorem nodup_of_labelled (f : Picked → Stream) (g : Nat → Nat → Stream)
    (ginj : ∀ k j k' j', g k j = g k' j' → k = k' ∧ j = j') :
    ∀ (log : List Entry), (log.map (·.ord)).Nodup →
      (∀ e ∈ log, ∀ j p, e.job.picked[j]? = some p → f p = g e.ord j) →
      ((log.map (·.job)).flatMap (fun job => job.picked.map f)).Nodup := by
  have inner : ∀ (ps : List Picked) (b j0 : Nat),
      (∀ j p, ps[j]? = some p → f p = g b (j0 + j)) → (ps.map f).Nodup := by
    intro ps
    induction ps with
    | nil => intro b j0 _; simp
    | cons p ps ih =>
      intro b j0 h
      rw [List.map_cons, List.nodup_cons]
      constructor
      · intro hm
        rw [List.mem_map] at hm
        obtain ⟨q, hq, hfq⟩ := hm
        obtain ⟨i, hi⟩ := List.mem_iff_getElem?.mp hq
        have h0 := h 0 p (by simp)
        have h1 := h (i + 1) q (by simpa using hi)
        rw [hfq, h0] at h1
        have := (ginj _ _ _ _ h1).2
        omega
      · apply ih b (j0 + 1)
        intro j q hq
        have := h (j + 1) q (by simpa using hq)
        have e : j0 + 1 + j = j0 + (j + 1) := by omega
        rw [e]
        exact this
  intro log
  induction log with
  | nil => intro _ _; simp
  | cons e rest ih =>
    intro hn h
    rw [List.map_cons, List.nodup_cons] at hn
    rw [List.map_cons, List.flatMap_cons, List.nodup_append]
    refine ⟨?_, ?_, ?_⟩
    · apply inner e.job.picked e.ord 0
      intro j p hp
      have := h e (List.mem_cons_self ..) j p hp
      simpa using this
    · exact ih hn.2 (fun e' he' => h e' (List.mem_cons_of_mem _ he'))
    · intro a ha b hb hab
      rw [List.mem_map] at ha
      obtain ⟨p, hp, rfl⟩ := ha
      obtain ⟨j, hj⟩ := List.mem_iff_getElem?.mp hp
      obtain ⟨e', j', p', he', hj', rfl⟩ := mem_flatMap_entries hb
      have h0 := h e (List.mem_cons_self ..) j p hj
      have h1 := h e' (List.mem_cons_of_mem _ he') j' p' hj'
      rw [hab, h1] at h0
      have := (ginj _ _ _ _ h0).1
      exact hn.1 (List.mem_map.mpr ⟨e', he', this⟩)

theorem Tagged.mem_allStreams {en : Nat} {log : List Entry} (h : Tagged en log) {x : Stream}
    (hx : x ∈ allStreams (log.map (·.job))) :
    ∃ e ∈ log, ∃ j, x = moveStream en e.ord j ∨ x = engStream en e.ord j := by
  unfold allStreams at hx
  rcases List.mem_append.mp hx with hm | hm
  · obtain ⟨e, j, p, he, hj, rfl⟩ := mem_flatMap_entries hm
    exact ⟨e, he, j, Or.inl (h e he j p hj).1⟩
  · obtain ⟨e, j, p, he, hj, rfl⟩ := mem_flatMap_entries hm
    exact ⟨e, he, j, Or.inr (h e he j p hj).2⟩

theorem Tagged.nodup {en : Nat} {log : List Entry} (h : Tagged en log)
    (hn : (log.map (·.ord)).Nodup) : (allStreams (log.map (·.job))).Nodup := by
  unfold allStreams
  rw [List.nodup_append]
  refine ⟨?_, ?_, ?_⟩
  · exact nodup_of_labelled (·.rgen) (moveStream en) (moveStream_inj en) log hn
      (fun e he j p hp => (h e he j p hp).1)
  · exact nodup_of_labelled (·.rgenEng) (engStream en) (engStream_inj en) log hn
      (fun e he j p hp => (h e he j p hp).2)
  · intro a ha b hb hab
    obtain ⟨e, j, p, he, hj, rfl⟩ := mem_flatMap_entries ha
    obtain ⟨e', j', p', he', hj', rfl⟩ := mem_flatMap_entries hb
    rw [(h e he j p hj).1, (h e' he' j' p' hj').2] at hab
    simp [moveStream, engStream] at hab

theorem Tagged.nodup_fresh {en a n : Nat} {log : List Entry} (h : Tagged en log)
    (hf : freshOrds log = List.range' a n) : (allStreams ((log.filter (·.fresh)).map (·.job))).Nodup :=
  Tagged.nodup (fun e he => h e (List.mem_filter.mp he).1)
    (show (freshOrds log).Nodup from hf ▸ List.nodup_range' 1)

theorem Tagged.key_head {en : Nat} {log : List Entry} (h : Tagged en log) {x : Stream}
    (hx : x ∈ allStreams (log.map (·.job))) : ∃ e ∈ log, x.key.head? = some e.ord := by
  obtain ⟨e, he, j, hx | hx⟩ := h.mem_allStreams hx
  · exact ⟨e, he, by rw [hx]; rfl⟩
  · exact ⟨e, he, by rw [hx]; rfl⟩

theorem Tagged.key_ne_nil {en : Nat} {log : List Entry} (h : Tagged en log)
    {x : Stream} (hx : x ∈ allStreams (log.map (·.job))) : x.key ≠ [] := by
  obtain ⟨e, _, hk⟩ := h.key_head hx
  intro h0
  rw [h0] at hk
  cases hk

/-- no stream of a log is a scheduler's own: its spawn key is not empty -/
theorem Tagged.ne_main {en : Nat} {log : List Entry} (h : Tagged en log) {x : Stream}
    (hx : x ∈ allStreams (log.map (·.job))) : x.key ≠ [] ∧ ∀ s : St, x ≠ mainStream s :=
  have hne := h.key_ne_nil hx
  ⟨hne, fun s hxs => hne (by rw [hxs]; rfl)⟩

theorem Tagged.disjoint {en : Nat} {log : List Entry} (h : Tagged en log) {e1 e2 : Entry}
    (h1 : e1 ∈ log) (h2 : e2 ∈ log) (hne : e1.ord ≠ e2.ord) :
    ∀ x ∈ allStreams [e1.job], x ∉ allStreams [e2.job] := by
  intro x hx1 hx2
  have single : ∀ e ∈ log, Tagged en [e] := fun e he e' he' => by
    rw [List.mem_singleton.mp he']; exact h e he
  obtain ⟨a, ha, k1⟩ := (single e1 h1).key_head (log := [e1]) hx1
  obtain ⟨b, hb, k2⟩ := (single e2 h2).key_head (log := [e2]) hx2
  rw [List.mem_singleton.mp ha, k2, List.mem_singleton.mp hb] at k1
  exact hne (Option.some.inj k1).symm

/-- two jobs with the streams of one ordinal (a job and its re-issue, a lost job and the one that inherits its ordinal)
    have the same streams entry by entry -/
theorem StreamsAt.same {en ord : Nat} {ps qs : List Picked} (h1 : StreamsAt en ord ps) (h2 : StreamsAt en ord qs)
    (j : Nat) (p q : Picked) (hp : ps[j]? = some p) (hq : qs[j]? = some q) : p.rgen = q.rgen ∧ p.rgenEng = q.rgenEng :=
  ⟨(h1 j p hp).1.trans (h2 j q hq).1.symm, (h1 j p hp).2.trans (h2 j q hq).2.symm⟩

theorem Tagged.same {en : Nat} {log : List Entry} (h : Tagged en log) {e1 e2 : Entry}
    (h1 : e1 ∈ log) (h2 : e2 ∈ log) (heq : e1.ord = e2.ord) (j : Nat) (p q : Picked)
    (hp : e1.job.picked[j]? = some p) (hq : e2.job.picked[j]? = some q) :
    p.rgen = q.rgen ∧ p.rgenEng = q.rgenEng :=
  (heq ▸ h e1 h1).same (h e2 h2) j p q hp hq

end Infretis.Repex
