import Infretis.Model.MovesRun
import Infretis.Lemmas.Moves
/-! The wire-fencing model: `extender` in its two steps (`ExtBack`, `ExtForw`), each a run of the engine loop as the
    extender starts it (`Extension`), and `wireFencing` branch by branch (`WfRun`, `wf_ok_iff`). -/
namespace Infretis.Moves

/-- What the extender adds beyond an end frame `e` of its segment when the MD program does not run out and the length
    limit is not reached: nothing if `e` is outside `[l, r)`, else frames inside `[l, r]` and then the first one outside. -/
def Extension (l r e : Int) (T : List Int) : Prop :=
  if l ≤ e ∧ e < r then ∃ pre x, T = pre ++ [x] ∧ (∀ y ∈ pre, l ≤ y ∧ y ≤ r) ∧ (x < l ∨ r < x) else T = []

/-- the engine loop as `extender` starts it, on an end frame `x0` of the segment inside `[l, r)` -/
theorem ext_feed (v : Variant) (l r : Int) (M : Nat) (x0 : Int) (ext p : List Int) (ok : Bool) (u : Nat)
    (hx0 : l ≤ x0 ∧ x0 < r) (h : feedV v l r (some M) [] (x0 :: ext) 0 = some (p, ok, u)) :
    ∃ q, p = x0 :: q ∧ p.length ≤ M ∧ (p.length < M → M ≤ ext.length → Extension l r x0 q) := by
  obtain ⟨_, hq, rfl, rfl⟩ := (feedV_iff (by simpa using feedV_pos h)).1 h
  obtain ⟨t, ht⟩ := hq.prefix
  cases p with
  | nil => exact absurd rfl (hq.ne_nil (by simp))
  | cons a q =>
    obtain ⟨rfl, -⟩ := List.cons.inj ht
    refine ⟨q, rfl, by simpa using hq.length_le rfl, fun hlt hlong => ?_⟩
    obtain ⟨pre', x, post, hs, hp, hin, hx⟩ := hq.of_short rfl (by simpa using hlt) (by simp; omega)
    rw [Extension, if_pos hx0]
    -- `a` is inside, so it is not the frame the leg ended on
    cases pre' with
    | nil => cases hs; omega
    | cons k pre =>
      obtain ⟨-, rfl⟩ := List.cons.inj hp
      exact ⟨pre, x, rfl, fun y hy => hin y (List.mem_cons_of_mem _ hy), hx⟩

/-- the backward step of `extender`: from a first frame inside `[l, r)` the backward engine loop runs and its frames are
    pasted in front of the segment; from a first frame outside nothing happens -/
inductive ExtBack (v : Variant) (i : WfIn) (seg : List Int) (segTO : Int) (first : Int) : List Int → Int → Prop
  | run {pb okB uB} (hin : i.l ≤ first ∧ first < i.r)
      (hf : feedV v i.l i.r (some i.maxlength) [] (first :: i.extBack) 0 = some (pb, okB, uB)) :
      ExtBack v i seg segTO first (paste pb seg i.maxlength) (segTO - pb.length + 1)
  | skip (hout : ¬ (i.l ≤ first ∧ first < i.r)) : ExtBack v i seg segTO first seg segTO

inductive ExtForw (v : Variant) (i : WfIn) (t1 : List Int) (last : Int) : List Int → Prop
  | run {pf okF uF} (hin : i.l ≤ last ∧ last < i.r)
      (hf : feedV v i.l i.r (some i.maxlength) [] (last :: i.extForw) 0 = some (pf, okF, uF)) :
      ExtForw v i t1 last (t1.dropLast ++ pf)
  | skip (hout : ¬ (i.l ≤ last ∧ last < i.r)) : ExtForw v i t1 last t1

theorem extender_inv (v : Variant) (i : WfIn) (seg : List Int) (segTO : Int) (b : Bool) (st : Status) (t : List Int)
    (to' : Int) (h : extender v i seg segTO = .ok (b, st, t, to')) :
    ∃ first t1 last, seg.head? = some first ∧ ExtBack v i seg segTO first t1 to' ∧ t1.getLast? = some last ∧
      ExtForw v i t1 last t ∧ (b, st) = if t.length ≥ i.maxlength then (false, .FTX) else (true, .ACC) := by
  unfold extender at h
  split at h
  · cases h
  rename_i first hh
  simp only at h
  split at h
  · cases h
  rename_i t1 to1 h1
  have hB : ExtBack v i seg segTO first t1 to1 := by
    by_cases hin : i.l ≤ first ∧ first < i.r
    · simp only [hin, and_self, if_true] at h1
      cases hf : feedV v i.l i.r (some i.maxlength) [] (first :: i.extBack) 0 with
      | none => rw [hf] at h1; cases h1
      | some res => rw [hf] at h1; cases h1; exact .run hin hf
    · simp only [hin, if_false] at h1
      cases h1
      exact .skip hin
  split at h
  · cases h
  rename_i last hlast
  split at h
  · cases h
  rename_i t2 h2
  have hF : ExtForw v i t1 last t2 := by
    by_cases hin : i.l ≤ last ∧ last < i.r
    · simp only [hin, and_self, if_true] at h2
      cases hf : feedV v i.l i.r (some i.maxlength) [] (last :: i.extForw) 0 with
      | none => rw [hf] at h2; cases h2
      | some res => rw [hf] at h2; cases h2; exact .run hin hf
    · simp only [hin, if_false] at h2
      cases h2
      exact .skip hin
  split at h
  · rename_i hlen
    cases h
    exact ⟨first, t1, last, hh, hB, hlast, hF, by simp only [hlen, if_true]⟩
  · rename_i hlen
    cases h
    exact ⟨first, t1, last, hh, hB, hlast, hF, by simp only [hlen, if_false]⟩

theorem extender_flag (v : Variant) (i : WfIn) (seg : List Int) (to : Int) (b : Bool) (st : Status)
    (t : List Int) (to' : Int) (h : extender v i seg to = .ok (b, st, t, to')) :
    (b = true ↔ st = .ACC) ∧ (b = true → t.length < i.maxlength) ∧ (b = false → st = .FTX) := by
  obtain ⟨_, _, _, _, _, _, _, hb⟩ := extender_inv v i seg to b st t to' h
  split at hb
  · cases hb; simp
  · cases hb; simp; omega

theorem subt_flag (i : WfIn) (t : List Int) (to : Int) (b : Bool) (st : Status) (t' : List Int) (to' : Int)
    (h : subtAcceptance i t to = .ok (b, st, t', to')) :
    (b = true ↔ st = .ACC) ∧ (b = false → st = .BWI) ∧ (t' = t ∨ t' = t.reverse) := by
  unfold subtAcceptance at h
  repeat' split at h
  all_goals first
    | (cases h; done)
    | (simp only [Except.ok.injEq, Prod.mk.injEq] at h
       obtain ⟨h1, h2, h3, _⟩ := h
       subst h1 h2 h3
       simp)

/-- `wire_fencing` got past the jump loop with a segment: the old path has frames to shoot from, the loop completed
    and at least one sub-ensemble shoot was accepted -/
structure WfJumped (v : Variant) (i : WfIn) (seg : List Int) (segTO : Int) (succ : Nat) (draws : List Draw) : Prop where
  weight : WF.weight i.m (capOf i) i.old ≠ 0
  jumps : wfJumps v i i.nJumps i.jumps (wfSeg0 i) i.oldTimeOrigin 0 [.random] = .ok (seg, segTO, succ, draws)
  succ : succ ≠ 0

/-- what `wire_fencing` hands back once a segment exists: a new path object, `generated = ("wf", 9000, succ, len)` -/
@[simp] def WfOut.fresh (acc : Bool) (st : Status) (path : List Int) (succ : Nat) (tor : Int) (draws : List Draw) : WfOut :=
  { accept := acc, status := st, path := path, returnedOld := false, oldRewritten := false, genSucc := succ,
    genLen := path.length, timeOrigin := tor, draws := draws }

/-- the ways `wire_fencing` returns, each with the stage the code reached and the value it hands back: the four `.ok`
    of the model, the third split by which of `extender` and `subt_acceptance` refused.  Of the three `return`s of
    tis.py:476-569, 511 is `noFrames`, 569 is `accepted`, 558 is the other three. -/
inductive WfRun (v : Variant) (i : WfIn) : WfOut → Prop
  | noFrames (hw : WF.weight i.m (capOf i) i.old = 0) :
      WfRun v i
        { accept := false, status := .NSG, path := i.old, returnedOld := true, oldRewritten := false, genSucc := 0,
          genLen := 0, timeOrigin := i.oldTimeOrigin, draws := [] }
  | noSegment {seg segTO draws} (hw : WF.weight i.m (capOf i) i.old ≠ 0)
      (hj : wfJumps v i i.nJumps i.jumps (wfSeg0 i) i.oldTimeOrigin 0 [.random] = .ok (seg, segTO, 0, draws)) :
      WfRun v i
        { accept := false, status := .NSG, path := i.old, returnedOld := true, oldRewritten := true, genSucc := 0,
          genLen := i.old.length, timeOrigin := i.oldTimeOrigin, draws := draws }
  | extTooLong {seg segTO succ draws t1 to1} (J : WfJumped v i seg segTO succ draws)
      (he : extender v i seg segTO = .ok (false, .FTX, t1, to1)) :
      WfRun v i (.fresh false .FTX t1 succ to1 draws)
  | wrongStart {seg segTO succ draws t1 to1 t2 to2} (J : WfJumped v i seg segTO succ draws)
      (he : extender v i seg segTO = .ok (true, .ACC, t1, to1))
      (hsub : subtAcceptance i t1 to1 = .ok (false, .BWI, t2, to2)) :
      WfRun v i (.fresh false .BWI t2 succ to2 draws)
  | accepted {seg segTO succ draws t1 to1 t2 to2 first} (J : WfJumped v i seg segTO succ draws)
      (he : extender v i seg segTO = .ok (true, .ACC, t1, to1))
      (hsub : subtAcceptance i t1 to1 = .ok (true, .ACC, t2, to2))
      (hlr : i.l ≤ i.r) (hfirst : t2.head? = some first) (hsc : scIs i.sc (WF.startPoint i.l i.r first) = true) :
      WfRun v i (.fresh true .ACC t2 succ to2 draws)

/-- **`wire_fencing`, branch by branch.**  `→` walks through the code in its order; `←` are the five equations.
    (The segment the jumps start from is written out in `wireFencing`; it is `wfSeg0 i` up to unfolding, which
    `generalize` sees and `rw` does not.) -/
theorem wf_ok_iff (v : Variant) (i : WfIn) (o : WfOut) : wireFencing v i = .ok o ↔ WfRun v i o := by
  constructor
  · intro h
    unfold wireFencing at h
    simp only at h
    by_cases hw : WF.weight i.m (capOf i) i.old = 0
    · simp only [hw, if_true] at h
      cases h
      exact .noFrames hw
    simp only [hw, if_false] at h
    generalize hj : wfJumps v i i.nJumps i.jumps (match WF.pick i.m (capOf i) i.old i.xiSeg with
      | some (a, b, _) => (i.old.drop a).take (b + 1 - a)
      | none => []) i.oldTimeOrigin 0 [.random] = rj at h
    cases rj with
    | error e => cases h
    | ok rj =>
    obtain ⟨seg, segTO, succ, draws⟩ := rj
    simp only at h
    by_cases hs : succ = 0
    · subst hs
      simp only [if_true] at h
      cases h
      exact .noSegment hw hj
    simp only [hs, if_false] at h
    have J : WfJumped v i seg segTO succ draws := ⟨hw, hj, hs⟩
    cases he : extender v i seg segTO with
    | error e => rw [he] at h; cases h
    | ok re =>
    obtain ⟨ok1, st1, t1, to1⟩ := re
    rw [he] at h
    simp only at h
    have hflag := extender_flag v i _ _ _ _ _ _ he
    cases ok1 with
    | false =>
      obtain rfl := hflag.2.2 rfl
      simp only [Bool.false_eq_true, if_false, if_true] at h
      cases h
      exact .extTooLong J he
    | true =>
    obtain rfl := hflag.1.1 rfl
    simp only [if_true] at h
    cases hsub : subtAcceptance i t1 to1 with
    | error e => rw [hsub] at h; cases h
    | ok rs =>
    obtain ⟨ok2, st2, t2, to2⟩ := rs
    rw [hsub] at h
    simp only at h
    have hsf := subt_flag i _ _ _ _ _ _ hsub
    cases ok2 with
    | false =>
      obtain rfl := hsf.2.1 rfl
      simp only [if_true] at h
      cases h
      exact .wrongStart J he hsub
    | true =>
    obtain rfl := hsf.1.1 rfl
    simp only [Bool.true_eq_false, if_false] at h
    by_cases hlr : i.r < i.l
    · simp only [hlr, if_true] at h; cases h
    simp only [hlr, if_false] at h
    cases hfirst : t2.head? with
    | none => rw [hfirst] at h; cases h
    | some first =>
    rw [hfirst] at h
    simp only at h
    cases hsc : scIs i.sc (WF.startPoint i.l i.r first) with
    | false => simp only [hsc, if_true] at h; cases h
    | true =>
      simp only [hsc, Bool.true_eq_false, if_false] at h
      cases h
      exact .accepted J he hsub (by omega) hfirst hsc
  · intro r
    unfold wireFencing
    simp only
    generalize hj : wfJumps v i i.nJumps i.jumps (match WF.pick i.m (capOf i) i.old i.xiSeg with
      | some (a, b, _) => (i.old.drop a).take (b + 1 - a)
      | none => []) i.oldTimeOrigin 0 [.random] = rj
    cases r with
    | noFrames hw => simp only [hw, if_true]
    | noSegment hw hj' =>
      obtain rfl := hj'.symm.trans hj
      simp only [hw, if_false, if_true]
    | extTooLong J he =>
      obtain rfl := J.jumps.symm.trans hj
      simp only [WfOut.fresh, J.weight, J.succ, he, if_false, if_true, Bool.false_eq_true]
    | wrongStart J he hsub =>
      obtain rfl := J.jumps.symm.trans hj
      simp only [WfOut.fresh, J.weight, J.succ, he, hsub, if_false, if_true]
    | accepted J he hsub hlr hfirst hsc =>
      obtain rfl := J.jumps.symm.trans hj
      have g : ¬ i.r < i.l := by omega
      simp only [WfOut.fresh, J.weight, J.succ, he, hsub, g, hfirst, hsc, if_false, if_true, Bool.true_eq_false]

theorem wf_acc_inv (v : Variant) (i : WfIn) (o : WfOut) (h : wireFencing v i = .ok o) (hs : o.status = .ACC) :
    ∃ seg segTO succ draws t1 to1 t2 to2 first, WfJumped v i seg segTO succ draws ∧
      extender v i seg segTO = .ok (true, .ACC, t1, to1) ∧
      subtAcceptance i t1 to1 = .ok (true, .ACC, t2, to2) ∧ i.l ≤ i.r ∧ t2.head? = some first ∧
      scIs i.sc (WF.startPoint i.l i.r first) = true ∧
      o = .fresh true .ACC t2 succ to2 draws := by
  cases (wf_ok_iff v i o).1 h with
  | accepted J he hsub hlr hfirst hsc => exact ⟨_, _, _, _, _, _, _, _, _, J, he, hsub, hlr, hfirst, hsc, rfl⟩
  | _ => cases hs

end Infretis.Moves
