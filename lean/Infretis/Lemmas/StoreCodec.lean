import Infretis.Lemmas.StoreBlock
/-!
Helper lemmas for C14, part A: `load ∘ store` on the token-level model.
-/
namespace Infretis.Store

theorem firstBlock_stored {β : Type} (parse : Line → Option (List β)) (g : Line → List β) (c : Nat)
    (c1 c2 : Line) (rows : List Line) (h1 : isComment c1 = true) (h2 : isComment c2 = true)
    (h : ∀ l ∈ rows, isComment l = false ∧ parse l = some (g l) ∧ (g l).length = c ∧ g l ≠ []) :
    firstBlock parse (c1 :: c2 :: rows) = .ok (rows.map g) := by
  unfold firstBlock
  rw [StoreText.firstBlockGo_eq_blockGo, StoreText.blockGo_stored isComment parse g c c1 c2 rows h1 h2 h]

theorem isComment_cycleLine (step : Nat) (mv : Option (List String)) : isComment (cycleLine step mv) = true := by
  cases mv <;> simp [cycleLine, isComment]

theorem isComment_headerLine (ls : List String) : isComment (headerLine ls) = true := by
  simp [headerLine, isComment]

theorem mem_rowsFrom {row : Nat → Frame → Line} : ∀ (fs : List Frame) (i : Nat) (l : Line),
    l ∈ rowsFrom row i fs → ∃ j f, f ∈ fs ∧ l = row j f := by
  intro fs
  induction fs with
  | nil => intro i l h; simp [rowsFrom] at h
  | cons f fs ih =>
    intro i l h
    simp only [rowsFrom, List.mem_cons] at h
    rcases h with h | h
    · exact ⟨i, f, List.mem_cons_self, h⟩
    · obtain ⟨j, f', hf', hl⟩ := ih (i + 1) l h
      exact ⟨j, f', List.mem_cons_of_mem _ hf', hl⟩

theorem map_rowsFrom {γ : Type} {row : Nat → Frame → Line} (g : Line → γ) (k : Frame → γ)
    (h : ∀ i f, g (row i f) = k f) : ∀ (fs : List Frame) (i : Nat), (rowsFrom row i fs).map g = fs.map k := by
  intro fs
  induction fs with
  | nil => intro i; simp [rowsFrom]
  | cons f fs ih => intro i; simp [rowsFrom, h, ih]

def snapOf (f : Frame) : String × Int × Bool :=
  (f.base, idx0 f.idx, f.velRev)

theorem snapshot_trajRow (i : Nat) (f : Frame) : snapshot (trajRow i f) = .ok (snapOf f) := by
  cases hv : f.velRev <;> simp [snapshot, trajRow, intTok, Tok.render, snapOf, hv]

theorem snapshots_rows : ∀ (fs : List Frame) (i : Nat),
    snapshots (rowsFrom trajRow i fs) = .ok (fs.map snapOf) := by
  intro fs
  induction fs with
  | nil => intro i; simp [rowsFrom, snapshots]
  | cons f fs ih =>
    intro i
    simp only [rowsFrom, snapshots, snapshot_trajRow, ih, List.map_cons]

theorem firstBlock_traj (step : Nat) (fs : List Frame) :
    firstBlock parseStr (trajTxt step fs) = .ok (rowsFrom trajRow 0 fs) := by
  unfold trajTxt
  rw [firstBlock_stored parseStr id 4 _ _ _ (isComment_cycleLine _ _) (isComment_headerLine _)]
  · simp
  · intro l hl
    obtain ⟨j, f, _, rfl⟩ := mem_rowsFrom fs 0 l hl
    simp [trajRow, isComment, parseStr]

/-- the keys of an insertion-ordered dict filled by `d[k] = …` for the `k` in `l`, as `_generate_file_names`
    builds it (`sources`, `StoreText.sourcesT`): every element once, at its first position -/
def firstOcc {α : Type} [DecidableEq α] : List α → List α
  | [] => []
  | a :: l => a :: (firstOcc l).filter (fun b => b ≠ a)

theorem mem_firstOcc {α : Type} [DecidableEq α] (a : α) : ∀ (l : List α), a ∈ firstOcc l ↔ a ∈ l := by
  intro l
  induction l with
  | nil => rfl
  | cons b l ih =>
    simp only [firstOcc, List.mem_cons, List.mem_filter, ih, decide_eq_true_eq]
    by_cases h : a = b <;> simp [h]

theorem firstOcc_nodup {α : Type} [DecidableEq α] : ∀ (l : List α), (firstOcc l).Nodup := by
  intro l
  induction l with
  | nil => exact List.nodup_nil
  | cons b l ih =>
    simp only [firstOcc, List.nodup_cons, List.mem_filter]
    exact ⟨by simp, ih.filter _⟩

theorem sources_eq : ∀ (fs : List Frame), sources fs = firstOcc (fs.map (fun f => (f.dir, f.base))) := by
  intro fs
  induction fs with
  | nil => rfl
  | cons f fs ih => simp only [sources, List.map_cons, firstOcc, ih]

theorem mem_sources (fs : List Frame) (f : Frame) (h : f ∈ fs) : (f.dir, f.base) ∈ sources fs := by
  rw [sources_eq, mem_firstOcc]
  exact List.mem_map_of_mem h

theorem sources_sub (fs : List Frame) (s : String × String) (h : s ∈ sources fs) : ∃ f ∈ fs, s = (f.dir, f.base) := by
  rw [sources_eq, mem_firstOcc] at h
  obtain ⟨f, hf, e⟩ := List.mem_map.mp h
  exact ⟨f, hf, e.symm⟩

theorem sources_nodup (fs : List Frame) : (sources fs).Nodup := sources_eq fs ▸ firstOcc_nodup _

theorem store_traj (step : Nat) (mv : List String) (fs : List Frame) : (store step mv fs).traj = trajTxt step fs := rfl
theorem store_order (step : Nat) (mv : List String) (fs : List Frame) : (store step mv fs).order = orderTxt step mv fs := rfl
theorem store_energy (step : Nat) (mv : List String) (fs : List Frame) : (store step mv fs).energy = energyTxt step mv fs := rfl

theorem base_mem_accepted (step : Nat) (mv : List String) (fs : List Frame) (f : Frame) (hf : f ∈ fs) :
    f.base ∈ (store step mv fs).accepted :=
  List.mem_map.mpr ⟨(f.dir, f.base), mem_sources fs f hf, rfl⟩

theorem files_check_of_sub (fs : List Frame) (files : List String) (h : ∀ f ∈ fs, f.base ∈ files) :
    (fs.map snapOf).all (fun s => files.contains s.1) = true := by
  simp only [List.all_map, List.all_eq_true]
  intro f hf
  simp only [Function.comp, snapOf, List.contains_eq_mem, decide_eq_true_eq]
  exact h f hf

theorem mapOpt_fix6 : ∀ (l : List Int), mapOpt floatTok (l.map Tok.fix6) = some (l.map Num.val) := by
  intro l
  induction l with
  | nil => rfl
  | cons a l ih => simp [mapOpt, floatTok, ih]

theorem parseNum_orderRow (i : Nat) (f : Frame) :
    parseNum (orderRow i f) = some (Num.val ((i : Int) * 1000000) :: f.order.map Num.val) := by
  simp [parseNum, orderRow, mapOpt_fix6]

def numRow (l : Line) : List Num := match parseNum l with | some d => d | none => []

theorem firstBlock_order (step : Nat) (mv : List String) (fs : List Frame) (c : Nat)
    (hc : ∀ f ∈ fs, f.order.length = c) :
    firstBlock parseNum (orderTxt step mv fs) = .ok ((rowsFrom orderRow 0 fs).map numRow) := by
  unfold orderTxt
  rw [firstBlock_stored parseNum numRow (c + 1) _ _ _ (isComment_cycleLine _ _) (isComment_headerLine _)]
  intro l hl
  obtain ⟨j, f, hf, rfl⟩ := mem_rowsFrom fs 0 l hl
  simp [numRow, parseNum_orderRow, hc f hf]
  simp [orderRow, isComment]

theorem order_cols (fs : List Frame) (i : Nat) :
    ((rowsFrom orderRow i fs).map numRow).map List.tail = fs.map (fun f => f.order.map Num.val) := by
  rw [List.map_map]
  exact map_rowsFrom _ _ (fun i f => by simp [numRow, parseNum_orderRow]) fs i

theorem floatTok_eTok (x : Option Int) : floatTok (eTok x) = some (eNum x) := by
  cases x <;> rfl

theorem parseNum_energyRow (i : Nat) (f : Frame) :
    parseNum (energyRow i f) = some [Num.val ((i : Int) * 1000000), eNum f.vpot, eNum f.ekin, .nan, .nan] := by
  rcases f with ⟨d, b, ix, vr, ord, vp, ek⟩
  cases vp <;> cases ek <;> simp [parseNum, energyRow, mapOpt, eTok, eNum, floatTok]

theorem firstBlock_energy (step : Nat) (mv : List String) (fs : List Frame) :
    firstBlock parseNum (energyTxt step mv fs) = .ok ((rowsFrom energyRow 0 fs).map numRow) := by
  unfold energyTxt
  rw [firstBlock_stored parseNum numRow 5 _ _ _ (isComment_cycleLine _ _) (isComment_headerLine _)]
  intro l hl
  obtain ⟨j, f, _, rfl⟩ := mem_rowsFrom fs 0 l hl
  simp [numRow, parseNum_energyRow]
  simp [energyRow, isComment]

def bare (f : Frame) : LFrame :=
  { base := f.base, idx := idx0 f.idx, velRev := f.velRev,
    order := f.order.map Num.val, vpot := none, ekin := none }

theorem zipFrames_maps : ∀ (fs : List Frame),
    zipFrames (fs.map snapOf) (fs.map (fun f => f.order.map Num.val)) = fs.map bare := by
  intro fs
  induction fs with
  | nil => simp [zipFrames]
  | cons f fs ih => simp [zipFrames, ih, bare, snapOf]

theorem setEnergies_rows : ∀ (fs : List Frame) (i : Nat),
    setEnergies (fs.map bare) ((rowsFrom energyRow i fs).map numRow) = fs.map expected := by
  intro fs
  induction fs with
  | nil => intro i; simp [setEnergies]
  | cons f fs ih =>
    intro i
    simp only [List.map_cons, rowsFrom, setEnergies, ih]
    congr 1
    simp [numRow, parseNum_energyRow, bare, expected]

end Infretis.Store
