import Infretis.Lemmas.PathAlgRev
/-!
What every state the op machine can reach satisfies (`Inv`): all frames of all paths point into the heap
(`WF`), and every container identity (order list / pos / vel / box arrays / temperature dict) held by a
System is older than the fresh-identity counter (`Heap.Fresh`).  Re-assignments and loops of them are `Heap.Writes`
(Lemmas/PathAlg.lean); allocation, the copy loops and in-place mutation come with what they do to the size of the heap
and to freshness; `step_inv` puts them together, op by op.
-/
namespace Infretis.PathAlg

theorem setItem0_len (h h' : Heap) (r : Nat) (x : Int) (hs : h.setItem0 r x = some h') :
    h'.sys.length = h.sys.length := by
  unfold Heap.setItem0 at hs
  split at hs
  · split at hs
    · cases hs
    · injection hs with hs; subst hs; simp
  · cases hs

theorem setArrItem_len (h h' : Heap) (r : Nat) (a : Arr) (x : Int) (hs : h.setArrItem r a x = some h') :
    h'.sys.length = h.sys.length := by
  unfold Heap.setArrItem at hs
  split at hs
  · injection hs with hs; subst hs; simp
  · cases hs

theorem assignPField_frames (p : Path) (f : PField) : (assignPField p f).frames = p.frames := by
  cases f <;> rfl

theorem append_wf (h : Heap) (p : Path) (r : Nat) (hp : WF h p.frames) (hr : r < h.sys.length) :
    WF h (p.append r).1.frames := by
  cases hc : p.canAppend with
  | true =>
    rw [append_of_can p r hc]
    intro x hx
    rcases List.mem_append.1 hx with h1 | h1
    · exact hp x h1
    · rw [List.mem_singleton.1 h1]; exact hr
  | false => rw [append_of_cannot p r hc]; exact hp

theorem copyEach_wf (f : Sys → Sys) (stop : Bool) (rs : List Nat) (h : Heap) (np : Path)
    (hwf : WF h rs) (hnp : WF h np.frames) :
    h.sys.length ≤ (copyEach f stop h np rs).1.sys.length
    ∧ WF (copyEach f stop h np rs).1 (copyEach f stop h np rs).2.frames := by
  have hlen := copyEach_len f stop rs h np hwf
  have h1 := le_nAlloc stop np rs.length
  have h2 := room_le np rs.length
  refine ⟨by omega, ?_⟩
  rw [copyEach_frames f stop rs h np hwf]
  intro r hr
  simp only [withFrames_frames, List.mem_append] at hr
  rcases hr with hr | hr
  · have := hnp r hr; omega
  · have := (List.mem_range'_1.1 hr).2; omega

theorem getD_mem (h : Heap) (r : Nat) (hr : r < h.sys.length) : h.getD r ∈ h.sys :=
  look_mem h r _ (look_of_lt h r hr)

theorem push_fresh (h : Heap) (ss : List Sys) (hf : h.Fresh) (hss : ∀ s ∈ ss, SysFresh h.nOrd s) :
    (h.push ss).Fresh := by
  intro s hs
  simp only [push_sys, List.mem_append] at hs
  rcases hs with hs | hs
  · exact hf s hs
  · exact hss s hs

theorem copyEach_fresh (f : Sys → Sys) (stop : Bool) (rs : List Nat) (h : Heap) (np : Path)
    (hwf : WF h rs) (hf : h.Fresh) (hfs : ∀ n s, SysFresh n s → SysFresh n (f s)) :
    (copyEach f stop h np rs).1.Fresh := by
  rw [copyEach_spec f stop rs h np hwf]
  apply push_fresh h _ hf
  intro s hs
  obtain ⟨r, hr, rfl⟩ := List.mem_map.1 hs
  exact hfs _ _ (hf _ (getD_mem h r (hwf r (List.mem_of_mem_take hr))))

theorem copyEach_nOrd (f : Sys → Sys) (stop : Bool) (rs : List Nat) (h : Heap) (np : Path)
    (hwf : WF h rs) : (copyEach f stop h np rs).1.nOrd = h.nOrd := by
  rw [copyEach_spec f stop rs h np hwf]; rfl

/-- in-place mutation: new field values for some of the objects, identities as they were -/
theorem map_fresh (h : Heap) (c : Sys → Prop) [DecidablePred c] (g : Sys → Vals) (hf : h.Fresh) :
    ({ h with sys := h.sys.map (fun s => if c s then { s with v := g s } else s) } : Heap).Fresh := by
  intro s hs
  obtain ⟨s0, hs0, rfl⟩ := List.mem_map.1 hs
  split
  · exact sysFresh_withV _ s0 _ (hf s0 hs0)
  · exact hf s0 hs0

theorem setItem0_fresh (h h' : Heap) (r : Nat) (x : Int) (hf : h.Fresh) (hs : h.setItem0 r x = some h') :
    h'.Fresh := by
  unfold Heap.setItem0 at hs
  split at hs
  · split at hs
    · cases hs
    · injection hs with hs; subst hs
      exact map_fresh h _ _ hf
  · cases hs

theorem setArrItem_fresh (h h' : Heap) (r : Nat) (a : Arr) (x : Int) (hf : h.Fresh)
    (hs : h.setArrItem r a x = some h') : h'.Fresh := by
  unfold Heap.setArrItem at hs
  split at hs
  · injection hs with hs; subst hs
    exact map_fresh h _ _ hf
  · cases hs

theorem alloc_fresh (h : Heap) (v : Vals) (hf : h.Fresh) : (h.alloc v).1.Fresh := by
  have hn : (h.alloc v).1.nOrd = h.nOrd + 5 := rfl
  intro s hs
  rw [hn]
  simp only [Heap.alloc, List.mem_append, List.mem_singleton] at hs
  rcases hs with hs | rfl
  · exact (hf s hs).mono (by omega)
  · refine ⟨by simp, fun a => ?_⟩
    cases a <;> simp [Sys.arrObj]

theorem reverse_fresh (h : Heap) (p : Path) (ofn : Option OrderFn) (rv : Bool) (hwf : WF h p.frames)
    (hf : h.Fresh) : (Path.reverse h p ofn rv).1.Fresh := by
  have h1 : (revHeap1 h p rv).Fresh := by
    unfold revHeap1
    apply copyEach_fresh _ _ _ _ _ (wf_reverse h _ hwf) hf
    intro n s hs
    cases rv
    · exact hs
    · exact sysFresh_withV n s _ hs
  rw [reverse_fst h p ofn rv hwf]
  cases recalc ofn rv with
  | none => exact h1
  | some c => exact (recompute_writes c _ _).fresh h1

def Inv (h : Heap) (ps : List Path) : Prop := (∀ p ∈ ps, WF h p.frames) ∧ h.Fresh

theorem Inv.at {h : Heap} {ps : List Path} (hi : Inv h ps) {i : Nat} {p : Path} (hp : ps[i]? = some p) :
    WF h p.frames := hi.1 p (List.mem_of_getElem? hp)

theorem Inv.heap {h h' : Heap} {ps : List Path} (hi : Inv h ps) (hle : h.sys.length ≤ h'.sys.length)
    (hf : h'.Fresh) : Inv h' ps :=
  ⟨fun p hp => WF_mono h h' _ hle (hi.1 p hp), hf⟩

theorem Inv.writes {h h' : Heap} {ps : List Path} {rs : List Nat} (hi : Inv h ps) (hw : h.Writes rs h') : Inv h' ps :=
  hi.heap (Nat.le_of_eq hw.len.symm) (hw.fresh hi.2)

theorem Inv.set {h : Heap} {ps : List Path} (hi : Inv h ps) (i : Nat) {p1 : Path} (h1 : WF h p1.frames) :
    Inv h (ps.set i p1) := by
  refine ⟨fun p hp => ?_, hi.2⟩
  rcases List.mem_or_eq_of_mem_set hp with hp | rfl
  · exact hi.1 p hp
  · exact h1

theorem Inv.snoc {h : Heap} {ps : List Path} (hi : Inv h ps) {p1 : Path} (h1 : WF h p1.frames) :
    Inv h (ps ++ [p1]) := by
  refine ⟨fun p hp => ?_, hi.2⟩
  rcases List.mem_append.1 hp with hp | hp
  · exact hi.1 p hp
  · rw [List.mem_singleton.1 hp]; exact h1

/-- every op keeps the invariant: ops that only log leave heap and paths alone; the others change the heap by
    one of the operations above and store a path whose frames are old frames or freshly allocated ones -/
theorem step_inv (m : Machine) (op : Op) (hm : Inv m.heap m.paths) : Inv (m.step op).heap (m.step op).paths := by
  cases op with
  | new ml t => exact hm.snoc (WF_nil _)
  | newSub ml t c => exact hm.snoc (WF_nil _)
  | sys i v =>
    simp only [Machine.step]
    cases hp : m.paths[i]? with
    | none => exact hm
    | some p =>
      have hi : Inv (m.heap.alloc v).1 m.paths := hm.heap (by simp [Heap.alloc]) (alloc_fresh m.heap v hm.2)
      exact hi.set i (append_wf _ p _ (hi.at hp) (by simp [Heap.alloc]))
  | app i j k =>
    simp only [Machine.step]
    cases hp : m.paths[i]? with
    | none => exact hm
    | some p =>
      cases hq : m.paths[j]? with
      | none => exact hm
      | some q =>
        simp only
        cases hr : q.frames[k]? with
        | none => exact hm
        | some r => exact hm.set i (append_wf _ p r (hm.at hp) (hm.at hq r (List.mem_of_getElem? hr)))
  | cpa i j k =>
    simp only [Machine.step]
    cases hp : m.paths[i]? with
    | none => exact hm
    | some p =>
      cases hq : m.paths[j]? with
      | none => exact hm
      | some q =>
        simp only
        cases hr : q.frames[k]? with
        | none => exact hm
        | some r =>
          have hrl : r < m.heap.sys.length := hm.at hq r (List.mem_of_getElem? hr)
          simp only [copySys_of_lt m.heap r hrl]
          have hi : Inv (m.heap.push [m.heap.getD r]) m.paths :=
            hm.heap (by simp) (push_fresh _ _ hm.2 (fun s hs => by
              rw [List.mem_singleton.1 hs]; exact hm.2 _ (getD_mem m.heap r hrl)))
          exact hi.set i (append_wf _ p _ (hi.at hp) (by simp))
  | iadd i j =>
    simp only [Machine.step]
    by_cases hij : i = j
    · rw [if_pos hij]; exact hm
    · rw [if_neg hij]
      cases hp : m.paths[i]? with
      | none => exact hm
      | some p =>
        cases hq : m.paths[j]? with
        | none => exact hm
        | some q =>
          obtain ⟨h1, h2⟩ := copyEach_wf id true q.frames m.heap p (hm.at hq) (hm.at hp)
          exact (hm.heap h1 (copyEach_fresh id true q.frames m.heap p (hm.at hq) hm.2 (fun _ _ h => h))).set i h2
  | copy i =>
    simp only [Machine.step]
    cases hp : m.paths[i]? with
    | none => exact hm
    | some p =>
      obtain ⟨h1, h2⟩ := copyEach_wf id false p.frames m.heap (Path.empty p.maxlen 0) (hm.at hp) (WF_nil _)
      exact (hm.heap h1 (copyEach_fresh id false p.frames m.heap _ (hm.at hp) hm.2 (fun _ _ h => h))).snoc h2
  | rev i ofn rv =>
    simp only [Machine.step]
    cases hp : m.paths[i]? with
    | none => exact hm
    | some p =>
      have hlen := (reverse_heap m.heap p ofn rv (hm.at hp)).1
      exact (hm.heap (by omega) (reverse_fresh m.heap p ofn rv (hm.at hp) hm.2)).snoc
        (reverse_wf m.heap p ofn rv (hm.at hp))
  | paste i j ov ml =>
    simp only [Machine.step]
    cases hp : m.paths[i]? with
    | none => exact hm
    | some p =>
      cases hq : m.paths[j]? with
      | none => exact hm
      | some q =>
        simp only
        cases hps : paste p q ov ml with
        | error e => cases e <;> exact hm
        | ok np =>
          refine hm.snoc (fun r hr => ?_)
          rcases paste_frames_sub p q np ov ml hps r hr with h1 | h1
          · exact hm.at hp r h1
          · exact hm.at hq r h1
  | set i k f =>
    simp only [Machine.step]
    cases hp : m.paths[i]? with
    | none => exact hm
    | some p =>
      simp only
      cases hr : p.frames[k]? with
      | none => exact hm
      | some r => exact hm.writes (assignField_writes _ r f)
  | setItem i k x =>
    simp only [Machine.step]
    cases hp : m.paths[i]? with
    | none => exact hm
    | some p =>
      simp only
      cases hr : p.frames[k]? with
      | none => exact hm
      | some r =>
        simp only
        cases hs : m.heap.setItem0 r x with
        | none => exact hm
        | some h1 => exact hm.heap (Nat.le_of_eq (setItem0_len _ _ r x hs).symm) (setItem0_fresh _ _ r x hm.2 hs)
  | setArrItem i k a x =>
    simp only [Machine.step]
    cases hp : m.paths[i]? with
    | none => exact hm
    | some p =>
      simp only
      cases hr : p.frames[k]? with
      | none => exact hm
      | some r =>
        simp only
        cases hs : m.heap.setArrItem r a x with
        | none => exact hm
        | some h1 =>
          exact hm.heap (Nat.le_of_eq (setArrItem_len _ _ r a x hs).symm) (setArrItem_fresh _ _ r a x hm.2 hs)
  | upd i ekin vpot =>
    simp only [Machine.step]
    cases hp : m.paths[i]? with
    | none => exact hm
    | some p =>
      exact hm.writes (updGo_writes ekin vpot p.frames 0 _)
  | revVel i k =>
    simp only [Machine.step]
    cases hp : m.paths[i]? with
    | none => exact hm
    | some p =>
      simp only
      cases hr : p.frames[k]? with
      | none => exact hm
      | some r => exact hm.writes (modV_writes _ r _)
  | pset i f =>
    simp only [Machine.step]
    cases hp : m.paths[i]? with
    | none => exact hm
    | some p => exact hm.set i (by rw [assignPField_frames]; exact hm.at hp)
  | repl i k j l =>
    simp only [Machine.step]
    cases hp : m.paths[i]? with
    | none => exact hm
    | some p =>
      cases hq : m.paths[j]? with
      | none => exact hm
      | some q =>
        simp only
        cases hr : q.frames[l]? with
        | none => exact hm
        | some r =>
          simp only
          split
          · refine hm.set i (fun x hx => ?_)
            rcases List.mem_or_eq_of_mem_set hx with h1 | rfl
            · exact hm.at hp x h1
            · exact hm.at hq x (List.mem_of_getElem? hr)
          · exact hm
  | ext i j =>
    simp only [Machine.step]
    cases hp : m.paths[i]? with
    | none => exact hm
    | some p =>
      cases hq : m.paths[j]? with
      | none => exact hm
      | some q =>
        refine hm.set i (fun x hx => ?_)
        rcases List.mem_append.1 hx with h1 | h1
        · exact hm.at hp x (List.dropLast_subset _ h1)
        · exact hm.at hq x h1
  | del i k =>
    simp only [Machine.step]
    cases hp : m.paths[i]? with
    | none => exact hm
    | some p =>
      simp only
      split
      · exact hm.set i (fun x hx => hm.at hp x (List.mem_of_mem_eraseIdx hx))
      · exact hm
  | emptyOf i _ _ | emptyDef i _ _ =>
    simp only [Machine.step]
    cases hp : m.paths[i]? with
    | none => exact hm
    | some p => exact hm.snoc (WF_nil _)
  | classify _ _ _ | pattr _ _ | adr _ | eq _ _ | ne _ _ | shoot _ _ =>
    -- every branch of these ops only logs
    simp only [Machine.step]
    repeat' split
    all_goals exact hm

theorem run_inv (ops : List Op) : ∀ (m : Machine), Inv m.heap m.paths → Inv (m.run ops).heap (m.run ops).paths := by
  induction ops with
  | nil => intro m hm; exact hm
  | cons op ops ih => intro m hm; exact ih (m.step op) (step_inv m op hm)

theorem init_inv : Inv Machine.init.heap Machine.init.paths :=
  ⟨fun _ hp => (nomatch hp), fun _ hs => (nomatch hs)⟩

end Infretis.PathAlg
