import Infretis.Lemmas.RepexRun
import Infretis.Model.SchedDisk
/-!
One step of `SchedDisk.dstep`: what a step that happens presupposes and what it leaves.  Its sampler part is
`Repex.sysStep`; the part of an iteration up to the end of `treat_output` is the completion of a job (`Repex.Completes`).
-/
namespace Infretis.C17
open Infretis.Repex Infretis.SchedDisk

theorem treatPart_completes {d : DSys} {k : Nat} {st : Status} {w : List (List Rat)} {s2 : St} {job : Job}
    (h : treatPart d k st w = .ok (s2, job)) : Completes d.y k st w job ⟨s2, d.y.jobs.eraseIdx k⟩ := by
  simp only [treatPart] at h
  split at h
  · cases h
  · rename_i hgo
    split at h
    · cases h
    · rename_i job0 hj
      split at h
      · cases h
      · rename_i s2' pns its ht
        cases h
        exact .mk (by simpa using hgo) hj ht

/-- The three events with a counterpart in `sysStep` are that `sysStep` on the sampler part. -/
theorem dstep_ok {d d' : DSys} {e : DEv} (h : dstep d e = .ok d') :
    d.phase = .running ∧
    match e with
    | .start o k => ∃ y', sysStep d.y (.start o k) = .ok y' ∧ d' = { d with y := y' }
    | .initDone => ∃ y', sysStep d.y .initDone = .ok y' ∧ d' = { d with y := y' }
    | .step k st w o => ∃ s2 job y', treatPart d k st w = .ok (s2, job) ∧ sysStep d.y (.step k st w o) = .ok y' ∧
        d' = { d with y := y', disk := some (persist s2), writes := d.writes + 1 }
    | .stepKilled k st w => ∃ s2 job, treatPart d k st w = .ok (s2, job) ∧
        d' = { d with y := { s := s2, jobs := d.y.jobs.eraseIdx k }, disk := some (persist s2),
                      writes := d.writes + 1, phase := .dead }
    | .unitFails k => (loop d.y.s).2 = true ∧ k < d.y.jobs.length ∧
        d' = { d with y := { s := (loop d.y.s).1, jobs := d.y.jobs.eraseIdx k }, phase := .dead, midStep := true }
    | .killedWaiting => (loop d.y.s).2 = true ∧
        d' = { d with y := { d.y with s := (loop d.y.s).1 }, phase := .dead, midStep := true }
    | .finish => (loop d.y.s).2 = false ∧
        d' = { d with y := { d.y with s := (loop d.y.s).1 }, disk := some (persist (loop d.y.s).1),
                      writes := d.writes + 1, stops := d.stops + 1, phase := .stopped } := by
  unfold dstep at h
  split at h
  · cases h
  · rename_i hph
    refine ⟨Decidable.not_not.mp hph, ?_⟩
    cases e with
    | start o k =>
      dsimp only at h ⊢
      cases hy : sysStep d.y (.start o k) with
      | error er => rw [hy] at h; cases h
      | ok y' => rw [hy] at h; cases h; exact ⟨y', rfl, rfl⟩
    | initDone =>
      dsimp only at h ⊢
      cases hy : sysStep d.y .initDone with
      | error er => rw [hy] at h; cases h
      | ok y' => rw [hy] at h; cases h; exact ⟨y', rfl, rfl⟩
    | step k st w o =>
      dsimp only at h ⊢
      cases htp : treatPart d k st w with
      | error er => rw [htp] at h; cases h
      | ok r =>
        obtain ⟨s2, job⟩ := r
        rw [htp] at h
        have hc := treatPart_completes htp
        dsimp only at h
        by_cases hre : s2.cstep + s2.workers ≤ s2.tsteps
        · rw [if_pos hre] at h
          cases hp : prep s2 (some job.pin) o with
          | error er => rw [hp] at h; cases h
          | ok r =>
            rw [hp] at h
            cases h
            exact ⟨s2, job, _, rfl, sysStep_ok_iff.mpr ⟨_, .resubmit hc hre (.mk (y := ⟨s2, _⟩) hp)⟩, rfl⟩
        · rw [if_neg hre] at h
          cases h
          exact ⟨s2, job, _, rfl, sysStep_ok_iff.mpr ⟨_, .last hc hre⟩, rfl⟩
    | stepKilled k st w =>
      dsimp only at h ⊢
      cases htp : treatPart d k st w with
      | error er => rw [htp] at h; cases h
      | ok r => rw [htp] at h; cases h; exact ⟨_, _, rfl, rfl⟩
    | unitFails k =>
      simp only at h ⊢
      split at h
      · cases h
      · rename_i hgo
        cases hj : d.y.jobs[k]? with
        | none => rw [hj] at h; cases h
        | some j =>
          rw [hj] at h; cases h
          exact ⟨Decidable.not_not.mp hgo, getElem?_lt_of_some hj, rfl⟩
    | killedWaiting =>
      simp only at h ⊢
      split at h
      · cases h
      · rename_i hgo; cases h; exact ⟨Decidable.not_not.mp hgo, rfl⟩
    | finish =>
      simp only at h ⊢
      split at h
      · cases h
      · rename_i hgo; cases h; exact ⟨Bool.eq_false_iff.mpr hgo, rfl⟩

theorem drun_cons_ok {d d' : DSys} {e : DEv} {t : List DEv} (h : drun d (e :: t) = .ok d') :
    ∃ d1, dstep d e = .ok d1 ∧ drun d1 t = .ok d' := by
  simp only [drun] at h
  cases h1 : dstep d e with
  | error er => rw [h1] at h; cases h
  | ok d1 => rw [h1] at h; exact ⟨d1, rfl, h⟩

theorem drun_append_ok : ∀ {a b : List DEv} {d d' : DSys}, drun d (a ++ b) = .ok d' →
    ∃ d1, drun d a = .ok d1 ∧ drun d1 b = .ok d'
  | [], _, d, _, h => ⟨d, rfl, h⟩
  | e :: t, b, d, d', h => by
    obtain ⟨d1, h1, h⟩ := drun_cons_ok (t := t ++ b) h
    simp only [drun, h1]
    exact drun_append_ok h

end Infretis.C17
