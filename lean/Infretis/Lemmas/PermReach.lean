import Infretis.Model.Perm
/-!
# The reachable family of weight matrices (C02) — definitions shared by the pipeline lemmas

The idle block `N` (locked rows and columns dropped) of a state the sampler can reach:
`o ≤ 1` minus rows `(w, 0, …, 0)` with `w > 0` first, then plus rows that vanish on the minus
column, are positive on the next `cnt` columns and zero after (staircase), in any order.
`SortedReach` is the same after `inf_retis`' two argsorts: counts non-decreasing, and Hall's
condition in its sorted form.  `Blk.IsBlk` is a square diagonal block of such a sorted matrix.
-/
namespace Infretis.Perm

/-- row of a plus path in the idle block: zero on the `o` minus columns, positive on the next
    `cnt` columns, zero after -/
def IsPlusRow (o m cnt : Nat) (r : Row) : Prop :=
  r.length = m ∧ o + cnt ≤ m ∧ (∀ c, c < o → r.getD c 0 = 0) ∧
  (∀ c, o ≤ c → c < o + cnt → 0 < r.getD c 0) ∧ (∀ c, o + cnt ≤ c → c < m → r.getD c 0 = 0)

/-- row of the path in the `[0-]` ensemble -/
def IsMinusRow (m : Nat) (r : Row) : Prop :=
  r.length = m ∧ 0 < r.getD 0 0 ∧ ∀ c, 1 ≤ c → c < m → r.getD c 0 = 0

/-- the reachable family on the idle block `N`: `o ≤ 1` minus rows, then plus rows with
    `cnts[k]` positive weights each, in any order -/
structure Reach (o : Nat) (N : Mat) (cnts : List Nat) : Prop where
  ho : o ≤ 1
  hlen : N.length = o + cnts.length
  minus : o = 1 → IsMinusRow N.length (N.getD 0 [])
  plus : ∀ k, k < cnts.length → IsPlusRow o N.length (cnts.getD k 0) (N.getD (o + k) [])

/-- the same with the plus rows sorted by their last non-zero column, and Hall's condition -/
structure SortedReach (o : Nat) (S : Mat) (cnts : List Nat) : Prop extends Reach o S cnts where
  sorted : cnts.Pairwise (fun a b => a ≤ b)
  hall : ∀ k, k < cnts.length → k + 1 ≤ cnts.getD k 0

/-- the value `sortedOut` must have: the permanent ratios of the sorted idle block -/
def goodAcc (S : Mat) : BlockAcc := { rows := specMat S, mc := [], nan := false, err := none }

namespace Blk

/-- a square block of the sorted matrix: `k × k`, row `i` positive on the first `g i` columns
    and zero after, `i < g i` (Hall) -/
structure IsBlk (sub : Mat) (k : Nat) (g : Nat → Nat) : Prop where
  hk : sub.length = k
  hrow : ∀ r ∈ sub, r.length = k
  hpos : ∀ i c, i < k → c < k → c < g i → 0 < entry sub i c
  hzero : ∀ i c, i < k → c < k → g i ≤ c → entry sub i c = 0
  hg : ∀ i, i < k → i + 1 ≤ g i

end Blk

end Infretis.Perm
