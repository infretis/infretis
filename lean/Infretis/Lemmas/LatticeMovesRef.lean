import Infretis.Lemmas.LatticeMovesProp
import Infretis.Lemmas.MovesShoot
/-!
C01: the lattice shooting move `latShoot` against the generic shooting model of C09 run on the lattice streams
(`latShootRef` = `Moves.shoot .repaired` on doubled coordinates: site x ↦ 2x, interface k+½ ↦ 2k+1).  Core Lean only.

The plug-in's loop `prop` is the generic engine loop `feedV` on the stream `walk` (`feedV_prop`).  `latShoot_sim` is the
one comparison: for every input the two answers stand in the relation `Sim` (a case table), and the `latShootRef_*`
statements are read off it.  The two differ past `check_kick` when `maxlength ≤ 1` (a result vs IndexError) and when
scripted coins run out (a refusal vs a rejection): `Sim.short`, with a concrete witness at the end, and `Sim.coins`, with
one in `Props/C01` (`shoot_generic_model_differs_exhausted_coins`).
-/
namespace Infretis.LatticeMoves
open Infretis.Moves Infretis.Engine

theorem feedV_turn (l r : Int) (m : Nat) (ops : List Int) (y : Int) (t : List Int) (j : Nat) (hroom : ops.length < m) :
    feedV .repaired l r (some m) ops (y :: t) j =
      if y < l ∨ r < y then some (ops ++ [y], true, j + 1)
      else if ops.length + 1 = m then some (ops ++ [y], false, j + 1)
      else feedV .repaired l r (some m) (ops ++ [y]) t (j + 1) := by
  rw [feedV_cons .repaired y t j (by simpa using hroom)]
  simp [isRep, eq_comm]

/-- **The plug-in's loop is the generic engine loop on the lattice stream** (doubled coordinates), for a
    path with room for at least one frame.  Scripted coins that run out end the generic loop without a stop. -/
theorem feedV_prop (top : Int) : ∀ (cap : Nat) (x : Int) (coins : List Bool) (ops : List Int) (j : Nat),
    feedV .repaired 1 (2 * top - 1) (some (ops.length + (cap + 1))) ops (2 * x :: (walk x coins).map (2 * ·)) j
      = some (match prop top (cap + 1) x coins with
          | some (fr, ok, k) => (ops ++ fr.map (2 * ·), ok, j + k + 1)
          | none => (ops ++ (x :: walk x coins).map (2 * ·), false, j + coins.length + 1))
  | cap, x, coins, ops, j => by
    by_cases hout : x ≤ 0 ∨ top ≤ x
    · rw [prop_outside top cap x coins hout, feedV_turn _ _ _ _ _ _ _ (by omega), if_pos (by omega)]
      rfl
    by_cases hc : cap = 0
    · subst hc
      rw [prop_full top x coins hout, feedV_turn _ _ _ _ _ _ _ (by omega), if_neg (by omega), if_pos (by omega)]
      rfl
    obtain ⟨cap, rfl⟩ : ∃ c, cap = c + 1 := ⟨cap - 1, by omega⟩
    rw [feedV_turn _ _ _ _ _ _ _ (by omega), if_neg (by omega), if_neg (by omega)]
    cases coins with
    | nil => rw [prop_noCoins top _ x hout hc]; simp [walk, feedV]
    | cons c t =>
      have ih := feedV_prop top cap (stepTo x c) t (ops ++ [2 * x]) (j + 1)
      have hlen : (ops ++ [2 * x]).length + (cap + 1) = ops.length + (cap + 1 + 1) := by
        simp only [List.length_append, List.length_cons, List.length_nil]; omega
      rw [hlen] at ih
      rw [prop_step top _ x c t hout hc, walk, List.map_cons, ih]
      cases prop top (cap + 1) (stepTo x c) t with
      | none => simp; omega
      | some r => simp; omega

theorem feedV_of_prop {top : Int} {cap : Nat} {x : Int} {coins : List Bool} {r : Option (List Int × Bool × Nat)}
    (hcap : cap ≠ 0) (h : prop top cap x coins = r) :
    feedV .repaired 1 (2 * top - 1) (some cap) [] (2 * x :: (walk x coins).map (2 * ·)) 0
      = some (match r with
          | some (fr, ok, k) => (fr.map (2 * ·), ok, k + 1)
          | none => ((x :: walk x coins).map (2 * ·), false, coins.length + 1)) := by
  obtain ⟨c, rfl⟩ : ∃ c, cap = c + 1 := ⟨cap - 1, by omega⟩
  have := feedV_prop top c x coins [] 0
  rw [h] at this
  cases r <;> simpa using this

theorem prop_room {top : Int} {cap : Nat} {x : Int} {coins : List Bool} {r : Option (List Int × Bool × Nat)}
    (h : prop top cap x coins = r) (hr : r ≠ some ([], false, 0)) : cap ≠ 0 := by
  rintro rfl
  exact hr h.symm

theorem appendAll_nil_fst (m : Nat) (l : List Int) : (appendAll (some m) [] l).1 = l.take m := by
  rw [appendAll_take m l [] (Nat.zero_le _)]; rfl

/-- `check_interfaces(...)[-1][1]` of the generic model is "some frame below, some frame at or above" -/
theorem checkInterfaces_cross (p : List Int) (l m r : Int) :
    (checkInterfaces p l m r).2.2 = (p.any (fun y => decide (y < m)) && p.any (fun y => decide (m ≤ y))) := by
  cases p with
  | nil => simp [checkInterfaces]
  | cons a t =>
    obtain ⟨last, hlast⟩ : ∃ last, (a :: t).getLast? = some last := ⟨(a :: t).getLast (by simp), List.getLast?_eq_some_getLast (by simp)⟩
    simp only [checkInterfaces, List.head?_cons, hlast, minOf, WF.maxOf]
    rw [Bool.eq_iff_iff]
    simp only [Bool.and_eq_true, decide_eq_true_eq, List.any_eq_true, foldl_min_lt, foldl_max_ge,
      List.mem_cons, exists_eq_or_imp]

theorem crossMid_ref (e : Ens) (p : List Int) (l r : Int) :
    (checkInterfaces (p.map (2 * ·)) l (2 * e.mid - 1) r).2.2 = crossMid e p := by
  rw [checkInterfaces_cross, crossMid, List.any_map, List.any_map]
  congr 1
  · congr 1; funext y; simp only [Function.comp]; rw [Bool.eq_iff_iff]; simp only [decide_eq_true_eq]; omega
  · congr 1; funext y; simp only [Function.comp]; rw [Bool.eq_iff_iff]; simp only [decide_eq_true_eq]; omega

/-- the input `latShootRef` hands to the generic model, for the shooting point `x = old[idx]` -/
def refIn (e : Ens) (old : List Int) (ld : Bool) (idx : Nat) (xi : Rat) (x : Int) (cb cf : List Bool) : Moves.ShootIn :=
  { old := old.map (2 * ·), oldTimeOrigin := 0, genLd := ld, l := 1, m := 2 * e.mid - 1, r := 2 * e.top - 1,
    maxlength := e.maxlength, allowMax := false, sc := { hasL := true, hasR := false },
    scEns := some { hasL := true, hasR := false },
    idx := idx, xi := xi, kick := 2 * x, back := (walk x cb).map (2 * ·), forw := (walk x cf).map (2 * ·) }

theorem latShootRef_eq (e : Ens) (old : List Int) (ld : Bool) (idx : Nat) (xi : Rat) (cb cf : List Bool) :
    latShootRef e old ld idx xi cb cf = Moves.shoot .repaired (refIn e old ld idx xi (old.getD idx 0) cb cf) := rfl

def statusRef : LatticeMoves.Status → Moves.Status
  | .ACC => .ACC | .KOB => .KOB | .BTL => .BTL | .BTX => .BTX | .BWI => .BWI
  | .FTL => .FTL | .FTX => .FTX | .NCR => .NCR

/-- what the generic model returns when the lattice move returns `o`: doubled frames, the same flags, the
    shooting point's index and order value, `time_origin = idx − frames before the shooting point`, the draw
    requests, and the engine counters (frames handed to `add_to_path` = coins + 1 where that propagation ran). -/
def refOut (old : List Int) (ld : Bool) (idx : Nat) (o : Out) : Moves.ShootOut :=
  { accept := o.accept, status := statusRef o.status, trial := o.trial.map (2 * ·),
    genSp := 2 * old.getD idx 0, genIdx := idx, genNb := o.genNb,
    timeOrigin := (idx : Int) - (o.genNb : Int),
    draws := .integers 1 ((old.length : Int) - 1) :: (if o.status = .KOB ∨ ld = true then [] else [.random]),
    usedB := if o.status = .KOB then 0 else o.usedB + 1,
    usedF := if o.status = .KOB ∨ o.status = .BTL ∨ o.status = .BTX ∨ o.status = .BWI then 0 else o.usedF + 1 }

section
variable {e : Ens} {old : List Int} {ld : Bool} {idx : Nat} {xi : Rat} {x : Int} {cb cf : List Bool}

theorem refIn_len : (1 < ((refIn e old ld idx xi x cb cf).old.length : Int) - 1) ↔ 2 < old.length := by
  show (1 < (((old.map (2 * ·)).length : Nat) : Int) - 1) ↔ _
  rw [List.length_map]; omega

theorem refIn_idx : (1 ≤ (refIn e old ld idx xi x cb cf).idx ∧
      ((refIn e old ld idx xi x cb cf).idx : Int) < ((refIn e old ld idx xi x cb cf).old.length : Int) - 1)
      ↔ (1 ≤ idx ∧ idx + 1 < old.length) := by
  show (1 ≤ idx ∧ (idx : Int) < (((old.map (2 * ·)).length : Nat) : Int) - 1) ↔ _
  rw [List.length_map]; omega

theorem refIn_kick : ((refIn e old ld idx xi x cb cf).l ≤ (refIn e old ld idx xi x cb cf).kick ∧
      (refIn e old ld idx xi x cb cf).kick < (refIn e old ld idx xi x cb cf).r) ↔ (0 < x ∧ x < e.top) := by
  show (1 ≤ 2 * x ∧ 2 * x < 2 * e.top - 1) ↔ _
  omega

theorem drawMaxlen_refIn (hn : ¬ (ld = false ∧ xi < 0)) (hz : ¬ (ld = false ∧ xi = 0)) :
    Moves.drawMaxlen (refIn e old ld idx xi x cb cf)
      = .ok (maxlenOf e old.length ld xi, if ld = true then [] else [.random]) := by
  unfold Moves.drawMaxlen maxlenOf
  simp only [refIn, List.length_map, Bool.or_false]
  cases ld <;> simp_all

theorem refIn_ready (h1 : 2 < old.length) (h2 : 1 ≤ idx ∧ idx + 1 < old.length) :
    3 ≤ (refIn e old ld idx xi x cb cf).old.length ∧ 1 ≤ (refIn e old ld idx xi x cb cf).idx
      ∧ (refIn e old ld idx xi x cb cf).idx + 2 ≤ (refIn e old ld idx xi x cb cf).old.length := by
  show 3 ≤ (old.map (2 * ·)).length ∧ 1 ≤ idx ∧ idx + 2 ≤ (old.map (2 * ·)).length
  rw [List.length_map]; omega

/-- the generic model on the lattice streams gets to the end of `shoot_backwards` with what its engine loop returns -/
theorem backLeg_refIn (cf : List Bool) (h1 : 2 < old.length) (h2 : 1 ≤ idx ∧ idx + 1 < old.length)
    (hk : 0 < x ∧ x < e.top) (hn : ¬ (ld = false ∧ xi < 0)) (hz : ¬ (ld = false ∧ xi = 0))
    {pb : List Int} {ok : Bool} {u : Nat}
    (hfb : feedV .repaired 1 (2 * e.top - 1) (some (maxlenOf e old.length ld xi - 1)) []
      (2 * x :: (walk x cb).map (2 * ·)) 0 = some (pb, ok, u)) :
    BackLeg .repaired (refIn e old ld idx xi x cb cf) (maxlenOf e old.length ld xi)
      (if ld = true then [] else [.random]) pb ok u :=
  have r := refIn_ready (e := e) (ld := ld) (xi := xi) (x := x) (cb := cb) (cf := cf) h1 h2
  ⟨r.1, r.2.1, r.2.2, (refIn_kick.2 hk).1, (refIn_kick.2 hk).2, drawMaxlen_refIn hn hz, hfb⟩

end

theorem refIn_maxlength (e : Ens) (old : List Int) (ld : Bool) (idx : Nat) (xi : Rat) (x : Int) (cb cf : List Bool) :
    (refIn e old ld idx xi x cb cf).maxlength = e.maxlength := rfl

theorem sideIn_ref (top last : Int) :
    sideIn (WF.endPoint 1 (2 * top - 1) (2 * last)) { hasL := true, hasR := false } = decide (last ≤ 0) := by
  unfold WF.endPoint
  by_cases h : last ≤ 0
  · have h' : 2 * last ≤ 1 := by omega
    simp [h', h, sideIn]
  · have h' : ¬ 2 * last ≤ 1 := by omega
    simp only [h', if_false]
    split <;> simp [sideIn, h]

theorem finalChecks_refIn (e : Ens) (old : List Int) (ld : Bool) (idx : Nat) (xi : Rat) (x : Int) (cb cf : List Bool)
    (p : List Int) :
    finalChecks (refIn e old ld idx xi x cb cf) (p.map (2 * ·))
      = (crossMid e p, if crossMid e p = true then Moves.Status.ACC else Moves.Status.NCR) := by
  unfold finalChecks
  simp only [refIn, effSc, crossMid_ref]
  cases crossMid e p <;> simp

theorem paste_map (pb pf : List Int) (m : Nat) :
    paste (pb.map (2 * ·)) (pf.map (2 * ·)) m = ((pb.reverse ++ pf.tail).take m).map (2 * ·) := by
  rw [paste_take]
  simp [List.map_reverse, List.map_tail, List.map_take]

theorem getD_of_get {l : List Int} {k : Nat} {x : Int} (h : l[k]? = some x) : l.getD k 0 = x := by
  rw [List.getD_eq_getElem?_getD, h]; rfl

theorem getLast?_double {pb : List Int} {last : Int} (h : pb.getLast? = some last) :
    (pb.map (2 * ·)).getLast? = some (2 * last) := by
  rw [List.getLast?_map, h]; rfl

/-- How the answer of the generic model on the lattice streams (right) relates to the answer of the lattice move
    (left), case by case. -/
inductive Sim (e : Ens) (old : List Int) (ld : Bool) (idx : Nat) :
    Except LatticeMoves.Err Out → Except Moves.Err Moves.ShootOut → Prop
  /-- an old path of at most two frames -/
  | value : Sim e old ld idx (.error .value) (.error .value)
  /-- a scripted index or ξ outside its range (never from numpy) -/
  | badDraw : Sim e old ld idx (.error .badDraw) (.error .badDraw)
  | zerodiv : Sim e old ld idx (.error .zerodiv) (.error .zerodiv)
  /-- the same result, field by field; past `check_kick` this needs a path that may hold two frames -/
  | ok (o : Out) (r : Moves.ShootOut) : r = refOut old ld idx o → (o.status ≠ .KOB → 2 ≤ e.maxlength) →
      Sim e old ld idx (.ok o) (.ok r)
  /-- `maxlength ≤ 1`: the plug-in adds no frame at all, the generic engine contract gives IndexError -/
  | short (o : Out) : e.maxlength ≤ 1 → o.status ≠ .KOB → Sim e old ld idx (.ok o) (.error .index)
  /-- scripted coins that run out (never with a generator): the lattice move refuses the script, the generic
      model's engine loop ends without a stop and the move is a rejection -/
  | coins (r : Moves.ShootOut) : r.accept = false → Sim e old ld idx (.error .badDraw) (.ok r)

/-- **The lattice move is the generic move on the lattice streams**, branch by branch of `latShoot`. -/
theorem latShoot_sim (e : Ens) (old : List Int) (ld : Bool) (idx : Nat) (xi : Rat) (cb cf : List Bool) :
    Sim e old ld idx (latShoot e old ld idx xi cb cf) (latShootRef e old ld idx xi cb cf) := by
  fun_cases latShoot e old ld idx xi cb cf
  case case1 h1 => rw [latShootRef_eq, shoot_value (mt refIn_len.1 h1)]; exact .value
  case case2 h1 h2 =>
    rw [latShootRef_eq, shoot_idx (refIn_len.2 (Decidable.of_not_not h1)) (mt refIn_idx.1 h2)]; exact .badDraw
  case case3 _ h2 hx => rw [List.getElem?_eq_none_iff] at hx; omega
  -- from here on length and index are in range and the shooting point `x = old[idx]` has been read
  all_goals
    have hx := ‹old[idx]? = some _›
    have h1 := Decidable.of_not_not ‹¬¬ 2 < old.length›
    have h2 := Decidable.of_not_not ‹¬¬ (1 ≤ idx ∧ idx + 1 < old.length)›
    rw [latShootRef_eq, getD_of_get hx]
  case case4 x _ hk =>
    have r := @refIn_ready e old ld idx xi x cb cf h1 h2
    rw [shoot_of_run (.kob r.1 r.2.1 r.2.2 (mt refIn_kick.1 hk))]
    refine .ok _ _ ?_ (fun h => absurd rfl h)
    by_cases h0 : 0 < e.maxlength <;> simp [refOut, refIn, statusRef, pathAppend, h0, hx]
  case case5 hk hn =>
    rw [shoot_drawErr (refIn_len.2 h1) (refIn_idx.2 h2) (refIn_kick.2 (Decidable.of_not_not hk)) .badDraw
      (by simp [Moves.drawMaxlen, refIn, hn])]
    exact .badDraw
  case case6 hk _ hz =>
    rw [shoot_drawErr (refIn_len.2 h1) (refIn_idx.2 h2) (refIn_kick.2 (Decidable.of_not_not hk)) .zerodiv
      (by simp [Moves.drawMaxlen, refIn, hz])]
    exact .zerodiv
  -- from here on the shooting point is inside and the length limit `M` is drawn
  all_goals
    have hk := Decidable.of_not_not ‹¬¬ ((0 : Int) < _ ∧ _ < e.top)›
    have hn := ‹¬ (ld = false ∧ xi < 0)›
    have hz := ‹¬ (ld = false ∧ xi = 0)›
    have hB := @backLeg_refIn e old ld idx xi _ cb cf h1 h2 hk hn hz
    have hML : maxlenOf e old.length ld xi - 1 ≠ 0 → 2 ≤ e.maxlength := fun _ => by
      have := maxlenOf_le e old.length ld xi; omega
    have hlr : (1 : Int) ≤ 2 * e.top - 1 := by omega
  case case7 hb =>
    rw [shoot_of_run (.backFail (hB (feedV_of_prop (prop_room hb nofun) hb)))]
    exact .coins _ rfl
  case case8 M pb kb hb =>
    by_cases hc : M - 1 = 0
    · -- `maxlength ≤ 1`: the plug-in's loop adds no frame at all
      have := two_le_maxlenOf e old.length ld xi
      rw [shoot_noBack (refIn_len.2 h1) (refIn_idx.2 h2) (refIn_kick.2 hk) (drawMaxlen_refIn hn hz)
        (by rw [hc]; exact feedV_zero _ _ _ _ _ _)]
      exact .short _ (by omega) (by dsimp only; split <;> nofun)
    · rw [shoot_of_run (.backFail (hB (feedV_of_prop hc hb)))]
      refine .ok _ _ ?_ (fun _ => hML hc)
      by_cases hl : pb.length + 1 ≥ e.maxlength <;> cases ld <;>
        simp [refOut, refIn, statusRef, appendAll_nil_fst, List.map_take, hl, hx]
  case case9 pb okB kb hb hokB hlast =>
    obtain ⟨seg, rfl, -⟩ := prop_success e.top _ _ cb pb kb hk.1 hk.2 (Bool.of_not_eq_false hokB ▸ hb)
    simp at hlast
  -- from here on the backward propagation ended on a crossing
  case case10 pb okB kb hb hokB last hlast hl0 =>
    obtain rfl := Bool.of_not_eq_false hokB
    have hc := prop_room hb nofun
    rw [shoot_of_run (.wrongEnd (hB (feedV_of_prop hc hb)) hlr (getLast?_double hlast)
      ((sideIn_ref _ _).trans (decide_eq_false hl0)))]
    refine .ok _ _ ?_ (fun _ => hML hc)
    cases ld <;> simp [refOut, refIn, statusRef, appendAll_nil_fst, List.map_take, hx]
  case case11 pb okB kb hb hokB last hlast hl0 hf =>
    obtain rfl := Bool.of_not_eq_false hokB
    rw [shoot_of_run (.forwFail ⟨hB (feedV_of_prop (prop_room hb nofun) hb), hlr, getLast?_double hlast,
      (sideIn_ref _ _).trans (decide_eq_true (Decidable.of_not_not hl0)),
      by rw [List.length_map]; exact feedV_of_prop (Nat.succ_ne_zero _) hf⟩)]
    exact .coins _ rfl
  case case12 pb okB kb hb hokB last hlast hl0 pf kf trial hf =>
    obtain rfl := Bool.of_not_eq_false hokB
    have hc := prop_room hb nofun
    rw [shoot_of_run (.forwFail ⟨hB (feedV_of_prop hc hb), hlr, getLast?_double hlast,
      (sideIn_ref _ _).trans (decide_eq_true (Decidable.of_not_not hl0)),
      by rw [List.length_map]; exact feedV_of_prop (Nat.succ_ne_zero _) hf⟩), ShootOut.pasted, refIn_maxlength, paste_map,
      show List.take e.maxlength (pb.reverse ++ pf.tail) = trial from rfl]
    refine .ok _ _ ?_ (fun _ => hML hc)
    have hpl := List.length_pos_of_mem (List.mem_of_getLast? hlast)
    by_cases hl : trial.length = e.maxlength <;> cases ld <;> simp [refOut, refIn, statusRef, hl, hx] <;> omega
  -- both propagations succeeded: NCR or ACC by the crossing test
  all_goals
    rename_i pb okB kb hb hokB last hlast hl0 pf okF kf hf trial hokF hcross
    obtain rfl := Bool.of_not_eq_false hokB
    obtain rfl := Bool.of_not_eq_false hokF
    have hc := prop_room hb nofun
    rw [shoot_of_run (.final ⟨hB (feedV_of_prop hc hb), hlr, getLast?_double hlast,
      (sideIn_ref _ _).trans (decide_eq_true (Decidable.of_not_not hl0)),
      by rw [List.length_map]; exact feedV_of_prop (Nat.succ_ne_zero _) hf⟩), ShootOut.pasted, refIn_maxlength, paste_map,
      show List.take e.maxlength (pb.reverse ++ pf.tail) = trial from rfl, finalChecks_refIn]
    refine .ok _ _ ?_ (fun _ => hML hc)
    have hpl := List.length_pos_of_mem (List.mem_of_getLast? hlast)
    cases ld <;> simp [refOut, refIn, statusRef, hcross, hx] <;> omega

section
variable {e : Ens} {old : List Int} {ld : Bool} {idx : Nat} {a : Except LatticeMoves.Err Out}
  {b : Except Moves.Err Moves.ShootOut} {o : Out}

theorem Sim.of_ok (s : Sim e old ld idx (.ok o) b) (hML : o.status ≠ .KOB → 2 ≤ e.maxlength) :
    b = .ok (refOut old ld idx o) := by
  cases s with
  | ok _ _ hr _ => rw [hr]
  | short _ hs hne => exact absurd (hML hne) (by omega)

theorem Sim.of_short (s : Sim e old ld idx (.ok o) b) (hML : e.maxlength ≤ 1) (hne : o.status ≠ .KOB) :
    b = .error .index := by
  cases s with
  | ok _ _ _ h2 => exact absurd (h2 hne) (by omega)
  | short _ _ _ => rfl

theorem Sim.value_iff (s : Sim e old ld idx a b) : a = .error .value ↔ b = .error .value := by
  cases s <;> simp

theorem Sim.zerodiv_iff (s : Sim e old ld idx a b) : a = .error .zerodiv ↔ b = .error .zerodiv := by
  cases s <;> simp

end

theorem latShootRef_of_ok' (e : Ens) (old : List Int) (ld : Bool) (idx : Nat) (xi : Rat) (cb cf : List Bool) (o : Out)
    (hML : o.status ≠ .KOB → 2 ≤ e.maxlength)
    (h : latShoot e old ld idx xi cb cf = .ok o) :
    latShootRef e old ld idx xi cb cf = .ok (refOut old ld idx o) :=
  (h ▸ latShoot_sim e old ld idx xi cb cf).of_ok hML

/-- the statement in the fields the driver prints and the tie compares -/
theorem latShootRef_of_ok (e : Ens) (old : List Int) (ld : Bool) (idx : Nat) (xi : Rat) (cb cf : List Bool) (o : Out)
    (hML : 2 ≤ e.maxlength) (h : latShoot e old ld idx xi cb cf = .ok o) :
    ∃ r, latShootRef e old ld idx xi cb cf = .ok r ∧ r.accept = o.accept ∧ r.status = statusRef o.status
      ∧ r.trial = o.trial.map (2 * ·) ∧ r.genNb = o.genNb
      ∧ r.usedB = (if o.status = .KOB then 0 else o.usedB + 1)
      ∧ r.usedF = (if o.status = .KOB ∨ o.status = .BTL ∨ o.status = .BTX ∨ o.status = .BWI then 0 else o.usedF + 1)
      ∧ r.genIdx = idx ∧ r.genSp = 2 * old.getD idx 0 ∧ r.timeOrigin = (idx : Int) - (o.genNb : Int)
      ∧ r.draws = .integers 1 ((old.length : Int) - 1) :: (if o.status = .KOB ∨ ld = true then [] else [.random]) :=
  ⟨refOut old ld idx o, latShootRef_of_ok' e old ld idx xi cb cf o (fun _ => hML) h,
    rfl, rfl, rfl, rfl, rfl, rfl, rfl, rfl, rfl, rfl⟩

/-- **ValueError on the same inputs**: both models raise it exactly for an old path of at most two frames. -/
theorem latShootRef_value_iff (e : Ens) (old : List Int) (ld : Bool) (idx : Nat) (xi : Rat) (cb cf : List Bool) :
    latShoot e old ld idx xi cb cf = .error .value ↔ latShootRef e old ld idx xi cb cf = .error .value :=
  (latShoot_sim e old ld idx xi cb cf).value_iff

/-- **ZeroDivisionError on the same inputs** (ξ = 0 for a path that is not a load path, the shooting point
    inside): this one does not depend on `maxlength` or on the coins. -/
theorem latShootRef_zerodiv_iff (e : Ens) (old : List Int) (ld : Bool) (idx : Nat) (xi : Rat) (cb cf : List Bool) :
    latShoot e old ld idx xi cb cf = .error .zerodiv ↔ latShootRef e old ld idx xi cb cf = .error .zerodiv :=
  (latShoot_sim e old ld idx xi cb cf).zerodiv_iff

/-- the `integers` outcome outside its range: both models refuse it the same way (never from numpy) -/
theorem latShootRef_badIdx (e : Ens) (old : List Int) (ld : Bool) (idx : Nat) (xi : Rat) (cb cf : List Bool)
    (hlen : 2 < old.length) (hidx : ¬ (1 ≤ idx ∧ idx + 1 < old.length)) :
    latShoot e old ld idx xi cb cf = .error .badDraw ∧ latShootRef e old ld idx xi cb cf = .error .badDraw := by
  constructor
  · unfold latShoot; simp only [hlen, hidx, not_true_eq_false, not_false_eq_true, reduceIte]
  · exact shoot_idx (refIn_len.2 hlen) (mt refIn_idx.1 hidx)

/-- a negative ξ (never from numpy) with the shooting point inside: both models refuse it the same way -/
theorem latShootRef_negXi (e : Ens) (old : List Int) (idx : Nat) (xi : Rat) (cb cf : List Bool)
    (hlen : 2 < old.length) (hidx : 1 ≤ idx ∧ idx + 1 < old.length)
    (hin : 0 < old.getD idx 0 ∧ old.getD idx 0 < e.top) (hxi : xi < 0) :
    latShoot e old false idx xi cb cf = .error .badDraw ∧ latShootRef e old false idx xi cb cf = .error .badDraw := by
  have hx : old[idx]? = some (old.getD idx 0) := by
    have : idx < old.length := by omega
    simp [List.getD, this]
  constructor
  · unfold latShoot
    simp only [hlen, hidx, and_self, not_true_eq_false, reduceIte, hx, hin, hxi]
  · exact shoot_drawErr (refIn_len.2 hlen) (refIn_idx.2 hidx) (refIn_kick.2 hin) _
      (by simp [Moves.drawMaxlen, refIn, hxi])

/-- **All outcomes at once** (`maxlength ≥ 2`): the generic model on the lattice streams follows the lattice move in
    every outcome except the scripted-coins-ran-out / negative-ξ refusals (`badDraw`, never from numpy), where the two
    are compared by `latShootRef_badIdx`, `latShootRef_negXi` and `C01.shoot_generic_model_differs_exhausted_coins`. -/
theorem latShootRef_total (e : Ens) (old : List Int) (ld : Bool) (idx : Nat) (xi : Rat) (cb cf : List Bool)
    (hML : 2 ≤ e.maxlength) :
    match latShoot e old ld idx xi cb cf with
    | .ok o => latShootRef e old ld idx xi cb cf = .ok (refOut old ld idx o)
    | .error .value => latShootRef e old ld idx xi cb cf = .error .value
    | .error .zerodiv => latShootRef e old ld idx xi cb cf = .error .zerodiv
    | .error .badDraw => True := by
  cases h : latShoot e old ld idx xi cb cf with
  | ok o => exact latShootRef_of_ok' e old ld idx xi cb cf o (fun _ => hML) h
  | error er =>
    cases er with
    | value => exact (latShootRef_value_iff e old ld idx xi cb cf).1 h
    | badDraw => trivial
    | zerodiv => exact (latShootRef_zerodiv_iff e old ld idx xi cb cf).1 h

/-- `maxlength = 1`: the lattice move answers BTX with an empty trial path, the generic model raises IndexError -/
theorem latShootRef_counterexample_maxlength1 :
    latShoot ⟨1, 2, 1⟩ [0, 1, 0] true 1 0 [] [] =
      .ok { accept := false, status := .BTX, trial := [], genNb := 0, maxlen := 1, usedB := 0, usedF := 0 }
    ∧ latShootRef ⟨1, 2, 1⟩ [0, 1, 0] true 1 0 [] [] = .error .index := by
  constructor <;> rfl

/-- non-vacuity: an accepted move, both sides -/
example :
    latShoot ⟨1, 2, 10⟩ [0, 1, 2] true 1 0 [false] [true] =
      .ok { accept := true, status := .ACC, trial := [0, 1, 2], genNb := 1, maxlen := 10, usedB := 1, usedF := 1 }
    ∧ latShootRef ⟨1, 2, 10⟩ [0, 1, 2] true 1 0 [false] [true] =
      .ok { accept := true, status := .ACC, trial := [0, 2, 4], genSp := 2, genIdx := 1, genNb := 1, timeOrigin := 0,
            draws := [.integers 1 2], usedB := 2, usedF := 2 } := by
  constructor <;> rfl

end Infretis.LatticeMoves
