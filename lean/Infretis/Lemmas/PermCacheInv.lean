import Infretis.Model.PermCache
/-!
Cache coherence of `REPEX_state.prob` / `_last_prob` (model: `Infretis.PermCache`).

Invariant `Coherent c`: the cache is empty or holds `inf_retis(abs(state), _locks)` of the CURRENT state and
locks, and never an error.  Every operation the sampler performs (everything except a bare `swap`) preserves
it, and every matrix handed out is `inf_retis` of the state at the moment of the use.
-/
namespace Infretis.PermCache
open Infretis.Perm

def Coherent (c : C) : Prop := ∀ r, c.cache = some r → r = compute c.s ∧ ∀ e, r ≠ Res.error e

def GoodUse (u : Use) : Prop := u.val = compute u.at_ ∧ ∀ e, u.val ≠ Res.error e

theorem coherent_of_none (c : C) (h : c.cache = none) : Coherent c := by
  intro r hr; rw [h] at hr; cases hr

theorem readProb_spec (c : C) (hc : Coherent c) (c' : C) (u : Use) (h : readProb c = .ok (c', u)) :
    Coherent c' ∧ GoodUse u ∧ c'.s = c.s ∧ u.at_ = c.s := by
  unfold readProb at h
  split at h
  · rename_i r hr
    injection h with h
    injection h with h1 h2
    subst h1; subst h2
    exact ⟨hc, hc r hr, rfl, rfl⟩
  · split at h
    · cases h
    · rename_i hne
      injection h with h
      injection h with h1 h2
      subst h1; subst h2
      refine ⟨?_, ⟨rfl, fun e he => hne e he⟩, rfl, rfl⟩
      intro r hr
      simp only [Option.some.injEq] at hr
      subst hr
      exact ⟨rfl, fun e he => hne e he⟩

theorem lock_spec (c : C) (e : Nat) (c' : C) (h : lock c e = .ok c') : c'.cache = none := by
  unfold lock at h
  split at h
  · injection h with h; subst h; rfl
  · cases h

theorem unlock_spec (c : C) (e : Nat) (c' : C) (h : unlock c e = .ok c') : c'.cache = none := by
  unfold unlock at h
  split at h
  · injection h with h; subst h; rfl
  · cases h

/-- an operation that, whenever it completes, leaves a coherent cache and has handed out only good uses -/
def Good (r : Except CErr (C × List Use)) : Prop :=
  ∀ c' us, r = .ok (c', us) → Coherent c' ∧ ∀ u ∈ us, GoodUse u

theorem good_error (e : CErr) : Good (.error e) := fun _ _ h => by cases h

theorem good_ok {c : C} {us : List Use} (hc : Coherent c) (hu : ∀ u ∈ us, GoodUse u) :
    Good (.ok (c, us)) := by
  intro c' us' h
  injection h with h
  injection h with h1 h2
  subst h1; subst h2
  exact ⟨hc, hu⟩

theorem good_ok_one {c : C} {u : Use} (hc : Coherent c) (hu : GoodUse u) : Good (.ok (c, [u])) :=
  good_ok hc (fun u' hu' => by rw [List.mem_singleton.mp hu']; exact hu)

theorem good_read (c : C) (hc : Coherent c) :
    Good (match readProb c with | .error er => .error er | .ok (c', u) => .ok (c', [u])) := by
  split
  · exact good_error _
  · next c1 u hr =>
    have := readProb_spec c hc c1 u hr
    exact good_ok_one this.1 this.2.1

/-- an operation that ends by emptying the cache and hands out nothing (`lock`, `unlock`, the re-issue) -/
theorem good_emptied (r : Except CErr C) :
    (∀ c', r = .ok c' → c'.cache = none) →
      Good (match r with | .error er => .error er | .ok c' => .ok (c', [])) := by
  intro h
  cases r with
  | error e => exact good_error _
  | ok c1 => exact good_ok (coherent_of_none _ (h c1 rfl)) (by simp)

theorem swapLock_spec (c : C) (hc : Coherent c) (t e : Nat) : Good (swapLock c t e) := by
  unfold swapLock
  split
  · exact good_error _
  · next c1 u hr =>
    split
    · exact good_error _
    · next c2 hl =>
      exact good_ok_one (coherent_of_none _ (lock_spec _ _ _ hl)) (readProb_spec c hc c1 u hr).2.1

theorem addTraj_spec (c : C) (ens : Int) (pn : Nat) (valid : List Rat) : Good (addTraj c ens pn valid) := by
  unfold addTraj
  split
  · exact good_error _
  · next s' _ => exact good_read _ (coherent_of_none _ rfl)

theorem sortTrajstate_spec (fuel : Nat) (c : C) : Good (sortTrajstate fuel c) := by
  unfold sortTrajstate
  split
  · exact good_error _
  · next s' _ _ => exact good_read _ (coherent_of_none _ rfl)

theorem printState_spec (c : C) (hc : Coherent c) : Good (printState c) := by
  unfold printState
  split
  · next r hr => exact good_ok_one hc (hc r hr)
  · split
    · exact good_error _
    · next c1 u hr =>
      exact good_ok_one (coherent_of_none _ rfl) (readProb_spec c hc c1 u hr).2.1

theorem step_spec (c : C) (hc : Coherent c) (op : Op) (hp : isPublic op = true) : Good (step c op) := by
  cases op with
  | read => exact good_read c hc
  | lock e => exact good_emptied _ (lock_spec c e)
  | unlock e => exact good_emptied _ (unlock_spec c e)
  | swapLock t e => exact swapLock_spec c hc t e
  | addTraj ens pn valid => exact addTraj_spec c ens pn valid
  | sort => exact sortTrajstate_spec _ c
  | printState => exact printState_spec c hc
  | rawSwap t e => cases hp
  | reissue t e => exact good_emptied _ (lock_spec _ e)

theorem run_spec (ops : List Op) : ∀ (c : C), Coherent c → (∀ op ∈ ops, isPublic op = true) →
    Good (run c ops) := by
  induction ops with
  | nil => intro c hc _; exact good_ok hc (by simp)
  | cons op ops ih =>
    intro c hc hp
    simp only [run]
    split
    · exact good_error _
    · next c1 us1 h1 =>
      have s1 := step_spec c hc op (hp op (List.mem_cons_self ..)) c1 us1 h1
      split
      · exact good_error _
      · next c2 us2 h2 =>
        have s2 := ih c1 s1.1 (fun o ho => hp o (List.mem_cons_of_mem _ ho)) c2 us2 h2
        refine good_ok s2.1 ?_
        intro u hu
        rcases List.mem_append.mp hu with hu | hu
        · exact s1.2 u hu
        · exact s2.2 u hu

end Infretis.PermCache
