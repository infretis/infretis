import Infretis.Lemmas.TemplateCp2k
/-!
The print / read round trip of the CP2K editor over section forests, by structural induction.  For a forest `ts` of
trees that are `Tree.ok` (title one upper-case ASCII token not starting with "END", parameters tokens, data lines stripped /
non-empty / not starting with '&' / without line breaks), reading the printed lines builds exactly the arena
`flats none 0 0 ts` (the nodes in preorder, children lists = the indices of the children, levels = depths) with roots
`childIds 0 ts`; the forest of that arena is `ts`, and printing it gives the same text again
(`C19.cp2k_print_read_roundtrip`).
-/
namespace Infretis.Cp2k

mutual
def Tree.size : Tree → Nat
  | .node _ _ _ cs => sizes cs + 1
def sizes : List Tree → Nat
  | [] => 0
  | c :: cs => c.size + sizes cs
end

def childIds (id : Nat) : List Tree → List Nat
  | [] => []
  | c :: cs => id :: childIds (id + c.size) cs

mutual
/-- the nodes of a tree in preorder, numbered from `id` -/
def flat (par : Option Nat) (lvl id : Nat) : Tree → List Node
  | .node t s d cs =>
    { title := t, parent := par, settings := s, data := d, children := childIds (id + 1) cs, level := lvl }
      :: flats (some id) (lvl + 1) (id + 1) cs
def flats (par : Option Nat) (lvl id : Nat) : List Tree → List Node
  | [] => []
  | c :: cs => flat par lvl id c ++ flats par lvl (id + c.size) cs
end

mutual
theorem flat_length (par : Option Nat) (lvl id : Nat) : ∀ (t : Tree), (flat par lvl id t).length = t.size
  | .node t s d cs => by simp [flat, Tree.size, flats_length (some id) (lvl + 1) (id + 1) cs]
theorem flats_length (par : Option Nat) (lvl id : Nat) : ∀ (cs : List Tree), (flats par lvl id cs).length = sizes cs
  | [] => by simp [flats, sizes]
  | c :: cs => by simp [flats, sizes, flat_length par lvl id c, flats_length par lvl (id + c.size) cs]
end

theorem Tree.size_pos : ∀ (t : Tree), 0 < t.size
  | .node _ _ _ _ => by simp [Tree.size]

def addKids (ks : List Nat) (n : Node) : Node := { n with children := n.children ++ ks }
def addLines (ls : List Str) (n : Node) : Node := { n with data := n.data ++ ls }

theorem addKids_nil (n : Node) : addKids [] n = n := by cases n; simp [addKids]
theorem addKids_addKids (a b : List Nat) (n : Node) : addKids b (addKids a n) = addKids (a ++ b) n := by
  cases n; simp [addKids]
theorem addLines_nil (n : Node) : addLines [] n = n := by cases n; simp [addLines]
theorem addLines_addLines (a b : List Str) (n : Node) : addLines b (addLines a n) = addLines (a ++ b) n := by
  cases n; simp [addLines]

theorem readLines_append : ∀ (l1 l2 : List Str) (rs : RS),
    readLines rs (l1 ++ l2) = match readLines rs l1 with
      | .ok rs' => readLines rs' l2
      | .error e => .error e := by
  intro l1
  induction l1 with
  | nil => intro l2 rs; rfl
  | cons l ls ih =>
    intro l2 rs
    simp only [List.cons_append, readLines]
    cases h : readLine rs l with
    | error e => rfl
    | ok rs' => exact ih l2 rs'

theorem tokOk_isTok {k : Str} (h : tokOk k = true) : IsTok k := by
  simp only [tokOk, Bool.and_eq_true, Bool.not_eq_true', List.all_eq_true] at h
  refine ⟨?_, fun c hc => by simpa using h.2 c hc⟩
  intro e; rw [e] at h; simp at h

theorem isTok_head {k : Str} (h : IsTok k) : ∀ c, k.head? = some c → isWs c = false := Lex.Tok.head h

/-- the text after the '&' of a header: title and parameters -/
def hdrRest (t : Str) (s : List Str) : Str := t ++ (if s = [] then [] else ' ' :: join [' '] s)

theorem join_ne_nil (s : List Str) (hs : ∀ x ∈ s, IsTok x) (hne : s ≠ []) : join [' '] s ≠ [] := by
  match s, hne with
  | [a], _ => simpa [join] using (hs a (by simp)).1
  | a :: b :: r, _ => simp [join]

theorem join_last (s : List Str) (hs : ∀ x ∈ s, IsTok x) (hne : s ≠ []) :
    ∀ c, (join [' '] s).getLast? = some c → isWs c = false := by
  induction s with
  | nil => exact absurd rfl hne
  | cons a r ih =>
    cases r with
    | nil => simpa [join] using Lex.Tok.last (hs a (by simp))
    | cons b r' =>
      intro c hc
      have hs' : ∀ x ∈ b :: r', IsTok x := fun x hx => hs x (List.mem_cons_of_mem _ hx)
      simp only [join] at hc
      rw [Lex.getLast?_append_ne _ _ (join_ne_nil _ hs' (by simp))] at hc
      exact ih hs' (by simp) c hc

theorem hdrRest_last (t : Str) (s : List Str) (ht : IsTok t) (hs : ∀ x ∈ s, IsTok x) :
    ∀ c, (hdrRest t s).getLast? = some c → isWs c = false := by
  unfold hdrRest
  by_cases he : s = []
  · simp only [he, if_true, List.append_nil]; exact Lex.Tok.last ht
  · simp only [he, if_false]
    intro c hc
    rw [Lex.getLast?_append_ne _ _ (by simp), List.getLast?_cons_of_ne_nil (join_ne_nil s hs he)] at hc
    exact join_last s hs he c hc

theorem strip_amp (n : Nat) (x : Str) (hx : x ≠ []) (hl : ∀ c, x.getLast? = some c → isWs c = false) :
    strip (spaces n ++ '&' :: x) = '&' :: x :=
  strip_indented n ('&' :: x) (by intro c hc; simp at hc; subst hc; decide)
    (by intro c hc; rw [List.getLast?_cons_of_ne_nil hx] at hc; exact hl c hc)

theorem startsWithEnd_hdrRest (t : Str) (s : List Str) (ht : IsTok t) (h : startsWithEnd t = false) :
    startsWithEnd (hdrRest t s) = false := by
  unfold hdrRest
  by_cases he : s = []
  · simp [he, h]
  · simp only [he, if_false]
    match t, ht, h with
    | [], ht, _ => exact absurd rfl ht.1
    | [a], _, _ =>
      cases hj : join [' '] s with
      | nil => simp [startsWithEnd]
      | cons x y =>
        cases y with
        | nil => simp [startsWithEnd]
        | cons z w => simp [startsWithEnd]
    | [a, b], _, _ => simp [startsWithEnd]
    | a :: b :: c :: r, _, h => simpa [startsWithEnd] using h

theorem readLine_header (rs : RS) (lvl : Nat) (t : Str) (s : List Str)
    (ht : IsTok t) (hu : upper t = t) (he : startsWithEnd t = false) (hs : ∀ x ∈ s, IsTok x) :
    readLine rs (spaces (2 * lvl) ++ ['&'] ++ t ++ (if s = [] then [] else ' ' :: join [' '] s)) =
      match rs.cur with
      | none =>
        .ok ⟨rs.arena ++ [{ title := t, parent := none, settings := s, data := [], children := [], level := 0 }],
             rs.roots ++ [rs.arena.length], some rs.arena.length⟩
      | some cu =>
        match rs.arena[cu]? with
        | none => .error .attr
        | some p =>
          .ok ⟨rs.arena.set cu (addKids [rs.arena.length] p) ++
                 [{ title := t, parent := some cu, settings := s, data := [], children := [], level := p.level + 1 }],
               rs.roots, some rs.arena.length⟩ := by
  have hstrip : strip (spaces (2 * lvl) ++ ['&'] ++ t ++ (if s = [] then [] else ' ' :: join [' '] s))
      = '&' :: hdrRest t s := by
    have := strip_amp (2 * lvl) (hdrRest t s) (by unfold hdrRest; simp [ht.1]) (hdrRest_last t s ht hs)
    simpa [hdrRest, List.append_assoc] using this
  have hsp : splitWs (hdrRest t s) = t :: s := splitWs_header t s ht hs
  obtain ⟨A, R, cur⟩ := rs
  cases cur with
  | none => simp only [readLine, hstrip, startsWithEnd_hdrRest t s ht he, hsp, hu, if_true, Bool.false_eq_true, if_false]
  | some cu =>
    cases hp : A[cu]? <;>
      simp only [readLine, hstrip, startsWithEnd_hdrRest t s ht he, hsp, hu, hp, if_true, Bool.false_eq_true, if_false,
        addKids]

theorem dataOk_props {l : Str} (h : dataOk l = true) :
    ∃ c r, l = c :: r ∧ isWs c = false ∧ c ≠ '&' ∧ (∀ z, l.getLast? = some z → isWs z = false) := by
  cases l with
  | nil => simp [dataOk] at h
  | cons c r =>
    simp only [dataOk, Bool.and_eq_true, Bool.not_eq_true', bne_iff_ne, ne_eq] at h
    obtain ⟨⟨⟨h1, h2⟩, h3⟩, _⟩ := h
    refine ⟨c, r, rfl, h1, h2, ?_⟩
    intro z hz
    rw [hz] at h3
    simpa using h3

theorem readLine_data (A : List Node) (R : List Nat) (cu : Nat) (n : Node) (lvl : Nat) (l : Str)
    (hn : A[cu]? = some n) (hl : dataOk l = true) :
    readLine ⟨A, R, some cu⟩ (spaces (2 * lvl) ++ [' ', ' '] ++ l) = .ok ⟨A.set cu (addLines [l] n), R, some cu⟩ := by
  obtain ⟨c, r, rfl, h1, h2, h3⟩ := dataOk_props hl
  have hstrip : strip (spaces (2 * lvl) ++ [' ', ' '] ++ (c :: r)) = c :: r := by
    have := strip_indented (2 * lvl + 2) (c :: r) (by intro x hx; simp at hx; subst hx; exact h1) h3
    have e : spaces (2 * lvl + 2) = spaces (2 * lvl) ++ [' ', ' '] := List.replicate_append_replicate.symm
    rw [e] at this
    exact this
  simp only [readLine, hstrip, h2, if_false, modifyAt, hn, addLines]

theorem startsWithEnd_end (t : Str) : startsWithEnd (['E', 'N', 'D', ' '] ++ t) = true := by
  simp [startsWithEnd]

theorem readLine_end (A : List Node) (R : List Nat) (cu : Nat) (n : Node) (lvl : Nat) (t : Str)
    (hn : A[cu]? = some n) (ht : IsTok t) :
    readLine ⟨A, R, some cu⟩ (spaces (2 * lvl) ++ ['&', 'E', 'N', 'D', ' '] ++ t) = .ok ⟨A, R, n.parent⟩ := by
  have hstrip : strip (spaces (2 * lvl) ++ ['&', 'E', 'N', 'D', ' '] ++ t) = '&' :: (['E', 'N', 'D', ' '] ++ t) := by
    have := strip_amp (2 * lvl) (['E', 'N', 'D', ' '] ++ t) (by simp)
      (by intro c hc; rw [Lex.getLast?_append_ne _ _ ht.1] at hc; exact Lex.Tok.last ht c hc)
    simpa [List.append_assoc] using this
  simp only [readLine, hstrip, startsWithEnd_end, if_true, hn]

theorem readLines_data (R : List Nat) (cu lvl : Nat) : ∀ (d : List Str) (A : List Node) (n : Node),
    A[cu]? = some n → (∀ l ∈ d, dataOk l = true) →
    readLines ⟨A, R, some cu⟩ (d.map (fun l => spaces (2 * lvl) ++ [' ', ' '] ++ l)) =
      .ok ⟨A.set cu (addLines d n), R, some cu⟩ := by
  intro d
  induction d with
  | nil =>
    intro A n hn _
    simp only [List.map_nil, readLines, addLines_nil]
    rw [set_getElem?_self hn]
  | cons l ls ih =>
    intro A n hn hd
    have hi : cu < A.length := getElem?_lt_of_some hn
    simp only [List.map_cons, readLines, readLine_data A R cu n lvl l hn (hd l (by simp))]
    rw [ih (A.set cu (addLines [l] n)) (addLines [l] n) (by simp [hi]) (fun x hx => hd x (List.mem_cons_of_mem _ hx))]
    simp [addLines_addLines]

/-- after the header: data lines, children, end line (the statement about the children list is a premise) -/
theorem read_body (t : Str) (s d : List Str) (cs : List Tree) (par : Option Nat) (lvl : Nat)
    (B0 : List Node) (R : List Nat)
    (ht : IsTok t) (hd : ∀ l ∈ d, dataOk l = true)
    (hlist : ∀ (B : List Node) (n : Node), B[B0.length]? = some n → n.level = lvl →
      readLines ⟨B, R, some B0.length⟩ (printTrees (lvl + 1) cs) =
        .ok ⟨B.set B0.length (addKids (childIds B.length cs) n) ++ flats (some B0.length) (lvl + 1) B.length cs, R,
             some B0.length⟩) :
    readLines ⟨B0 ++ [{ title := t, parent := par, settings := s, data := [], children := [], level := lvl }], R,
               some B0.length⟩
      (d.map (fun l => spaces (2 * lvl) ++ [' ', ' '] ++ l) ++
        (printTrees (lvl + 1) cs ++ [spaces (2 * lvl) ++ ['&', 'E', 'N', 'D', ' '] ++ t])) =
      .ok ⟨B0 ++ flat par lvl B0.length (.node t s d cs), R, par⟩ := by
  let n0 : Node := { title := t, parent := par, settings := s, data := [], children := [], level := lvl }
  have h0 : (B0 ++ [n0])[B0.length]? = some n0 := by simp
  rw [readLines_append, readLines_data R B0.length lvl d (B0 ++ [n0]) n0 h0 hd]
  simp only
  have hset1 : (B0 ++ [n0]).set B0.length (addLines d n0) = B0 ++ [addLines d n0] := by
    rw [List.set_append_right _ _ (Nat.le_refl _)]; simp
  rw [hset1, readLines_append]
  have h1 : (B0 ++ [addLines d n0])[B0.length]? = some (addLines d n0) := by simp
  rw [hlist (B0 ++ [addLines d n0]) (addLines d n0) h1 rfl]
  simp only
  have hset2 : (B0 ++ [addLines d n0]).set B0.length (addKids (childIds (B0 ++ [addLines d n0]).length cs) (addLines d n0))
      = B0 ++ [addKids (childIds (B0.length + 1) cs) (addLines d n0)] := by
    rw [List.set_append_right _ _ (Nat.le_refl _)]; simp
  rw [hset2]
  have hlen : (B0 ++ [addLines d n0]).length = B0.length + 1 := by simp
  rw [hlen]
  have hfin : (B0 ++ [addKids (childIds (B0.length + 1) cs) (addLines d n0)] ++
      flats (some B0.length) (lvl + 1) (B0.length + 1) cs)[B0.length]?
      = some (addKids (childIds (B0.length + 1) cs) (addLines d n0)) := by
    rw [List.append_assoc, List.getElem?_append_right (Nat.le_refl _)]; simp
  simp only [readLines, readLine_end _ R B0.length _ lvl t hfin ht]
  congr 2
  simp [flat, addKids, addLines, n0]

theorem ok_node {t : Str} {s d : List Str} {cs : List Tree} (h : (Tree.node t s d cs).ok = true) :
    IsTok t ∧ upper t = t ∧ startsWithEnd t = false ∧ (∀ x ∈ s, IsTok x) ∧ (∀ l ∈ d, dataOk l = true) ∧ okTs cs = true := by
  simp only [Tree.ok, Bool.and_eq_true, Bool.not_eq_true', beq_iff_eq, List.all_eq_true] at h
  obtain ⟨⟨⟨⟨⟨⟨h1, _hascii⟩, h2⟩, h3⟩, h4⟩, h5⟩, h6⟩ := h
  exact ⟨tokOk_isTok h1, h2, h3, fun x hx => tokOk_isTok (h4 x hx), h5, h6⟩

mutual
theorem read_tree_child : ∀ (t : Tree), t.ok = true → ∀ (A : List Node) (R : List Nat) (p : Nat) (pn : Node),
    A[p]? = some pn →
    readLines ⟨A, R, some p⟩ (printTree (pn.level + 1) t) =
      .ok ⟨A.set p (addKids [A.length] pn) ++ flat (some p) (pn.level + 1) A.length t, R, some p⟩
  | .node t s d cs, hok, A, R, p, pn, hp => by
    obtain ⟨ht, hu, he, hs, hd, hcs⟩ := ok_node hok
    simp only [printTree, readLines, readLine_header ⟨A, R, some p⟩ (pn.level + 1) t s ht hu he hs, hp]
    have hlenA : (A.set p (addKids [A.length] pn)).length = A.length := by simp
    have := read_body t s d cs (some p) (pn.level + 1) (A.set p (addKids [A.length] pn)) R ht hd
      (by
        intro B n hB hl
        rw [hlenA] at hB ⊢
        have := read_trees cs hcs B R A.length n hB
        rw [hl] at this
        exact this)
    rw [hlenA] at this
    exact this
theorem read_trees : ∀ (cs : List Tree), okTs cs = true → ∀ (B : List Node) (R : List Nat) (id : Nat) (n : Node),
    B[id]? = some n →
    readLines ⟨B, R, some id⟩ (printTrees (n.level + 1) cs) =
      .ok ⟨B.set id (addKids (childIds B.length cs) n) ++ flats (some id) (n.level + 1) B.length cs, R, some id⟩
  | [], _, B, R, id, n, hB => by
    simp only [printTrees, readLines, childIds, addKids_nil, flats, List.append_nil]
    rw [set_getElem?_self hB]
  | c :: cs, hok, B, R, id, n, hB => by
    simp only [okTs, Bool.and_eq_true] at hok
    have hi : id < B.length := getElem?_lt_of_some hB
    simp only [printTrees]
    rw [readLines_append, read_tree_child c hok.1 B R id n hB]
    simp only
    have hB' : (B.set id (addKids [B.length] n) ++ flat (some id) (n.level + 1) B.length c)[id]?
        = some (addKids [B.length] n) := by
      rw [List.getElem?_append_left (by simpa using hi)]; simp [hi]
    have hlvl : (addKids [B.length] n).level = n.level := rfl
    have := read_trees cs hok.2 _ R id (addKids [B.length] n) hB'
    rw [hlvl] at this
    rw [this]
    congr 2
    have hlen : (B.set id (addKids [B.length] n) ++ flat (some id) (n.level + 1) B.length c).length = B.length + c.size := by
      simp [flat_length]
    rw [hlen, List.set_append_left _ _ (by simpa using hi), List.set_set, addKids_addKids]
    simp [childIds, flats, List.append_assoc]
end

theorem read_tree_root (t : Tree) (hok : t.ok = true) (A : List Node) (R : List Nat) :
    readLines ⟨A, R, none⟩ (printTree 0 t) = .ok ⟨A ++ flat none 0 A.length t, R ++ [A.length], none⟩ := by
  match t, hok with
  | .node t s d cs, hok =>
    obtain ⟨ht, hu, he, hs, hd, hcs⟩ := ok_node hok
    simp only [printTree, readLines, readLine_header ⟨A, R, none⟩ 0 t s ht hu he hs]
    exact read_body t s d cs none 0 A (R ++ [A.length]) ht hd
      (by
        intro B n hB hl
        have := read_trees cs hcs B (R ++ [A.length]) A.length n hB
        rw [hl] at this
        exact this)

theorem readLine_blank (rs : RS) : readLine rs [] = .ok rs := by
  simp [readLine, strip, lstrip]

theorem readLines_printForest : ∀ (ts : List Tree), okTs ts = true → ∀ (A : List Node) (R : List Nat),
    readLines ⟨A, R, none⟩ (printForest ts) = .ok ⟨A ++ flats none 0 A.length ts, R ++ childIds A.length ts, none⟩
  | [], _, A, R => by simp [printForest, readLines, flats, childIds]
  | [r], hok, A, R => by
    simp only [okTs, Bool.and_eq_true] at hok
    simp only [printForest, read_tree_root r hok.1 A R, flats, childIds, List.append_nil]
  | r :: r' :: rs, hok, A, R => by
    simp only [okTs, Bool.and_eq_true] at hok
    have hok' : okTs (r' :: rs) = true := by simp only [okTs, Bool.and_eq_true]; exact hok.2
    simp only [printForest]
    rw [List.append_assoc, readLines_append, read_tree_root r hok.1 A R]
    simp only [List.singleton_append, readLines, readLine_blank]
    rw [readLines_printForest (r' :: rs) hok' _ _]
    have hlen : (A ++ flat none 0 A.length r).length = A.length + r.size := by simp [flat_length]
    rw [hlen]
    simp [flats, childIds, List.append_assoc]

/-- the arena `X` carries the nodes `ns` from index `id` on -/
def Seg (X : List Node) (id : Nat) (ns : List Node) : Prop := ∀ j, j < ns.length → X[id + j]? = ns[j]?

theorem Seg.append {X : List Node} {id : Nat} {a b : List Node} (h : Seg X id (a ++ b)) :
    Seg X id a ∧ Seg X (id + a.length) b := by
  constructor
  · intro j hj
    have := h j (by simp; omega)
    rw [this, List.getElem?_append_left hj]
  · intro j hj
    have := h (a.length + j) (by simp; omega)
    rw [← Nat.add_assoc] at this
    rw [this, List.getElem?_append_right (by omega)]
    simp

theorem seg_self (A ns : List Node) : Seg (A ++ ns) A.length ns := by
  intro j hj
  rw [List.getElem?_append_right (by omega)]
  simp

theorem seg_refl (ns : List Node) : Seg ns 0 ns := by
  simpa using seg_self [] ns

theorem Seg.node {X : List Node} {par : Option Nat} {lvl id : Nat} {t : Str} {s d : List Str} {cs : List Tree}
    (h : Seg X id (flat par lvl id (.node t s d cs))) :
    X[id]? = some { title := t, parent := par, settings := s, data := d, children := childIds (id + 1) cs, level := lvl } ∧
    Seg X (id + 1) (flats (some id) (lvl + 1) (id + 1) cs) := by
  have h0 := h 0 (by simp [flat])
  simp only [Nat.add_zero, flat, List.getElem?_cons_zero] at h0
  exact ⟨h0, by simpa using (Seg.append (a := [_]) (by simpa [flat] using h)).2⟩

theorem Seg.trees {X : List Node} {par : Option Nat} {lvl id : Nat} {c : Tree} {cs : List Tree}
    (h : Seg X id (flats par lvl id (c :: cs))) :
    Seg X id (flat par lvl id c) ∧ Seg X (id + c.size) (flats par lvl (id + c.size) cs) := by
  simp only [flats] at h
  have := Seg.append h
  rwa [flat_length] at this

theorem sizes_ge {c : Tree} {cs : List Tree} (h : c ∈ cs) : c.size ≤ sizes cs := by
  induction cs with
  | nil => cases h
  | cons a r ih =>
    rcases List.mem_cons.1 h with e | h
    · subst e; simp [sizes]
    · have := ih h; simp [sizes]; omega

mutual
theorem toTree_flat : ∀ (t : Tree) (par : Option Nat) (lvl id : Nat) (X : List Node) (fuel : Nat),
    Seg X id (flat par lvl id t) → t.size ≤ fuel → toTree X fuel id = t
  | .node t s d cs, par, lvl, id, X, fuel, hseg, hf => by
    cases fuel with
    | zero => simp [Tree.size] at hf
    | succ f =>
      obtain ⟨h0, hs⟩ := hseg.node
      simp only [toTree, h0]
      rw [toTrees_flats cs (some id) (lvl + 1) (id + 1) X f hs (by simp [Tree.size] at hf; omega)]
theorem toTrees_flats : ∀ (cs : List Tree) (par : Option Nat) (lvl id : Nat) (X : List Node) (fuel : Nat),
    Seg X id (flats par lvl id cs) → sizes cs ≤ fuel → (childIds id cs).map (fun c => toTree X fuel c) = cs
  | [], _, _, _, _, _, _, _ => by simp [childIds]
  | c :: cs, par, lvl, id, X, fuel, hseg, hf => by
    obtain ⟨h1, h2⟩ := hseg.trees
    simp only [sizes] at hf
    simp only [childIds, List.map_cons]
    rw [toTree_flat c par lvl id X fuel h1 (by omega), toTrees_flats cs par lvl (id + c.size) X fuel h2 (by omega)]
end

theorem toForest_flats (ts : List Tree) : toForest (flats none 0 0 ts) (childIds 0 ts) = ts := by
  unfold toForest
  exact toTrees_flats ts none 0 0 _ _ (seg_refl _) (by rw [flats_length]; exact Nat.le_refl _)

mutual
theorem printNode_flat : ∀ (t : Tree) (par : Option Nat) (lvl id : Nat) (X : List Node) (fuel : Nat),
    Seg X id (flat par lvl id t) → t.size ≤ fuel → printNode X fuel id = printTree lvl t
  | .node t s d cs, par, lvl, id, X, fuel, hseg, hf => by
    cases fuel with
    | zero => simp [Tree.size] at hf
    | succ f =>
      obtain ⟨h0, hs⟩ := hseg.node
      simp only [printNode, h0, printTree, headerLine, endLine]
      rw [printNodes_flats cs (some id) (lvl + 1) (id + 1) X f hs (by simp [Tree.size] at hf; omega)]
      simp [List.append_assoc]
theorem printNodes_flats : ∀ (cs : List Tree) (par : Option Nat) (lvl id : Nat) (X : List Node) (fuel : Nat),
    Seg X id (flats par lvl id cs) → sizes cs ≤ fuel →
    (childIds id cs).flatMap (fun c => printNode X fuel c) = printTrees lvl cs
  | [], _, _, _, _, _, _, _ => by simp [childIds, printTrees]
  | c :: cs, par, lvl, id, X, fuel, hseg, hf => by
    obtain ⟨h1, h2⟩ := hseg.trees
    simp only [sizes] at hf
    simp only [childIds, List.flatMap_cons, printTrees]
    rw [printNode_flat c par lvl id X fuel h1 (by omega), printNodes_flats cs par lvl (id + c.size) X fuel h2 (by omega)]
end

theorem printLines_flats : ∀ (ts : List Tree) (X : List Node) (id : Nat), Seg X id (flats none 0 id ts) →
    sizes ts ≤ X.length → printLines X (childIds id ts) = printForest ts
  | [], _, _, _, _ => by simp [childIds, printLines, printForest]
  | [r], X, id, hseg, hf => by
    simp only [flats, List.append_nil] at hseg
    simp only [sizes, Nat.add_zero] at hf
    simp only [childIds, printLines, printForest]
    exact printNode_flat r none 0 id X _ hseg hf
  | r :: r' :: rs, X, id, hseg, hf => by
    obtain ⟨h1, h2⟩ := hseg.trees
    have hf' : r.size + sizes (r' :: rs) ≤ X.length := by simpa [sizes] using hf
    have ih := printLines_flats (r' :: rs) X (id + r.size) h2 (by omega)
    simp only [childIds] at ih ⊢
    simp only [printLines, printForest]
    rw [printNode_flat r none 0 id X _ h1 (by omega), ih]

def NoBrk (l : Str) : Prop := ∀ c ∈ l, c ≠ '\n' ∧ c ≠ '\r'

instance (l : Str) : Decidable (NoBrk l) := inferInstanceAs (Decidable (∀ c ∈ l, c ≠ '\n' ∧ c ≠ '\r'))

theorem noBrk_of_noWs {l : Str} (h : ∀ c ∈ l, isWs c = false) : NoBrk l := by
  intro c hc
  have := h c hc
  constructor <;> (intro e; subst e; simp [isWs] at this)

theorem noBrk_spaces (n : Nat) : NoBrk (spaces n) := by
  intro c hc
  simp only [spaces, List.mem_replicate] at hc
  rw [hc.2]; decide

theorem NoBrk.append {a b : Str} (ha : NoBrk a) (hb : NoBrk b) : NoBrk (a ++ b) := by
  intro c hc
  rcases List.mem_append.1 hc with h | h
  · exact ha c h
  · exact hb c h

theorem noBrk_join (s : List Str) (hs : ∀ x ∈ s, IsTok x) : NoBrk (join [' '] s) := by
  induction s with
  | nil => intro c hc; simp [join] at hc
  | cons a r ih =>
    cases r with
    | nil => simpa [join] using noBrk_of_noWs (hs a (by simp)).2
    | cons b r' =>
      simp only [join]
      exact (NoBrk.append (noBrk_of_noWs (hs a (by simp)).2) (by decide)).append
        (ih (fun x hx => hs x (List.mem_cons_of_mem _ hx)))

theorem dataOk_noBrk {l : Str} (h : dataOk l = true) : NoBrk l := by
  cases l with
  | nil => simp [dataOk] at h
  | cons c r =>
    simp only [dataOk, Bool.and_eq_true, List.all_eq_true, bne_iff_ne, ne_eq] at h
    intro x hx
    exact h.2 x hx

mutual
theorem noBrk_printTree : ∀ (t : Tree) (lvl : Nat), t.ok = true → ∀ l ∈ printTree lvl t, NoBrk l
  | .node t s d cs, lvl, hok, l, hl => by
    obtain ⟨ht, _, _, hs, hd, hcs⟩ := ok_node hok
    have hamp : NoBrk ['&'] := by decide
    simp only [printTree, List.mem_cons, List.mem_append, List.mem_map, List.not_mem_nil, or_false] at hl
    rcases hl with rfl | ⟨x, hx, rfl⟩ | h | rfl
    · refine ((noBrk_spaces _).append hamp).append (noBrk_of_noWs ht.2) |>.append ?_
      by_cases he : s = []
      · simp only [he, if_true]; decide
      · simp only [he, if_false]
        exact NoBrk.append (a := [' ']) (by decide) (noBrk_join s hs)
    · exact ((noBrk_spaces _).append (by decide)).append (dataOk_noBrk (hd x hx))
    · exact noBrk_printTrees cs (lvl + 1) hcs l h
    · exact ((noBrk_spaces _).append (by decide)).append (noBrk_of_noWs ht.2)
theorem noBrk_printTrees : ∀ (cs : List Tree) (lvl : Nat), okTs cs = true → ∀ l ∈ printTrees lvl cs, NoBrk l
  | [], _, _, l, hl => by simp [printTrees] at hl
  | c :: cs, lvl, hok, l, hl => by
    simp only [okTs, Bool.and_eq_true] at hok
    simp only [printTrees, List.mem_append] at hl
    rcases hl with h | h
    · exact noBrk_printTree c lvl hok.1 l h
    · exact noBrk_printTrees cs lvl hok.2 l h
end

theorem noBrk_printForest : ∀ (ts : List Tree), okTs ts = true → ∀ l ∈ printForest ts, NoBrk l
  | [], _, l, hl => by simp [printForest] at hl
  | [r], hok, l, hl => by
    simp only [okTs, Bool.and_eq_true] at hok
    exact noBrk_printTree r 0 hok.1 l (by simpa [printForest] using hl)
  | r :: r' :: rs, hok, l, hl => by
    simp only [okTs, Bool.and_eq_true] at hok
    have hok' : okTs (r' :: rs) = true := by simp only [okTs, Bool.and_eq_true]; exact hok.2
    simp only [printForest, List.mem_append, List.mem_singleton] at hl
    rcases hl with (h | rfl) | h
    · exact noBrk_printTree r 0 hok.1 l h
    · decide
    · exact noBrk_printForest (r' :: rs) hok' l h

theorem splitLinesGo_line (l rest acc : Str) (h : NoBrk l) :
    splitLinesGo (l ++ '\n' :: rest) acc = (acc.reverse ++ l) :: splitLinesGo rest [] := by
  induction l generalizing acc with
  | nil => simp [splitLinesGo]
  | cons c t ih =>
    have hc := h c (by simp)
    have := ih (c :: acc) (fun x hx => h x (List.mem_cons_of_mem _ hx))
    simp only [List.cons_append, splitLinesGo, hc.1, hc.2, decide_false, Bool.or_self, Bool.false_eq_true, if_false]
    rw [this]; simp

theorem splitLines_unlines : ∀ (ls : List Str), (∀ l ∈ ls, NoBrk l) → splitLines (unlines ls) = ls ++ [[]] := by
  intro ls
  induction ls with
  | nil => intro _; rfl
  | cons l t ih =>
    intro h
    have iht := ih (fun x hx => h x (List.mem_cons_of_mem _ hx))
    simp only [splitLines, unlines, List.append_assoc, List.singleton_append] at iht ⊢
    rw [splitLinesGo_line l _ [] (h l (by simp)), iht]
    simp

end Infretis.Cp2k
