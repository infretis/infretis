import Infretis.Lemmas.RepexC03Sys
/-!
# C03 — the two kinds of start states (`Init`: fresh, `InitR`: after a restart; `Start`), and the direct reading of
the zero-swap precondition off `pick`
-/
namespace Infretis.Repex
open Infretis.Perm

/-- The state `scheduler()` starts from on a fresh start: what `load_paths` leaves behind
    (every ensemble slot idle and holding its own path, numbers below `trajNum`, only the ghost
    locked), nothing in flight, nothing recorded from a restart file, `toinitiate = workers`. -/
structure Init (y : Sys) : Prop where
  jobs : y.jobs = []
  n2 : 2 ≤ y.s.n
  lenW : y.s.W.length = y.s.n
  lenT : y.s.trajs.length = y.s.n
  locks : y.s.locks = List.replicate (y.s.n - 1) false ++ [true]
  live : ∀ e, e < y.s.n - 1 → ∃ pn, y.s.trajs[e]? = some (some pn) ∧ pn < y.s.trajNum
  inj : ∀ a b pn, a < y.s.n - 1 → b < y.s.n - 1 →
    y.s.trajs[a]? = some (some pn) → y.s.trajs[b]? = some (some pn) → a = b
  locked0 : y.s.locked0 = []
  toinit : y.s.toinitiate = (y.s.workers : Int)

/-- the invariant at a start: every slot idle with its own path, only the ghost locked, nothing in
    flight, the recorded jobs (if any) reserved -/
theorem invR_of_fields {y : Sys} (hjobs : y.jobs = []) (hn : 2 ≤ y.s.n) (lenW : y.s.W.length = y.s.n)
    (lenT : y.s.trajs.length = y.s.n)
    (hlocks : y.s.locks = List.replicate (y.s.n - 1) false ++ [true])
    (live : ∀ e, e < y.s.n - 1 → ∃ pn, y.s.trajs[e]? = some (some pn) ∧ pn < y.s.trajNum)
    (inj : ∀ a b pn, a < y.s.n - 1 → b < y.s.n - 1 →
      y.s.trajs[a]? = some (some pn) → y.s.trajs[b]? = some (some pn) → a = b)
    (resv : Resv y.s) (toinit : y.s.toinitiate = (y.s.workers : Int)) : InvR y := by
  constructor
  · rw [hjobs]
    constructor
    · exact hn
    · exact lenW
    · exact lenT
    · rw [hlocks]; simp; omega
    · rw [hlocks, List.getElem?_append_right (by simp)]; simp
    · intro e he
      rw [hlocks, List.getElem?_append_left (by simpa using he)]
      simp [held, he]
    · simp [held]
    · intro e pn hm; simp [held] at hm
    · exact live
    · exact inj
    · exact fun _ => resv
  · rw [hjobs]; simp
  · rw [hjobs]; simp
  · rw [toinit]
  · rw [hjobs]; simp
  · rw [hjobs]; simp

theorem Init.invR {y : Sys} (h : Init y) : InvR y :=
  invR_of_fields h.jobs h.n2 h.lenW h.lenT h.locks h.live h.inj (Resv.ofNil h.locked0) h.toinit

theorem Init.inv {y : Sys} (h : Init y) : Inv y :=
  h.invR.inv h.locked0

theorem mkPicked_go_length (child : Stream) (pairs : List (Int × Option Nat)) (j : Nat) (ps : List Picked)
    (h : mkPicked.go child j pairs = .ok ps) : ps.length = pairs.length := by
  obtain ⟨L, rfl, rfl⟩ := mkPickedGo_ok_iff.mp h
  simp

theorem pickCore_two_idle {s s' : St} (o : PickOutcome) (pairs : List (Int × Option Nat))
    (ds : List Draw) (hW : s.W.length = s.locks.length) (hp : pickCore s o = .ok (s', pairs, ds))
    (h2 : pairs.length = 2) : s.locks[0]? = some false ∧ s.locks[1]? = some false := by
  obtain ⟨hpos, s2, hl, hcase⟩ := pickCore_parts hp
  have hle := (probMatrix_ne_zero s.W s.locks hW o.t o.e (ne_of_gt hpos)).2.1
  rcases hcase with ⟨hzs, _⟩ | ⟨_, _, rfl, _⟩
  · rw [(lock_ok hl).2] at hzs
    rcases (zsPossible_set s.locks o.e).mp hzs with ⟨he, h0⟩ | ⟨he, h1⟩
    · exact ⟨h0, he ▸ hle⟩
    · exact ⟨he ▸ hle, h1⟩
  · simp at h2

theorem pick_two_idle {s s' : St} (o : PickOutcome) (ps : List Picked) (ds : List Draw)
    (hW : s.W.length = s.locks.length) (hp : pick s o = .ok (s', ps, ds)) (h2 : ps.length = 2) :
    s.locks[0]? = some false ∧ s.locks[1]? = some false := by
  obtain ⟨s1, pairs, hpc, hmk, _⟩ := pick_parts hp
  unfold mkPicked at hmk
  exact pickCore_two_idle o pairs ds hW hpc (by rw [← mkPicked_go_length _ pairs 0 ps hmk]; exact h2)

/-- The state `scheduler()` starts from after a RESTART: what `setup_config` (restart branch) +
    `REPEX_state.__init__` + `load_paths` rebuild from `restart.toml` — every ensemble slot idle and
    holding its own path (numbers below `trajNum`), only the ghost locked, nothing in flight yet,
    `locked = []`, `toinitiate = workers`, and `locked0` = the jobs that were in flight at the stop,
    still to be re-issued: their recorded slots are pairwise distinct, each recorded path sits in its
    recorded slot with a non-zero weight in that ensemble, and each record is one ensemble or exactly
    `[0-],[0+]` (`Resv`). -/
structure InitR (y : Sys) : Prop where
  jobs : y.jobs = []
  n2 : 2 ≤ y.s.n
  lenW : y.s.W.length = y.s.n
  lenT : y.s.trajs.length = y.s.n
  locks : y.s.locks = List.replicate (y.s.n - 1) false ++ [true]
  live : ∀ e, e < y.s.n - 1 → ∃ pn, y.s.trajs[e]? = some (some pn) ∧ pn < y.s.trajNum
  inj : ∀ a b pn, a < y.s.n - 1 → b < y.s.n - 1 →
    y.s.trajs[a]? = some (some pn) → y.s.trajs[b]? = some (some pn) → a = b
  resv : Resv y.s
  locked : y.s.locked = []
  toinit : y.s.toinitiate = (y.s.workers : Int)

theorem InitR.inv {y : Sys} (h : InitR y) : InvR y :=
  invR_of_fields h.jobs h.n2 h.lenW h.lenT h.locks h.live h.inj h.resv h.toinit

/-- a history starts from a fresh start or from a restart -/
def Start (y : Sys) : Prop := Init y ∨ InitR y

theorem Start.jobs {y : Sys} (h : Start y) : y.jobs = [] :=
  h.elim (·.jobs) (·.jobs)

theorem Start.inv {y : Sys} (h : Start y) : InvR y := by
  rcases h with h | h
  · exact h.invR
  · exact h.inv

theorem reach_invR {y0 y : Sys} {evs : List Ev} (h0 : Start y0) (hr : run y0 evs = .ok y) : InvR y :=
  run_preservesR evs h0.inv hr

end Infretis.Repex
