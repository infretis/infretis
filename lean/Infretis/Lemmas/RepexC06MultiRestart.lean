import Infretis.Lemmas.RepexC06Multi
import Infretis.Lemmas.RepexC06RestoreFull
import Infretis.Lemmas.RepexC07Reissue
/-
C06: the restart step with several workers.

At a stop with W > 1 workers the restart file lists the jobs still in flight (`locked`, with the ordinals of their
streams).  The restarted process loads the active paths into their slots (all unlocked), then its initiation loop
re-issues the recorded jobs one after the other (`pick_lock`: find the path, swap it into the recorded slot — it is
there already —, lock the slot, derive the streams from the recorded ordinal), then picks one fresh job from the
restored stream position, and closes.  The state reached is the one the uninterrupted run has after it handed the
freed worker its next job — up to which worker holds which job (`RM`).
-/
namespace Infretis.Repex

/-- the sampler after the initiation loop has re-issued recorded jobs: only the locks, the two records, the engine
    table, the current worker and the initiation counter differ -/
def reState (s : St) (pairs : List (Nat × Nat)) (ents : List (List Int × List Nat)) (ords : List Nat)
    (rest : List (List Nat × List Nat)) (ordRest : List (Option Nat)) (occ' : List (List Int)) (cw : Nat) (k : Int) : St :=
  { s with locks := lockAll pairs s.locks, locked := s.locked ++ ents, lockedOrd := s.lockedOrd ++ ords,
           locked0 := rest, locked0Ord := ordRest, occ := occ', cworker := cw, toinitiate := s.toinitiate - k }

/-- with every recorded path in its recorded slot the re-issue phase (`reissue_phase`) moves nothing -/
theorem reissue_run_state (recs : List ((List Nat × List Nat) × Nat)) (starts : List (PickOutcome × Nat)) (y y' : Sys)
    (rest : List (List Nat × List Nat)) (ordRest : List (Option Nat))
    (hlen : starts.length = recs.length) (h0 : y.s.locked0 = recs.map (·.1) ++ rest)
    (h0o : y.s.locked0Ord = recs.map (fun r => some r.2) ++ ordRest)
    (hin : ∀ x ∈ recs.flatMap (fun r => recPairs r.1), y.s.trajs[x.1]? = some (some x.2) ∧ x.1 + 1 < y.s.trajs.length)
    (hu : UniqLive y.s.trajs) (hrun : run y (starts.map (fun x => Ev.start x.1 x.2)) = .ok y') :
    ∃ jobs occ' cw, y'.jobs = y.jobs ++ jobs ∧
      jobs.map jobKey = recs.map (fun r => (recJobFull y.s.entropy r.2 r.1, (recPairs r.1).map (·.2))) ∧
      y'.s = reState y.s (recs.flatMap (fun r => recPairs r.1)) (recs.map (fun r => recEntry r.1)) (recs.map (·.2))
               rest ordRest occ' cw (recs.length : Int) := by
  obtain ⟨jobs, s1, pairs, occ', cw, k1, k2, kR, kS, _⟩ := reissue_phase recs starts hlen h0 h0o hrun
  obtain ⟨rfl, _⟩ := kR.inplace hin hu
  exact ⟨jobs, occ', cw, k1, k2, kS⟩

/-- after the re-issue phase the rebuilt sampler, with the stream position of the stop, is observationally the
    stopped one; the worker, the initiation counter, the engine table and the restore flag are not compared -/
theorem RestoreRelM.obs {occ : List (List Int)} {recs : List ((List Nat × List Nat) × Nat)} {s s' : St} {jobs : List Job}
    (hR : RestoreRelM occ recs s s') (hS : StopM recs s jobs) (occ' : List (List Int)) (cw cw' : Nat) (k ti : Int)
    (g : Bool) :
    ObsR False 0 s.rows [] s
      { reState s' (recs.flatMap fun r => recPairs r.1) (recs.map fun r => recEntry r.1) (recs.map (·.2)) [] [] occ' cw
          k with cworker := cw', toinitiate := ti, mainDraws := s.mainDraws, rgenRestored := g } :=
  ⟨hR.n.symm, hR.W.symm, hR.trajs.symm, hR.locks.symm,
    by simp only [reState, hR.locked, List.nil_append]; exact hS.locked,
    hS.locked0,
    by simp only [reState, hR.lockedOrd, List.nil_append]; exact hS.lockedOrd,
    hS.locked0Ord, hR.workers.symm, hR.cstep.symm, hR.tsteps.symm, hR.trajNum.symm, hR.frac, hR.wts,
    hR.ensEng.symm, hR.seed.symm, hR.entropy.symm, hR.spawned.symm, rfl, fun f => f.elim, fun f => f.elim,
    ⟨[], by simp, by simp [reState, hR.rows]⟩⟩

theorem restart_step_multi {occ : List (List Int)} {recs : List ((List Nat × List Nat) × Nat)} {s2 s' : St}
    (job : Job) (restJobs : List Job) (o : PickOutcome)
    (hR : RestoreRelM occ recs s2 s') (hS : StopM recs s2 restJobs)
    {yU : Sys} (hU : stepPrep (s2, job, restJobs) o = .ok yU) (hmore : s2.cstep + s2.workers ≤ s2.tsteps)
    (starts : List (PickOutcome × Nat)) (hlen : starts.length = recs.length)
    {y1 y2 yR : Sys} (h1 : run { s := s', jobs := [] } (starts.map (fun x => Ev.start x.1 x.2)) = .ok y1)
    (h2 : sysStep y1 (.start o s2.mainDraws) = .ok y2) (h3 : sysStep y2 .initDone = .ok yR) :
    RM s2.rows [] yU yR := by
  obtain ⟨jobs, occ1, cw1, hj1, hk1, hs1⟩ := reissue_run_state recs starts _ y1 [] [] hlen
    (by simp [hR.locked0]) (by simp [hR.locked0Ord])
    (by intro x hx; show s'.trajs[x.1]? = _ ∧ x.1 + 1 < s'.trajs.length; rw [hR.trajs]; exact hS.inplace x hx)
    (by show UniqLive s'.trajs; rw [hR.trajs]; exact hS.uniq) h1
  simp only [List.nil_append] at hj1
  simp only [] at hs1 hk1
  -- the uninterrupted side
  have hneg : ¬ s2.toinitiate ≥ 0 := by rw [hS.toinitiate]; omega
  rw [stepPrep_eq, if_pos hmore, prep_eq] at hU
  obtain ⟨⟨a3, jobU, dsU⟩, hU, hyU⟩ := bind_ok_iff.mp hU
  obtain ⟨⟨a1, ps, ds⟩, ha, ha3⟩ := bind_ok_iff.mp hU
  cases hyU
  simp only [pickPart, hneg, if_false] at ha ha3
  -- the restarted side: the fresh start
  obtain ⟨_, hst2⟩ := Step.of_ok h2
  clear h2
  cases hst2 with
  | start hgo hs2 =>
  cases hs2 with
  | @mk b3 jobR dsR h2 =>
  obtain ⟨_, hpos, hroom, hI⟩ := initiate_go hgo
  have hti : (initiate y1.s).1.toinitiate ≥ 0 := by rw [hI]; show y1.s.toinitiate - 1 ≥ 0; omega
  rw [prep_eq] at h2
  obtain ⟨⟨b1, ps', ds'⟩, hb, hb3⟩ := bind_ok_iff.mp h2
  simp only [pickPart, hti, if_true] at hb hb3
  generalize hz : (initiate y1.s).1 = z at hb hb3 hI hti
  have hzl0 : z.locked0 = [] := by rw [hI, hs1]; rfl
  have hzr : z.restarted = true := by rw [hI, hs1]; exact hR.restarted
  have hzg : z.rgenRestored = false := by rw [hI, hs1]; exact hR.rgenRestored
  rw [pickLock_restored hzl0 hzr hzg] at hb
  have hb0 : ObsR False 0 s2.rows [] s2 { z with mainDraws := s2.mainDraws, rgenRestored := true } := by
    rw [hI, hs1]
    exact hR.obs hS occ1 cw1 _ (recs.length : Int) _ true
  have hp1 := pick_rel hb0 o
  rw [ha, hb] at hp1
  obtain ⟨hq, hq'⟩ := hp1
  simp only [Prod.mk.injEq] at hq'
  obtain ⟨rfl, rfl⟩ := hq'
  simp only [] at hq
  have hobs3 := prepTail_obs hq ha3 hb3
  have hkey := prepTail_key ha3 hb3
  have fa := pick_touches ha
  have fb := pick_touches hb
  have fa3 := prepTail_touches ha3
  have fb3 := prepTail_touches hb3
  have ha3i : a3.toinitiate = -1 := by rw [fa3.toinitiate, fa.toinitiate]; exact hS.toinitiate
  have hb3i : b3.toinitiate ≥ 0 := by rw [fb3.toinitiate, fb.toinitiate]; exact hti
  have hb3c : b3.cstep < b3.tsteps := by
    rw [fb3.cstep, fb3.tsteps, fb.cstep, fb.tsteps]
    show z.cstep < z.tsteps
    rw [hI, hs1]
    show s'.cstep < s'.tsteps
    rw [hR.cstep, hR.tsteps]
    have := hR.workers
    have h5 : 0 < y1.s.toinitiate := hpos
    rw [hs1] at h5 hroom
    simp only [reState] at h5 hroom
    rw [hR.toinitiate, hR.workers] at h5
    rw [hR.cstep, hR.tsteps, hR.workers, hR.toinitiate, hR.workers] at hroom
    omega
  -- the closing initiate
  obtain ⟨_, hst3⟩ := Step.of_ok h3
  cases hst3 with
  | initDone hnogo =>
  obtain ⟨c, hc⟩ := initiate_nogo_eq hnogo hb3c hb3i
  refine ⟨?_, ha3i, ?_, ?_⟩
  · show ObsR False 0 s2.rows [] a3 (initiate b3).1
    rw [hc]
    exact { hobs3 with toinitiate := fun f => f.elim, occ := fun f => f.elim }
  · show (initiate b3).1.toinitiate = -1
    rw [hc]
  · show JobsEq (restJobs ++ [jobU]) (y1.jobs ++ [jobR])
    apply JobsEq.append _ hkey
    unfold JobsEq
    rw [hS.onRecord, hj1, hk1, hR.entropy]

end Infretis.Repex
