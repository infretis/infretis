import Infretis.Lemmas.ReadersTrr
import Infretis.Lemmas.ReadersTrrData
/-!
# Lemmas for C13: the whole `get_gromacs_frames` generator at byte level (`gRun`) on a well-formed
TRR file is the abstract size-guard machine (`trrRun`) — composition of the header decoding
(`trrHeader_encHeader`), the data layout (`trrData_layout`) and the guard machine.
-/
namespace Infretis.Readers

/-- a TRR frame as GROMACS writes it: header (byte order, 13 ints, two reals) and payload -/
structure GFrame where
  little : Bool
  ns : List Nat
  reals : List Nat
  payload : List Nat

def GFrame.ints (f : GFrame) : List Int := f.ns.map Int.ofNat
def GFrame.enc (f : GFrame) : List Nat := encHeader f.little f.ns f.reals ++ f.payload
def GFrame.hdr (dbl : Bool) (f : GFrame) : THeader :=
  { little := f.little, double := dbl, ints := f.ints, hlen := 76 + 2 * (if dbl then 8 else 4) }
/-- the abstract frame of the guard machine -/
def GFrame.t (dbl : Bool) (f : GFrame) : TFrame := ⟨76 + 2 * (if dbl then 8 else 4), f.payload.length⟩
/-- what `get_data` returns for it: the announced blocks cut out of the payload -/
def GFrame.blocks (f : GFrame) : List (Nat × List Nat) := sliceBlocks (dataFields f.ints) f.payload

structure GFrame.WF (dbl : Bool) (f : GFrame) : Prop where
  len13 : f.ns.length = 13
  small : ∀ n ∈ f.ns, n < 2147483648
  prec : isDouble f.ints = .ok dbl
  reals : f.reals.length = 2 * (if dbl then 8 else 4)
  fields : FieldsOK (if dbl then 8 else 4) (dataFields f.ints)
  payload : f.payload.length = (dataSize f.ints).toNat

def gFile (frames : List GFrame) : List Nat := (frames.map GFrame.enc).flatten

def blocksAt (frames : List GFrame) (k : Nat) : List (Nat × List Nat) :=
  match frames[k]? with
  | some f => f.blocks
  | none => []

/-- an event of the guard machine as an event of the byte-level generator: `yield k` carries frame `k`'s blocks -/
def liftEv (frames : List GFrame) : TEv → GEv
  | .read o l s => .read o l s
  | .yield k => .yield (blocksAt frames k)
  | .wait => .wait

theorem encHeader_length (little : Bool) (ns reals : List Nat) (h : ns.length = 13) :
    (encHeader little ns reals).length = 76 + reals.length := by
  have hv : trrVersion.length = 12 := by decide
  simp only [encHeader, List.length_append, enc32_length, flatMap_enc32_length, h, hv]
  omega

theorem GFrame.WF.hdr_length {dbl : Bool} {f : GFrame} (h : f.WF dbl) :
    (encHeader f.little f.ns f.reals).length = 76 + 2 * (if dbl then 8 else 4) := by
  rw [encHeader_length _ _ _ h.len13, h.reals]

theorem GFrame.WF.enc_length {dbl : Bool} {f : GFrame} (h : f.WF dbl) :
    f.enc.length = (f.t dbl).hsize + (f.t dbl).dsize := by
  simp only [GFrame.enc, List.length_append, h.hdr_length, GFrame.t]

/-- `read_trr_header` on the bytes of a well-formed frame, whatever follows -/
theorem GFrame.WF.header {dbl : Bool} {f : GFrame} (h : f.WF dbl) (post : List Nat) :
    trrHeader (encHeader f.little f.ns f.reals ++ post) = .ok (f.hdr dbl, post) :=
  trrHeader_encHeader f.little dbl f.ns h.len13 h.small h.prec f.reals h.reals post

/-- `get_data` on the payload of a well-formed frame, whatever follows: its blocks; exactly the payload is consumed -/
theorem GFrame.WF.data {dbl : Bool} {f : GFrame} (h : f.WF dbl) (post : List Nat) :
    trrData (f.hdr dbl) (f.payload ++ post) = ⟨.ok f.blocks, post⟩ := by
  have hn : (dataSize (f.hdr dbl).ints).toNat = f.payload.length := h.payload.symm
  rw [(trrData_layout (f.hdr dbl) h.fields (f.payload ++ post)).2.1 (by rw [hn, List.length_append]; omega), hn,
    List.drop_left]
  have ht : fieldsTotal (dataFields (f.hdr dbl).ints) = _ := fieldsTotal_eq_dataSize _ f.ints h.fields
  rw [show sliceBlocks (dataFields (f.hdr dbl).ints) (f.payload ++ post) = f.blocks from
    sliceBlocks_append _ _ _ (by rw [ht, h.payload]; exact Nat.le_refl _)]

theorem gFile_length (dbl : Bool) (fs : List GFrame) (hwf : ∀ f ∈ fs, f.WF dbl) :
    (gFile fs).length = ((fs.map (GFrame.t dbl)).map (fun f => f.hsize + f.dsize)).sum := by
  induction fs with
  | nil => rfl
  | cons f fs ih =>
    simp only [gFile, List.map_cons, List.flatten_cons, List.length_append, List.sum_cons]
    rw [(hwf f (by simp)).enc_length]
    have := ih (fun x hx => hwf x (by simp [hx]))
    simp only [gFile] at this
    rw [this]

theorem tOffset_eq_prefix (dbl : Bool) (frames : List GFrame) (hwf : ∀ f ∈ frames, f.WF dbl) (k : Nat) :
    tOffset (frames.map (GFrame.t dbl)) k = (gFile (frames.take k)).length := by
  rw [gFile_length dbl (frames.take k) (fun f hf => hwf f (List.mem_of_mem_take hf))]
  simp only [tOffset, List.map_take]

theorem gFile_split (frames : List GFrame) (k : Nat) (f : GFrame) (h : frames[k]? = some f) :
    gFile frames = gFile (frames.take k) ++ (encHeader f.little f.ns f.reals ++ (f.payload ++ gFile (frames.drop (k + 1)))) := by
  obtain ⟨hk, hf⟩ := List.getElem?_eq_some_iff.mp h
  have this := (List.take_append_drop k frames).symm
  rw [List.drop_eq_getElem_cons hk, hf] at this
  conv => lhs; rw [this]
  simp only [gFile, List.map_append, List.map_cons, List.flatten_append, List.flatten_cons, GFrame.enc,
    List.append_assoc]

theorem take_drop_mid (A mid post : List Nat) (size : Nat) (h : A.length + mid.length ≤ size) :
    ((A ++ (mid ++ post)).take size).drop A.length = mid ++ post.take (size - A.length - mid.length) := by
  rw [List.take_append, List.take_of_length_le (by omega), List.drop_left, List.take_append,
    List.take_of_length_le (by omega)]

/-- what a read at the offset of frame `k` sees once the frame's header is visible: that header first -/
theorem gFile_header_at (dbl : Bool) (frames : List GFrame) (hwf : ∀ f ∈ frames, f.WF dbl) (k : Nat) (f : GFrame)
    (hf : frames[k]? = some f) (size : Nat)
    (h : tOffset (frames.map (GFrame.t dbl)) k + (76 + 2 * (if dbl then 8 else 4)) ≤ size) :
    ∃ post, ((gFile frames).take size).drop (tOffset (frames.map (GFrame.t dbl)) k)
      = encHeader f.little f.ns f.reals ++ post := by
  rw [tOffset_eq_prefix dbl frames hwf] at h ⊢
  rw [gFile_split frames k f hf]
  exact ⟨_, take_drop_mid _ _ _ _ (by rw [(hwf f (List.mem_of_getElem? hf)).hdr_length]; exact h)⟩

/-- … and behind the header, once the frame's payload is visible: that payload first -/
theorem gFile_payload_at (dbl : Bool) (frames : List GFrame) (hwf : ∀ f ∈ frames, f.WF dbl) (k : Nat) (f : GFrame)
    (hf : frames[k]? = some f) (size : Nat)
    (h : tOffset (frames.map (GFrame.t dbl)) k + (76 + 2 * (if dbl then 8 else 4)) + f.payload.length ≤ size) :
    ∃ post, ((gFile frames).take size).drop (tOffset (frames.map (GFrame.t dbl)) k + (76 + 2 * (if dbl then 8 else 4)))
      = f.payload ++ post := by
  have hA : (gFile (frames.take k) ++ encHeader f.little f.ns f.reals).length
      = tOffset (frames.map (GFrame.t dbl)) k + (76 + 2 * (if dbl then 8 else 4)) := by
    rw [List.length_append, (hwf f (List.mem_of_getElem? hf)).hdr_length, tOffset_eq_prefix dbl frames hwf]
  rw [gFile_split frames k f hf, ← List.append_assoc, ← hA]
  exact ⟨_, take_drop_mid _ _ _ _ (by rw [hA]; exact h)⟩

/-- the byte-level generator and the guard machine are in step -/
structure GRel (dbl : Bool) (frames : List GFrame) (g : GSt) (t : TSt) : Prop where
  alive : g.dead = false
  fpos : g.fpos = t.bytesRead
  br : g.bytesRead = (t.bytesRead : Int)
  hs : g.headerSize = (t.headerSize : Int)
  hs01 : t.headerSize = 0 ∨ t.headerSize = 76 + 2 * (if dbl then 8 else 4)
  pend : match t.pending with
    | none => g.inData = false ∧ t.bytesRead = tOffset (frames.map (GFrame.t dbl)) t.k
    | some d => g.inData = true ∧ ∃ f, frames[t.k]? = some f ∧ g.hdr = some (f.hdr dbl)
        ∧ g.dataSize = dataSize f.ints ∧ d = f.payload.length
        ∧ t.bytesRead = tOffset (frames.map (GFrame.t dbl)) t.k + (76 + 2 * (if dbl then 8 else 4))

theorem gInit_rel (dbl : Bool) (frames : List GFrame) : GRel dbl frames gInit tInit where
  alive := rfl
  fpos := rfl
  br := rfl
  hs := rfl
  hs01 := Or.inl rfl
  pend := by simp [tInit, gInit, tOffset]

theorem H_pos (dbl : Bool) : 0 < 76 + 2 * (if dbl then 8 else 4) := by omega
theorem H_le (dbl : Bool) : 76 + 2 * (if dbl then 8 else 4) ≤ trrHeadSize := by
  cases dbl <;> simp [trrHeadSize]

theorem GFrame.WF.dataSize_eq {dbl : Bool} {f : GFrame} (h : f.WF dbl) : dataSize f.ints = (f.payload.length : Int) := by
  have := h.payload
  have : 0 ≤ dataSize f.ints := (trrData_layout (f.hdr dbl) h.fields []).1
  omega

/-- in step, the generator's header guard (on `Int`s) is the guard machine's -/
theorem GRel.headGuard {dbl : Bool} {frames : List GFrame} {g : GSt} {t : TSt} (hr : GRel dbl frames g t) (size : Nat) :
    (size : Int) ≥ g.bytesRead + (if g.headerSize = 0 then (trrHeadSize : Int) else g.headerSize)
      ↔ size ≥ t.bytesRead + (if t.headerSize = 0 then trrHeadSize else t.headerSize) := by
  rw [hr.br, hr.hs]
  by_cases h0 : t.headerSize = 0
  · rw [if_pos h0, if_pos (by omega)]; omega
  · rw [if_neg h0, if_neg (by omega)]; omega

/-- … and its data guard, inside frame `f` -/
theorem GRel.dataGuard {dbl : Bool} {frames : List GFrame} {g : GSt} {t : TSt} (hr : GRel dbl frames g t) {f : GFrame}
    (hfw : f.WF dbl) (hds : g.dataSize = dataSize f.ints) (size : Nat) :
    (size : Int) ≥ g.bytesRead + g.dataSize ↔ size ≥ t.bytesRead + f.payload.length := by
  rw [hr.br, hds, hfw.dataSize_eq]; omega

theorem gTick_rel (dbl : Bool) (frames : List GFrame) (hwf : ∀ f ∈ frames, f.WF dbl) (size : Nat)
    (hsz : size ≤ (gFile frames).length) (g : GSt) (t : TSt) (hr : GRel dbl frames g t) :
    GRel dbl frames (gTick (gFile frames) size g).1 (trrTick (frames.map (GFrame.t dbl)) size t).1
    ∧ (gTick (gFile frames) size g).2 = (trrTick (frames.map (GFrame.t dbl)) size t).2.map (liftEv frames) := by
  have hpend := hr.pend
  cases hp : t.pending with
  | some d =>
    rw [hp] at hpend
    obtain ⟨hin, f, hf, hhdr, hds, rfl, hoff⟩ := hpend
    have hfw := hwf f (List.mem_of_getElem? hf)
    have hG := hr.dataGuard hfw hds size
    by_cases hg : size ≥ t.bytesRead + f.payload.length
    · -- the data guard passes
      obtain ⟨post, havail⟩ := gFile_payload_at dbl frames hwf t.k f hf size (by rw [← hoff]; exact hg)
      rw [← hoff] at havail
      have hdata := hfw.data post
      rw [← havail] at hdata
      have hused : (((gFile frames).take size).drop t.bytesRead).length - post.length = f.payload.length := by
        rw [havail, List.length_append]; omega
      simp only [gTick, hr.fpos, hin, if_true, hhdr, hG.2 hg, trrTick, hp, hg, hdata, hused, List.map_cons,
        List.map_nil, liftEv, blocksAt, hf]
      refine ⟨⟨hr.alive, rfl, ?_, hr.hs, hr.hs01, rfl, ?_⟩, trivial⟩
      · simp only [hr.br]
        show (t.bytesRead : Int) + dataSize f.ints = ((t.bytesRead + f.payload.length : Nat) : Int)
        rw [hfw.dataSize_eq]; simp
      · have htf : (frames.map (GFrame.t dbl))[t.k]? = some (f.t dbl) := by simp [hf]
        show _ = tOffset _ (t.k + 1)
        rw [tOffset_succ _ t.k (f.t dbl) htf, hoff]
        simp only [GFrame.t]; omega
    · simp only [gTick, hin, if_true, hhdr, mt hG.1 hg, if_false, trrTick, hp, hg, List.map_cons, List.map_nil, liftEv]
      exact ⟨hr, trivial⟩
  | none =>
    rw [hp] at hpend
    obtain ⟨hin, hoff⟩ := hpend
    have hG := hr.headGuard size
    by_cases hg : size ≥ t.bytesRead + (if t.headerSize = 0 then trrHeadSize else t.headerSize)
    · have hHle : 76 + 2 * (if dbl then 8 else 4) ≤ (if t.headerSize = 0 then trrHeadSize else t.headerSize) := by
        rcases hr.hs01 with h0 | h1
        · rw [h0]; simp; exact H_le dbl
        · rw [h1]; have := H_pos dbl
          have hne : ¬ (76 + 2 * (if dbl then 8 else 4) = 0) := by omega
          simp
      cases hf : frames[t.k]? with
      | none =>
        -- past the last frame: the guard cannot pass while size ≤ file length
        exfalso
        have hk : frames.length ≤ t.k := by
          rcases Nat.lt_or_ge t.k frames.length with h' | h'
          · rw [List.getElem?_eq_getElem h'] at hf; cases hf
          · exact h'
        have : t.bytesRead = (gFile frames).length := by
          rw [hoff, tOffset_eq_prefix dbl frames hwf, List.take_of_length_le hk]
        have := H_pos dbl
        omega
      | some f =>
        have hfw := hwf f (List.mem_of_getElem? hf)
        have htf : (frames.map (GFrame.t dbl))[t.k]? = some (f.t dbl) := by simp [hf]
        obtain ⟨post, havail⟩ := gFile_header_at dbl frames hwf t.k f hf size (by rw [← hoff]; omega)
        rw [← hoff] at havail
        have hhd := hfw.header post
        rw [← havail] at hhd
        simp only [gTick, hr.fpos, hin, Bool.false_eq_true, if_false, hG.2 hg, if_true, hhd, trrTick, hp, hg, htf, List.map_cons,
          List.map_nil, liftEv, GFrame.t, GFrame.hdr]
        refine ⟨⟨hr.alive, rfl, ?_, rfl, Or.inr rfl, rfl, f, hf, rfl, rfl, rfl, by rw [hoff]⟩, trivial⟩
        simp only [hr.br]; exact (Int.natCast_add _ _).symm
    · simp only [gTick, hin, Bool.false_eq_true, if_false, mt hG.1 hg, trrTick, hp, hg, List.map_cons, List.map_nil, liftEv]
      exact ⟨hr, trivial⟩

theorem gRun_rel (dbl : Bool) (frames : List GFrame) (hwf : ∀ f ∈ frames, f.WF dbl) (sizes : List Nat)
    (hsz : ∀ s ∈ sizes, s ≤ (gFile frames).length) (g : GSt) (t : TSt) (hr : GRel dbl frames g t) :
    (gRun (gFile frames) sizes g).2 = (trrRun (frames.map (GFrame.t dbl)) sizes t).map (liftEv frames)
    ∧ GRel dbl frames (gRun (gFile frames) sizes g).1
        (sizes.foldl (fun s size => (trrTick (frames.map (GFrame.t dbl)) size s).1) t) := by
  induction sizes generalizing g t with
  | nil => exact ⟨by simp [gRun, trrRun], by simpa [gRun] using hr⟩
  | cons s ss ih =>
    obtain ⟨h1, h2⟩ := gTick_rel dbl frames hwf s (hsz s (by simp)) g t hr
    obtain ⟨h3, h4⟩ := ih (fun x hx => hsz x (by simp [hx])) _ _ h1
    simp only [gRun, hr.alive, Bool.false_eq_true, if_false, trrRun, List.map_append, List.foldl_cons]
    exact ⟨by rw [h2, h3], h4⟩

def gYield : GEv → Option (List (Nat × List Nat))
  | .yield b => some b
  | _ => none

/-- events that never occur on a well-formed file: swallowed `EOFError`, exception, endless inner loop -/
def gBad : GEv → Bool
  | .stale => true
  | .raise _ => true
  | .spin => true
  | _ => false

theorem gYield_lift (frames : List GFrame) (e : TEv) :
    gYield (liftEv frames e) = (tYield e).map (blocksAt frames) := by
  cases e <;> rfl

theorem range_map_blocksAt (frames : List GFrame) (n : Nat) (h : n ≤ frames.length) :
    (List.range' 0 n).map (blocksAt frames) = (frames.take n).map GFrame.blocks := by
  induction n with
  | zero => simp
  | succ n ih =>
    have hn : n < frames.length := by omega
    rw [List.range'_1_concat, List.map_append, ih (by omega), List.take_succ_eq_append_getElem hn, List.map_append]
    simp [blocksAt, List.getElem?_eq_getElem hn]

theorem gBad_lift (frames : List GFrame) (e : TEv) : gBad (liftEv frames e) = false := by
  cases e <;> rfl

theorem GFrame.t_hsize (dbl : Bool) (frames : List GFrame) :
    ∀ f ∈ frames.map (GFrame.t dbl), f.hsize = 76 + 2 * (if dbl then 8 else 4) := by
  intro f hf
  obtain ⟨g, _, rfl⟩ := List.mem_map.mp hf
  rfl

/-- while the program runs the generator yields the first `n` frames, `n` the guard machine's final count -/
theorem gRun_yields (dbl : Bool) (frames : List GFrame) (hwf : ∀ f ∈ frames, f.WF dbl) (sizes : List Nat)
    (hsz : ∀ s ∈ sizes, s ≤ (gFile frames).length) :
    ∃ n, n ≤ frames.length
      ∧ (gRun (gFile frames) sizes gInit).2.filterMap gYield = (frames.take n).map GFrame.blocks
      ∧ (sizes.foldl (fun s size => (trrTick (frames.map (GFrame.t dbl)) size s).1) tInit).k = n := by
  obtain ⟨n, h1, h2, h3⟩ := trrRun_yields (frames.map (GFrame.t dbl)) _ (GFrame.t_hsize dbl frames) (H_le dbl)
    (H_pos dbl) sizes tInit (tInit_inv _ _) (Nat.zero_le _)
  have hn : n ≤ frames.length := by
    rw [h2] at h3; simpa [tInit] using h3
  refine ⟨n, hn, ?_, by rw [h2]; simp [tInit]⟩
  rw [(gRun_rel dbl frames hwf sizes hsz gInit tInit (gInit_rel dbl frames)).1, List.filterMap_map]
  have : (gYield ∘ liftEv frames) = fun e => (tYield e).map (blocksAt frames) := by
    funext e; exact gYield_lift frames e
  rw [this, ← List.map_filterMap, h1]
  exact range_map_blocksAt frames n hn

theorem gFile_take_le (frames : List GFrame) (k : Nat) :
    (gFile (frames.take k)).length ≤ (gFile frames).length := by
  conv => rhs; rw [← List.take_append_drop k frames]
  simp only [gFile, List.map_append, List.flatten_append, List.length_append]
  omega

theorem frames_le_file (dbl : Bool) (fs : List GFrame) (hwf : ∀ f ∈ fs, f.WF dbl) :
    fs.length ≤ (gFile fs).length := by
  induction fs with
  | nil => simp
  | cons f fs ih =>
    have h1 := (hwf f (by simp)).enc_length
    have h2 := ih (fun x hx => hwf x (by simp [hx]))
    have := H_pos dbl
    simp only [gFile, List.map_cons, List.flatten_cons, List.length_append, List.length_cons] at h2 ⊢
    simp only [GFrame.t] at h1
    omega

/-! ### the final phase `read_remaining_trr` -/

/-- a generator that is neither dead nor inside its inner wait loop goes on with the final phase (which does
    nothing when `bytes_read` has reached the file length) -/
theorem gGen_of_alive (file sizes : List Nat) (hd : (gRun file sizes gInit).1.dead = false)
    (hnd : (gRun file sizes gInit).1.inData = false) :
    gGen file sizes = (gRun file sizes gInit).2
      ++ gRemaining file (file.length + 1) (gRun file sizes gInit).1.bytesRead (gRun file sizes gInit).1.fpos := by
  unfold gGen
  simp only [hd, hnd, Bool.false_eq_true, if_false]
  split
  · rfl
  · rename_i h
    have hge : (gRun file sizes gInit).1.bytesRead ≥ (file.length : Int) := by omega
    simp only [gRemaining, hge, if_true, List.append_nil]

theorem prefix_succ (dbl : Bool) (frames : List GFrame) (hwf : ∀ f ∈ frames, f.WF dbl) (k : Nat) (f : GFrame)
    (hf : frames[k]? = some f) :
    (gFile (frames.take (k + 1))).length
      = (gFile (frames.take k)).length + (76 + 2 * (if dbl then 8 else 4) + f.payload.length) := by
  have htf : (frames.map (GFrame.t dbl))[k]? = some (f.t dbl) := by simp [hf]
  rw [← tOffset_eq_prefix dbl frames hwf, ← tOffset_eq_prefix dbl frames hwf, tOffset_succ _ k _ htf]
  simp [GFrame.t]

/-- from a frame boundary, the unguarded final phase yields every remaining frame once, in order, and
    nothing else happens -/
theorem gRemaining_yields (dbl : Bool) (frames : List GFrame) (hwf : ∀ f ∈ frames, f.WF dbl) (fuel k : Nat)
    (hk : k ≤ frames.length) (hfuel : frames.length - k < fuel) :
    (gRemaining (gFile frames) fuel ((gFile (frames.take k)).length : Nat) (gFile (frames.take k)).length).filterMap gYield
      = (frames.drop k).map GFrame.blocks
    ∧ ∀ e ∈ gRemaining (gFile frames) fuel ((gFile (frames.take k)).length : Nat) (gFile (frames.take k)).length,
        gBad e = false := by
  induction fuel generalizing k with
  | zero => omega
  | succ fuel ih =>
    rcases Nat.lt_or_ge k frames.length with hlt | hge
    · have hf : frames[k]? = some frames[k] := List.getElem?_eq_getElem hlt
      have hfw := hwf frames[k] (List.getElem_mem hlt)
      have hsplit := gFile_split frames k frames[k] hf
      have hlenlt : ¬ (((gFile (frames.take k)).length : Int) ≥ ((gFile frames).length : Int)) := by
        -- a frame boundary in front of a frame lies inside the file
        have h1 := prefix_succ dbl frames hwf k _ hf
        have h2 := gFile_take_le frames (k + 1)
        have := H_pos dbl
        omega
      have hdrop : (gFile frames).drop (gFile (frames.take k)).length
          = encHeader frames[k].little frames[k].ns frames[k].reals
            ++ (frames[k].payload ++ gFile (frames.drop (k + 1))) := by
        conv => lhs; rw [hsplit]
        rw [List.drop_left]
      have hhd := hfw.header (frames[k].payload ++ gFile (frames.drop (k + 1)))
      have hdata := hfw.data (gFile (frames.drop (k + 1)))
      have hused : (frames[k].payload ++ gFile (frames.drop (k + 1))).length - (gFile (frames.drop (k + 1))).length
          = frames[k].payload.length := by rw [List.length_append]; omega
      have hnext := ih (k + 1) (by omega) (by omega)
      rw [prefix_succ dbl frames hwf k _ hf] at hnext
      have hbr : ((gFile (frames.take k)).length : Int) + (((frames[k].hdr dbl).hlen : Nat) : Int)
            + dataSize (frames[k].hdr dbl).ints
          = (((gFile (frames.take k)).length + (76 + 2 * (if dbl then 8 else 4) + frames[k].payload.length) : Nat) : Int) := by
        show ((gFile (frames.take k)).length : Int) + ((76 + 2 * (if dbl then 8 else 4) : Nat) : Int)
            + dataSize frames[k].ints = _
        rw [hfw.dataSize_eq]; push_cast; omega
      have hhl : (frames[k].hdr dbl).hlen = 76 + 2 * (if dbl then 8 else 4) := rfl
      simp only [gRemaining, hlenlt, if_false, hdrop, hhd, hdata, hused, hbr]
      simp only [hhl]
      refine ⟨?_, ?_⟩
      · simp only [List.filterMap_cons, gYield]
        rw [hnext.1, List.drop_eq_getElem_cons hlt, List.map_cons]
      · intro e he
        simp only [List.mem_cons] at he
        rcases he with rfl | rfl | he
        · rfl
        · rfl
        · exact hnext.2 e he
    · have : (gFile (frames.take k)).length = (gFile frames).length := by rw [List.take_of_length_le hge]
      have hge' : (((gFile (frames.take k)).length : Nat) : Int) ≥ ((gFile frames).length : Int) := by omega
      simp only [gRemaining, hge', if_true, List.drop_eq_nil_of_le hge]
      exact ⟨rfl, by intro e he; cases he⟩

end Infretis.Readers
