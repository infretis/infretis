import Infretis.Lemmas.RepexC05Family
import Infretis.Lemmas.WFCv
import Infretis.Model.RepexCv
import Infretis.Lemmas.RepexC05Sys
/-!
# C05 — exactly when `calc_cv_vector` stays in C02's staircase family (wire fencing included)

`WF.cvVector` models `calc_cv_vector`.  Entry `k` (interface `λ_k`) is positive iff
* shooting ensemble: `λ_k ≤ max(order)`;
* wire-fencing ensemble: `0 < weight λ_k c ops` — some frame inside `[λ_k, c)` lies on a valid sub-path
  (`c` = `interface_cap`, else the last interface).
The vector is in the family iff positivity is downward closed (`NoHole`).  A path that never steps from below `λ`
to `≥ c` has positive wire-fencing weight for the band, so order sequences without such a jump give family
vectors, non-zero exactly up to the path's maximum.  The hole vectors of the open finding are exactly the other
side (`C05.cv_vector_hole_needs_jump`).
-/
namespace Infretis.Repex.Cv
open Infretis.WF Infretis.RepexCv

theorem noJumpUp_pair (l r : Int) : ∀ (pre : List Int) (a b : Int) (suf : List Int),
    noJumpUp l r (pre ++ a :: b :: suf) = true → ¬ (a < l ∧ r ≤ b) := by
  intro pre
  induction pre with
  | nil =>
    intro a b suf h
    simp only [List.nil_append, noJumpUp, Bool.and_eq_true, Bool.not_eq_true', Bool.and_eq_false_iff,
      decide_eq_false_iff_not] at h
    omega
  | cons p pre ih =>
    intro a b suf h
    cases pre with
    | nil =>
      simp only [List.cons_append, List.nil_append, noJumpUp, Bool.and_eq_true] at h
      exact ih a b suf (by simpa [noJumpUp] using h.2)
    | cons q pre =>
      simp only [List.cons_append, noJumpUp, Bool.and_eq_true] at h
      exact ih a b suf (by simpa using h.2)

theorem weight_pos_of_noJump (l r : Int) (ops : List Int) (first last pmax : Int)
    (hf : ops.head? = some first) (hfl : first < l)
    (hl : ops.getLast? = some last) (hout : last < l ∨ r ≤ last)
    (hmax : maxOf ops = some pmax) (hreach : l ≤ pmax) (hnj : noJumpUp l r ops = true) :
    0 < weight l r ops := by
  obtain ⟨z, hz, hlz⟩ := (maxOf_ge ops pmax l hmax).1 hreach
  have hsplit : ops.takeWhile (fun y => decide (y < l)) ++ ops.dropWhile (fun y => decide (y < l)) = ops :=
    List.takeWhile_append_dropWhile
  have hbelow : ∀ y ∈ ops.takeWhile (fun y => decide (y < l)), y < l := by
    intro y hy
    have := mem_takeWhile hy
    simpa using this
  cases hd : ops.dropWhile (fun y => decide (y < l)) with
  | nil =>
    rw [hd, List.append_nil] at hsplit
    have := hbelow z (by rw [hsplit]; exact hz)
    omega
  | cons x suf =>
    have hxl : l ≤ x := by
      have := List.head?_dropWhile_not (fun y => decide (y < l)) ops
      rw [hd] at this
      simp only [List.head?_cons, decide_eq_false_iff_not] at this
      omega
    rw [hd] at hsplit
    have hpre : ops.takeWhile (fun y => decide (y < l)) ≠ [] := by
      intro he
      rw [he, List.nil_append] at hsplit
      rw [← hsplit] at hf
      simp only [List.head?_cons, Option.some.injEq] at hf
      omega
    -- the frame just before x
    obtain ⟨pre', a, hpa⟩ : ∃ pre' a, ops.takeWhile (fun y => decide (y < l)) = pre' ++ [a] :=
      ⟨_, _, (List.dropLast_concat_getLast hpre).symm⟩
    have hal : a < l := hbelow a (by rw [hpa]; simp)
    have hxr : x < r := by
      have hops : ops = pre' ++ a :: x :: suf := by rw [← hsplit, hpa]; simp
      have := noJumpUp_pair l r pre' a x suf (by rw [← hops]; exact hnj)
      omega
    rw [← hsplit]
    exact weight_first_crossing_pos l r _ suf x last hpre hbelow ⟨hxl, hxr⟩
      (by rw [hsplit]; exact hl) hout

theorem le_max_of_weight_pos (l r : Int) (ops : List Int) (pmax : Int)
    (hmax : maxOf ops = some pmax) (h : 0 < weight l r ops) : l ≤ pmax := by
  obtain ⟨pre, x, suf, hops, hv⟩ := (weight_pos_iff l r ops).1 h
  simp only [validAt, Bool.and_eq_true] at hv
  have := (inside_iff l r x).1 hv.1
  exact (maxOf_ge ops pmax l hmax).2 ⟨x, by rw [hops]; simp, this.1⟩

/-- entry for interface `lam` with wire-fencing flag `wf` is positive -/
def EntryPos (ops : List Int) (c pmax : Int) (lam : Int) (wf : Bool) : Prop :=
  if wf then 0 < weight lam c ops else lam ≤ pmax

theorem cvVector_entries (ops intfs : List Int) (mv : List Bool) (cap : Option Int) (ws : List Nat)
    (h : cvVector ops intfs mv cap = .ok ws) :
    ∃ pmax i0 ilast, maxOf ops = some pmax ∧ intfs.head? = some i0 ∧ intfs.getLast? = some ilast ∧
      ws.length = intfs.length ∧ ws.getLast? = some 0 ∧
      ∀ (k : Nat) (lam : Int), k + 1 < intfs.length → intfs[k]? = some lam → ∃ (m : Bool) (w : Nat), mv[k]? = some m ∧ ws[k]? = some w ∧
        (0 < w ↔ EntryPos ops (cap.getD ilast) pmax lam m) ∧ (m = false → w ≤ 1) := by
  obtain ⟨pmax, i0, ilast, hmax, hi, hl, hlen, hlast, hent⟩ := cvVector_get h
  refine ⟨pmax, i0, ilast, hmax, hi, hl, hlen, hlast, fun k lam hk hlam => ?_⟩
  obtain ⟨m, w, hm, hw, he⟩ := hent k lam hk hlam
  refine ⟨m, w, hm, hw, ?_⟩
  unfold EntryPos
  cases m with
  | true => exact ⟨computeWeight_pos he, fun h => by cases h⟩
  | false =>
    cases he
    by_cases ha : lam ≤ pmax
    · simp [ha]
    · simp [ha]

/-- positivity is downward closed -/
def StairP (ws : List Nat) : Prop := ∀ (k j wj : Nat), k < j → ws[j]? = some wj → 0 < wj → ∃ wk, ws[k]? = some wk ∧ 0 < wk

theorem ratVec_getD (ws : List Nat) (c : Nat) : (ratVec ws).getD c 0 = (((ws.getD c 0 : Nat)) : Rat) := by
  unfold ratVec
  rw [List.getD_eq_getElem?_getD, List.getD_eq_getElem?_getD, List.getElem?_map]
  cases ws[c]? <;> simp

theorem padN_plus_getD (n : Nat) (e : Int) (he : 0 ≤ e) (ws : List Nat) (c : Nat) :
    (padN n e (ratVec ws)).getD (c + 1) 0 = (((ws.getD c 0 : Nat)) : Rat) := by
  unfold padN
  rw [if_pos he]
  show ((0 : Rat) :: ratVec ws).getD (c + 1) 0 = _
  rw [List.getD_cons_succ, ratVec_getD]

theorem vecOk_iff_stair (n : Nat) (e : Int) (he : 0 ≤ e) (ws : List Nat) (hlen : ws.length + 1 = n)
    (hlast : ws.getLast? = some 0) : VecOk n e (ratVec ws) ↔ StairP ws := by
  have hslot : 1 ≤ (e + 1).toNat := by omega
  have hpadlen : (padN n e (ratVec ws)).length = n := by
    unfold padN ratVec
    rw [if_pos he]
    simp [off]; omega
  constructor
  · intro h k j wj hkj hj hpos
    obtain ⟨cnt, hrow, _⟩ := h.2 hslot
    obtain ⟨_, _, _, hp, hz⟩ := hrow
    have hjlt : j < ws.length := getElem?_lt_of_some hj
    have hgj : ws.getD j 0 = wj := by rw [List.getD_eq_getElem?_getD, hj]; rfl
    have hj1 : j + 1 < 1 + cnt := by
      by_contra hnot
      have := hz (j + 1) (by omega) (by omega)
      rw [padN_plus_getD n e he, hgj] at this
      have : wj = 0 := by exact_mod_cast this
      omega
    have hk := hp (k + 1) (by omega) (by omega)
    rw [padN_plus_getD n e he] at hk
    have hklt : k < ws.length := by omega
    refine ⟨_, List.getElem?_eq_getElem hklt, ?_⟩
    rw [List.getD_eq_getElem?_getD, List.getElem?_eq_getElem hklt] at hk
    exact_mod_cast hk
  · intro h
    refine ⟨fun h0 => by omega, fun _ => ?_⟩
    have hne : ws ≠ [] := by intro e'; simp [e'] at hlast
    have hex : ∃ x ∈ ws, (x == 0) = true :=
      ⟨0, List.mem_of_getLast? hlast, by simp⟩
    have hclt : ws.findIdx (· == 0) < ws.length := List.findIdx_lt_length_of_exists hex
    refine ⟨ws.findIdx (· == 0), ⟨hpadlen, by omega, ?_, ?_, ?_⟩, by omega⟩
    · intro c hc
      have : c = 0 := by omega
      subst this
      unfold padN
      rw [if_pos he]
      rfl
    · intro c h1 h2
      obtain ⟨c', rfl⟩ : ∃ c', c = c' + 1 := ⟨c - 1, by omega⟩
      rw [padN_plus_getD n e he]
      have hc' : c' < ws.findIdx (· == 0) := by omega
      have hnz := List.not_of_lt_findIdx hc'
      rw [List.getD_eq_getElem?_getD, List.getElem?_eq_getElem (by omega)]
      simp only [Option.getD_some]
      have : ws[c'] ≠ 0 := by simpa using hnz
      exact_mod_cast Nat.pos_of_ne_zero this
    · intro c h1 h2
      obtain ⟨c', rfl⟩ : ∃ c', c = c' + 1 := ⟨c - 1, by omega⟩
      rw [padN_plus_getD n e he]
      have hc' : c' < ws.length := by omega
      rw [List.getD_eq_getElem?_getD, List.getElem?_eq_getElem hc']
      simp only [Option.getD_some]
      by_contra hnz
      have hpos : 0 < ws[c']'hc' := by
        rcases Nat.eq_zero_or_pos (ws[c']'hc') with h0 | h0
        · exfalso; apply hnz; rw [h0]; rfl
        · exact h0
      have hz0 : ws[ws.findIdx (· == 0)]'hclt = 0 := by
        have := List.findIdx_getElem (w := hclt)
        simpa using this
      rcases Nat.lt_or_ge (ws.findIdx (· == 0)) c' with hlt | hge
      · obtain ⟨wk, hwk, hwkpos⟩ := h _ c' _ hlt (List.getElem?_eq_getElem hc') hpos
        rw [List.getElem?_eq_getElem hclt, Option.some.injEq] at hwk
        omega
      · have : c' = ws.findIdx (· == 0) := by omega
        subst this
        omega

/-- **no hole**: positivity of the entries of `calc_cv_vector` is downward closed -/
def NoHole (ops intfs : List Int) (mv : List Bool) (c pmax : Int) : Prop :=
  ∀ (k j : Nat) (lk lj : Int) (mk mj : Bool), k < j → j + 1 < intfs.length →
    intfs[k]? = some lk → intfs[j]? = some lj → mv[k]? = some mk → mv[j]? = some mj →
    EntryPos ops c pmax lj mj → EntryPos ops c pmax lk mk

/-- exactly when `calc_cv_vector` is in C02's family: iff there is no hole -/
theorem cvVector_vecOk_iff (n : Nat) (e : Int) (he : 0 ≤ e) (ops intfs : List Int) (mv : List Bool)
    (cap : Option Int) (ws : List Nat) (hn : n = intfs.length + 1)
    (h : cvVector ops intfs mv cap = .ok ws) :
    ∃ pmax ilast, maxOf ops = some pmax ∧ intfs.getLast? = some ilast ∧
      (VecOk n e (ratVec ws) ↔ NoHole ops intfs mv (cap.getD ilast) pmax) := by
  obtain ⟨pmax, i0, ilast, hmax, _, hl, hlen, hlast, hent⟩ := cvVector_entries ops intfs mv cap ws h
  refine ⟨pmax, ilast, hmax, hl, ?_⟩
  rw [vecOk_iff_stair n e he ws (by omega) hlast]
  have hlast0 : ws[ws.length - 1]? = some 0 := by rw [← List.getLast?_eq_getElem?]; exact hlast
  constructor
  · intro hst k j lk lj mk mj hkj hj hik hij hmk hmj hpos
    obtain ⟨mj', wj, hmj', hwj, hiffj, _⟩ := hent j lj hj hij
    rw [hmj] at hmj'; cases hmj'
    obtain ⟨wk, hwk, hwkpos⟩ := hst k j wj hkj hwj (hiffj.2 hpos)
    obtain ⟨mk', wk', hmk', hwk', hiffk, _⟩ := hent k lk (by omega) hik
    rw [hmk] at hmk'; cases hmk'
    rw [hwk] at hwk'; cases hwk'
    exact hiffk.1 hwkpos
  · intro hnh k j wj hkj hwj hpos
    have hjlt : j < ws.length := getElem?_lt_of_some hwj
    have hj1 : j + 1 < intfs.length := by
      by_contra hnot
      have : j = ws.length - 1 := by omega
      subst this
      rw [hwj] at hlast0
      cases hlast0
      omega
    obtain ⟨mj, wj', hmj, hwj', hiffj, _⟩ := hent j _ hj1 (List.getElem?_eq_getElem (by omega))
    rw [hwj] at hwj'; cases hwj'
    obtain ⟨mk, wk, hmk, hwk, hiffk, _⟩ := hent k _ (by omega) (List.getElem?_eq_getElem (by omega))
    exact ⟨wk, hwk, hiffk.2 (hnh k j _ _ mk mj hkj hj1 (List.getElem?_eq_getElem (by omega))
      (List.getElem?_eq_getElem (by omega)) hmk hmj (hiffj.1 hpos))⟩

theorem head_le_of_pairwise {l : List Int} (hs : l.Pairwise (· < ·)) {i0 a : Int} {k : Nat}
    (h0 : l.head? = some i0) (ha : l[k]? = some a) : i0 ≤ a := by
  rw [List.head?_eq_getElem?] at h0
  rcases Nat.eq_zero_or_pos k with rfl | hk
  · rw [h0] at ha; cases ha; exact Int.le_refl _
  · exact Int.le_of_lt (pairwise_getElem? hs hk h0 ha)

theorem noJumpGo_get (c : Int) (ops : List Int) : ∀ (intfs : List Int) (mv : List Bool),
    noJumpGo c ops intfs mv = true → ∀ (k : Nat) (lam : Int), intfs[k]? = some lam → mv[k]? = some true →
      noJumpUp lam c ops = true := by
  intro intfs
  induction intfs with
  | nil => intro mv _ k lam h; simp at h
  | cons a is ih =>
    intro mv h k lam hk hm
    cases mv with
    | nil => simp at hm
    | cons m ms =>
      simp only [noJumpGo, Bool.and_eq_true, Bool.or_eq_true, Bool.not_eq_true'] at h
      cases k with
      | zero =>
        simp only [List.getElem?_cons_zero, Option.some.injEq] at hk hm
        subst hk; subst hm
        rcases h.1 with h1 | h1
        · cases h1
        · exact h1
      | succ k =>
        simp only [List.getElem?_cons_succ] at hk hm
        exact ih ms h.2 k lam hk hm

/-- every wire-fencing ensemble's interface lies at or below the right end of the bands -/
def CapOk (c : CvCfg) : Prop :=
  ∀ (k : Nat) (lam : Int), k + 1 < c.intfs.length → c.intfs[k]? = some lam → c.mv[k]? = some true → lam ≤ capOf c

theorem entryPos_iff_le_max (c : CvCfg) (ops : List Int) (pmax : Int) (hs : c.intfs.Pairwise (· < ·))
    (hnj : noJumpCfg c ops = true) (hmax : maxOf ops = some pmax)
    (k : Nat) (lam : Int) (m : Bool) (hk : k + 1 < c.intfs.length) (hlam : c.intfs[k]? = some lam)
    (hm : c.mv[k]? = some m) : EntryPos ops (capOf c) pmax lam m ↔ lam ≤ pmax := by
  unfold EntryPos
  cases m with
  | false => simp
  | true =>
    simp only [↓reduceIte]
    constructor
    · exact le_max_of_weight_pos lam _ ops pmax hmax
    · intro hreach
      unfold noJumpCfg at hnj
      simp only [Bool.and_eq_true] at hnj
      obtain ⟨hlegal, hgo⟩ := hnj
      have hd : c.intfs.dropLast[k]? = some lam := by
        rw [List.getElem?_dropLast, if_pos (by omega)]; exact hlam
      have hup := noJumpGo_get (capOf c) ops _ _ hgo k lam hd hm
      unfold legalEnds at hlegal
      cases hf : ops.head? with
      | none => simp [hf] at hlegal
      | some first =>
        cases hl : ops.getLast? with
        | none => simp [hf, hl] at hlegal
        | some last =>
          simp only [hf, hl, Bool.and_eq_true, Bool.or_eq_true, decide_eq_true_eq] at hlegal
          have hne : c.intfs ≠ [] := by intro e; rw [e] at hk; simp at hk
          obtain ⟨i0, hi0⟩ : ∃ i0, c.intfs.head? = some i0 := by
            cases hh : c.intfs.head? with
            | none => exact absurd (List.head?_eq_none_iff.mp hh) hne
            | some i0 => exact ⟨i0, rfl⟩
          rw [hi0] at hlegal
          simp only [Option.getD_some] at hlegal
          have h0le := head_le_of_pairwise hs hi0 hlam
          exact weight_pos_of_noJump lam _ ops first last pmax hf (by omega) hl
            (by rcases hlegal.2 with h1 | h1
                · left; omega
                · right; exact h1) hmax hreach hup

/-- the family hypothesis from a condition on order sequences: strictly
    increasing interfaces, a path that starts below `λ_0`, ends below `λ_0` or at/above the cap, and never steps
    from below a wire-fencing interface `λ_k` to at/above the cap (no order between `λ_k` and the cap is needed:
    C10's weight facts hold for every pair of bounds):
    then `calc_cv_vector` is in C02's family and entry `k` is non-zero exactly when `λ_k ≤ max(order)`. -/
theorem cvVector_vecOk_of_noJump (n : Nat) (e : Int) (he : 0 ≤ e) (c : CvCfg) (ops : List Int) (ws : List Nat)
    (hn : n = c.intfs.length + 1) (hs : c.intfs.Pairwise (· < ·))
    (hnj : noJumpCfg c ops = true) (h : cvVector ops c.intfs c.mv c.cap = .ok ws) :
    VecOk n e (ratVec ws) ∧ ∃ pmax, maxOf ops = some pmax ∧
      ∀ (k : Nat) (lam : Int), k + 1 < c.intfs.length → c.intfs[k]? = some lam →
        ∃ w, ws[k]? = some w ∧ (0 < w ↔ lam ≤ pmax) := by
  obtain ⟨pmax, ilast, hmax, hl, hiff⟩ := cvVector_vecOk_iff n e he ops c.intfs c.mv c.cap ws hn h
  obtain ⟨pmax', _, ilast', hmax', _, hl', _, _, hent⟩ := cvVector_entries ops c.intfs c.mv c.cap ws h
  rw [hmax] at hmax'; cases hmax'
  rw [hl] at hl'; cases hl'
  have hc : c.cap.getD ilast = capOf c := by unfold capOf; rw [hl]; rfl
  rw [hc] at hiff hent
  refine ⟨hiff.2 ?_, pmax, hmax, ?_⟩
  · intro k j lk lj mk mj hkj hj hik hij hmk hmj hpos
    rw [entryPos_iff_le_max c ops pmax hs hnj hmax j lj mj hj hij hmj] at hpos
    rw [entryPos_iff_le_max c ops pmax hs hnj hmax k lk mk (by omega) hik hmk]
    have := pairwise_getElem? hs hkj hik hij
    omega
  · intro k lam hk hlam
    obtain ⟨m, w, hm, hw, hpos, _⟩ := hent k lam hk hlam
    exact ⟨w, hw, by rw [hpos]; exact entryPos_iff_le_max c ops pmax hs hnj hmax k lam m hk hlam hm⟩

/-- the new weight vectors of an accepted step are what `calc_cv_vector` computes, in a configuration that may
    contain wire-fencing ensembles, from order sequences that satisfy the no-jump condition -/
def EvCvW (c : CvCfg) (y : Sys) : Ev → Prop
  | .step k status newW _ => status = .acc → y.s.n = c.intfs.length + 1 ∧
      ∀ job, y.jobs[k]? = some job → ∀ pw ∈ job.picked.zip newW,
        (pw.1.ens < 0 → ∃ ops bound pmax ws, WF.maxOf ops = some pmax ∧ bound ≤ pmax ∧
            WF.cvMinus ops bound = .ok ws ∧ pw.2 = ratVec ws) ∧
        (0 ≤ pw.1.ens → ∃ ops ws, noJumpCfg c ops = true ∧
            WF.cvVector ops c.intfs c.mv c.cap = .ok ws ∧ pw.2 = ratVec ws)
  | _ => True

def CvHistW (c : CvCfg) : Sys → List Ev → Prop
  | _, [] => True
  | y, ev :: rest => EvCvW c y ev ∧ ∀ y', sysStep y ev = .ok y' → CvHistW c y' rest

theorem evOk_of_evCvW (c : CvCfg) (hs : c.intfs.Pairwise (· < ·)) (y : Sys) (ev : Ev)
    (h : EvCvW c y ev) : EvOk y ev := by
  cases ev with
  | start o saved => exact trivial
  | initDone => exact trivial
  | step k status newW o =>
    intro hacc job hjob pw hpw
    obtain ⟨hn, hall⟩ := h hacc
    obtain ⟨hminus, hplus⟩ := hall job hjob pw hpw
    rcases Int.lt_or_le pw.1.ens 0 with hneg | hge
    · obtain ⟨ops, bound, pmax, ws, hmax, hb, hcv, hw⟩ := hminus hneg
      rw [hw]
      exact vecOk_of_cvMinus (by omega) hneg hmax hb hcv
    · obtain ⟨ops, ws, hnj, hcv, hw⟩ := hplus hge
      rw [hw]
      exact (cvVector_vecOk_of_noJump y.s.n pw.1.ens hge c ops ws hn hs hnj hcv).1

theorem cvHistW_iff_along (c : CvCfg) : ∀ (evs : List Ev) (y : Sys), CvHistW c y evs ↔ Along (EvCvW c) y evs
  | [], _ => Iff.rfl
  | _ :: rest, _ =>
    and_congr_right fun _ => forall_congr' fun y' => imp_congr_right fun _ => cvHistW_iff_along c rest y'

end Infretis.Repex.Cv

/-! Shooting-only configurations: the entries are `1` where `λ_k ≤ max(order)` and `0` elsewhere; interfaces
increase, so there is no hole. -/
namespace Infretis.Repex
open Cv

theorem noHole_of_shooting (ops intfs : List Int) (mv : List Bool) (c pmax : Int)
    (hs : intfs.Pairwise (· < ·)) (hmv : ∀ b ∈ mv, b = false) : NoHole ops intfs mv c pmax := by
  intro k j lk lj mk mj hkj _ hik hij hmk hmj hpos
  cases hmv mk (List.mem_of_getElem? hmk)
  cases hmv mj (List.mem_of_getElem? hmj)
  have hlt := pairwise_getElem? hs hkj hik hij
  have hpos : lj ≤ pmax := hpos
  show lk ≤ pmax
  omega

/-- the weight vector `calc_cv_vector` computes for a plus path under
    shooting-only moves and strictly increasing interfaces is in C02's family, for every plus
    ensemble `e` of a state with `n = len(interfaces) + 1` slots. -/
theorem cvVector_sh_vecOk (n : Nat) (e : Int) (he : 0 ≤ e) (ops intfs : List Int) (mv : List Bool)
    (cap : Option Int) (ws : List Nat) (hn : n = intfs.length + 1)
    (hs : intfs.Pairwise (· < ·)) (hmv : ∀ b ∈ mv, b = false)
    (h : WF.cvVector ops intfs mv cap = .ok ws) : VecOk n e (ratVec ws) := by
  obtain ⟨pmax, ilast, _, _, hiff⟩ := cvVector_vecOk_iff n e he ops intfs mv cap ws hn h
  exact hiff.2 (noHole_of_shooting ops intfs mv _ pmax hs hmv)

/-- … and a path that crosses the interface of ensemble `e` (what an accepted shooting move
    guarantees) has weight `1` there -/
theorem cvVector_sh_own (ops intfs : List Int) (mv : List Bool) (cap : Option Int) (ws : List Nat)
    (pmax : Int) (hmax : WF.maxOf ops = some pmax) (hmv : ∀ b ∈ mv, b = false)
    (h : WF.cvVector ops intfs mv cap = .ok ws) (e : Nat) (he : e < intfs.length - 1)
    (hcross : intfs[e]'(by omega) ≤ pmax) : ws.getD e 0 = 1 := by
  obtain ⟨pmax', _, _, hmax', _, _, _, _, hent⟩ := cvVector_entries ops intfs mv cap ws h
  rw [hmax] at hmax'
  cases hmax'
  obtain ⟨m, w, hm, hw, hpos, hle⟩ := hent e _ (by omega) (List.getElem?_eq_getElem (by omega))
  cases hmv m (List.mem_of_getElem? hm)
  have hw0 : 0 < w := hpos.2 hcross
  have hw1 := hle rfl
  rw [List.getD_eq_getElem?_getD, hw]
  show w = 1
  omega

theorem evOk_of_evCv (intfs : List Int) (hs : intfs.Pairwise (· < ·)) (y : Sys) (ev : Ev)
    (h : EvCv intfs y ev) : EvOk y ev := by
  cases ev with
  | start o saved => exact trivial
  | initDone => exact trivial
  | step k status newW o =>
    intro hacc job hjob pw hpw
    obtain ⟨hn, hall⟩ := h hacc
    obtain ⟨hminus, hplus⟩ := hall job hjob pw hpw
    rcases Int.lt_or_le pw.1.ens 0 with hneg | hge
    · obtain ⟨ops, bound, pmax, ws, hmax, hb, hcv, hw⟩ := hminus hneg
      rw [hw]
      exact vecOk_of_cvMinus (by omega) hneg hmax hb hcv
    · obtain ⟨ops, mv, cap, ws, hmv, hcv, hw⟩ := hplus hge
      rw [hw]
      exact cvVector_sh_vecOk y.s.n pw.1.ens hge ops intfs mv cap ws hn hs hmv hcv

end Infretis.Repex
