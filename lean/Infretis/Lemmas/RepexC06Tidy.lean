import Infretis.Lemmas.RepexTreatData
import Infretis.Lemmas.RepexLoad
import Infretis.Lemmas.RepexC03Sys
/-
C06: two small invariants the other packages do not carry and `StopState` needs —
  * the ghost slot stays empty and its weight row zero  (tracked as `none ∈ trajs`, `zero row ∈ W`: together with
    C03's "every real slot holds a path" / C05's non-zero diagonal they pin the ghost slot down, and they are
    invariant under the permutations picking and sorting perform, so no index reasoning is needed);
  * the fraction and weight tables have exactly the live paths as keys (same key list in both tables).
`TidyY` carries them along a run together with `PnumOk` (`RepexRun`): every job's `pnum_old` lists its picked paths.
Every fresh start (`FreshLoad`, RepexLoad) has them: `FreshLoad.tidy`.
-/
namespace Infretis.Repex

structure Tidy (s : St) : Prop where
  hasNone : none ∈ s.trajs
  hasZero : List.replicate s.n 0 ∈ s.W
  sameKeys : s.frac.map Prod.fst = s.wts.map Prod.fst
  keysLive : ∀ q, q ∈ s.wts.map Prod.fst ↔ some q ∈ s.trajs

theorem mem_set_of_ne {α : Type} (l : List α) (e : Nat) (x v : α) (hx : x ∈ l)
    (hne : ∀ y, l[e]? = some y → y ≠ x) : x ∈ l.set e v := by
  obtain ⟨i, hi⟩ := List.mem_iff_getElem?.mp hx
  have hie : i ≠ e := by
    intro h; subst h; exact hne x hi rfl
  apply List.mem_iff_getElem?.mpr
  exact ⟨i, by rw [List.getElem?_set_ne (Ne.symm hie)]; exact hi⟩

theorem mem_set_iff {α : Type} (l : List α) (e : Nat) (x y : α) (he : e < l.length) :
    y ∈ l.set e x ↔ y = x ∨ ∃ i, i ≠ e ∧ l[i]? = some y := by
  constructor
  · intro h
    obtain ⟨i, hi⟩ := List.mem_iff_getElem?.mp h
    by_cases hie : i = e
    · subst hie
      rw [List.getElem?_set_self he] at hi
      left; simpa using hi.symm
    · right
      rw [List.getElem?_set_ne (Ne.symm hie)] at hi
      exact ⟨i, hie, hi⟩
  · intro h
    apply List.mem_iff_getElem?.mpr
    rcases h with h | ⟨i, hie, hi⟩
    · exact ⟨e, by rw [List.getElem?_set_self he, h]⟩
    · exact ⟨i, by rw [List.getElem?_set_ne (Ne.symm hie)]; exact hi⟩

theorem zeroRow_ne_of_entry {n e : Nat} {r : List Rat} (h : r.getD e 0 ≠ 0) : r ≠ List.replicate n 0 := by
  intro hr
  exact h (hr ▸ getD_replicate_self n e 0)

theorem ghost_none_of {s : St} {H : List (Nat × Nat)} {tn : Nat} (hc : CoreR s H tn) (hn : none ∈ s.trajs) :
    s.trajs[s.n - 1]? = some none := by
  obtain ⟨i, hi⟩ := List.mem_iff_getElem?.mp hn
  have hil : i < s.trajs.length := getElem?_lt_of_some hi
  rw [hc.lenT] at hil
  by_cases h : i < s.n - 1
  · obtain ⟨pn, hpn, _⟩ := hc.live i h
    rw [hpn] at hi; simp at hi
  · have : i = s.n - 1 := by omega
    rw [← this]; exact hi

theorem slot_lt_of_some {s : St} {H : List (Nat × Nat)} {tn : Nat} (hc : CoreR s H tn) (hn : none ∈ s.trajs)
    {i q : Nat} (hi : s.trajs[i]? = some (some q)) : i < s.n - 1 := by
  have hil : i < s.trajs.length := getElem?_lt_of_some hi
  rw [hc.lenT] at hil
  by_contra h
  have : i = s.n - 1 := by omega
  rw [this, ghost_none_of hc hn] at hi
  simp at hi

/-- the per-ensemble loop of `treat_output`: `D` = paths already replaced (pending removal from the tables; none of
    them is live any more) -/
theorem perEns_tidy {status : Status} {l : List (Picked × List Rat)} {s s' : St}
    {H : List (Nat × Nat)} {tn tn' : Nat} {pns : List Nat} (D : List Nat)
    (h : CoreR s (heldPicked (l.map Prod.fst) ++ H) tn) (hp : PerEns status s tn l s' tn' pns)
    (hP : ∀ q, q ∈ s.wts.map Prod.fst ↔ (some q ∈ s.trajs ∨ q ∈ D))
    (hQ : ∀ q ∈ D, q < tn ∧ some q ∉ s.trajs) (hN : none ∈ s.trajs) :
    (∀ q, q ∈ s'.wts.map Prod.fst ↔
      (some q ∈ s'.trajs ∨ q ∈ D ∨ (status = .acc ∧ q ∈ l.map (fun pw => pw.1.pn)))) ∧
    (∀ q, (q ∈ D ∨ (status = .acc ∧ q ∈ l.map (fun pw => pw.1.pn))) → some q ∉ s'.trajs) ∧
    none ∈ s'.trajs ∧
    (List.replicate s.n 0 ∈ s.W → List.replicate s'.n 0 ∈ s'.W) ∧
    (s.frac.map Prod.fst = s.wts.map Prod.fst → s'.frac.map Prod.fst = s'.wts.map Prod.fst) := by
  induction hp generalizing D with
  | nil =>
    refine ⟨?_, ?_, hN, id, id⟩
    · intro q; rw [hP q]; simp
    · intro q hq
      simp only [List.map_nil, List.not_mem_nil, and_false, or_false] at hq
      exact (hQ q hq).2
  | @cons s tn p w rest pn v tn1 s3 s' tn' pns hput hadd _ ih =>
    obtain ⟨hlt, htr, hdiag⟩ := h.heldOk (slotOf p) p.pn (List.mem_cons_self ..)
    have hpnlt : p.pn < tn := by
      obtain ⟨q, hq, hqlt⟩ := h.live (slotOf p) hlt
      rw [htr] at hq; simp only [Option.some.injEq] at hq; omega
    have heT : slotOf p < s.trajs.length := by rw [h.lenT]; omega
    have hrow : ∀ y, s.W[slotOf p]? = some y → y ≠ List.replicate s.n 0 := by
      intro y hy
      apply zeroRow_ne_of_entry (e := slotOf p)
      have : entryM s.W (slotOf p) (slotOf p) = y.getD (slotOf p) 0 := by
        unfold entryM
        simp only [List.getD_eq_getElem?_getD, hy, Option.getD_some]
      rw [← this]; exact hdiag
    have honly : ∀ i, s.trajs[i]? = some (some p.pn) → i = slotOf p :=
      fun i hi => h.inj i (slotOf p) p.pn (slot_lt_of_some h hN hi) hlt hi htr
    have hc3 := perEnsStep_coreR h hput hadd
    have hs3 : s3 = { perEnsPre status s tn p w with
        trajs := s.trajs.set (slotOf p) (some pn), W := s.W.set (slotOf p) (padValid s p.ens v),
        locks := s.locks.set (slotOf p) false } := (perEns_round hadd).2.2
    cases hput with
    | acc =>
      have hmem3 : ∀ q, some q ∈ s3.trajs ↔ (q = tn ∨ ∃ i, i ≠ slotOf p ∧ s.trajs[i]? = some (some q)) := by
        intro q
        rw [hs3]
        simp only []
        rw [mem_set_iff _ _ _ _ heT]
        simp
      have hP3 : ∀ q, q ∈ s3.wts.map Prod.fst ↔ (some q ∈ s3.trajs ∨ q ∈ p.pn :: D) := by
        intro q
        rw [hmem3 q, hs3]
        simp only [perEnsPre, newEntry, ↓reduceIte, List.map_append, List.map_cons, List.map_nil, List.mem_append,
          List.mem_cons, List.not_mem_nil, or_false]
        rw [hP q]
        constructor
        · rintro ((hq | hq) | hq)
          · obtain ⟨i, hi⟩ := List.mem_iff_getElem?.mp hq
            by_cases hie : i = slotOf p
            · subst hie
              rw [htr] at hi
              right; left
              simpa using hi.symm
            · left; right; exact ⟨i, hie, hi⟩
          · right; right; exact hq
          · left; left; exact hq
        · rintro ((hq | ⟨i, _, hi⟩) | hq | hq)
          · right; exact hq
          · left; left; exact List.mem_iff_getElem?.mpr ⟨i, hi⟩
          · left; left; rw [hq]; exact List.mem_iff_getElem?.mpr ⟨slotOf p, htr⟩
          · left; right; exact hq
      have hQ3 : ∀ q ∈ p.pn :: D, q < tn + 1 ∧ some q ∉ s3.trajs := by
        intro q hq
        rw [hmem3 q]
        rcases List.mem_cons.mp hq with hq | hq
        · subst hq
          refine ⟨by omega, ?_⟩
          rintro (hc | ⟨i, hie, hi⟩)
          · omega
          · exact hie (honly i hi)
        · obtain ⟨a, b⟩ := hQ q hq
          refine ⟨by omega, ?_⟩
          rintro (hc | ⟨i, _, hi⟩)
          · omega
          · exact b (List.mem_iff_getElem?.mpr ⟨i, hi⟩)
      have hN3 : none ∈ s3.trajs := by
        rw [hs3]
        exact mem_set_of_ne _ _ _ _ hN (by intro y hy; rw [htr] at hy; simp at hy; rw [← hy]; simp)
      obtain ⟨k1, k1', k2, k3, k4⟩ := ih (p.pn :: D) hc3 hP3 hQ3 hN3
      refine ⟨?_, ?_, k2, ?_, ?_⟩
      · intro q
        rw [k1 q]
        simp only [List.mem_cons, List.map_cons, true_and]
        constructor
        · rintro (hq | (hq | hq) | hq)
          · left; exact hq
          · right; right; left; exact hq
          · right; left; exact hq
          · right; right; right; exact hq
        · rintro (hq | hq | hq | hq)
          · left; exact hq
          · right; left; right; exact hq
          · right; left; left; exact hq
          · right; right; exact hq
      · intro q hq
        apply k1' q
        simp only [List.mem_cons, List.map_cons, true_and] at hq ⊢
        rcases hq with hq | hq | hq
        · left; right; exact hq
        · left; left; exact hq
        · right; exact hq
      · intro hz
        apply k3
        rw [hs3]
        exact mem_set_of_ne _ _ _ _ hz hrow
      · intro hk
        apply k4
        rw [hs3]
        simp only [perEnsPre, newEntry, ↓reduceIte, List.map_append, hk]
        rfl
    | rej _ =>
      rw [perEnsPre_rej] at hs3
      have hsame : s.trajs.set (slotOf p) (some p.pn) = s.trajs := by
        apply List.ext_getElem?
        intro i
        by_cases hie : i = slotOf p
        · subst hie; rw [List.getElem?_set_self heT, htr]
        · rw [List.getElem?_set_ne (Ne.symm hie)]
      have hT3 : s3.trajs = s.trajs := by rw [hs3]; exact hsame
      have hP3 : ∀ q, q ∈ s3.wts.map Prod.fst ↔ (some q ∈ s3.trajs ∨ q ∈ D) := by
        intro q; rw [hT3, hs3]; exact hP q
      obtain ⟨k1, k1', k2, k3, k4⟩ := ih D hc3 hP3 (by rw [hT3]; exact hQ) (by rw [hT3]; exact hN)
      refine ⟨?_, ?_, k2, ?_, ?_⟩
      · intro q
        rw [k1 q]
        simp only [reduceCtorEq, false_and, or_false]
      · intro q hq
        apply k1' q
        simp only [reduceCtorEq, false_and, or_false] at hq ⊢
        exact hq
      · intro hz
        apply k3
        rw [hs3]
        exact mem_set_of_ne _ _ _ _ hz hrow
      · intro hk
        apply k4
        rw [hs3]
        exact hk

/-- `Tidy` reads the slots only up to their order: it is kept by what permutes `W` and `trajs` and leaves the tables
    and `n` alone -/
theorem Tidy.permutes {s s' : St} {fs : List Fld} (t : Tidy s) (p : Permutes s s') (h : Touches fs s s')
    (hd : ∀ f ∈ [Fld.frac, .wts, .n], f ∉ fs := by decide) : Tidy s' :=
  have k := h.keeps hd
  ⟨p.2.mem_iff.mpr t.hasNone, by rw [k.n]; exact p.1.mem_iff.mpr t.hasZero, by rw [k.frac, k.wts]; exact t.sameKeys,
   fun q => by rw [k.wts, t.keysLive q]; exact p.2.mem_iff.symm⟩

theorem treatOutput_tidy {s s' : St} {H : List (Nat × Nat)} (job : Job) (status : Status)
    (newW : List (List Rat)) (fuel : Nat) (pns : List Nat) (it : Nat)
    (ht0 : Tidy s) (h : CoreR s (heldJob job ++ H) s.trajNum) (hold : job.pnumOld = job.picked.map (·.pn))
    (ht : treatOutput s job status newW fuel = .ok (s', pns, it)) : Tidy s' := by
  obtain ⟨sR, tn, s2, news, d⟩ := Frac.treatOutput_data ht
  have hper := d.recSt
  have hlen := d.len
  unfold Frac.recState at hper
  generalize Frac.jobWs job status newW = ws at hper hlen
  have hfst : (job.picked.zip ws).map Prod.fst = job.picked := List.map_fst_zip (by omega)
  have hpnl : (job.picked.zip ws).map (fun pw => pw.1.pn) = job.pnumOld := by
    calc (job.picked.zip ws).map (fun pw => pw.1.pn)
        = ((job.picked.zip ws).map Prod.fst).map (fun p => p.pn) := by rw [List.map_map]; rfl
      _ = job.pnumOld := by rw [hfst, hold]
  obtain ⟨t1, t1', t2, t3, t4⟩ := perEns_tidy [] (by rw [hfst]; exact h) (perEns_ok_iff.mp hper)
    (by intro q; rw [ht0.keysLive q]; simp) (by intro q hq; simp at hq) ht0.hasNone
  simp only [List.not_mem_nil, false_or, hpnl] at t1 t1'
  -- the keys that leave the tables are those of the replaced paths, which no slot holds any more
  have hw : ∀ q, q ∈ Frac.written job status ↔ status = .acc ∧ q ∈ job.pnumOld := by
    intro q
    unfold Frac.written
    split <;> simp [*]
  refine ⟨d.slots.2.mem_iff.mpr t2, by rw [d.n]; exact d.slots.1.mem_iff.mpr (t3 ht0.hasZero), ?_, fun q => ?_⟩
  · rw [d.frac, d.wts, Assoc.keys_filter _ (fun k => !(Frac.written job status).contains k),
      Assoc.keys_filter _ (fun k => !(Frac.written job status).contains k), recordFrac_keys d.recorded,
      t4 ht0.sameKeys]
  · rw [d.wts, Assoc.keys_filter _ (fun k => !(Frac.written job status).contains k), List.mem_filter, t1 q,
      d.slots.2.mem_iff]
    simp only [Bool.not_eq_true', List.contains_eq_mem, decide_eq_false_iff_not, hw]
    exact ⟨fun ⟨hq, hn⟩ => hq.resolve_right hn, fun hq => ⟨Or.inl hq, fun hqo => t1' q hqo hq⟩⟩

structure TidyY (y : Sys) : Prop where
  tidy : Tidy y.s
  pnum : ∀ j ∈ y.jobs, j.pnumOld = j.picked.map (·.pn)

theorem loop_tidy {s : St} (t : Tidy s) : Tidy (loop s).1 :=
  t.permutes (loop_touches s).permutes (loop_touches s)

theorem tidy_kept : KeptSt (fun _ _ => True) (fun y => InvR y ∧ PnumOk y.jobs) Tidy where
  init {s} t := t.permutes (initiate_touches s).permutes (initiate_touches s)
  done _ hc t _ hd := by
    cases hd with | mk _ hjob htreat =>
    exact treatOutput_tidy _ _ _ _ _ _ (loop_tidy t) (hc.1.core_completion hjob) (hc.2 _ (List.mem_of_getElem? hjob)) htreat
  prep t hprep := t.permutes (prep_permutes hprep) (prep_touches hprep)

theorem stepTreat_tidy {y : Sys} {k : Nat} {status : Status} {newW : List (List Rat)} {r : St × Job × List Job}
    (hi : InvR y) (ht : TidyY y) (h : stepTreat y k status newW = .ok r) :
    Tidy r.1 ∧ y.jobs[k]? = some r.2.1 ∧ r.2.2 = y.jobs.eraseIdx k :=
  ⟨tidy_kept.done { t := 0, e := 0 } ⟨hi, ht.pnum⟩ ht.tidy trivial (stepTreat_completes h),
    (stepTreat_completes h).ok.2.1, (stepTreat_completes h).ok.2.2.1⟩

theorem sysStep_tidy {y y' : Sys} (ev : Ev) (hi : InvR y) (ht : TidyY y) (h : sysStep y ev = .ok y') : TidyY y' :=
  ⟨tidy_kept.sysStep ⟨hi, ht.pnum⟩ ht.tidy trivial h, pnumOk_kept.sysStep ht.pnum trivial h⟩

theorem run_tidy : ∀ (evs : List Ev) {y y' : Sys}, InvR y → TidyY y → run y evs = .ok y' → TidyY y' := by
  intro evs y y' hi ht h
  exact (run_invariant (P := fun y => InvR y ∧ TidyY y)
    (fun ev _ _ hp h1 => ⟨sysStep_preservesR ev hp.1 h1, sysStep_tidy ev hp.1 hp.2 h1⟩) evs ⟨hi, ht⟩ h).2

/-- a fresh start leaves the ghost slot empty and zero and both tables keyed by the loaded paths -/
theorem FreshLoad.tidy {n : Nat} {paths : List (Nat × List Rat × List Rat)} {s : St} (hf : FreshLoad n paths s) : Tidy s := by
  obtain ⟨workers, tsteps, cstep, trajNum, seed, occ, ensEng, restarted, hn, hlen, hnd, hlt, h⟩ := hf
  obtain ⟨_, _, rfl⟩ := loadPaths_ok_iff.mp h
  have hb := fresh_blank n workers tsteps cstep trajNum seed occ ensEng restarted []
  generalize blank n workers tsteps cstep trajNum seed occ ensEng restarted [] = s at hb ⊢
  obtain ⟨hfk, hwk⟩ := loadedSt_keys s paths
  rw [hb.frac] at hfk
  rw [hb.wts] at hwk
  have e := hb.loadedSt_eq (show paths.length + 1 = n by omega)
  have eT : (loadedSt s paths).trajs = paths.map (fun p => some p.1) ++ [none] := by rw [e]
  have eW : List.replicate (loadedSt s paths).n 0 ∈ (loadedSt s paths).W := by
    rw [e]
    exact List.mem_append_right _ (hb.hn ▸ List.mem_singleton_self _)
  refine ⟨by rw [eT]; simp, eW, by rw [hfk, hwk], fun q => ?_⟩
  rw [hwk, eT, List.map_nil, List.nil_append, ((loadOrder_perm paths).map _).mem_iff]
  simp

end Infretis.Repex
