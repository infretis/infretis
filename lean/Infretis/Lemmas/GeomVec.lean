import Infretis.Lemmas.Geom
import Mathlib.Tactic.LinearCombination
/-! Vector algebra on `V3` (bilinearity of `dot`, `a·(a×b) = 0`, Lagrange), Python indexing under
    `map`/`mapIdx`, the centred ring (translation, the Cremer–Pople mean-plane conditions), the wrapped
    difference vector under image shifts, rotations. -/
namespace Infretis.Geom

@[ext] theorem V3.ext' {a b : V3} (hx : a.x = b.x) (hy : a.y = b.y) (hz : a.z = b.z) : a = b := by
  cases a; cases b; simp_all

namespace V3

theorem dot_comm (a b : V3) : dot a b = dot b a := by
  simp only [dot]; ring

theorem dot_add_left (a b c : V3) : dot (add a b) c = dot a c + dot b c := by
  simp only [dot, add]; ring

theorem dot_sub_left (a b c : V3) : dot (sub a b) c = dot a c - dot b c := by
  simp only [dot, sub]; ring

theorem dot_smul_left (k : ℚ) (a c : V3) : dot (smul k a) c = k * dot a c := by
  simp only [dot, smul]; ring

theorem dot_add_right (c a b : V3) : dot c (add a b) = dot c a + dot c b := by
  simp only [dot, add]; ring

theorem dot_sub_right (c a b : V3) : dot c (sub a b) = dot c a - dot c b := by
  simp only [dot, sub]; ring

theorem dot_smul_right (k : ℚ) (c a : V3) : dot c (smul k a) = k * dot c a := by
  simp only [dot, smul]; ring

theorem dot_cross_left (a b : V3) : dot a (cross a b) = 0 := by
  simp only [dot, cross]; ring

theorem dot_cross_right (a b : V3) : dot b (cross a b) = 0 := by
  simp only [dot, cross]; ring

theorem cross_sq (a b : V3) :
    dot (cross a b) (cross a b) = dot a a * dot b b - dot a b * dot a b := by
  simp only [dot, cross]; ring

theorem sub_add_add (a b t : V3) : sub (add a t) (add b t) = sub a b := by
  ext <;> simp only [sub, add] <;> ring

theorem sub_add_sub (a b u v : V3) : sub (add a u) (add b v) = add (sub a b) (sub u v) := by
  ext <;> simp only [sub, add] <;> ring

theorem smul_zero (a : V3) : smul 0 a = ⟨0, 0, 0⟩ := by
  ext <;> simp only [smul, zero_mul]

end V3

theorem getAtom_map (f : V3 → V3) (l : List V3) (i : Int) :
    getAtom (l.map f) i = (getAtom l i).map f := by
  unfold getAtom
  rw [List.length_map]
  cases pyIdx l.length i with
  | none => rfl
  | some j =>
    simp only [List.getElem?_map]
    cases l[j]? <;> rfl

/-- the atom number a Python index refers to (0 when the index is out of range; only used
    where the lookup succeeded) -/
def atomNo (n : Nat) (i : Int) : Nat := (pyIdx n i).getD 0

theorem getAtom_mapIdx (f : Nat → V3 → V3) (l : List V3) (i : Int) :
    getAtom (l.mapIdx f) i = (getAtom l i).map (f (atomNo l.length i)) := by
  unfold getAtom atomNo
  rw [List.length_mapIdx]
  cases pyIdx l.length i with
  | none => rfl
  | some j =>
    simp only [List.getElem?_mapIdx, Option.getD_some]
    cases l[j]? <;> rfl

theorem centre_translate (p0 p1 p2 p3 p4 p5 t : V3) :
    centre ⟨V3.add p0 t, V3.add p1 t, V3.add p2 t, V3.add p3 t, V3.add p4 t, V3.add p5 t⟩
      = centre ⟨p0, p1, p2, p3, p4, p5⟩ := by
  -- the mean moves with the atoms, so the differences from it stay
  have mean : V3.smul (1 / 6) (V3.add (V3.add (V3.add (V3.add (V3.add (V3.add p0 t) (V3.add p1 t))
        (V3.add p2 t)) (V3.add p3 t)) (V3.add p4 t)) (V3.add p5 t))
      = V3.add (V3.smul (1 / 6) (V3.add (V3.add (V3.add (V3.add (V3.add p0 p1) p2) p3) p4) p5)) t := by
    ext <;> simp only [V3.smul, V3.add] <;> ring
  simp only [centre, mean, V3.sub_add_add]

/-- unconditional Parseval identity on six points (the discrete Fourier transform behind eq. 12–14 of
    Cremer & Pople) -/
theorem parseval6 (z0 z1 z2 z3 z4 z5 : ℚ) :
    z0 * z0 + z1 * z1 + z2 * z2 + z3 * z3 + z4 * z4 + z5 * z5 =
      (1 / 6) * ((z0 + z1 + z2 + z3 + z4 + z5) ^ 2
        + 2 * (z0 + (1 / 2) * (z1 - z2 - z4 + z5) - z3) ^ 2 + (3 / 2) * (z1 + z2 - z4 - z5) ^ 2
        + 2 * (z0 - (1 / 2) * z1 - (1 / 2) * z2 + z3 - (1 / 2) * z4 - (1 / 2) * z5) ^ 2
        + (3 / 2) * (z1 - z2 + z4 - z5) ^ 2
        + (z0 - z1 + z2 - z3 + z4 - z5) ^ 2) := by ring

/-- Σ z_j = 0: the centred ring has no component along ANY direction `n` -/
theorem plane_sum (r : Ring6) (n : V3) :
    V3.dot (centre r).p0 n + V3.dot (centre r).p1 n + V3.dot (centre r).p2 n + V3.dot (centre r).p3 n
      + V3.dot (centre r).p4 n + V3.dot (centre r).p5 n = 0 := by
  simp only [centre, V3.dot_sub_left, V3.dot_smul_left, V3.dot_add_left]
  ring

/-- Σ z_j sin(2πj/6) = 0 (times 2/√3): the sum is `R′ · (R′ × R″)` -/
theorem plane_sin (q : Ring6) :
    V3.dot q.p1 (V3.cross (ringA q) (ringB q)) + V3.dot q.p2 (V3.cross (ringA q) (ringB q))
      - V3.dot q.p4 (V3.cross (ringA q) (ringB q)) - V3.dot q.p5 (V3.cross (ringA q) (ringB q)) = 0 := by
  have h := V3.dot_cross_left (ringA q) (ringB q)
  simpa only [ringA, V3.dot_sub_left, V3.dot_add_left] using h

/-- Σ z_j cos(2πj/6) = 0: the sum is `R″ · (R′ × R″)` -/
theorem plane_cos (q : Ring6) :
    V3.dot q.p0 (V3.cross (ringA q) (ringB q))
      + (1 / 2) * (V3.dot q.p1 (V3.cross (ringA q) (ringB q)) - V3.dot q.p2 (V3.cross (ringA q) (ringB q))
        - V3.dot q.p4 (V3.cross (ringA q) (ringB q)) + V3.dot q.p5 (V3.cross (ringA q) (ringB q)))
      - V3.dot q.p3 (V3.cross (ringA q) (ringB q)) = 0 := by
  have h := V3.dot_cross_right (ringA q) (ringB q)
  simpa only [ringB, V3.dot_sub_left, V3.dot_add_left, V3.dot_smul_left] using h

/-- component-wise difference of two image multipliers -/
def ksub (a b : Int × Int × Int) : Int × Int × Int := (a.1 - b.1, a.2.1 - b.2.1, a.2.2 - b.2.2)

theorem imageVec_ksub (L : V3) (k1 k0 : Int × Int × Int) :
    imageVec L (ksub k1 k0) = V3.sub (imageVec L k1) (imageVec L k0) := by
  ext <;> simp only [imageVec, ksub, V3.sub, Int.cast_sub, sub_mul]

theorem sub_add_image (p1 p0 L : V3) (k1 k0 : Int × Int × Int) :
    V3.sub (V3.add p1 (imageVec L k1)) (V3.add p0 (imageVec L k0))
      = V3.add (V3.sub p1 p0) (imageVec L (ksub k1 k0)) := by
  rw [imageVec_ksub, V3.sub_add_sub]

/-- no component of `d` sits at a half-box tie (axes of length 0 are never wrapped) -/
def TieFree (d L : V3) : Prop :=
  (L.x ≠ 0 → ¬ WrapTie d.x L.x) ∧ (L.y ≠ 0 → ¬ WrapTie d.y L.y) ∧ (L.z ≠ 0 → ¬ WrapTie d.z L.z)

theorem pbcDist3_shift_tf (d L : V3) (k : Int × Int × Int) (h : TieFree d L) :
    pbcDist (V3.add d (imageVec L k)) [L.x, L.y, L.z] = pbcDist d [L.x, L.y, L.z] := by
  obtain ⟨hx, hy, hz⟩ := h
  simp only [pbcDist, V3.add, imageVec, compNan_shift, pbcWrap_shift_of_not_tie _ _ _ hx,
    pbcWrap_shift_of_not_tie _ _ _ hy, pbcWrap_shift_of_not_tie _ _ _ hz]

theorem take3 (a b c : ℚ) (rest : List ℚ) : (a :: b :: c :: rest).take 3 = [a, b, c] := by
  simp

theorem applyBox_shift_tf (d L : V3) (rest : List ℚ) (k : Int × Int × Int) (sl : Bool)
    (h : TieFree d L) :
    applyBox true (some (L.x :: L.y :: L.z :: rest)) sl (V3.add d (imageVec L k))
      = applyBox true (some (L.x :: L.y :: L.z :: rest)) sl d := by
  unfold applyBox
  cases sl with
  | true => simp only [if_true, take3]; exact pbcDist3_shift_tf d L k h
  | false =>
    cases rest with
    | nil => simpa using pbcDist3_shift_tf d L k h
    | cons r rs => simp [pbcDist]

/-- the wrapped vector for a box with (at least) three entries, as the slicing classes see it -/
def wrap3 (d L : V3) : Wrapped :=
  ⟨⟨pbcWrap d.x L.x, pbcWrap d.y L.y, pbcWrap d.z L.z⟩,
   compNan d.x L.x || compNan d.y L.y || compNan d.z L.z⟩

theorem applyBox_slice (d L : V3) (rest : List ℚ) :
    applyBox true (some (L.x :: L.y :: L.z :: rest)) true d = .ok (wrap3 d L) := by
  simp only [applyBox, if_true, take3, pbcDist, wrap3]

/-- ties included: the NaN flag and the squared length of the wrapped vector are shift invariant -/
theorem wrap3_shift_sq (d L : V3) (k : Int × Int × Int) :
    (wrap3 (V3.add d (imageVec L k)) L).nan = (wrap3 d L).nan ∧
    V3.dot (wrap3 (V3.add d (imageVec L k)) L).v (wrap3 (V3.add d (imageVec L k)) L).v
      = V3.dot (wrap3 d L).v (wrap3 d L).v := by
  constructor
  · simp only [wrap3, V3.add, imageVec, compNan_shift]
  · simp only [wrap3, V3.dot, V3.add, imageVec]
    rw [pbcWrap_shift_sq d.x L.x k.1, pbcWrap_shift_sq d.y L.y k.2.1, pbcWrap_shift_sq d.z L.z k.2.2]

/-- `Rᵀ R = 1` (columns orthonormal) and `det R = 1` -/
structure IsRotation (R : Mat3) : Prop where
  c11 : V3.dot R.col1 R.col1 = 1
  c22 : V3.dot R.col2 R.col2 = 1
  c33 : V3.dot R.col3 R.col3 = 1
  c12 : V3.dot R.col1 R.col2 = 0
  c13 : V3.dot R.col1 R.col3 = 0
  c23 : V3.dot R.col2 R.col3 = 0
  det1 : R.det = 1

theorem dot_mulVec (R : Mat3) (h : IsRotation R) (v w : V3) :
    V3.dot (R.mulVec v) (R.mulVec w) = V3.dot v w := by
  obtain ⟨c11, c22, c33, c12, c13, c23, _⟩ := h
  simp only [V3.dot, Mat3.mulVec, Mat3.col1, Mat3.col2, Mat3.col3] at *
  linear_combination (v.x * w.x) * c11 + (v.y * w.y) * c22 + (v.z * w.z) * c33
    + (v.x * w.y + v.y * w.x) * c12 + (v.x * w.z + v.z * w.x) * c13 + (v.y * w.z + v.z * w.y) * c23

theorem triple_mulVec (R : Mat3) (a b c : V3) :
    V3.triple (R.mulVec a) (R.mulVec b) (R.mulVec c) = R.det * V3.triple a b c := by
  simp only [V3.triple, V3.dot, V3.cross, Mat3.mulVec, Mat3.det]
  ring

theorem mulVec_sub (R : Mat3) (a b : V3) : R.mulVec (V3.sub a b) = V3.sub (R.mulVec a) (R.mulVec b) := by
  simp only [Mat3.mulVec, V3.dot_sub_right]; rfl

theorem mulVec_add (R : Mat3) (a b : V3) : R.mulVec (V3.add a b) = V3.add (R.mulVec a) (R.mulVec b) := by
  simp only [Mat3.mulVec, V3.dot_add_right]; rfl

theorem mulVec_smul (R : Mat3) (c : ℚ) (a : V3) : R.mulVec (V3.smul c a) = V3.smul c (R.mulVec a) := by
  simp only [Mat3.mulVec, V3.dot_smul_right]; rfl

theorem dihedralOf_rotate (R : Mat3) (h : IsRotation R) (v1 v2 v3 : V3) :
    dihedralOf (R.mulVec v1) (R.mulVec v2) (R.mulVec v3) = dihedralOf v1 v2 v3 := by
  unfold dihedralOf
  rw [triple_mulVec, h.det1, dot_mulVec R h, dot_mulVec R h, dot_mulVec R h, dot_mulVec R h]
  simp

theorem dot_cross_rotate (R : Mat3) (h : IsRotation R) (p a b : V3) :
    V3.dot (R.mulVec p) (V3.cross (R.mulVec a) (R.mulVec b)) = V3.dot p (V3.cross a b) := by
  have := triple_mulVec R a b p
  rw [h.det1, one_mul] at this
  rw [V3.dot_comm, V3.dot_comm p]
  exact this

/-- the observable part of the puckering pre-image (projections and `nn`) is rotation invariant -/
theorem puckerOf_rotate (R : Mat3) (h : IsRotation R) (r : Ring6) :
    (puckerOf ⟨R.mulVec r.p0, R.mulVec r.p1, R.mulVec r.p2, R.mulVec r.p3, R.mulVec r.p4, R.mulVec r.p5⟩).zs
        = (puckerOf r).zs ∧
    (puckerOf ⟨R.mulVec r.p0, R.mulVec r.p1, R.mulVec r.p2, R.mulVec r.p3, R.mulVec r.p4, R.mulVec r.p5⟩).nn
        = (puckerOf r).nn := by
  -- centring and the two ring sums are linear, so `R` moves out of them; then only dot products are left
  simp only [puckerOf, centre, ringA, ringB, ← mulVec_add, ← mulVec_smul, ← mulVec_sub, dot_cross_rotate R h,
    V3.cross_sq, dot_mulVec R h]
  exact ⟨trivial, trivial⟩

end Infretis.Geom
