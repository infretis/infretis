import Infretis.Lemmas.RepexC04Treat
import Infretis.Lemmas.RepexC03Init
/-!
# C04 — conservation over whole histories of the scheduler

The history argument runs on C03's restart-aware scheduler invariant `InvR` (`CoreR` for the jobs in flight: the
slot/lock facts at every recording; re-issue of jobs recorded in a restart file included) and the table invariant
`FracWF` of this package (`Completes.totalR`, `sysStep_totals` … `run_totalR`).  C03's `Inv` is the case `locked0 = []`
(`Inv.invR`), so the statements on `HInv` = `Inv` + `FracWF` are corollaries (`sysStep_total`, `run_total`).
For the non-vacuity examples the hypotheses are executable: `slotOk s = true → SlotWF s`, `fracOk s = true → FracWF s`,
`matchableAlongB_iff`; on concrete states and histories they are discharged by kernel evaluation.
-/
namespace Infretis.Repex.Frac

theorem slotWF_of_coreR {s : St} {H : List (Nat × Nat)} {tn : Nat} (h : CoreR s H tn) : SlotWF s :=
  ⟨h.lenW, h.lenT, h.lenL, h.ghost,
   fun i hi _ => by obtain ⟨pn, h1, _⟩ := h.live i hi; exact ⟨pn, h1⟩, h.inj⟩

theorem slotWF_of_core {s : St} {H : List (Nat × Nat)} {tn : Nat} (h : Core s H tn) : SlotWF s :=
  slotWF_of_coreR h.coreR

def total (s : St) (c : Nat) : Rat := rowsTotal s.rows c + colTotal s.frac c

theorem total_congr {s s' : St} (hf : s'.frac = s.frac) (hr : s'.rows = s.rows) (c : Nat) :
    total s' c = total s c := by
  unfold total; rw [hf, hr]

theorem FracWF.frame {s s' : St} {fs : List Fld} (fw : FracWF s) (t : Touches fs s s')
    (hd : ∀ f ∈ [Fld.frac, .n, .trajNum], f ∉ fs := by decide) : FracWF s' :=
  have e := t.keeps hd
  ⟨by rw [e.frac]; exact fw.keys, by rw [e.frac, e.n]; exact fw.flen, by rw [e.frac, e.trajNum]; exact fw.bound⟩

theorem total_frame {s s' : St} {fs : List Fld} (t : Touches fs s s') (c : Nat)
    (hd : ∀ f ∈ [Fld.frac, .rows], f ∉ fs := by decide) : total s' c = total s c :=
  total_congr (t.keeps hd).frac (t.keeps hd).rows c

theorem FracWF.loop {s : St} (fw : FracWF s) : FracWF (loop s).1 := fw.frame (loop_touches s)

/-- 1 if event `ev`, applied in `y`, is a completed step at whose recording column `c` is idle -/
def idleAt (y : Sys) (ev : Ev) (c : Nat) : Nat :=
  match ev with
  | .step k status newW _ =>
    match y.jobs[k]? with
    | some job =>
      match recState (loop y.s).1 job status newW with
      | .ok (s1, _, _) => if s1.locks[c]? = some false then 1 else 0
      | .error _ => 0
    | none => 0
  | _ => 0

/-- the recording state of event `ev` (if it is a completed step) is matchable -/
def matchableAt (y : Sys) (ev : Ev) : Prop :=
  match ev with
  | .step k status newW _ =>
    ∀ job s1 tn pns, y.jobs[k]? = some job →
      recState (loop y.s).1 job status newW = .ok (s1, tn, pns) → Matchable s1
  | _ => True

/-- **number of completed steps of the history at whose recording column `c` was idle**
    (recursion alongside `run`) -/
def idleSteps : Sys → List Ev → Nat → Nat
  | _, [], _ => 0
  | y, ev :: rest, c =>
    match sysStep y ev with
    | .ok y' => idleAt y ev c + idleSteps y' rest c
    | .error _ => 0

/-- every recording of the history happens in a matchable state -/
def MatchableAlong : Sys → List Ev → Prop
  | _, [] => True
  | y, ev :: rest =>
    matchableAt y ev ∧
    match sysStep y ev with
    | .ok y' => MatchableAlong y' rest
    | .error _ => True

/-- number of `.step` events -/
def stepCount : List Ev → Nat
  | [] => 0
  | .step _ _ _ _ :: rest => stepCount rest + 1
  | _ :: rest => stepCount rest

structure HInv (y : Sys) : Prop where
  inv : Inv y
  fw : FracWF y.s

theorem step_core {y : Sys} {k : Nat} {job : Job} (hi : Inv y) (hjob : y.jobs[k]? = some job) :
    Core (loop y.s).1 (heldJob job ++ held (y.jobs.eraseIdx k)) (loop y.s).1.trajNum :=
  (hi.invR.core_completion hjob).core ((loop_touches y.s).locked0.trans hi.core.l0)

/-- the completion of a job: the weight record adds 1 to the total of every idle column; with at most one job in
    flight every ensemble column is idle then, which is why one worker's `cstep` counts the recordings -/
theorem _root_.Infretis.Repex.Completes.totalR {y ym : Sys} {k : Nat} {status : Status} {newW : List (List Rat)} {job : Job}
    (hi : InvR y) (fw : FracWF y.s) (o : PickOutcome) (hc : Completes y k status newW job ym) :
    FracWF ym.s ∧ (matchableAt y (.step k status newW o) →
      ∀ c, total ym.s c = total y.s c + idleAt y (.step k status newW o) c) ∧
    (y.jobs.length ≤ 1 → ∀ c, c < y.s.n - 1 → idleAt y (.step k status newW o) c = 1) := by
  cases hc with | @mk s2 pns it hgo hjob htreat =>
  have hld := loop_touches y.s
  have hc1 := hi.core_completion hjob
  have hc2 := treatOutput_coreR job status newW _ pns it hc1 htreat
  have fw1 := fw.loop
  obtain ⟨sR, tn, hrec, _, hlk, hn2, _, _, hmain⟩ := treatOutput_total fw1 htreat
  have hzl := treatOutput_jobWs_length htreat
  have hcR : CoreR sR (held (y.jobs.eraseIdx k)) tn := recState_coreR hc1 hzl hrec
  obtain ⟨fw2, htot⟩ := hmain (slotWF_of_coreR hcR)
  have hidle : ∀ c, idleAt y (.step k status newW o) c = if s2.locks[c]? = some false then 1 else 0 := by
    intro c
    simp only [idleAt, hjob, hrec, hlk]
  refine ⟨fw2, ?_, ?_⟩
  · intro hm c
    rw [hidle c]
    unfold total
    rw [htot (hm job sR tn pns hjob hrec) c, hld.frac, hld.rows]
    split <;> simp
  · intro h1 c hc
    rw [hidle c, hlk]
    have hk : k < y.jobs.length := getElem?_lt_of_some hjob
    have hnil : y.jobs.eraseIdx k = [] :=
      List.eq_nil_of_length_eq_zero (by rw [List.length_eraseIdx, if_pos hk]; omega)
    rw [hnil] at hcR
    have hnR : sR.n = y.s.n := by
      have := hcR.lenL
      rw [← hlk, (slotWF_of_coreR hc2).lenL, hn2, hld.n] at this
      exact this.symm
    have hcn : c < sR.n - 1 := by rw [hnR]; exact hc
    have hnb : sR.locks[c]? ≠ some true := by
      intro hb
      have := (hcR.busy c hcn).mp hb
      simp [held] at this
    rw [if_pos (unlocked_of_not_locked sR.locks c (by rw [hcR.lenL]; omega) hnb)]

theorem fracWF_kept : KeptSt (fun _ _ => True) InvR FracWF where
  init fw := fw.frame (initiate_touches _)
  done o hi fw _ hc := (hc.totalR hi fw o).1
  prep fw hp := fw.frame (prep_touches hp)

theorem sysStep_hinv {y y' : Sys} (ev : Ev) (hi : HInv y) (h : sysStep y ev = .ok y') : HInv y' :=
  ⟨sysStep_preserves ev hi.inv h, fracWF_kept.sysStep hi.inv.invR hi.fw trivial h⟩

/-- no more jobs in flight than workers (with the bookkeeping of `initiate`) -/
structure JInv (y : Sys) : Prop where
  le : (y.jobs.length : Int) ≤ (y.s.workers : Int)
  init : 0 ≤ y.s.toinitiate → (y.jobs.length : Int) + y.s.toinitiate ≤ (y.s.workers : Int)

theorem sysStep_jinv {y y' : Sys} {ev : Ev} (hj : JInv y) (h : sysStep y ev = .ok y') : JInv y' := by
  obtain ⟨_, hw, he⟩ := sysStep_effect h
  have hle := hj.le
  cases ev with
  | start o saved =>
    obtain ⟨_, hpos, _, _, hto, hlen⟩ := he
    have := hj.init (by omega)
    exact ⟨by rw [hlen, hw]; push_cast; omega, fun _ => by rw [hlen, hw, hto]; push_cast; omega⟩
  | initDone =>
    obtain ⟨_, hjobs, hcase⟩ := he
    refine ⟨by rw [hjobs, hw]; exact hle, fun h0 => ?_⟩
    rcases hcase with ⟨_, hs⟩ | ⟨_, hneg, _⟩
    · rw [hs] at h0
      rw [hjobs, hs]
      exact hj.init h0
    · omega
  | step k st w o =>
    obtain ⟨_, hk, _, hto, hlen⟩ := he
    have hlen' : y'.jobs.length ≤ y.jobs.length := by
      rw [hlen]
      split <;> omega
    exact ⟨by rw [hw]; omega, fun h0 => by have := hj.init (hto ▸ h0); rw [hw, hto]; omega⟩

/-- an event adds its idle recordings to the totals; with at most one job in flight `cstep` goes up by the same -/
theorem sysStep_totals {y y' : Sys} (ev : Ev) (hi : InvR y) (fw : FracWF y.s)
    (h : sysStep y ev = .ok y') (hm : matchableAt y ev) :
    (∀ c, total y'.s c = total y.s c + idleAt y ev c) ∧ y'.s.n = y.s.n ∧ y'.s.workers = y.s.workers ∧
    (y.jobs.length ≤ 1 → ∀ c, c < y.s.n - 1 → y'.s.cstep = y.s.cstep + idleAt y ev c) := by
  obtain ⟨oj, hst⟩ := Step.of_ok h
  obtain ⟨ym, _, hpre, htail⟩ := hst.shape
  obtain ⟨mtot, mn, mw, mone⟩ : (∀ c, total ym.s c = total y.s c + idleAt y ev c) ∧ ym.s.n = y.s.n ∧
      ym.s.workers = y.s.workers ∧
      (y.jobs.length ≤ 1 → ∀ c, c < y.s.n - 1 → ym.s.cstep = y.s.cstep + idleAt y ev c) := by
    have hd := initiate_touches y.s
    cases hpre with
    | go _ => exact ⟨fun c => by rw [total_frame hd c]; simp [idleAt], hd.n, hd.workers,
        fun _ c _ => by show (initiate y.s).1.cstep = _; rw [hd.cstep]; simp [idleAt]⟩
    | stop _ => exact ⟨fun c => by rw [total_frame hd c]; simp [idleAt], hd.n, hd.workers,
        fun _ c _ => by show (initiate y.s).1.cstep = _; rw [hd.cstep]; simp [idleAt]⟩
    | done hc =>
      obtain ⟨_, ht, hone⟩ := hc.totalR hi fw _
      injection hc.ctr.2 with hcs
      exact ⟨ht hm, hc.touches.n, hc.touches.workers, fun h1 c hcn => by rw [hcs, hone h1 c hcn]⟩
  have hk : Touches [.W, .trajs, .locks, .locked, .lockedOrd, .spawned, .mainDraws, .rgenRestored, .locked0,
      .locked0Ord, .occ] ym.s y'.s := by
    cases oj with
    | some jd =>
      obtain ⟨_, _, _, hs⟩ := htail
      exact hs.touches
    | none => rw [htail.2]; exact Agree.refl _ _
  exact ⟨fun c => by rw [total_frame hk c, mtot c], hk.n.trans mn, hk.workers.trans mw,
    fun hw1 c hcn => by rw [hk.cstep, mone hw1 c hcn]⟩

theorem sysStep_totalR {y y' : Sys} (ev : Ev) (hi : InvR y) (fw : FracWF y.s) (hj : JInv y)
    (h : sysStep y ev = .ok y') (hm : matchableAt y ev) :
    InvR y' ∧ FracWF y'.s ∧ JInv y' ∧ (∀ c, total y'.s c = total y.s c + idleAt y ev c) ∧
    y'.s.n = y.s.n ∧ y'.s.workers = y.s.workers ∧
    (y.s.workers = 1 → ∀ c, c < y.s.n - 1 → y'.s.cstep = y.s.cstep + idleAt y ev c) := by
  obtain ⟨htot, hn, hw, hone⟩ := sysStep_totals ev hi fw h hm
  exact ⟨sysStep_preservesR ev hi h, fracWF_kept.sysStep hi fw trivial h, sysStep_jinv hj h, htot, hn, hw,
    fun hw1 => hone (by have := hj.le; rw [hw1] at this; omega)⟩

theorem run_totalR : ∀ (evs : List Ev) {y0 y : Sys}, InvR y0 → FracWF y0.s → JInv y0 → run y0 evs = .ok y →
    MatchableAlong y0 evs →
    InvR y ∧ FracWF y.s ∧ JInv y ∧ (∀ c, total y.s c = total y0.s c + idleSteps y0 evs c) ∧ y.s.n = y0.s.n ∧
    y.s.workers = y0.s.workers ∧
    (y0.s.workers = 1 → ∀ c, c < y0.s.n - 1 → y.s.cstep = y0.s.cstep + idleSteps y0 evs c) := by
  intro evs
  induction evs with
  | nil =>
    intro y0 y hi fw hj h _
    cases h
    exact ⟨hi, fw, hj, fun c => by simp [idleSteps], rfl, rfl, fun _ c _ => by simp [idleSteps]⟩
  | cons ev rest ih =>
    intro y0 y hi fw hj h hm
    unfold MatchableAlong at hm
    obtain ⟨hm1, hm2⟩ := hm
    obtain ⟨y1, hstep, h⟩ := run_cons_ok h
    rw [hstep] at hm2
    simp only [] at hm2
    obtain ⟨hi1, fw1, hj1, ht1, hn1, hw1, hc1⟩ := sysStep_totalR ev hi fw hj hstep hm1
    obtain ⟨hi2, fw2, hj2, ht2, hn2, hw2, hc2⟩ := ih hi1 fw1 hj1 h hm2
    refine ⟨hi2, fw2, hj2, ?_, hn2.trans hn1, hw2.trans hw1, ?_⟩
    · intro c
      rw [ht2 c, ht1 c]
      simp only [idleSteps, hstep]
      push_cast
      ring
    · intro hw c hc
      rw [hc2 (hw1.trans hw) c (by rw [hn1]; exact hc), hc1 hw c hc]
      simp only [idleSteps, hstep]
      omega

theorem sysStep_total {y y' : Sys} (ev : Ev) (hi : HInv y) (hj : JInv y)
    (h : sysStep y ev = .ok y') (hm : matchableAt y ev) :
    HInv y' ∧ JInv y' ∧ (∀ c, total y'.s c = total y.s c + idleAt y ev c) ∧
    y'.s.n = y.s.n ∧ y'.s.workers = y.s.workers ∧
    (y.s.workers = 1 → ∀ c, c < y.s.n - 1 → y'.s.cstep = y.s.cstep + idleAt y ev c) := by
  obtain ⟨_, fw', rest⟩ := sysStep_totalR ev hi.inv.invR hi.fw hj h hm
  exact ⟨⟨sysStep_preserves ev hi.inv h, fw'⟩, rest⟩

theorem run_total (evs : List Ev) {y0 y : Sys} (hi : HInv y0) (hj : JInv y0) (h : run y0 evs = .ok y)
    (hm : MatchableAlong y0 evs) :
    HInv y ∧ JInv y ∧ (∀ c, total y.s c = total y0.s c + idleSteps y0 evs c) ∧ y.s.n = y0.s.n ∧
    y.s.workers = y0.s.workers ∧
    (y0.s.workers = 1 → ∀ c, c < y0.s.n - 1 → y.s.cstep = y0.s.cstep + idleSteps y0 evs c) := by
  obtain ⟨_, fw', rest⟩ := run_totalR evs hi.inv.invR hi.fw hj h hm
  exact ⟨⟨run_preserves evs hi.inv h, fw'⟩, rest⟩

/-- a fresh start for the weight accounting: an `Init` state of C03 whose table is well formed and
    all zero, with an empty data file -/
structure FracInit (y : Sys) : Prop where
  init : Init y
  fw : FracWF y.s
  zero : ∀ kv ∈ y.s.frac, ∀ x ∈ kv.2, x = 0
  rows : y.s.rows = []

theorem getD_of_all_zero (v : List Rat) (h : ∀ x ∈ v, x = 0) (c : Nat) : v.getD c 0 = 0 := by
  rw [List.getD_eq_getElem?_getD]
  cases hc : v[c]? with
  | none => rfl
  | some x => exact h x (List.mem_of_getElem? hc)

theorem colTotal_of_all_zero (l : List (Nat × List Rat)) (h : ∀ kv ∈ l, ∀ x ∈ kv.2, x = 0) (c : Nat) :
    colTotal l c = 0 := by
  induction l with
  | nil => rfl
  | cons kv t ih =>
    rw [colTotal_cons, getD_of_all_zero kv.2 (h kv List.mem_cons_self) c,
      ih (fun kv hkv => h kv (List.mem_cons_of_mem _ hkv))]
    ring

theorem FracInit.total_zero {y : Sys} (h : FracInit y) (c : Nat) : total y.s c = 0 := by
  unfold total
  rw [h.rows, colTotal_of_all_zero _ h.zero c]
  simp

theorem FracInit.hinv {y : Sys} (h : FracInit y) : HInv y := ⟨h.init.inv, h.fw⟩

theorem jinv_of_init {y : Sys} (h : Init y) : JInv y := by
  constructor
  · rw [h.jobs]; simp
  · intro _; rw [h.jobs, h.toinit]; simp

theorem FracInit.jinv {y : Sys} (h : FracInit y) : JInv y := jinv_of_init h.init

def slotOk (s : St) : Bool :=
  s.W.length == s.n && s.trajs.length == s.n && s.locks.length == s.n &&
  s.locks[s.n - 1]? == some true &&
  (List.range (s.n - 1)).all (fun i => s.locks[i]? != some false || (s.trajs[i]?.bind id).isSome) &&
  (List.range (s.n - 1)).all (fun a => (List.range (s.n - 1)).all (fun b =>
    a == b || s.trajs[a]? != s.trajs[b]? || (s.trajs[a]?.bind id).isNone))

theorem slotWF_of_slotOk {s : St} (h : slotOk s = true) : SlotWF s := by
  unfold slotOk at h
  simp only [Bool.and_eq_true, beq_iff_eq, List.all_eq_true, List.mem_range, Bool.or_eq_true,
    bne_iff_ne, ne_eq] at h
  obtain ⟨⟨⟨⟨⟨h1, h2⟩, h3⟩, h4⟩, h5⟩, h6⟩ := h
  refine ⟨h1, h2, h3, h4, ?_, ?_⟩
  · intro i hi hl
    rcases h5 i hi with h | h
    · exact absurd hl h
    · cases ht : s.trajs[i]? with
      | none => rw [ht] at h; simp at h
      | some o =>
        cases o with
        | none => rw [ht] at h; simp at h
        | some pn => exact ⟨pn, rfl⟩
  · intro a b pn ha hb hta htb
    rcases h6 a ha b hb with (h | h) | h
    · exact h
    · exact absurd (hta.trans htb.symm) h
    · rw [hta] at h; simp at h

def fracOk (s : St) : Bool :=
  decide ((s.frac.map Prod.fst).Nodup) && s.frac.all (fun kv => kv.2.length == s.n) &&
  (s.frac.map Prod.fst).all (fun k => decide (k < s.trajNum))

theorem fracWF_of_fracOk {s : St} (h : fracOk s = true) : FracWF s := by
  unfold fracOk at h
  simp only [Bool.and_eq_true, decide_eq_true_eq, List.all_eq_true, beq_iff_eq] at h
  obtain ⟨⟨h1, h2⟩, h3⟩ := h
  exact ⟨h1, h2, h3⟩

instance (s : St) : Decidable (Matchable s) := by unfold Matchable; infer_instance

def matchableAtB (y : Sys) (ev : Ev) : Bool :=
  match ev with
  | .step k status newW _ =>
    match y.jobs[k]? with
    | some job =>
      match recState (loop y.s).1 job status newW with
      | .ok (s1, _, _) => decide (Matchable s1)
      | .error _ => true
    | none => true
  | _ => true

theorem matchableAtB_iff {y : Sys} {ev : Ev} : matchableAtB y ev = true ↔ matchableAt y ev := by
  cases ev with
  | start o saved => exact ⟨fun _ => trivial, fun _ => rfl⟩
  | initDone => exact ⟨fun _ => trivial, fun _ => rfl⟩
  | step k status newW o =>
    cases hj : y.jobs[k]? with
    | none => simp [matchableAtB, matchableAt, hj]
    | some job =>
      cases hr : recState (loop y.s).1 job status newW with
      | error e =>
        simp only [matchableAtB, matchableAt, hj, hr, true_iff]
        intro j s1 tn pns hjj h'
        rw [← Option.some.inj hjj, hr] at h'; cases h'
      | ok r =>
        obtain ⟨s1, tn, pns⟩ := r
        simp only [matchableAtB, matchableAt, hj, hr, decide_eq_true_eq]
        refine ⟨fun hM j s1' tn' pns' hjj h' => ?_, fun h => h job s1 tn pns rfl hr⟩
        rw [← Option.some.inj hjj, hr] at h'; cases h'; exact hM

def matchableAlongB : Sys → List Ev → Bool
  | _, [] => true
  | y, ev :: rest =>
    matchableAtB y ev &&
    match sysStep y ev with
    | .ok y' => matchableAlongB y' rest
    | .error _ => true

theorem matchableAlongB_iff : ∀ (evs : List Ev) (y : Sys), matchableAlongB y evs = true ↔ MatchableAlong y evs
  | [], _ => by simp [matchableAlongB, MatchableAlong]
  | ev :: rest, y => by
    unfold matchableAlongB MatchableAlong
    rw [Bool.and_eq_true, matchableAtB_iff]
    cases sysStep y ev with
    | ok y' => exact and_congr_right fun _ => matchableAlongB_iff rest y'
    | error e => simp

theorem matchableAlong_of_B : ∀ (evs : List Ev) (y : Sys), matchableAlongB y evs = true →
    MatchableAlong y evs :=
  fun evs y => (matchableAlongB_iff evs y).mp

instance (y : Sys) (evs : List Ev) : Decidable (MatchableAlong y evs) :=
  decidable_of_iff _ (matchableAlongB_iff evs y)

end Infretis.Repex.Frac
