import Infretis.Model.LatticeMoves
import Mathlib.Algebra.Order.Field.Basic
import Mathlib.Tactic.FieldSimp
import Mathlib.Tactic.Linarith
import Mathlib.Tactic.Ring
/-!
C01, path lengths: the closed forms solve the two inhomogeneous boundary-value problems of the lattice walk (exit time,
hitting time on the event "top first"); the recursions of the walk's finite-horizon laws `stepsBy`, `hitStepsBy` and the
bound `hitTime_le_v` are what `Lattice.law_gap` asks of them (it is applied in `Props/C01`: `exit_time_law_converges`,
`hit_time_law_converges`).
-/
namespace Infretis.LatticeMoves
open Infretis.Lattice

theorem exitTime_eq (N : Nat) : ExitTimeEq N (exitTime N) := by
  refine ⟨by simp [exitTime], by simp [exitTime], ?_⟩
  intro x hx _
  simp only [exitTime, Nat.cast_pred hx]
  push_cast
  ring

theorem hitTime_eq (N : Nat) (hN : 0 < N) : HitTimeEq N (hitTime N) := by
  have hN' : (N : Rat) ≠ 0 := by exact_mod_cast (Nat.pos_iff_ne_zero.1 hN)
  refine ⟨by simp [hitTime], by simp [hitTime], ?_⟩
  intro x hx _
  simp only [hitTime, ruin, Nat.cast_pred hx]
  push_cast
  field_simp
  ring

theorem stepsBy_succ (N t x : Nat) :
    stepsBy N (t + 1) x = if x = 0 then 0 else if N ≤ x then 0 else 1 + (stepsBy N t (x - 1) + stepsBy N t (x + 1)) / 2 := by
  simp [stepsBy]

theorem stepsBy_out (N t x : Nat) (h : x = 0 ∨ N ≤ x) : stepsBy N t x = 0 := by
  cases t with
  | zero => rfl
  | succ t =>
    rw [stepsBy_succ]
    split
    · rfl
    · rw [if_pos (h.resolve_left ‹_›)]

theorem hitStepsBy_succ (N t x : Nat) :
    hitStepsBy N (t + 1) x = if x = 0 then 0 else if N ≤ x then 0
      else (hitStepsBy N t (x - 1) + hitStepsBy N t (x + 1)) / 2 + reachBy N (t + 1) x := by
  simp [hitStepsBy]

theorem hitStepsBy_out (N t x : Nat) (h : x = 0 ∨ N ≤ x) : hitStepsBy N t x = 0 := by
  cases t with
  | zero => rfl
  | succ t =>
    rw [hitStepsBy_succ]
    split
    · rfl
    · rw [if_pos (h.resolve_left ‹_›)]

/-- x(N²−x²)/(3N) is x(N−x) times a factor (N+x)/(3N) between 0 and 1 -/
theorem hitTime_le_v (N : Nat) (hN : 0 < N) (x : Nat) (hx : x ≤ N) :
    0 ≤ hitTime N x ∧ hitTime N x ≤ (x : Rat) * ((N : Rat) - (x : Rat)) + 1 := by
  have hN' : (0 : Rat) < (N : Rat) := Nat.cast_pos.2 hN
  have hxN : (x : Rat) ≤ (N : Rat) := Nat.cast_le.2 hx
  have hx0 : (0 : Rat) ≤ (x : Rat) := Nat.cast_nonneg x
  have hp : 0 ≤ (x : Rat) * ((N : Rat) - (x : Rat)) := mul_nonneg hx0 (sub_nonneg.2 hxN)
  have hf : hitTime N x = (x : Rat) * ((N : Rat) - (x : Rat)) * (((N : Rat) + (x : Rat)) / (3 * (N : Rat))) := by
    unfold hitTime
    rw [← mul_div_assoc]
    congr 1
    ring
  have h3 : (0 : Rat) < 3 * (N : Rat) := mul_pos (by norm_num) hN'
  have hq0 : 0 ≤ ((N : Rat) + (x : Rat)) / (3 * (N : Rat)) := div_nonneg (add_nonneg hN'.le hx0) h3.le
  have hq1 : ((N : Rat) + (x : Rat)) / (3 * (N : Rat)) ≤ 1 := by rw [div_le_one h3]; linarith
  rw [hf]
  exact ⟨mul_nonneg hp hq0, le_trans (mul_le_of_le_one_right hp hq1) (le_add_of_nonneg_right zero_le_one)⟩

end Infretis.LatticeMoves
