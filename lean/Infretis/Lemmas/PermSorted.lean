import Infretis.Lemmas.PermSort
import Infretis.Lemmas.PermBlock
import Infretis.Lemmas.PermReach
/-!
# `inf_retis`' preparation phase brings a reachable idle block into sorted reachable form (C02)
-/
namespace Infretis.Perm

theorem firstPos_reverse_plus (o m cnt : Nat) (r : Row) (h : IsPlusRow o m cnt r) (hc : 1 ≤ cnt) :
    firstPos r.reverse = m - (o + cnt) := by
  obtain ⟨hlen, hle, _, hpos, hzero⟩ := h
  unfold firstPos
  have : r.reverse.findIdx? (fun x => decide (0 < x)) = some (m - (o + cnt)) := by
    rw [List.findIdx?_eq_some_iff_getElem]
    refine ⟨by rw [List.length_reverse, hlen]; omega, ?_, ?_⟩
    · have := hpos (o + cnt - 1) (by omega) (by omega)
      simp only [List.getElem_reverse, hlen, decide_eq_true_eq]
      have hidx : m - 1 - (m - (o + cnt)) = o + cnt - 1 := by omega
      rw [List.getD_eq_getElem?_getD, List.getElem?_eq_getElem (by omega)] at this
      simp only [Option.getD_some] at this
      simpa [hidx] using this
    · intro j hj
      have := hzero (m - 1 - j) (by omega) (by omega)
      rw [List.getD_eq_getElem?_getD, List.getElem?_eq_getElem (by omega)] at this
      simp only [Option.getD_some] at this
      simp only [List.getElem_reverse, hlen, decide_eq_true_eq, this]
      exact lt_irrefl 0
  rw [this]; rfl

theorem reach_cnt_pos (o : Nat) (N : Mat) (cnts : List Nat) (hR : Reach o N cnts)
    (hP : permC N ≠ 0) (k : Nat) (hk : k < cnts.length) : 1 ≤ cnts.getD k 0 := by
  by_contra hlt
  have h0 : cnts.getD k 0 = 0 := by omega
  obtain ⟨hlen, _, h1, _, h3⟩ := hR.plus k hk
  apply hP
  apply permC_zero_of_zero_row N (o + k) (by rw [hR.hlen]; omega)
  intro j hj
  unfold entry
  rcases Nat.lt_or_ge j o with hjo | hjo
  · exact h1 j hjo
  · exact h3 j (by omega) hj

theorem plusKey_getD (o : Nat) (N : Mat) (cnts : List Nat) (hR : Reach o N cnts)
    (hP : permC N ≠ 0) (i : Nat) (hi : i < cnts.length) :
    ((N.drop o).map (fun r => -(firstPos r.reverse : Int))).getD i 0
      = -(((o + cnts.length) - (o + cnts.getD i 0) : Nat) : Int) := by
  have hlen := hR.hlen
  have hpl := hR.plus i hi
  rw [hlen] at hpl
  have hc := reach_cnt_pos o N cnts hR hP i hi
  have hfp := firstPos_reverse_plus o _ _ _ hpl hc
  have hi' : o + i < N.length := by omega
  simp only [List.getD_eq_getElem?_getD, List.getElem?_map, List.getElem?_drop,
    List.getElem?_eq_getElem hi', Option.map_some, Option.getD_some] at hfp ⊢
  rw [hfp]

theorem reach_reorder (o : Nat) (N : Mat) (cnts : List Nat) (hR : Reach o N cnts) (idx : List Nat)
    (hp : idx.Perm (List.range cnts.length)) :
    Reach o ((List.range o ++ idx.map (fun i => i + o)).map (fun i => N.getD i []))
      (idx.map (fun i => cnts.getD i 0)) := by
  have hlen := hR.hlen
  have hil : idx.length = cnts.length := by simpa using hp.length_eq
  have hSlen : ((List.range o ++ idx.map (fun i => i + o)).map (fun i => N.getD i [])).length
      = N.length := by
    simp [hil, hlen]
  refine ⟨hR.ho, by simp [hil], ?_, ?_⟩
  · intro ho1
    subst ho1
    rw [hSlen]
    simpa [List.getD_eq_getElem?_getD] using hR.minus rfl
  · intro k hk
    rw [List.length_map] at hk
    have hrow : ((List.range o ++ idx.map (fun i => i + o)).map (fun i => N.getD i [])).getD (o + k) []
        = N.getD (o + idx[k]) [] := by
      rw [List.map_append, List.getD_eq_getElem?_getD, List.getElem?_append_right (by simp)]
      simp [hk, Nat.add_comm]
    have hcnt : (idx.map (fun i => cnts.getD i 0)).getD k 0 = cnts.getD idx[k] 0 := by
      simp [List.getD_eq_getElem?_getD, hk]
    rw [hSlen, hrow, hcnt]
    exact hR.plus _ (List.mem_range.mp (hp.mem_iff.mp (List.getElem_mem hk)))

/-- **Hall's condition is necessary**: in a family matrix with non-decreasing counts and non-zero permanent,
    plus row `k` reaches beyond column `k`.  Otherwise the first `o + k + 1` rows live on `o + k` columns. -/
theorem hall_of_permC_ne (o : Nat) (S : Mat) (cnts : List Nat) (hR : Reach o S cnts)
    (hs : cnts.Pairwise (fun a b => a ≤ b)) (hP : permC S ≠ 0) :
    ∀ k, k < cnts.length → k + 1 ≤ cnts.getD k 0 := by
  intro k hk
  by_contra hlt
  apply hP
  have hlen := hR.hlen
  unfold permC
  rw [show S.length = o + k + 1 + (cnts.length - k - 1) by omega]
  conv => lhs; arg 2; rw [← List.take_append_drop (o + k + 1) S]
  apply permN_narrow_zero (o + k) (cnts.length - k - 1) _ _ (by rw [List.length_drop]; omega)
  intro r hr c hc1 hc2
  obtain ⟨i, hi, rfl⟩ := List.mem_iff_getElem.mp hr
  rw [List.length_take] at hi
  have hiS : i < S.length := by omega
  have hrow : S[i] = S.getD i [] := by simp [List.getD_eq_getElem?_getD, hiS]
  rw [List.getElem_take, hrow]
  rcases Nat.lt_or_ge i o with hio | hio
  · have ho1 : o = 1 := by have := hR.ho; omega
    subst ho1
    obtain rfl : i = 0 := by omega
    exact (hR.minus rfl).2.2 c (by omega) (by omega)
  · obtain ⟨j, rfl⟩ : ∃ j, i = o + j := ⟨i - o, by omega⟩
    have hj : j < cnts.length := by omega
    have hle : cnts.getD j 0 ≤ cnts.getD k 0 := by
      rcases Nat.lt_or_ge j k with hjk | hjk
      · simpa [List.getD_eq_getElem?_getD, hj, hk] using List.pairwise_iff_getElem.mp hs j k hj hk hjk
      · obtain rfl : j = k := by omega
        exact le_refl _
    exact (hR.plus j hj).2.2.2.2 c (by omega) (by omega)

/-- **The preparation phase sorts a reachable idle block with non-zero permanent into the sorted reachable
    form** (counts non-decreasing, Hall's condition `k+1 ≤ cnt_k`), whatever the tie order of the two argsorts. -/
theorem sortedReach_of_sorting (o : Nat) (N : Mat) (cnts : List Nat) (hR : Reach o N cnts)
    (hP : permC N ≠ 0) (idx1 idx2 : List Nat)
    (h1 : Sorts ((N.take o).map (fun r => (firstPos r : Int))) idx1)
    (h2 : Sorts ((N.drop o).map (fun r => -(firstPos r.reverse : Int))) idx2) :
    ∃ cnts', SortedReach o ((idx1 ++ idx2.map (fun i => i + o)).map (fun i => N.getD i [])) cnts' := by
  have hlen := hR.hlen
  have ho := hR.ho
  have hperm := sortIdx_perm o N.length idx1 idx2 (by simpa using h1.1) (by simpa using h2.1)
  obtain rfl : idx1 = List.range o :=
    perm_range_le_one o ho idx1 (by simpa [Nat.min_eq_left (show o ≤ N.length by omega)] using h1.1)
  obtain ⟨h2p, h2s⟩ := h2
  have hk2 : ((N.drop o).map (fun r => -(firstPos r.reverse : Int))).length = cnts.length := by
    simp only [List.length_map, List.length_drop]; omega
  rw [hk2] at h2p
  have hR' := reach_reorder o N cnts hR idx2 h2p
  -- the keys are decreasing in the counts, so sorting the keys sorts the counts
  have hsorted : (idx2.map (fun i => cnts.getD i 0)).Pairwise (fun a b => a ≤ b) := by
    rw [List.pairwise_map]
    refine List.Pairwise.imp_of_mem ?_ h2s
    intro a b ha hb hab
    have ha' : a < cnts.length := List.mem_range.mp (h2p.mem_iff.mp ha)
    have hb' : b < cnts.length := List.mem_range.mp (h2p.mem_iff.mp hb)
    rw [plusKey_getD o N cnts hR hP a ha', plusKey_getD o N cnts hR hP b hb'] at hab
    have h1a := (hR.plus a ha').2.1
    have h1b := (hR.plus b hb').2.1
    omega
  refine ⟨_, hR', hsorted, hall_of_permC_ne o _ _ hR' hsorted ?_⟩
  rwa [permC_perm (perm_map_getD N _ [] hperm)]

theorem prepareGiven_sortedReach (off : Nat) (W : Mat) (locks : List Bool) (cnts : List Nat) (a b : List Nat)
    (ha : Sorts (keysMinus off W locks) a) (hb : Sorts (keysPlus off W locks) b)
    (hR : Reach (offsetOf off locks) (idle W locks) cnts) (hP : permC (idle W locks) ≠ 0) :
    ∃ cnts', SortedReach (offsetOf off locks) (prepareGiven off W locks a b).sorted cnts' :=
  sortedReach_of_sorting (offsetOf off locks) (idle W locks) cnts hR hP a b ha hb

end Infretis.Perm
