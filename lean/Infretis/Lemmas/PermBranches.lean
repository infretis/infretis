import Infretis.Lemmas.PermTile
import Infretis.Lemmas.PermReachDec
import Infretis.Lemmas.PermPipe
import Infretis.Lemmas.PermProb
/-!
# The branch phase of `inf_retis` returns the permanent ratios of the sorted matrix (C02)

On a staircase block each of the three exact routines returns the permanent ratios (`IsBlk.single`, `IsBlk.quick`,
`IsBlk.glynn`).  `find_blocks` cuts the sorted matrix of the family at the tiles of `Lemmas/PermTile.lean`, so the
block loop writes the specification tile by tile (`sortedOut_blocks`; blocks sent to `random_prob` excluded); the
equal-weights branch computes the two tiles "minus row" and "plus rows" by `quick_prob` (`sortedOut_equal`).
-/
namespace Infretis.Perm.Blk

section blk
variable {sub : Mat} {k : Nat} {g : Nat → Nat} (h : IsBlk sub k g)
include h

theorem IsBlk.nonneg : ∀ r ∈ sub, ∀ c, 0 ≤ r.getD c 0 := by
  intro r hr c
  obtain ⟨i, hi, rfl⟩ := List.getElem_of_mem hr
  have hik : i < k := by rw [← h.hk]; exact hi
  by_cases hc : c < k
  · rw [← entry_eq_getElem sub i c hi]
    by_cases hcg : c < g i
    · exact le_of_lt (h.hpos i c hik hc hcg)
    · exact le_of_eq (h.hzero i c hik hc (by omega)).symm
  · rw [List.getD_eq_default _ _ (by rw [h.hrow _ hr]; omega)]

theorem IsBlk.diag (i : Nat) (hi : i < k) : 0 < entry sub i i :=
  h.hpos i i hi hi (h.hg i hi)

theorem IsBlk.permC_pos : 0 < permC sub :=
  Perm.permC_pos sub h.nonneg (fun i hi => h.diag i (by rw [← h.hk]; exact hi))

end blk

theorem IsBlk.single {sub : Mat} {g : Nat → Nat} (h : IsBlk sub 1 g) : specMat sub = [[1]] := by
  match sub, h with
  | [r], h =>
    have hr := h.hrow r (by simp)
    match r, hr, h with
    | [x], _, h =>
      have hx : 0 < x := by
        simpa [entry] using h.hpos 0 0 (by omega) (by omega) (by have := h.hg 0 (by omega); omega)
      have hp : permC [[x]] ≠ 0 := by simpa [permC, permN, sumPick] using ne_of_gt hx
      simp [specMat, pSpec_single [x] hp]

theorem IsBlk.glynn {sub : Mat} {k : Nat} {g : Nat → Nat} (h : IsBlk sub k g) (hk2 : 2 ≤ k) :
    permanentProb sub = .ok (specMat sub) := by
  apply permanentProb_eq_spec sub (by rw [h.hk]; exact hk2) (fun r hr => by rw [h.hrow r hr, h.hk])
  · intro r hr
    obtain ⟨i, hi, rfl⟩ := List.getElem_of_mem hr
    have hik : i < k := by rw [← h.hk]; exact hi
    have hd := h.diag i hik
    rw [entry_eq_getElem sub i i hi] at hd
    have hil : i < sub[i].length := by rw [h.hrow _ hr]; exact hik
    exact maxL_ne_zero_of_pos _ _ (by rw [List.getD_eq_getElem _ _ hil]; exact List.getElem_mem hil) hd
  · exact ne_of_gt h.permC_pos


theorem filter_length_lt (m e : Nat) (p : Nat → Bool) (he : e ≤ m)
    (hp : ∀ c, c < m → p c = decide (c < e)) : ((List.range m).filter p).length = e := by
  induction m generalizing e with
  | zero => simp; omega
  | succ m ih =>
    rw [List.range_succ, List.filter_append, List.length_append]
    by_cases hem : e ≤ m
    · rw [ih e hem (fun c hc => hp c (by omega))]
      have : p m = false := by rw [hp m (by omega)]; simp; omega
      simp [this]
    · have hee : e = m + 1 := by omega
      rw [ih m (le_refl _) (fun c hc => by rw [hp c (by omega)]; simp; omega)]
      have : p m = true := by rw [hp m (by omega)]; simp; omega
      simp [this, hee]

theorem nonZeroCounts_eq {o : Nat} {S : Mat} {E : Nat → Nat} (h : SR o S E) :
    nonZeroCounts S o = (List.range S.length).map E := by
  unfold nonZeroCounts
  apply List.ext_getElem
  · simp
  · intro i h1 h2
    have hi : i < S.length := by simpa using h1
    have ho := h.ho
    simp only [List.getElem_map, List.getElem_zipIdx, List.getElem_range, zero_add]
    rw [h.rowlen _ (List.getElem_mem hi)]
    apply filter_length_lt _ _ _ (h.le i hi)
    intro c hc
    have hall := h.hall i hi
    by_cases hco : c < o
    · by_cases hio : i < o
      · have hc0 : c = 0 := by omega
        have hi0 : i = 0 := by omega
        subst hc0; subst hi0
        have := h.pos0 (by omega)
        have hE := h.E0 (by omega)
        simp [hco, hE, ne_of_gt this]
      · have : c < E i := by omega
        simp [hco, hio, this]
    · simp only [hco, if_false]
      rw [← entry_eq_getElem S i c hi]
      by_cases hio : i < o
      · have hi0 : i = 0 := by omega
        subst hi0
        have hE := h.E0 (by omega)
        have := h.zero_hi 0 c hi (by omega)
        simp [this, hE]; omega
      · by_cases hcE : c < E i
        · have := h.pos i c hi (by omega) (by omega) hcE
          simp [hcE, ne_of_gt this]
        · have := h.zero_hi i c hi (by omega)
          simp [hcE, this]

theorem reverse_short (l : Row) (hl : l.length ≤ 1) : l.reverse = l := by
  match l, hl with
  | [], _ => rfl
  | [x], _ => rfl

theorem subBlock_dir (S : Mat) (a : Nat) (dir : Int) :
    subBlock S a (a + 1) dir = subBlock S a (a + 1) 1 := by
  unfold subBlock
  apply List.map_congr_left
  intro r _
  rw [if_neg (show ¬ (1 : Int) = -1 by decide)]
  split
  · exact reverse_short _ (by simp)
  · rfl

theorem padRow_dir (m a : Nat) (dir : Int) (vals : Row) (hl : vals.length ≤ 1) :
    padRow m a dir vals = padRow m a 1 vals := by
  unfold padRow
  rw [if_neg (show ¬ (1 : Int) = -1 by decide)]
  split
  · rw [reverse_short _ hl]
  · rfl

/-- one pass of the block loop on a block that is not sent to `random_prob`: whichever of the three branches
    is taken, it writes the permanent ratios of the block -/
theorem blockLoop_cons (S : Mat) (m a b : Nat) (dir : Int) (bs : List (Nat × Nat × Int))
    (acc : BlockAcc) {k : Nat} {g : Nat → Nat} (blk : IsBlk (subBlock S a b dir) k g) (hk : 1 ≤ k)
    (hr : branchOf (subBlock S a b dir) ≠ .random) :
    blockLoop S m ((a, b, dir) :: bs) acc
      = blockLoop S m bs { acc with
          rows := acc.rows ++ (specMat (subBlock S a b dir)).map (padRow m a dir) } := by
  rw [blockLoop]
  generalize subBlock S a b dir = sub at *
  have hlen := blk.hk
  by_cases c1 : sub.length = 1
  · have hb : branchOf sub = .single := by simp [branchOf, c1]
    obtain rfl : k = 1 := by omega
    simp only [hb]
    rw [blk.single]
  · by_cases c2 : rowConstAt 0 sub = true
    · have hb : branchOf sub = .quick := by simp [branchOf, c1, c2]
      simp only [hb]
      rw [blk.quick c2]
    · by_cases c3 : sub.length ≤ 12
      · have hb : branchOf sub = .glynn := by simp [branchOf, c1, c2, c3]
        simp only [hb, blk.glynn (by omega)]
      · exact absurd (by simp [branchOf, c1, c2, c3]) hr

/-- one block of the tiling: the loop writes the rows `a … b-1` of the specification -/
theorem block_step {o : Nat} {S : Mat} {E : Nat → Nat} (h : SR o S E) (a b : Nat) (hab : a < b)
    (hb : b ≤ S.length) (ha : ∀ j, j < a → E j ≤ a) (hbE : ∀ j, j < b → E j ≤ b)
    (hoa : o ≤ a ∨ b = 1) (dir : Int) (hdir : dir = 1 ∨ b = a + 1)
    (rest : List (Nat × Nat × Int)) (hr : branchOf (subBlock S a b dir) ≠ .random) :
    blockLoop S S.length ((a, b, dir) :: rest)
        { rows := (specMat S).take a, mc := [], nan := false, err := none }
      = blockLoop S S.length rest
        { rows := (specMat S).take b, mc := [], nan := false, err := none } := by
  have hsub : subBlock S a b dir = subBlock S a b 1 := by
    rcases hdir with rfl | rfl
    · rfl
    · exact subBlock_dir S a dir
  have blk := isBlk_sub h a b hab hb hoa
  rw [blockLoop_cons S S.length a b dir rest _ (hsub ▸ blk) (by omega) hr]
  congr 2
  rw [hsub, specMat_take_tile a b hab hb h.permC_pos.ne' (h.cut a (by omega) ha) (h.cut b hb hbE)]
  congr 1
  apply List.map_congr_left
  intro r hr'
  rcases hdir with rfl | hba
  · rfl
  · apply padRow_dir
    rw [specMat_row_length _ r hr', blk.hk]; omega

/-- the block loop over what `blocksGo` still emits when `i` rows are scanned, `n` remain and the open block starts at
    row `start`, the specification being written down to there.  Kept along the scan: the rows above `start` vanish from
    column `start` on; only the first block may hold the minus row (`o ≤ start ∨ i = 0`); the last row closes its
    block, since `i + 1 ≤ E i ≤ S.length`. -/
theorem loop_good {o : Nat} {S : Mat} {E : Nat → Nat} (h : SR o S E) :
    ∀ n i start, i + n = S.length → start ≤ i → (i = S.length → start = S.length) →
      (o ≤ start ∨ i = 0) → (∀ j, j < start → E j ≤ start) →
      (∀ blk ∈ blocksGo o ((List.range' i n).map E) i start,
          branchOf (subBlock S blk.1 blk.2.1 blk.2.2) ≠ .random) →
      blockLoop S S.length (blocksGo o ((List.range' i n).map E) i start)
        { rows := (specMat S).take start, mc := [], nan := false, err := none } = goodAcc S := by
  intro n
  induction n with
  | zero =>
    intro i start hin _ hend _ _ _
    have := hend (by omega)
    simp only [List.range'_zero, List.map_nil, blocksGo, blockLoop, goodAcc]
    rw [this, List.take_of_length_le (specMat_length S).le]
  | succ n ih =>
    intro i start hin hsi hend hor hst hsmall
    have hgo : blocksGo o ((List.range' i (n + 1)).map E) i start
        = if E i = i + 1 then
            (start, E i, if start < o then -1 else 1)
              :: blocksGo o ((List.range' (i + 1) n).map E) (i + 1) (E i)
          else blocksGo o ((List.range' (i + 1) n).map E) (i + 1) start := by
      rw [List.range'_succ, List.map_cons, blocksGo]
    have hiS : i < S.length := by omega
    have ho := h.ho
    rw [hgo] at hsmall ⊢
    by_cases hclose : E i = i + 1
    · rw [if_pos hclose] at hsmall ⊢
      rw [hclose] at hsmall ⊢
      have hbE : ∀ j, j < i + 1 → E j ≤ i + 1 := by
        intro j hj
        have := h.mono j i (by omega) hiS
        omega
      rw [block_step h start (i + 1) (by omega) (by omega) hst hbE ?_ _ ?_ _
        (hsmall _ List.mem_cons_self)]
      · apply ih (i + 1) (i + 1) (by omega) (le_refl _) (fun _ => by omega) (Or.inl (by omega)) hbE
        intro blk hblk
        exact hsmall blk (List.mem_cons_of_mem _ hblk)
      · rcases hor with hor | hor
        · exact Or.inl hor
        · right; omega
      · by_cases hso : start < o
        · right
          rcases hor with hor | hor <;> omega
        · left; rw [if_neg hso]
    · rw [if_neg hclose] at hsmall ⊢
      apply ih (i + 1) start (by omega) (by omega) ?_ ?_ hst hsmall
      · intro him
        have h1 := h.hall i hiS
        have h2 := h.le i hiS
        omega
      · rcases hor with hor | hor
        · exact Or.inl hor
        · by_cases hso : o ≤ start
          · exact Or.inl hso
          · exfalso
            subst hor
            have := h.E0 (by omega)
            omega

theorem pad_drop (r : Row) (o m : Nat) (hl : r.length = m) (hom : o ≤ m)
    (hz : ∀ c, c < o → r.getD c 0 = 0) : List.replicate o (0:Rat) ++ (r.drop o).take (m - o) = r := by
  rw [List.take_of_length_le (by simp [hl])]
  conv_rhs => rw [← List.take_append_drop o r]
  congr 1
  symm
  rw [List.eq_replicate_iff]
  refine ⟨by simp [hl, hom], fun x hx => ?_⟩
  obtain ⟨c, hc, rfl⟩ := List.getElem_of_mem hx
  rw [List.getElem_take, ← List.getD_eq_getElem _ 0]
  exact hz c (by simp at hc; omega)

section equal
variable {o : Nat} {S : Mat} {E : Nat → Nat} (h : SR o S E)
include h

theorem drop_eq_pad (hom : o ≤ S.length) :
    S.drop o = (subBlock S o S.length 1).map (fun r => List.replicate o (0:Rat) ++ r) := by
  rw [subBlock_one, List.map_map, List.take_of_length_le (by simp)]
  symm
  refine (List.map_congr_left fun r hr => ?_).trans (List.map_id _)
  obtain ⟨t, ht, rfl⟩ := List.getElem_of_mem hr
  have htS : o + t < S.length := by simp at ht; omega
  rw [List.getElem_drop]
  exact pad_drop _ o _ (h.rowlen _ (List.getElem_mem htS)) hom fun c hc => by
    rw [← entry_eq_getElem S (o + t) c htS]
    exact h.zero_lo (o + t) c htS (by omega) hc

/-- `quick_prob` on the rows from `o` on, when they pass the equal-weights test -/
theorem quickProb_drop (hom : o < S.length) (hrc : rowConstAt o (S.drop o) = true) :
    quickProb (S.drop o) = (specMat (subBlock S o S.length 1)).map (padRow S.length o 1) := by
  have blk := isBlk_sub h o S.length hom (le_refl _) (Or.inl (le_refl _))
  have hne : subBlock S o S.length 1 ≠ [] := by
    intro h0; have := blk.hk; rw [h0] at this; simp at this; omega
  have hrc0 : rowConstAt 0 (subBlock S o S.length 1) = true := by
    rw [drop_eq_pad h (le_of_lt hom)] at hrc
    rw [rowConstAt_iff] at hrc ⊢
    intro r hr x hx
    have := hrc _ (List.mem_map_of_mem hr) x (List.mem_append_right _ hx)
    rwa [List.getD_eq_getElem?_getD, List.getElem?_append_right (by simp), List.length_replicate,
      Nat.sub_self, ← List.getD_eq_getElem?_getD] at this
  rw [drop_eq_pad h (le_of_lt hom), quickProb_pad o _ hne, blk.quick hrc0]
  apply List.map_congr_left
  intro r hr
  rw [padRow, if_neg (by decide), specMat_row_length _ r hr, blk.hk]
  simp

end equal

end Infretis.Perm.Blk

namespace Infretis.Perm

open Blk in
/-- **the equal-weights branch of `inf_retis`** returns the permanent ratios of the sorted matrix on the sorted
    reachable family: the minus row and the plus rows are two tiles of the specification, and `quick_prob`
    computes each -/
theorem sortedOut_equal (s : Sorted) (cnts : List Nat) (hS : SortedReach s.offset s.sorted cnts)
    (hm : s.m = s.sorted.length) (he : s.equal = true)
    (hrcP : s.m ≤ s.offset ∨ rowConstAt s.offset (s.sorted.drop s.offset) = true) :
    sortedOut s = goodAcc s.sorted := by
  rcases s with ⟨o, m, idx, S, eq⟩
  simp only at hS hm he hrcP
  subst hm he
  have h := sr_of_sortedReach o S cnts hS
  have hlen := hS.hlen
  have ha : ∀ j, j < o → Eof o cnts j ≤ o := fun j hj => by
    have := hS.ho
    obtain rfl : j = 0 := by omega
    rw [h.E0 (by omega)]; omega
  have hminus : (quickProb ((S.take o).map List.reverse)).map List.reverse = (specMat S).take o := by
    obtain rfl | rfl : o = 0 ∨ o = 1 := by have := hS.ho; omega
    · rfl
    · cases S with
      | nil => simp at hlen; omega
      | cons r0 B =>
        have hr0 : IsMinusRow (B.length + 1) r0 := by simpa using hS.minus rfl
        rw [specMat_take_tile 0 1 (by omega) (by simp) h.permC_pos.ne' (fun _ _ ht => by omega)
            (h.cut 1 (by simp) ha),
          (isBlk_sub h 0 1 (by omega) (by simp) (Or.inr rfl)).single]
        simpa [padRow] using minus_out r0 B.length hr0
  have hplus : (if o < S.length then quickProb (S.drop o) else []) = (specMat S).drop o := by
    by_cases hom : o < S.length
    · have ht := specMat_take_tile o S.length hom (le_refl _) h.permC_pos.ne' (h.cut o hom.le ha)
        (h.cut _ (le_refl _) h.le)
      rw [List.take_of_length_le (specMat_length S).le] at ht
      rw [if_pos hom, quickProb_drop h hom (hrcP.resolve_left (by omega))]
      conv_rhs => rw [ht]
      rw [List.drop_left' (by rw [List.length_take, specMat_length]; omega)]
    · rw [if_neg hom, List.drop_of_length_le (by rw [specMat_length]; omega)]
  simp only [sortedOut, goodAcc, if_true, hminus, hplus, List.take_append_drop]

example : sortedOut ⟨1, 3, [0, 1, 2], [[2, 0, 0], [0, 3, 0], [0, 5, 5]], true⟩
    = goodAcc [[2, 0, 0], [0, 3, 0], [0, 5, 5]] := by
  apply sortedOut_equal _ [1, 2] (by decide +kernel) rfl rfl
  right; decide +kernel

open Blk in
/-- **The block branch of `inf_retis`**: on the sorted reachable family with non-equal weights
    the loop over the blocks of `find_blocks` (none of them sent to `random_prob`) writes exactly
    the permanent ratios of the sorted matrix. -/
theorem sortedOut_blocks (s : Sorted) (cnts : List Nat)
    (hS : SortedReach s.offset s.sorted cnts)
    (hm : s.m = s.sorted.length) (h2 : 2 ≤ s.sorted.length) (he : s.equal = false)
    (hsmall : ∀ bs, findBlocks s.sorted s.offset = .list bs →
      ∀ b ∈ bs, branchOf (subBlock s.sorted b.1 b.2.1 b.2.2) ≠ .random) :
    sortedOut s = goodAcc s.sorted := by
  have h := sr_of_sortedReach s.offset s.sorted cnts hS
  have hfb : findBlocks s.sorted s.offset
      = .list (blocksGo s.offset ((List.range' 0 s.sorted.length).map (Eof s.offset cnts)) 0 0) := by
    unfold findBlocks
    rw [if_neg (by omega), nonZeroCounts_eq h, List.range_eq_range']
  have hloop := loop_good h s.sorted.length 0 0 (by omega) (le_refl _) (by omega)
    (Or.inr rfl) (fun j hj => by omega) (hsmall _ hfb)
  rw [List.take_zero] at hloop
  unfold sortedOut
  rw [he, hfb]
  simp only [Bool.false_eq_true, if_false, hm, hloop]
  simp [goodAcc, specMat]

/-- minus block `(0,1,-1)`, then a 2×2 `permanent_prob` block and a single block -/
example :
    let S : Mat := [[1, 0, 0, 0], [0, 2, 3, 0], [0, 1, 4, 0], [0, 5, 6, 7]]
    let r := sortedOut { offset := 1, m := 4, sortIdx := [0, 1, 2, 3], sorted := S, equal := false }
    r.rows = specMat S ∧ r.mc = [] ∧ r.nan = false ∧ r.err = none := by decide +kernel

/-- a row-constant 2×2 `quick_prob` block followed by a single block, no minus row -/
example :
    let S : Mat := [[2, 2, 0], [3, 3, 0], [1, 4, 5]]
    let r := sortedOut { offset := 0, m := 3, sortIdx := [0, 1, 2], sorted := S, equal := false }
    r.rows = specMat S ∧ r.mc = [] ∧ r.nan = false ∧ r.err = none := by decide +kernel

end Infretis.Perm

/-! ### the hypotheses of `sortedOut_blocks` are satisfiable -/
namespace Infretis.Perm.Blk

def S0 : Mat := [[1, 0, 0, 0], [0, 2, 3, 0], [0, 1, 4, 0], [0, 5, 6, 7]]
def s0 : Sorted := { offset := 1, m := 4, sortIdx := [0, 1, 2, 3], sorted := S0, equal := false }

theorem s0_reach : SortedReach 1 S0 [2, 2, 3] := by decide +kernel

example : sortedOut s0 = goodAcc S0 := by
  apply sortedOut_blocks s0 [2, 2, 3] s0_reach rfl (by decide) rfl
  intro bs hbs
  have hfb : findBlocks S0 1 = .list [(0, 1, -1), (1, 3, 1), (3, 4, 1)] := by rfl
  have : bs = [(0, 1, -1), (1, 3, 1), (3, 4, 1)] := by
    have h := hbs.symm.trans hfb
    injection h
  subst this
  decide +kernel

end Infretis.Perm.Blk
