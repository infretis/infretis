/-
C19 (part "codec"): lemmas and theorems about the decimal fixed-point text codecs
(`Infretis.Codec`, Model/Codec.lean): GROMACS .g96 and extended xyz.

What a reader makes of a written text is stated as an equation on the text the writer produces (`frameLines`,
`trajText`, `g96Lines`); `Props/C19.lean` derives its statements (with `write … = .ok t` as a hypothesis, and for the
readers with the complete white-space set through `Lemmas/CodecUni.lean`) from these.  All for arbitrary atom counts,
by induction; `decide` only on the fixed character tables and in the examples.
-/
import Infretis.Model.Codec
import Infretis.Lemmas.Lex
namespace Infretis.Codec

def digs : List Char := ['0','1','2','3','4','5','6','7','8','9']
def numChars : List Char := '-' :: '.' :: digs

theorem digitVal_digitChar : ∀ d, d < 10 → digitVal? (digitChar d) = some d := by decide +kernel

theorem digitChar_mem (d : Nat) : digitChar d ∈ digs := by
  unfold digitChar; split <;> decide

theorem digs_props : ∀ c ∈ digs, c ≠ '-' ∧ c ≠ '.' ∧ (digitVal? c).isSome = true := by decide +kernel

theorem numChars_props : ∀ c ∈ numChars,
    isWs c = false ∧ c ≠ '\n' ∧ c ≠ '\r' ∧ lowerC c = c ∧ c ≠ 'b' := by decide +kernel

theorem digitsValAcc_snoc (acc : Nat) (l : List Char) (c : Char) :
    digitsValAcc acc (l ++ [c]) =
      match digitsValAcc acc l with
      | some v => (digitVal? c).map (fun d => v * 10 + d)
      | none => none := by
  induction l generalizing acc with
  | nil => simp [digitsValAcc]; cases digitVal? c <;> simp
  | cons a t ih =>
    simp only [List.cons_append, digitsValAcc]
    cases digitVal? a with
    | none => simp
    | some d => simpa using ih (acc * 10 + d)

theorem natDigitsF_val : ∀ f n, n < f → digitsVal (natDigitsF f n) = some n := by
  intro f
  induction f with
  | zero => intro n h; omega
  | succ f ih =>
    intro n h
    unfold natDigitsF
    split
    · rename_i h10
      simp [digitsVal, digitsValAcc, digitVal_digitChar n h10]
    · rename_i h10
      have := ih (n / 10) (by omega)
      unfold digitsVal at this ⊢
      rw [digitsValAcc_snoc, this]
      simp [digitVal_digitChar (n % 10) (by omega)]
      omega

theorem natDigits_val (n : Nat) : digitsVal (natDigits n) = some n :=
  natDigitsF_val (n + 1) n (by omega)

theorem natDigitsF_mem : ∀ f n, ∀ c ∈ natDigitsF f n, c ∈ digs := by
  intro f
  induction f with
  | zero => intro n c h; simp [natDigitsF] at h
  | succ f ih =>
    intro n c h
    unfold natDigitsF at h
    split at h
    · simp at h; subst h; exact digitChar_mem _
    · simp at h
      rcases h with h | h
      · exact ih _ _ h
      · subst h; exact digitChar_mem _

theorem natDigitsF_ne_nil : ∀ f n, natDigitsF (f + 1) n ≠ [] := by
  intro f n
  unfold natDigitsF
  split <;> simp

theorem natDigits_ne_nil (n : Nat) : natDigits n ≠ [] := natDigitsF_ne_nil n n

theorem natDigits_mem (n : Nat) : ∀ c ∈ natDigits n, c ∈ digs := natDigitsF_mem _ _

theorem intDigits_mem (i : Int) : ∀ c ∈ intDigits i, c ∈ numChars := by
  have hd : ∀ n, ∀ c ∈ natDigits n, c ∈ numChars := fun n c h => by simp [numChars, natDigits_mem n c h]
  intro c hc
  unfold intDigits at hc
  split at hc
  · rcases List.mem_cons.1 hc with rfl | hc
    · exact List.mem_cons_self
    · exact hd _ c hc
  · exact hd _ c hc

theorem intDigits_ne_nil (i : Int) : intDigits i ≠ [] := by
  unfold intDigits
  split
  · exact List.cons_ne_nil _ _
  · exact natDigits_ne_nil _

theorem fracDigits_length : ∀ p m, (fracDigits p m).length = p := by
  intro p
  induction p with
  | zero => intro m; rfl
  | succ p ih => intro m; simp [fracDigits, ih]

theorem fracDigits_mem : ∀ p m, ∀ c ∈ fracDigits p m, c ∈ digs := by
  intro p
  induction p with
  | zero => intro m c h; simp [fracDigits] at h
  | succ p ih =>
    intro m c h
    simp [fracDigits] at h
    rcases h with h | h
    · exact ih _ _ h
    · subst h; exact digitChar_mem _

theorem fracDigits_val : ∀ p m, digitsVal (fracDigits p m) = some (m % 10 ^ p) := by
  intro p
  induction p with
  | zero => intro m; simp [fracDigits, digitsVal, digitsValAcc, Nat.mod_one]
  | succ p ih =>
    intro m
    have := ih (m / 10)
    unfold digitsVal at this ⊢
    simp only [fracDigits]
    rw [digitsValAcc_snoc, this]
    simp [digitVal_digitChar (m % 10) (by omega)]
    rw [Nat.pow_succ, Nat.mul_comm (10 ^ p) 10, Nat.mod_mul]
    omega

theorem splitDot_append (l r : List Char) (h : ∀ c ∈ l, c ≠ '.') :
    splitDot (l ++ '.' :: r) = some (l, r) := by
  induction l with
  | nil => simp [splitDot]
  | cons a t ih =>
    have ha : a ≠ '.' := h a (by simp)
    have := ih (fun c hc => h c (by simp [hc]))
    simp [splitDot, ha, this]

theorem parseBody_fmt (prec : Nat) (neg : Bool) (m : Nat) :
    parseBody prec neg (natDigits (m / 10 ^ prec) ++ '.' :: fracDigits prec (m % 10 ^ prec))
      = some ⟨neg, m⟩ := by
  unfold parseBody
  rw [splitDot_append _ _ (fun c hc => (digs_props c (natDigits_mem _ c hc)).2.1)]
  simp only [natDigits_ne_nil, if_false, fracDigits_length, ne_eq, not_true_eq_false,
    natDigits_val, fracDigits_val]
  rw [Nat.mod_mod]
  congr 2
  rw [Nat.mul_comm]
  exact Nat.div_add_mod m (10 ^ prec)

theorem parseCore_fmtCore (prec : Nat) (d : Dec) : parseCore prec (fmtCore prec d) = some d := by
  obtain ⟨neg, m⟩ := d
  cases neg with
  | true =>
    simp only [fmtCore, if_true, List.cons_append, List.nil_append, parseCore]
    simpa using parseBody_fmt prec true m
  | false =>
    simp only [fmtCore, Bool.false_eq_true, if_false, List.nil_append]
    have hne := natDigits_ne_nil (m / 10 ^ prec)
    have hmem := natDigits_mem (m / 10 ^ prec)
    cases hd : natDigits (m / 10 ^ prec) with
    | nil => exact absurd hd hne
    | cons a t =>
      have ha : a ≠ '-' := (digs_props a (hmem a (by simp [hd]))).1
      simp only [List.cons_append, parseCore, ha, if_false]
      have := parseBody_fmt prec false m
      rw [hd] at this
      simpa using this

theorem fmtCore_mem (prec : Nat) (d : Dec) : ∀ c ∈ fmtCore prec d, c ∈ numChars := by
  intro c h
  simp only [fmtCore, List.mem_append, List.mem_cons] at h
  rcases h with (h | h) | h | h
  · split at h
    · simp at h; subst h; simp [numChars]
    · simp at h
  · have := natDigits_mem _ c h; simp [numChars, this]
  · subst h; simp [numChars]
  · have := fracDigits_mem _ _ c h; simp [numChars, this]

theorem fmtCore_ne_nil (prec : Nat) (d : Dec) : fmtCore prec d ≠ [] := by
  simp [fmtCore]

def NoWs (l : List Char) : Prop := ∀ c ∈ l, isWs c = false

theorem fmtCore_noWs (prec : Nat) (d : Dec) : NoWs (fmtCore prec d) :=
  fun c h => (numChars_props c (fmtCore_mem prec d c h)).1

theorem splitWs_eq_split : ∀ l : List Char, splitWs l = Lex.split isWs l
  | [] => by rw [splitWs.eq_def]; rfl
  | [c] => by
    rw [splitWs.eq_def]
    simp only [Lex.split, splitWs_eq_split [], List.head?_nil, Option.all_none, if_true]
  | c :: d :: t => by
    rw [splitWs.eq_def, Lex.split]
    simp only [List.head?_cons, Option.all_some, splitWs_eq_split (d :: t)]
    cases Lex.split isWs (d :: t) <;> rfl

theorem isWs_blank : isWs ' ' = true := rfl

/-- the tokens of a line as the readers take them (`line.strip().split()`) -/
theorem splitWs_strip (l : List Char) : splitWs (strip l) = Lex.split isWs l :=
  (splitWs_eq_split _).trans (Lex.split_strip l)

theorem NoWs.tok {l : List Char} (h : NoWs l) (hne : l ≠ []) : Lex.Tok isWs l := ⟨hne, h⟩

theorem tok_fmtCore (p : Nat) (d : Dec) : Lex.Tok isWs (fmtCore p d) := (fmtCore_noWs p d).tok (fmtCore_ne_nil p d)

theorem rstrip_noWs {l : List Char} (h : NoWs l) : rstrip l = l :=
  Lex.rstrip_ends (fun c e => h c (List.mem_of_getLast? e))

theorem rstrip_append_noWs (a b : List Char) (hb : b ≠ []) (h : NoWs b) : rstrip (a ++ b) = a ++ b :=
  Lex.rstrip_ends (by rw [Lex.getLast?_append_ne _ _ hb]; exact (h.tok hb).last)

theorem strip_pad_noWs (k : Nat) (l : List Char) (hl : l ≠ []) (h : NoWs l) :
    strip (List.replicate k ' ' ++ l) = l :=
  Lex.strip_pad (Lex.blank_replicate isWs_blank k) (h.tok hl).head (h.tok hl).last hl

theorem strip_fmtFixed (w p : Nat) (d : Dec) : strip (fmtFixed w p d) = fmtCore p d :=
  strip_pad_noWs _ _ (fmtCore_ne_nil p d) (fmtCore_noWs p d)

/-- A number written with `'{:width.prec f}'` reads back as the sign-magnitude decimal that was written: for every
    width and precision, also when the field overflows its width, and for both zeros. -/
theorem parse_fmt_fixed (width prec : Nat) (d : Dec) :
    parseFixed prec (fmtFixed width prec d) = some d := by
  unfold parseFixed
  rw [strip_fmtFixed, parseCore_fmtCore]

example : parseFixed 9 (fmtFixed 15 9 ⟨true, 0⟩) = some ⟨true, 0⟩ := by decide +kernel
example : fmtFixed 15 9 ⟨true, 12345678901⟩ = "  -12.345678901".toList := by
  rw [String.toList_ofList]
  decide +kernel

theorem fmtFixed_length (width prec : Nat) (d : Dec) (h : (fmtCore prec d).length ≤ width) :
    (fmtFixed width prec d).length = width := by
  simp [fmtFixed]; omega

example : (fmtCore 9 ⟨true, 9999999999999⟩).length ≤ 15 := by decide +kernel

/-- Python never truncates -/
theorem fmtFixed_length_overflow (width prec : Nat) (d : Dec) (h : width ≤ (fmtCore prec d).length) :
    fmtFixed width prec d = fmtCore prec d := by
  have : width - (fmtCore prec d).length = 0 := by omega
  simp [fmtFixed, this]

def NoBrk (l : List Char) : Prop := ∀ c ∈ l, c ≠ '\n' ∧ c ≠ '\r'

theorem pyLines_line (l rest : List Char) (h : NoBrk l) :
    pyLines (l ++ '\n' :: rest) = l :: pyLines rest := by
  induction l with
  | nil => simp [pyLines]
  | cons a t ih =>
    have ha := h a (by simp)
    have := ih (fun c hc => h c (by simp [hc]))
    simp [pyLines, ha.1, ha.2, this]

theorem pyLines_unlines (ls : List Line) (h : ∀ l ∈ ls, NoBrk l) : pyLines (unlines ls) = ls := by
  induction ls with
  | nil => rfl
  | cons l t ih =>
    simp only [unlines]
    rw [pyLines_line l _ (h l (by simp)), ih (fun x hx => h x (by simp [hx]))]

theorem unlines_append (a b : List Line) : unlines (a ++ b) = unlines a ++ unlines b := by
  induction a with
  | nil => rfl
  | cons l t ih => simp [unlines, ih]

theorem NoBrk_of_noWs {l : List Char} (h : NoWs l) : NoBrk l := by
  intro c hc
  have := h c hc
  constructor <;> (intro e; subst e; simp [isWs] at this)

theorem NoBrk_append {a b : List Char} (ha : NoBrk a) (hb : NoBrk b) : NoBrk (a ++ b) := by
  intro c hc
  rcases List.mem_append.1 hc with h | h
  · exact ha c h
  · exact hb c h

theorem NoBrk_cons {a : Char} {b : List Char} (ha : a ≠ '\n' ∧ a ≠ '\r') (hb : NoBrk b) : NoBrk (a :: b) := by
  intro c hc
  rcases List.mem_cons.1 hc with h | h
  · subst h; exact ha
  · exact hb c h

theorem NoBrk_nil : NoBrk [] := by intro c hc; simp at hc

theorem NoBrk_blanks (k : Nat) : NoBrk (List.replicate k ' ') := by
  intro c hc
  have := (List.mem_replicate.1 hc).2
  subst this
  decide

theorem NoBrk_natDigits (n : Nat) : NoBrk (natDigits n) := by
  intro c hc
  have := numChars_props c (by simp [numChars, natDigits_mem n c hc])
  exact ⟨this.2.1, this.2.2.1⟩

theorem split_field (w p : Nat) (d : Dec) {rest : List Char} (hr : Lex.Ends isWs rest) :
    Lex.split isWs (' ' :: (fmtFixed w p d ++ rest)) = fmtCore p d :: Lex.split isWs rest := by
  rw [Lex.split_ws isWs_blank, fmtFixed, List.append_assoc, Lex.split_pad isWs_blank _ (tok_fmtCore p d) hr]

/-- `" ".join` of fields `'{:>w}'` of tokens splits into the tokens, for every white-space set that holds the blank
    (`p.1` is the field width) -/
theorem split_joinSp_pad {ws : Char → Bool} (hsp : ws ' ' = true) : ∀ (ps : List (Nat × List Char)),
    (∀ p ∈ ps, Lex.Tok ws p.2) → ∀ {rest : List Char}, Lex.Ends ws rest →
    Lex.split ws (joinSp (ps.map (fun p => List.replicate (p.1 - p.2.length) ' ' ++ p.2)) ++ rest) =
      ps.map (·.2) ++ Lex.split ws rest
  | [], _, _, _ => rfl
  | [p], h, rest, hr => by
    simp only [List.map, joinSp]
    rw [List.append_assoc, Lex.split_pad hsp _ (h p (by simp)) hr]
    rfl
  | p :: q :: t, h, rest, hr => by
    have ih := split_joinSp_pad hsp (q :: t) (fun x hx => h x (List.mem_cons_of_mem _ hx)) hr
    simp only [List.map_cons, joinSp, List.append_assoc, List.cons_append] at ih ⊢
    rw [Lex.split_pad hsp _ (h p (by simp)) (Lex.Ends.cons hsp _), Lex.split_ws hsp, ih]

theorem rstrip_after (a : List Char) (c : Char) (b : List Char) (hc : isWs c = false) :
    rstrip (a ++ c :: b) = a ++ c :: rstrip b := by
  unfold rstrip
  rw [List.reverse_append, List.reverse_cons, List.append_assoc, List.dropWhile_append]
  split
  · rename_i he
    have : List.dropWhile isWs b.reverse = [] := by simpa using he
    rw [this]
    simp [hc]
  · simp

theorem parseFixed_core (p : Nat) (d : Dec) : parseFixed p (fmtCore p d) = some d := by
  rw [← fmtFixed_length_overflow 0 p d (Nat.zero_le _)]
  exact parse_fmt_fixed 0 p d

theorem parseAll_cores (p : Nat) (b : List Dec) : parseAll p (b.map (fmtCore p)) = some b := by
  induction b with
  | nil => rfl
  | cons d t ih => simp [parseAll, parseFixed_core, ih]

/-- the guard on a configuration written as an xyz frame: one name and one velocity per position,
    at least one atom, names non-empty and free of whitespace -/
structure XyzOk (c : Conf) : Prop where
  names_len : c.names.length = c.pos.length
  vel_len : c.vel.length = c.pos.length
  nonempty : c.pos ≠ []
  names_ok : ∀ nm ∈ c.names, nm ≠ [] ∧ NoWs nm

def atomLs : List Line → List V3 → List V3 → List Line
  | nm :: ns, p :: ps, v :: vs => xyzAtomLine nm p v :: atomLs ns ps vs
  | _, _, _ => []

theorem xyzAtomLines_eq (ns : List Line) (ps vs : List V3)
    (h1 : ns.length = ps.length) (h2 : vs.length = ps.length) :
    xyzAtomLines ns ps vs = .ok (atomLs ns ps vs) := by
  induction ps generalizing ns vs with
  | nil => cases ns <;> cases vs <;> simp_all [xyzAtomLines, atomLs]
  | cons p ps ih =>
    cases ns with
    | nil => simp at h1
    | cons nm ns =>
      cases vs with
      | nil => simp at h2
      | cons v vs =>
        simp only [List.length_cons, Nat.add_right_cancel_iff] at h1 h2
        simp [xyzAtomLines, atomLs, ih ns vs h1 h2]

/-- the lines of one frame written without a step number -/
def frameLines (c : Conf) : List Line :=
  natDigits c.pos.length :: xyzHeader c.box none :: atomLs c.names c.pos c.vel

theorem writeXyzLines_eq (c : Conf) (h : XyzOk c) :
    writeXyzLines (some c.names) c.pos c.vel c.box none = .ok (frameLines c) := by
  simp [writeXyzLines, xyzAtomLines_eq _ _ _ h.names_len h.vel_len, frameLines]

theorem writeConf_eq (c : Conf) (h : XyzOk c) : writeConf c = .ok (unlines (frameLines c)) := by
  simp [writeConf, writeXyz, writeXyzLines_eq c h]

theorem writeConf_text {c : Conf} (h : XyzOk c) {t : Text} (hw : writeConf c = .ok t) : t = unlines (frameLines c) :=
  (Except.ok.inj ((writeConf_eq c h).symm.trans hw)).symm

/-- the snapshot dict the reader builds for a frame -/
def snapOf (c : Conf) : Snap :=
  { header := strip (xyzHeader c.box none), box := c.box, names := c.names,
    x := c.pos.map (·.x), y := c.pos.map (·.y), z := c.pos.map (·.z),
    vx := c.vel.map (·.x), vy := c.vel.map (·.y), vz := c.vel.map (·.z) }

theorem atomLine_tokens (nm : Line) (p v : V3) (hne : nm ≠ []) (hw : NoWs nm) :
    splitWs (strip (xyzAtomLine nm p v)) =
      [nm, fmtCore 9 p.x, fmtCore 9 p.y, fmtCore 9 p.z, fmtCore 9 v.x, fmtCore 9 v.y, fmtCore 9 v.z] := by
  rw [splitWs_strip]
  simp only [xyzAtomLine, padName, List.append_assoc, List.cons_append]
  rw [Lex.split_tok (hw.tok hne) (Lex.Ends.blanks isWs_blank _ (Lex.Ends.cons isWs_blank _)),
    Lex.split_blank (Lex.blank_replicate isWs_blank _),
    split_field _ _ _ (Lex.Ends.cons isWs_blank _), split_field _ _ _ (Lex.Ends.cons isWs_blank _),
    split_field _ _ _ (Lex.Ends.cons isWs_blank _), split_field _ _ _ (Lex.Ends.cons isWs_blank _),
    split_field _ _ _ (Lex.Ends.cons isWs_blank _)]
  have := split_field 15 9 v.z Lex.Ends.nil
  rw [List.append_nil] at this
  rw [this]
  rfl

theorem addData_atom (s : Snap) (nm : Line) (p v : V3) :
    addData s [nm, fmtCore 9 p.x, fmtCore 9 p.y, fmtCore 9 p.z, fmtCore 9 v.x, fmtCore 9 v.y, fmtCore 9 v.z]
      = .ok { s with names := s.names ++ [nm], x := s.x ++ [p.x], y := s.y ++ [p.y], z := s.z ++ [p.z],
                     vx := s.vx ++ [v.x], vy := s.vy ++ [v.y], vz := s.vz ++ [v.z] } := by
  simp [addData, parseFixed_core]

theorem xyzLoop_atoms (ns : List Line) (ps vs : List V3) (rest : List Line) (s : Snap)
    (h1 : ns.length = ps.length) (h2 : vs.length = ps.length)
    (hn : ∀ nm ∈ ns, nm ≠ [] ∧ NoWs nm) :
    xyzLoop ps.length (some s) false (atomLs ns ps vs ++ rest) =
      xyzLoop 0 (some { s with names := s.names ++ ns,
                               x := s.x ++ ps.map (·.x), y := s.y ++ ps.map (·.y), z := s.z ++ ps.map (·.z),
                               vx := s.vx ++ vs.map (·.x), vy := s.vy ++ vs.map (·.y),
                               vz := s.vz ++ vs.map (·.z) }) false rest := by
  induction ps generalizing ns vs s with
  | nil =>
    cases ns with
    | cons _ _ => simp at h1
    | nil =>
      cases vs with
      | cons _ _ => simp at h2
      | nil => simp [atomLs]
  | cons p ps ih =>
    cases ns with
    | nil => simp at h1
    | cons nm ns =>
      cases vs with
      | nil => simp at h2
      | cons v vs =>
        simp only [List.length_cons, Nat.add_right_cancel_iff] at h1 h2
        have hnm := hn nm (by simp)
        simp only [atomLs, List.cons_append, List.length_cons]
        rw [xyzLoop]
        simp only [Bool.false_eq_true, if_false, Nat.add_one_ne_zero, Option.getD_some,
          atomLine_tokens nm p v hnm.1 hnm.2, addData_atom, Nat.add_sub_cancel]
        rw [ih ns vs _ h1 h2 (fun x hx => hn x (by simp [hx]))]
        simp [List.append_assoc]

theorem parseCount_natDigits (n : Nat) : parseCount (natDigits n) = some n := by
  have hs : strip (natDigits n) = natDigits n := by
    have := strip_pad_noWs 0 _ (natDigits_ne_nil n)
      (fun c hc => (numChars_props c (by simp [numChars, natDigits_mem n c hc])).1)
    simpa using this
  unfold parseCount
  rw [hs]
  cases h : natDigits n with
  | nil => exact absurd h (natDigits_ne_nil n)
  | cons a t => simp only; rw [← h, natDigits_val]

theorem joinSp_tokens (w p : Nat) (b : List Dec) :
    Lex.split isWs (joinSp (b.map (fmtFixed w p)) ++ [' ']) = b.map (fmtCore p) := by
  have := split_joinSp_pad isWs_blank (b.map (fun d => (w, fmtCore p d)))
    (List.forall_mem_map.2 (fun d _ => tok_fmtCore p d)) (Lex.Ends.cons isWs_blank [])
  rw [List.map_map, List.map_map, Lex.split_ws isWs_blank] at this
  exact this.trans (List.append_nil _)

def hdrChars : List Char := ' ' :: numChars

theorem hdrChars_props : ∀ c ∈ hdrChars, c ≠ '\n' ∧ c ≠ '\r' ∧ lowerC c = c ∧ c ≠ 'b' := by decide +kernel

theorem fmtFixed_hdr (w p : Nat) (d : Dec) : ∀ c ∈ fmtFixed w p d, c ∈ hdrChars := by
  intro c hc
  rcases List.mem_append.1 hc with h | h
  · have := (List.mem_replicate.1 h).2; subst this; simp [hdrChars]
  · exact List.mem_cons_of_mem _ (fmtCore_mem p d c h)

theorem joinSp_hdr (w p : Nat) (b : List Dec) : ∀ c ∈ joinSp (b.map (fmtFixed w p)), c ∈ hdrChars := by
  induction b with
  | nil => intro c hc; simp [joinSp] at hc
  | cons d t ih =>
    cases t with
    | nil => simpa [joinSp] using fmtFixed_hdr w p d
    | cons e t' =>
      intro c hc
      simp only [List.map, joinSp, List.mem_append, List.mem_cons] at hc ih
      rcases hc with h | h | h
      · exact fmtFixed_hdr w p d c h
      · subst h; simp [hdrChars]
      · exact ih c h

theorem upToBox_noB (l : List Char) (h : ∀ c ∈ l, c ≠ 'b') : upToBox l = l := by
  induction l with
  | nil => rfl
  | cons a t ih =>
    have ha := h a (by simp)
    simp [upToBox, kwBoxLower, ih (fun c hc => h c (by simp [hc]))]
    intro e; exact absurd e.symm ha

theorem map_lower_id (l : List Char) (h : ∀ c ∈ l, lowerC c = c) : l.map lowerC = l := by
  induction l with
  | nil => rfl
  | cons a t ih => simp [h a (by simp), ih (fun c hc => h c (by simp [hc]))]

theorem xyzHeader_none : xyzHeader none none = ['#', ' '] := by rfl

theorem xyzHeader_some (b : List Dec) :
    xyzHeader (some b) none =
      ['#', ' ', 'B', 'o', 'x', ':'] ++ ' ' :: (joinSp (b.map (fmtFixed 9 4)) ++ [' ']) := by
  simp [xyzHeader, joinSp, kwBox]

theorem strip_header_some (b : List Dec) :
    strip (xyzHeader (some b) none) =
      ['#', ' ', 'B', 'o', 'x', ':'] ++ rstrip (' ' :: (joinSp (b.map (fmtFixed 9 4)) ++ [' '])) := by
  rw [xyzHeader_some, strip]
  have := rstrip_after ['#', ' ', 'B', 'o', 'x'] ':' (' ' :: (joinSp (b.map (fmtFixed 9 4)) ++ [' ']))
    (by decide)
  simp only [List.cons_append, List.nil_append] at this ⊢
  rw [this, lstrip, List.dropWhile_cons_of_neg (by decide)]

/-- `get_box_from_header(header.strip())` returns what was written -/
theorem getBox_header (box : Option (List Dec)) :
    getBox (strip (xyzHeader box none)) = .ok box := by
  cases box with
  | none =>
    have h1 : strip ['#', ' '] = ['#'] := by decide
    have h2 : afterBox (['#'].map lowerC) = none := by decide
    rw [xyzHeader_none, h1, getBox, h2]
  | some b =>
    rw [strip_header_some]
    have hR : ∀ c ∈ rstrip (' ' :: (joinSp (b.map (fmtFixed 9 4)) ++ [' '])), c ∈ hdrChars := by
      intro c hc
      have := Lex.mem_rstrip (ws := isWs) hc
      simp only [List.mem_cons, List.mem_append, List.not_mem_nil, or_false] at this
      rcases this with h | h | h
      · subst h; simp [hdrChars]
      · exact joinSp_hdr 9 4 b c h
      · subst h; simp [hdrChars]
    generalize hRdef : rstrip (' ' :: (joinSp (b.map (fmtFixed 9 4)) ++ [' '])) = R at hR
    have hlow : R.map lowerC = R := map_lower_id R (fun c hc => (hdrChars_props c (hR c hc)).2.2.1)
    have hnb : upToBox R = R := upToBox_noB R (fun c hc => (hdrChars_props c (hR c hc)).2.2.2)
    have hab : afterBox (['#', ' ', 'b', 'o', 'x', ':'] ++ R) = some R := by
      simp [afterBox, kwBoxLower]
    have hl : (['#', ' ', 'B', 'o', 'x', ':'] ++ R).map lowerC = ['#', ' ', 'b', 'o', 'x', ':'] ++ R := by
      rw [List.map_append, hlow]; congr 1
    unfold getBox
    rw [hl, hab]
    simp only
    rw [hnb, splitWs_strip, ← hRdef, show rstrip = Lex.rstrip isWs from rfl, Lex.split_rstrip,
      Lex.split_ws isWs_blank, joinSp_tokens, parseAll_cores]

/-- one whole frame is consumed: the pending snapshot is yielded at the count line and the frame's
    own snapshot becomes the pending one -/
theorem xyzLoop_frame (c : Conf) (h : XyzOk c) (prev : Option Snap) (rest : List Line) :
    xyzLoop 0 prev false (frameLines c ++ rest) =
      (prev.toList ++ (xyzLoop 0 (some (snapOf c)) false rest).1,
       (xyzLoop 0 (some (snapOf c)) false rest).2) := by
  simp only [frameLines, List.cons_append]
  rw [xyzLoop]
  simp only [Bool.false_eq_true, if_false, if_true, parseCount_natDigits]
  rw [xyzLoop]
  simp only [if_true, getBox_header]
  rw [xyzLoop_atoms _ _ _ _ _ h.names_len h.vel_len h.names_ok]
  simp [snapOf, Snap.blank]

theorem xyzLoop_frames (cs : List Conf) (h : ∀ c ∈ cs, XyzOk c) (prev : Option Snap) :
    xyzLoop 0 prev false (cs.flatMap frameLines) = (prev.toList ++ cs.map snapOf, none) := by
  induction cs generalizing prev with
  | nil => simp [xyzLoop]
  | cons c t ih =>
    rw [List.flatMap_cons, xyzLoop_frame c (h c (by simp)), ih (fun x hx => h x (by simp [hx]))]
    simp

theorem zip3_map (ps : List V3) : zip3 (ps.map (·.x)) (ps.map (·.y)) (ps.map (·.z)) = ps := by
  induction ps with
  | nil => rfl
  | cons p t ih => simp [zip3, ih]

theorem convert_snapOf (c : Conf) (h : XyzOk c) : convertSnapshot (snapOf c) = .ok c := by
  have hn : c.names ≠ [] := by
    intro e; have := h.names_len; rw [e] at this; exact h.nonempty (List.length_eq_zero_iff.1 this.symm)
  have hv : c.vel ≠ [] := by
    intro e; have := h.vel_len; rw [e] at this; exact h.nonempty (List.length_eq_zero_iff.1 this.symm)
  have hp := h.nonempty
  simp [convertSnapshot, snapOf, hn, posCol, velCol, fitCol, hp, hv, h.names_len, h.vel_len, zip3_map]

/-! ### what the writers emit

Every character of a written line is one of `outChars` or belongs to a string the file keeps verbatim (atom names;
g96 title lines and labels).  So a property of characters that `outChars` and the kept strings have holds of every
written line: no line terminator (`NoBrk`, here), no non-ASCII white space (`Plain`, `Lemmas/CodecUni.lean`). -/

/-- what the writers put into a line themselves: the blanks, signs, digits and points of the number fields
    (`hdrChars`), `#` and `Box:` of the xyz header, the letters of the g96 keywords -/
def outChars : List Char :=
  hdrChars ++ ['#', ':', 'o', 'x', 'B', 'C', 'D', 'E', 'I', 'L', 'N', 'O', 'P', 'S', 'T', 'V', 'X', 'Y']

theorem outChars_noBrk : ∀ c ∈ outChars, c ≠ '\n' ∧ c ≠ '\r' := by decide +kernel

theorem hdr_out {c : Char} (h : c ∈ hdrChars) : c ∈ outChars := List.mem_append_left _ h

theorem xyzHeader_chars (box : Option (List Dec)) : ∀ c ∈ xyzHeader box none, c ∈ outChars := by
  cases box with
  | none => rw [xyzHeader_none]; decide
  | some b =>
    rw [xyzHeader_some]
    simp only [List.forall_mem_append, List.forall_mem_cons]
    exact ⟨by decide, by decide, fun c hc => hdr_out (joinSp_hdr 9 4 b c hc), by decide⟩

section
variable {P : Char → Prop} (hA : ∀ c ∈ outChars, P c)
include hA

theorem fmtFixed_chars (w p : Nat) (d : Dec) : ∀ c ∈ fmtFixed w p d, P c :=
  fun c hc => hA c (hdr_out (fmtFixed_hdr w p d c hc))

theorem xyzAtomLine_chars {nm : Line} (hn : ∀ c ∈ nm, P c) (p v : V3) : ∀ c ∈ xyzAtomLine nm p v, P c := by
  have hb : P ' ' := hA ' ' (by decide)
  have hf := fmtFixed_chars hA 15 9
  simp only [xyzAtomLine, padName, List.append_assoc, List.cons_append, List.forall_mem_append, List.forall_mem_cons]
  exact ⟨hn, fun c hc => (List.eq_of_mem_replicate hc).symm ▸ hb, hb, hf _, hb, hf _, hb, hf _, hb, hf _, hb, hf _, hb, hf _⟩

theorem atomLs_chars : ∀ (ns : List Line) (ps vs : List V3), (∀ nm ∈ ns, ∀ c ∈ nm, P c) →
    ∀ l ∈ atomLs ns ps vs, ∀ c ∈ l, P c
  | nm :: ns, p :: ps, v :: vs, hn, l, hl => by
    rcases List.mem_cons.1 hl with rfl | hl
    · exact xyzAtomLine_chars hA (hn nm (by simp)) p v
    · exact atomLs_chars ns ps vs (fun x hx => hn x (by simp [hx])) l hl
  | [], _, _, _, _, hl | _ :: _, [], _, _, _, hl | _ :: _, _ :: _, [], _, _, hl => by simp [atomLs] at hl

theorem frameLines_chars (c : Conf) (hn : ∀ nm ∈ c.names, ∀ x ∈ nm, P x) : ∀ l ∈ frameLines c, ∀ x ∈ l, P x := by
  simp only [frameLines, List.forall_mem_cons]
  have hd : ∀ x ∈ digs, x ∈ outChars := by decide
  exact ⟨fun x hx => hA x (hd x (natDigits_mem _ x hx)),
    fun x hx => hA x (xyzHeader_chars c.box x hx), atomLs_chars hA _ _ _ hn⟩

end

theorem NoBrk_frameLines (c : Conf) (h : XyzOk c) : ∀ l ∈ frameLines c, NoBrk l :=
  frameLines_chars outChars_noBrk c (fun nm hnm => NoBrk_of_noWs (h.names_ok nm hnm).2)

/-- the bytes of a trajectory file: frames appended one after the other -/
def trajText (cs : List Conf) : Text := unlines (cs.flatMap frameLines)

/-- appending the frames with `write_xyz_trajectory(…, append=True)` one by one -/
def writeTraj : List Conf → Except Err Text
  | [] => .ok []
  | c :: cs =>
    match writeConf c, writeTraj cs with
    | .ok a, .ok b => .ok (a ++ b)
    | .error e, _ => .error e
    | _, .error e => .error e

theorem writeTraj_eq (cs : List Conf) (h : ∀ c ∈ cs, XyzOk c) : writeTraj cs = .ok (trajText cs) := by
  induction cs with
  | nil => rfl
  | cons c t ih =>
    simp [writeTraj, writeConf_eq c (h c (by simp)), ih (fun x hx => h x (by simp [hx])), trajText,
      unlines_append]

theorem readXyzFrames_traj (cs : List Conf) (h : ∀ c ∈ cs, XyzOk c) :
    readXyzFrames (trajText cs) = (cs.map snapOf, none) := by
  unfold readXyzFrames trajText
  rw [pyLines_unlines]
  · simpa [readXyzLines] using xyzLoop_frames cs h none
  · intro l hl
    obtain ⟨c, hc, hlc⟩ := List.mem_flatMap.1 hl
    exact NoBrk_frameLines c (h c hc) l hlc

theorem trajText_single (c : Conf) : trajText [c] = unlines (frameLines c) := by
  simp [trajText]

/-- `_read_configuration` of a written frame: the configuration, signs of zero included -/
theorem readConfiguration_frame (c : Conf) (h : XyzOk c) : readConfiguration (unlines (frameLines c)) = .ok c := by
  have hr := readXyzFrames_traj [c] (by simpa using h)
  rw [trajText_single] at hr
  simp [readConfiguration, hr, convert_snapOf c h]

/-- the guard is satisfiable: two atoms in "wrong" order, both zeros, a 3-component box -/
def exConf : Conf :=
  { box := some [⟨false, 125000⟩, ⟨false, 20000⟩, ⟨false, 35001⟩],
    pos := [⟨⟨false, 1500000000⟩, ⟨true, 0⟩, ⟨false, 0⟩⟩, ⟨⟨true, 9999999999999⟩, ⟨false, 1⟩, ⟨true, 25⟩⟩],
    vel := [⟨⟨true, 100000000⟩, ⟨false, 0⟩, ⟨true, 0⟩⟩, ⟨⟨false, 7⟩, ⟨false, 123456789012⟩, ⟨true, 3⟩⟩],
    names := [['O'], ['H', 'x', '1', '2', '3', '4']] }

theorem exConf_ok : XyzOk exConf := ⟨rfl, rfl, by decide, by simp only [NoWs]; decide +kernel⟩

example : ∃ t, writeXyz (some exConf.names) exConf.pos exConf.vel exConf.box none = .ok t ∧
    readConfiguration t = .ok exConf :=
  ⟨_, writeConf_eq exConf exConf_ok, readConfiguration_frame exConf exConf_ok⟩

/-- `_extract_frame(traj, k, out)` on a trajectory of any number of frames (atom counts may differ): the bytes that
    writing frame `k` alone gives, and nothing (only a log line) for `k` at or beyond the number of frames -/
theorem extractFrame_traj (cs : List Conf) (h : ∀ c ∈ cs, XyzOk c) (k : Nat) :
    extractFrame k (trajText cs) = .ok (cs[k]?.map fun c => unlines (frameLines c)) := by
  unfold extractFrame
  rw [readXyzFrames_traj cs h]
  cases hk : cs[k]? with
  | none => simp [hk]
  | some c =>
    have hc := h c (List.mem_of_getElem? hk)
    simp [hk, convert_snapOf c hc, writeConf_eq c hc]

theorem writeTraj_text {cs : List Conf} (h : ∀ c ∈ cs, XyzOk c) {t : Text} (ht : writeTraj cs = .ok t) :
    t = trajText cs :=
  (Except.ok.inj ((writeTraj_eq cs h).symm.trans ht)).symm

theorem extract_frame_k (cs : List Conf) (h : ∀ c ∈ cs, XyzOk c) (t : Text)
    (ht : writeTraj cs = .ok t) (k : Nat) (hk : k < cs.length) :
    ∃ o, writeConf cs[k] = .ok o ∧ extractFrame k t = .ok (some o) :=
  ⟨_, writeConf_eq _ (h _ (List.getElem_mem hk)), by rw [writeTraj_text h ht, extractFrame_traj cs h, List.getElem?_eq_getElem hk]; rfl⟩

def exConf2 : Conf :=
  { box := none, pos := [⟨⟨false, 1⟩, ⟨true, 2⟩, ⟨false, 3⟩⟩], vel := [⟨⟨true, 0⟩, ⟨false, 0⟩, ⟨true, 5⟩⟩],
    names := [['A', 'r']] }

theorem exConf2_ok : XyzOk exConf2 := ⟨rfl, rfl, by decide, by simp only [NoWs]; decide +kernel⟩

theorem exTraj_ok : ∀ c ∈ [exConf, exConf2, exConf], XyzOk c := by
  intro c hc
  simp only [List.mem_cons, List.not_mem_nil, or_false] at hc
  rcases hc with e | e | e <;> subst e
  · exact exConf_ok
  · exact exConf2_ok
  · exact exConf_ok

example : ∃ t o, writeTraj [exConf, exConf2, exConf] = .ok t ∧ writeConf exConf2 = .ok o ∧
    extractFrame 1 t = .ok (some o) :=
  ⟨_, _, writeTraj_eq _ exTraj_ok, writeConf_eq _ exConf2_ok, extractFrame_traj _ exTraj_ok 1⟩

theorem Dec.negate_negate (d : Dec) : d.negate.negate = d := by
  cases d; simp [Dec.negate]

theorem V3.negate_negate (v : V3) : v.negate.negate = v := by
  cases v; simp [V3.negate, Dec.negate_negate]

theorem map_negate_negate (vs : List V3) : (vs.map V3.negate).map V3.negate = vs := by
  induction vs with
  | nil => rfl
  | cons v t ih => simp only [List.map_cons, V3.negate_negate, ih]

/-- the configuration with every velocity component negated (sign flip, also of zeros) -/
def revConf (c : Conf) : Conf := { c with vel := c.vel.map V3.negate }

theorem revConf_ok (c : Conf) (h : XyzOk c) : XyzOk (revConf c) :=
  ⟨h.names_len, by simpa [revConf] using h.vel_len, h.nonempty, h.names_ok⟩

theorem revConf_revConf (c : Conf) : revConf (revConf c) = c := by
  cases c; simp only [revConf, map_negate_negate]

/-- `_reverse_velocities` on a written configuration produces exactly the file of the same configuration with
    negated velocities (so reversing twice restores the bytes: `revConf_revConf`) -/
theorem reverseXyz_frame (c : Conf) (h : XyzOk c) :
    reverseXyz (unlines (frameLines c)) = .ok (unlines (frameLines (revConf c))) := by
  rw [reverseXyz, readConfiguration_frame c h]
  exact writeConf_eq (revConf c) (revConf_ok c h)

example : ∃ t t', writeConf exConf = .ok t ∧ reverseXyz t = .ok t' ∧
    readConfiguration t' = .ok (revConf exConf) ∧ reverseXyz t' = .ok t :=
  ⟨_, _, writeConf_eq _ exConf_ok, reverseXyz_frame _ exConf_ok, readConfiguration_frame _ (revConf_ok _ exConf_ok),
    by rw [reverseXyz_frame _ (revConf_ok _ exConf_ok), revConf_revConf]⟩

/-- a number fits its 15-character column (`|x| < 10^5`, negative: `|x| < 10^4`) -/
@[reducible] def Fit (d : Dec) : Prop := (fmtCore 9 d).length ≤ 15
def Fit3 (v : V3) : Prop := Fit v.x ∧ Fit v.y ∧ Fit v.z
/-- a box field that keeps a leading blank (`|x| < 10^4`, negative: `|x| < 10^3`) -/
@[reducible] def FitBox (d : Dec) : Prop := (fmtCore 9 d).length ≤ 14

theorem mem_strip_of_noWs {c : Char} {l : List Char} (hc : c ∈ l) (hw : isWs c = false) : c ∈ strip l := by
  have hd : ∀ (l : List Char), c ∈ l → c ∈ l.dropWhile isWs := by
    intro l
    induction l with
    | nil => intro h; exact h
    | cons a t ih =>
      intro h
      by_cases ha : isWs a = true
      · rw [List.dropWhile_cons_of_pos ha]
        rcases List.mem_cons.1 h with e | h
        · subst e; rw [hw] at ha; cases ha
        · exact ih h
      · rw [List.dropWhile_cons_of_neg ha]; exact h
  unfold strip lstrip rstrip
  apply hd
  rw [List.mem_reverse]
  apply hd
  rw [List.mem_reverse]
  exact hc

theorem not_kw_of_dot {s : List Char} (h : '.' ∈ s) : s ≠ kwEND ∧ keyOf s = none := by
  have hne : ∀ k : List Char, '.' ∉ k → s ≠ k := fun k hk e => hk (e ▸ h)
  refine ⟨hne _ (by decide), ?_⟩
  unfold keyOf
  rw [if_neg (hne _ (by decide)), if_neg (hne _ (by decide)), if_neg (hne _ (by decide)),
    if_neg (hne _ (by decide)), if_neg (hne _ (by decide)), if_neg (hne _ (by decide))]

theorem dot_mem_fmtFixed (w p : Nat) (d : Dec) : '.' ∈ fmtFixed w p d := by
  simp [fmtFixed, fmtCore]

theorem dataLine_of_dot {l : List Char} (h : '.' ∈ l) : strip l ≠ kwEND ∧ keyOf (strip l) = none :=
  not_kw_of_dot (mem_strip_of_noWs h (by decide))

def DataLine (l : Line) : Prop := strip l ≠ kwEND ∧ keyOf (strip l) = none

def pushAll (s : Sec) (ls : List Line) (r : G96Raw) : G96Raw := ls.foldr (fun l r => r.push s l) r

theorem collect_data (s : Sec) (ds rest : List Line) (r0 : G96Raw) (h : ∀ l ∈ ds, DataLine l)
    (hr : g96Collect (some s) rest = .ok r0) :
    g96Collect (some s) (ds ++ rest) = .ok (pushAll s (ds.map rstrip) r0) := by
  induction ds with
  | nil => simpa [pushAll] using hr
  | cons l t ih =>
    have hl := h l (by simp)
    have := ih (fun x hx => h x (by simp [hx]))
    simp only [List.cons_append, g96Collect, if_neg hl.1, hl.2, this]
    simp [pushAll]

theorem collect_end (sec : Option Sec) (rest : List Line) :
    g96Collect sec (kwEND :: rest) = g96Collect sec rest := by
  have : strip kwEND = kwEND := by decide
  simp [g96Collect, this]

theorem collect_kw (sec : Option Sec) (kw : Line) (k : Sec) (rest : List Line)
    (h1 : strip kw ≠ kwEND) (h2 : keyOf (strip kw) = some k) :
    g96Collect sec (kw :: rest) = g96Collect (some k) rest := by
  simp [g96Collect, if_neg h1, h2]

theorem collect_block (sec : Option Sec) (kw : Line) (k : Sec) (ds rest : List Line) (r0 : G96Raw)
    (h1 : strip kw ≠ kwEND) (h2 : keyOf (strip kw) = some k) (hd : ∀ l ∈ ds, DataLine l)
    (hr : g96Collect (some k) rest = .ok r0) :
    g96Collect sec (kw :: (ds ++ kwEND :: rest)) = .ok (pushAll k (ds.map rstrip) r0) := by
  rw [collect_kw sec kw k _ h1 h2]
  exact collect_data k ds _ r0 hd (by rw [collect_end]; exact hr)

/-- `rawdata[section].append(line)` for a run of lines: they go in front of what the section holds -/
theorem pushAll_eq (s : Sec) (ls : List Line) (r : G96Raw) : pushAll s ls r =
    match s with
    | .title => { r with title := ls ++ r.title }
    | .position => { r with pos := ls ++ r.pos }
    | .velocity => { r with vel := ls ++ r.vel }
    | .box => { r with box := ls ++ r.box }
    | .positionred => { r with posred := ls ++ r.posred }
    | .velocityred => { r with velred := ls ++ r.velred } := by
  induction ls with
  | nil => cases s <;> rfl
  | cons l t ih => simp only [pushAll, List.foldr_cons] at ih ⊢; rw [ih]; cases s <;> rfl

def rowLs : List Line → List V3 → List Line
  | t :: ts, v :: vs => g96Row t v :: rowLs ts vs
  | _, _ => []

theorem g96Rows_eq (ts : List Line) (vs : List V3) (h : vs.length = ts.length) :
    g96Rows ts vs = .ok (rowLs ts vs) := by
  induction ts generalizing vs with
  | nil => simp [g96Rows, rowLs]
  | cons t ts ih =>
    cases vs with
    | nil => simp at h
    | cons v vs =>
      simp only [List.length_cons, Nat.add_right_cancel_iff] at h
      simp [g96Rows, rowLs, ih vs h]

theorem slice_mid (a b c : List Char) (n k : Nat) (ha : a.length = n) (hb : b.length = k) :
    slice (a ++ (b ++ c)) n k = b := by
  rw [slice, List.drop_left' ha, List.take_left' hb]

theorem g96Row_rstrip (t : Line) (v : V3) : rstrip (g96Row t v) = g96Row t v := by
  unfold g96Row
  conv => lhs; rw [fmtFixed.eq_def 15 9 v.z, ← List.append_assoc]
  conv => rhs; rw [fmtFixed.eq_def 15 9 v.z, ← List.append_assoc]
  exact rstrip_append_noWs _ _ (fmtCore_ne_nil 9 v.z) (fmtCore_noWs 9 v.z)

theorem g96Row_data (t : Line) (v : V3) : DataLine (g96Row t v) :=
  dataLine_of_dot (by simp [g96Row, dot_mem_fmtFixed])

theorem g96Row_parse (t : Line) (v : V3) (ht : t.length = 24) (hv : Fit3 v) :
    g96Parse3 24 (g96Row t v) = some v ∧ (g96Row t v).take 24 = t := by
  have hx := fmtFixed_length 15 9 v.x hv.1
  have hy := fmtFixed_length 15 9 v.y hv.2.1
  have hz := fmtFixed_length 15 9 v.z hv.2.2
  have hrow : g96Row t v = t ++ (fmtFixed 15 9 v.x ++ (fmtFixed 15 9 v.y ++ (fmtFixed 15 9 v.z ++ []))) := by
    simp [g96Row]
  rw [hrow]
  refine ⟨?_, List.take_left' ht⟩
  -- the three columns, each cut out by `slice_mid` after moving the fields before it to the left
  unfold g96Parse3
  rw [slice_mid _ _ _ _ _ ht hx, ← List.append_assoc t, slice_mid _ _ _ _ _ (by simp [ht, hx]) hy,
    ← List.append_assoc (t ++ _), slice_mid _ _ _ (24 + 30) _ (by simp [ht, hx, hy]) hz,
    parse_fmt_fixed, parse_fmt_fixed, parse_fmt_fixed]

theorem rowLs_props (ts : List Line) (vs : List V3) (h : vs.length = ts.length)
    (ht : ∀ t ∈ ts, t.length = 24) (hv : ∀ v ∈ vs, Fit3 v) :
    (∀ l ∈ rowLs ts vs, DataLine l) ∧ (rowLs ts vs).map rstrip = rowLs ts vs ∧
      g96ParseRows 24 (rowLs ts vs) = .ok vs ∧ (rowLs ts vs).map (fun l => l.take 24) = ts := by
  induction ts generalizing vs with
  | nil =>
    cases vs with
    | nil => simp [rowLs, g96ParseRows]
    | cons _ _ => simp at h
  | cons t ts ih =>
    cases vs with
    | nil => simp at h
    | cons v vs =>
      simp only [List.length_cons, Nat.add_right_cancel_iff] at h
      obtain ⟨i1, i2, i3, i4⟩ := ih vs h (fun x hx => ht x (by simp [hx])) (fun x hx => hv x (by simp [hx]))
      have hp := g96Row_parse t v (ht t (by simp)) (hv v (by simp))
      refine ⟨?_, ?_, ?_, ?_⟩
      · intro l hl
        simp only [rowLs, List.mem_cons] at hl
        rcases hl with e | hl
        · subst e; exact g96Row_data t v
        · exact i1 l hl
      · simp [rowLs, g96Row_rstrip, i2]
      · simp [rowLs, g96ParseRows, hp.1, i3]
      · simp [rowLs, hp.2, i4]

theorem ends_fmtCat (ds : List Dec) (h : ∀ d ∈ ds, FitBox d) : Lex.Ends isWs (fmtCat 15 9 ds) := by
  cases ds with
  | nil => exact Lex.Ends.nil
  | cons d t =>
    have hd : (fmtCore 9 d).length ≤ 14 := h d (by simp)
    obtain ⟨k, hk⟩ : ∃ k, 15 - (fmtCore 9 d).length = k + 1 := by
      generalize (fmtCore 9 d).length = n at hd
      exact ⟨14 - n, by omega⟩
    rw [fmtCat, fmtFixed, hk, List.replicate_succ]
    exact Lex.Ends.cons isWs_blank _

theorem split_fmtCat_tail (ds : List Dec) (h : ∀ d ∈ ds, FitBox d) :
    Lex.split isWs (fmtCat 15 9 ds) = ds.map (fmtCore 9) := by
  induction ds with
  | nil => rfl
  | cons d t ih =>
    have ht : ∀ x ∈ t, FitBox x := fun x hx => h x (by simp [hx])
    rw [fmtCat, fmtFixed, List.append_assoc, Lex.split_pad isWs_blank _ (tok_fmtCore 9 d) (ends_fmtCat t ht), ih ht]
    rfl

/-- the first field may fill its column, the others need their leading blank -/
theorem splitWs_fmtCat (ds : List Dec) (h : ∀ d ∈ ds.tail, FitBox d) :
    splitWs (fmtCat 15 9 ds) = ds.map (fmtCore 9) := by
  rw [splitWs_eq_split]
  cases ds with
  | nil => rfl
  | cons d t =>
    rw [fmtCat, fmtFixed, List.append_assoc, Lex.split_pad isWs_blank _ (tok_fmtCore 9 d) (ends_fmtCat t h),
      split_fmtCat_tail t h]
    rfl

theorem fmtCat_last (ds : List Dec) (h : ds ≠ []) : ∃ a d, fmtCat 15 9 ds = a ++ fmtCore 9 d := by
  induction ds with
  | nil => exact absurd rfl h
  | cons d t ih =>
    cases t with
    | nil => exact ⟨List.replicate (15 - (fmtCore 9 d).length) ' ', d, by simp [fmtCat, fmtFixed]⟩
    | cons e t' =>
      obtain ⟨a, d', ha⟩ := ih (by simp)
      exact ⟨fmtFixed 15 9 d ++ a, d', by rw [fmtCat, ha, List.append_assoc]⟩

theorem fmtCat_rstrip (ds : List Dec) (h : ds ≠ []) : rstrip (fmtCat 15 9 ds) = fmtCat 15 9 ds := by
  obtain ⟨a, d, ha⟩ := fmtCat_last ds h
  rw [ha]
  exact rstrip_append_noWs _ _ (fmtCore_ne_nil 9 d) (fmtCore_noWs 9 d)

theorem fmtCat_data (ds : List Dec) (h : ds ≠ []) : DataLine (fmtCat 15 9 ds) := by
  cases ds with
  | nil => exact absurd rfl h
  | cons d t => exact dataLine_of_dot (by simp [fmtCat, dot_mem_fmtFixed])

theorem fmtCat_hdr : ∀ (ds : List Dec), ∀ c ∈ fmtCat 15 9 ds, c ∈ hdrChars
  | [], c, hc => by simp [fmtCat] at hc
  | d :: ds, c, hc => by
    rcases List.mem_append.1 hc with h | h
    · exact fmtFixed_hdr 15 9 d c h
    · exact fmtCat_hdr ds c h

theorem g96BoxLine_eq (box : List Dec) (h : box.length = 3 ∨ box.length = 9) :
    g96BoxLine box = .ok (fmtCat 15 9 box) := by
  unfold g96BoxLine
  rcases h with h | h
  · simp [h]
  · simp [h, List.take_of_length_le (Nat.le_of_eq h)]

/-- the guard of the g96 round trip.  `raw` is what `read_gromos96_file` returns for the file the
    labels come from: 24-character labels (no line terminator inside), title lines that are
    rstrip-stable and neither `END` nor a section keyword, exactly one BOX line (its content is
    irrelevant: it is replaced by the formatted box), as many velocity labels as position labels;
    one row of numbers per label, every number within its 15-character column; a box of 3 or 9
    numbers of which all but the first keep a leading blank (the box is read back by a whitespace
    split, not by columns). -/
structure G96Ok (raw : G96Raw) (xyz vel : List V3) (box : List Dec) : Prop where
  title_ok : ∀ t ∈ raw.title, NoBrk t ∧ rstrip t = t ∧ DataLine t
  pos_ok : ∀ t ∈ raw.pos, t.length = 24 ∧ NoBrk t
  vel_ok : ∀ t ∈ raw.vel, t.length = 24 ∧ NoBrk t
  same_len : raw.vel.length = raw.pos.length
  xyz_len : xyz.length = raw.pos.length
  vel_len : vel.length = raw.vel.length
  xyz_fit : ∀ v ∈ xyz, Fit3 v
  vel_fit : ∀ v ∈ vel, Fit3 v
  one_box : ∃ b, raw.box = [b]
  box_len : box.length = 3 ∨ box.length = 9
  box_fit : ∀ d ∈ box.tail, FitBox d

def g96Lines (raw : G96Raw) (xyz vel : List V3) (box : List Dec) : List Line :=
  [kwTITLE] ++ raw.title ++ [kwEND, kwPOSITION] ++ rowLs raw.pos xyz ++ [kwEND, kwVELOCITY]
    ++ rowLs raw.vel vel ++ [kwEND, kwBOX] ++ [fmtCat 15 9 box] ++ [kwEND]

theorem writeG96Lines_eq (raw : G96Raw) (xyz vel : List V3) (box : List Dec) (h : G96Ok raw xyz vel box) :
    writeG96Lines raw xyz (some vel) (some box) = .ok (g96Lines raw xyz vel box) := by
  obtain ⟨b, hb⟩ := h.one_box
  simp [writeG96Lines, g96Rows_eq _ _ h.xyz_len, g96Rows_eq _ _ h.vel_len, hb, g96BoxLine_eq box h.box_len,
    g96Lines]

theorem writeG96_eq (raw : G96Raw) (xyz vel : List V3) (box : List Dec) (h : G96Ok raw xyz vel box) :
    writeG96 raw xyz (some vel) (some box) = .ok (unlines (g96Lines raw xyz vel box)) := by
  simp [writeG96, writeG96Lines_eq raw xyz vel box h]

theorem writeG96_text {raw : G96Raw} {xyz vel : List V3} {box : List Dec} (h : G96Ok raw xyz vel box) {t : Text}
    (hw : writeG96 raw xyz (some vel) (some box) = .ok t) : t = unlines (g96Lines raw xyz vel box) :=
  (Except.ok.inj ((writeG96_eq raw xyz vel box h).symm.trans hw)).symm

theorem box_ne_nil {box : List Dec} (h : box.length = 3 ∨ box.length = 9) : box ≠ [] := by
  intro e; subst e; simp at h

/-- the section collector on a file of the writer's shape, whatever data lines the four blocks hold -/
theorem collect_sections (title p v b : List Line) (ht : ∀ l ∈ title, DataLine l) (hp : ∀ l ∈ p, DataLine l)
    (hv : ∀ l ∈ v, DataLine l) (hb : ∀ l ∈ b, DataLine l) :
    g96Collect none ([kwTITLE] ++ title ++ [kwEND, kwPOSITION] ++ p ++ [kwEND, kwVELOCITY] ++ v ++ [kwEND, kwBOX] ++ b
        ++ [kwEND]) = .ok ⟨title.map rstrip, p.map rstrip, v.map rstrip, b.map rstrip, [], []⟩ := by
  have h4 := collect_block (some .velocity) kwBOX .box b [] _ (by decide) (by decide) hb rfl
  have h3 := collect_block (some .position) kwVELOCITY .velocity v _ _ (by decide) (by decide) hv h4
  have h2 := collect_block (some .title) kwPOSITION .position p _ _ (by decide) (by decide) hp h3
  have h1 := collect_block none kwTITLE .title title _ _ (by decide) (by decide) ht h2
  simp only [List.append_assoc, List.cons_append, List.nil_append] at h1 ⊢
  simp [h1, pushAll_eq, G96Raw.empty]

section
variable {P : Char → Prop} (hA : ∀ c ∈ outChars, P c)
include hA

theorem rowLs_chars : ∀ (ts : List Line) (vs : List V3), (∀ t ∈ ts, ∀ c ∈ t, P c) → ∀ l ∈ rowLs ts vs, ∀ c ∈ l, P c
  | t :: ts, v :: vs, ht, l, hl => by
    rcases List.mem_cons.1 hl with rfl | hl
    · simp only [g96Row, List.forall_mem_append]
      exact ⟨⟨⟨ht t (by simp), fmtFixed_chars hA _ _ _⟩, fmtFixed_chars hA _ _ _⟩, fmtFixed_chars hA _ _ _⟩
    · exact rowLs_chars ts vs (fun x hx => ht x (by simp [hx])) l hl
  | [], _, _, _, hl | _ :: _, [], _, _, hl => by simp [rowLs] at hl

theorem g96Lines_chars (raw : G96Raw) (xyz vel : List V3) (box : List Dec) (ht : ∀ t ∈ raw.title, ∀ c ∈ t, P c)
    (hp : ∀ t ∈ raw.pos, ∀ c ∈ t, P c) (hv : ∀ t ∈ raw.vel, ∀ c ∈ t, P c) :
    ∀ l ∈ g96Lines raw xyz vel box, ∀ c ∈ l, P c := by
  have hkw : ∀ k ∈ [kwTITLE, kwEND, kwPOSITION, kwVELOCITY, kwBOX], ∀ c ∈ k, P c :=
    fun k hk c hc => hA c (by revert k c; decide +kernel)
  simp only [List.forall_mem_cons] at hkw
  obtain ⟨kT, kE, kP, kV, kB, -⟩ := hkw
  simp only [g96Lines, List.append_assoc, List.forall_mem_append, List.forall_mem_cons, List.not_mem_nil, false_imp_iff,
    implies_true, and_true, and_assoc]
  exact ⟨kT, ht, kE, kP, rowLs_chars hA _ _ hp, kE, kV, rowLs_chars hA _ _ hv, kE, kB,
    fun c hc => hA c (hdr_out (fmtCat_hdr box c hc)), kE⟩

end

theorem NoBrk_g96Lines (raw : G96Raw) (xyz vel : List V3) (box : List Dec) (h : G96Ok raw xyz vel box) :
    ∀ l ∈ g96Lines raw xyz vel box, NoBrk l :=
  g96Lines_chars outChars_noBrk raw xyz vel box (fun t ht => (h.title_ok t ht).1) (fun t ht => (h.pos_ok t ht).2)
    (fun t ht => (h.vel_ok t ht).2)

/-- what the reader returns for the written file: the same labels and title, the one formatted box line -/
def rawAfter (raw : G96Raw) (box : List Dec) : G96Raw :=
  { raw with box := [fmtCat 15 9 box], posred := [], velred := [] }

theorem readG96Lines_g96Lines (raw : G96Raw) (xyz vel : List V3) (box : List Dec) (h : G96Ok raw xyz vel box) :
    readG96Lines (g96Lines raw xyz vel box) = .ok ⟨rawAfter raw box, xyz, vel, some box⟩ := by
  have pp := rowLs_props raw.pos xyz h.xyz_len (fun t ht => (h.pos_ok t ht).1) h.xyz_fit
  have pv := rowLs_props raw.vel vel h.vel_len (fun t ht => (h.vel_ok t ht).1) h.vel_fit
  have hb : parseAll 9 (splitWs (fmtCat 15 9 box)) = some box := by
    rw [splitWs_fmtCat box h.box_fit, parseAll_cores]
  have ht : raw.title.map rstrip = raw.title := by
    rw [List.map_congr_left (g := id) (fun t ht => (h.title_ok t ht).2.1), List.map_id]
  unfold readG96Lines g96Lines
  rw [collect_sections _ _ _ _ (fun t ht => (h.title_ok t ht).2.2) pp.1 pv.1
    (fun l hl => List.mem_singleton.1 hl ▸ fmtCat_data box (box_ne_nil h.box_len))]
  simp only [ht, pp.2.1, pv.2.1, List.map, fmtCat_rstrip box (box_ne_nil h.box_len),
    pp.2.2.1, pv.2.2.1, g96ParseRows, List.append_nil, pp.2.2.2, pv.2.2.2, hb, rawAfter]
  by_cases hv : raw.vel = []
  · have hp : raw.pos = [] := List.length_eq_zero_iff.1 (by rw [← h.same_len, hv]; rfl)
    have hx : xyz = [] := List.length_eq_zero_iff.1 (by rw [h.xyz_len, hp]; rfl)
    have hvv : vel = [] := List.length_eq_zero_iff.1 (by rw [h.vel_len, hv]; rfl)
    simp [hv, hx, hvv]
  · simp [hv]

theorem readG96_g96Lines (raw : G96Raw) (xyz vel : List V3) (box : List Dec) (h : G96Ok raw xyz vel box) :
    readG96 (unlines (g96Lines raw xyz vel box)) = .ok ⟨rawAfter raw box, xyz, vel, some box⟩ := by
  rw [readG96, pyLines_unlines _ (NoBrk_g96Lines raw xyz vel box h)]
  exact readG96Lines_g96Lines raw xyz vel box h

/-- Under the guard `G96Ok`, for any number of atoms: the file written by
    `write_gromos96_file(raw, xyz, vel, box)` is read by `read_gromos96_file` as exactly the same
    positions, velocities (signs of zero included) and box, with the same title and labels. -/
theorem g96_read_write_roundtrip (raw : G96Raw) (xyz vel : List V3) (box : List Dec)
    (h : G96Ok raw xyz vel box) :
    ∃ t, writeG96 raw xyz (some vel) (some box) = .ok t ∧
      readG96 t = .ok ⟨rawAfter raw box, xyz, vel, some box⟩ :=
  ⟨_, writeG96_eq raw xyz vel box h, readG96_g96Lines raw xyz vel box h⟩

theorem natDigitsF_length : ∀ f n k, n < 10 ^ k → 1 ≤ k → (natDigitsF f n).length ≤ k := by
  intro f
  induction f with
  | zero => intro n k _ _; simp [natDigitsF]
  | succ f ih =>
    intro n k hn hk
    unfold natDigitsF
    split
    · simpa using hk
    · rename_i h10
      obtain ⟨k', rfl⟩ : ∃ k', k = k' + 1 := ⟨k - 1, by omega⟩
      have hk' : 1 ≤ k' := by
        rcases Nat.eq_zero_or_pos k' with e | e
        · subst e; simp at hn; omega
        · exact e
      have hdiv : n / 10 < 10 ^ k' := by
        apply Nat.div_lt_of_lt_mul
        rw [Nat.pow_succ, Nat.mul_comm] at hn
        exact hn
      have := ih (n / 10) k' hdiv hk'
      simp; omega

theorem fmtCore9_length (d : Dec) (k : Nat) (hk : 1 ≤ k) (h : d.mag < 10 ^ (k + 9)) :
    (fmtCore 9 d).length ≤ (if d.neg then 1 else 0) + k + 10 := by
  have hdiv : d.mag / 10 ^ 9 < 10 ^ k := by
    apply Nat.div_lt_of_lt_mul
    rw [← Nat.pow_add, Nat.add_comm]; exact h
  have := natDigitsF_length (d.mag / 10 ^ 9 + 1) _ k hdiv hk
  simp only [fmtCore, List.length_append, List.length_cons, fracDigits_length]
  unfold natDigits
  cases d.neg <;> simp <;> omega

theorem fit_of_lt (d : Dec) (hp : d.neg = false → d.mag < 10 ^ 14) (hn : d.neg = true → d.mag < 10 ^ 13) :
    Fit d := by
  unfold Fit
  cases hneg : d.neg with
  | false => have := fmtCore9_length d 5 (by omega) (hp hneg); simp [hneg] at this; omega
  | true => have := fmtCore9_length d 4 (by omega) (hn hneg); simp [hneg] at this; omega

theorem fitBox_of_lt (d : Dec) (hp : d.neg = false → d.mag < 10 ^ 13) (hn : d.neg = true → d.mag < 10 ^ 12) :
    FitBox d := by
  unfold FitBox
  cases hneg : d.neg with
  | false => have := fmtCore9_length d 4 (by omega) (hp hneg); simp [hneg] at this; omega
  | true => have := fmtCore9_length d 3 (by omega) (hn hneg); simp [hneg] at this; omega

theorem g96Lines_rawAfter (raw : G96Raw) (xyz vel : List V3) (box box' : List Dec) :
    g96Lines (rawAfter raw box') xyz vel box = g96Lines raw xyz vel box := rfl

theorem G96Ok_rawAfter {raw : G96Raw} {xyz vel : List V3} {box : List Dec} (h : G96Ok raw xyz vel box) :
    G96Ok (rawAfter raw box) xyz vel box :=
  ⟨h.title_ok, h.pos_ok, h.vel_ok, h.same_len, h.xyz_len, h.vel_len, h.xyz_fit, h.vel_fit, ⟨_, rfl⟩,
    h.box_len, h.box_fit⟩

theorem G96Ok_negate {raw : G96Raw} {xyz vel : List V3} {box : List Dec} (h : G96Ok raw xyz vel box)
    (hn : ∀ v ∈ vel, Fit3 v.negate) : G96Ok raw xyz (vel.map V3.negate) box :=
  ⟨h.title_ok, h.pos_ok, h.vel_ok, h.same_len, h.xyz_len, by simpa using h.vel_len, h.xyz_fit,
    by intro v hv; obtain ⟨u, hu, e⟩ := List.mem_map.1 hv; subst e; exact hn u hu,
    h.one_box, h.box_len, h.box_fit⟩

/-- `_reverse_velocities` re-emits title, labels, positions and the raw BOX line verbatim and
    prints the negated velocities -/
theorem reverseG96_eq (raw : G96Raw) (xyz vel : List V3) (box : List Dec) (h : G96Ok raw xyz vel box) :
    reverseG96 (unlines (g96Lines raw xyz vel box)) =
      .ok (unlines (g96Lines raw xyz (vel.map V3.negate) box)) := by
  have hl : (vel.map V3.negate).length = raw.vel.length := by simpa using h.vel_len
  unfold reverseG96
  rw [readG96_g96Lines raw xyz vel box h]
  simp [writeG96, writeG96Lines, rawAfter, g96Rows_eq _ _ h.xyz_len, g96Rows_eq _ _ hl, g96Lines]

/-- Under the round-trip guard for the velocities and for their negatives
    (a velocity `≥ 10^4` fits its column but its negative does not): the file produced by
    `_reverse_velocities` reads back with the same title, labels, positions and box and with every
    velocity component sign-flipped (also zeros); reversing it again restores the original bytes. -/
theorem g96_reverse_only_negates_vel (raw : G96Raw) (xyz vel : List V3) (box : List Dec)
    (h : G96Ok raw xyz vel box) (hn : ∀ v ∈ vel, Fit3 v.negate) (t : Text)
    (hw : writeG96 raw xyz (some vel) (some box) = .ok t) :
    ∃ t', reverseG96 t = .ok t' ∧
      readG96 t' = .ok ⟨rawAfter raw box, xyz, vel.map V3.negate, some box⟩ ∧
      reverseG96 t' = .ok t := by
  obtain rfl := writeG96_text h hw
  have h' := G96Ok_negate h hn
  exact ⟨_, reverseG96_eq raw xyz vel box h, readG96_g96Lines _ _ _ _ h',
    by rw [reverseG96_eq _ _ _ _ h', map_negate_negate]⟩

/-! non-vacuity and the boundary of the box guard -/

def exRaw : G96Raw :=
  { title := [['w', 'a', 't', 'e', 'r', ' ', 'b', 'o', 'x']],
    pos := [List.replicate 19 ' ' ++ ['S', 'O', 'L', ' ', '1'], List.replicate 24 ' '],
    vel := [List.replicate 19 ' ' ++ ['S', 'O', 'L', ' ', '1'], List.replicate 19 ' ' ++ ['S', 'O', 'L', ' ', '2']],
    box := [['x']], posred := [], velred := [] }
def exXyz : List V3 := [⟨⟨false, 1500000000⟩, ⟨true, 0⟩, ⟨false, 99999999999999⟩⟩, ⟨⟨true, 9999999999999⟩, ⟨false, 1⟩, ⟨true, 25⟩⟩]
def exVel : List V3 := [⟨⟨true, 100000000⟩, ⟨false, 0⟩, ⟨true, 0⟩⟩, ⟨⟨false, 7⟩, ⟨false, 9999999999999⟩, ⟨true, 3⟩⟩]
def exBox : List Dec := [⟨false, 99999999999999⟩, ⟨false, 2000000000⟩, ⟨false, 3500000001⟩]

theorem exG96_ok : G96Ok exRaw exXyz exVel exBox :=
  ⟨by simp only [NoBrk, DataLine]; decide +kernel, by simp only [NoBrk]; decide +kernel,
   by simp only [NoBrk]; decide +kernel, rfl, rfl, rfl, by simp only [Fit3]; decide +kernel,
   by simp only [Fit3]; decide +kernel, ⟨_, rfl⟩, Or.inl rfl, by decide +kernel⟩

example : ∃ t, writeG96 exRaw exXyz (some exVel) (some exBox) = .ok t ∧
    readG96 t = .ok ⟨rawAfter exRaw exBox, exXyz, exVel, some exBox⟩ :=
  g96_read_write_roundtrip _ _ _ _ exG96_ok

example : ∃ t t', writeG96 exRaw exXyz (some exVel) (some exBox) = .ok t ∧ reverseG96 t = .ok t' ∧
    readG96 t' = .ok ⟨rawAfter exRaw exBox, exXyz, exVel.map V3.negate, some exBox⟩ ∧ reverseG96 t' = .ok t := by
  obtain ⟨t, hw, _⟩ := g96_read_write_roundtrip _ _ _ _ exG96_ok
  obtain ⟨t', h1, h2, h3⟩ := g96_reverse_only_negates_vel _ _ _ _ exG96_ok
    (by simp only [Fit3]; decide +kernel) t hw
  exact ⟨t, t', hw, h1, h2, h3⟩

end Infretis.Codec
