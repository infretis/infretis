import Infretis.Lemmas.PermBlock
import Infretis.Lemmas.PermFull
import Infretis.Lemmas.SwapList
/-!
# C05 — how the idle block changes under the sampler's elementary operations

`idle W locks` (rows and columns of the unlocked slots) under
* a swap of two idle rows                      (`idle_swap_perm`: a row permutation),
* `swap(t, e)` followed by `lock(e)`            (`idle_pick_perm`: the minor at `(rank t, rank e)` up to a row permutation),
* `add_traj` into a locked slot `e`             (`idle_unlock_minor`: the old block is the `(rank e, rank e)` minor of the new one),
and the Frobenius–König consequence used by the termination proof of `sort_trajstate` (`no_gap`).
-/
namespace Infretis.Perm.C05
open Infretis.Repex (swapList swapList_length swapList_perm swapList_get swapIdx_right)

theorem rank_le_nIdle (locks : List Bool) (i : Nat) : rank locks i ≤ nIdle locks :=
  Infretis.Perm.rank_le_nIdle locks i

theorem rank_set_self (locks : List Bool) (e : Nat) (b : Bool) :
    rank (locks.set e b) e = rank locks e := by
  unfold rank
  rw [List.take_set_of_le (Nat.le_refl e)]

theorem keep_cons_true {α : Type} (ls : List Bool) (x : α) (xs : List α) :
    keep (true :: ls) (x :: xs) = keep ls xs := rfl

theorem keep_cons_false {α : Type} (ls : List Bool) (x : α) (xs : List α) :
    keep (false :: ls) (x :: xs) = x :: keep ls xs := rfl

theorem keep_lock {α : Type} (locks : List Bool) (xs : List α) (e : Nat)
    (h : locks[e]? = some false) :
    keep (locks.set e true) xs = (keep locks xs).eraseIdx (rank locks e) := by
  induction locks generalizing xs e with
  | nil => simp at h
  | cons l ls ih =>
    cases xs with
    | nil => rw [keep_nil, keep_nil]; rfl
    | cons x xs =>
      cases e with
      | zero =>
        rw [List.getElem?_cons_zero, Option.some.injEq] at h
        subst h
        rfl
      | succ e =>
        rw [List.getElem?_cons_succ] at h
        rw [List.set_cons_succ, rank_cons_succ]
        cases l with
        | true => simp only [keep_cons_true, ↓reduceIte, Nat.zero_add, ih xs e h]
        | false =>
          simp only [keep_cons_false, Bool.false_eq_true, ↓reduceIte, ih xs e h, Nat.add_comm 1,
            List.eraseIdx_cons_succ]

theorem keep_set_locked {α : Type} (locks : List Bool) (xs : List α) (i : Nat) (x : α)
    (h : locks[i]? = some true) : keep locks (xs.set i x) = keep locks xs := by
  induction locks generalizing xs i with
  | nil => simp at h
  | cons l ls ih =>
    cases xs with
    | nil => rfl
    | cons y ys =>
      cases i with
      | zero =>
        rw [List.getElem?_cons_zero, Option.some.injEq] at h
        subst h
        rfl
      | succ i =>
        rw [List.getElem?_cons_succ] at h
        rw [List.set_cons_succ]
        cases l with
        | true => simp only [keep_cons_true, ih ys i h]
        | false => simp only [keep_cons_false, ih ys i h]

theorem keep_set_idle {α : Type} (locks : List Bool) (xs : List α) (i : Nat) (x : α)
    (h : locks[i]? = some false) :
    keep locks (xs.set i x) = (keep locks xs).set (rank locks i) x := by
  induction locks generalizing xs i with
  | nil => simp at h
  | cons l ls ih =>
    cases xs with
    | nil => rfl
    | cons y ys =>
      cases i with
      | zero =>
        rw [List.getElem?_cons_zero, Option.some.injEq] at h
        subst h
        rfl
      | succ i =>
        rw [List.getElem?_cons_succ] at h
        rw [List.set_cons_succ, rank_cons_succ]
        cases l with
        | true => simp only [keep_cons_true, ↓reduceIte, Nat.zero_add, ih ys i h]
        | false =>
          simp only [keep_cons_false, Bool.false_eq_true, ↓reduceIte, ih ys i h, Nat.add_comm 1,
            List.set_cons_succ]

theorem keep_swapList {α : Type} (locks : List Bool) (xs : List α) (i j : Nat)
    (hi : locks[i]? = some false) (hj : locks[j]? = some false) :
    keep locks (swapList xs i j) = swapList (keep locks xs) (rank locks i) (rank locks j) := by
  unfold swapList
  rw [keep_getElem?_rank locks xs i hi, keep_getElem?_rank locks xs j hj]
  cases xs[i]? with
  | none => rfl
  | some a =>
    cases xs[j]? with
    | none => rfl
    | some b =>
      simp only
      rw [keep_set_idle locks _ j a hj, keep_set_idle locks _ i b hi]

theorem idle_swap_perm (W : Mat) (locks : List Bool) (i j : Nat)
    (hi : locks[i]? = some false) (hj : locks[j]? = some false) :
    (idle (swapList W i j) locks).Perm (idle W locks) := by
  unfold idle
  rw [keep_swapList locks W i j hi hj]
  exact (swapList_perm _ _ _).map _

theorem idle_pick_perm (W : Mat) (locks : List Bool) (t e : Nat) (hW : W.length = locks.length)
    (ht : locks[t]? = some false) (he : locks[e]? = some false) :
    (idle (swapList W t e) (locks.set e true)).Perm
      (minor (idle W locks) (rank locks t) (rank locks e)) := by
  have hK : (keep locks W).length = nIdle locks := keep_length locks W hW
  have hrt : rank locks t < (keep locks W).length := by rw [hK]; exact rank_lt locks t ht
  have hre : rank locks e < (keep locks W).length := by rw [hK]; exact rank_lt locks e he
  have hcol : keep (locks.set e true) = fun r : Row => (keep locks r).eraseIdx (rank locks e) := by
    funext r; exact keep_lock locks r e he
  have hrows : ((swapList (keep locks W) (rank locks t) (rank locks e)).eraseIdx (rank locks e)).Perm
      ((keep locks W).eraseIdx (rank locks t)) :=
    eraseIdx_perm_of_perm (swapList_perm _ _ _) _ _ (by rw [swapList_length]; exact hre) hrt []
      (by rw [List.getD_eq_getElem?_getD, swapList_get _ _ _ _ hrt hre, swapIdx_right,
        List.getD_eq_getElem?_getD])
  unfold idle minor
  rw [keep_lock locks _ e he, keep_swapList locks W t e ht he, hcol, List.eraseIdx_map,
    List.map_map]
  exact hrows.map _

theorem set_false_getElem? (locks : List Bool) (e : Nat) (he : locks[e]? = some true) :
    (locks.set e false)[e]? = some false := by
  simp [getElem?_lt_of_some he]

theorem set_false_set_true (locks : List Bool) (e : Nat) (he : locks[e]? = some true) :
    (locks.set e false).set e true = locks := by
  rw [List.set_set]
  apply List.ext_getElem?
  intro i
  rw [List.getElem?_set]
  by_cases h : e = i
  · subst h; rw [if_pos rfl, if_pos (getElem?_lt_of_some he), he]
  · simp [h]

theorem idle_unlock_minor (W : Mat) (locks : List Bool) (e : Nat) (v : Row)
    (he : locks[e]? = some true) :
    minor (idle (W.set e v) (locks.set e false)) (rank locks e) (rank locks e) = idle W locks := by
  have hcol : keep locks = fun r : Row =>
      (keep (locks.set e false) r).eraseIdx (rank locks e) := by
    funext r
    have := keep_lock (locks.set e false) r e (set_false_getElem? locks e he)
    rw [set_false_set_true locks e he, rank_set_self] at this
    exact this
  have hrow : keep locks W = (keep (locks.set e false) (W.set e v)).eraseIdx (rank locks e) := by
    have := keep_lock (locks.set e false) (W.set e v) e (set_false_getElem? locks e he)
    rw [set_false_set_true locks e he, rank_set_self, keep_set_locked locks W e v he] at this
    exact this
  unfold idle minor
  rw [List.eraseIdx_map, List.map_map, ← hrow]
  conv_rhs => rw [hcol]
  rfl

theorem idle_unlock_entry (W : Mat) (locks : List Bool) (e : Nat) (v : Row)
    (hW : W.length = locks.length) (he : locks[e]? = some true) :
    entry (idle (W.set e v) (locks.set e false)) (rank locks e) (rank locks e) = v.getD e 0 := by
  have he' := set_false_getElem? locks e he
  have hlt : e < W.length := by rw [hW]; exact getElem?_lt_of_some he
  have := entry_idle (W.set e v) (locks.set e false) e e he' he'
  rw [rank_set_self] at this
  rw [this]
  simp [entry, List.getD_eq_getElem?_getD, hlt]

theorem rank_lt_nIdle_unlock (locks : List Bool) (e : Nat) (he : locks[e]? = some true) :
    rank locks e < nIdle (locks.set e false) := by
  have := rank_lt (locks.set e false) e (set_false_getElem? locks e he)
  rw [rank_set_self] at this
  exact this

theorem idle_row_vanish (W : Mat) (locks : List Bool) (s z : Nat)
    (hs : locks[s]? = some false) (hvan : ∀ c, z ≤ c → (W.getD s []).getD c 0 = 0)
    (c : Nat) (hc1 : rank locks z ≤ c) (hc2 : c < nIdle locks) :
    ((idle W locks).getD (rank locks s) []).getD c 0 = 0 := by
  obtain ⟨c0, hc0, hrc⟩ := exists_idle_of_lt_nIdle locks c hc2
  have hz : z ≤ c0 := by
    rcases Nat.lt_or_ge c0 z with h | h
    · have := rank_lt_of_idle_lt locks hc0 h; omega
    · exact h
  rw [idle_getD_rank W locks s hs, ← hrc, keep_getD_rank 0 locks _ c0 hc0]
  exact hvan c0 hz

/-- If the permanent of the idle block is non-zero, then the idle rows sitting in slots `< z`
    together with the idle row of a slot `e ≥ z` cannot all vanish on the columns `≥ z`
    (they would be `rank z + 1` rows supported on `rank z` columns). -/
theorem no_gap (W : Mat) (locks : List Bool) (hW : W.length = locks.length)
    (hP : permC (idle W locks) ≠ 0) (e z : Nat) (he : locks[e]? = some false) (hze : z ≤ e)
    (hvan_e : ∀ c, z ≤ c → (W.getD e []).getD c 0 = 0)
    (hall : ∀ t, t < z → locks[t]? = some false → ∀ c, z ≤ c → (W.getD t []).getD c 0 = 0) :
    False := by
  have hN : (idle W locks).length = nIdle locks := idle_length W locks hW
  have hak : rank locks z ≤ rank locks e := rank_mono locks hze
  have hkm : rank locks e < nIdle locks := rank_lt locks e he
  -- bring the row of `e` next to the rows of the slots `< z`
  have hdl : rank locks e - rank locks z < ((idle W locks).drop (rank locks z)).length := by
    rw [List.length_drop, hN]; omega
  have hget : ((idle W locks).drop (rank locks z)).getD (rank locks e - rank locks z) []
      = (idle W locks).getD (rank locks e) [] := by
    rw [List.getD_eq_getElem?_getD, List.getElem?_drop, List.getD_eq_getElem?_getD]
    congr 3; omega
  have hperm : (idle W locks).Perm
      (((idle W locks).take (rank locks z) ++ [(idle W locks).getD (rank locks e) []])
        ++ ((idle W locks).drop (rank locks z)).eraseIdx (rank locks e - rank locks z)) := by
    have h1 := perm_getD_cons_eraseIdx ((idle W locks).drop (rank locks z))
      (rank locks e - rank locks z) hdl []
    rw [hget] at h1
    have h2 := List.Perm.append_left ((idle W locks).take (rank locks z)) h1
    rw [List.take_append_drop] at h2
    simpa using h2
  have hb : (((idle W locks).drop (rank locks z)).eraseIdx (rank locks e - rank locks z)).length
      = nIdle locks - rank locks z - 1 := by
    rw [List.length_eraseIdx, if_pos hdl, List.length_drop, hN]
  have hm : nIdle locks = rank locks z + 1 + (nIdle locks - rank locks z - 1) := by omega
  apply hP
  unfold permC
  rw [hN, permN_perm _ hperm, hm]
  apply permN_narrow_zero _ _ _ _ hb
  intro r hr c hc1 hc2
  rw [← hm] at hc2
  rw [List.mem_append, List.mem_singleton] at hr
  rcases hr with hr | hr
  · obtain ⟨i', hi', rfl⟩ := List.mem_take_iff_getElem.mp hr
    have hi'a : i' < rank locks z := by omega
    have hi'm : i' < nIdle locks := by omega
    obtain ⟨s, hs, hrs⟩ := exists_idle_of_lt_nIdle locks i' hi'm
    have hsz : s < z := by
      rcases Nat.lt_or_ge s z with h | h
      · exact h
      · have := rank_mono locks h; omega
    have := idle_row_vanish W locks s z hs (hall s hsz hs) c hc1 hc2
    rw [hrs, List.getD_eq_getElem?_getD (l := idle W locks),
      List.getElem?_eq_getElem (show i' < (idle W locks).length by omega)] at this
    exact this
  · rw [hr]
    exact idle_row_vanish W locks e z he hvan_e c hc1 hc2

end Infretis.Perm.C05
