import Infretis.Lemmas.RepexC04Hist
/-!
# C04 — a path's row is written exactly once, when it is replaced, never while it is live

`RInv`: the paths that have a row are pairwise distinct, out of the fraction table and below `traj_num`; every live path is
in the table.  `treat_output` writes a row exactly for the paths it takes out of the slots (`treat_rinv`), and a new path
gets its number from `traj_num` on, so no number is written twice; `writtenAlong` lists the numbers written along a
history.
-/
namespace Infretis.Repex.Frac

theorem mem_fm {l : List (Option Nat)} {p : Nat} : p ∈ l.filterMap id ↔ some p ∈ l := by
  simp [List.mem_filterMap]

theorem set_mid {α : Type} (A B : List α) (v w : α) : (A ++ v :: B).set A.length w = A ++ w :: B := by
  induction A with
  | nil => rfl
  | cons x t ih => simp [ih]

theorem fm_mid (A B : List (Option Nat)) (p : Nat) :
    (A ++ some p :: B).filterMap id = A.filterMap id ++ p :: B.filterMap id := by
  simp [List.filterMap_append]

theorem set_fresh_nodup (l : List (Option Nat)) (e t : Nat) (hnd : (l.filterMap id).Nodup)
    (hf : some t ∉ l) : ((l.set e (some t)).filterMap id).Nodup := by
  rcases Nat.lt_or_ge e l.length with he | he
  · generalize hv : l[e] = v
    have hv' : l[e]? = some v := by rw [List.getElem?_eq_getElem he, hv]
    obtain ⟨A, B, rfl, rfl⟩ := split_at_some hv'
    rw [set_mid, fm_mid]
    have hsub : (A.filterMap id ++ B.filterMap id).Nodup := by
      refine hnd.sublist ?_
      rw [List.filterMap_append]
      exact List.Sublist.append (List.Sublist.refl _) ((List.sublist_cons_self _ _).filterMap id)
    rw [List.perm_middle.nodup_iff, List.nodup_cons]
    refine ⟨?_, hsub⟩
    rw [List.mem_append, mem_fm, mem_fm]
    intro hm
    apply hf
    rcases hm with hm | hm
    · exact List.mem_append_left _ hm
    · exact List.mem_append_right _ (List.mem_cons_of_mem _ hm)
  · rw [List.set_eq_of_length_le he]; exact hnd

theorem set_removes (l : List (Option Nat)) (e p t : Nat) (h : l[e]? = some (some p))
    (hnd : (l.filterMap id).Nodup) (hne : t ≠ p) : some p ∉ l.set e (some t) := by
  obtain ⟨A, B, rfl, rfl⟩ := split_at_some h
  rw [set_mid]
  rw [fm_mid, List.perm_middle.nodup_iff, List.nodup_cons, List.mem_append, mem_fm, mem_fm] at hnd
  intro hm
  rcases List.mem_append.mp hm with hm | hm
  · exact hnd.1 (Or.inl hm)
  · rcases List.mem_cons.mp hm with hm | hm
    · simp only [Option.some.injEq] at hm
      exact hne hm.symm
    · exact hnd.1 (Or.inr hm)

theorem perEns_trajs (status : Status) : ∀ (l : List (Picked × List Rat)) {s s' : St}
    {tn tn' : Nat} {pns : List Nat},
    (∀ pw ∈ l, s.trajs[slotOf pw.1]? = some (some pw.1.pn)) →
    (l.map (fun pw => slotOf pw.1)).Nodup →
    (s.trajs.filterMap id).Nodup → (∀ pn, some pn ∈ s.trajs → pn < tn) →
    treatOutput.perEns status s tn l = .ok (s', tn', pns) →
    (s'.trajs.filterMap id).Nodup ∧ (∀ pn, some pn ∈ s'.trajs → pn < tn') ∧
    (∀ pn, some pn ∈ s'.trajs → some pn ∈ s.trajs ∨ (tn ≤ pn ∧ pn < tn')) ∧
    (status = .acc → ∀ pw ∈ l, some pw.1.pn ∉ s'.trajs) ∧ tn ≤ tn' := by
  intro l s s' tn tn' pns hheld hslots hnd hb h
  replace h := perEns_ok_iff.mp h
  induction h with
  | nil => exact ⟨hnd, hb, fun pn hm => Or.inl hm, fun _ pw hpw => absurd hpw (by simp), Nat.le_refl _⟩
  | @cons s tn p w rest _ _ _ s3 _ _ _ hput hadd _ ih =>
    have hp : s.trajs[slotOf p]? = some (some p.pn) := hheld (p, w) List.mem_cons_self
    simp only [List.map_cons, List.nodup_cons] at hslots
    have hrestne : ∀ pw ∈ rest, slotOf pw.1 ≠ slotOf p := by
      intro pw hpw e
      exact hslots.1 (e ▸ List.mem_map_of_mem (f := fun pw : Picked × List Rat => slotOf pw.1) hpw)
    have htr3 := congrArg St.trajs (addTraj_parts hadd).2.2
    cases hput with
    | acc =>
      -- accepted: the fresh number `tn` replaces `p.pn` in the job's slot
      change s3.trajs = s.trajs.set (slotOf p) (some tn) at htr3
      have hfresh : some tn ∉ s.trajs := fun hm => Nat.lt_irrefl _ (hb tn hm)
      have hpb : p.pn < tn := hb p.pn (List.mem_of_getElem? hp)
      have h1 : ∀ pw ∈ rest, s3.trajs[slotOf pw.1]? = some (some pw.1.pn) := by
        intro pw hpw
        rw [htr3, List.getElem?_set_ne (fun e => hrestne pw hpw e.symm)]
        exact hheld pw (List.mem_cons_of_mem _ hpw)
      have h2 : (s3.trajs.filterMap id).Nodup := by
        rw [htr3]; exact set_fresh_nodup _ _ _ hnd hfresh
      have hmem3 : ∀ pn, some pn ∈ s3.trajs → pn = tn ∨ some pn ∈ s.trajs := by
        intro pn hm
        rw [htr3] at hm
        rcases List.mem_or_eq_of_mem_set hm with hm | hm
        · exact Or.inr hm
        · exact Or.inl (by simpa using hm)
      have h3 : ∀ pn, some pn ∈ s3.trajs → pn < tn + 1 := by
        intro pn hm
        rcases hmem3 pn hm with rfl | hm
        · omega
        · have := hb pn hm; omega
      obtain ⟨r1, r2, r3, r4, r5⟩ := ih h1 hslots.2 h2 h3
      refine ⟨r1, r2, ?_, ?_, by omega⟩
      · intro pn hm
        rcases r3 pn hm with hm | hm
        · rcases hmem3 pn hm with rfl | hm
          · exact Or.inr ⟨Nat.le_refl _, by omega⟩
          · exact Or.inl hm
        · exact Or.inr ⟨by omega, hm.2⟩
      · intro _ pw hpw
        rcases List.mem_cons.mp hpw with rfl | hpw
        · intro hm
          rcases r3 p.pn hm with hm | hm
          · rw [htr3] at hm
            exact set_removes _ _ _ _ hp hnd (by omega) hm
          · omega
        · exact r4 rfl pw hpw
    | rej _ =>
      -- rejected: the old path goes back where it was
      change s3.trajs = s.trajs.set (slotOf p) (some p.pn) at htr3
      rw [set_getElem?_self hp] at htr3
      obtain ⟨r1, r2, r3, _, r5⟩ := ih
        (by rw [htr3]; exact fun pw hpw => hheld pw (List.mem_cons_of_mem _ hpw)) hslots.2
        (by rw [htr3]; exact hnd) (by rw [htr3]; exact hb)
      rw [htr3] at r3
      exact ⟨r1, r2, r3, (fun h => nomatch h), r5⟩

structure RInv (y : Sys) : Prop where
  rowsNodup : (y.s.rows.map (·.1)).Nodup
  rowsFrac : ∀ pn ∈ y.s.rows.map (·.1), pn ∉ y.s.frac.map Prod.fst
  rowsBound : ∀ pn ∈ y.s.rows.map (·.1), pn < y.s.trajNum
  liveFrac : ∀ pn, some pn ∈ y.s.trajs → pn ∈ y.s.frac.map Prod.fst
  liveNodup : (y.s.trajs.filterMap id).Nodup
  jobsOld : ∀ j ∈ y.jobs, j.pnumOld = j.picked.map (·.pn)

theorem RInv.transfer {s s' : St} {jobs jobs' : List Job} (r : RInv ⟨s, jobs⟩)
    (hrows : s'.rows = s.rows) (hfrac : s'.frac = s.frac) (htn : s'.trajNum = s.trajNum)
    (htr : s'.trajs.Perm s.trajs) (hj : ∀ j ∈ jobs', j.pnumOld = j.picked.map (·.pn)) :
    RInv ⟨s', jobs'⟩ := by
  constructor
  · show (s'.rows.map (·.1)).Nodup; rw [hrows]; exact r.rowsNodup
  · show ∀ pn ∈ s'.rows.map (·.1), pn ∉ s'.frac.map Prod.fst; rw [hrows, hfrac]; exact r.rowsFrac
  · show ∀ pn ∈ s'.rows.map (·.1), pn < s'.trajNum; rw [hrows, htn]; exact r.rowsBound
  · show ∀ pn, some pn ∈ s'.trajs → pn ∈ s'.frac.map Prod.fst
    intro pn hm
    rw [hfrac]
    exact r.liveFrac pn (htr.mem_iff.mp hm)
  · show (s'.trajs.filterMap id).Nodup
    exact (htr.filterMap id).nodup_iff.mpr r.liveNodup
  · exact hj

/-- `RInv` reads the path slots only up to their order -/
theorem RInv.frame {s s' : St} {jobs jobs' : List Job} {fs : List Fld} (r : RInv ⟨s, jobs⟩) (t : Touches fs s s')
    (p : Permutes s s') (hj : ∀ j ∈ jobs', j.pnumOld = j.picked.map (·.pn))
    (hd : ∀ f ∈ [Fld.rows, .frac, .trajNum], f ∉ fs := by decide) : RInv ⟨s', jobs'⟩ :=
  have e := t.keeps hd
  r.transfer e.rows e.frac e.trajNum p.2 hj

theorem RInv.loop {y : Sys} (r : RInv y) (k : Nat) : RInv ⟨(loop y.s).1, y.jobs.eraseIdx k⟩ :=
  r.frame (loop_touches y.s) (loop_touches y.s).permutes (PnumOk.eraseIdx r.jobsOld k)

/-- **one `treat_output`**: rows are appended exactly for `written job status` (the job's old path
    numbers on ACC, nothing on REJ); these paths were live before and are not live afterwards; the
    "written once" invariant is kept. -/
theorem treat_rinv {s s2 : St} {jobs : List Job} {job : Job} {status : Status}
    {newW : List (List Rat)} {fuel : Nat} {pns : List Nat} {it : Nat} {H : List (Nat × Nat)}
    (hc : Core s (heldJob job ++ H) s.trajNum) (fw : FracWF s) (r : RInv ⟨s, jobs⟩)
    (hold : job.pnumOld = job.picked.map (·.pn))
    (h : treatOutput s job status newW fuel = .ok (s2, pns, it)) :
    RInv ⟨s2, jobs⟩ ∧ s2.rows.map (·.1) = s.rows.map (·.1) ++ written job status ∧
    (∀ pn ∈ written job status, some pn ∈ s.trajs ∧ some pn ∉ s2.trajs) := by
  obtain ⟨sR, tn, sC, news, d⟩ := treatOutput_data h
  have hrec := d.recSt
  have hzl := d.len
  have htn := d.trajNum
  have hwnd := d.nodup
  have hperm := d.slots.2
  obtain ⟨p1, _, p4, p5, _, _⟩ := recState_data hzl hrec
  have hfst : (job.picked.zip (jobWs job status newW)).map Prod.fst = job.picked :=
    List.map_fst_zip (by omega)
  have hrec' := hrec
  unfold recState at hrec'
  have hcR : Core sR H tn := recState_core hc hzl hrec
  obtain ⟨k1, k2, _, _⟩ := fw.recState hzl hrec
  obtain ⟨_, r2, _⟩ := recordFrac_spec (slotWF_of_core hcR) k1 k2 d.recorded
  -- the keys at recording time are the old ones and the fresh numbers; the written ones leave
  have hkR : ∀ k, k ∈ sR.frac.map Prod.fst ↔ k ∈ s.frac.map Prod.fst ∨ (s.trajNum ≤ k ∧ k < tn) := by
    intro k
    rw [p5, List.map_append, zeroFracs_keys, List.mem_append, List.mem_range'_1, p4]
  have hkeys : s2.frac.map Prod.fst
      = (sR.frac.map Prod.fst).filter (fun k => !(written job status).contains k) := by
    rw [d.frac, Assoc.keys_filter _ (fun k => !(written job status).contains k), r2]
  have hwk : ∀ pn ∈ written job status, pn ∈ sR.frac.map Prod.fst := by
    intro pn hpn
    rw [← d.keys] at hpn
    obtain ⟨r, hr', rfl⟩ := List.mem_map.mp hpn
    exact r2 ▸ Assoc.mem_keys_of_lookup (d.look r hr').1
  have hrows : s2.rows.map (·.1) = s.rows.map (·.1) ++ written job status := by
    rw [d.rows, p1, List.map_append, d.keys]
  have hheldP : ∀ p ∈ job.picked, s.trajs[slotOf p]? = some (some p.pn) := by
    intro p hp
    have : (slotOf p, p.pn) ∈ heldJob job ++ H :=
      List.mem_append_left _ (List.mem_map.mpr ⟨p, hp, rfl⟩)
    exact (hc.heldOk _ _ this).2.1
  have hheld : ∀ pw ∈ job.picked.zip (jobWs job status newW),
      s.trajs[slotOf pw.1]? = some (some pw.1.pn) :=
    fun pw hpw => hheldP pw.1 (List.of_mem_zip (a := pw.1) (b := pw.2) hpw).1
  have hslots : ((job.picked.zip (jobWs job status newW)).map (fun pw => slotOf pw.1)).Nodup := by
    rw [map_fst_of_zip slotOf hzl]
    have h2 := hc.nodup
    rw [List.map_append, List.nodup_append] at h2
    have h3 : (heldJob job).map Prod.fst = job.picked.map slotOf := by
      simp [heldJob, List.map_map, Function.comp_def]
    rw [← h3]; exact h2.1
  have hb : ∀ pn, some pn ∈ s.trajs → pn < s.trajNum :=
    fun pn hm => fw.bound pn (r.liveFrac pn hm)
  obtain ⟨t1, _, t3, t4, _⟩ := perEns_trajs status _ hheld hslots r.liveNodup hb hrec'
  have t4' : status = .acc → ∀ pn ∈ job.picked.map (·.pn), some pn ∉ sR.trajs := by
    intro hacc pn hpn
    rw [← hfst, List.map_map] at hpn
    simp only [List.mem_map, Function.comp_apply] at hpn
    obtain ⟨pw, hpw, rfl⟩ := hpn
    exact t4 hacc pw hpw
  have hwacc : ∀ pn ∈ written job status, status = .acc ∧ pn ∈ job.picked.map (·.pn) := by
    intro pn hpn
    unfold written at hpn
    split at hpn
    · rename_i hacc; rw [hold] at hpn; exact ⟨hacc, hpn⟩
    · exact absurd hpn (by simp)
  have hrowsR : ∀ pn ∈ s.rows.map (·.1), pn ∉ sR.frac.map Prod.fst := by
    intro pn hpn hk
    rcases (hkR pn).mp hk with hk | hk
    · exact r.rowsFrac pn hpn hk
    · have : pn < s.trajNum := r.rowsBound pn hpn
      omega
  refine ⟨?_, hrows, ?_⟩
  · constructor
    · show (s2.rows.map (·.1)).Nodup
      rw [hrows, List.nodup_append]
      refine ⟨r.rowsNodup, hwnd, ?_⟩
      intro a ha b hb' hab
      subst hab
      exact hrowsR a ha (hwk a hb')
    · show ∀ pn ∈ s2.rows.map (·.1), pn ∉ s2.frac.map Prod.fst
      intro pn hpn hk
      rw [hkeys, List.mem_filter] at hk
      rw [hrows] at hpn
      rcases List.mem_append.mp hpn with hpn | hpn
      · exact hrowsR pn hpn hk.1
      · have : pn ∉ written job status := by simpa using hk.2
        exact this hpn
    · show ∀ pn ∈ s2.rows.map (·.1), pn < s2.trajNum
      intro pn hpn
      rw [htn]
      rw [hrows] at hpn
      rcases List.mem_append.mp hpn with hpn | hpn
      · have : pn < s.trajNum := r.rowsBound pn hpn
        omega
      · rcases (hkR pn).mp (hwk pn hpn) with hk | hk
        · have := fw.bound pn hk; omega
        · exact hk.2
    · show ∀ pn, some pn ∈ s2.trajs → pn ∈ s2.frac.map Prod.fst
      intro pn hm
      have hmR : some pn ∈ sR.trajs := hperm.mem_iff.mp hm
      rw [hkeys, List.mem_filter]
      constructor
      · exact (hkR pn).mpr ((t3 pn hmR).imp (r.liveFrac pn) id)
      · have : pn ∉ written job status := by
          intro hw
          obtain ⟨hacc, hp⟩ := hwacc pn hw
          exact t4' hacc pn hp hmR
        simpa using this
    · show (s2.trajs.filterMap id).Nodup
      exact (hperm.filterMap id).nodup_iff.mpr t1
    · exact r.jobsOld
  · intro pn hpn
    obtain ⟨hacc, hp⟩ := hwacc pn hpn
    constructor
    · simp only [List.mem_map] at hp
      obtain ⟨p, hp, rfl⟩ := hp
      exact List.mem_of_getElem? (hheldP p hp)
    · intro hm
      exact t4' hacc pn hp (hperm.mem_iff.mp hm)

/-- the path numbers whose rows event `ev` writes when applied in `y`: the old path numbers of the
    completing job if its move was accepted, nothing otherwise -/
def writtenAt (y : Sys) (ev : Ev) : List Nat :=
  match ev with
  | .step k status _ _ =>
    match y.jobs[k]? with
    | some job => written job status
    | none => []
  | _ => []

/-- all path numbers written along a history, in order (recursion alongside `run`) -/
def writtenAlong : Sys → List Ev → List Nat
  | _, [] => []
  | y, ev :: rest =>
    match sysStep y ev with
    | .ok y' => writtenAt y ev ++ writtenAlong y' rest
    | .error _ => []

theorem RInv.done {y ym : Sys} (r : RInv y) (hi : HInv y) {k : Nat} {status : Status} {newW : List (List Rat)}
    {o : PickOutcome} {job : Job} (hc : Completes y k status newW job ym) :
    RInv ym ∧ ym.s.rows.map (·.1) = y.s.rows.map (·.1) ++ writtenAt y (.step k status newW o) ∧
      (∀ pn ∈ writtenAt y (.step k status newW o), some pn ∈ y.s.trajs ∧ some pn ∉ ym.s.trajs) := by
  cases hc with | @mk s2 _ _ _ hjob htreat =>
  obtain ⟨r2, hrows2, hw2⟩ := treat_rinv (step_core hi.inv hjob) hi.fw.loop (r.loop _)
    (r.jobsOld _ (List.mem_of_getElem? hjob)) htreat
  simp only [writtenAt, hjob]
  rw [(loop_touches y.s).rows, (loop_touches y.s).trajs] at *
  exact ⟨r2, hrows2, hw2⟩

theorem sysStep_rinv {y y' : Sys} (ev : Ev) (hi : HInv y) (r : RInv y) (h : sysStep y ev = .ok y') :
    RInv y' ∧ y'.s.rows.map (·.1) = y.s.rows.map (·.1) ++ writtenAt y ev ∧
    (∀ pn ∈ writtenAt y ev, some pn ∈ y.s.trajs ∧ some pn ∉ y'.s.trajs) := by
  obtain ⟨oj, hst⟩ := Step.of_ok h
  obtain ⟨ym, _, hpre, htail⟩ := hst.shape
  have hmid : RInv ym ∧ ym.s.rows.map (·.1) = y.s.rows.map (·.1) ++ writtenAt y ev ∧
      (∀ pn ∈ writtenAt y ev, some pn ∈ y.s.trajs ∧ some pn ∉ ym.s.trajs) := by
    have hi0 := initiate_touches y.s
    have hinit : RInv y.initiated ∧ y.initiated.s.rows.map (·.1) = y.s.rows.map (·.1) :=
      ⟨r.frame hi0 hi0.permutes r.jobsOld, by rw [hi0.rows]⟩
    cases hpre with
    | go _ => exact ⟨hinit.1, by simp [writtenAt, hinit.2], by simp [writtenAt]⟩
    | stop _ => exact ⟨hinit.1, by simp [writtenAt, hinit.2], by simp [writtenAt]⟩
    | done hc => exact r.done hi hc
  cases oj with
  | some jd =>
    obtain ⟨_, _, _, hs⟩ := htail
    cases hs with | mk hp =>
    have kp := prep_touches hp
    have kperm := (prep_permutes hp).2
    refine ⟨hmid.1.frame kp (prep_permutes hp) (PnumOk.append hmid.1.jobsOld (prep_pnumOld hp)), ?_,
      fun pn hpn => ⟨(hmid.2.2 pn hpn).1, fun hm => (hmid.2.2 pn hpn).2 (kperm.mem_iff.mp hm)⟩⟩
    show _ = _
    rw [kp.rows, hmid.2.1]
  | none => rw [htail.2]; exact hmid

theorem run_rinv : ∀ (evs : List Ev) {y0 y : Sys}, HInv y0 → RInv y0 → run y0 evs = .ok y →
    HInv y ∧ RInv y ∧ y.s.rows.map (·.1) = y0.s.rows.map (·.1) ++ writtenAlong y0 evs := by
  intro evs
  induction evs with
  | nil =>
    intro y0 y hi r h
    cases h
    exact ⟨hi, r, by simp [writtenAlong]⟩
  | cons ev rest ih =>
    intro y0 y hi r h
    obtain ⟨y1, hstep, h⟩ := run_cons_ok h
    obtain ⟨r1, hrows1, _⟩ := sysStep_rinv ev hi r hstep
    obtain ⟨hi2, r2, hrows2⟩ := ih (sysStep_hinv ev hi hstep) r1 h
    refine ⟨hi2, r2, ?_⟩
    rw [hrows2, hrows1]
    simp only [writtenAlong, hstep, List.append_assoc]

/-- fresh start for the "written once" law: additionally every slot's path has a table entry and
    the path numbers in the slots are pairwise distinct -/
structure RowInit (y : Sys) : Prop where
  fi : FracInit y
  liveFrac : ∀ pn, some pn ∈ y.s.trajs → pn ∈ y.s.frac.map Prod.fst
  liveNodup : (y.s.trajs.filterMap id).Nodup

theorem RowInit.rinv {y : Sys} (h : RowInit y) : RInv y := by
  constructor
  · rw [h.fi.rows]; exact List.nodup_nil
  · rw [h.fi.rows]; intro pn hpn; simp at hpn
  · rw [h.fi.rows]; intro pn hpn; simp at hpn
  · exact h.liveFrac
  · exact h.liveNodup
  · rw [h.fi.init.jobs]; intro j hj; simp at hj

end Infretis.Repex.Frac
