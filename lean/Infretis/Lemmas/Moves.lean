import Infretis.Model.Moves
import Infretis.Lemmas.ListAux
/-! What the moves are built from.  A *leg*: one run of the engine loop `feedV` (frames handed to `add_to_path` in one
    direction until it says stop), by the way it ends — on a frame outside `[l, r]`, on a full path, or because the MD
    program ended (`Leg`, `feedV_iff`); every move grows its paths by such runs, and `Engine.feed` is the `repaired`
    instance (`feed_iff`). -/
namespace Infretis.Moves
open Infretis.Engine

def isRep : Variant → Bool
  | .asIs => false
  | .repaired => true

/-- the length limit admits more than `n` frames -/
def Room (ml : Option Nat) (n : Nat) : Prop := ∀ m, ml = some m → n < m

@[simp] theorem room_some {M n : Nat} : Room (some M) n ↔ n < M := by simp [Room]

theorem Room.of_le {ml : Option Nat} {n n' : Nat} (h : Room ml n) (hle : n' ≤ n) : Room ml n' :=
  fun m hm => Nat.lt_of_le_of_lt hle (h m hm)

/-! ### the variant model is the shared model for `repaired` (the code since /repo f955162) -/

theorem addToPathV_repaired (ops : List Int) (ml : Option Nat) (x l r : Int) :
    addToPathV .repaired ops ml x l r = addToPath ops ml x l r := by
  unfold addToPathV addToPath
  simp only [Bool.not_eq_eq_eq_not, Bool.not_true]
  cases (pathAppend ops ml x).fst.getLast? <;> rfl

theorem feedV_repaired (l r : Int) (ml : Option Nat) (s : List Int) : ∀ (ops : List Int) (k : Nat),
    feedV .repaired l r ml ops s k = feed l r ml ops s k := by
  induction s with
  | nil => intro ops k; simp [feedV, feed]
  | cons x t ih =>
    intro ops k
    simp only [feedV, feed, addToPathV_repaired]
    cases h : addToPath ops ml x l r with
    | none => rfl
    | some p => simp only [ih]

/-- a frame handed to a path with room for it is added; the loop stops on a frame outside `[l, r]` or on a path now
    full, with success in the first case (unless, before the repair, the path is also full) -/
theorem addToPathV_room (v : Variant) {ops : List Int} {ml : Option Nat} (x l r : Int) (h : Room ml ops.length) :
    ∃ res, addToPathV v ops ml x l r = some (ops ++ [x], res) ∧ res.added = true ∧
      res.stop = (decide (x < l ∨ r < x) || decide (ml = some (ops.length + 1))) ∧
      res.success = (decide (x < l ∨ r < x) && (!decide (ml = some (ops.length + 1)) || isRep v)) := by
  have hpa : pathAppend ops ml x = (ops ++ [x], true) := by
    unfold pathAppend
    cases ml with
    | none => rfl
    | some m => simp [h m rfl]
  unfold addToPathV
  simp only [hpa, List.getLast?_append, List.getLast?_singleton, Option.some_or, List.length_append,
    List.length_singleton]
  by_cases h1 : x < l <;> by_cases h2 : x > r <;> by_cases h3 : ml = some (ops.length + 1) <;> cases v <;>
    simp [h1, h2, h3, isRep] <;> omega

theorem feedV_cons (v : Variant) {l r : Int} {ml : Option Nat} {ops : List Int} (y : Int) (t : List Int) (k : Nat)
    (h : Room ml ops.length) :
    feedV v l r ml ops (y :: t) k =
      if y < l ∨ r < y then some (ops ++ [y], !decide (ml = some (ops.length + 1)) || isRep v, k + 1)
      else if ml = some (ops.length + 1) then some (ops ++ [y], false, k + 1)
      else feedV v l r ml (ops ++ [y]) t (k + 1) := by
  obtain ⟨res, he, _, hstop, hsucc⟩ := addToPathV_room v y l r h
  rw [feedV, he]
  by_cases h1 : y < l ∨ r < y <;> by_cases h2 : ml = some (ops.length + 1) <;> simp [hstop, hsucc, h1, h2]

theorem Room.succ {ml : Option Nat} {n : Nat} (h : Room ml n) (hne : ml ≠ some (n + 1)) : Room ml (n + 1) :=
  fun m hm => Nat.lt_of_le_of_ne (h m hm) fun e => hne (e ▸ hm)

/-- How the loop started on a path of `n` frames runs over the stream `s`: the frames `q` it adds and its success
    flag. -/
inductive Leg (v : Variant) (l r : Int) (ml : Option Nat) (n : Nat) : List Int → List Int → Bool → Prop
  /-- the first frame outside `[l, r]` arrives while there is room for it; before the repair the loop still reports
      a failure when that frame fills the path -/
  | crossed (pre : List Int) (x : Int) (post : List Int) (hin : ∀ y ∈ pre, l ≤ y ∧ y ≤ r) (hx : x < l ∨ r < x)
      (hroom : Room ml (n + pre.length)) {ok : Bool}
      (hok : ok = (!decide (ml = some (n + pre.length + 1)) || isRep v)) :
      Leg v l r ml n (pre ++ x :: post) (pre ++ [x]) ok
  /-- a frame inside fills the path -/
  | full (pre : List Int) (x : Int) (post : List Int) (hin : ∀ y ∈ pre, l ≤ y ∧ y ≤ r) (hx : l ≤ x ∧ x ≤ r)
      (hfull : ml = some (n + pre.length + 1)) : Leg v l r ml n (pre ++ x :: post) (pre ++ [x]) false
  /-- the MD program ends first -/
  | dry (s : List Int) (hin : ∀ y ∈ s, l ≤ y ∧ y ≤ r) (hroom : Room ml (n + s.length)) : Leg v l r ml n s s false

section
variable {v : Variant} {l r : Int} {ml : Option Nat}

theorem feedV_inside : ∀ (pre : List Int) {ops : List Int} (rest : List Int) (k : Nat),
    (∀ y ∈ pre, l ≤ y ∧ y ≤ r) → Room ml (ops.length + pre.length) →
    feedV v l r ml ops (pre ++ rest) k = feedV v l r ml (ops ++ pre) rest (k + pre.length)
  | [], ops, rest, k, _, _ => by simp
  | y :: pre, ops, rest, k, hin, hroom => by
    have hy := hin y (List.mem_cons_self ..)
    have hne : ml ≠ some (ops.length + 1) := fun e => by have := hroom _ e; simp at this
    rw [List.cons_append, feedV_cons v y _ k (hroom.of_le (Nat.le_add_right ..)), if_neg (by omega), if_neg hne,
      feedV_inside pre rest (k + 1) (fun z hz => hin z (List.mem_cons_of_mem _ hz))
        (hroom.of_le (by simp; omega))]
    simp [Nat.add_assoc, Nat.add_comm 1]

theorem Leg.cons {n : Nat} {y : Int} {t q : List Int} {ok : Bool} (hy : l ≤ y ∧ y ≤ r)
    (h : Leg v l r ml (n + 1) t q ok) : Leg v l r ml n (y :: t) (y :: q) ok := by
  have hin : ∀ {pre : List Int}, (∀ z ∈ pre, l ≤ z ∧ z ≤ r) → ∀ z ∈ y :: pre, l ≤ z ∧ z ≤ r :=
    fun hp z hz => (List.mem_cons.1 hz).elim (fun e => e ▸ hy) (hp z)
  have e : ∀ m : Nat, n + 1 + m = n + (m + 1) := fun m => by omega
  cases h with
  | crossed pre x post hp hx hroom hok => exact .crossed (y :: pre) x post (hin hp) hx (e _ ▸ hroom) (e _ ▸ hok)
  | full pre x post hp hx hfull => exact .full (y :: pre) x post (hin hp) hx (e _ ▸ hfull)
  | dry s hp hroom => exact .dry (y :: t) (hin hp) (e _ ▸ hroom)

theorem feedV_leg {ops : List Int} (s : List Int) (k : Nat) (h0 : Room ml ops.length) :
    ∃ q ok, Leg v l r ml ops.length s q ok ∧ feedV v l r ml ops s k = some (ops ++ q, ok, k + q.length) := by
  induction s generalizing ops k with
  | nil => exact ⟨[], false, .dry [] nofun h0, by simp [feedV]⟩
  | cons y t ih =>
    rw [feedV_cons v y t k h0]
    split
    · exact ⟨[y], _, .crossed [] y t nofun ‹_› h0 rfl, rfl⟩
    split
    · exact ⟨[y], _, .full [] y t nofun (by omega) ‹_›, rfl⟩
    · obtain ⟨q, ok, hq, hf⟩ := ih (k + 1) (ops := ops ++ [y]) (by simpa using h0.succ ‹_›)
      rw [List.length_append, List.length_singleton] at hq
      exact ⟨y :: q, ok, hq.cons (by omega), by rw [hf]; simp; omega⟩

/-- **The engine loop, run by run**: `feedV` returns exactly the legs. -/
theorem feedV_iff {ops s p : List Int} {k u : Nat} {ok : Bool} (h0 : Room ml ops.length) :
    feedV v l r ml ops s k = some (p, ok, u) ↔
      ∃ q, Leg v l r ml ops.length s q ok ∧ p = ops ++ q ∧ u = k + q.length := by
  constructor
  · intro h
    obtain ⟨q, ok', hq, hf⟩ := feedV_leg (v := v) (l := l) (r := r) s k h0
    cases hf.symm.trans h
    exact ⟨q, hq, rfl, rfl⟩
  · rintro ⟨q, hq, rfl, rfl⟩
    cases hq with
    | crossed pre x post hin hx hroom hok =>
      rw [feedV_inside pre _ k hin hroom, feedV_cons v x post _ (by simpa using hroom), if_pos hx, hok]
      simp [Nat.add_assoc]
    | full pre x post hin hx hfull =>
      have hroom : Room ml (ops.length + pre.length) := fun m hm => by rw [hfull] at hm; cases hm; omega
      rw [feedV_inside pre _ k hin hroom, feedV_cons v x post _ (by simpa using hroom), if_neg (by omega),
        if_pos (by simpa using hfull)]
      simp [Nat.add_assoc]
    | dry _ hin hroom =>
      have := feedV_inside (v := v) s [] k hin hroom
      rw [List.append_nil] at this
      rw [this, feedV]

theorem feed_iff {ops s p : List Int} {k u : Nat} {ok : Bool} (h0 : Room ml ops.length) :
    feed l r ml ops s k = some (p, ok, u) ↔
      ∃ q, Leg .repaired l r ml ops.length s q ok ∧ p = ops ++ q ∧ u = k + q.length := by
  rw [← feedV_repaired, feedV_iff h0]

variable {n : Nat} {s q : List Int} {ok : Bool}

theorem Leg.prefix (h : Leg v l r ml n s q ok) : q <+: s := by
  cases h with
  | crossed pre x post => exact ⟨post, by simp⟩
  | full pre x post => exact ⟨post, by simp⟩
  | dry => exact List.prefix_refl _

theorem Leg.length_le (h : Leg v l r ml n s q ok) {M : Nat} (hM : ml = some M) : n + q.length ≤ M := by
  cases h with
  | crossed pre x post _ _ hroom => have := hroom M hM; simp; omega
  | full pre x post _ _ hfull => rw [hfull] at hM; cases hM; simp; omega
  | dry _ _ hroom => exact Nat.le_of_lt (hroom M hM)

theorem Leg.ne_nil (h : Leg v l r ml n s q ok) (hs : s ≠ []) : q ≠ [] := by
  cases h <;> simp_all

theorem Leg.of_ok (h : Leg v l r ml n s q ok) (hok : ok = true) : ∃ pre x post, s = pre ++ x :: post ∧
    q = pre ++ [x] ∧ (∀ y ∈ pre, l ≤ y ∧ y ≤ r) ∧ (x < l ∨ r < x) ∧ Room ml (n + pre.length) ∧
    (v = .asIs → ml ≠ some (n + pre.length + 1)) := by
  cases h with
  | crossed pre x post hin hx hroom hok' =>
    exact ⟨pre, x, post, rfl, rfl, hin, hx, hroom, fun hv hm => by simp [hok, hv, hm, isRep] at hok'⟩
  | full => cases hok
  | dry => cases hok

/-- a leg that neither filled its path nor used up the MD program ended on its first frame outside -/
theorem Leg.of_short (h : Leg v l r ml n s q ok) {M : Nat} (hM : ml = some M) (hlt : n + q.length < M)
    (hlong : M ≤ n + s.length) : ∃ pre x post, s = pre ++ x :: post ∧ q = pre ++ [x] ∧
    (∀ y ∈ pre, l ≤ y ∧ y ≤ r) ∧ (x < l ∨ r < x) := by
  cases h with
  | crossed pre x post hin hx => exact ⟨pre, x, post, rfl, rfl, hin, hx⟩
  | full pre x post _ _ hfull => rw [hfull] at hM; cases hM; simp at hlt; omega
  | dry => omega

end

theorem addToPathV_empty_zero (v : Variant) (x l r : Int) :
    addToPathV v [] (some 0) x l r = none := by
  simp [addToPathV, pathAppend]

/-- a failed start on a zero-length path is the IndexError -/
theorem feedV_zero (v : Variant) (l r : Int) (x : Int) (t : List Int) (k : Nat) :
    feedV v l r (some 0) [] (x :: t) k = none := by
  simp [feedV, addToPathV_empty_zero]

theorem feedV_pos {v : Variant} {l r : Int} {M : Nat} {x : Int} {t : List Int} {k : Nat}
    {res : List Int × Bool × Nat} (h : feedV v l r (some M) [] (x :: t) k = some res) : 0 < M := by
  rcases Nat.eq_zero_or_pos M with h0 | h0
  · rw [h0, feedV_zero] at h; cases h
  · exact h0

theorem appendAll_take (M : Nat) : ∀ (other self : List Int), self.length ≤ M →
    appendAll (some M) self other = ((self ++ other).take M, decide (self.length + other.length ≤ M)) := by
  intro other
  induction other with
  | nil => intro self h; simp [appendAll, List.take_of_length_le h, h]
  | cons x t ih =>
    intro self h
    by_cases hlt : self.length < M
    · simp only [appendAll, pathAppend, hlt, if_true]
      rw [ih (self ++ [x]) (by simp; omega)]
      have e : self.length + (0 + 1) + t.length = self.length + (t.length + 1) := by omega
      simp only [List.append_assoc, List.singleton_append, List.length_append,
        List.length_cons, List.length_nil, e]
    · have he : self.length = M := by omega
      simp only [appendAll, pathAppend, hlt, if_false]
      simp only [List.length_cons, Prod.mk.injEq]
      constructor
      · rw [List.take_append_of_le_length (by omega), List.take_of_length_le (by omega)]
      · simp; omega

theorem paste_take (pb pf : List Int) (M : Nat) : paste pb pf M = (pb.reverse ++ pf.tail).take M := by
  unfold paste
  rw [appendAll_take M pb.reverse [] (by simp)]
  simp only [List.nil_append, List.length_nil, Nat.zero_add, List.length_reverse]
  by_cases h : pb.length ≤ M
  · simp only [h, decide_true]
    rw [List.take_of_length_le (by simpa using h), appendAll_take M pf.tail pb.reverse (by simpa using h)]
  · simp only [h, decide_false]
    rw [List.take_append_of_le_length (by simp; omega)]

theorem paste_fits (pb pf : List Int) (M : Nat) (h : pb.length + pf.tail.length ≤ M) :
    paste pb pf M = pb.reverse ++ pf.tail := by
  rw [paste_take, List.take_of_length_le (by simpa using h)]

theorem foldl_min_lt (m : Int) (t : List Int) (a : Int) :
    (t.foldl (fun m x => if x < m then x else m) a < m ↔ a < m ∨ ∃ x ∈ t, x < m) :=
  foldl_pick (· < m) _ (fun a x => by split <;> omega) t a

theorem foldl_max_ge (m : Int) (t : List Int) (a : Int) :
    (m ≤ t.foldl (fun m x => if x > m then x else m) a ↔ m ≤ a ∨ ∃ x ∈ t, m ≤ x) :=
  foldl_pick (m ≤ ·) _ (fun a x => by split <;> omega) t a

theorem minOf_lt (ops : List Int) (mn m : Int) (h : minOf ops = some mn) :
    mn < m ↔ ∃ x ∈ ops, x < m := by
  cases ops with
  | nil => simp [minOf] at h
  | cons a t =>
    simp only [minOf, Option.some.injEq] at h
    rw [← h, foldl_min_lt]
    simp

end Infretis.Moves
