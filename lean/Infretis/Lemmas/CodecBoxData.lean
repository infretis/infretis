import Infretis.Model.CodecBoxData
import Infretis.Lemmas.CodecUni
import Infretis.Lemmas.CodecBox
import Infretis.Lemmas.StrLit
/-!
The CP2K cell reader `read_box_data` (`Infretis.BoxData`, Model/CodecBoxData.lean): whatever precedes them, the three
lines `A …`, `B …`, `C …` give the cell whose COLUMNS are the three vectors (the last line of a key wins); the list
returned determines that matrix when more than three of its entries are non-zero or it is diagonal (`cell_lossless`;
with at most three non-zero entries `box_matrix_to_list` returns the diagonal alone, wherever they stand).
-/
namespace Infretis.BoxData
open Infretis.Codec
open Infretis.Box

deriving instance DecidableEq for Except

theorem digs_more : ∀ c ∈ digs, c ≠ '+' ∧ isWs c = false ∧ floatAlpha c = true := by decide

theorem splitFrac_digits : ∀ (ds : Str), (∀ c ∈ ds, c ∈ digs) → splitFrac ds = some ds := by
  intro ds
  induction ds with
  | nil => intro _; rfl
  | cons c t ih =>
    intro h
    have hc := (digs_props c (h c (by simp))).2.1
    simp only [splitFrac, hc, if_false]
    rw [ih (fun x hx => h x (List.mem_cons_of_mem _ hx))]
    rfl

theorem parseUnsigned_natDigits (n : Nat) : parseUnsigned (natDigits n) = some n := by
  unfold parseUnsigned
  rw [splitFrac_digits _ (natDigits_mem n)]
  cases h : natDigits n with
  | nil => exact absurd h (natDigits_ne_nil n)
  | cons c t => simp only; rw [← h]; exact natDigits_val n

theorem parseIntTok_digits (ds : Str) (hne : ds ≠ []) (h : ∀ c ∈ ds, c ∈ digs) :
    parseIntTok ds = ofNat? (parseUnsigned ds) := by
  cases ds with
  | nil => exact absurd rfl hne
  | cons c t =>
    have h1 : c ≠ '-' := (digs_props c (h c (by simp))).1
    have h2 : c ≠ '+' := (digs_more c (h c (by simp))).1
    unfold parseIntTok
    split
    · rename_i r heq
      simp only [List.cons.injEq] at heq
      exact absurd heq.1 h1
    · rename_i r heq
      simp only [List.cons.injEq] at heq
      exact absurd heq.1 h2
    · rfl

theorem parseIntTok_intTok (i : Int) : parseIntTok (intTok i) = some i := by
  unfold intTok intDigits
  by_cases hneg : i < 0
  · have e : -(Int.ofNat i.natAbs) = i := by simp only [Int.ofNat_eq_natCast]; omega
    simp only [hneg, if_true, parseIntTok, parseUnsigned_natDigits, negNat?, e]
  · have e : Int.ofNat i.toNat = i := by simp only [Int.ofNat_eq_natCast]; omega
    simp only [hneg, if_false]
    rw [parseIntTok_digits _ (natDigits_ne_nil _) (natDigits_mem _), parseUnsigned_natDigits]
    simp only [ofNat?, e]

theorem classify_intTok (i : Int) : classify (intTok i) = .int i := by
  simp [classify, parseIntTok_intTok]

theorem nums_intToks : ∀ (v : List Int), nums (v.map intTok) = .ok v := by
  intro v
  induction v with
  | nil => rfl
  | cons x r ih => simp [nums, classify_intTok, ih]

theorem intTok_noWs (i : Int) : NoWs (intTok i) :=
  fun c hc => (numChars_props c (intDigits_mem i c hc)).1

theorem intTok_ne_nil (i : Int) : intTok i ≠ [] := intDigits_ne_nil i

theorem ends_tail (v : List Int) : Lex.Ends isWs (v.flatMap (fun x => ' ' :: intTok x)) := by
  cases v with
  | nil => exact Lex.Ends.nil
  | cons y r => exact Lex.Ends.cons isWs_blank _

theorem split_tail : ∀ (v : List Int), Lex.split isWs (v.flatMap (fun x => ' ' :: intTok x)) = v.map intTok
  | [] => rfl
  | x :: r => by
    rw [List.flatMap_cons, List.cons_append, Lex.split_ws isWs_blank,
      Lex.split_tok ((intTok_noWs x).tok (intTok_ne_nil x)) (ends_tail r), split_tail r]
    rfl

theorem key_text_props : ∀ k : Key, k.text ≠ [] ∧ NoWs k.text := by
  intro k; cases k <;> exact ⟨by simp [Key.text], by simp only [NoWs, Key.text]; decide⟩

theorem splitWs_vecLine (k : Key) (v : List Int) : splitWs (vecLine k v) = k.text :: v.map intTok := by
  rw [splitWs_eq_split, vecLine, Lex.split_tok ((key_text_props k).2.tok (key_text_props k).1) (ends_tail v),
    split_tail]

/-- a printed line holds no non-ASCII white space … -/
theorem plain_vecLine (k : Key) (v : List Int) : Infretis.CodecUni.Plain (vecLine k v) := by
  refine Infretis.CodecUni.Plain_append (by cases k <;> decide +kernel) ?_
  intro c hc
  obtain ⟨x, _, hx⟩ := List.mem_flatMap.1 hc
  exact Infretis.CodecUni.outChars_plain c (hdr_out ((List.mem_cons.1 hx).elim (fun e => e ▸ List.mem_cons_self)
    (fun h => List.mem_cons_of_mem _ (intDigits_mem x c h))))

/-- … so Python's split of it is the ASCII split -/
theorem splitPy_vecLine (k : Key) (v : List Int) : splitPy (vecLine k v) = k.text :: v.map intTok := by
  rw [splitPy, Infretis.CodecUni.normT_plain (plain_vecLine k v), splitWs_vecLine]

theorem startsKey_vecLine (k k' : Key) (x : Int) (r : List Int) :
    startsKey k' (vecLine k (x :: r)) = decide (k' = k) := by
  cases k <;> cases k' <;> simp [startsKey, vecLine, Key.text, List.isPrefixOf]

theorem stepKeys_vecLine (k : Key) (hk : k ≠ .PERIODIC) (x : Int) (r : List Int) (d : BoxDict) :
    stepKeys (vecLine k (x :: r)) allKeys d = .ok (setVec d k (x :: r)) := by
  have hn : nums (splitPy (vecLine k (x :: r))).tail = .ok (x :: r) := by
    rw [splitPy_vecLine]; exact nums_intToks _
  cases k <;> simp [stepKeys, allKeys, stepKey, startsKey_vecLine, hn, setVec] at hk ⊢

theorem collect_append : ∀ (l1 l2 : List Str) (d : BoxDict),
    collect (l1 ++ l2) d = match collect l1 d with
      | .ok d' => collect l2 d'
      | .error e => .error e := by
  intro l1
  induction l1 with
  | nil => intro l2 d; rfl
  | cons l ls ih =>
    intro l2 d
    simp only [List.cons_append, collect]
    cases h : stepKeys l allKeys d with
    | error e => rfl
    | ok d' => exact ih l2 d'

/-- the matrix whose columns are the three vectors -/
def colMatrix (a b c : Int × Int × Int) : M3 := ⟨a.1, b.1, c.1, a.2.1, b.2.1, c.2.1, a.2.2, b.2.2, c.2.2⟩

def vec3 (v : Int × Int × Int) : List Int := [v.1, v.2.1, v.2.2]

theorem readBoxData_cell (pre : List Str) (d : BoxDict) (a b c : Int × Int × Int) (hpre : collect pre {} = .ok d) :
    readBoxData (pre ++ [vecLine .A (vec3 a), vecLine .B (vec3 b), vecLine .C (vec3 c)]) =
      .ok (some (cellABC a b c), periodicFlags d.periodic) := by
  unfold readBoxData
  rw [collect_append, hpre]
  simp only [collect, vec3, stepKeys_vecLine .A (by decide), stepKeys_vecLine .B (by decide),
    stepKeys_vecLine .C (by decide), setVec, finish, column]

theorem cell_lossless (a b c : Int × Int × Int)
    (h : 3 < countNonzero (colMatrix a b c) ∨ colMatrix a b c = ⟨a.1, 0, 0, 0, b.2.1, 0, 0, 0, c.2.2⟩) :
    listToMatrix (cellABC a b c) = some (colMatrix a b c) := by
  rcases h with h | h
  · have : cellABC a b c = g96Order (colMatrix a b c) := long_of_nonzero _ false h
    rw [this, listToMatrix_g96Order]
  · have e : cellABC a b c = boxMatrixToList (colMatrix a b c) false := rfl
    rw [e, h, (short_diag _ _ _).1]
    rfl

example : readBoxData ["PERIODIC xy".toList, "ABC 9 9 9".toList, "A 10 0 0".toList, "B 2.0 11 0".toList, "C +3 4 -12.00".toList,
      "a 1 2 3".toList, "A\t7 7 7".toList] = .ok (some [10, 11, -12, 2, 3, 0, 4, 0, 0], (true, true, false)) := by
  str_lits; decide +kernel

example : readBoxData ["A 1 2 [angstrom]".toList] = .error .value ∧ readBoxData ["A 1.5 2 3".toList] = .error .outside ∧
    readBoxData ["A 1 2".toList, "B 1 2 3".toList, "C 1 2 3".toList] = .error .value ∧
    readBoxData ["ABC 1 2 3".toList, "ALPHA_BETA_GAMMA 90 90".toList] = .error .index ∧
    readBoxData ["PERIODIC NONE".toList] = .ok (none, (false, false, false)) := by
  str_lits
  refine ⟨?_, ?_, ?_, ?_, ?_⟩
  all_goals decide +kernel

end Infretis.BoxData
