import Infretis.Lemmas.RepexC06Stop
import Infretis.Lemmas.RepexTreatOutputAdj
/-
C06: the graceful stop.  "Stopping after K steps" the repo's own way is a run of the same
configuration with `steps = K` (test_run_airetis_wf: run, raise `steps`, run again) — a DIFFERENT run from the long one
(`steps = N`), whose restart file is written by the K-th `treat_output` and once more by `loop()` when it answers False.
The restart theorems split the LONG run at its K-th `treat_output` (the file a kill leaves).  Here: with one worker the
short run goes through the very states of the long one up to the field `tsteps` (`setTS`/`nt`; `steps` is read by
`initiate()`, `loop()` and the `cstep + workers <= tsteps` test of `scheduler()` only, and these decide the same way while
a fresh job is due in both), issues no job after its K-th `treat_output`, and leaves the same image (`persist` has no
`steps`).  With several workers the short run is really another run (it stops issuing jobs W-1 steps earlier and drains):
the property asks of it only what `reissue_exact` / the chain theorems say.
-/
namespace Infretis.Repex

/-- override the step count of the configuration (`steps`) -/
def setTS (s : St) (d : Nat) : St := { s with tsteps := d }

/-! ### picks and engine assignment do not read `steps` -/

theorem lock_setTS (s : St) (e d : Nat) : lock (setTS s d) e = (lock s e).map (fun x => setTS x d) := by
  unfold lock setTS
  simp only []
  split <;> rfl

theorem pickCore_setTS (s : St) (o : PickOutcome) (d : Nat) :
    pickCore (setTS s d) o = (pickCore s o).map (Prod.map (setTS · d) id) := by
  rw [pickCore_eq, pickCore_eq]
  show (if ¬ 0 < entryM (prob s) o.t o.e then _ else (lock (setTS (swap s o.t o.e) d) o.e).bind _) = _
  split
  · rfl
  · rw [lock_setTS]
    refine map_bind fun s2 => ?_
    show (if zsPossible s2.locks o.e && o.coin then
        (if ¬ 0 < ((prob s2).map (fun r => r.getD (zsOther o.e) 0)).getD o.partner 0 then _ else
          (lock (setTS (swap s2 o.partner (zsOther o.e)) d) (zsOther o.e)).bind _)
      else _) = _
    split
    · split
      · rfl
      · rw [lock_setTS]
        exact map_bind fun s4 => rfl
    · rfl

theorem pick_setTS (s : St) (o : PickOutcome) (d : Nat) : pick (setTS s d) o = (pick s o).map (Prod.map (setTS · d) id) := by
  rw [pick_eq, pick_eq, pickCore_setTS]
  refine map_bind fun r => ?_
  exact bind_map (x := mkPicked r.1 r.2.1) fun ps => rfl

theorem prepTail_setTS (s1 : St) (ps : List Picked) (ds : List Draw) (pin? : Option Nat) (d : Nat) :
    prepTail (setTS s1 d) ps ds pin? = (prepTail s1 ps ds pin?).map (Prod.map (setTS · d) id) := by
  unfold prepTail
  cases pin? with
  | none => rfl
  | some pin =>
    simp only [show (setTS s1 d).ensEng = s1.ensEng from rfl, show (setTS s1 d).occ = s1.occ from rfl]
    cases assignEngines s1.occ _ pin with
    | error e => rfl
    | ok r2 =>
      dsimp only
      split
      · rfl
      · rfl

theorem prep_setTS (s : St) (prev : Option Nat) (o : PickOutcome) (sv d : Nat) (h : s.toinitiate < 0) :
    prep (setTS s d) prev o sv = (prep s prev o sv).map (Prod.map (setTS · d) id) := by
  have hn : ¬ s.toinitiate ≥ 0 := by omega
  rw [prep_eq, prep_eq, pickPart, pickPart, if_neg hn, if_neg hn, if_neg (show ¬ (setTS s d).toinitiate ≥ 0 from hn),
    if_neg (show ¬ (setTS s d).toinitiate ≥ 0 from hn), pick_setTS]
  exact map_bind fun r => prepTail_setTS r.1 r.2.1 r.2.2 prev d

def nt (d : Nat) (y : Sys) : Sys := { y with s := setTS y.s d }

theorem loop_setTS (s : St) (d : Nat) (h1 : s.cstep < s.tsteps) (h2 : s.cstep < d) :
    loop (setTS s d) = (setTS (loop s).1 d, true) ∧ (loop s).2 = true := by
  unfold loop
  have e1 : (setTS s d).cstep = s.cstep := rfl
  have e2 : (setTS s d).tsteps = d := rfl
  rw [e1, e2, if_neg (by omega), if_neg (by omega)]
  refine ⟨?_, by simp only [decide_eq_true_eq]; omega⟩
  simp only [Prod.mk.injEq, decide_eq_true_eq]
  exact ⟨rfl, by omega⟩

theorem stepTreat_nt (y : Sys) (d k : Nat) (st : Status) (w : List (List Rat))
    (h1 : y.s.cstep < y.s.tsteps) (h2 : y.s.cstep < d) :
    stepTreat (nt d y) k st w = (stepTreat y k st w).map (Prod.map (setTS · d) id) := by
  obtain ⟨hl, hg⟩ := loop_setTS y.s d h1 h2
  exact stepTreat_adj y (fun _ => d) id k st w (by rw [hg]; exact hl)

theorem sysStep_nt_main (y : Sys) (d k : Nat) (st : Status) (w : List (List Rat)) (o : PickOutcome)
    (hti : y.s.toinitiate = -1) (h1 : y.s.cstep + 1 + y.s.workers ≤ y.s.tsteps) (h2 : y.s.cstep + 1 + y.s.workers ≤ d) :
    sysStep (nt d y) (.step k st w o) = (sysStep y (.step k st w o)).map (nt d) := by
  rw [sysStep_step_eq, sysStep_step_eq, stepTreat_nt y d k st w (by omega) (by omega)]
  cases hT : stepTreat y k st w with
  | error e => rfl
  | ok r =>
    obtain ⟨c1, c2, c3, ht⟩ := stepTreat_ctr hT
    have hyes : r.1.cstep + r.1.workers ≤ r.1.tsteps := by rw [c1, c2, c3]; omega
    have hyes' : (setTS r.1 d).cstep + (setTS r.1 d).workers ≤ (setTS r.1 d).tsteps := by
      show r.1.cstep + r.1.workers ≤ d
      rw [c1, c2]; omega
    simp only [Except.map, Except.bind, stepPrep_eq, if_pos hyes, if_pos hyes', Prod.map_fst, Prod.map_snd, id]
    rw [show prep (setTS r.1 d) (some r.2.1.pin) o = _ from prep_setTS r.1 (some r.2.1.pin) o 0 d (by rw [ht, hti]; omega)]
    cases prep r.1 (some r.2.1.pin) o with
    | error e => rfl
    | ok r3 => rfl

theorem run_nt_main (d : Nat) : ∀ (evs : List Ev) (y : Sys), StepsOnly evs → y.s.toinitiate = -1 →
    y.s.cstep + evs.length + y.s.workers ≤ y.s.tsteps → y.s.cstep + evs.length + y.s.workers ≤ d →
    run (nt d y) evs = (run y evs).map (nt d) := by
  intro evs
  induction evs with
  | nil => intro y _ _ _ _; rfl
  | cons ev rest ih =>
    intro y hs hti h1 h2
    cases ev with
    | start o sv => exact hs.elim
    | initDone => exact hs.elim
    | step k st w o =>
      simp only [List.length_cons] at h1 h2
      have hst := sysStep_nt_main y d k st w o hti (by omega) (by omega)
      simp only [run]
      rw [hst]
      cases hy : sysStep y (.step k st w o) with
      | error e => rfl
      | ok y' =>
        simp only [Except.map]
        obtain ⟨c1, c2, c3, c4⟩ := sysStep_step_ctr hy
        exact ih y' hs (by rw [c4]; exact hti) (by rw [c1, c2, c3]; omega) (by rw [c1, c2]; omega)

/-- **graceful stop = kill, one worker.**  The long run (`steps = N`) is at `y` (initiation closed), runs the `.step`
    events `steps1` to `y1`, and `treat_output` of one more step leaves `r` with `r.1.cstep = K < N`.  The SHORT run —
    the same configuration with `steps = K`, the repo's own way of "stopping after K steps" — goes through the same
    states (up to `steps`), its K-th `treat_output` leaves `setTS r.1 K`, it issues no further job, its next `loop()`
    answers False (and writes the restart file once more, from the same state): the file it leaves is the file a kill
    of the long run leaves after step K. -/
theorem graceful_stop_image {y y1 : Sys} (hw : y.s.workers = 1) (hti : y.s.toinitiate = -1) (steps1 : List Ev)
    (hs : StepsOnly steps1) (k : Nat) (st : Status) (w : List (List Rat)) {r : St × Job × List Job}
    (h1 : run y steps1 = .ok y1) (hT : stepTreat y1 k st w = .ok r) (hK : r.1.cstep < r.1.tsteps) :
    run (nt r.1.cstep y) steps1 = .ok (nt r.1.cstep y1) ∧
      stepTreat (nt r.1.cstep y1) k st w = .ok (setTS r.1 r.1.cstep, r.2) ∧
      persist (setTS r.1 r.1.cstep) = persist r.1 ∧
      ¬ ((setTS r.1 r.1.cstep).cstep + (setTS r.1 r.1.cstep).workers ≤ (setTS r.1 r.1.cstep).tsteps) ∧
      (loop (setTS r.1 r.1.cstep)).2 = false := by
  obtain ⟨c1, c2, c3, _⟩ := stepTreat_ctr hT
  obtain ⟨f1, f2, f3, f4⟩ := run_steps_ctr steps1 hs h1
  have hK' : r.1.cstep = y.s.cstep + steps1.length + 1 := by rw [c1, f1]
  have hN : y.s.cstep + steps1.length + 1 < y.s.tsteps := by rw [← hK', ← f3, ← c3]; exact hK
  have hr := run_nt_main r.1.cstep steps1 y hs hti (by rw [hw]; omega) (by rw [hw, hK'])
  rw [h1] at hr
  have hst := stepTreat_nt y1 r.1.cstep k st w (by rw [f1, f3]; omega) (by rw [hK', f1]; omega)
  rw [hT] at hst
  refine ⟨hr, hst, rfl, ?_, ?_⟩
  · show ¬ (r.1.cstep + r.1.workers ≤ r.1.cstep)
    rw [c2, f2, hw]; omega
  · unfold loop
    rw [if_pos (by show (setTS r.1 r.1.cstep).cstep ≥ (setTS r.1 r.1.cstep).tsteps; exact Nat.le_refl _)]

/-! ### the start-up of a fresh or restarted one-worker run with nothing on record does not read `steps` either -/

theorem initiate_setTS (s : St) (d : Nat) (h1 : (s.cstep : Int) + ((s.workers : Int) - s.toinitiate) < (s.tsteps : Int) ∨ s.toinitiate ≤ 0)
    (h2 : (s.cstep : Int) + ((s.workers : Int) - s.toinitiate) < (d : Int) ∨ s.toinitiate ≤ 0)
    (h3 : s.cstep < s.tsteps) (h4 : s.cstep < d) :
    initiate (setTS s d) = (setTS (initiate s).1 d, (initiate s).2) := by
  have c1 : ¬ (s.toinitiate > 0 ∧ (s.cstep : Int) + ((s.workers : Int) - s.toinitiate) ≥ (d : Int)) := by omega
  have c2 : ¬ (s.toinitiate > 0 ∧ (s.cstep : Int) + ((s.workers : Int) - s.toinitiate) ≥ (s.tsteps : Int)) := by omega
  rw [initiate_next h3 c2, initiate_next (s := setTS s d) h4 c1]
  rfl

theorem prep_setTS_fresh (s : St) (prev : Option Nat) (o : PickOutcome) (sv d : Nat) (h : s.locked0 = []) :
    prep (setTS s d) prev o sv = (prep s prev o sv).map (Prod.map (setTS · d) id) := by
  by_cases hti : s.toinitiate < 0
  · exact prep_setTS s prev o sv d hti
  · have hge : s.toinitiate ≥ 0 := by omega
    have hpl : pickLock (setTS s d) o sv = (pickLock s o sv).map (Prod.map (setTS · d) id) := by
      unfold pickLock
      rw [show (setTS s d).locked0 = s.locked0 from rfl, h]
      have e2 : restoreStreamOnce (setTS s d) sv = setTS (restoreStreamOnce s sv) d := by
        unfold restoreStreamOnce
        simp only [show (setTS s d).restarted = s.restarted from rfl,
          show (setTS s d).rgenRestored = s.rgenRestored from rfl]
        split
        · rfl
        · rfl
      dsimp only
      rw [e2]
      exact pick_setTS _ o d
    rw [prep_eq, prep_eq, pickPart, pickPart, if_pos hge, if_pos hge, if_pos (show (setTS s d).toinitiate ≥ 0 from hge),
      if_pos (show (setTS s d).toinitiate ≥ 0 from hge), hpl]
    exact map_bind fun r => prepTail_setTS r.1 r.2.1 r.2.2 _ d

theorem startup_nt (y : Sys) (d : Nat) (o : PickOutcome) (sv : Nat) (hw : y.s.workers = 1) (hti : y.s.toinitiate = 1)
    (hl0 : y.s.locked0 = []) (h3 : y.s.cstep < y.s.tsteps) (h4 : y.s.cstep < d) :
    run (nt d y) [.start o sv, .initDone] = (run y [.start o sv, .initDone]).map (nt d) := by
  have hi := initiate_setTS y.s d (by rw [hw, hti]; left; omega) (by rw [hw, hti]; left; omega) h3 h4
  have hi1 : (initiate y.s).1.locked0 = [] := (initiate_touches y.s).locked0.trans hl0
  simp only [run, sysStep, nt, hi]
  cases hgo : (initiate y.s).2 with
  | false => rfl
  | true =>
    simp only [not_true_eq_false, if_false]
    rw [prep_setTS_fresh _ none o sv d hi1]
    cases hp : prep (initiate y.s).1 none o sv with
    | error e => rfl
    | ok r =>
      obtain ⟨s2, job, ds⟩ := r
      simp only [Except.map, Prod.map_apply, id]
      have hti2 : s2.toinitiate = 0 := by
        have c2 : ¬ (y.s.toinitiate > 0 ∧ (y.s.cstep : Int) + ((y.s.workers : Int) - y.s.toinitiate) ≥ (y.s.tsteps : Int)) := by
          rw [hw, hti]; omega
        rw [(prep_touches hp).toinitiate, initiate_next h3 c2]
        show y.s.toinitiate - 1 = 0
        rw [hti]; rfl
      have hcs : s2.cstep = y.s.cstep := (prep_touches hp).cstep.trans (initiate_touches y.s).cstep
      have hts : s2.tsteps = y.s.tsteps := (prep_touches hp).tsteps.trans (initiate_touches y.s).tsteps
      have hi2 := initiate_setTS s2 d (by right; omega) (by right; omega) (by rw [hcs, hts]; exact h3) (by rw [hcs]; exact h4)
      rw [hi2]
      cases (initiate s2).2 <;> rfl

end Infretis.Repex
