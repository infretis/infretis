import Infretis.Model.WFExt
/-! C10: what the five-branch scan records is what the specification walk `segsFrom` lists
    (`scan_arr_eq_specSegs`), and the lengths listed add up to the per-frame specification `countFrom`
    (`sumLens_segsFrom`, `weight_eq_spec`). -/
namespace Infretis.WF

theorem inside_iff (l r x : Int) : inside l r x = true ↔ l ≤ x ∧ x < r := by
  simp [inside]

theorem inside_false_iff (l r x : Int) : inside l r x = false ↔ (x < l ∨ r ≤ x) := by
  rw [← Bool.not_eq_true, inside_iff]
  omega

theorem closes_none_right (r : Int) (p : Option Int) : closes r p none = false := by
  cases p <;> rfl

theorem closes_none_left (r : Int) (q : Option Int) : closes r none q = false := by
  cases q <;> rfl

theorem closes_comm (r : Int) (p q : Option Int) : closes r p q = closes r q p := by
  cases p <;> cases q <;> simp [closes, Bool.and_comm]

theorem sumLens_cons (x : Nat × Nat × Nat) (a : List (Nat × Nat × Nat)) :
    sumLens (x :: a) = x.2.2 + sumLens a := by
  simp [sumLens]

theorem sumLens_append (a b : List (Nat × Nat × Nat)) : sumLens (a ++ b) = sumLens a + sumLens b := by
  simp [sumLens]

/-! ### one iteration, by where the two frames lie and which key is set -/

theorem step_in_in (l r : Int) (s : Scan) (i : Nat) (a b : Int) (ha : l ≤ a ∧ a < r) (hb : l ≤ b ∧ b < r) :
    step l r s i a b = s := by
  unfold step
  rw [if_neg (by omega), if_neg (by omega), if_neg (by omega), if_neg (by omega), if_neg (by omega)]

theorem step_enter_left (l r : Int) (s : Scan) (i : Nat) (a b : Int) (ha : a < l) (hb : l ≤ b ∧ b < r)
    (hkl : s.keyL = false) : step l r s i a b = { s with isave := i, keyL := true } := by
  unfold step
  rw [if_neg (by omega), if_pos ⟨by omega, by omega, hkl⟩]

theorem step_enter_right (l r : Int) (s : Scan) (i : Nat) (a b : Int) (ha : r ≤ a) (hb : l ≤ b ∧ b < r)
    (hkr : s.keyR = false) : step l r s i a b = { s with isave := i, keyR := true } := by
  unfold step
  rw [if_neg (by omega), if_neg (by omega), if_pos ⟨by omega, by omega, hkr⟩]

/-- with no key set nothing happens at an outside frame (a jump over the whole region included) -/
theorem step_idle (l r : Int) (s : Scan) (i : Nat) (a b : Int) (hb : b < l ∨ r ≤ b)
    (hkl : s.keyL = false) (hkr : s.keyR = false) : step l r s i a b = s := by
  unfold step
  by_cases hj : (a < l ∧ b ≥ r) ∨ (b < l ∧ a ≥ r)
  · rw [if_pos hj]
  · rw [if_neg hj, if_neg (by omega), if_neg (by omega), if_neg (by simp [hkr]), if_neg (by simp [hkl, hkr])]

/-- leaving the region closes the segment, unless it was entered from the right and is left to the right -/
theorem step_close (l r : Int) (s : Scan) (i : Nat) (a b : Int) (ha : l ≤ a ∧ a < r) (hb : b < l ∨ r ≤ b)
    (hk : (s.keyL = true ∧ s.keyR = false) ∨ (s.keyR = true ∧ b < l)) :
    step l r s i a b =
      { keyL := false, keyR := false, isave := s.isave, arr := s.arr ++ [(s.isave, i + 1, i - s.isave)] } := by
  unfold step
  rcases hk with ⟨hkl, hkr⟩ | ⟨hkr, hbl⟩
  · rw [if_neg (by omega), if_neg (by omega), if_neg (by omega), if_neg (by simp [hkr]),
      if_pos ⟨Or.inl hkl, by omega⟩]
  · rw [if_neg (by omega), if_neg (by omega), if_neg (by omega), if_neg (by omega),
      if_pos ⟨Or.inr hkr, by omega⟩]

theorem step_drop (l r : Int) (s : Scan) (i : Nat) (a b : Int) (ha : l ≤ a ∧ a < r) (hb : r ≤ b)
    (hkr : s.keyR = true) : step l r s i a b = { s with keyL := false, keyR := false } := by
  unfold step
  rw [if_neg (by omega), if_neg (by omega), if_neg (by omega), if_pos ⟨hkr, by omega, by omega⟩]

end Infretis.WF

namespace Infretis.WFExt
open Infretis.WF

/-- relation between the scan state just before the pair starting at index `i` (first element `a`) and the
    specification walk having consumed `a` -/
def RelS (l r : Int) (s : Scan) (i : Nat) (a : Int) (pred : Option (Nat × Int)) (run : Nat) : Prop :=
  if inside l r a then
    (pred = none ∧ s.keyL = false ∧ s.keyR = false) ∨
    (∃ p, pred = some (s.isave, p) ∧ s.isave + run = i ∧ 1 ≤ run ∧
        ((p < l ∧ s.keyL = true ∧ s.keyR = false) ∨ (r ≤ p ∧ s.keyL = false ∧ s.keyR = true)))
  else pred = some (i, a) ∧ run = 0 ∧ s.keyL = false ∧ s.keyR = false

theorem step_relS_inside (l r : Int) (s : Scan) (i : Nat) (a b : Int)
    (pred : Option (Nat × Int)) (run : Nat) (hb : inside l r b = true) (h : RelS l r s i a pred run) :
    RelS l r (step l r s i a b) (i + 1) b pred (run + 1) ∧ (step l r s i a b).arr = s.arr := by
  unfold RelS at h ⊢
  rw [if_pos hb]
  rw [inside_iff] at hb
  by_cases ha : inside l r a = true
  · rw [if_pos ha] at h
    rw [inside_iff] at ha
    rw [step_in_in l r s i a b ha hb]
    refine ⟨?_, rfl⟩
    rcases h with h | ⟨p, hp, hi, h1, hk⟩
    · exact Or.inl h
    · exact Or.inr ⟨p, hp, by omega, by omega, hk⟩
  · rw [if_neg ha] at h
    have ha' : inside l r a = false := by simpa using ha
    rw [inside_false_iff] at ha'
    obtain ⟨hp, hr, hkl, hkr⟩ := h
    rcases ha' with ha' | ha'
    · rw [step_enter_left l r s i a b ha' hb hkl]
      refine ⟨Or.inr ⟨a, hp, by simp; omega, by omega, Or.inl ⟨ha', rfl, hkr⟩⟩, rfl⟩
    · rw [step_enter_right l r s i a b ha' hb hkr]
      refine ⟨Or.inr ⟨a, hp, by simp; omega, by omega, Or.inr ⟨ha', hkl, rfl⟩⟩, rfl⟩

/-- what the specification lists when the walk meets the outside frame `b` at index `i + 1` -/
def emit (r : Int) (pred : Option (Nat × Int)) (run i : Nat) (b : Int) : List (Nat × Nat × Nat) :=
  match pred with
  | some (j, p) => if run ≠ 0 ∧ ¬ (p ≥ r ∧ b ≥ r) then [(j, i, run)] else []
  | none => []

theorem segsFrom_inside (l r : Int) (pred : Option (Nat × Int)) (run i : Nat) {x : Int} (t : List Int)
    (h : inside l r x = true) : segsFrom l r pred run i (x :: t) = segsFrom l r pred (run + 1) (i + 1) t := by
  simp only [segsFrom, h, if_true]

theorem segsFrom_outside (l r : Int) (pred : Option (Nat × Int)) (run i : Nat) {x : Int} (t : List Int)
    (h : inside l r x = false) :
    segsFrom l r pred run i (x :: t) = emit r pred run i x ++ segsFrom l r (some (i, x)) 0 (i + 1) t := by
  simp only [segsFrom, h, Bool.false_eq_true, if_false]
  rfl

theorem step_relS_outside (l r : Int) (s : Scan) (i : Nat) (a b : Int)
    (pred : Option (Nat × Int)) (run : Nat) (hb : inside l r b = false) (h : RelS l r s i a pred run) :
    RelS l r (step l r s i a b) (i + 1) b (some (i + 1, b)) 0
      ∧ (step l r s i a b).arr = s.arr ++ emit r pred run (i + 1) b := by
  unfold RelS at h ⊢
  rw [if_neg (by simp [hb])]
  rw [inside_false_iff] at hb
  by_cases ha : inside l r a = true
  · rw [if_pos ha] at h
    rw [inside_iff] at ha
    rcases h with ⟨hp, hkl, hkr⟩ | ⟨p, hp, hi, h1, hk⟩
    · rw [step_idle l r s i a b hb hkl hkr, hp]
      simp [emit, hkl, hkr]
    · subst hp
      rcases hk with ⟨hpl, hkl, hkr⟩ | ⟨hpr, hkl, hkr⟩
      · rw [step_close l r s i a b ha hb (Or.inl ⟨hkl, hkr⟩)]
        refine ⟨⟨rfl, rfl, rfl, rfl⟩, ?_⟩
        have hrun : i - s.isave = run := by omega
        have hc : run ≠ 0 ∧ ¬ (p ≥ r ∧ b ≥ r) := ⟨by omega, by omega⟩
        simp only [emit, if_pos hc, hrun]
      · rcases hb with hb | hb
        · rw [step_close l r s i a b ha (Or.inl hb) (Or.inr ⟨hkr, hb⟩)]
          refine ⟨⟨rfl, rfl, rfl, rfl⟩, ?_⟩
          have hrun : i - s.isave = run := by omega
          have hc : run ≠ 0 ∧ ¬ (p ≥ r ∧ b ≥ r) := ⟨by omega, by omega⟩
          simp only [emit, if_pos hc, hrun]
        · rw [step_drop l r s i a b ha hb hkr]
          refine ⟨⟨rfl, rfl, rfl, rfl⟩, ?_⟩
          have hc : ¬ (run ≠ 0 ∧ ¬ (p ≥ r ∧ b ≥ r)) := by omega
          simp only [emit, if_neg hc, List.append_nil]
  · rw [if_neg ha] at h
    have ha' : inside l r a = false := by simpa using ha
    rw [inside_false_iff] at ha'
    obtain ⟨hp, hr, hkl, hkr⟩ := h
    rw [step_idle l r s i a b hb hkl hkr, hp, hr]
    simp [emit, hkl, hkr]

theorem scanFrom_segs (l r : Int) : ∀ (t : List Int) (s : Scan) (i : Nat) (a : Int)
    (pred : Option (Nat × Int)) (run : Nat), RelS l r s i a pred run →
    (scanFrom l r s i (a :: t)).arr = s.arr ++ segsFrom l r pred run (i + 1) t := by
  intro t
  induction t with
  | nil => intro s i a pred run _; simp [scanFrom, segsFrom]
  | cons b t ih =>
    intro s i a pred run h
    simp only [scanFrom, segsFrom]
    cases hb : inside l r b
    · obtain ⟨hrel, harr⟩ := step_relS_outside l r s i a b pred run hb h
      rw [ih _ _ _ _ _ hrel, harr]
      simp only [Bool.false_eq_true, if_false, List.append_assoc]
      congr 1
    · obtain ⟨hrel, harr⟩ := step_relS_inside l r s i a b pred run hb h
      rw [ih _ _ _ _ _ hrel, harr]
      simp

/-- holds for every `l`, `r`: for `r < l` no frame is inside, the walk lists nothing and no step records -/
theorem scan_arr_eq_specSegs (l r : Int) (ops : List Int) : (scan l r ops).arr = specSegs l r ops := by
  cases ops with
  | nil => rfl
  | cons a t =>
    unfold scan specSegs
    cases ha : inside l r a
    · rw [scanFrom_segs l r t Scan.init 0 a (some (0, a)) 0 (by simp [RelS, ha, Scan.init])]
      simp [segsFrom, ha, Scan.init]
    · rw [scanFrom_segs l r t Scan.init 0 a none 1 (by simp [RelS, ha, Scan.init])]
      simp [segsFrom, ha, Scan.init]

theorem sumLens_emit (r : Int) (pred : Option (Nat × Int)) (run i : Nat) (x : Int) :
    sumLens (emit r pred run i x) = if closes r (pred.map Prod.snd) (some x) then run else 0 := by
  cases pred with
  | none => rfl
  | some jp =>
    by_cases hc : jp.2 ≥ r ∧ x ≥ r
    · simp [emit, closes, sumLens, hc]
    · by_cases h0 : run = 0
      · simp [emit, closes, sumLens, h0]
      · simp [emit, closes, sumLens, hc, h0]

/-- **The lengths the walk lists add up to the frames the specification counts**: `lctx` is any left context whose
    nearest outside frame is the walk's, and the `run` frames of the open run count once a frame closes it. -/
theorem sumLens_segsFrom (l r : Int) : ∀ (t lctx : List Int) (pred : Option (Nat × Int)) (run i : Nat),
    firstOutside l r lctx = pred.map Prod.snd →
    sumLens (segsFrom l r pred run i t) =
      (if closes r (pred.map Prod.snd) (firstOutside l r t) then run else 0) + countFrom l r lctx t := by
  intro t
  induction t with
  | nil => intro lctx pred run i _; simp [segsFrom, sumLens, countFrom, firstOutside, closes_none_right]
  | cons x t ih =>
    intro lctx pred run i hp
    cases hx : inside l r x with
    | true =>
      rw [segsFrom_inside l r pred run i t hx, ih (x :: lctx) pred (run + 1) (i + 1) (by simp [firstOutside, hx, hp])]
      simp only [countFrom, firstOutside, validAt, hx, hp, if_true, Bool.true_and]
      split
      · omega
      · omega
    | false =>
      rw [segsFrom_outside l r pred run i t hx, sumLens_append, sumLens_emit,
        ih (x :: lctx) (some (i, x)) 0 (i + 1) (by simp [firstOutside, hx])]
      simp [countFrom, firstOutside, validAt, hx]

end Infretis.WFExt

namespace Infretis.WF
open Infretis.WFExt

/-- **Exactness**, for every `l`, `r`: the scan weight is the number of frames on valid sub-paths -/
theorem weight_eq_spec (l r : Int) (ops : List Int) : weight l r ops = specWeight l r ops := by
  rw [weight, scan_arr_eq_specSegs, specSegs, sumLens_segsFrom l r ops [] none 0 0 rfl]
  simp [closes_none_left, specWeight]

end Infretis.WF
