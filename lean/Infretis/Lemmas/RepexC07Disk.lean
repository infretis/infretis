import Infretis.Model.RepexDisk
import Infretis.Lemmas.RepexC07Chain
/-!
# C07 — crash restarts from the file on disk

`ChainDisk seed p kept lost`: the scheduler process `p` (state + `./restart.toml`) is reached from a fresh
start with configured seed `seed` through any number of rounds (scheduler iterations; the process dies; a new
process is built from the image that is ON DISK at that moment — `restartFromDisk`).

* `kept` — the CONTINUED HISTORY: the entries of all jobs whose issue is reflected by the file on disk (every job
  issued before the last write: it has completed, or it is on record in the file and will be re-issued).
* `lost` — the entries of the jobs the running process issued AFTER the last write of the file: during the
  initiation loop all jobs of the process, afterwards exactly the one job `prep_md_items` drew after the last
  `treat_output`.  A crash discards them (their results are never consumed, no record of them exists).

Everything reduces to the unrestricted chains of `RepexC07Chain`: `ChainDisk.inv` shows that the state is a
`ChainAny` for `kept ++ lost`, and that the image on disk is one a `ChainAny` for `kept` alone can restart from
(`DiskWit`) — which is exactly why the crash re-uses the ordinals of `lost`.
-/
namespace Infretis.Repex

theorem writtenState_eq_midState (y : Sys) (k : Nat) (status : Status) (newW : List (List Rat)) :
    writtenState y k status newW = midState y k status newW := rfl

theorem run_single {y y' : Sys} {ev : Ev} (h : sysStep y ev = .ok y') : run y [ev] = .ok y' := by
  simp only [run, h]

theorem stepD_sys {p p' : Proc} {ev : Ev} (h : stepD p ev = .ok p') :
    sysStep p.y ev = .ok p'.y ∧ p'.disk = diskAfter p.y p.disk ev := by
  unfold stepD at h
  split at h
  · cases h
  · rename_i y' hy
    simp only [Except.ok.injEq] at h
    subst h
    exact ⟨hy, rfl⟩

/-- a completion that succeeds has written the file: the image of the state `treat_output` built -/
theorem stepD_step_disk {p p' : Proc} {k : Nat} {status : Status} {newW : List (List Rat)} {o : PickOutcome}
    (h : stepD p (.step k status newW o) = .ok p') :
    ∃ s2, midState p.y k status newW = .ok s2 ∧ p'.disk = some (persist s2) := by
  obtain ⟨hs, hd⟩ := stepD_sys h
  obtain ⟨_, hst⟩ := Step.of_ok hs
  obtain ⟨ym, _, hpre, _⟩ := hst.shape
  cases hpre with | done hc =>
  have hmid := hc.midState.2
  refine ⟨ym.s, hmid, ?_⟩
  rw [hd]
  simp only [diskAfter, writtenState_eq_midState, hmid]

theorem stepD_other_disk {p p' : Proc} {ev : Ev} (hns : ev.isStep = false) (h : stepD p ev = .ok p') :
    p'.disk = p.disk := by
  obtain ⟨_, hd⟩ := stepD_sys h
  rw [hd]
  cases ev with
  | step k st nw o => simp [Ev.isStep] at hns
  | start o d => rfl
  | initDone => rfl

/-- the image on disk is one from which a chain whose log is `kept` restarts: the file written inside a
    `treat_output` (left) or by the last `loop()` (right) -/
def DiskWit (seed : Nat) (kept : List Entry) (im : Image) : Prop :=
  (∃ (yw : Sys) (k : Nat) (st : Status) (nw : List (List Rat)) (s2 : St),
      ChainAny seed yw kept ∧ midState yw k st nw = .ok s2 ∧ im = persist s2) ∨
  (∃ yw : Sys, ChainAny seed yw kept ∧ im = persist yw.s)

inductive ChainDisk (seed : Nat) : Proc → List Entry → List Entry → Prop
  /-- a fresh start: no `restart.toml` yet -/
  | fresh {y0 : Sys} : y0.s.seed = seed → y0.s.entropy = seed → y0.s.spawned = 0 →
      y0.s.lockedOrd = [] → y0.s.locked0Ord = [] → ChainDisk seed { y := y0, disk := none } [] []
  /-- an iteration of the initiation loop (or its closing call): the file is not touched, the job is not on it -/
  | issue {p p' : Proc} {kept lost : List Entry} {ev : Ev} : ChainDisk seed p kept lost →
      ev.isStep = false → stepD p ev = .ok p' → ChainDisk seed p' kept (lost ++ ghost p.y [ev])
  /-- an iteration of the main loop: `treat_output` writes the file — every job issued so far is on it or has
      completed — and then the next job is drawn, which is not on the file -/
  | complete {p p' : Proc} {kept lost : List Entry} {k : Nat} {status : Status} {newW : List (List Rat)}
      {o : PickOutcome} : ChainDisk seed p kept lost → stepD p (.step k status newW o) = .ok p' →
      ChainDisk seed p' (kept ++ lost) (ghost p.y [.step k status newW o])
  /-- the final `loop()` of a run writes the file -/
  | finish {p : Proc} {kept lost : List Entry} : ChainDisk seed p kept lost → p.y.s.cstep ≥ p.y.s.tsteps →
      ChainDisk seed (endWrite p) (kept ++ lost) []
  /-- the process dies and a new one is built from the file on disk: the jobs in `lost` are gone -/
  | crash {p p' : Proc} {kept lost : List Entry} {n workers tsteps : Nat} {occ : List (List Int)}
      {ensEng : List (List Nat)} {weightOf : Nat → List Rat} : ChainDisk seed p kept lost →
      restartFromDisk p n workers tsteps occ ensEng weightOf = .ok p' → ChainDisk seed p' kept []

structure DiskInv (seed : Nat) (p : Proc) (kept lost : List Entry) : Prop where
  /-- the running process, with the jobs it issued since the last write, is an (unrestricted) chain -/
  any : ChainAny seed p.y (kept ++ lost)
  /-- the file on disk belongs to the continued history alone -/
  wit : ∀ im, p.disk = some im → DiskWit seed kept im
  /-- no file: nothing has been written, no history to continue -/
  nofile : p.disk = none → kept = []

theorem restartFromDisk_spec {p p' : Proc} {n workers tsteps : Nat} {occ : List (List Int)}
    {ensEng : List (List Nat)} {weightOf : Nat → List Rat}
    (h : restartFromDisk p n workers tsteps occ ensEng weightOf = .ok p') :
    ∃ im s', p.disk = some im ∧ restore im n workers tsteps occ ensEng weightOf = .ok s' ∧
      p' = { y := { s := s', jobs := [] }, disk := some im } := by
  unfold restartFromDisk at h
  split at h
  · cases h
  · rename_i im hd
    split at h
    · cases h
    · rename_i s' hre
      simp only [Except.ok.injEq] at h
      exact ⟨im, s', hd, hre, h.symm⟩

theorem DiskWit.restart {seed : Nat} {kept : List Entry} {im : Image} (hw : DiskWit seed kept im)
    {n workers tsteps : Nat} {occ : List (List Int)} {ensEng : List (List Nat)} {weightOf : Nat → List Rat}
    {s' : St} (hre : restore im n workers tsteps occ ensEng weightOf = .ok s') :
    ChainAny seed { s := s', jobs := [] } kept := by
  rcases hw with ⟨yw, k, st, nw, s2, hc, hmid, rfl⟩ | ⟨yw, hc, rfl⟩
  · exact ChainAny.restartMid hc hmid hre
  · exact ChainAny.restart hc hre

theorem ChainDisk.inv {seed : Nat} {p : Proc} {kept lost : List Entry} (h : ChainDisk seed p kept lost) :
    DiskInv seed p kept lost := by
  induction h with
  | fresh h1 h2 h3 h4 h5 =>
    exact ⟨ChainAny.fresh h1 h2 h3 h4 h5, by intro im him; simp at him, fun _ => rfl⟩
  | @issue p p' kept lost ev _ hns hst ih =>
    obtain ⟨hs, _⟩ := stepD_sys hst
    have hd := stepD_other_disk hns hst
    refine ⟨?_, ?_, ?_⟩
    · have := ChainAny.run ih.any (run_single hs)
      rwa [List.append_assoc] at this
    · intro im him; rw [hd] at him; exact ih.wit im him
    · intro hn; rw [hd] at hn; exact ih.nofile hn
  | @complete p p' kept lost k status newW o _ hst ih =>
    obtain ⟨hs, _⟩ := stepD_sys hst
    obtain ⟨s2, hmid, hd⟩ := stepD_step_disk hst
    refine ⟨ChainAny.run ih.any (run_single hs), ?_, ?_⟩
    · intro im him
      rw [hd] at him
      simp only [Option.some.injEq] at him
      exact Or.inl ⟨p.y, k, status, newW, s2, ih.any, hmid, him.symm⟩
    · intro hn; rw [hd] at hn; simp at hn
  | @finish p kept lost _ hge ih =>
    have he : endWrite p = { p with disk := some (persist p.y.s) } := by
      unfold endWrite; rw [if_pos hge]
    rw [he]
    refine ⟨by rw [List.append_nil]; exact ih.any, ?_, ?_⟩
    · intro im him
      simp only [Option.some.injEq] at him
      exact Or.inr ⟨p.y, ih.any, him.symm⟩
    · intro hn; simp at hn
  | @crash p p' kept lost _ _ _ _ _ _ _ hre ih =>
    obtain ⟨im, s', hd, hres, rfl⟩ := restartFromDisk_spec hre
    have hw := ih.wit im hd
    refine ⟨by rw [List.append_nil]; exact hw.restart hres, ?_, ?_⟩
    · intro im' him'
      simp only [Option.some.injEq] at him'
      rw [← him']; exact hw
    · intro hn; simp at hn

theorem range_split_get {a b : List Nat} {N m x : Nat} (h : a ++ b = List.range N)
    (hb : b[m]? = some x) : x = a.length + m := by
  have hlt : m < b.length := getElem?_lt_of_some hb
  have h1 : (a ++ b)[a.length + m]? = some x := by
    rw [List.getElem?_append_right (Nat.le_add_right _ _), Nat.add_sub_cancel_left]; exact hb
  rw [h] at h1
  have hlt2 : a.length + m < N := by
    have := congrArg List.length h
    simp only [List.length_append, List.length_range] at this
    omega
  rw [List.getElem?_range hlt2] at h1
  simpa using h1.symm

end Infretis.Repex
