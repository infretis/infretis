import Infretis.Model.StoreText
/-!
The block reader `read_some_lines` up to its first `yield` (`StoreText.blockGo`; the token-level
`Store.firstBlockGo` is the same loop): what it does on each kind of line, and on a stored file —
two comment lines, rows of one width, then lines that parse to nothing.
-/
namespace Infretis.StoreText

section
variable {σ β : Type} (isC : σ → Bool) (parse : σ → Option (List β))

theorem blockGo_comment_first (l : σ) (ls : List σ) (hc : isC l = true) :
    blockGo isC parse none [] false false (l :: ls) = blockGo isC parse none [] true true ls := by
  rw [blockGo]
  simp only [hc, if_true, Bool.false_eq_true, if_false]

theorem blockGo_comment_more (ncol : Option Nat) (acc : List (List β)) (yb : Bool) (l : σ) (ls : List σ)
    (hc : isC l = true) : blockGo isC parse ncol acc yb true (l :: ls) = blockGo isC parse ncol acc yb true ls := by
  rw [blockGo]
  simp only [hc, if_true]

theorem blockGo_row (ncol : Option Nat) (acc : List (List β)) (yb rc : Bool) (l : σ) (ls : List σ) (d : List β)
    (hc : isC l = false) (hp : parse l = some d) (hne : d ≠ []) (hn : ncol = none ∨ ncol = some d.length) :
    blockGo isC parse ncol acc yb rc (l :: ls) = blockGo isC parse (some d.length) (acc ++ [d]) true false ls := by
  rw [blockGo]
  rcases hn with rfl | rfl <;>
    simp only [hc, hp, hne, ne_eq, not_false_eq_true, and_self, if_true, Bool.false_eq_true, if_false]

theorem blockGo_empty (ncol : Option Nat) (acc : List (List β)) (yb rc : Bool) (l : σ) (ls : List σ)
    (hc : isC l = false) (hp : parse l = some []) :
    blockGo isC parse ncol acc yb rc (l :: ls) = blockGo isC parse ncol acc yb false ls := by
  rw [blockGo]
  simp only [hc, hp, Bool.false_eq_true, if_false, ne_eq, not_true_eq_false, and_false]

theorem blockGo_junk : ∀ (junk : List σ) (ncol : Option Nat) (acc : List (List β)) (rc : Bool),
    (∀ l ∈ junk, isC l = false ∧ parse l = some []) →
    blockGo isC parse ncol acc true rc junk = some acc := by
  intro junk
  induction junk with
  | nil => intro ncol acc rc _; simp [blockGo]
  | cons l ls ih =>
    intro ncol acc rc h
    rw [blockGo_empty isC parse ncol acc true rc l ls (h l List.mem_cons_self).1 (h l List.mem_cons_self).2]
    exact ih ncol acc false (fun l' hl' => h l' (List.mem_cons_of_mem _ hl'))

theorem blockGo_rows_junk (g : σ → List β) (c : Nat)
    (junk : List σ) (hj : ∀ l ∈ junk, isC l = false ∧ parse l = some []) :
    ∀ (rows : List σ) (acc : List (List β)) (ncol : Option Nat) (rc : Bool),
      (∀ l ∈ rows, isC l = false ∧ parse l = some (g l) ∧ (g l).length = c ∧ g l ≠ []) →
      (ncol = none ∨ ncol = some c) →
      blockGo isC parse ncol acc true rc (rows ++ junk) = some (acc ++ rows.map g) := by
  intro rows
  induction rows with
  | nil => intro acc ncol rc _ _; simp [blockGo_junk isC parse junk ncol acc rc hj]
  | cons l ls ih =>
    intro acc ncol rc h hn
    obtain ⟨hc, hp, hl, hne⟩ := h l List.mem_cons_self
    rw [List.cons_append, blockGo_row isC parse ncol acc true rc l _ (g l) hc hp hne (hl ▸ hn), hl,
      ih (acc ++ [g l]) (some c) false (fun l' hl' => h l' (List.mem_cons_of_mem _ hl')) (Or.inr rfl)]
    simp

theorem blockGo_stored_junk (g : σ → List β) (c : Nat)
    (c1 c2 : σ) (rows junk : List σ) (h1 : isC c1 = true) (h2 : isC c2 = true)
    (h : ∀ l ∈ rows, isC l = false ∧ parse l = some (g l) ∧ (g l).length = c ∧ g l ≠ [])
    (hj : ∀ l ∈ junk, isC l = false ∧ parse l = some []) :
    blockGo isC parse none [] false false (c1 :: c2 :: (rows ++ junk)) = some (rows.map g) := by
  rw [blockGo_comment_first isC parse c1 _ h1, blockGo_comment_more isC parse none [] true c2 _ h2,
    blockGo_rows_junk isC parse g c junk hj rows [] none true h (Or.inl rfl), List.nil_append]

end

theorem blockGo_stored {σ β : Type} (isC : σ → Bool) (parse : σ → Option (List β)) (g : σ → List β) (c : Nat)
    (c1 c2 : σ) (rows : List σ) (h1 : isC c1 = true) (h2 : isC c2 = true)
    (h : ∀ l ∈ rows, isC l = false ∧ parse l = some (g l) ∧ (g l).length = c ∧ g l ≠ []) :
    blockGo isC parse none [] false false (c1 :: c2 :: rows) = some (rows.map g) := by
  have := blockGo_stored_junk isC parse g c c1 c2 rows [] h1 h2 h (fun l hl => absurd hl (by simp))
  rwa [List.append_nil] at this

theorem firstBlockGo_eq_blockGo {β : Type} (parse : Store.Line → Option (List β)) :
    ∀ (ls : List Store.Line) (ncol : Option Nat) (acc : List (List β)) (yb rc : Bool),
      Store.firstBlockGo parse ncol acc yb rc ls = blockGo Store.isComment parse ncol acc yb rc ls := by
  intro ls
  induction ls with
  | nil => intro ncol acc yb rc; simp [Store.firstBlockGo, blockGo]
  | cons l ls ih =>
    intro ncol acc yb rc
    rw [Store.firstBlockGo, blockGo]
    simp only [ih]
    cases parse l <;> rfl

end Infretis.StoreText
