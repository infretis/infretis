import Infretis.Lemmas.RepexC04Data
import Infretis.Lemmas.RepexC04C05
import Infretis.Lemmas.RepexC04Once
/-!
# C04 — the support invariant: a path carries weight only in the columns its data row shows

`write_to_pathens` shows column 0 of a `[0-]` path (one weight) and the columns `1 … n−2` of every other path; the
remaining columns are written as `----`.  So "data rows + live weights = idle recordings" is a statement about
what is WRITTEN only if nothing is ever accumulated in a column that is not shown (nor in the ghost column).
That is an invariant of the sampler: the increment of the path in slot `i` is row `i` of the P matrix, which
vanishes where `W[i]` vanishes and in every busy (so in the ghost) column, and `W[i]` is the padded weight vector
of the path (C05's family invariant `Fam`).
-/
namespace Infretis.Repex.Data
open Infretis.Repex.Frac Infretis.Perm

/-- table entries are supported on the columns their row would show, written rows satisfy `RowSup` -/
structure SupInv (s : St) : Prop where
  tab : ∀ pn w, s.wts.lookup pn = some w →
      (∀ c, c < s.n - 1 → shown w c = false → fracAt s.frac pn c = 0) ∧ fracAt s.frac pn (s.n - 1) = 0
  rows : ∀ r ∈ s.rows, RowSup s.n r.2.1 r.2.2

theorem lookup_zeroFracs (n tn k pn : Nat) :
    (zeroFracs n tn k).lookup pn = none ∨ (zeroFracs n tn k).lookup pn = some (List.replicate n 0) := by
  cases h : (zeroFracs n tn k).lookup pn with
  | none => exact Or.inl rfl
  | some v =>
    right
    have hm := Assoc.mem_of_lookup h
    simp only [zeroFracs, List.mem_map] at hm
    obtain ⟨t, _, ht⟩ := hm
    simp only [Prod.mk.injEq] at ht
    rw [← ht.2]

theorem fracAt_append_zero (frac : List (Nat × List Rat)) (n tn k pn c : Nat) :
    fracAt (frac ++ zeroFracs n tn k) pn c = fracAt frac pn c := by
  unfold fracAt
  rw [List.lookup_append]
  cases h : frac.lookup pn with
  | some v => rfl
  | none =>
    rw [Option.none_or]
    rcases lookup_zeroFracs n tn k pn with h' | h'
    · rw [h']
    · rw [h']
      show (List.replicate n (0 : Rat)).getD c 0 = ([] : List Rat).getD c 0
      rw [getD_replicate_self]; rfl

theorem shape_of_rowOk {n i : Nat} {w : List Rat} (hi : i < n - 1)
    (hr : RowOk n i (padN n ((i : Int) - 1) w)) :
    (i = 0 → w.length = 1) ∧ (1 ≤ i → w.length = n - 1 ∧ w.length ≠ 1) := by
  constructor
  · intro h0
    subst h0
    obtain ⟨hlen, _, _⟩ := hr.1 rfl
    unfold padN at hlen
    rw [if_neg (by simp)] at hlen
    simp only [List.length_append, List.length_replicate, off] at hlen
    omega
  · intro h1
    obtain ⟨cnt, ⟨hlen, _⟩, _⟩ := hr.2 h1
    unfold padN at hlen
    rw [if_pos (by omega)] at hlen
    simp only [List.length_append, List.length_replicate, off] at hlen
    omega

theorem padN_zero_of_not_shown {n i : Nat} {w : List Rat} (hi : i < n - 1)
    (hr : RowOk n i (padN n ((i : Int) - 1) w)) (c : Nat) (hs : shown w c = false) :
    (padN n ((i : Int) - 1) w).getD c 0 = 0 := by
  obtain ⟨s0, s1⟩ := shape_of_rowOk hi hr
  rcases Nat.eq_zero_or_pos i with h0 | h1
  · have hw := s0 h0
    subst h0
    unfold shown at hs
    rw [if_pos hw] at hs
    have hc : 1 ≤ c := by
      rcases Nat.eq_zero_or_pos c with h | h
      · subst h; simp at hs
      · exact h
    unfold padN
    rw [if_neg (by simp)]
    rw [List.getD_eq_getElem?_getD, List.getElem?_append_right (by omega), List.getElem?_replicate]
    split <;> rfl
  · obtain ⟨_, hne⟩ := s1 h1
    unfold shown at hs
    rw [if_neg hne] at hs
    have hc : c = 0 := by
      have : ¬ (1 ≤ c) := by simpa using hs
      omega
    subst hc
    unfold padN
    rw [if_pos (by omega)]
    simp [off]

theorem recordFrac_sup {s s' : St} {tn : Nat} (wf : SlotWF s) (hf : Fam s tn)
    (hk : (s.frac.map Prod.fst).Nodup) (hl : ∀ kv ∈ s.frac, kv.2.length = s.n)
    (hs : SupInv s) (h : recordFrac s = .ok s') : SupInv s' := by
  obtain ⟨h1, _, _, _, h5, h6⟩ := recordFrac_spec wf hk hl h
  have hW : s.W.length = s.locks.length := by rw [wf.lenW, wf.lenL]
  have ew : s'.wts = s.wts := by rw [h1]
  have en : s'.n = s.n := by rw [h1]
  have er : s'.rows = s.rows := by rw [h1]
  constructor
  · intro pn w hw
    rw [ew] at hw
    rw [en]
    obtain ⟨t1, t2⟩ := hs.tab pn w hw
    by_cases hslot : ∃ i, i < s.n - 1 ∧ s.locks[i]? = some false ∧ s.trajs[i]? = some (some pn)
    · obtain ⟨i, hi, hli, htr⟩ := hslot
      obtain ⟨w', hw', hpad⟩ := hf.wts i pn hi htr
      rw [hw] at hw'
      simp only [Option.some.injEq] at hw'
      subst hw'
      have hrow := hf.rows i hi
      rw [← hpad, padValid_eq_padN] at hrow
      have hent : ∀ c, entry s.W i c = (padN s.n ((i : Int) - 1) w).getD c 0 := by
        intro c
        unfold entry
        rw [← hpad, padValid_eq_padN]
      constructor
      · intro c hc hsh
        rw [h5 i pn hi hli htr c, t1 c hc hsh, zero_add]
        apply probMatrix_zero_of_weight_zero s.W s.locks hW
        rw [hent c]
        exact padN_zero_of_not_shown hi hrow c hsh
      · rw [h5 i pn hi hli htr (s.n - 1), t2, zero_add]
        apply probMatrix_zero_of_not_idle s.W s.locks hW
        right
        rw [wf.ghost]
        simp
    · have hlk : s'.frac.lookup pn = s.frac.lookup pn := by
        apply h6
        intro i hi hli htr
        exact hslot ⟨i, hi, hli, htr⟩
      have : ∀ c, fracAt s'.frac pn c = fracAt s.frac pn c := by
        intro c; unfold fracAt; rw [hlk]
      exact ⟨fun c hc hsh => by rw [this c]; exact t1 c hc hsh, by rw [this]; exact t2⟩
  · rw [er, en]; exact hs.rows

/-- `write_to_pathens`: moving table entries (with the sampler's shape) to the data file keeps the support invariant -/
theorem SupInv.move {s s' : St} {L : List Nat} {news : List (Nat × List Rat × List Rat)} (hs : SupInv s)
    (hn : 2 ≤ s.n) (hl : ∀ kv ∈ s.frac, kv.2.length = s.n) (en : s'.n = s.n)
    (hfrac : s'.frac = s.frac.filter (fun kv => !L.contains kv.1))
    (hwts : s'.wts = s.wts.filter (fun kv => !L.contains kv.1)) (hrows : s'.rows = s.rows ++ news)
    (hnews : ∀ r ∈ news, s.frac.lookup r.1 = some r.2.1 ∧ s.wts.lookup r.1 = some r.2.2)
    (hshape : ∀ r ∈ news, r.2.2.length = 1 ∨ r.2.2.length = s.n - 1) : SupInv s' := by
  constructor
  · intro pn w hw
    rw [en, hfrac]
    rw [hwts, Assoc.lookup_filter s.wts (fun k => !L.contains k) pn] at hw
    unfold fracAt
    rw [Assoc.lookup_filter s.frac (fun k => !L.contains k) pn]
    split at hw
    · rename_i hp
      rw [if_pos hp]
      exact hs.tab pn w hw
    · exact absurd hw (by simp)
  · intro r hr
    rw [en]
    rw [hrows] at hr
    rcases List.mem_append.mp hr with hr | hr
    · exact hs.rows r hr
    · obtain ⟨hfl, hwl⟩ := hnews r hr
      obtain ⟨t1, t2⟩ := hs.tab r.1 r.2.2 hwl
      have hfa : ∀ c, fracAt s.frac r.1 c = r.2.1.getD c 0 := by
        intro c; unfold fracAt; rw [hfl]; rfl
      exact ⟨⟨hn, hl (r.1, r.2.1) (Assoc.mem_of_lookup hfl), hshape r hr⟩,
        fun c hc hsh => by rw [← hfa c]; exact t1 c hc hsh, by rw [← hfa]; exact t2⟩

/-- **`treat_output` keeps the support invariant** when it starts from a state satisfying C03's `Core` (the job
    held), C05's family invariant and the table invariant, and the outcome is in the weight family
    (`hfamR`: the family invariant at the recording state, `recState_fam`) -/
theorem treatOutput_sup {s s' : St} {job : Job} {status : Status} {newW : List (List Rat)}
    {fuel : Nat} {pns : List Nat} {it : Nat} {H : List (Nat × Nat)}
    (hc : Core s (heldJob job ++ H) s.trajNum) (hf : Fam s s.trajNum) (fw : FracWF s)
    (hold : job.pnumOld = job.picked.map (·.pn))
    (hfamR : ∀ sR tn pns', recState s job status newW = .ok (sR, tn, pns') → Fam sR tn)
    (hs : SupInv s) (h : treatOutput s job status newW fuel = .ok (s', pns, it)) : SupInv s' := by
  obtain ⟨sR, tn, s2, news, d⟩ := treatOutput_data h
  have hrec := d.recSt
  have hlen := d.len
  have hrf := d.recorded
  obtain ⟨p1, p2, _, p5, ⟨extra, q1, q2⟩, _⟩ := recState_data hlen hrec
  have hcR : Core sR H tn := recState_core hc hlen hrec
  obtain ⟨k1, k2, _, _⟩ := fw.recState hlen hrec
  -- the recording state: the fresh numbers carry nothing yet
  have hsR : SupInv sR := by
    constructor
    · intro pn w hw
      rw [p2]
      have hfa : ∀ c, fracAt sR.frac pn c = fracAt s.frac pn c := by
        intro c; rw [p5]; exact fracAt_append_zero _ _ _ _ _ _
      rw [q1, List.lookup_append] at hw
      cases hlk : s.wts.lookup pn with
      | some w0 =>
        rw [hlk, Option.some_or] at hw
        simp only [Option.some.injEq] at hw
        subst hw
        obtain ⟨t1, t2⟩ := hs.tab pn w0 hlk
        exact ⟨fun c hc hsh => by rw [hfa c]; exact t1 c hc hsh, by rw [hfa]; exact t2⟩
      | none =>
        rw [hlk, Option.none_or] at hw
        have hm : pn ∈ extra.map Prod.fst := List.mem_map_of_mem (f := Prod.fst) (Assoc.mem_of_lookup hw)
        rw [q2] at hm
        have hge : s.trajNum ≤ pn := (List.mem_range'_1.mp hm).1
        have hnk : pn ∉ s.frac.map Prod.fst := fun hin => by have := fw.bound pn hin; omega
        have hz : ∀ c, fracAt s.frac pn c = 0 := by
          intro c; unfold fracAt; rw [Assoc.lookup_eq_none_iff.mpr hnk]; rfl
        exact ⟨fun c _ _ => by rw [hfa c]; exact hz c, by rw [hfa]; exact hz _⟩
    · rw [p1, p2]; exact hs.rows
  have hs2 : SupInv s2 := recordFrac_sup (slotWF_of_core hcR) (hfamR sR tn pns hrec) k1 k2 hsR hrf
  have e2 := recordFrac_touches hrf
  have k2' : ∀ kv ∈ s2.frac, kv.2.length = s2.n := by
    rw [e2.n]
    exact (recordFrac_spec (slotWF_of_core hcR) k1 k2 hrf).2.2.1
  refine hs2.move (by rw [e2.n, p2]; exact hc.n2) k2' (by rw [d.n, e2.n]) d.frac (by rw [d.wts, e2.wts])
    (by rw [d.rows, e2.rows]) (fun r hr => by rw [e2.wts]; exact d.look r hr) ?_
  -- a written row belongs to a path the job held: its weight vector is a family row
  intro r hr
  have hpn : r.1 ∈ job.picked.map (·.pn) := by
    have : r.1 ∈ written job status := d.keys ▸ List.mem_map_of_mem (f := (·.1)) hr
    unfold written at this
    split at this
    · exact hold ▸ this
    · exact absurd this (by simp)
  obtain ⟨p, hp, hpe⟩ := List.mem_map.mp hpn
  obtain ⟨hlt, htr, _⟩ := hc.heldOk (slotOf p) p.pn (List.mem_append_left _ (List.mem_map.mpr ⟨p, hp, rfl⟩))
  obtain ⟨w1, hw1, hpad⟩ := hf.wts (slotOf p) p.pn hlt htr
  have hw2 : sR.wts.lookup r.1 = some w1 := by
    rw [← hpe, q1, List.lookup_append, hw1, Option.some_or]
  rw [(d.look r hr).2] at hw2
  have hrow := hf.rows (slotOf p) hlt
  rw [← hpad, padValid_eq_padN] at hrow
  obtain ⟨a0, a1⟩ := shape_of_rowOk hlt hrow
  rw [Option.some.inj hw2, e2.n, p2]
  rcases Nat.eq_zero_or_pos (slotOf p) with h0 | h1
  · exact Or.inl (a0 h0)
  · exact Or.inr (a1 h1).1

theorem SupInv.frame {s s' : St} {fs : List Fld} (h : SupInv s) (t : Touches fs s s')
    (hd : ∀ f ∈ [Fld.frac, .wts, .rows, .n], f ∉ fs := by decide) : SupInv s' :=
  have e := t.keeps hd
  ⟨by rw [e.frac, e.wts, e.n]; exact h.tab, by rw [e.rows, e.n]; exact h.rows⟩

theorem sup_kept : KeptSt EvOk (fun y => HInv y ∧ Inv5 y) SupInv where
  init hs := hs.frame (initiate_touches _)
  done {y} _ _ _ _ _ _ hc hs hev hd := by
    cases hd with | mk _ hjob htreat =>
    exact treatOutput_sup (step_core hc.1.inv hjob) (hc.2.atJob hjob).2.1 hc.1.fw.loop
      (hc.2.pnum _ (List.mem_of_getElem? hjob)) (fun sR tn pns' hrec => recState_fam hc.2 hev hjob hrec)
      (hs.frame (loop_touches y.s)) htreat
  prep hs hp := hs.frame (prep_touches hp)

theorem sysStep_sup {y y' : Sys} (ev : Ev) (hi : HInv y) (h5 : Inv5 y) (hev : EvOk y ev)
    (hs : SupInv y.s) (h : sysStep y ev = .ok y') : SupInv y'.s :=
  sup_kept.sysStep ⟨hi, h5⟩ hs hev h

theorem run_sup (evs : List Ev) {y y' : Sys} (hi : HInv y) (h5 : Inv5 y) (hh : HistOk y evs) (hs : SupInv y.s)
    (h : run y evs = .ok y') : SupInv y'.s :=
  (run_guarded (P := fun y => (HInv y ∧ Inv5 y) ∧ SupInv y.s) (G := EvOk)
    (fun ev _ _ hp hev h => ⟨⟨sysStep_hinv ev hp.1.1 h, (sysStep_preserves5 ev hp.1.2 hev h).1⟩,
      sysStep_sup ev hp.1.1 hp.1.2 hev hp.2 h⟩) evs ⟨⟨hi, h5⟩, hs⟩ ((histOk_iff_along evs y).mp hh) h).2

theorem supInv_of_fracInit {y : Sys} (h0 : FracInit y) : SupInv y.s := by
  constructor
  · intro pn w _
    have hz : ∀ c, fracAt y.s.frac pn c = 0 := by
      intro c
      unfold fracAt
      cases hl : y.s.frac.lookup pn with
      | none => rfl
      | some v => exact getD_of_all_zero v (h0.zero (pn, v) (Assoc.mem_of_lookup hl)) c
    exact ⟨fun c _ _ => hz c, hz _⟩
  · rw [h0.rows]; intro r hr; simp at hr

end Infretis.Repex.Data
