import Infretis.Lemmas.MovesWfA
import Infretis.Lemmas.MovesWitness
import Infretis.Lemmas.ExceptAux
/-! The status tables of `shoot` and `wire_fencing` (`Model/MovesRun.lean`) are what the move models compute;
    `wfOutcome` is the stage of `wireFencing`'s result (`wfOutcome_eq`). -/
namespace Infretis.Moves

theorem finalChecks_table (i : ShootIn) (t : List Int) :
    (finalChecks i t).2 = statusOf i.maxlength (finalFlags i t) := by
  unfold finalChecks finalFlags statusOf
  simp only
  by_cases h1 : i.sc.hasL = false ∧ ((checkInterfaces t i.l i.m i.r).1 = .L ∨ (checkInterfaces t i.l i.m i.r).2.1 = .L)
  · simp [h1]
  · simp only [h1, if_false, decide_false, Bool.false_eq_true]
    by_cases h2 : (effSc i).hasL = true ∧ (effSc i).hasR = true
    · simp [h2]
    · simp only [h2, if_false]
      have : ((effSc i).hasL && (effSc i).hasR) = false := by
        cases ha : (effSc i).hasL <;> cases hb : (effSc i).hasR <;> simp_all
      simp only [this, Bool.false_eq_true, if_false]
      cases hc : (checkInterfaces t i.l i.m i.r).2.2 <;> simp

theorem shoot_status_eq (v : Variant) (i : ShootIn) :
    (shoot v i).map (·.status) = (shootOutcome v i).map (statusOf i.maxlength) := by
  unfold shoot shootOutcome
  simp only
  by_cases h1 : ¬ (1 < (i.old.length : Int) - 1)
  · simp only [h1]; rfl
  simp only [h1, if_false]
  by_cases h2 : ¬ (1 ≤ i.idx ∧ (i.idx : Int) < (i.old.length : Int) - 1)
  · simp only [h2]; rfl
  simp only [h2, if_false]
  by_cases h3 : ¬ (i.l ≤ i.kick ∧ i.kick < i.r)
  · simp only [h3]; rfl
  simp only [h3, if_false]
  cases hd : drawMaxlen i with
  | error e => rfl
  | ok md =>
    obtain ⟨maxlen, d2⟩ := md
    simp only
    cases hb : feedV v i.l i.r (some (maxlen - 1)) [] (i.kick :: i.back) 0 with
    | none => rfl
    | some rb =>
      obtain ⟨pb, okB, usedB⟩ := rb
      simp only
      by_cases h4 : okB = false
      · simp only [h4, if_true]; simp [Except.map, statusOf]
      simp only [h4]
      by_cases h5 : i.r < i.l
      · simp only [h5, if_true]; rfl
      simp only [h5, if_false]
      cases hl : pb.getLast? with
      | none => rfl
      | some e =>
        simp only
        by_cases h6 : sideIn (WF.endPoint i.l i.r e) i.sc = false
        · simp only [h6, if_true]; rfl
        simp only [h6]
        cases hf : feedV v i.l i.r (some (maxlen - pb.length + 1)) [] (i.kick :: i.forw) 0 with
        | none => rfl
        | some rf =>
          obtain ⟨pf, okF, usedF⟩ := rf
          simp only
          by_cases h7 : okF = false
          · simp only [h7, if_true]; simp [Except.map, statusOf]
          simp only [h7, Except.map]
          rw [finalChecks_table]
          simp

/-- the stage a completed `wire_fencing` call ended at, read off its result -/
def WfOut.outcome (o : WfOut) : WfOutcome :=
  match o.status with
  | .NSG => if o.oldRewritten then .noSegment else .noFrames
  | .FTX => .extTooLong o.genLen
  | .BWI => .wrongStart
  | _ => .accepted o.genSucc o.genLen

theorem wfOutcome_eq (v : Variant) (i : WfIn) : wfOutcome v i = (wireFencing v i).map WfOut.outcome := by
  unfold wireFencing wfOutcome wfSeg0
  simp only
  by_cases h1 : WF.weight i.m (capOf i) i.old = 0
  · simp only [h1, if_true]; rfl
  simp only [h1, if_false]
  cases hj : wfJumps v i i.nJumps i.jumps
      (match WF.pick i.m (capOf i) i.old i.xiSeg with
        | some (a, b, _) => (i.old.drop a).take (b + 1 - a)
        | none => []) i.oldTimeOrigin 0 [.random] with
  | error e => rfl
  | ok rj =>
    obtain ⟨seg, segTO, succ, draws⟩ := rj
    simp only
    by_cases h2 : succ = 0
    · simp only [h2, if_true]; rfl
    simp only [h2, if_false]
    cases he : extender v i seg segTO with
    | error e => rfl
    | ok re =>
      obtain ⟨ok1, st1, t1, to1⟩ := re
      simp only
      cases ok1 with
      | false =>
        obtain rfl : st1 = .FTX := (extender_flag v i _ _ _ _ _ _ he).2.2 rfl
        rfl
      | true =>
        simp only [if_true, Bool.true_eq_false, if_false]
        cases hs : subtAcceptance i t1 to1 with
        | error e => rfl
        | ok rs =>
          obtain ⟨ok2, st2, t2, to2⟩ := rs
          simp only
          cases ok2 with
          | false =>
            obtain rfl : st2 = .BWI := (subt_flag i _ _ _ _ _ _ hs).2.1 rfl
            rfl
          | true =>
            simp only [Bool.true_eq_false, if_false]
            by_cases h3 : i.r < i.l
            · simp only [h3, if_true]; rfl
            simp only [h3, if_false]
            cases hh : t2.head? with
            | none => rfl
            | some first =>
              simp only
              by_cases h4 : scIs i.sc (WF.startPoint i.l i.r first) = false
              · simp only [h4, if_true]; rfl
              simp only [h4]
              rfl

theorem wf_status_eq (v : Variant) (i : WfIn) :
    (wireFencing v i).map (·.status) = (wfOutcome v i).map wfStatusOf := by
  rw [wfOutcome_eq]
  cases h : wireFencing v i with
  | error e => rfl
  | ok o => cases (wf_ok_iff v i o).1 h <;> rfl

theorem shoot_table_of_ok (v : Variant) (i : ShootIn) (o : ShootOut) (h : shoot v i = .ok o) :
    ∃ oc, shootOutcome v i = .ok oc ∧ o.status = statusOf i.maxlength oc :=
  map_eq_map_ok (shoot_status_eq v i) h

theorem shoot_table_of_error (v : Variant) (i : ShootIn) (x : Err) (h : shoot v i = .error x) :
    shootOutcome v i = .error x :=
  map_eq_map_error (shoot_status_eq v i) h

theorem wf_table_of_ok (v : Variant) (i : WfIn) (o : WfOut) (h : wireFencing v i = .ok o) :
    ∃ oc, wfOutcome v i = .ok oc ∧ o.status = wfStatusOf oc :=
  map_eq_map_ok (wf_status_eq v i) h

theorem wf_table_of_error (v : Variant) (i : WfIn) (x : Err) (h : wireFencing v i = .error x) :
    wfOutcome v i = .error x :=
  map_eq_map_error (wf_status_eq v i) h

/-! concrete `run_md` jobs evaluated by the kernel -/

def mdCfgEx (wf : Bool) : MdCfg := { interfaces := [0, 1, 4], movesTail := [false, wf], cap := none, ensNum := 1, lm1 := none }

theorem mdEx_eval : (runMdOne .repaired (mdCfgEx false) (.sh { exIn with scEns := some ⟨true, false⟩ })).toOption = some
    { status := .ACC, live := [-1, 3, 2, 2, 5], replaced := true, trialLen := 5, trialMin := -1, trialMax := 5,
      weights := some [1, 1, 0] } := by decide +kernel

theorem mdWfEx_eval : (runMdOne .repaired (mdCfgEx true) (.wf wfEx)).toOption = some
    { status := .ACC, live := [-1, 0, 1, 2, 3, 5], replaced := true, trialLen := 6, trialMin := -1, trialMax := 5,
      weights := some [1, 6, 0] } := by decide +kernel

theorem mdWfRejEx_eval : (runMdOne .repaired (mdCfgEx true)
      (.wf { wfEx with jumps := [{ idx := 2, kick := 7, back := [], forw := [] }] })).toOption = some
    { status := .NSG, live := [-1, 1, 2, 1, -1], replaced := false, trialLen := 5, trialMin := -1, trialMax := 2,
      weights := none } := by decide +kernel

end Infretis.Moves
