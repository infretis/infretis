import Infretis.Model.RepexMicro
import Infretis.Lemmas.RepexC03Sys
/-!
# C03 — the slot / lock invariant at every SUB-STEP of `treat_output` and `prep_md_items`

`Infretis.Repex.Micro` lists one snapshot after every write to `_locks`, `_trajs`, `state`.  Here:
every snapshot of a successful call satisfies `CoreR` with respect to what the OTHER jobs hold plus
the ghost list `Snap.mine` of the job under treatment / construction.
-/
namespace Infretis.Repex.Micro

theorem addTraj_form {s s' : St} {ens : Int} {pn : Nat} {valid : List Rat}
    (ha : addTraj s ens pn valid = .ok s') :
    (padValid s ens valid).getD (ens + (off : Int)).toNat 0 ≠ 0 ∧
    s' = { { { s with trajs := s.trajs.set (ens + (off : Int)).toNat (some pn) } with
              W := s.W.set (ens + (off : Int)).toNat (padValid s ens valid) } with
            locks := s.locks.set (ens + (off : Int)).toNat false } := by
  have hoff : (ens + (off : Int)).toNat = (ens + 1).toNat := by simp [off]
  rw [hoff]
  exact ⟨(addTraj_parts ha).2.1, (addTraj_parts ha).2.2⟩

theorem addTrajTrace_last {s s' : St} {ens : Int} {pn : Nat} {valid : List Rat}
    (ha : addTraj s ens pn valid = .ok s') (rest : List (Nat × Nat)) :
    (addTrajTrace s ens pn valid rest).getLast? = some { tag := .unlock, st := s', mine := rest } := by
  obtain ⟨_, hs⟩ := addTraj_form ha
  unfold addTrajTrace
  rw [hs]
  rfl

theorem addTrajTrace_coreR {s s' : St} {H : List (Nat × Nat)} {tn tn' : Nat} (e pnOld pn : Nat)
    (ens : Int) (valid : List Rat) (rest : List (Nat × Nat))
    (h : CoreR s ((e, pnOld) :: (rest ++ H)) tn) (ha : addTraj s ens pn valid = .ok s')
    (he : (ens + 1).toNat = e)
    (hfresh : ∀ b, b < s.n - 1 → b ≠ e → s.trajs[b]? ≠ some (some pn))
    (hpn : pn < tn') (hle : tn ≤ tn') :
    ∀ m ∈ addTrajTrace s ens pn valid rest, CoreR m.st (m.mine ++ H) tn' := by
  have hc3 := addTraj_coreR e pnOld pn ens valid h ha he hfresh hpn hle
  obtain ⟨hv, hs⟩ := addTraj_form ha
  have hoff : (ens + (off : Int)).toNat = e := by rw [← he]; simp [off]
  rw [hoff] at hv hs
  have hc1 := setTraj_coreR e pnOld pn h hfresh hpn hle
  intro m hm
  unfold addTrajTrace at hm
  simp only [hoff, List.mem_cons, List.mem_nil_iff, or_false] at hm
  rcases hm with rfl | rfl | rfl
  · exact hc1
  · exact setRow_coreR e pn (padValid s ens valid) hc1 hv
  · show CoreR _ (rest ++ H) tn'
    rw [← hs]
    exact hc3

theorem perEns_tn_le {status : Status} {l : List (Picked × List Rat)} {s s' : St} {tn tn' : Nat}
    {pns : List Nat} (hp : PerEns status s tn l s' tn' pns) : tn ≤ tn' := by
  induction hp with
  | nil => exact Nat.le_refl _
  | cons hput _ _ ih =>
    cases hput with
    | acc => omega
    | rej _ => exact ih

theorem perEnsTrace_cons {status : Status} {s s3 : St} {tn tn1 pn : Nat} {p : Picked} {w v : List Rat}
    {rest : List (Picked × List Rat)} (hput : PutBack s tn p w status pn v tn1)
    (hadd : addTraj (perEnsPre status s tn p w) p.ens pn v = .ok s3) :
    perEnsTrace status s tn ((p, w) :: rest)
      = addTrajTrace (perEnsPre status s tn p w) p.ens pn v (pairsOfPicked rest)
        ++ perEnsTrace status s3 tn1 rest := by
  conv_lhs => unfold perEnsTrace
  cases hput with
  | acc =>
    simp only [↓reduceIte]
    change (match addTraj (perEnsPre .acc s tn p w) p.ens tn w with | .error _ => _ | .ok s3 => _) = _
    rw [hadd]
    rfl
  | rej hw =>
    rw [perEnsPre_rej] at hadd ⊢
    simp only [reduceCtorEq, ↓reduceIte, hw, hadd]

theorem pairsOfPicked_eq (l : List (Picked × List Rat)) : pairsOfPicked l = heldPicked (l.map Prod.fst) := by
  simp [pairsOfPicked, heldPicked, slotOf, List.map_map, Function.comp_def]

/-- every sub-step of the per-ensemble loop of `treat_output`: exactly the other jobs' ensembles
    plus the not yet released ones of this job are busy, every held path is in its slot -/
theorem perEnsTrace_coreR {status : Status} {l : List (Picked × List Rat)} {s s' : St}
    {H : List (Nat × Nat)} {tn tn' : Nat} {pns : List Nat}
    (h : CoreR s (heldPicked (l.map Prod.fst) ++ H) tn) (hp : PerEns status s tn l s' tn' pns) :
    ∀ m ∈ perEnsTrace status s tn l, CoreR m.st (m.mine ++ H) tn' := by
  induction hp with
  | nil =>
    intro m hm
    simp [perEnsTrace] at hm
  | @cons s tn p w rest pn v _ _ _ _ _ hput hadd hrest ih =>
    obtain ⟨hfr, hpn, hle⟩ := perEns_fresh h hput
    rw [perEnsTrace_cons hput hadd]
    intro m hm
    rcases List.mem_append.mp hm with hm | hm
    · rw [pairsOfPicked_eq] at hm
      exact (addTrajTrace_coreR (slotOf p) p.pn pn p.ens v _ (h.frame (perEnsPre_touches status s tn p w))
        hadd rfl hfr hpn hle m hm).mono (perEns_tn_le hrest)
    · exact ih (perEnsStep_coreR h hput hadd) m hm

theorem sortTrace_coreR : ∀ (fuel : Nat) {s : St} {H : List (Nat × Nat)} {tn : Nat},
    CoreR s H tn → ∀ m ∈ sortTrace fuel s, CoreR m.st (m.mine ++ H) tn := by
  intro fuel
  induction fuel with
  | zero => intro s H tn _ m hm; simp [sortTrace] at hm
  | succ fuel ih =>
    intro s H tn h m hm
    unfold sortTrace at hm
    split at hm
    · rename_i s1 hstep
      have hc1 := sortStep_coreR h hstep
      rcases List.mem_cons.mp hm with rfl | hm
      · exact hc1
      · exact ih hc1 m hm
    · simp at hm

theorem treatTrace_parts {s s' : St} {job : Job} {status : Status} {newW : List (List Rat)} {fuel : Nat}
    {pns : List Nat} {it : Nat} (ht : treatOutput s job status newW fuel = .ok (s', pns, it)) :
    ∃ s1 tn s3 s4, (Frac.jobWs job status newW).length = job.picked.length ∧
      PerEns status s s.trajNum (job.picked.zip (Frac.jobWs job status newW)) s1 tn pns ∧
      Touches [.rows, .frac, .wts] s1 s3 ∧ sortTrajstate fuel s3 = .ok (s4, it) ∧
      s' = { s4 with trajNum := tn, cworker := job.pin } ∧
      treatTrace s job status newW fuel
        = perEnsTrace status s s.trajNum (job.picked.zip (Frac.jobWs job status newW)) ++ sortTrace fuel s3 := by
  obtain ⟨s1, tn, s2, s3, s4, hlen, hper, hrec, hwr, hit, hsort, rfl⟩ := treatOutput_parts ht
  refine ⟨s1, tn, s3, s4, hlen, hper, ?_, sortTrajstate_ok_iff.mpr ⟨hit, hsort⟩, rfl, ?_⟩
  · exact (recordFrac_touches hrec).comp (writeRowsIf_touches hwr)
  · unfold treatTrace
    simp only []
    change (match treatOutput.perEns status s s.trajNum (job.picked.zip (Frac.jobWs job status newW)) with
      | .error _ => _ | .ok (s1, _, _) => _) = _
    rw [perEns_ok_iff.mpr hper]
    simp only []
    rw [hrec]
    simp only []
    rw [hwr]
    rfl

/-- **every sub-step of `treat_output`**: with `H` = what the other jobs in flight hold, every
    snapshot satisfies the slot / lock invariant for `mine ++ H`, `mine` being what the completing
    job has not released yet -/
theorem treatTrace_coreR {s s' : St} {H : List (Nat × Nat)} (job : Job) (status : Status)
    (newW : List (List Rat)) (fuel : Nat) (pns : List Nat) (it : Nat)
    (h : CoreR s (heldJob job ++ H) s.trajNum)
    (ht : treatOutput s job status newW fuel = .ok (s', pns, it)) :
    ∀ m ∈ treatTrace s job status newW fuel, CoreR m.st (m.mine ++ H) s'.trajNum := by
  obtain ⟨s1, tn, s3, s4, hlen, hper, he3, hsort, rfl, htr⟩ := treatTrace_parts ht
  rw [← heldPicked_zip hlen] at h
  have hc1 := perEns_coreR h hper
  intro m hm
  show CoreR m.st (m.mine ++ H) tn
  rw [htr] at hm
  rcases List.mem_append.mp hm with hm | hm
  · exact perEnsTrace_coreR h hper m hm
  · exact sortTrace_coreR fuel (hc1.frame he3) m hm

theorem pathAt_of_getD {s : St} {e pn : Nat} (h : s.trajs.getD e none = some pn) : pathAt s e = pn := by
  unfold pathAt; rw [h]; rfl

theorem lockStepTrace_coreR {s s2 : St} {H : List (Nat × Nat)} {tn : Nat} (h : CoreR s H tn) (t e : Nat)
    (hpos : 0 < entryM (prob s) t e) (hl : lock (swap s t e) e = .ok s2)
    (hfresh : s.toinitiate < 0 ∨ s.locked0 = []) :
    CoreR (swap s t e) H tn ∧ s2 = locked1 (swap s t e) e ∧
      CoreR s2 ((e, pathAt s2 e) :: H) tn ∧ (s2.toinitiate < 0 ∨ s2.locked0 = []) := by
  obtain ⟨ht, he, _⟩ := prob_posR h t e hpos
  have ha2 := lockStep_touches hl
  obtain ⟨pn, hpn, hc2, _⟩ := lockStep_coreR h t e hpos hl hfresh
  obtain ⟨_, hs2⟩ := lock_ok hl
  refine ⟨swap_coreR h t e ht he hfresh, hs2, ?_, ?_⟩
  · rw [pathAt_of_getD hpn]; exact hc2
  · rw [ha2.toinitiate, ha2.locked0]; exact hfresh

/-- the sub-steps of a successful `pick()`: `swap`, `lock`, and for a zero swap the same again for
    the partner ensemble -/
theorem pickTrace_parts {s s' : St} {o : PickOutcome} {pairs : List (Int × Option Nat)} {ds : List Draw}
    (hp : pickCore s o = .ok (s', pairs, ds)) :
    0 < entryM (prob s) o.t o.e ∧ ∃ s2, lock (swap s o.t o.e) o.e = .ok s2 ∧
      ((0 < entryM (prob s2) o.partner (zsOther o.e) ∧
          ∃ s4, lock (swap s2 o.partner (zsOther o.e)) (zsOther o.e) = .ok s4 ∧ s' = s4 ∧
            pickTrace s o =
              [{ tag := .pickSwap, st := swap s o.t o.e, mine := [] },
               { tag := .pickLock, st := s2, mine := [(o.e, pathAt s2 o.e)] },
               { tag := .zsSwap, st := swap s2 o.partner (zsOther o.e), mine := [(o.e, pathAt s2 o.e)] },
               { tag := .zsLock, st := s4,
                 mine := [(zsOther o.e, pathAt s4 (zsOther o.e)), (o.e, pathAt s2 o.e)] }]) ∨
       (s' = s2 ∧ pickTrace s o =
          [{ tag := .pickSwap, st := swap s o.t o.e, mine := [] },
           { tag := .pickLock, st := s2, mine := [(o.e, pathAt s2 o.e)] }])) := by
  obtain ⟨hpos, s2, hl, hcase⟩ := pickCore_parts hp
  refine ⟨hpos, s2, hl, ?_⟩
  have hs2 : s2 = locked1 (swap s o.t o.e) o.e := (lock_ok hl).2
  rcases hcase with ⟨hzs, hcoin, hpos2, s4, hl4, rfl, _, _⟩ | ⟨hzs, rfl, _, _⟩
  · rw [col_getD] at hpos2
    refine Or.inl ⟨hpos2, s', hl4, rfl, ?_⟩
    have hs4 : s' = locked1 (swap s2 o.partner (zsOther o.e)) (zsOther o.e) := (lock_ok hl4).2
    rw [hs2] at hzs
    unfold pickTrace
    simp only []
    change (if (zsPossible (locked1 (swap s o.t o.e) o.e).locks o.e && o.coin) = true then _ else _) = _
    rw [if_pos (by rw [hzs, hcoin]; rfl)]
    subst hs4 hs2
    rfl
  · refine Or.inr ⟨rfl, ?_⟩
    rw [hs2] at hzs
    unfold pickTrace
    simp only []
    change (if (zsPossible (locked1 (swap s o.t o.e) o.e).locks o.e && o.coin) = true then _ else _) = _
    rw [if_neg (by rw [hzs]; simp)]
    subst hs2
    rfl

/-- **every sub-step of `pick()`** (incl. the partner pick of a zero swap) -/
theorem pickTrace_coreR {s s' : St} {H : List (Nat × Nat)} {tn : Nat} (h : CoreR s H tn) (o : PickOutcome)
    (pairs : List (Int × Option Nat)) (ds : List Draw) (hp : pickCore s o = .ok (s', pairs, ds))
    (hfresh : s.toinitiate < 0 ∨ s.locked0 = []) :
    ∀ m ∈ pickTrace s o, CoreR m.st (m.mine ++ H) tn := by
  obtain ⟨hpos, s2, hl, hcase⟩ := pickTrace_parts hp
  obtain ⟨hc1, _, hc2, hfresh2⟩ := lockStepTrace_coreR h o.t o.e hpos hl hfresh
  rcases hcase with ⟨hpos2, s4, hl4, _, htr⟩ | ⟨_, htr⟩
  · obtain ⟨hc3, _, hc4, _⟩ := lockStepTrace_coreR hc2 o.partner _ hpos2 hl4 hfresh2
    rw [htr]
    intro m hm
    simp only [List.mem_cons, List.mem_nil_iff, or_false] at hm
    rcases hm with rfl | rfl | rfl | rfl
    · exact hc1
    · exact hc2
    · exact hc3
    · exact hc4
  · rw [htr]
    intro m hm
    simp only [List.mem_cons, List.mem_nil_iff, or_false] at hm
    rcases hm with rfl | rfl
    · exact hc1
    · exact hc2

/-- the sub-steps of the re-issue of a recorded job (`acc` = what the job holds already): every
    snapshot satisfies the invariant, and the last one is the state `reissue` returns -/
theorem reissueTrace_spec : ∀ (l : List (Nat × Nat)) {s s' : St} {H acc : List (Nat × Nat)} {tn : Nat}
    {pairs : List (Int × Option Nat)},
    CoreR s (acc ++ H) tn → Popped s l → Reissue s l s' pairs →
    (∀ m ∈ reissueTrace s l acc, CoreR m.st (m.mine ++ H) tn) ∧
      (l ≠ [] → ∃ m, (reissueTrace s l acc).getLast? = some m ∧ m.st = s') := by
  intro l
  induction l with
  | nil =>
    intro s s' H acc tn pairs _ _ _
    exact ⟨fun m hm => by simp [reissueTrace] at hm, fun hne => absurd rfl hne⟩
  | cons x rest ih =>
    intro s s' H acc tn pairs h hp hg
    obtain ⟨e, tr⟩ := x
    obtain ⟨hte, hlt⟩ := hp.live h (e, tr) List.mem_cons_self
    obtain ⟨hfi, hl, ps, hrec, _⟩ := hg.cons_inplace hte hlt h.uniqLive
    obtain ⟨hc2, hp2⟩ := hp.lockHead_coreR h
    unfold reissueTrace
    rw [hfi]
    simp only [swap_self]
    rw [hl]
    simp only []
    obtain ⟨ih1, ih2⟩ := ih (s := { s with locks := s.locks.set e true }) (acc := (e, tr) :: acc) hc2 hp2 hrec
    refine ⟨?_, fun _ => ?_⟩
    · intro m hm
      rcases List.mem_cons.mp hm with rfl | hm
      · exact h
      rcases List.mem_cons.mp hm with rfl | hm
      · exact hc2
      · exact ih1 m hm
    · cases rest with
      | nil =>
        cases hrec
        exact ⟨_, rfl, rfl⟩
      | cons y rest' =>
        obtain ⟨m, hm, hst⟩ := ih2 (by simp)
        refine ⟨m, ?_, hst⟩
        rw [List.getLast?_cons, List.getLast?_cons, hm]
        rfl

/-- the sub-steps of the pick part of `prep_md_items`: those of a `pick()` (on the state itself, or
    after the one-time restore of the scheduler stream), or those of the re-issue of the first record -/
theorem prepTrace_parts {s s1 : St} {o : PickOutcome} {saved : Nat} {ps : List Picked} {ds : List Draw}
    (hp : pickPart s o saved = .ok (s1, ps, ds)) :
    (∃ sa sb pairs, Touches [.mainDraws, .rgenRestored] s sa ∧ (sa.toinitiate < 0 ∨ sa.locked0 = []) ∧
        pickCore sa o = .ok (sb, pairs, ds) ∧ Touches [.locked, .lockedOrd, .spawned, .mainDraws] sb s1 ∧
        prepTrace s o saved = pickTrace sa o) ∨
    (0 ≤ s.toinitiate ∧ ∃ enss0 trajs0 rest sb pairs, s.locked0 = (enss0, trajs0) :: rest ∧
        reissue.go { s with locked0 := rest, locked0Ord := s.locked0Ord.tail } (enss0.zip trajs0)
          = .ok (sb, pairs) ∧ Touches [.locked, .lockedOrd, .spawned, .mainDraws] sb s1 ∧
        prepTrace s o saved
          = reissueTrace { s with locked0 := rest, locked0Ord := s.locked0Ord.tail } (enss0.zip trajs0) []) := by
  have htail : ∀ (sb : St) (a : List (List Int × List Nat)) (b : List Nat) (c d : Nat),
      Touches [.locked, .lockedOrd, .spawned, .mainDraws] sb
        { sb with locked := a, lockedOrd := b, spawned := c, mainDraws := d } := by
    intro sb a b c d f hf
    cases f <;> first | rfl | exact absurd (by decide) hf
  unfold pickPart at hp
  unfold prepTrace
  by_cases h0 : s.toinitiate ≥ 0
  · rw [if_pos h0] at hp ⊢
    rcases pickLock_parts hp with ⟨hnil, hpk⟩ | ⟨enss0, trajs0, rest, sb, pairs, hcons, hre, _, rfl, _⟩
    · obtain ⟨sb, pairs, hpc, _, rfl⟩ := pick_parts hpk
      have e := restoreStreamOnce_touches s saved
      refine Or.inl ⟨_, sb, pairs, e, Or.inr (e.locked0.trans hnil), hpc, htail sb _ _ _ _, ?_⟩
      rw [hnil]
    · refine Or.inr ⟨h0, enss0, trajs0, rest, sb, pairs, hcons, hre, ?_, ?_⟩
      · intro f hf
        cases f <;> first | rfl | exact absurd (by decide) hf
      · rw [hcons]
  · rw [if_neg h0] at hp ⊢
    obtain ⟨sb, pairs, hpc, _, rfl⟩ := pick_parts hp
    exact Or.inl ⟨s, sb, pairs, Agree.refl _ s, Or.inl (by omega), hpc, htail sb _ _ _ _, rfl⟩

/-- **every sub-step of the `pick_lock()` / `pick()` part of `prep_md_items`**: with `H` = what the
    jobs in flight hold, every snapshot satisfies the invariant for `mine ++ H`, `mine` being what the
    job under construction has locked so far -/
theorem prepTrace_coreR {s s' : St} {H : List (Nat × Nat)} (prev : Option Nat) (o : PickOutcome)
    (saved : Nat) (job : Job) (ds : List Draw) (hc : CoreR s H s.trajNum)
    (hp : prep s prev o saved = .ok (s', job, ds)) :
    ∀ m ∈ prepTrace s o saved, CoreR m.st (m.mine ++ H) s.trajNum := by
  obtain ⟨s1, ps, _, _, _, hr, _⟩ := prep_parts hp
  rcases prepTrace_parts hr with ⟨sa, sb, pairs, hea, hfr, hpc, _, htr⟩ |
    ⟨h0, enss0, trajs0, rest, sb, pairs, hcons, hre, _, htr⟩
  · rw [htr]
    exact pickTrace_coreR (hc.frame hea) o pairs ds hpc hfr
  · rw [htr]
    obtain ⟨hc0, _, hpop⟩ := hc.popRecord h0 hcons
    exact (reissueTrace_spec (enss0.zip trajs0) (acc := []) hc0 hpop (reissueGo_ok_iff.mp hre)).1

theorem perEnsTrace_last {status : Status} {l : List (Picked × List Rat)} {s s' : St} {tn tn' : Nat}
    {pns : List Nat} (hne : l ≠ []) (hp : PerEns status s tn l s' tn' pns) :
    (perEnsTrace status s tn l).getLast? = some { tag := .unlock, st := s', mine := [] } := by
  induction hp with
  | nil => exact absurd rfl hne
  | cons hput hadd hrest ih =>
    rw [perEnsTrace_cons hput hadd, List.getLast?_append]
    cases hrest with
    | nil =>
      simp only [perEnsTrace, List.getLast?_nil, Option.none_or]
      rw [addTrajTrace_last hadd]
      rfl
    | cons _ _ _ =>
      rw [ih (by simp)]
      rfl

theorem sortTrace_last : ∀ (fuel : Nat) {s s' : St} {k : Nat}, sortTrajstate fuel s = .ok (s', k) →
    (k = 0 ∧ s' = s ∧ sortTrace fuel s = []) ∨
    (sortTrace fuel s).getLast? = some { tag := .sortSwap, st := s', mine := [] } := by
  intro fuel
  induction fuel with
  | zero => intro s s' k hs; simp [sortTrajstate] at hs
  | succ fuel ih =>
    intro s s' k hs
    unfold sortTrajstate at hs
    unfold sortTrace
    split at hs
    · exact absurd hs (by simp)
    · rename_i hstep
      simp only [Except.ok.injEq, Prod.mk.injEq] at hs
      obtain ⟨rfl, rfl⟩ := hs
      rw [hstep]
      exact Or.inl ⟨rfl, rfl, rfl⟩
    · rename_i s1 hstep
      rw [hstep]
      simp only []
      split at hs
      · exact absurd hs (by simp)
      · rename_i s2 k2 hrec
        simp only [Except.ok.injEq, Prod.mk.injEq] at hs
        obtain ⟨rfl, _⟩ := hs
        right
        rcases ih hrec with ⟨_, rfl, hnil⟩ | hlast
        · rw [hnil]; rfl
        · rw [List.getLast?_cons, hlast]; rfl

/-- **the last sub-step of `treat_output` is the state it returns** (on the fields the invariant
    reads), and by then the completing job holds nothing -/
theorem treatTrace_last {s s' : St} (job : Job) (status : Status) (newW : List (List Rat)) (fuel : Nat)
    (pns : List Nat) (it : Nat) (hne : job.picked ≠ [])
    (ht : treatOutput s job status newW fuel = .ok (s', pns, it)) :
    ∃ m, (treatTrace s job status newW fuel).getLast? = some m ∧ m.mine = [] ∧
      m.st.W = s'.W ∧ m.st.trajs = s'.trajs ∧ m.st.locks = s'.locks := by
  obtain ⟨s1, tn, s3, s4, hlen, hper, he3, hsort, rfl, htr⟩ := treatTrace_parts ht
  have hzne : job.picked.zip (Frac.jobWs job status newW) ≠ [] := by
    intro h0
    have := congrArg List.length h0
    simp only [List.length_zip, List.length_nil] at this
    exact hne (List.eq_nil_of_length_eq_zero (by omega))
  rw [htr, List.getLast?_append]
  rcases sortTrace_last fuel hsort with ⟨_, rfl, hnil⟩ | hlast
  · rw [hnil, perEnsTrace_last hzne hper]
    exact ⟨_, rfl, rfl, he3.W.symm, he3.trajs.symm, he3.locks.symm⟩
  · rw [hlast]
    exact ⟨_, rfl, rfl, rfl, rfl, rfl⟩

/-- two descriptions of what is held besides `H` agree (states that agree on slots and flags) -/
theorem held_unique {s t : St} {A B H : List (Nat × Nat)} {ta tb : Nat}
    (ha : CoreR s (A ++ H) ta) (hb : CoreR t (B ++ H) tb) (hn : t.n = s.n) (hT : t.trajs = s.trajs)
    (hL : t.locks = s.locks) : A.Perm B := by
  have key : ∀ {s t : St} {A B : List (Nat × Nat)} {ta tb : Nat}, CoreR s (A ++ H) ta → CoreR t (B ++ H) tb →
      t.n = s.n → t.trajs = s.trajs → t.locks = s.locks → ∀ x, x ∈ A → x ∈ B := by
    intro s t A B ta tb ha hb hn hT hL x hx
    obtain ⟨e, pn⟩ := x
    obtain ⟨hlt, htr, _⟩ := ha.heldOk e pn (List.mem_append_left _ hx)
    have hlk := ha.held_locked e pn (List.mem_append_left _ hx)
    have hndA := ha.nodup
    rw [List.map_append, List.nodup_append] at hndA
    have hnotH : e ∉ H.map Prod.fst := fun hin =>
      hndA.2.2 e (List.mem_map.mpr ⟨(e, pn), hx, rfl⟩) e hin rfl
    have hin := (hb.busy e (by rw [hn]; exact hlt)).mp (by rw [hL]; exact hlk)
    rw [List.map_append, List.mem_append] at hin
    rcases hin with hin | hin
    · obtain ⟨⟨e', pn'⟩, hm, he'⟩ := List.mem_map.mp hin
      have he' : e' = e := he'
      subst he'
      obtain ⟨_, htr', _⟩ := hb.heldOk e' pn' (List.mem_append_left _ hm)
      rw [hT, htr] at htr'
      have : pn = pn' := by simpa using htr'
      subst this
      exact hm
    · exact absurd hin hnotH
  have nd : ∀ {s : St} {A : List (Nat × Nat)} {ta : Nat}, CoreR s (A ++ H) ta → A.Nodup := by
    intro s A ta ha
    have := ha.nodup
    rw [List.map_append, List.nodup_append] at this
    simpa using nodup_map_of_nodup_map Prod.fst id A this.1 (fun x _ y _ h => by rw [show x = y from h])
  exact (List.perm_ext_iff_of_nodup (nd ha) (nd hb)).mpr
    (fun x => ⟨key ha hb hn hT hL x, key hb ha hn.symm hT.symm hL.symm x⟩)

theorem pickTrace_last {s s' : St} (o : PickOutcome) (pairs : List (Int × Option Nat)) (ds : List Draw)
    (hp : pickCore s o = .ok (s', pairs, ds)) :
    ∃ m, (pickTrace s o).getLast? = some m ∧ m.st = s' := by
  obtain ⟨_, s2, _, hcase⟩ := pickTrace_parts hp
  rcases hcase with ⟨_, s4, _, rfl, htr⟩ | ⟨rfl, htr⟩
  · rw [htr]; exact ⟨_, rfl, rfl⟩
  · rw [htr]; exact ⟨_, rfl, rfl⟩

/-- **the last sub-step of the pick part of `prep_md_items` is the state it returns** (on the fields
    the invariant reads), and by then the job under construction holds exactly what the returned
    `md_items` lists -/
theorem prepTrace_last {s s' : St} {H : List (Nat × Nat)} (prev : Option Nat) (o : PickOutcome)
    (saved : Nat) (job : Job) (ds : List Draw) (hc : CoreR s H s.trajNum)
    (hp : prep s prev o saved = .ok (s', job, ds)) :
    ∃ m, (prepTrace s o saved).getLast? = some m ∧ m.st.W = s'.W ∧ m.st.trajs = s'.trajs ∧
      m.st.locks = s'.locks ∧ m.mine.Perm (heldJob job) := by
  have hspec := (prep_specR prev o saved job ds hc hp).1
  have htr := prepTrace_coreR prev o saved job ds hc hp
  suffices hl : ∃ m, (prepTrace s o saved).getLast? = some m ∧ m.st.n = s'.n ∧ m.st.W = s'.W ∧
      m.st.trajs = s'.trajs ∧ m.st.locks = s'.locks by
    obtain ⟨m, hm, hn, hW, hT, hL⟩ := hl
    refine ⟨m, hm, hW, hT, hL, ?_⟩
    have hmem : m ∈ prepTrace s o saved := List.mem_of_getLast? hm
    exact held_unique (htr m hmem) hspec hn.symm hT.symm hL.symm
  obtain ⟨s1, ps, _, occ', _, hr, _, _, _, rfl, _⟩ := prep_parts hp
  show ∃ m : Snap, _ ∧ m.st.n = s1.n ∧ m.st.W = s1.W ∧ m.st.trajs = s1.trajs ∧ m.st.locks = s1.locks
  rcases prepTrace_parts hr with ⟨sa, sb, pairs, _, _, hpc, heb, htr2⟩ |
    ⟨h0, enss0, trajs0, rest, sb, pairs, hcons, hre, heb, htr2⟩
  · obtain ⟨m, hm, rfl⟩ := pickTrace_last o pairs ds hpc
    rw [htr2]
    exact ⟨m, hm, heb.n.symm, heb.W.symm, heb.trajs.symm, heb.locks.symm⟩
  · obtain ⟨hc0, hsh, hpop⟩ := hc.popRecord h0 hcons
    have hzne : enss0.zip trajs0 ≠ [] := by
      intro hz
      have := congrArg List.length hz
      simp only [List.length_zip, List.length_nil] at this
      have hlen : 1 ≤ enss0.length := by
        rcases hsh.2 with h1 | h2
        · omega
        · rw [h2]; simp
      omega
    obtain ⟨m, hm, rfl⟩ := (reissueTrace_spec (enss0.zip trajs0) (acc := []) hc0 hpop (reissueGo_ok_iff.mp hre)).2 hzne
    rw [htr2]
    exact ⟨m, hm, heb.n.symm, heb.W.symm, heb.trajs.symm, heb.locks.symm⟩

theorem perEnsTrace_mine {status : Status} {l : List (Picked × List Rat)} {s s' : St} {tn tn' : Nat}
    {pns : List Nat} (hp : PerEns status s tn l s' tn' pns) :
    ∀ m ∈ perEnsTrace status s tn l, ∃ i, i ≤ l.length ∧
      m.mine.map Prod.fst = (pairsOfPicked (l.drop i)).map Prod.fst ∧ m.tag ≠ .sortSwap ∧
      (m.tag = .unlock → m.mine = pairsOfPicked (l.drop i) ∧ 1 ≤ i) := by
  induction hp with
  | nil =>
    intro m hm
    simp [perEnsTrace] at hm
  | cons hput hadd _ ih =>
    intro m hm
    rw [perEnsTrace_cons hput hadd] at hm
    rcases List.mem_append.mp hm with hm | hm
    · -- this round's `add_traj`: the head is still listed at the two writes, gone at `unlock`
      unfold addTrajTrace at hm
      simp only [List.mem_cons, List.mem_nil_iff, or_false] at hm
      rcases hm with rfl | rfl | rfl
      · exact ⟨0, by simp, by simp [pairsOfPicked, off], by simp, by simp⟩
      · exact ⟨0, by simp, by simp [pairsOfPicked, off], by simp, by simp⟩
      · exact ⟨1, by simp, by simp, by simp, by simp⟩
    · obtain ⟨i, hi, h1, h2, h3⟩ := ih m hm
      exact ⟨i + 1, by simp; omega, by simpa using h1, h2, fun ht => ⟨by simpa using (h3 ht).1, by omega⟩⟩

theorem sortTrace_mine : ∀ (fuel : Nat) {s : St}, ∀ m ∈ sortTrace fuel s, m.mine = [] ∧ m.tag = .sortSwap := by
  intro fuel
  induction fuel with
  | zero => intro s m hm; simp [sortTrace] at hm
  | succ fuel ih =>
    intro s m hm
    unfold sortTrace at hm
    split at hm
    · rcases List.mem_cons.mp hm with rfl | hm
      · exact ⟨rfl, rfl⟩
      · exact ih m hm
    · simp at hm

/-- **what the completing job still holds at a sub-step of `treat_output`**: the ensembles of a
    suffix of its picked list (those before have been released by `unlock`, in order); outside the
    two window sub-steps of `add_traj` with their path numbers as handed out -/
theorem treatTrace_mine {s s' : St} (job : Job) (status : Status) (newW : List (List Rat)) (fuel : Nat)
    (pns : List Nat) (it : Nat) (ht : treatOutput s job status newW fuel = .ok (s', pns, it)) :
    ∀ m ∈ treatTrace s job status newW fuel, ∃ i, i ≤ job.picked.length ∧
      m.mine.map Prod.fst = (job.picked.drop i).map slotOf ∧
      ((m.tag = .unlock ∨ m.tag = .sortSwap) → m.mine = heldPicked (job.picked.drop i)) ∧
      (m.tag = .sortSwap → i = job.picked.length) := by
  obtain ⟨s1, tn, s3, s4, hlen, hper, _, _, _, htr⟩ := treatTrace_parts ht
  have hdrop : ∀ i, ((job.picked.zip (Frac.jobWs job status newW)).drop i).map Prod.fst
      = job.picked.drop i :=
    fun i => by rw [List.map_drop, List.map_fst_zip (by omega)]
  intro m hm
  rw [htr] at hm
  rcases List.mem_append.mp hm with hm | hm
  · obtain ⟨i, hi, h1, h2, h3⟩ := perEnsTrace_mine hper m hm
    refine ⟨i, by simpa [List.length_zip, hlen] using hi, ?_, ?_, fun h => absurd h h2⟩
    · rw [h1, pairsOfPicked_eq, hdrop]
      simp [heldPicked, List.map_map, Function.comp_def]
    · intro ht
      rcases ht with ht | ht
      · rw [(h3 ht).1, pairsOfPicked_eq, hdrop]
      · exact absurd ht h2
  · obtain ⟨h1, _⟩ := sortTrace_mine fuel m hm
    exact ⟨job.picked.length, Nat.le_refl _, by rw [h1]; simp, fun _ => by rw [h1]; simp [heldPicked],
      fun _ => rfl⟩

end Infretis.Repex.Micro
