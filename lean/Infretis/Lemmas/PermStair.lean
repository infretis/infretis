import Infretis.Lemmas.PermLaplace
import Mathlib.Algebra.Order.BigOperators.GroupWithZero.List
import Mathlib.Tactic.Ring
import Mathlib.Tactic.FieldSimp
import Mathlib.Tactic.Linarith
/-!
# `quick_prob` on 0/1 staircase matrices equals the permanent-ratio specification (C02)

The permanent of a staircase is the product of its Hall numbers `Dnum cnts c` (`permN_stair`).
The loop of `quick_prob` normalises column `c` by exactly that number and leaves row `k` the
remainder `tRem` (`quickCols_stair`).  A minor of a staircase is again a staircase
(`minor_stair`), so the permanent ratio has the same closed form (`pSpec_stair`).  Hall's condition is `1 ≤ Dnum cnts c`
for every column here; `hall_Dnum` derives it from the form the sorted family states.
-/
namespace Infretis.Perm

/-- a row of width `n` with `cnt` leading ones -/
def stairRow (n cnt : Nat) : Row := (List.range n).map (fun c => if c < cnt then (1:Rat) else 0)

/-- the square staircase matrix whose row `i` has `cnts[i]` leading ones -/
def stair (cnts : List Nat) : Mat := cnts.map (stairRow cnts.length)

/-- number of rows with a one in column `c` minus the number of columns to the right of `c` -/
def Dnum (cnts : List Nat) (c : Nat) : Rat :=
  ((cnts.filter (fun k => c < k)).length : Rat) - ((cnts.length : Rat) - 1 - c)

/-- `#{k ∈ l | c < k}` as a sum of indicators -/
def cntGt (l : List Nat) (c : Nat) : Rat := (l.map (fun k => if c < k then (1:Rat) else 0)).sum

theorem filter_length_eq_cntGt (l : List Nat) (c : Nat) :
    ((l.filter (fun k => c < k)).length : Rat) = cntGt l c := by
  induction l with
  | nil => simp [cntGt]
  | cons x xs ih =>
    unfold cntGt at ih ⊢
    by_cases h : c < x
    · simp [h, ← ih]; ring
    · simp [h, ← ih]

theorem Dnum_eq (cnts : List Nat) (c : Nat) :
    Dnum cnts c = cntGt cnts c - ((cnts.length : Rat) - 1 - c) := by
  unfold Dnum; rw [filter_length_eq_cntGt]

theorem cntGt_cons (k : Nat) (ks : List Nat) (c : Nat) :
    cntGt (k :: ks) c = (if c < k then 1 else 0) + cntGt ks c := by
  simp [cntGt]

theorem cntGt_perm {l₁ l₂ : List Nat} (h : l₁.Perm l₂) (c : Nat) : cntGt l₁ c = cntGt l₂ c := by
  unfold cntGt; exact (h.map _).sum_eq

/-- Hall's condition as `SortedReach.hall` states it, `k + 1 ≤ cnts[k]`, gives that of the staircase: the rows from
    `c` on all reach beyond column `c`.  The counts need not be sorted. -/
theorem hall_Dnum (cnts : List Nat) (hall : ∀ k, k < cnts.length → k + 1 ≤ cnts.getD k 0) :
    ∀ c, c < cnts.length → 1 ≤ Dnum cnts c := by
  intro c hc
  have h1 : ((cnts.drop c).filter (fun k => decide (c < k))).length
      ≤ (cnts.filter (fun k => decide (c < k))).length :=
    ((List.drop_sublist c cnts).filter _).length_le
  have h2 : (cnts.drop c).filter (fun k => decide (c < k)) = cnts.drop c := by
    rw [List.filter_eq_self]
    intro x hx
    obtain ⟨i, hi, rfl⟩ := List.mem_iff_getElem.mp hx
    have hi' : i < cnts.length - c := by simpa using hi
    have := hall (c + i) (by omega)
    rw [List.getD_eq_getElem?_getD, List.getElem?_eq_getElem (by omega), Option.getD_some] at this
    simp only [List.getElem_drop, decide_eq_true_eq]
    omega
  rw [h2, List.length_drop] at h1
  unfold Dnum
  have h3 : ((cnts.length - c : Nat) : Rat)
      ≤ ((cnts.filter (fun k => decide (c < k))).length : Rat) := by exact_mod_cast h1
  rw [Nat.cast_sub (le_of_lt hc)] at h3
  linarith

/-- Hall's condition at column 0 says that no row of the staircase is zero -/
theorem hall_cnt_pos (cnts : List Nat) (hne : cnts ≠ [])
    (hall : ∀ c, c < cnts.length → 1 ≤ Dnum cnts c) : ∀ k ∈ cnts, 1 ≤ k := by
  have h0 := hall 0 (List.length_pos_of_ne_nil hne)
  unfold Dnum at h0
  have hle : (cnts.filter (fun k => decide (0 < k))).length ≤ cnts.length := List.length_filter_le _ _
  have : ((cnts.filter (fun k => decide (0 < k))).length : Rat) ≥ (cnts.length : Rat) := by
    simp only [Nat.cast_zero, sub_zero] at h0
    linarith
  have hge : cnts.length ≤ (cnts.filter (fun k => decide (0 < k))).length := by exact_mod_cast this
  have heq := Nat.le_antisymm hle hge
  rw [List.length_filter_eq_length_iff] at heq
  intro k hk
  have := heq k hk
  have h' : 0 < k := by simpa using this
  omega

theorem sumPick_const {α : Type} (g : α → Rat) (l : List α) :
    sumPick (fun x _ => g x) l = (l.map g).sum := by
  induction l with
  | nil => rfl
  | cons x xs ih => simp only [sumPick, List.map_cons, List.sum_cons]; rw [ih]

theorem stairRow_getD (n k c : Nat) (h : c < n) :
    (stairRow n k).getD c 0 = if c < k then 1 else 0 := by
  simp [stairRow, List.getD_eq_getElem?_getD, h]

theorem permN_stair (w m : Nat) (cnts : List Nat) (hlen : cnts.length = m) (hw : m ≤ w) :
    permN m (cnts.map (stairRow w)) = ((List.range m).map (Dnum cnts)).prod := by
  induction m generalizing cnts with
  | zero => simp [permN]
  | succ m ih =>
    simp only [permN]
    rw [sumPick_map]
    rw [sumPick_congr' _ (fun k _ => (if m < k then 1 else 0) *
        ((List.range m).map (Dnum cnts)).prod) cnts]
    · rw [sumPick_const, List.sum_map_mul_right, List.range_succ, List.map_append,
        List.prod_append]
      have : Dnum cnts m = cntGt cnts m := by
        rw [Dnum_eq, hlen]; push_cast; ring
      simp only [List.map_cons, List.map_nil, List.prod_cons, List.prod_nil, mul_one, this]
      unfold cntGt; ring
    · intro k ks hp
      have hl : ks.length = m := by
        have := hp.length_eq; simp only [List.length_cons] at this; omega
      rw [stairRow_getD w k m (by omega), ih ks hl (by omega)]
      by_cases hk : m < k
      · congr 2
        apply List.map_congr_left
        intro c hc
        have hc : c < m := List.mem_range.mp hc
        rw [Dnum_eq, Dnum_eq, ← cntGt_perm hp c, cntGt_cons, hl, hlen]
        have : c < k := by omega
        simp only [this, if_true]; push_cast; ring
      · simp [hk]

theorem prodL_eq_prod (l : List Rat) : prodL l = l.prod := by
  induction l with
  | nil => rfl
  | cons x xs ih => simp only [prodL, List.prod_cons, ih]

theorem permN_stair_prodL (w m : Nat) (cnts : List Nat) (hlen : cnts.length = m) (hw : m ≤ w) :
    permN m (cnts.map (stairRow w)) = prodL ((List.range m).map (Dnum cnts)) := by
  rw [prodL_eq_prod]; exact permN_stair w m cnts hlen hw

/-- remaining probability `total_traj_prob[r]` of a row with `k` ones once the columns
    `n, …, m-1` have been processed: `∏_{n ≤ c < m} (1 - [c < k] / D c)` -/
def tRem (D : Nat → Rat) (m k n : Nat) : Rat :=
  ((List.range' n (m - n)).map (fun c => 1 - (if c < k then 1 else 0) / D c)).prod

theorem tRem_ge (D : Nat → Rat) (m k n : Nat) (h : m ≤ n) : tRem D m k n = 1 := by
  have : m - n = 0 := by omega
  simp [tRem, this]

theorem tRem_step (D : Nat → Rat) (m k n : Nat) (h : n < m) :
    tRem D m k n = (1 - (if n < k then 1 else 0) / D n) * tRem D m k (n + 1) := by
  have : m - n = (m - (n + 1)) + 1 := by omega
  simp only [tRem]
  rw [this, List.range'_succ, List.map_cons, List.prod_cons]

theorem tRem_of_le (D : Nat → Rat) (m k n : Nat) (h : k ≤ n) : tRem D m k n = 1 := by
  unfold tRem
  apply List.prod_eq_one
  intro x hx
  obtain ⟨c, hc, rfl⟩ := List.mem_map.mp hx
  have : ¬ c < k := by
    have := (List.mem_range'_1.mp hc).1; omega
  simp [this]

theorem tRem_nonneg (D : Nat → Rat) (m k n : Nat) (hD : ∀ c, n ≤ c → c < m → 1 ≤ D c) :
    0 ≤ tRem D m k n := by
  unfold tRem
  apply List.prod_nonneg
  intro x hx
  obtain ⟨c, hc, rfl⟩ := List.mem_map.mp hx
  have hc' := List.mem_range'_1.mp hc
  have h1 : 1 ≤ D c := hD c hc'.1 (by omega)
  have h0 : 0 < D c := by linarith
  by_cases hk : c < k
  · simp only [hk, if_true]
    rw [sub_nonneg, div_le_iff₀ h0, one_mul]; exact h1
  · simp [hk]

theorem sum_map_sub' {α : Type} (l : List α) (f g : α → Rat) :
    (l.map (fun k => f k - g k)).sum = (l.map f).sum - (l.map g).sum := by
  induction l with
  | nil => simp
  | cons x xs ih => simp only [List.map_cons, List.sum_cons, ih]; ring

/-- the normaliser of column `c` is the Hall number `Dnum cnts c`; by induction on the number `d` of columns to the
    right of `c` -/
theorem sum_tRem (cnts : List Nat)
    (hne : ∀ c, c < cnts.length → Dnum cnts c ≠ 0) (d c : Nat) (hc : c + d + 1 = cnts.length) :
    (cnts.map (fun k => (if c < k then 1 else 0) * tRem (Dnum cnts) cnts.length k (c + 1))).sum
      = Dnum cnts c := by
  induction d generalizing c with
  | zero =>
    have h1 : ∀ k, tRem (Dnum cnts) cnts.length k (c + 1) = 1 :=
      fun k => tRem_ge _ _ _ _ (by omega)
    simp only [h1, mul_one]
    rw [Dnum_eq, ← hc]; unfold cntGt; push_cast; ring
  | succ d ih =>
    have ih' := ih (c + 1) (by omega)
    have hD : Dnum cnts (c + 1) ≠ 0 := hne _ (by omega)
    have hpt : ∀ k, (if c < k then (1:Rat) else 0) * tRem (Dnum cnts) cnts.length k (c + 1)
        = (if c < k then 1 else 0) - (if c + 1 < k then 1 else 0)
          + (1 - 1 / Dnum cnts (c + 1)) *
            ((if c + 1 < k then 1 else 0) * tRem (Dnum cnts) cnts.length k (c + 1 + 1)) := by
      intro k
      by_cases h1 : c + 1 < k
      · have h0 : c < k := by omega
        rw [tRem_step _ _ _ _ (by omega)]
        simp only [h0, h1, if_true]; ring
      · by_cases h0 : c < k
        · rw [tRem_of_le _ _ _ _ (by omega)]
          simp [h0, h1]
        · simp [h0, h1]
    simp only [hpt]
    rw [List.sum_map_add, sum_map_sub', List.sum_map_mul_left, ih']
    have e : (1 - 1 / Dnum cnts (c + 1)) * Dnum cnts (c + 1) = Dnum cnts (c + 1) - 1 := by
      field_simp
    rw [e, Dnum_eq, Dnum_eq]
    unfold cntGt
    push_cast; ring

theorem quickCol_map {α : Type} (l : List α) (a b : α → Rat) (s : Rat)
    (hs : (l.map (fun k => a k * b k)).sum = s) (hs0 : s ≠ 0)
    (hcl : ∀ k ∈ l, 0 ≤ b k - a k * b k / s) :
    quickCol (l.map a) (l.map b)
      = (l.map (fun k => a k * b k / s), l.map (fun k => b k - a k * b k / s)) := by
  unfold quickCol
  have hz : List.zipWith (fun c x => c * x) (l.map a) (l.map b) = l.map (fun k => a k * b k) := by
    simp [List.zipWith_map, List.zipWith_self]
  simp only [hz, hs, if_neg hs0, List.map_map]
  refine Prod.ext rfl ?_
  simp only [List.zipWith_map, List.zipWith_self, Function.comp]
  apply List.map_congr_left
  intro k hk
  have := hcl k hk
  rw [if_neg (not_lt.mpr this)]

/-- column `c` of the output of `quick_prob` on a staircase -/
def qcol (cnts : List Nat) (c : Nat) : List Rat :=
  cnts.map (fun k => (if c < k then 1 else 0) * tRem (Dnum cnts) cnts.length k (c + 1)
    / Dnum cnts c)

theorem colOf_stair (cnts : List Nat) (c : Nat) (hc : c < cnts.length) :
    (colOf (stair cnts) c).map indicator = cnts.map (fun k => if c < k then (1:Rat) else 0) := by
  unfold colOf stair
  rw [List.map_map, List.map_map]
  apply List.map_congr_left
  intro k _
  simp only [Function.comp, stairRow_getD _ _ _ hc]
  by_cases h : c < k <;> simp [h, indicator]

/-- loop invariant of `quick_prob`: before column `n - 1` is processed, row `k` has `tRem … k n` left -/
theorem quickCols_stair (cnts : List Nat) (hall : ∀ c, c < cnts.length → 1 ≤ Dnum cnts c)
    (n : Nat) (hn : n ≤ cnts.length) :
    quickCols (stair cnts) n (cnts.map (fun k => tRem (Dnum cnts) cnts.length k n))
      = ((List.range n).map (qcol cnts)).reverse := by
  induction n with
  | zero => simp [quickCols]
  | succ n ih =>
    have hn' : n < cnts.length := by omega
    have hD1 : 1 ≤ Dnum cnts n := hall n hn'
    have hD0 : 0 < Dnum cnts n := by linarith
    have hne : ∀ c, c < cnts.length → Dnum cnts c ≠ 0 := by
      intro c hc; have := hall c hc; intro h; rw [h] at this; linarith
    have hq := quickCol_map cnts (fun k => if n < k then (1:Rat) else 0)
      (fun k => tRem (Dnum cnts) cnts.length k (n + 1)) (Dnum cnts n)
      (sum_tRem cnts hne (cnts.length - n - 1) n (by omega)) (ne_of_gt hD0)
      (by
        intro k _
        have ht : 0 ≤ tRem (Dnum cnts) cnts.length k (n + 1) :=
          tRem_nonneg _ _ _ _ (fun c _ hc => hall c hc)
        by_cases hk : n < k
        · simp only [hk, if_true, one_mul]
          rw [sub_nonneg, div_le_iff₀ hD0]
          nlinarith
        · simp [hk, ht])
    simp only [quickCols]
    rw [colOf_stair cnts n hn', hq]
    simp only
    have ht : (cnts.map fun k => tRem (Dnum cnts) cnts.length k (n + 1)
          - (if n < k then (1:Rat) else 0) * tRem (Dnum cnts) cnts.length k (n + 1) / Dnum cnts n)
        = cnts.map (fun k => tRem (Dnum cnts) cnts.length k n) := by
      apply List.map_congr_left
      intro k _
      rw [tRem_step _ _ _ n hn']; ring
    rw [ht, ih (by omega), List.range_succ, List.map_append, List.reverse_append]
    rfl

theorem stair_length (cnts : List Nat) : (stair cnts).length = cnts.length := by simp [stair]

theorem ncols_stair (cnts : List Nat) (h : cnts ≠ []) : ncols (stair cnts) = cnts.length := by
  cases cnts with
  | nil => exact absurd rfl h
  | cons k ks => simp [ncols, stair, stairRow]

theorem quickProb_stair (cnts : List Nat) (hall : ∀ c, c < cnts.length → 1 ≤ Dnum cnts c) :
    quickProb (stair cnts) = (List.range cnts.length).map (fun r =>
      (List.range cnts.length).map (fun c => (qcol cnts c).getD r 0)) := by
  by_cases h : cnts = []
  · subst h; rfl
  · unfold quickProb
    simp only [stair_length, ncols_stair cnts h]
    have ht : List.replicate cnts.length (1:Rat)
        = cnts.map (fun k => tRem (Dnum cnts) cnts.length k cnts.length) := by
      simp only [tRem_ge _ _ _ _ (le_refl _)]
      exact List.map_const'.symm
    rw [ht, quickCols_stair cnts hall _ (le_refl _), List.reverse_reverse]
    simp only [List.map_map]
    rfl

theorem sum_map_eraseIdx {α : Type} (f : α → Rat) (l : List α) (r : Nat) (hr : r < l.length) :
    (l.map f).sum = f l[r] + ((l.eraseIdx r).map f).sum := by
  induction l generalizing r with
  | nil => simp at hr
  | cons x xs ih => cases r with
    | zero => simp
    | succ r =>
      simp only [List.length_cons, Nat.add_lt_add_iff_right] at hr
      simp only [List.map_cons, List.sum_cons, List.eraseIdx_cons_succ, List.getElem_cons_succ,
        ih r hr]
      ring

theorem map_succ_range' {β : Type} (H : Nat → β) (s n : Nat) :
    (List.range' s n).map (fun i => H (i + 1)) = (List.range' (s + 1) n).map H := by
  induction n generalizing s with
  | zero => rfl
  | succ n ih => simp only [List.range'_succ, List.map_cons, ih]

theorem prod_map_div (l : List Nat) (f g : Nat → Rat) :
    (l.map f).prod / (l.map g).prod = (l.map (fun i => f i / g i)).prod := by
  induction l with
  | nil => simp
  | cons x xs ih => simp only [List.map_cons, List.prod_cons, ← ih, mul_div_mul_comm]

/-- the count of a row after deleting column `c` -/
def shiftCnt (c k : Nat) : Nat := if c < k then k - 1 else k

def minorCnts (cnts : List Nat) (r c : Nat) : List Nat := (cnts.eraseIdx r).map (shiftCnt c)

theorem lt_shiftCnt (c c' k : Nat) :
    c' < shiftCnt c k ↔ (if c' < c then c' else c' + 1) < k := by
  unfold shiftCnt
  split <;> split <;> omega

theorem stairRow_eraseIdx (m k c : Nat) (hc : c < m) :
    (stairRow m k).eraseIdx c = stairRow (m - 1) (shiftCnt c k) := by
  have e : ∀ (l : Row) (i : Nat) (h : i < l.length), l[i] = l.getD i 0 := fun l i h => by
    simp [List.getD_eq_getElem?_getD, h]
  apply List.ext_getElem
  · simp [stairRow, List.length_eraseIdx, hc]
  · intro i h1 h2
    have hi : i < m - 1 := by simpa [stairRow] using h2
    rw [e _ i h1, e _ i h2, getD_eraseIdx, stairRow_getD _ _ _ hi, stairRow_getD _ _ _ (by omega),
      stairRow_getD _ _ _ (by omega)]
    by_cases h2 : i < c <;> simp only [lt_shiftCnt, h2, if_true, if_false]

theorem minor_stair (cnts : List Nat) (r c : Nat) (hc : c < cnts.length) :
    minor (stair cnts) r c = (minorCnts cnts r c).map (stairRow (cnts.length - 1)) := by
  unfold minor stair minorCnts
  rw [List.eraseIdx_map, List.map_map, List.map_map]
  apply List.map_congr_left
  intro k _
  simp only [Function.comp, stairRow_eraseIdx _ _ _ hc]

theorem minorCnts_length (cnts : List Nat) (r c : Nat) (hr : r < cnts.length) :
    (minorCnts cnts r c).length + 1 = cnts.length := by
  simp only [minorCnts, List.length_map, List.length_eraseIdx_of_lt hr]; omega

/-- the Hall numbers of a minor: column `c'` of the minor is column `c'` (left of the erased column `c`) or
    `c' + 1` of the staircase, and row `r` no longer counts -/
theorem Dnum_minor (cnts : List Nat) (r c c' : Nat) (hr : r < cnts.length) :
    Dnum (minorCnts cnts r c) c'
      = if c' < c then Dnum cnts c' + 1 - (if c' < cnts[r] then 1 else 0)
        else Dnum cnts (c' + 1) - (if c' + 1 < cnts[r] then 1 else 0) := by
  have hl := congrArg (Nat.cast : Nat → Rat) (minorCnts_length cnts r c hr)
  push_cast at hl
  have h1 : cntGt (minorCnts cnts r c) c'
      = ((cnts.eraseIdx r).map (fun k => if (if c' < c then c' else c' + 1) < k then (1:Rat) else 0)).sum := by
    unfold cntGt minorCnts
    rw [List.map_map]
    congr 1
    apply List.map_congr_left
    intro k _
    simp only [Function.comp, lt_shiftCnt]
  have h2 : ∀ d, cntGt cnts d = (if d < cnts[r] then 1 else 0)
      + ((cnts.eraseIdx r).map (fun k => if d < k then (1:Rat) else 0)).sum :=
    fun d => sum_map_eraseIdx _ cnts r hr
  rw [Dnum_eq, h1]
  split
  · rw [Dnum_eq, h2 c']; linarith
  · rw [Dnum_eq, h2 (c' + 1)]; push_cast; linarith

theorem permC_stair (cnts : List Nat) :
    permC (stair cnts) = ((List.range cnts.length).map (Dnum cnts)).prod := by
  unfold permC
  rw [stair_length]
  exact permN_stair _ _ cnts rfl (le_refl _)

theorem prod_Dnum_pos (cnts : List Nat) (hall : ∀ c, c < cnts.length → 1 ≤ Dnum cnts c)
    (l : List Nat) (hl : ∀ i ∈ l, i < cnts.length) : 0 < (l.map (Dnum cnts)).prod := by
  apply List.prod_pos
  intro x hx
  obtain ⟨i, hi, rfl⟩ := List.mem_map.mp hx
  linarith [hall i (hl i hi)]

theorem permC_stair_ne_zero (cnts : List Nat)
    (hall : ∀ c, c < cnts.length → 1 ≤ Dnum cnts c) : permC (stair cnts) ≠ 0 := by
  rw [permC_stair]
  exact ne_of_gt (prod_Dnum_pos cnts hall _ (fun i hi => List.mem_range.mp hi))

theorem permC_minor_stair (cnts : List Nat) (r c : Nat) (hr : r < cnts.length)
    (hck : c < cnts[r]) (hc : c < cnts.length) :
    permC (minor (stair cnts) r c)
      = ((List.range c).map (Dnum cnts)).prod *
        ((List.range' (c + 1) (cnts.length - (c + 1))).map
          (fun i => Dnum cnts i - (if i < cnts[r] then 1 else 0))).prod := by
  have hl := minorCnts_length cnts r c hr
  unfold permC
  rw [minor_stair cnts r c hc]
  have hlen : ((minorCnts cnts r c).map (stairRow (cnts.length - 1))).length
      = cnts.length - 1 := by rw [List.length_map]; omega
  rw [hlen, permN_stair (cnts.length - 1) (cnts.length - 1) (minorCnts cnts r c) (by omega)
    (le_refl _)]
  have hsplit : List.range (cnts.length - 1)
      = List.range' 0 c ++ List.range' c (cnts.length - (c + 1)) := by
    rw [List.range_eq_range']
    have : cnts.length - 1 = c + (cnts.length - (c + 1)) := by omega
    rw [this, ← List.range'_append_1]; simp
  rw [hsplit, List.map_append, List.prod_append, List.range_eq_range']
  congr 1
  · congr 1
    apply List.map_congr_left
    intro c' hc'
    have := List.mem_range'_1.mp hc'
    rw [Dnum_minor cnts r c c' hr, if_pos (by omega), if_pos (by omega)]
    ring
  · rw [← map_succ_range']
    congr 1
    apply List.map_congr_left
    intro c' hc'
    rw [Dnum_minor cnts r c c' hr, if_neg (by have := List.mem_range'_1.mp hc'; omega)]

theorem pSpec_stair (cnts : List Nat) (hall : ∀ c, c < cnts.length → 1 ≤ Dnum cnts c)
    (r c : Nat) (hr : r < cnts.length) (hc : c < cnts.length) :
    pSpec (stair cnts) r c
      = (if c < cnts[r] then 1 else 0) * tRem (Dnum cnts) cnts.length cnts[r] (c + 1)
        / Dnum cnts c := by
  have hentry : entry (stair cnts) r c = if c < cnts[r] then 1 else 0 := by
    unfold entry stair
    have : (List.map (stairRow cnts.length) cnts).getD r [] = stairRow cnts.length cnts[r] := by
      simp [List.getD_eq_getElem?_getD, hr]
    rw [this]
    exact stairRow_getD _ _ _ hc
  unfold pSpec
  rw [hentry]
  by_cases hck : c < cnts[r]
  · simp only [hck, if_true, one_mul]
    rw [permC_minor_stair cnts r c hr hck hc, permC_stair]
    have hsplit : List.range cnts.length
        = List.range' 0 c ++ c :: List.range' (c + 1) (cnts.length - (c + 1)) := by
      rw [List.range_eq_range', ← List.range'_succ]
      have : cnts.length = c + (cnts.length - (c + 1) + 1) := by omega
      conv_lhs => rw [this]
      rw [← List.range'_append_1]; simp
    rw [hsplit, List.map_append, List.prod_append, List.map_cons, List.prod_cons,
      ← List.range_eq_range']
    have hA := prod_Dnum_pos cnts hall (List.range c) (fun i hi => by
      have := List.mem_range.mp hi; omega)
    have hPD := prod_Dnum_pos cnts hall (List.range' (c + 1) (cnts.length - (c + 1))) (fun i hi => by
      have := List.mem_range'_1.mp hi; omega)
    have hDc : 0 < Dnum cnts c := by have := hall c hc; linarith
    have hT : tRem (Dnum cnts) cnts.length cnts[r] (c + 1)
        = ((List.range' (c + 1) (cnts.length - (c + 1))).map
            (fun i => Dnum cnts i - (if i < cnts[r] then 1 else 0))).prod
          / ((List.range' (c + 1) (cnts.length - (c + 1))).map (Dnum cnts)).prod := by
      rw [prod_map_div]
      unfold tRem
      congr 1
      apply List.map_congr_left
      intro i hi
      have : 0 < Dnum cnts i := by
        have := hall i (by have := List.mem_range'_1.mp hi; omega); linarith
      field_simp
    rw [hT]
    field_simp
  · simp [hck]

/-- **`quick_prob` equals the permanent-ratio specification on every 0/1 staircase matrix
    that satisfies Hall's condition** (rows in any order). -/
theorem quickProb_stair_eq_spec (cnts : List Nat)
    (hall : ∀ c, c < cnts.length → 1 ≤ Dnum cnts c) :
    quickProb (stair cnts) = specMat (stair cnts) := by
  rw [quickProb_stair cnts hall]
  unfold specMat
  rw [stair_length]
  apply List.map_congr_left
  intro r hr
  apply List.map_congr_left
  intro c hc
  rw [pSpec_stair cnts hall r c (List.mem_range.mp hr) (List.mem_range.mp hc)]
  simp [qcol, List.getD_eq_getElem?_getD, List.mem_range.mp hr]

theorem quickProb_stair_entry (cnts : List Nat)
    (hall : ∀ c, c < cnts.length → 1 ≤ Dnum cnts c)
    (r c : Nat) (hr : r < cnts.length) (hc : c < cnts.length) :
    entry (quickProb (stair cnts)) r c = pSpec (stair cnts) r c := by
  rw [quickProb_stair_eq_spec cnts hall]
  unfold entry specMat
  simp [stair_length, List.getD_eq_getElem?_getD, hr, hc]

example : ∀ c, c < [1, 2, 4, 4].length → 1 ≤ Dnum [1, 2, 4, 4] c := by decide +kernel
example : quickProb (stair [1, 2, 4, 4]) = specMat (stair [1, 2, 4, 4]) := by decide +kernel
example : quickProb (stair [2, 2, 3]) = [[1/2, 1/2, 0], [1/2, 1/2, 0], [0, 0, 1]] := by decide +kernel
example : quickProb (stair [3, 1, 3]) = specMat (stair [3, 1, 3]) :=
  quickProb_stair_eq_spec _ (by decide +kernel)
/-- Hall's condition is needed: -/
example : quickProb (stair [1, 1]) ≠ specMat (stair [1, 1]) := by decide +kernel

end Infretis.Perm
