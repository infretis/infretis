import Infretis.Lemmas.RepexTreatOutputAdj
import Infretis.Lemmas.RepexC06MultiRestart
/-
C06: several workers, a stop in the final phase of a run (fewer steps left than workers: the worker that
completes a step gets no new job).  The restart re-issues the record and closes the initiation; no pick follows, so the
position of the scheduler stream is never read again.  The model's `restore` leaves that position at 0 until the first
fresh pick (the code restores it in `set_rgen` already), so the equivalence is stated up to that field (`setMD`):
`treat_output` neither reads nor writes it (`treatOutput_adj`).
-/
namespace Infretis.Repex

def nm (d : Nat) (y : Sys) : Sys := { y with s := setMD y.s d }

theorem loop_setMD (s : St) (d : Nat) : loop (setMD s d) = (setMD (loop s).1 d, (loop s).2) := by
  unfold loop
  simp only [show (setMD s d).cstep = s.cstep from rfl, show (setMD s d).tsteps = s.tsteps from rfl]
  split <;> rfl

theorem stepTreat_nm (y : Sys) (d k : Nat) (st : Status) (w : List (List Rat)) :
    stepTreat (nm d y) k st w = (stepTreat y k st w).map (Prod.map (setMD · d) id) :=
  stepTreat_adj y id (fun _ => d) k st w (loop_setMD y.s d)

/-- fewer steps left than workers: the worker that completes a step gets no new job -/
def EndPhase (y : Sys) : Prop := y.s.tsteps < y.s.cstep + 1 + y.s.workers

theorem sysStep_nm_end (y : Sys) (d k : Nat) (st : Status) (w : List (List Rat)) (o : PickOutcome)
    (hend : EndPhase y) :
    sysStep (nm d y) (.step k st w o) = (sysStep y (.step k st w o)).map (nm d) ∧
      ∀ y', sysStep y (.step k st w o) = .ok y' → EndPhase y' := by
  rw [sysStep_step_eq, sysStep_step_eq, stepTreat_nm]
  cases hT : stepTreat y k st w with
  | error e => exact ⟨rfl, fun y' h => nomatch h⟩
  | ok r =>
    obtain ⟨c1, c2, c3, _⟩ := stepTreat_ctr hT
    have hno : ¬ (r.1.cstep + r.1.workers ≤ r.1.tsteps) := by
      rw [c1, c2, c3]; unfold EndPhase at hend; omega
    have hno' : ¬ ((Prod.map (setMD · d) id r).1.cstep + (Prod.map (setMD · d) id r).1.workers ≤ (Prod.map (setMD · d) id r).1.tsteps) := hno
    simp only [Except.map, Except.bind, stepPrep, if_neg hno, if_neg hno']
    refine ⟨rfl, ?_⟩
    intro y' hy'
    simp only [Except.ok.injEq] at hy'
    subst hy'
    unfold EndPhase at hend ⊢
    show r.1.tsteps < r.1.cstep + 1 + r.1.workers
    rw [c1, c2, c3]; omega

theorem run_nm_end (d : Nat) : ∀ (evs : List Ev) (y : Sys), StepsOnly evs → EndPhase y →
    run (nm d y) evs = (run y evs).map (nm d) := by
  intro evs
  induction evs with
  | nil => intro y _ _; rfl
  | cons ev rest ih =>
    intro y hs hend
    cases ev with
    | start o sv => exact hs.elim
    | initDone => exact hs.elim
    | step k st w o =>
      obtain ⟨h1, h2⟩ := sysStep_nm_end y d k st w o hend
      simp only [run]
      rw [h1]
      cases hy : sysStep y (.step k st w o) with
      | error e => rfl
      | ok y' =>
        simp only [Except.map]
        exact ih y' hs (h2 y' hy)

theorem restart_step_multi_end {occ : List (List Int)} {recs : List ((List Nat × List Nat) × Nat)} {s2 s' : St}
    (restJobs : List Job) (hR : RestoreRelM occ recs s2 s') (hS : StopM recs s2 restJobs)
    (hlt : s2.cstep < s2.tsteps) (hmW : recs.length ≤ s2.workers)
    (starts : List (PickOutcome × Nat)) (hlen : starts.length = recs.length)
    {y1 yR : Sys} (h1 : run { s := s', jobs := [] } (starts.map (fun x => Ev.start x.1 x.2)) = .ok y1)
    (h3 : sysStep y1 .initDone = .ok yR) :
    RM s2.rows [] { s := s2, jobs := restJobs } (nm s2.mainDraws yR) ∧ yR.s.cstep = s2.cstep ∧
      yR.s.workers = s2.workers ∧ yR.s.tsteps = s2.tsteps := by
  obtain ⟨jobs, occ1, cw1, hj1, hk1, hs1⟩ := reissue_run_state recs starts _ y1 [] [] hlen
    (by simp [hR.locked0]) (by simp [hR.locked0Ord])
    (by intro x hx; show s'.trajs[x.1]? = _ ∧ x.1 + 1 < s'.trajs.length; rw [hR.trajs]; exact hS.inplace x hx)
    (by show UniqLive s'.trajs; rw [hR.trajs]; exact hS.uniq) h1
  simp only [List.nil_append] at hj1
  simp only [] at hs1 hk1
  obtain ⟨_, hst⟩ := Step.of_ok h3
  cases hst with
  | initDone hnogo =>
    have hc1 : y1.s.cstep < y1.s.tsteps := by
      rw [hs1]; show s'.cstep < s'.tsteps; rw [hR.cstep, hR.tsteps]; exact hlt
    have ht1 : 0 ≤ y1.s.toinitiate := by
      rw [hs1]
      show 0 ≤ s'.toinitiate - (recs.length : Int)
      rw [hR.toinitiate, hR.workers]
      omega
    obtain ⟨c, hc⟩ := initiate_nogo_eq hnogo hc1 ht1
    refine ⟨⟨?_, hS.toinitiate, ?_, ?_⟩, ?_, ?_, ?_⟩
    · show ObsR False 0 s2.rows [] s2 (setMD (initiate y1.s).1 s2.mainDraws)
      rw [hc, hs1]
      exact hR.obs hS occ1 cw1 c (recs.length : Int) (-1) s'.rgenRestored
    · show (setMD (initiate y1.s).1 s2.mainDraws).toinitiate = -1
      rw [hc]; rfl
    · show JobsEq restJobs y1.jobs
      unfold JobsEq
      rw [hS.onRecord, hj1, hk1, hR.entropy]
    · show (initiate y1.s).1.cstep = s2.cstep
      rw [hc, hs1]; exact hR.cstep
    · show (initiate y1.s).1.workers = s2.workers
      rw [hc, hs1]; exact hR.workers
    · show (initiate y1.s).1.tsteps = s2.tsteps
      rw [hc, hs1]; exact hR.tsteps

theorem restart_run_multi_end {occ : List (List Int)} {recs : List ((List Nat × List Nat) × Nat)} {y : Sys} {s' : St}
    (k : Nat) (st : Status) (w : List (List Rat)) (o : PickOutcome) (rest : List Ev) (r : St × Job × List Job)
    (hT : stepTreat y k st w = .ok r) (hR : RestoreRelM occ recs r.1 s') (hS : StopM recs r.1 r.2.2)
    (hend : ¬ (r.1.cstep + r.1.workers ≤ r.1.tsteps)) (hlt : r.1.cstep < r.1.tsteps)
    (hmW : recs.length ≤ r.1.workers) (hsteps : StepsOnly rest)
    {yN : Sys} (hrun : run y (.step k st w o :: rest) = .ok yN)
    (starts : List (PickOutcome × Nat)) (hlen : starts.length = recs.length) {yN' : Sys}
    (hrun' : run { s := s', jobs := [] } (starts.map (fun x => Ev.start x.1 x.2) ++ (.initDone :: rest)) = .ok yN') :
    RM r.1.rows [] yN (nm r.1.mainDraws yN') := by
  obtain ⟨s2, job, restJobs⟩ := r
  simp only [] at hR hS hend hlt hmW hrun' ⊢
  obtain ⟨yU, hU, hrun⟩ := run_cons_ok hrun
  rw [sysStep_step_eq, hT] at hU
  simp only [Except.bind, stepPrep, if_neg hend, Except.ok.injEq] at hU
  subst hU
  obtain ⟨y1, h1, h1'⟩ := run_append_inv _ _ hrun'
  obtain ⟨yR, h3, h1'⟩ := run_cons_ok h1'
  obtain ⟨hrm, e1, e2, e3⟩ := restart_step_multi_end restJobs hR hS hlt hmW starts hlen h1 h3
  have hendR : EndPhase yR := by
    unfold EndPhase
    rw [e1, e2, e3]; omega
  have h4 := run_nm_end s2.mainDraws rest yR hsteps hendR
  rw [h1'] at h4
  exact run_steps_relM rest hsteps hrm hrun h4

end Infretis.Repex
