import Infretis.Model.Fs
/-!
C08 (file-system effect model): association-list disk, frame lemmas
("an effect list that does not touch a key leaves it alone, also when it is cut at any crash
point"), ownership of the effects generated by `outputPath` and `deleteOld`, what the delete_old block
does to the queue.
-/
namespace Infretis.Fs

@[simp] theorem Files.get_set (f : Files) (k k' : Key) (s : FileState) :
    (f.set k s).get k' = if k = k' then s else f.get k' := by
  simp [Files.set, Files.get]

@[simp] theorem run_nil (d : Disk) : run [] d = d := rfl

@[simp] theorem run_cons (e : Effect) (es : List Effect) (d : Disk) :
    run (e :: es) d = run es (e.apply d) := rfl

theorem run_append (a b : List Effect) (d : Disk) : run (a ++ b) d = run b (run a d) := by
  simp [run, List.foldl_append]

@[simp] theorem crashAt_nil (d : Disk) (k : Nat) (half : Bool) : crashAt [] d k half = d := by
  cases half <;> simp [crashAt]

@[simp] theorem crashAt_zero (es : List Effect) (d : Disk) : crashAt es d 0 false = d := rfl

theorem crashAt_cons_zero (e : Effect) (es : List Effect) (d : Disk) :
    crashAt (e :: es) d 0 true = e.applyHalf d := rfl

@[simp] theorem crashAt_cons_succ (e : Effect) (es : List Effect) (d : Disk) (k : Nat) (half : Bool) :
    crashAt (e :: es) d (k + 1) half = crashAt es (e.apply d) k half := rfl

theorem crashAt_append_left (a b : List Effect) (d : Disk) (j : Nat) (half : Bool) (h : j < a.length) :
    crashAt (a ++ b) d j half = crashAt a d j half := by
  unfold crashAt
  rw [List.take_append_of_le_length (Nat.le_of_lt h), List.getElem?_append_left h]

theorem crashAt_append_right (a b : List Effect) (d : Disk) (j : Nat) (half : Bool) (h : a.length ≤ j) :
    crashAt (a ++ b) d j half = crashAt b (run a d) (j - a.length) half := by
  unfold crashAt
  rw [List.take_append, List.take_of_length_le h, run_append, List.getElem?_append_right h]

theorem crashAt_all (es : List Effect) (d : Disk) (j : Nat) (half : Bool) (h : es.length ≤ j) :
    crashAt es d j half = run es d := by
  unfold crashAt
  rw [List.take_of_length_le h, List.getElem?_eq_none h]
  cases half <;> rfl

theorem crashAt_keeps {α : Type} (π : Disk → α) {es : List Effect}
    (h : ∀ e ∈ es, ∀ d, π (e.apply d) = π d ∧ π (e.applyHalf d) = π d) (d : Disk) (k : Nat) (half : Bool) :
    π (crashAt es d k half) = π d := by
  induction es generalizing d k with
  | nil => rw [crashAt_nil]
  | cons e es ih =>
    have he := h e (List.mem_cons_self ..)
    cases k with
    | zero =>
      cases half
      · rfl
      · exact (he d).2
    | succ k => rw [crashAt_cons_succ, ih (fun x hx => h x (List.mem_cons_of_mem _ hx)), (he d).1]

/-- keys of `files` an effect may change -/
def Effect.touch : Effect → List Key
  | .mkdir k | .openW k | .write k _ | .remove k | .rmdir k => [k]
  | .move s t => [s, t]
  | _ => []

/-- effects that leave the data file and both restart files alone -/
def Effect.fileOnly : Effect → Bool
  | .mkdir _ | .openW _ | .write _ _ | .remove _ | .rmdir _ | .move _ _ => true
  | _ => false

theorem touch_frame (e : Effect) (d : Disk) (k : Key) (h : k ∉ e.touch) :
    (e.apply d).files.get k = d.files.get k ∧ (e.applyHalf d).files.get k = d.files.get k := by
  cases e <;> simp only [Effect.touch, List.mem_cons, List.not_mem_nil, or_false, not_or] at h <;>
    simp only [Effect.apply, Effect.applyHalf, setR] <;> (try split) <;>
    simp [eq_comm (b := k), h]

theorem fileOnly_frame (e : Effect) (d : Disk) (h : e.fileOnly = true) :
    ((e.apply d).data = d.data ∧ (e.applyHalf d).data = d.data)
    ∧ ((e.apply d).restart = d.restart ∧ (e.applyHalf d).restart = d.restart)
    ∧ ((e.apply d).tmp = d.tmp ∧ (e.applyHalf d).tmp = d.tmp) := by
  cases e <;> simp only [Effect.fileOnly, Bool.false_eq_true] at h <;>
    simp only [Effect.apply, Effect.applyHalf] <;> (try split) <;> simp

/-- a key lies in the domain given by a set of path numbers `P` and a set of worker file names `W` -/
def Key.inDom (P : Nat → Prop) (W : Nat → Prop) : Key → Prop
  | .wfile n => W n
  | .pdir p | .acc p | .order p | .energy p | .traj p | .tfile p _ => P p

/-- every effect of the list only touches keys of the domain (and no data / restart file) -/
def Owned (P W : Nat → Prop) (es : List Effect) : Prop :=
  ∀ e ∈ es, e.fileOnly = true ∧ ∀ k ∈ e.touch, k.inDom P W

theorem Owned.nil {P W} : Owned P W [] := by intro e he; cases he

theorem Owned.append {P W a b} (ha : Owned P W a) (hb : Owned P W b) : Owned P W (a ++ b) := by
  intro e he
  rcases List.mem_append.1 he with h | h
  · exact ha e h
  · exact hb e h

theorem Owned.mono {P W P' W' es} (h : Owned P W es) (hp : ∀ q, P q → P' q) (hw : ∀ n, W n → W' n) :
    Owned P' W' es := by
  intro e he
  refine ⟨(h e he).1, fun k hk => ?_⟩
  have := (h e he).2 k hk
  cases k <;> simp only [Key.inDom] at this ⊢ <;> first | exact hp _ this | exact hw _ this

theorem Owned.left {P W a b} (h : Owned P W (a ++ b)) : Owned P W a :=
  fun e he => h e (List.mem_append_left _ he)

theorem Owned.right {P W a b} (h : Owned P W (a ++ b)) : Owned P W b :=
  fun e he => h e (List.mem_append_right _ he)

theorem crashAt_frame {P W es} (h : Owned P W es) (d : Disk) (j : Nat) (half : Bool) :
    (∀ k, ¬ k.inDom P W → (crashAt es d j half).files.get k = d.files.get k)
    ∧ (crashAt es d j half).data = d.data ∧ (crashAt es d j half).restart = d.restart
    ∧ (crashAt es d j half).tmp = d.tmp :=
  ⟨fun k hk => crashAt_keeps (·.files.get k)
      (fun e he d => touch_frame e d k (fun hm => hk ((h e he).2 k hm))) d j half,
   crashAt_keeps Disk.data (fun e he d => (fileOnly_frame e d (h e he).1).1) d j half,
   crashAt_keeps Disk.restart (fun e he d => (fileOnly_frame e d (h e he).1).2.1) d j half,
   crashAt_keeps Disk.tmp (fun e he d => (fileOnly_frame e d (h e he).1).2.2) d j half⟩

theorem run_frame {P W es} (h : Owned P W es) (d : Disk) :
    (∀ k, ¬ k.inDom P W → (run es d).files.get k = d.files.get k)
    ∧ (run es d).data = d.data ∧ (run es d).restart = d.restart ∧ (run es d).tmp = d.tmp := by
  rw [← crashAt_all es d es.length false (Nat.le_refl _)]
  exact crashAt_frame h d _ false

theorem owned_key {P W} {e : Effect} {k : Key} (h1 : e.fileOnly = true) (ht : e.touch = [k])
    (hk : k.inDom P W) : Owned P W [e] := by
  intro x hx
  obtain rfl := List.mem_singleton.1 hx
  refine ⟨h1, fun k' hk' => ?_⟩
  rw [ht] at hk'
  exact List.mem_singleton.1 hk' ▸ hk

theorem owned_move {P W} {s t : Key} (hs : s.inDom P W) (ht : t.inDom P W) :
    Owned P W [Effect.move s t] := by
  intro x hx
  obtain rfl := List.mem_singleton.1 hx
  refine ⟨rfl, fun k hk => ?_⟩
  rcases List.mem_cons.1 hk with rfl | hk
  · exact hs
  · exact List.mem_singleton.1 hk ▸ ht

theorem owned_map {α} {P W} (f : α → Effect) (l : List α) (h : ∀ a ∈ l, Owned P W [f a]) :
    Owned P W (l.map f) := by
  intro e he
  obtain ⟨a, ha, rfl⟩ := List.mem_map.1 he
  exact h a ha _ (List.mem_singleton_self _)

theorem moveFiles_owned (pn : Nat) : ∀ (files : List (Nat × Nat)) (d : Disk),
    Owned (· = pn) (fun n => n ∈ files.map Prod.fst) (moveFiles pn files d)
  | [], _ => Owned.nil
  | (n, c) :: rest, d => by
    simp only [moveFiles]
    refine Owned.append (Owned.append ?_ (owned_move (List.mem_cons_self ..) (by exact rfl))) ?_
    · split
      · exact owned_key rfl rfl (by exact rfl)
      · exact Owned.nil
    · exact (moveFiles_owned pn rest _).mono (fun _ h => h) (fun m hm => List.mem_cons_of_mem _ hm)

theorem writeFile_owned {P W} (k : Key) (c : Nat) (hk : k.inDom P W) : Owned P W (writeFile k c) :=
  Owned.append (owned_key rfl rfl hk) (owned_key (e := .write k c) rfl rfl hk)

theorem makeDirs_owned (pn : Nat) (d : Disk) : Owned (· = pn) (fun _ => False) (makeDirs pn d) := by
  unfold makeDirs
  refine Owned.append ?_ (owned_key rfl rfl (by exact rfl))
  split
  · exact owned_key rfl rfl (by exact rfl)
  · exact Owned.nil

theorem outputPath_owned (p : PathInfo) (d : Disk) :
    Owned (· = p.pn) (fun n => n ∈ p.files.map Prod.fst) (outputPath p d) := by
  unfold outputPath
  refine Owned.append (Owned.append (Owned.append (Owned.append ?_ ?_) ?_) ?_) (moveFiles_owned _ _ _)
  · exact (makeDirs_owned p.pn d).mono (fun _ h => h) (fun _ h => h.elim)
  · exact writeFile_owned _ _ (by exact rfl)
  · exact writeFile_owned _ _ (by exact rfl)
  · exact writeFile_owned _ _ (by exact rfl)

theorem delAllRemoves_owned (o : Old) (d : Disk) :
    Owned (· = o.pn) (fun _ => False) (delAllRemoves o d) := by
  unfold delAllRemoves
  refine Owned.append (owned_map _ _ fun k hk => owned_key rfl rfl ?_)
    (owned_map _ _ fun n _ => owned_key rfl rfl (by exact rfl))
  have hk' := (List.mem_filter.1 hk).1
  simp only [txtKeys, List.mem_cons, List.not_mem_nil, or_false] at hk'
  rcases hk' with rfl | rfl | rfl <;> rfl

theorem delEffs_owned (cfg : Cfg) (o : Old) (d : Disk) :
    Owned (· = o.pn) (fun _ => False) (delEffs cfg o d) := by
  unfold delEffs
  refine Owned.append (owned_map _ _ fun n _ => owned_key rfl rfl (by exact rfl)) ?_
  split
  · exact Owned.append (delAllRemoves_owned o _)
      (Owned.append (owned_key rfl rfl (by exact rfl)) (owned_key (e := .rmdir (.pdir o.pn)) rfl rfl (by exact rfl)))
  · exact Owned.nil

/-- what the delete_old block computes: the queue with its oldest entry popped (only when the queue is
    longer than `n - 2`; the effects are then those of deleting that entry) or untouched (no effects),
    and the replaced path pushed or not -/
theorem deleteOld_cases (cfg : Cfg) (old : PathInfo) (olds : List Old) (d : Disk) :
    ∃ extra, (extra = [] ∨ extra = [({ pn := old.pn, names := old.files.map Prod.fst } : Old)])
      ∧ (deleteOld cfg old olds d = ([], olds ++ extra)
         ∨ ∃ o t, olds = o :: t ∧ cfg.n - 2 < olds.length
             ∧ deleteOld cfg old olds d = (delEffs cfg o d, t ++ extra)) := by
  -- `push q` is the queue `q` with the replaced path appended if there is room
  have push : ∀ q : List Old, ∃ extra,
      (extra = [] ∨ extra = [({ pn := old.pn, names := old.files.map Prod.fst } : Old)])
      ∧ (if q.length ≤ cfg.n - 2 then q ++ [{ pn := old.pn, names := old.files.map Prod.fst }] else q)
          = q ++ extra := by
    intro q
    by_cases h : q.length ≤ cfg.n - 2
    · exact ⟨_, Or.inr rfl, if_pos h⟩
    · exact ⟨[], Or.inl rfl, by rw [if_neg h, List.append_nil]⟩
  unfold deleteOld
  by_cases h1 : cfg.deleteOld = true ∧ old.pn > cfg.n - 2
  · rw [if_pos h1]
    by_cases h2 : olds.length > cfg.n - 2
    · cases olds with
      | nil => exact absurd h2 (Nat.not_lt_zero _)
      | cons o t =>
        obtain ⟨extra, hx, he⟩ := push t
        exact ⟨extra, hx, Or.inr ⟨o, t, rfl, h2, by simp only [if_pos h2, he]⟩⟩
    · obtain ⟨extra, hx, he⟩ := push olds
      exact ⟨extra, hx, Or.inl (by simp only [if_neg h2, he])⟩
  · exact ⟨[], Or.inl rfl, Or.inl (by rw [if_neg h1, List.append_nil])⟩

/-- the delete_old block only deletes the oldest queued path, and only when the queue is long: with at
    most `n - 2` entries pushed during this step (`app`), what it deletes was queued before (`rem`) -/
theorem deleteOld_spec (cfg : Cfg) (old : PathInfo) (rem app : List Old) (d : Disk)
    (hlen : app.length + 1 ≤ cfg.n - 1) :
    ∃ rem' app', (deleteOld cfg old (rem ++ app) d).2 = rem' ++ app'
      ∧ (∀ o ∈ rem', o ∈ rem) ∧ app'.length ≤ app.length + 1
      ∧ Owned (fun q => q ∈ rem.map (·.pn)) (fun _ => False) (deleteOld cfg old (rem ++ app) d).1 := by
  obtain ⟨extra, hx, h⟩ := deleteOld_cases cfg old (rem ++ app) d
  have hlx : (app ++ extra).length ≤ app.length + 1 := by
    rcases hx with rfl | rfl <;> simp
  rcases h with h | ⟨o, t, he, hl, h⟩
  · rw [h]
    exact ⟨rem, app ++ extra, List.append_assoc .., fun _ h => h, hlx, Owned.nil⟩
  · cases rem with
    | nil =>
      rw [List.nil_append] at hl
      omega
    | cons o' rem0 =>
      obtain ⟨rfl, rfl⟩ := List.cons.inj he
      rw [h]
      exact ⟨rem0, app ++ extra, List.append_assoc .., fun x hx => List.mem_cons_of_mem _ hx, hlx,
        (delEffs_owned cfg o' d).mono (fun q hq => by simp [hq]) (fun _ h => h)⟩

theorem accOlds_mem (cfg : Cfg) : ∀ (accs : List Acc) (tn : Nat) (olds : List Old) (d : Disk),
    ∀ o ∈ accOlds cfg accs tn olds d,
      o ∈ olds ∨ ∃ a ∈ accs, o = { pn := a.old.pn, names := a.old.files.map Prod.fst }
  | [], _, _, _ => fun o ho => Or.inl ho
  | a :: rest, tn, olds, d => by
    intro o ho
    simp only [accOlds] at ho
    rcases accOlds_mem cfg rest _ _ _ o ho with h | ⟨b, hb, rfl⟩
    · -- the queue the delete block leaves: part of the old one, and possibly the replaced path
      obtain ⟨extra, hx, hq⟩ := deleteOld_cases cfg a.old olds
        (run (outputPath { pn := tn, cid := a.cid, files := a.files } d) d)
      have h' : o ∈ olds ++ extra := by
        rcases hq with hq | ⟨o', t, rfl, _, hq⟩ <;> rw [hq] at h
        · exact h
        · exact (List.mem_append.1 h).elim (fun h => List.mem_append_left _ (List.mem_cons_of_mem _ h))
            (List.mem_append_right _)
      rcases List.mem_append.1 h' with h' | h'
      · exact Or.inl h'
      · rcases hx with rfl | rfl
        · cases h'
        · exact Or.inr ⟨a, List.mem_cons_self .., List.mem_singleton.1 h'⟩
    · exact Or.inr ⟨b, List.mem_cons_of_mem _ hb, rfl⟩

end Infretis.Fs
