import Infretis.Model.LatticeMoves
import Mathlib.Algebra.BigOperators.Group.List.Basic
import Mathlib.Tactic.Ring
/-!
C01, the swap step: `rsum` is `List.sum` (`rsum_eq`); two finite sums in either order, indicator sums; the marginals of a
weighted list of assignments (`marginal_expect`), the enumerated assignments.
-/
namespace Infretis.LatticeMoves

theorem rsum_eq : ∀ l : List Rat, rsum l = l.sum
  | [] => rfl
  | x :: t => by rw [rsum, rsum_eq t, List.sum_cons]

theorem sum_map_sum_comm {α β : Type} (F : α → β → Rat) : ∀ (l1 : List α) (l2 : List β),
    (l1.map fun i => (l2.map (F i)).sum).sum = (l2.map fun a => (l1.map fun i => F i a).sum).sum
  | [], l2 => by simp
  | x :: t, l2 => by simp only [List.map_cons, List.sum_cons, sum_map_sum_comm F t l2, List.sum_map_add]

theorem sum_range_indicator (c : Rat) (g : Nat → Rat) (j0 : Nat) : ∀ M, j0 < M →
    ((List.range M).map fun j => (if some j0 = some j then c else 0) * g j).sum = c * g j0
  | 0, h => by omega
  | M + 1, h => by
    rw [List.range_succ, List.map_append, List.sum_append]
    by_cases hj : j0 = M
    · subst hj
      rw [List.map_congr_left (g := fun _ => (0 : Rat)) fun j hj => by
        have : j < j0 := List.mem_range.1 hj
        have hne : ¬ (some j0 = some j) := by simp; omega
        simp [hne]]
      simp
    · rw [sum_range_indicator c g j0 M (by omega)]
      simp [hj]

/-- **Marginal expectation.**  Σ_j marginal(i,j)·g(j) = Σ_σ w(σ)·g(σ(i)), for path indices below M. -/
theorem marginal_expect (g : Nat → Rat) (i M : Nat) : ∀ as : List (List Nat × Rat),
    (∀ a ∈ as, ∀ j ∈ a.1, j < M) →
    rsum ((List.range M).map (fun j => marginalNum as i j * g j)) = rsum (as.map (fun a => a.2 * atEns a.1 i g))
  | [], _ => by simp [marginalNum, rsum_eq]
  | a :: t, h => by
    have ih := marginal_expect g i M t (fun a' ha' => h a' (by simp [ha']))
    have hsplit : (fun j => marginalNum (a :: t) i j * g j)
        = (fun j => (if a.1[i]? = some j then a.2 else 0) * g j + marginalNum t i j * g j) := by
      funext j; simp only [marginalNum, List.map_cons, rsum]; ring
    rw [rsum_eq] at ih
    rw [hsplit, rsum_eq, List.sum_map_add, ih, List.map_cons, rsum, add_left_inj]
    unfold atEns
    cases hσ : a.1[i]? with
    | none => simp
    | some j0 => exact sum_range_indicator a.2 g j0 M (h a (by simp) j0 (List.mem_of_getElem? hσ))

/-- every enumerated assignment gives each of the n ensembles a path index below n -/
theorem perms_spec : ∀ (n : Nat) (σ : List Nat), σ ∈ perms n → σ.length = n ∧ ∀ j ∈ σ, j < n
  | 0, σ, h => by
    simp [perms] at h
    subst h
    simp
  | n + 1, σ, h => by
    simp only [perms, List.mem_flatMap, List.mem_map, List.mem_range] at h
    obtain ⟨p, hp, k, hk, rfl⟩ := h
    obtain ⟨hl, hlt⟩ := perms_spec n p hp
    constructor
    · simp only [insertAt, List.length_append, List.length_take, List.length_cons, List.length_drop]
      omega
    · intro j hj
      simp only [insertAt, List.mem_append, List.mem_cons] at hj
      rcases hj with hj | hj | hj
      · exact Nat.lt_succ_of_lt (hlt j (List.mem_of_mem_take hj))
      · omega
      · exact Nat.lt_succ_of_lt (hlt j (List.mem_of_mem_drop hj))

theorem assignments_spec (W : List (List Rat)) : ∀ a ∈ assignments W,
    a.1.length = W.length ∧ ∀ j ∈ a.1, j < W.length := by
  intro a ha
  simp only [assignments, List.mem_map] at ha
  obtain ⟨σ, hσ, rfl⟩ := ha
  exact perms_spec W.length σ hσ

end Infretis.LatticeMoves
