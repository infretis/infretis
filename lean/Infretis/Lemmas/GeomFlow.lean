import Infretis.Lemmas.GeomTotal
import Infretis.Model.GeomFlow
/-! Constructors / `create_orderparameter`, `calculate_order` as a whole, one frame of `Path.reverse`. -/
namespace Infretis.Geom

theorem mapM_forall₂ {ε α β : Type} (f : α → Except ε β) (P : α → β → Prop)
    (hP : ∀ a b, f a = .ok b → P a b) :
    ∀ (l : List α) (out : List β), l.mapM f = .ok out → List.Forall₂ P l out := by
  intro l
  induction l with
  | nil =>
    intro out h
    cases h
    exact List.Forall₂.nil
  | cons a t ih =>
    intro out h
    rw [List.mapM_cons] at h
    obtain ⟨b, ha, h⟩ := bind_ok_iff.mp h
    obtain ⟨bs, ht, h⟩ := bind_ok_iff.mp h
    cases h
    exact List.Forall₂.cons (hP a b ha) (ih bs ht)

theorem mapM_length {ε α β : Type} (f : α → Except ε β) (l : List α) (out : List β)
    (h : l.mapM f = .ok out) : out.length = l.length :=
  (List.Forall₂.length_eq (mapM_forall₂ f (fun _ _ => True) (fun _ _ _ => trivial) l out h)).symm

theorem mapM_all_error {ε α β : Type} (f : α → Except ε β) (e : ε) (l : List α) (hne : l ≠ [])
    (h : ∀ a ∈ l, f a = .error e) : l.mapM f = .error e := by
  cases l with
  | nil => exact absurd rfl hne
  | cons a t => rw [List.mapM_cons, h a (List.mem_cons_self ..)]; rfl

theorem mapM_ok_forall {ε α β : Type} (f : α → Except ε β) (P : α → Prop) (hP : ∀ a b, f a = .ok b → P a)
    (l : List α) (out : List β) (h : l.mapM f = .ok out) : ∀ a ∈ l, P a := by
  have h2 := mapM_forall₂ f (fun a _ => P a) hP l out h
  clear h
  induction h2 with
  | nil => intro a ha; cases ha
  | cons hab _ ih =>
    intro a ha
    rcases List.mem_cons.mp ha with rfl | ha
    · exact hab
    · exact ih a ha

theorem verifyPair_ok (idx : IdxVal) (h : verifyPair idx = .ok ()) :
    ∃ l, idx.items? = some l ∧ l.length = 2 := by
  unfold verifyPair at h
  cases hi : idx.items? with
  | none => simp [hi] at h
  | some l =>
    simp only [hi] at h
    by_cases hl : l.length = 2
    · exact ⟨l, rfl, hl⟩
    · simp [hl] at h

theorem verifyPair_wrong_count (idx : IdxVal) (l : List Scalar) (hi : idx.items? = some l) (hl : l.length ≠ 2) :
    verifyPair idx = .error .valueError := by
  unfold verifyPair; simp [hi, hl]

theorem verifyPair_no_len (idx : IdxVal) (hi : idx.items? = none) : verifyPair idx = .error .typeError := by
  unfold verifyPair; simp [hi]

theorem ctorInts_length (n : Nat) (idx : IdxVal) (l : List Int) (h : ctorInts n idx = .ok l) : l.length = n := by
  unfold ctorInts at h
  cases hi : idx.items? with
  | none => simp [hi] at h
  | some items =>
    simp only [hi] at h
    by_cases hl : items.length = n
    · simp only [hl, ne_eq, not_true_eq_false, if_false] at h
      rw [mapM_length pyInt items l h, hl]
    · simp [hl] at h

theorem ctorInts_wrong_count (n : Nat) (idx : IdxVal) (items : List Scalar) (hi : idx.items? = some items)
    (hl : items.length ≠ n) : ctorInts n idx = .error .valueError := by
  unfold ctorInts; simp [hi, hl]

theorem ctorInts_no_len (n : Nat) (idx : IdxVal) (hi : idx.items? = none) : ctorInts n idx = .error .typeError := by
  unfold ctorInts; simp [hi]

theorem mapM_pyInt_ints (l : List Int) : (l.map Scalar.int).mapM pyInt = .ok l := by
  induction l with
  | nil => rfl
  | cons a t ih => simp [List.mapM_cons, pyInt, ih, bind, Except.bind, pure, Except.pure]

/-- the well-formedness a constructed object is guaranteed to have: the COUNT of indices (and the
    dimension of a Velocity); nothing about their range -/
def Obj.WellCounted : Obj → Prop
  | .base => True
  | .distance i _ => ∃ l, i.items? = some l ∧ l.length = 2
  | .distancevel i _ => ∃ l, i.items? = some l ∧ l.length = 2
  | .position i => ∃ l, i.items? = some l ∧ l.length = 2
  | .velocity _ d => d < 3
  | .dihedral l _ => l.length = 4
  | .puckering l _ => l.length = 6

theorem ctorDistance_ok (i : IdxVal) (p : Bool) (o : Obj) (h : ctorDistance i p = .ok o) :
    o = .distance i p ∧ ∃ l, i.items? = some l ∧ l.length = 2 := by
  unfold ctorDistance at h
  obtain ⟨_, hv, h⟩ := bind_ok_iff.mp h
  exact ⟨(Except.ok.inj h).symm, verifyPair_ok i hv⟩

theorem ctorDistancevel_ok (i : IdxVal) (p : Bool) (o : Obj) (h : ctorDistancevel i p = .ok o) :
    o = .distancevel i p ∧ ∃ l, i.items? = some l ∧ l.length = 2 := by
  unfold ctorDistancevel at h
  obtain ⟨_, hv, h⟩ := bind_ok_iff.mp h
  exact ⟨(Except.ok.inj h).symm, verifyPair_ok i hv⟩

theorem ctorPosition_ok (i : IdxVal) (p : Bool) (o : Obj) (h : ctorPosition i p = .ok o) :
    o = .position i ∧ p = false ∧ ∃ l, i.items? = some l ∧ l.length = 2 := by
  unfold ctorPosition at h
  obtain ⟨_, hv, h⟩ := bind_ok_iff.mp h
  cases p with
  | true => cases h
  | false => exact ⟨(Except.ok.inj h).symm, rfl, verifyPair_ok i hv⟩

theorem dimOf_lt (dim : String) (d : Nat) (h : dimOf dim = some d) : d < 3 := by
  unfold dimOf at h
  simp only at h
  split at h
  · simp only [Option.some.injEq] at h; omega
  · split at h
    · simp only [Option.some.injEq] at h; omega
    · split at h
      · simp only [Option.some.injEq] at h; omega
      · cases h

theorem ctorVelocity_ok (i : IdxVal) (dim : String) (o : Obj) (h : ctorVelocity i dim = .ok o) :
    ∃ d, o = .velocity i d ∧ d < 3 := by
  unfold ctorVelocity at h
  cases hd : dimOf dim with
  | none => simp [hd] at h
  | some d =>
    simp only [hd, Except.ok.injEq] at h
    exact ⟨d, h.symm, dimOf_lt dim d hd⟩

theorem ctorDihedral_ok (i : IdxVal) (p : Bool) (o : Obj) (h : ctorDihedral i p = .ok o) :
    ∃ l, o = .dihedral l p ∧ l.length = 4 := by
  unfold ctorDihedral at h
  obtain ⟨l, hc, h⟩ := bind_ok_iff.mp h
  exact ⟨l, (Except.ok.inj h).symm, ctorInts_length 4 i l hc⟩

theorem ctorPuckering_ok (i : IdxVal) (p : Bool) (o : Obj) (h : ctorPuckering i p = .ok o) :
    ∃ l, o = .puckering l p ∧ l.length = 6 := by
  unfold ctorPuckering at h
  obtain ⟨l, hc, h⟩ := bind_ok_iff.mp h
  exact ⟨l, (Except.ok.inj h).symm, ctorInts_length 6 i l hc⟩

theorem map_obj_ok (x : Except CtorErr Obj) (o : Obj) (h : x.map Created.obj = .ok (.obj o)) : x = .ok o := by
  cases x with
  | error e => simp [Except.map] at h
  | ok a => simp only [Except.map, Except.ok.injEq, Created.obj.injEq] at h; rw [h]

/-- the class look-up, forwards: for the key of an indexed class `create_orderparameter` is that class's
    constructor applied to the `index` of the settings -/
theorem create_eq_ctor (st : Settings) (idx : IdxVal) (hi : st.index = some idx) :
    (st.cls.map Char.toLower = "position" →
      createOrderParameter st = (ctorPosition idx (st.periodic.getD true)).map .obj) ∧
    (st.cls.map Char.toLower = "velocity" →
      createOrderParameter st = (ctorVelocity idx (st.dim.getD "x")).map .obj) ∧
    (st.cls.map Char.toLower = "distance" →
      createOrderParameter st = (ctorDistance idx (st.periodic.getD true)).map .obj) ∧
    (st.cls.map Char.toLower = "dihedral" →
      createOrderParameter st = (ctorDihedral idx (st.periodic.getD false)).map .obj) ∧
    (st.cls.map Char.toLower = "distancevel" →
      createOrderParameter st = (ctorDistancevel idx (st.periodic.getD true)).map .obj) ∧
    (st.cls.map Char.toLower = "puckering" →
      createOrderParameter st = (ctorPuckering idx (st.periodic.getD false)).map .obj) := by
  unfold createOrderParameter
  simp only [hi]
  refine ⟨?_, ?_, ?_, ?_, ?_, ?_⟩ <;> intro h <;> rw [h] <;> rfl

theorem create_eq_base (st : Settings) (hk : st.cls.map Char.toLower = "orderparameter") :
    createOrderParameter st = .ok (.obj .base) := by
  unfold createOrderParameter
  rw [hk]; rfl

/-- what a successful `create_orderparameter` guarantees: the right NUMBER of indices, and the base class only
    for `class = "orderparameter"` -/
theorem create_obj_spec (st : Settings) (o : Obj) (h : createOrderParameter st = .ok (.obj o)) :
    o.WellCounted ∧ (o = .base → st.cls.map Char.toLower = "orderparameter") := by
  unfold createOrderParameter at h
  dsimp only at h
  -- the class look-up taken apart with `ite_eq_iff`, not `split`: splitting on a test between strings is slow to check
  rcases ite_eq_iff.mp h with ⟨_, h⟩ | ⟨_, h⟩
  · cases h
  rcases ite_eq_iff.mp h with ⟨hk, h⟩ | ⟨_, h⟩
  · cases h; exact ⟨trivial, fun _ => hk⟩
  cases hi : st.index with
  | none => rw [hi] at h; cases h
  | some idx =>
    rw [hi] at h
    rcases ite_eq_iff.mp h with ⟨_, h⟩ | ⟨_, h⟩
    · obtain ⟨rfl, _, hl⟩ := ctorPosition_ok _ _ _ (map_obj_ok _ _ h); exact ⟨hl, nofun⟩
    rcases ite_eq_iff.mp h with ⟨_, h⟩ | ⟨_, h⟩
    · obtain ⟨d, rfl, hd⟩ := ctorVelocity_ok _ _ _ (map_obj_ok _ _ h); exact ⟨hd, nofun⟩
    rcases ite_eq_iff.mp h with ⟨_, h⟩ | ⟨_, h⟩
    · obtain ⟨rfl, hl⟩ := ctorDistance_ok _ _ _ (map_obj_ok _ _ h); exact ⟨hl, nofun⟩
    rcases ite_eq_iff.mp h with ⟨_, h⟩ | ⟨_, h⟩
    · obtain ⟨l, rfl, hl⟩ := ctorDihedral_ok _ _ _ (map_obj_ok _ _ h); exact ⟨hl, nofun⟩
    rcases ite_eq_iff.mp h with ⟨_, h⟩ | ⟨_, h⟩
    · obtain ⟨rfl, hl⟩ := ctorDistancevel_ok _ _ _ (map_obj_ok _ _ h); exact ⟨hl, nofun⟩
    · obtain ⟨l, rfl, hl⟩ := ctorPuckering_ok _ _ _ (map_obj_ok _ _ h); exact ⟨hl, nofun⟩

/-- Dihedral / Puckering objects always lie in the domain of `calculate` (their indices went through `int()`) -/
theorem dihedral_toOP (l : List Int) (p : Bool) (hl : l.length = 4) : ∃ op, (Obj.dihedral l p).toOP = some op := by
  match l, hl with
  | [a, b, c, d], _ => exact ⟨_, rfl⟩

theorem puckering_toOP (l : List Int) (p : Bool) (hl : l.length = 6) : ∃ op, (Obj.puckering l p).toOP = some op := by
  match l, hl with
  | [a, b, c, d, e, f], _ => exact ⟨_, rfl⟩

theorem toOP_velocityDependent (o : Obj) (op : OP) (h : o.toOP = some op) :
    o.velocityDependent = op.velocityDependent := by
  unfold Obj.toOP at h
  split at h <;> first
    | (simp only [Option.some.injEq] at h; subst h; rfl)
    | cases h

theorem effects_eq (op : OP) (s : Sys) : effects op s = s := by cases op <;> rfl

/-- errors of `calculate` seen through `calculate_order` -/
def liftCO {α : Type} : Except Err α → Except COErr α
  | .ok a => .ok a
  | .error e => .error (.op e)

/-- the velocities the System holds after `if vel is not None: system.vel = vel * -1.0 if system.vel_rev else vel` -/
def coVel (velRev : Bool) (vel0 : List V3) (vel : Option (List V3)) : List V3 :=
  match vel with
  | some v => if velRev then v.map V3.neg else v
  | none => vel0

theorem calculateOrderFull_eq (var : Variant) (fn : Option OP) (s : SysF) (xyz vel : Option (List V3))
    (box : Option (List ℚ)) (file : Config) :
    calculateOrderFull var fn s xyz vel box file =
      (let read := xyz.isNone || vel.isNone || box.isNone
       let P := (if read then file.xyz else xyz).getD s.pos
       let V := coVel s.velRev s.vel (if read then file.vel else vel)
       let B := newBox s.box (if read then file.box else box)
       match fn with
       | none => ⟨.error .noOrderFunction, ⟨P, V, B, s.velRev⟩, read⟩
       | some op => ⟨liftCO (value var op ⟨P, V, B⟩), ⟨P, V, B, s.velRev⟩, read⟩) := by
  simp only [calculateOrderFull]
  generalize (if (xyz.isNone || vel.isNone || box.isNone) = true then file.xyz else xyz) = X
  generalize (if (xyz.isNone || vel.isNone || box.isNone) = true then file.vel else vel) = V
  generalize (if (xyz.isNone || vel.isNone || box.isNone) = true then file.box else box) = B
  cases fn with
  | none => cases X <;> cases V <;> cases B <;> rfl
  | some op =>
    -- `effects` changes nothing, and the inlined error conversion is `liftCO`
    cases X <;> cases V <;> cases B <;>
      simp only [calculate, effects_eq, SysF.toSys, coVel, newBox, Option.getD] <;>
      cases value var op _ <;> rfl

theorem appendAll_eq (maxlen : Option Nat) (fs : List PFrame) (h : ∀ m, maxlen = some m → fs.length ≤ m) :
    appendAll maxlen fs = fs := by
  cases maxlen with
  | none => rfl
  | some m => exact List.take_of_length_le (h m rfl)

theorem recomputeFrame_spec (rv : ReverseVariant) (var : Variant) (op : OP) (f g : PFrame)
    (h : recomputeFrame rv var op f = .ok g) :
    g.sys = f.sys ∧ g.velRev = f.velRev ∧
    (∀ l, value var op (recomputeSys rv f) = .ok l → g.order = .recomputed l) := by
  unfold recomputeFrame at h
  cases hv : value var op (recomputeSys rv f) with
  | ok l =>
    rw [hv] at h; cases h
    exact ⟨rfl, rfl, fun l' hl' => by cases hl'; rfl⟩
  | error e =>
    rw [hv] at h
    cases e with
    | nan => cases h; exact ⟨rfl, rfl, nofun⟩
    | index => cases h

end Infretis.Geom
