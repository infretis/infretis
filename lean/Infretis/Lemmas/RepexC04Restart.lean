import Infretis.Lemmas.RepexC04Once
import Infretis.Lemmas.RepexC03RRestore
import Infretis.Model.DataFile
import Infretis.Lemmas.RepexC03Load
/-!
# C04 — the restart image keeps the fractions of the live paths

`persist` stores `traj_data[pn]['frac']` for the table, `restore` (= `load_paths` on the image) gives
every live path the stored vector back (`restore_image`, for any image; `restore_frac` for `persist s`).
With the table holding exactly the live paths (a quiescent state) the column totals survive, and the
conservation law extends over run – persist – restore – run.
-/
namespace Infretis.Repex.Frac
open Infretis.Repex.Data

theorem imgPaths_eq (im : Image) (n : Nat) (weightOf : Nat → List Rat) :
    imgPaths im n weightOf = (activeKeys im).map (fun pn =>
      (pn, weightOf pn, (im.frac.lookup pn).getD (List.replicate n 0))) := by
  unfold imgPaths activeKeys
  rw [List.map_filterMap]
  apply List.filterMap_congr
  intro o _
  cases o <;> rfl

theorem imgPaths_keys (im : Image) (n : Nat) (weightOf : Nat → List Rat) :
    (imgPaths im n weightOf).map (·.1) = activeKeys im := by
  rw [imgPaths_eq, List.map_map]
  simp [Function.comp_def]

/-- the two tables of the restored state: the active paths in `load_paths` order -/
theorem restore_tables {im : Image} {s' : St} {n workers tsteps : Nat} {occ : List (List Int)}
    {ensEng : List (List Nat)} {weightOf : Nat → List Rat}
    (h : restore im n workers tsteps occ ensEng weightOf = .ok s') :
    s'.frac = (loadOrder (imgPaths im n weightOf)).map (fun p => (p.1, p.2.2)) ∧
    s'.wts = (loadOrder (imgPaths im n weightOf)).map (fun p => (p.1, p.2.1)) := by
  rw [restore_ok h]
  exact ⟨rfl, rfl⟩

/-- **`load_paths` on any restart image**: the restored table holds exactly the active paths (plus paths first,
    then the minus path), each with the vector the image stores for it (zeros if it stores none); its column
    totals are the live weights of the image; the model's row list starts empty; the path counter is the image's -/
theorem restore_image {im : Image} {s' : St} {n workers tsteps : Nat} {occ : List (List Int)}
    {ensEng : List (List Nat)} {weightOf : Nat → List Rat}
    (h : restore im n workers tsteps occ ensEng weightOf = .ok s') :
    (s'.frac.map Prod.fst).Perm (activeKeys im) ∧
    (∀ kv ∈ s'.frac, kv.2 = (im.frac.lookup kv.1).getD (List.replicate n 0)) ∧
    (∀ c, colTotal s'.frac c = liveTotal im c) ∧
    s'.rows = [] ∧ s'.n = n ∧ s'.trajNum = im.trajNum := by
  obtain ⟨hf, _⟩ := restore_tables h
  have hperm := loadOrder_perm (imgPaths im n weightOf)
  have hs := restore_ok h
  refine ⟨?_, ?_, ?_, by rw [hs]; rfl, by rw [hs]; rfl, by rw [hs]; rfl⟩
  · rw [hf, List.map_map, ← imgPaths_keys im n weightOf]
    exact hperm.map _
  · intro kv hkv
    rw [hf] at hkv
    obtain ⟨p, hpm, rfl⟩ := List.mem_map.mp hkv
    have hpm' := hperm.mem_iff.mp hpm
    rw [imgPaths_eq] at hpm'
    obtain ⟨pn, _, rfl⟩ := List.mem_map.mp hpm'
    rfl
  · intro c
    have e : colTotal s'.frac c
        = ((loadOrder (imgPaths im n weightOf)).map (fun p : Nat × List Rat × List Rat => p.2.2.getD c 0)).sum := by
      rw [hf]
      unfold colTotal
      rw [List.map_map]
      rfl
    rw [e, (hperm.map _).sum_eq, imgPaths_eq, List.map_map]
    unfold liveTotal
    congr 1
    apply List.map_congr_left
    intro pn _
    simp only [Function.comp_def]
    cases im.frac.lookup pn with
    | none =>
      show (List.replicate n (0 : Rat)).getD c 0 = ([] : List Rat).getD c 0
      rw [getD_replicate_self]
      rfl
    | some v => rfl

theorem restore_cstep {im : Image} {s' : St} {n workers tsteps : Nat} {occ : List (List Int)}
    {ensEng : List (List Nat)} {weightOf : Nat → List Rat}
    (h : restore im n workers tsteps occ ensEng weightOf = .ok s') : s'.cstep = im.cstep := by
  rw [restore_ok h]
  rfl

theorem restore_congr (im : Image) (n workers tsteps : Nat) (occ : List (List Int)) (ensEng : List (List Nat))
    (w1 w2 : Nat → List Rat) (hw : ∀ pn ∈ activeKeys im, w1 pn = w2 pn) :
    restore im n workers tsteps occ ensEng w1 = restore im n workers tsteps occ ensEng w2 := by
  have hp : im.active.filterMap (fun o => o.map (fun pn =>
        (pn, w1 pn, (im.frac.lookup pn).getD (List.replicate n 0))))
      = im.active.filterMap (fun o => o.map (fun pn =>
        (pn, w2 pn, (im.frac.lookup pn).getD (List.replicate n 0)))) := by
    apply List.filterMap_congr
    intro o ho
    cases o with
    | none => rfl
    | some pn =>
      have : pn ∈ activeKeys im := by
        unfold activeKeys
        exact mem_fm.mpr ho
      simp only [Option.map_some]
      rw [hw pn this]
  unfold restore
  simp only []
  rw [hp]

theorem restore_wts_lookup {im : Image} {s' : St} {n workers tsteps : Nat} {occ : List (List Int)}
    {ensEng : List (List Nat)} {weightOf : Nat → List Rat}
    (h : restore im n workers tsteps occ ensEng weightOf = .ok s') (pn : Nat) (hp : pn ∈ activeKeys im) :
    s'.wts.lookup pn = some (weightOf pn) := by
  have hperm := loadOrder_perm (imgPaths im n weightOf)
  rw [(restore_tables h).2]
  refine Assoc.lookup_of_keyed (fun kv hkv => ?_) ?_
  · obtain ⟨p, hpm, rfl⟩ := List.mem_map.mp hkv
    have := hperm.mem_iff.mp hpm
    rw [imgPaths_eq] at this
    obtain ⟨q, _, rfl⟩ := List.mem_map.mp this
    rfl
  · rw [List.map_map]
    exact ((hperm.map (·.1)).mem_iff.trans (by rw [imgPaths_keys])).mpr hp

theorem restore_workers {im : Image} {s' : St} {n workers tsteps : Nat} {occ : List (List Int)}
    {ensEng : List (List Nat)} {weightOf : Nat → List Rat}
    (h : restore im n workers tsteps occ ensEng weightOf = .ok s') : s'.workers = workers := by
  rw [restore_ok h]
  rfl

/-- **`restore (persist s)`**: the restored table has exactly the live paths of `s` as keys (in
    `load_paths` order), each with the vector it had in `s` (zeros if it had none); the data-file
    list of the new run starts empty. -/
theorem restore_frac {s s' : St} {n workers tsteps : Nat} {occ : List (List Int)}
    {ensEng : List (List Nat)} {weightOf : Nat → List Rat}
    (h : restore (persist s) n workers tsteps occ ensEng weightOf = .ok s') :
    (s'.frac.map Prod.fst).Perm ((livePaths s).filterMap id) ∧
    (∀ kv ∈ s'.frac, kv.2 = (s.frac.lookup kv.1).getD (List.replicate n 0)) ∧
    s'.rows = [] ∧ s'.n = n ∧ s'.trajNum = s.trajNum := by
  obtain ⟨a1, a2, _, a4, a5, a6⟩ := restore_image h
  exact ⟨a1, a2, a4, a5, a6⟩

theorem restore_lookup {s s' : St} {n workers tsteps : Nat} {occ : List (List Int)}
    {ensEng : List (List Nat)} {weightOf : Nat → List Rat}
    (h : restore (persist s) n workers tsteps occ ensEng weightOf = .ok s') (pn : Nat)
    (hl : some pn ∈ livePaths s) :
    s'.frac.lookup pn = some ((s.frac.lookup pn).getD (List.replicate n 0)) := by
  obtain ⟨hk, hv, _⟩ := restore_frac h
  exact Assoc.lookup_of_keyed (g := fun k => (s.frac.lookup k).getD (List.replicate n 0)) hv
    (hk.mem_iff.mpr (mem_fm.mpr hl))

theorem colTotal_of_keyed {l : List (Nat × List Rat)} {g : Nat → List Rat} (h : ∀ kv ∈ l, kv.2 = g kv.1)
    (c : Nat) : colTotal l c = ((l.map Prod.fst).map (fun k => (g k).getD c 0)).sum := by
  unfold colTotal
  rw [List.map_map]
  refine congrArg List.sum (List.map_congr_left fun kv hkv => ?_)
  rw [h kv hkv]
  rfl

theorem restore_colTotal {s s' : St} {n workers tsteps : Nat} {occ : List (List Int)}
    {ensEng : List (List Nat)} {weightOf : Nat → List Rat}
    (h : restore (persist s) n workers tsteps occ ensEng weightOf = .ok s')
    (hk : (s.frac.map Prod.fst).Nodup)
    (htab : (s.frac.map Prod.fst).Perm ((livePaths s).filterMap id)) (c : Nat) :
    colTotal s'.frac c = colTotal s.frac c := by
  obtain ⟨hp, hv, _⟩ := restore_frac h
  let g : Nat → List Rat := fun k => (s.frac.lookup k).getD (List.replicate n 0)
  have h1 := colTotal_of_keyed (g := g) hv c
  have h2 := colTotal_of_keyed (l := s.frac) (g := g) (fun kv hkv => by
    show kv.2 = (s.frac.lookup kv.1).getD _
    rw [Assoc.lookup_of_mem hk hkv]
    rfl) c
  rw [h1, h2]
  exact List.Perm.sum_eq (M := Rat) ((hp.trans htab.symm).map _)

theorem live_nodup_bound {y : Sys} (hi : HInv y) (r : RInv y) :
    ((livePaths y.s).filterMap id).Nodup ∧ ∀ pn, some pn ∈ livePaths y.s → pn < y.s.trajNum :=
  ⟨r.liveNodup.sublist ((List.dropLast_sublist _).filterMap id),
   fun pn hm => hi.fw.bound pn (r.liveFrac pn ((List.dropLast_sublist _).subset hm))⟩

theorem restore_fracWF {y1 : Sys} {s2 : St} {workers tsteps : Nat} {occ : List (List Int)}
    {ensEng : List (List Nat)} {weightOf : Nat → List Rat} (hi : HInv y1) (r : RInv y1)
    (h : restore (persist y1.s) y1.s.n workers tsteps occ ensEng weightOf = .ok s2) : FracWF s2 := by
  obtain ⟨hk, hv, _, hn, ht⟩ := restore_frac h
  obtain ⟨hlnd, hbound⟩ := live_nodup_bound hi r
  constructor
  · exact hk.nodup_iff.mpr hlnd
  · intro kv hkv
    rw [hv kv hkv, hn]
    cases hl : y1.s.frac.lookup kv.1 with
    | none => simp
    | some v => exact hi.fw.flen _ (Assoc.mem_of_lookup hl)
  · intro k hkm
    rw [ht]
    exact hbound k (mem_fm.mp (hk.mem_iff.mp hkm))

theorem restore_init {y1 : Sys} {s2 : St} {workers tsteps : Nat} {occ : List (List Int)}
    {ensEng : List (List Nat)} {weightOf : Nat → List Rat} (hi : HInv y1) (r : RInv y1)
    (hlk : y1.s.locked = [])
    (h : restore (persist y1.s) y1.s.n workers tsteps occ ensEng weightOf = .ok s2) :
    Init ⟨s2, []⟩ ∧ FracWF s2 := by
  refine ⟨?_, restore_fracWF hi r h⟩
  have hc := hi.inv.core.coreR
  obtain ⟨_, rfl⟩ := (restore_persist_ok_iff hc.allLive).mp h
  obtain ⟨hlive, hinj⟩ := restoredSt_live hc workers tsteps occ ensEng weightOf
  refine ⟨rfl, hc.n2, restoredSt_lenW hc.allLive .., restoredSt_lenT hc.allLive .., rfl, hlive, hinj, ?_, rfl⟩
  show y1.s.locked.map _ = []
  rw [hlk]
  rfl

/-- the two slot clauses of `RowInit` -/
def LiveOK (s : St) : Prop :=
  (∀ pn, some pn ∈ s.trajs → pn ∈ s.frac.map Prod.fst) ∧ (s.trajs.filterMap id).Nodup

theorem loadPaths_live {n : Nat} {s0 s : St} {paths : List (Nat × List Rat × List Rat)} (h0 : Fresh n s0)
    (hnd : (paths.map (·.1)).Nodup) (h : loadPaths s0 paths = .ok s) : LiveOK s := by
  obtain ⟨_, _, rfl⟩ := loadPaths_ok_iff.mp h
  have htr : (loadedSt s0 paths).trajs.filterMap id = (paths.take s0.trajs.length).map (·.1) := by
    show (fillL s0.trajs 0 _).filterMap id = _
    have hd : (s0.trajs.drop (paths.map fun p => some p.1).length).filterMap id = [] :=
      List.filterMap_eq_nil_iff.mpr (fun t ht => by
        have := List.mem_of_mem_drop ht
        rw [h0.trajs] at this
        rw [(List.mem_replicate.mp this).2]
        rfl)
    rw [fillL_zero, List.filterMap_append, hd, List.append_nil, ← List.map_take, List.filterMap_map]
    exact congrFun List.filterMap_eq_map _
  refine ⟨fun q hq => ?_, by rw [htr]; exact hnd.sublist ((List.take_sublist _ _).map _)⟩
  have hq' : q ∈ paths.map (·.1) := by
    have := mem_fm.mpr hq
    rw [htr] at this
    exact ((List.take_sublist _ _).map _).subset this
  rw [(loadedSt_keys s0 paths).1]
  exact List.mem_append_right _ (((loadOrder_perm paths).map _).mem_iff.mpr hq')

theorem _root_.Infretis.Repex.FreshLoad.rowInit {n : Nat} {paths : List (Nat × List Rat × List Rat)} {s : St} (hf : FreshLoad n paths s)
    (hz : ∀ p ∈ paths, p.2.2 = List.replicate n 0) : RowInit ⟨s, []⟩ := by
  have hinit := hf.init
  obtain ⟨workers, tsteps, cstep, trajNum, seed, occ, ensEng, restarted, hn, hlen, hnd, hlt, h⟩ := hf
  have hL : LiveOK s :=
    loadPaths_live (fresh_blank n workers tsteps cstep trajNum seed occ ensEng restarted []) hnd h
  obtain ⟨_, _, rfl⟩ := loadPaths_ok_iff.mp h
  have hperm := loadOrder_perm paths
  -- the table: the loaded paths with their (zero) fraction vectors
  have hmem : ∀ kv ∈ (loadedSt (blank n workers tsteps cstep trajNum seed occ ensEng restarted []) paths).frac,
      ∃ p ∈ paths, kv = (p.1, p.2.2) := fun kv hkv => by
    obtain ⟨p, hpm, rfl⟩ := List.mem_map.mp (show kv ∈ (loadOrder paths).map _ from hkv)
    exact ⟨p, hperm.subset hpm, rfl⟩
  refine ⟨⟨hinit, ⟨?_, ?_, ?_⟩, ?_, rfl⟩, hL.1, hL.2⟩
  · show (((loadOrder paths).map _).map Prod.fst).Nodup
    rw [List.map_map]
    exact (hperm.map _).nodup_iff.mpr hnd
  · intro kv hkv
    obtain ⟨p, hp, rfl⟩ := hmem kv hkv
    show p.2.2.length = n
    rw [hz p hp, List.length_replicate]
  · intro k hk
    obtain ⟨kv, hkv, rfl⟩ := List.mem_map.mp hk
    obtain ⟨p, hp, rfl⟩ := hmem kv hkv
    exact hlt p hp
  · intro kv hkv x hx
    obtain ⟨p, hp, rfl⟩ := hmem kv hkv
    rw [hz p hp] at hx
    exact (List.mem_replicate.mp hx).2

end Infretis.Repex.Frac
