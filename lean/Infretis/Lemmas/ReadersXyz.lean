import Infretis.Lemmas.Readers
/-!
# Lemmas for C13: `xyz_reader` — one frame, then one poll from a frame boundary
-/
namespace Infretis.Readers

/-- the text of one xyz frame, line by line, as the MD program writes it -/
structure XyzF where
  cnt : Line
  cmt : Line
  atoms : List Line

def XyzF.lines (f : XyzF) : List Line := f.cnt :: f.cmt :: f.atoms
def XyzF.enc (f : XyzF) : List Char := f.lines.flatten
def XyzF.len (f : XyzF) : Nat := f.enc.length

def xrow (a : Line) : List Tok := (split a).drop 1

/-- the values of the frame: for every atom line the three coordinate tokens, exactly as written -/
def XyzF.decode (f : XyzF) : XFrame := f.atoms.map xrow

structure XAtomOK (a : Line) : Prop where
  line : IsLine a
  len : (split a).length = 4
  fl : ((split a).drop 1).all floatOk = true

/-- well-formed frame of `N` atoms: complete lines; the count line's first token is the integer `N`;
    any comment line; `N` atom lines of four tokens whose last three are float literals.
    Any amount of blanks before, between and after the tokens. -/
structure XyzF.WF (N : Nat) (f : XyzF) : Prop where
  cnt : IsLine f.cnt
  cntTok : ∃ t rest, split f.cnt = t :: rest ∧ parseInt t = some (N : Int)
  cmt : IsLine f.cmt
  natoms : f.atoms.length = N
  atoms : ∀ a ∈ f.atoms, XAtomOK a

theorem XyzF.WF.allLines {N : Nat} {f : XyzF} (h : f.WF N) : ∀ l ∈ f.lines, IsLine l := by
  intro l hl
  simp only [XyzF.lines, List.mem_cons] at hl
  rcases hl with rfl | rfl | hl
  · exact h.cnt
  · exact h.cmt
  · exact (h.atoms l hl).line

theorem XyzF.lines_length {N : Nat} {f : XyzF} (h : f.WF N) : f.lines.length = N + 2 := by
  simp [XyzF.lines, h.natoms]

theorem pyMod_nat2 (a N : Nat) : pyMod a ((N : Int) + 2) = ((a % (N + 2) : Nat) : Int) := by
  have := pyMod_nat a (N + 2) (by omega)
  simpa using this

theorem xyzStep_atom (v : Variant) (N : Nat) (a : Line) (ha : XAtomOK a) (st : XSt) (r : Nat)
    (hr : st.i % (N + 2) = r) (hr2 : 2 ≤ r) (hna : st.natoms = N) (hb : st.block = (N : Int) + 2) :
    xyzStep v st a = .cont (xEnd st N ((N : Int) + 2) r (st.cur ++ [xrow a]) (st.tell + a.length)) := by
  have hi : st.i ≠ 0 := by
    intro h0; rw [h0] at hr; simp at hr; omega
  have hbl : ¬ ((N : Int) + 2 = 0) := by omega
  have hr1 : ((r : Nat) : Int) > 1 := by omega
  simp only [xyzStep, ha.line.endsNl, xHeader, hi, hna, hb, if_false, pyMod_nat2, hr, hbl, hr1,
    if_true, ha.len, ha.fl, xrow, ne_eq, not_true_eq_false, and_false, reduceCtorEq]

theorem xyzRun_atoms (v : Variant) (N : Nat) (as : List Line) (hwf : ∀ a ∈ as, XAtomOK a)
    (i0 : Nat) (hi0 : i0 % (N + 2) = 0) (done : Nat) (hlen : done + as.length ≤ N)
    (cur : List (List Tok)) (traj : List XFrame) (pos tell : Nat) :
    resRun (xyzStep v) as
        { i := i0 + 2 + done, natoms := N, block := (N : Int) + 2, cur := cur, traj := traj, pos := pos, tell := tell }
      = .cont (if done + as.length = N ∧ 0 < as.length then
          { i := i0 + 2 + done + as.length, natoms := N, block := (N : Int) + 2, cur := [],
            traj := traj ++ [cur ++ as.map xrow], pos := tell + as.flatten.length,
            tell := tell + as.flatten.length }
        else
          { i := i0 + 2 + done + as.length, natoms := N, block := (N : Int) + 2,
            cur := cur ++ as.map xrow, traj := traj, pos := pos, tell := tell + as.flatten.length }) := by
  induction as generalizing done cur tell with
  | nil => simp [resRun]
  | cons a as ih =>
    have ha := hwf a (by simp)
    have has : ∀ x ∈ as, XAtomOK x := fun x hx => hwf x (by simp [hx])
    simp only [List.length_cons] at hlen
    have hmod : (i0 + 2 + done) % (N + 2) = 2 + done := by
      rw [Nat.add_assoc]; exact add_mod_of_mod_zero i0 (2 + done) (N + 2) hi0 (by omega)
    simp only [resRun]
    rw [xyzStep_atom v N a ha _ (2 + done) hmod (Nat.le_add_right 2 done) rfl rfl]
    by_cases hlast : done + 1 = N
    · -- last atom line of the frame
      obtain rfl : as = [] := List.eq_nil_of_length_eq_zero (by omega)
      have h1 : ((2 + done : Nat) : Int) = (N : Int) + 1 := by omega
      simp [xEnd, h1, resRun, hlast]
    · have h1 : ¬ (((2 + done : Nat) : Int) = (N : Int) + 1) := by omega
      simp only [xEnd, h1, false_and, if_false]
      have := ih has (done + 1) (by omega) (cur ++ [xrow a]) (tell + a.length)
      have e1 : i0 + 2 + done + 1 = i0 + 2 + (done + 1) := by omega
      rw [e1, this]
      have e2 : done + 1 + as.length = N ↔ done + (as.length + 1) = N := by omega
      have e3 : (done + 1 + as.length = N ∧ 0 < as.length) ↔ (done + (as.length + 1) = N ∧ 0 < as.length + 1) := by
        omega
      simp only [e3, List.length_cons, List.map_cons, List.flatten_cons, List.length_append,
        List.append_assoc, List.cons_append, List.nil_append]
      rw [show i0 + 2 + (done + 1) + as.length = i0 + 2 + done + (as.length + 1) by omega,
        Nat.add_assoc tell]

/-- state in which the loop meets the first line of a frame -/
structure XReady (N : Nat) (st : XSt) : Prop where
  cur : st.cur = []
  imod : st.i % (N + 2) = 0
  hdr : st.i = 0 ∨ (st.natoms = N ∧ st.block = (N : Int) + 2)
  pos : st.pos = st.tell

theorem xInit_ready (N pos : Nat) : XReady N (xInit pos) :=
  ⟨rfl, by simp [xInit], Or.inl rfl, rfl⟩

theorem xyzStep_cnt (v : Variant) (N : Nat) (f : XyzF) (hf : f.WF N) (st : XSt) (hst : XReady N st) :
    xyzStep v st f.cnt =
      .cont { i := st.i + 1, natoms := N, block := (N : Int) + 2, cur := [],
              traj := st.traj, pos := st.pos, tell := st.tell + f.cnt.length } := by
  obtain ⟨t, rest, hs, hp⟩ := hf.cntTok
  have hbl : ¬ ((N : Int) + 2 = 0) := by omega
  have h01 : ¬ ((0 : Int) = (N : Int) + 1) := by omega
  by_cases h0 : st.i = 0
  · simp [xyzStep, hf.cnt.endsNl, xHeader, h0, hs, hp, hbl, pyMod_nat2, xEnd, hst.cur]
  · rcases hst.hdr with h | ⟨hn, hb⟩
    · exact absurd h h0
    · simp [xyzStep, hf.cnt.endsNl, xHeader, h0, hn, hb, hbl, pyMod_nat2, xEnd, hst.cur, hst.imod, h01]

theorem xyzStep_cmt (v : Variant) (N : Nat) (hN : 1 ≤ N) (l : Line) (hl : IsLine l) (i0 : Nat)
    (hi0 : i0 % (N + 2) = 0) (traj : List XFrame) (pos tell : Nat) :
    xyzStep v { i := i0 + 1, natoms := N, block := (N : Int) + 2, cur := [], traj := traj, pos := pos,
                tell := tell } l
      = .cont { i := i0 + 2, natoms := N, block := (N : Int) + 2, cur := [], traj := traj, pos := pos,
                tell := tell + l.length } := by
  have hbl : ¬ ((N : Int) + 2 = 0) := by omega
  have hmod : (i0 + 1) % (N + 2) = 1 := add_mod_of_mod_zero i0 1 (N + 2) hi0 (by omega)
  have h11 : ¬ ((1 : Int) = (N : Int) + 1) := by omega
  simp [xyzStep, hl.endsNl, xHeader, hbl, pyMod_nat2, hmod, xEnd, h11]

theorem xyzRun_frame_prefix (v : Variant) (N : Nat) (hN : 1 ≤ N) (f : XyzF) (hf : f.WF N) (st : XSt)
    (hst : XReady N st) (k : Nat) (hk : k < N + 2) :
    ∃ st', resRun (xyzStep v) (f.lines.take k) st = .cont st' ∧ st'.traj = st.traj ∧ st'.pos = st.pos := by
  match k with
  | 0 => exact ⟨st, by simp [resRun], rfl, rfl⟩
  | 1 =>
    simp only [XyzF.lines, List.take_succ_cons, List.take_zero, resRun, xyzStep_cnt v N f hf st hst]
    exact ⟨_, rfl, rfl, rfl⟩
  | k + 2 =>
    have hlen : 0 + (f.atoms.take k).length ≤ N := by simp [hf.natoms]; omega
    have hwf : ∀ a ∈ f.atoms.take k, XAtomOK a := fun a ha => hf.atoms a (List.mem_of_mem_take ha)
    have hne : ¬ (0 + (f.atoms.take k).length = N ∧ 0 < (f.atoms.take k).length) := by
      rw [List.length_take, hf.natoms]; omega
    simp only [XyzF.lines, List.take_succ_cons, resRun, xyzStep_cnt v N f hf st hst,
      xyzStep_cmt v N hN f.cmt hf.cmt st.i hst.imod]
    have := xyzRun_atoms v N (f.atoms.take k) hwf st.i hst.imod 0 hlen [] st.traj st.pos
      (st.tell + f.cnt.length + f.cmt.length)
    simp only [Nat.add_zero] at this
    rw [this, if_neg hne]
    exact ⟨_, rfl, rfl, rfl⟩

/-- a whole frame: appended, position moved behind it, loop ready for the next frame -/
theorem xyzRun_frame (v : Variant) (N : Nat) (hN : 1 ≤ N) (f : XyzF) (hf : f.WF N) (st : XSt)
    (hst : XReady N st) :
    resRun (xyzStep v) f.lines st =
      .cont { i := st.i + (N + 2), natoms := N, block := (N : Int) + 2, cur := [],
              traj := st.traj ++ [f.decode], pos := st.tell + f.enc.length,
              tell := st.tell + f.enc.length } := by
  have hlen : 0 + f.atoms.length ≤ N := by simp [hf.natoms]
  have hne : 0 + f.atoms.length = N ∧ 0 < f.atoms.length := by rw [hf.natoms]; omega
  simp only [XyzF.lines, resRun, xyzStep_cnt v N f hf st hst,
    xyzStep_cmt v N hN f.cmt hf.cmt st.i hst.imod]
  have := xyzRun_atoms v N f.atoms hf.atoms st.i hst.imod 0 hlen [] st.traj st.pos
    (st.tell + f.cnt.length + f.cmt.length)
  simp only [Nat.add_zero] at this
  rw [this, if_pos hne]
  simp only [XyzF.decode, XyzF.enc, XyzF.lines, List.flatten_cons, List.length_append, hf.natoms,
    List.nil_append, Res.cont.injEq, XSt.mk.injEq, true_and]
  omega

theorem xyzRun_frame_ready (N : Nat) (f : XyzF) (st : XSt) (hst : XReady N st) :
    XReady N
      { i := st.i + (N + 2), natoms := N, block := (N : Int) + 2, cur := [],
        traj := st.traj ++ [f.decode], pos := st.tell + f.enc.length,
        tell := st.tell + f.enc.length } :=
  ⟨rfl, by simp [hst.imod], Or.inr ⟨rfl, rfl⟩, rfl⟩

/-- the visible text is empty or ends with a newline (a cut at a line end) -/
def LineEnd (s : List Char) : Prop := s = [] ∨ endsNl s = true

theorem LineEnd_of_append {a b : List Char} (h : LineEnd (a ++ b)) : LineEnd b := by
  by_cases hb : b = []
  · exact Or.inl hb
  · right
    rcases h with h | h
    · simp at h; exact absurd h.2 hb
    · simp only [endsNl, List.getLast?_append] at h ⊢
      cases hg : b.getLast? with
      | none => simp [List.getLast?_eq_none_iff] at hg; exact absurd hg hb
      | some c => simpa [hg] using h

/-- **one poll, loop level**: from a frame boundary the loop returns exactly the frames that are
    completely inside the `n` visible bytes, and leaves the position behind the last of them. -/
theorem xyzRun_frames (v : Variant) (N : Nat) (hN : 1 ≤ N) (rest : List XyzF)
    (hwf : ∀ f ∈ rest, f.WF N) (n : Nat) (st : XSt) (hst : XReady N st)
    (hv : v = .repaired ∨ LineEnd ((rest.map XyzF.enc).flatten.take n)) :
    finish (fun st => (st.traj, st.pos)) (resRun (xyzStep v) (lines ((rest.map XyzF.enc).flatten.take n)) st)
      = .ok (st.traj ++ (rest.map XyzF.decode).take (completeCount (rest.map XyzF.len) n),
             st.pos + sumLens ((rest.map XyzF.len).take (completeCount (rest.map XyzF.len) n))) := by
  induction rest generalizing n st with
  | nil => simp [lines, resRun, finish, completeCount, sumLens]
  | cons f rest ih =>
    have hf := hwf f (by simp)
    have hrest : ∀ g ∈ rest, g.WF N := fun g hg => hwf g (by simp [hg])
    simp only [List.map_cons, List.flatten_cons]
    by_cases hle : f.enc.length ≤ n
    · rw [List.take_append, List.take_of_length_le hle]
      have hv' : v = .repaired ∨ LineEnd ((rest.map XyzF.enc).flatten.take (n - f.enc.length)) := by
        rcases hv with h | h
        · exact Or.inl h
        · right
          simp only [List.map_cons, List.flatten_cons] at h
          rw [List.take_append, List.take_of_length_le hle] at h
          exact LineEnd_of_append h
      have hl := lines_flatten_append f.lines hf.allLines
        (List.take (n - f.enc.length) (List.map XyzF.enc rest).flatten)
      rw [show f.enc ++ List.take (n - f.enc.length) (List.map XyzF.enc rest).flatten
            = f.lines.flatten ++ List.take (n - f.enc.length) (List.map XyzF.enc rest).flatten from rfl,
        hl, resRun_append, xyzRun_frame v N hN f hf st hst]
      simp only []
      rw [ih hrest _ _ (xyzRun_frame_ready N f st hst) hv']
      have hcc : completeCount (f.len :: rest.map XyzF.len) n
          = completeCount (rest.map XyzF.len) (n - f.len) + 1 := by
        simp [completeCount, XyzF.len, hle]
      rw [hcc]
      simp only [List.take_succ_cons, sumLens, List.append_assoc, List.cons_append, List.nil_append,
        XyzF.len, hst.pos]
      congr 2
      omega
    · have hlt : n < f.enc.length := by omega
      have hcc : completeCount (f.len :: rest.map XyzF.len) n = 0 := by
        simp [completeCount, XyzF.len, hle]
      rw [hcc, List.take_append_of_le_length (by omega)]
      obtain ⟨k, p, hk, hp, he, hlines, _⟩ := lines_take_flatten f.lines hf.allLines n hlt
      rw [XyzF.lines_length hf] at hk
      obtain ⟨st', hrun, htraj, hpos⟩ := xyzRun_frame_prefix v N hN f hf st hst k hk
      rw [show f.enc = f.lines.flatten from rfl, hlines, resRun_append, hrun]
      by_cases hp0 : p = []
      · simp [hp0, resRun, finish, htraj, hpos, sumLens]
      · have hnl := endsNl_false_of_noNl p hp
        rcases hv with h | h
        · simp [hp0, resRun, xyzStep, h, hnl, finish, htraj, hpos, sumLens]
        · exfalso
          simp only [List.map_cons, List.flatten_cons] at h
          rw [List.take_append_of_le_length (by omega), show f.enc = f.lines.flatten from rfl, he] at h
          rcases LineEnd_of_append h with h | h
          · exact hp0 h
          · rw [hnl] at h; cases h

theorem flatten_enc_length (fs : List XyzF) :
    ((fs.map XyzF.enc).flatten).length = sumLens (fs.map XyzF.len) := by
  induction fs with
  | nil => simp [sumLens]
  | cons f fs ih => simp [sumLens, ih, XyzF.len]

/-- **one poll**: from a frame boundary, `read_and_process_content` returns exactly the not yet
    returned frames that are completely inside the first `c` bytes -/
theorem xyzReader_poll (v : Variant) (N : Nat) (hN : 1 ≤ N) (frames : List XyzF) (hwf : ∀ f ∈ frames, f.WF N)
    (done c : Nat) (hv : v = .repaired ∨ LineEnd (((frames.map XyzF.enc).flatten).take c)) :
    xyzReader v (((frames.map XyzF.enc).flatten).take c) (sumLens ((frames.map XyzF.len).take done))
      = .ok (((frames.map XyzF.decode).drop done).take
               (completeCount ((frames.map XyzF.len).drop done) (c - sumLens ((frames.map XyzF.len).take done))),
             sumLens ((frames.map XyzF.len).take (done +
               completeCount ((frames.map XyzF.len).drop done) (c - sumLens ((frames.map XyzF.len).take done))))) := by
  have hsplit : (frames.map XyzF.enc).flatten
      = ((frames.take done).map XyzF.enc).flatten ++ ((frames.drop done).map XyzF.enc).flatten := by
    rw [← List.flatten_append, ← List.map_append, List.take_append_drop]
  have hpos : (((frames.take done).map XyzF.enc).flatten).length = sumLens ((frames.map XyzF.len).take done) := by
    rw [flatten_enc_length, List.map_take]
  have hv1 : v = .repaired ∨ LineEnd ((((frames.drop done).map XyzF.enc).flatten).take
      (c - sumLens ((frames.map XyzF.len).take done))) := by
    refine hv.imp id (fun hc => ?_)
    rw [hsplit, List.take_append, hpos] at hc
    exact LineEnd_of_append hc
  have := xyzRun_frames v N hN (frames.drop done) (fun f hf => hwf f (List.mem_of_mem_drop hf)) _
    (xInit (sumLens ((frames.map XyzF.len).take done))) (xInit_ready N _) hv1
  unfold xyzReader
  rw [xyzRun_eq_resRun, List.drop_take, hsplit, ← hpos, List.drop_left, hpos, this, sumLens_take_add]
  simp [xInit, List.map_drop]

end Infretis.Readers
