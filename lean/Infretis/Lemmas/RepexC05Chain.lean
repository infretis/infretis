import Infretis.Lemmas.RepexC05Cv
import Infretis.Lemmas.RepexC03RRestore
/-!
# C05 — `load_paths` from order sequences, the iteration bound of `sort_trajstate`, slot order across a restart

`load_paths` as the code runs it (weights from `calc_cv_vector`, `(1.0,)` for the `[0-]` path) is `Repex.loadPaths`
on the computed weight vectors; hence `C05.load_paths_cv_loads_iff` (it passes its assertions iff every plus path
has non-zero weight in its own ensemble) and, through `FreshLoad.init5`, the start-state invariant from order
sequences.  The measure the driver evaluates is the termination measure `mu` of `sort_trajstate`
(`sortMeasure_eq_mu`).
-/
namespace Infretis.Repex.Cv
open Infretis.Perm Infretis.WF Infretis.RepexCv

theorem ratV_eq_ratVec (ws : List Nat) : ratV ws = ratVec ws := rfl

theorem measureGo_eq_wsum : ∀ (W : Mat) (k : Nat),
    measureGo k W = wsum (fun i r => i - lastOf r) k W := by
  intro W
  induction W with
  | nil => intro k; rfl
  | cons r t ih => intro k; simp only [measureGo, wsum, ih]; rfl

theorem sortMeasure_eq_mu (s : St) : sortMeasure s.W = mu s := measureGo_eq_wsum s.W 0

/-- **`restore (persist s)` keeps the slot order and the path counter**: every real slot holds after the restart the
    path the restart file records for it — the one it held when `write_toml` ran — `traj_num` is the recorded one,
    and all real slots are idle. -/
theorem restore_slots {s s' : St} {H : List (Nat × Nat)} {tn : Nat} (hc : CoreR s H tn)
    (workers tsteps : Nat) (occ : List (List Int)) (ensEng : List (List Nat)) (weightOf : Nat → List Rat)
    (h : restore (persist s) s.n workers tsteps occ ensEng weightOf = .ok s') :
    s'.n = s.n ∧ (∀ e, e < s.n - 1 → s'.trajs[e]? = s.trajs[e]?) ∧ s'.trajNum = s.trajNum ∧
      s'.locks = List.replicate (s.n - 1) false ++ [true] ∧
      (∀ e, e < s.n - 1 → (persist s).active[e]? = s.trajs[e]?) := by
  obtain ⟨_, rfl⟩ := (restore_persist_ok_iff hc.allLive).mp h
  refine ⟨rfl, fun e he => restoredSt_trajs hc.allLive _ _ _ _ _ he, rfl, rfl, fun e he => ?_⟩
  show (livePaths s)[e]? = _
  unfold livePaths
  rw [List.getElem?_dropLast, if_pos (by rw [hc.lenT]; exact he)]

/-- the `(number, weights, fractions)` triples `load_paths` works with, given the vectors `f i` that
    `calc_cv_vector` returns for `paths[i+1]`: slot `0` gets `(1.0,)` -/
def withW (f : Nat → List Nat) : Nat → List CvPath → List (Nat × List Rat × List Rat)
  | _, [] => []
  | j, (pn, _, fr) :: t => (pn, (if j = 0 then [1] else ratVec (f (j - 1))), fr) :: withW f (j + 1) t

theorem withW_length (f : Nat → List Nat) : ∀ (paths : List CvPath) (j : Nat), (withW f j paths).length = paths.length := by
  intro paths
  induction paths with
  | nil => intro j; rfl
  | cons p t ih => intro j; obtain ⟨pn, ops, fr⟩ := p; simp [withW, ih]

theorem withW_getElem? (f : Nat → List Nat) : ∀ (paths : List CvPath) (j0 j : Nat),
    (withW f j0 paths)[j]? =
      paths[j]?.map fun p => (p.1, (if j0 + j = 0 then [1] else ratVec (f (j0 + j - 1))), p.2.2)
  | [], _, _ => rfl
  | (_, _, _) :: _, _, 0 => rfl
  | (_, _, _) :: t, j0, j + 1 => by
    rw [withW, List.getElem?_cons_succ, List.getElem?_cons_succ, withW_getElem? f t, Nat.add_right_comm, Nat.add_assoc]

theorem withW_map_fst (f : Nat → List Nat) : ∀ (paths : List CvPath) (j : Nat),
    (withW f j paths).map (·.1) = paths.map (·.1) := by
  intro paths
  induction paths with
  | nil => intro j; rfl
  | cons p t ih => intro j; obtain ⟨pn, ops, fr⟩ := p; simp [withW, ih]

theorem loadPlusCv_eq (c : CvCfg) (paths : List CvPath) (f : Nat → List Nat)
    (hcv : ∀ (i : Nat) (pn : Nat) (ops : List Int) (fr : List Rat), paths[i + 1]? = some (pn, ops, fr) →
      cvVector ops c.intfs c.mv c.cap = .ok (f i)) :
    ∀ (k i : Nat) (s : St), i + 1 + k = paths.length →
      loadPlusCv c paths k i s = loadPaths.plus s i ((withW f 0 paths).drop (i + 1)) := by
  intro k
  induction k with
  | zero =>
    intro i s hlen
    rw [List.drop_eq_nil_of_le (by rw [withW_length]; omega)]
    rfl
  | succ k ih =>
    intro i s hlen
    have hi : i + 1 < paths.length := by omega
    rcases hp : paths[i + 1] with ⟨pn, ops, fr⟩
    have hget : paths[i + 1]? = some (pn, ops, fr) := by rw [List.getElem?_eq_getElem hi, hp]
    have hlt : i + 1 < (withW f 0 paths).length := by rw [withW_length]; exact hi
    rw [List.drop_eq_getElem_cons hlt]
    have hel : (withW f 0 paths)[i + 1] = (pn, ratVec (f i), fr) := by
      have hw := withW_getElem? f paths 0 (i + 1)
      rw [List.getElem?_eq_getElem hlt, hget] at hw
      simpa using hw
    rw [hel]
    simp only [loadPlusCv, hget, hcv i pn ops fr hget, loadPaths.plus, ratV_eq_ratVec]
    cases hone : loadOne s (i : Int) pn (ratVec (f i)) fr with
    | error er => rfl
    | ok s1 =>
      simp only []
      exact ih (i + 1) s1 (by omega)

/-- when `calc_cv_vector` returns `f i` for `paths[i+1]`, `load_paths` as the code
    runs it is `Repex.loadPaths` on the triples `withW f 0 paths` (`n - 1` paths for `n` slots). -/
theorem loadPathsCv_eq_loadPaths (c : CvCfg) (s : St) (paths : List CvPath) (f : Nat → List Nat)
    (hn : 2 ≤ s.n) (hlen : paths.length = s.n - 1)
    (hcv : ∀ (i : Nat) (pn : Nat) (ops : List Int) (fr : List Rat), paths[i + 1]? = some (pn, ops, fr) →
      cvVector ops c.intfs c.mv c.cap = .ok (f i)) :
    loadPathsCv c s paths = loadPaths s (withW f 0 paths) := by
  cases paths with
  | nil => simp at hlen; omega
  | cons p t =>
    obtain ⟨pn0, ops0, fr0⟩ := p
    have hk : 0 + 1 + (s.n - 2) = ((pn0, ops0, fr0) :: t).length := by simp at hlen ⊢; omega
    unfold loadPathsCv
    rw [loadPlusCv_eq c _ f hcv (s.n - 2) 0 s hk]
    simp only [withW, ↓reduceIte, Nat.zero_add, List.drop_succ_cons, List.drop_zero, loadPaths,
      List.getElem?_cons_zero]
    cases loadPaths.plus s 0 (withW f 1 t) with
    | error er => rfl
    | ok s1 => rfl

theorem padN_own (n i : Nat) (ws : List Nat) :
    (padN n (i : Int) (ratVec ws)).getD (i + 1) 0 ≠ 0 ↔ ∃ w, ws[i]? = some w ∧ w ≠ 0 := by
  rw [padN_plus_getD n (i : Int) (by omega)]
  rw [List.getD_eq_getElem?_getD]
  cases h : ws[i]? with
  | none => simp
  | some w =>
    simp only [Option.getD_some, ne_eq, Option.some.injEq, exists_eq_left']
    exact_mod_cast Iff.rfl

end Infretis.Repex.Cv
