/-- Turns every `"…".toList` of the goal into the explicit list of characters.  A string literal is
    `String.ofList […]` to the kernel, so the rewriting costs nothing, whereas evaluating `String.toList` on a
    literal makes the kernel decode its UTF-8 bytes, character by character, in every theorem that mentions it.
    Definitions that hide a literal have to be `unfold`ed first. -/
macro "str_lits" : tactic => `(tactic| repeat rw [String.toList_ofList])
