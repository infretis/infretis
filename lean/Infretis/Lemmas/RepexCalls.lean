import Infretis.Model.Repex
import Infretis.Lemmas.Assoc
import Infretis.Lemmas.ExceptAux
/-!
# What a successful call of a `REPEX_state` operation consists of

If the call succeeds, the intermediate results exist, the asserts held, and the result is the stated combination — the
error branches are gone.
An operation that is a chain of calls is first stated as a chain of `Except.bind`: the model writes
`match x with | .error e => .error e | .ok a => f a`, and the matcher of each definition is a constant of its own, so
no rule about chains applies to it as written; a successful chain is taken apart by `bind_ok_iff`, two chains are
compared link by link.
-/
namespace Infretis.Repex
open Infretis.Perm

theorem lock_ok {s s' : St} {e : Nat} (h : lock s e = .ok s') :
    s.locks[e]? = some false ∧ s' = { s with locks := s.locks.set e true } := by
  unfold lock at h
  split at h
  · rename_i hl
    exact ⟨hl, by injection h with h; exact h.symm⟩
  · exact absurd h (by simp)
  · exact absurd h (by simp)

theorem unlock_ok {s s' : St} {e : Nat} (h : unlock s e = .ok s') :
    s.locks[e]? = some true ∧ s' = { s with locks := s.locks.set e false } := by
  unfold unlock at h
  split at h
  · rename_i hl
    exact ⟨hl, by injection h with h; exact h.symm⟩
  · exact absurd h (by simp)
  · exact absurd h (by simp)

theorem padValid_congr {s s' : St} (h : s'.n = s.n) (ens : Int) (v : List Rat) :
    padValid s' ens v = padValid s ens v := by
  unfold padValid
  rw [h]

theorem padValid_nonneg (s : St) {ens : Int} (h : 0 ≤ ens) (w : List Rat) : padValid s ens w = padValid s 0 w := by
  unfold padValid
  rw [if_pos h, if_pos (Int.le_refl 0)]

/-- **`add_traj` succeeds exactly when its assertions hold**; then the three writes -/
theorem addTraj_ok_iff {s s' : St} {ens : Int} {pn : Nat} {valid : List Rat} :
    addTraj s ens pn valid = .ok s' ↔
      s.locks[(ens + 1).toNat]? = some true ∧ (ens + 1).toNat < s.trajs.length ∧
      (padValid s ens valid).length = s.n ∧ (padValid s ens valid).getD (ens + 1).toNat 0 ≠ 0 ∧
      s' = { s with trajs := s.trajs.set (ens + 1).toNat (some pn),
                    W := s.W.set (ens + 1).toNat (padValid s ens valid),
                    locks := s.locks.set (ens + 1).toNat false } := by
  have hoff : (ens + (off : Int)).toNat = (ens + 1).toNat := by simp [off]
  unfold addTraj
  simp only []
  rw [hoff, List.getD_eq_getElem?_getD]
  constructor
  · intro h
    split at h
    · exact absurd h (by simp)
    rename_i x hx
    split at h
    · exact absurd h (by simp)
    rename_i hx0
    split at h
    · exact absurd h (by simp)
    rename_i hlen
    split at h
    · exact absurd h (by simp)
    rename_i he
    obtain ⟨hl, hs⟩ := unlock_ok h
    exact ⟨hl, Nat.not_le.mp he, Classical.not_not.mp hlen, by rw [hx]; exact hx0, hs⟩
  · rintro ⟨hl, he, hlen, hx, rfl⟩
    cases hv : (padValid s ens valid)[(ens + 1).toNat]? with
    | none => rw [hv] at hx; exact absurd rfl hx
    | some x =>
      rw [hv] at hx
      simp only [Option.getD_some] at hx
      simp only [hx, ↓reduceIte, hlen, ne_eq, not_true_eq_false, ge_iff_le, Nat.not_le.mpr he]
      unfold unlock
      simp only [hl]

theorem addTraj_parts {s s' : St} {ens : Int} {pn : Nat} {valid : List Rat}
    (h : addTraj s ens pn valid = .ok s') :
    s.locks[(ens + 1).toNat]? = some true ∧ (padValid s ens valid).getD (ens + 1).toNat 0 ≠ 0 ∧
      s' = { s with trajs := s.trajs.set (ens + 1).toNat (some pn),
                    W := s.W.set (ens + 1).toNat (padValid s ens valid),
                    locks := s.locks.set (ens + 1).toNat false } := by
  obtain ⟨hl, _, _, hx, hs⟩ := addTraj_ok_iff.mp h
  exact ⟨hl, hx, hs⟩

/-- `locked_paths()` lists what the locked slots hold, the ghost slot left out -/
theorem mem_lockedPaths_iff {s : St} {x : Option Nat} :
    x ∈ lockedPaths s ↔ ∃ j, j < s.trajs.length - 1 ∧ j < s.locks.length - 1 ∧ s.trajs[j]? = some x ∧
      s.locks[j]? = some true := by
  unfold lockedPaths
  rw [List.mem_filterMap]
  constructor
  · rintro ⟨⟨t, l⟩, hm, hx⟩
    obtain ⟨j, hj⟩ := List.getElem?_of_mem hm
    rw [List.getElem?_zip_eq_some, List.getElem?_dropLast, List.getElem?_dropLast] at hj
    obtain ⟨h1, h2⟩ := hj
    split at h1
    · rename_i hT
      split at h2
      · rename_i hL
        cases l with
        | false => cases hx
        | true =>
          cases hx
          exact ⟨j, hT, hL, h1, h2⟩
      · cases h2
    · cases h1
  · rintro ⟨j, hT, hL, ht, hl⟩
    refine ⟨(x, true), List.mem_of_getElem? (i := j) ?_, rfl⟩
    rw [List.getElem?_zip_eq_some, List.getElem?_dropLast, List.getElem?_dropLast, if_pos hT, if_pos hL]
    exact ⟨ht, hl⟩

theorem mem_lockedPaths_of_locked {s : St} {i : Nat} (hT : i < s.trajs.length - 1) (hL : i < s.locks.length - 1)
    (hl : s.locks[i]? = some true) : s.trajs.getD i none ∈ lockedPaths s := by
  refine mem_lockedPaths_iff.mpr ⟨i, hT, hL, ?_, hl⟩
  rw [List.getD_eq_getElem?_getD, List.getElem?_eq_getElem (by omega)]
  rfl

/-- the zero-swap condition of `pick_traj_ens`, on the lock flags after the first lock: the picked
    ensemble is `[0+]` (slot 1) or `[0-]` (slot 0) and the other of the two is idle -/
def zsPossible (locks : List Bool) (e : Nat) : Bool :=
  (e == off && (locks.getD (off - 1) true == false)) || (e == off - 1 && (locks.getD off true == false))

/-- the partner ensemble of a zero swap -/
def zsOther (e : Nat) : Nat := if e == off then off - 1 else off

theorem zsPossible_cases {locks : List Bool} {e : Nat} (h : zsPossible locks e = true) :
    (e = 1 ∧ zsOther e = 0 ∧ locks.getD 0 true = false) ∨
    (e = 0 ∧ zsOther e = 1 ∧ locks.getD 1 true = false) := by
  simp only [zsPossible, zsOther, off, Bool.or_eq_true, Bool.and_eq_true, beq_iff_eq] at h ⊢
  rcases h with ⟨h1, h2⟩ | ⟨h1, h2⟩
  · exact Or.inl ⟨h1, by simp [h1], h2⟩
  · exact Or.inr ⟨h1, by simp [h1], h2⟩

theorem zsPossible_set (locks : List Bool) (e : Nat) :
    zsPossible (locks.set e true) e = true ↔
      (e = 1 ∧ locks[0]? = some false) ∨ (e = 0 ∧ locks[1]? = some false) := by
  have hget : ∀ i, i ≠ e → ((locks.set e true).getD i true = false ↔ locks[i]? = some false) := by
    intro i hi
    rw [List.getD_eq_getElem?_getD, List.getElem?_set_ne (fun h => hi h.symm)]
    cases locks[i]? <;> simp
  simp only [zsPossible, off, Bool.or_eq_true, Bool.and_eq_true, beq_iff_eq]
  constructor
  · rintro (⟨h1, h2⟩ | ⟨h1, h2⟩)
    · exact Or.inl ⟨h1, (hget 0 (by omega)).mp h2⟩
    · exact Or.inr ⟨h1, (hget 1 (by omega)).mp h2⟩
  · rintro (⟨h1, h2⟩ | ⟨h1, h2⟩)
    · exact Or.inl ⟨h1, (hget 0 (by omega)).mpr h2⟩
    · exact Or.inr ⟨h1, (hget 1 (by omega)).mpr h2⟩

/-- `pick()` + `pick_traj_ens()` as a chain: the probability test, `swap`, `lock(e)`; then the zero swap
    (condition and coin: the partner's probability test, `swap`, `lock(other)`) or not -/
theorem pickCore_eq (s : St) (o : PickOutcome) :
    pickCore s o =
      if ¬ 0 < entryM (prob s) o.t o.e then .error .value else
      (lock (swap s o.t o.e) o.e).bind fun s2 =>
        if zsPossible s2.locks o.e && o.coin then
          if ¬ 0 < ((prob s2).map (fun r => r.getD (zsOther o.e) 0)).getD o.partner 0 then .error .value else
          (lock (swap s2 o.partner (zsOther o.e)) (zsOther o.e)).bind fun s4 =>
            .ok (s4, if o.e == off then [(-1, s4.trajs.getD (zsOther o.e) none), (0, s2.trajs.getD o.e none)]
                     else [(-1, s2.trajs.getD o.e none), (0, s4.trajs.getD (zsOther o.e) none)],
                 [Draw.choiceAll (prob s), Draw.coin,
                  Draw.choiceCol (zsOther o.e) ((prob s2).map (fun r => r.getD (zsOther o.e) 0))])
        else .ok (s2, [((o.e : Int) - (off : Int), s2.trajs.getD o.e none)],
                  if zsPossible s2.locks o.e then [Draw.choiceAll (prob s), Draw.coin]
                  else [Draw.choiceAll (prob s)]) := by
  unfold pickCore
  dsimp only
  split
  · rfl
  · cases lock (swap s o.t o.e) o.e with
    | error e => rfl
    | ok s2 =>
      dsimp only [Except.bind]
      change (if (zsPossible s2.locks o.e && o.coin) = true then
                if ¬ 0 < ((prob s2).map (fun r => r.getD (zsOther o.e) 0)).getD o.partner 0 then _ else
                  match lock (swap s2 o.partner (zsOther o.e)) (zsOther o.e) with
                  | .error er => _
                  | .ok s4 => _
              else _) = _
      cases lock (swap s2 o.partner (zsOther o.e)) (zsOther o.e) with
      | error e => rfl
      | ok s4 => rfl

theorem pickCore_parts {s s' : St} {o : PickOutcome} {pairs : List (Int × Option Nat)} {ds : List Draw}
    (h : pickCore s o = .ok (s', pairs, ds)) :
    0 < entryM (prob s) o.t o.e ∧ ∃ s2, lock (swap s o.t o.e) o.e = .ok s2 ∧
      ((zsPossible s2.locks o.e = true ∧ o.coin = true ∧
          0 < ((prob s2).map (fun r => r.getD (zsOther o.e) 0)).getD o.partner 0 ∧
          ∃ s4, lock (swap s2 o.partner (zsOther o.e)) (zsOther o.e) = .ok s4 ∧ s' = s4 ∧
            pairs = (if o.e == off then [(-1, s4.trajs.getD (zsOther o.e) none), (0, s2.trajs.getD o.e none)]
                     else [(-1, s2.trajs.getD o.e none), (0, s4.trajs.getD (zsOther o.e) none)]) ∧
            ds = [Draw.choiceAll (prob s), Draw.coin,
                  Draw.choiceCol (zsOther o.e) ((prob s2).map (fun r => r.getD (zsOther o.e) 0))]) ∨
       ((zsPossible s2.locks o.e && o.coin) = false ∧ s' = s2 ∧
          pairs = [((o.e : Int) - (off : Int), s2.trajs.getD o.e none)] ∧
          ds = if zsPossible s2.locks o.e then [Draw.choiceAll (prob s), Draw.coin]
               else [Draw.choiceAll (prob s)])) := by
  rw [pickCore_eq] at h
  split at h
  · cases h
  rename_i hpos
  obtain ⟨s2, hl, h⟩ := bind_ok_iff.mp h
  refine ⟨Classical.not_not.mp hpos, s2, hl, ?_⟩
  split at h
  · rename_i hzs
    rw [Bool.and_eq_true] at hzs
    split at h
    · cases h
    rename_i hpos2
    obtain ⟨s4, hl4, h⟩ := bind_ok_iff.mp h
    cases h
    exact Or.inl ⟨hzs.1, hzs.2, Classical.not_not.mp hpos2, _, hl4, rfl, rfl, rfl⟩
  · rename_i hzs
    cases h
    exact Or.inr ⟨by simpa using hzs, rfl, rfl, rfl⟩

/-- `pick()` as a chain: `pick_traj_ens`, the streams of the job, then the bookkeeping -/
theorem pick_eq (s : St) (o : PickOutcome) :
    pick s o = (pickCore s o).bind fun (s1, pairs, ds) => (mkPicked s1 pairs).bind fun ps =>
      .ok ({ s1 with locked := s1.locked ++ [(pairs.map (·.1), ps.map (·.pn))],
                     lockedOrd := s1.lockedOrd ++ [s1.spawned], spawned := s1.spawned + 1,
                     mainDraws := s1.mainDraws + drawCount ds }, ps, ds) := by
  unfold pick
  cases pickCore s o with
  | error e => rfl
  | ok r =>
    obtain ⟨s1, pairs, ds⟩ := r
    dsimp only [Except.bind]
    cases mkPicked s1 pairs with
    | error e => rfl
    | ok ps => rfl

theorem pick_parts {s s' : St} {o : PickOutcome} {ps : List Picked} {ds : List Draw}
    (h : pick s o = .ok (s', ps, ds)) :
    ∃ s1 pairs, pickCore s o = .ok (s1, pairs, ds) ∧ mkPicked s1 pairs = .ok ps ∧
      s' = { s1 with locked := s1.locked ++ [(pairs.map (·.1), ps.map (·.pn))],
                     lockedOrd := s1.lockedOrd ++ [s1.spawned], spawned := s1.spawned + 1,
                     mainDraws := s1.mainDraws + drawCount ds } := by
  rw [pick_eq] at h
  obtain ⟨⟨s1, pairs, ds1⟩, hpc, h⟩ := bind_ok_iff.mp h
  obtain ⟨ps1, hmk, h⟩ := bind_ok_iff.mp h
  cases h
  exact ⟨s1, pairs, hpc, hmk, rfl⟩

/-- the first fresh `pick_lock()` after a restart puts the stream position of the restart file back, once, and picks -/
theorem pickLock_restored {s : St} (h0 : s.locked0 = []) (hr : s.restarted = true) (hg : s.rgenRestored = false)
    (o : PickOutcome) (d : Nat) : pickLock s o d = pick { s with mainDraws := d, rgenRestored := true } o := by
  unfold pickLock restoreStreamOnce
  simp only [h0, hr, hg, and_self, if_true]

theorem pickLock_parts {s s' : St} {o : PickOutcome} {d : Nat} {ps : List Picked} {ds : List Draw}
    (h : pickLock s o d = .ok (s', ps, ds)) :
    (s.locked0 = [] ∧ pick (restoreStreamOnce s d) o = .ok (s', ps, ds)) ∨
    ∃ enss0 trajs0 rest s1 pairs, s.locked0 = (enss0, trajs0) :: rest ∧
      reissue { s with locked0 := rest, locked0Ord := s.locked0Ord.tail } enss0 trajs0 = .ok (s1, pairs) ∧
      mkPickedAt s1 (reissueOrd s s1) pairs = .ok ps ∧ s' = reissued s s1 enss0 trajs0 ∧ ds = [] := by
  unfold pickLock at h
  split at h
  · rename_i hnil
    exact Or.inl ⟨hnil, h⟩
  · rename_i enss0 trajs0 rest hcons
    split at h
    · exact absurd h (by simp)
    rename_i s1 pairs hre
    split at h
    · exact absurd h (by simp)
    rename_i ps1 hmk
    simp only [Except.ok.injEq, Prod.mk.injEq] at h
    obtain ⟨rfl, rfl, rfl⟩ := h
    exact Or.inr ⟨enss0, trajs0, rest, s1, pairs, hcons, hre, hmk, rfl, rfl⟩

theorem claim_parts {occ occ' : List (List Int)} {k pin i : Nat} (h : claim occ k pin = some (occ', i)) :
    ∃ l, occ[k]? = some l ∧ i = l.findIdx (· == -1) ∧ i < l.length ∧
      occ' = occ.set k (l.set i (pin : Int)) := by
  unfold claim at h
  split at h
  · exact absurd h (by simp)
  rename_i l hl
  simp only [] at h
  split at h
  · rename_i hlt
    simp only [Option.some.injEq, Prod.mk.injEq] at h
    obtain ⟨rfl, rfl⟩ := h
    exact ⟨l, hl, rfl, hlt, rfl⟩
  · exact absurd h (by simp)

/-- `assign_engines` raises when the loop found no cell at all, so a successful call found one -/
theorem assignEngines_parts {occ occ' : List (List Int)} {names : List Nat} {pin : Nat}
    {idx : List (Nat × Nat)} (h : assignEngines occ names pin = .ok (occ', idx)) :
    assignEngines.go pin (freeEngines occ pin) names = (occ', idx) ∧ idx.isEmpty = false := by
  unfold assignEngines at h
  simp only [] at h
  generalize assignEngines.go pin (freeEngines occ pin) names = r at h ⊢
  obtain ⟨o1, out⟩ := r
  simp only [] at h
  split at h
  · exact absurd h (by simp)
  rename_i hne
  simp only [Except.ok.injEq, Prod.mk.injEq] at h
  obtain ⟨rfl, rfl⟩ := h
  exact ⟨rfl, by simpa using hne⟩

/-- the part of `prep_md_items` before the engines: `pick_lock()` during initiation, `pick()` after -/
def pickPart (s : St) (o : PickOutcome) (saved : Nat) : Except Err (St × List Picked × List Draw) :=
  if s.toinitiate ≥ 0 then pickLock s o saved else pick s o

/-- the engine types `prep_md_items` asks `assign_engines` for -/
def engNames (s1 : St) (ps : List Picked) : List Nat :=
  dedup ((ps.map (fun p => s1.ensEng.getD (p.ens + 1).toNat [])).flatten)

/-- the part of `prep_md_items` after the pick: pin, engines, the job record -/
def prepTail (s1 : St) (ps : List Picked) (ds : List Draw) (pin? : Option Nat) : Except Err (St × Job × List Draw) :=
  match pin? with
  | none => .error .key
  | some pin =>
    let engNames := dedup ((ps.map (fun p => s1.ensEng.getD (p.ens + 1).toNat [])).flatten)
    match assignEngines s1.occ engNames pin with
    | .error er => .error er
    | .ok (occ', idx) =>
      let missing := ps.any (fun p => (s1.ensEng.getD (p.ens + 1).toNat []).any
                                (fun k => (idx.lookup k).isNone))
      if missing then .error .key else
      let ps' := ps.map (fun p => { p with engIdx :=
          (s1.ensEng.getD (p.ens + 1).toNat []).map (fun k => (k, (idx.lookup k).getD 0)) })
      .ok ({ s1 with occ := occ' },
           { pin := pin, wfolder := pin, picked := ps', pnumOld := ps'.map (·.pn) }, ds)

theorem prep_eq (s : St) (prev : Option Nat) (o : PickOutcome) (sv : Nat) :
    prep s prev o sv = (pickPart s o sv).bind fun (s1, ps, ds) =>
      prepTail s1 ps ds (if s.toinitiate ≥ 0 then some s.cworker else prev) := by
  unfold prep prepTail pickPart
  cases (if s.toinitiate ≥ 0 then pickLock s o sv else pick s o) with
  | error e => rfl
  | ok r => rfl

theorem prepTail_parts {s1 s' : St} {ps : List Picked} {ds ds' : List Draw} {pin? : Option Nat} {job : Job}
    (h : prepTail s1 ps ds pin? = .ok (s', job, ds')) :
    ∃ pin occ' idx, pin? = some pin ∧ assignEngines s1.occ (engNames s1 ps) pin = .ok (occ', idx) ∧
      (ps.any (fun p => (s1.ensEng.getD (p.ens + 1).toNat []).any
        (fun k => (idx.lookup k).isNone))) = false ∧
      s' = { s1 with occ := occ' } ∧ ds' = ds ∧
      job = { pin := pin, wfolder := pin,
              picked := ps.map (fun p => { p with engIdx :=
                (s1.ensEng.getD (p.ens + 1).toNat []).map (fun k => (k, (idx.lookup k).getD 0)) }),
              pnumOld := (ps.map (fun p => { p with engIdx :=
                (s1.ensEng.getD (p.ens + 1).toNat []).map (fun k => (k, (idx.lookup k).getD 0)) })).map (·.pn) } := by
  unfold prepTail at h
  split at h
  · cases h
  rename_i pin
  simp only [] at h
  split at h
  · cases h
  rename_i occ' idx hass
  split at h
  · cases h
  rename_i hmiss
  cases h
  exact ⟨pin, occ', idx, rfl, hass, by simpa using hmiss, rfl, rfl, rfl⟩

theorem prep_parts {s s' : St} {prev : Option Nat} {o : PickOutcome} {saved : Nat} {job : Job}
    {ds : List Draw} (h : prep s prev o saved = .ok (s', job, ds)) :
    ∃ s1 ps pin occ' idx, pickPart s o saved = .ok (s1, ps, ds) ∧
      (if s.toinitiate ≥ 0 then some s.cworker else prev) = some pin ∧
      assignEngines s1.occ (engNames s1 ps) pin = .ok (occ', idx) ∧
      (ps.any (fun p => (s1.ensEng.getD (p.ens + 1).toNat []).any
        (fun k => (idx.lookup k).isNone))) = false ∧
      s' = { s1 with occ := occ' } ∧ job.pin = pin ∧ job.wfolder = pin ∧
      job.picked = ps.map (fun p => { p with engIdx :=
        (s1.ensEng.getD (p.ens + 1).toNat []).map (fun k => (k, (idx.lookup k).getD 0)) }) := by
  rw [prep_eq] at h
  obtain ⟨⟨s1, ps, ds1⟩, hr, h⟩ := bind_ok_iff.mp h
  obtain ⟨pin, occ', idx, hpin, hass, hmiss, rfl, rfl, rfl⟩ := prepTail_parts h
  exact ⟨s1, ps, pin, occ', idx, hr, hpin, hass, hmiss, rfl, rfl, rfl, rfl⟩

theorem prep_pnumOld {s s' : St} {prev : Option Nat} {o : PickOutcome} {saved : Nat} {job : Job}
    {ds : List Draw} (h : prep s prev o saved = .ok (s', job, ds)) : job.pnumOld = job.picked.map (·.pn) := by
  rw [prep_eq] at h
  obtain ⟨_, _, h⟩ := bind_ok_iff.mp h
  obtain ⟨_, _, _, _, _, _, _, _, rfl⟩ := prepTail_parts h
  rfl

/-- what `updFrac` does to the vector stored under key `k` -/
def bump (pn : Nat) (row : List Rat) (k : Nat) (v : List Rat) : List Rat := if k == pn then addVec v row else v

def bumped (pn : Nat) (row : List Rat) (l : List (Nat × List Rat)) : List (Nat × List Rat) :=
  l.map (fun kv => (kv.1, bump pn row kv.1 kv.2))

theorem keys_bumped (pn : Nat) (row : List Rat) (l : List (Nat × List Rat)) :
    (bumped pn row l).map Prod.fst = l.map Prod.fst := Assoc.keys_mapVal l _

theorem lookup_bumped (pn : Nat) (row : List Rat) (l : List (Nat × List Rat)) (k : Nat) :
    (bumped pn row l).lookup k = (l.lookup k).map (bump pn row k) := Assoc.lookup_mapVal l _ k

theorem updFrac_eq (frac : List (Nat × List Rat)) (pn : Nat) (row : List Rat) :
    updFrac frac pn row = if (frac.lookup pn).isSome then .ok (bumped pn row frac) else .error .key := by
  have hm : frac.map (fun (k, v) => if k == pn then (k, addVec v row) else (k, v)) = bumped pn row frac :=
    List.map_congr_left fun (k, v) _ => by
      show (if k == pn then (k, addVec v row) else (k, v)) = (k, bump pn row k v)
      unfold bump
      split <;> rfl
  unfold updFrac
  rw [Assoc.any_key, hm]

theorem updFrac_ok {frac f' : List (Nat × List Rat)} {pn : Nat} {row : List Rat}
    (h : updFrac frac pn row = .ok f') : pn ∈ frac.map Prod.fst ∧ f' = bumped pn row frac := by
  rw [updFrac_eq] at h
  split at h
  · rename_i hs
    cases h
    exact ⟨Assoc.lookup_isSome_iff.mp hs, rfl⟩
  · cases h

theorem recordFrac_go_keys (lp : List (Option Nat)) (P : Mat) : ∀ (l : List (Nat × Option Nat))
    (frac f : List (Nat × List Rat)), recordFrac.go lp P frac l = .ok f → f.map Prod.fst = frac.map Prod.fst := by
  intro l
  induction l with
  | nil => intro frac f h; cases h; rfl
  | cons il rest ih =>
    intro frac f h
    obtain ⟨idx, live⟩ := il
    unfold recordFrac.go at h
    split at h
    · exact ih _ _ h
    · cases live with
      | none => cases h
      | some pn =>
        simp only [] at h
        split at h
        · cases h
        · rename_i f' hu
          rw [ih _ _ h, (updFrac_ok hu).2, keys_bumped]

/-- one round of the loop that records the weights: a locked path is skipped, an idle one gets its row added -/
theorem recordFrac_go_cons (lp : List (Option Nat)) (P : Mat) (frac : List (Nat × List Rat)) (idx : Nat)
    (live : Option Nat) (rest : List (Nat × Option Nat)) :
    recordFrac.go lp P frac ((idx, live) :: rest) =
      if lp.contains live then recordFrac.go lp P frac rest else
      match live with
      | none => .error .key
      | some pn => (updFrac frac pn (P.getD idx [])).bind fun f' => recordFrac.go lp P f' rest := by
  simp only [recordFrac.go]
  split
  · rfl
  · cases live with
    | none => rfl
    | some pn =>
      dsimp only [Except.bind]
      cases updFrac frac pn (P.getD idx []) with
      | error e => rfl
      | ok f' => rfl

theorem recordFrac_eq (s : St) :
    recordFrac s = (recordFrac.go (lockedPaths s) (prob s) s.frac
      ((List.range (livePaths s).length).zip (livePaths s))).bind fun f => .ok { s with frac := f } := by
  unfold recordFrac
  dsimp only
  cases recordFrac.go (lockedPaths s) (prob s) s.frac ((List.range (livePaths s).length).zip (livePaths s)) with
  | error e => rfl
  | ok f => rfl

theorem recordFrac_ok {s s' : St} (h : recordFrac s = .ok s') :
    ∃ f, recordFrac.go (lockedPaths s) (prob s) s.frac
        ((List.range (livePaths s).length).zip (livePaths s)) = .ok f ∧ s' = { s with frac := f } := by
  rw [recordFrac_eq] at h
  obtain ⟨f, hf, h⟩ := bind_ok_iff.mp h
  cases h
  exact ⟨f, hf, rfl⟩

theorem recordFrac_keys {s s' : St} (h : recordFrac s = .ok s') :
    s'.frac.map Prod.fst = s.frac.map Prod.fst := by
  obtain ⟨f, hf, rfl⟩ := recordFrac_ok h
  exact recordFrac_go_keys _ _ _ _ _ hf

/-- **`write_to_pathens` in closed form**; the listed numbers are distinct because the second look-up of a key
    would fail -/
theorem writeRows_ok : ∀ {l : List Nat} {s s' : St}, writeRows s l = .ok s' →
    l.Nodup ∧ ∃ news : List (Nat × List Rat × List Rat), news.map (·.1) = l ∧
      (∀ r ∈ news, s.frac.lookup r.1 = some r.2.1 ∧ s.wts.lookup r.1 = some r.2.2) ∧
      s' = { s with rows := s.rows ++ news, frac := s.frac.filter (fun kv => !l.contains kv.1),
                    wts := s.wts.filter (fun kv => !l.contains kv.1) } := by
  intro l
  induction l with
  | nil =>
    intro s s' h
    cases h
    refine ⟨List.nodup_nil, [], rfl, (fun _ h => nomatch h), ?_⟩
    simp [List.filter_eq_self.mpr]
  | cons pn rest ih =>
    intro s s' h
    unfold writeRows at h
    split at h
    · rename_i f w hf hw
      obtain ⟨hnd, news, hkeys, hlook, rfl⟩ := ih h
      -- the look-ups of the later keys went to the tables without `pn`
      have hlook' : ∀ r ∈ news, r.1 ≠ pn ∧ s.frac.lookup r.1 = some r.2.1 ∧ s.wts.lookup r.1 = some r.2.2 := by
        intro r hr
        have h1 := hlook r hr
        simp only [Assoc.lookup_filter _ (fun a => a != pn)] at h1
        by_cases e : r.1 = pn
        · simp [e] at h1
        · simpa [e] using h1
      refine ⟨List.nodup_cons.mpr ⟨?_, hnd⟩, (pn, f, w) :: news, by simp [hkeys], ?_, ?_⟩
      · intro hm
        rw [← hkeys] at hm
        obtain ⟨r, hr, e⟩ := List.mem_map.mp hm
        exact (hlook' r hr).1 e
      · intro r hr
        rcases List.mem_cons.mp hr with rfl | hr
        · exact ⟨hf, hw⟩
        · exact (hlook' r hr).2
      · simp only [List.filter_filter, List.append_assoc, List.singleton_append, List.contains_cons,
          Bool.not_or, bne, Bool.and_comm]
    · cases h

theorem loop_go {s : St} (h : (loop s).2 = true) :
    s.cstep < s.tsteps ∧ (loop s).1 = { s with cstep := s.cstep + 1 } := by
  unfold loop at h ⊢
  by_cases hc : s.cstep ≥ s.tsteps
  · rw [if_pos hc] at h; cases h
  · rw [if_neg hc]; exact ⟨by omega, rfl⟩

theorem loop_stop {s : St} (h : (loop s).2 = false) : s.tsteps ≤ s.cstep ∧ (loop s).1 = s := by
  unfold loop at h ⊢
  by_cases hc : s.cstep ≥ s.tsteps
  · rw [if_pos hc]; exact ⟨hc, rfl⟩
  · rw [if_neg hc] at h; exact absurd (of_decide_eq_false h) (by omega)

theorem initiate_done {s : St} (hc : ¬ s.cstep < s.tsteps) : initiate s = (s, false) := by
  unfold initiate
  rw [if_pos hc]

theorem initiate_close {s : St} (hc : s.cstep < s.tsteps)
    (hz : s.toinitiate > 0 ∧ (s.cstep : Int) + ((s.workers : Int) - s.toinitiate) ≥ (s.tsteps : Int)) :
    initiate s = ({ s with cworker := ((s.workers : Int) - 0).toNat, toinitiate := -1 }, false) := by
  unfold initiate
  rw [if_neg (not_not_intro hc)]
  simp only [hz, and_self, if_true]
  rfl

theorem initiate_next {s : St} (hc : s.cstep < s.tsteps)
    (hz : ¬ (s.toinitiate > 0 ∧ (s.cstep : Int) + ((s.workers : Int) - s.toinitiate) ≥ (s.tsteps : Int))) :
    initiate s = ({ s with cworker := ((s.workers : Int) - s.toinitiate).toNat, toinitiate := s.toinitiate - 1 },
      decide (s.toinitiate - 1 ≥ 0)) := by
  unfold initiate
  rw [if_neg (not_not_intro hc)]
  simp only [hz, if_false]

/-- whatever it answers, `initiate()` leaves the sampler alone or sets `cworker` and counts `toinitiate` down from
    `ti`, which is `toinitiate` or, when the initiation is closed early, 0 -/
theorem initiate_cases (s : St) :
    (initiate s = (s, false) ∧ s.tsteps ≤ s.cstep) ∨
    (∃ ti : Int, (ti = s.toinitiate ∨ (ti = 0 ∧ 0 < s.toinitiate)) ∧
      initiate s = ({ s with cworker := ((s.workers : Int) - ti).toNat, toinitiate := ti - 1 },
        decide (ti - 1 ≥ 0))) := by
  by_cases hc : s.cstep < s.tsteps
  · by_cases hz : s.toinitiate > 0 ∧ (s.cstep : Int) + ((s.workers : Int) - s.toinitiate) ≥ (s.tsteps : Int)
    · exact Or.inr ⟨0, Or.inr ⟨rfl, hz.1⟩, initiate_close hc hz⟩
    · exact Or.inr ⟨s.toinitiate, Or.inl rfl, initiate_next hc hz⟩
  · exact Or.inl ⟨initiate_done hc, by omega⟩

/-- `initiate()` answers yes: a step is left for one more worker, which is served next -/
theorem initiate_go {s : St} (h : (initiate s).2 = true) :
    s.cstep < s.tsteps ∧ 1 ≤ s.toinitiate ∧
    (s.cstep : Int) + ((s.workers : Int) - s.toinitiate) < (s.tsteps : Int) ∧
    (initiate s).1 = { s with cworker := ((s.workers : Int) - s.toinitiate).toNat,
                              toinitiate := s.toinitiate - 1 } := by
  by_cases hc : s.cstep < s.tsteps
  · by_cases hz : s.toinitiate > 0 ∧ (s.cstep : Int) + ((s.workers : Int) - s.toinitiate) ≥ (s.tsteps : Int)
    · rw [initiate_close hc hz] at h; cases h
    · rw [initiate_next hc hz] at h ⊢
      have := of_decide_eq_true h
      exact ⟨hc, by omega, by omega, rfl⟩
  · rw [initiate_done hc] at h; cases h

/-- `initiate()` answers no: no step is left and nothing changes, or the initiation is closed -/
theorem initiate_stop {s : St} (h : (initiate s).2 = false) :
    (s.tsteps ≤ s.cstep ∧ (initiate s).1 = s) ∨
    (s.cstep < s.tsteps ∧ (initiate s).1.toinitiate < 0 ∧ (initiate s).1.toinitiate ≤ s.toinitiate ∧
      (0 ≤ s.toinitiate → (initiate s).1.toinitiate = -1) ∧
      ¬ (1 ≤ s.toinitiate ∧ (s.cstep : Int) + ((s.workers : Int) - s.toinitiate) < (s.tsteps : Int))) := by
  by_cases hc : s.cstep < s.tsteps
  · right
    by_cases hz : s.toinitiate > 0 ∧ (s.cstep : Int) + ((s.workers : Int) - s.toinitiate) ≥ (s.tsteps : Int)
    · rw [initiate_close hc hz]
      exact ⟨hc, by show (-1 : Int) < 0; omega, by show (-1 : Int) ≤ _; omega, fun _ => rfl, by omega⟩
    · rw [initiate_next hc hz] at h ⊢
      have := of_decide_eq_false h
      exact ⟨hc, by show s.toinitiate - 1 < 0; omega, by show s.toinitiate - 1 ≤ _; omega,
        fun _ => by show s.toinitiate - 1 = -1; omega, by omega⟩
  · rw [initiate_done hc]
    exact Or.inl ⟨by omega, rfl⟩

end Infretis.Repex
