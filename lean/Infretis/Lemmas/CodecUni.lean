import Infretis.Model.CodecUni
import Infretis.Lemmas.CodecFixed
/-!
The readers with Python's complete white-space set (`Model/CodecUni.lean`) against the ASCII readers of
`Model/Codec.lean`: on texts without non-ASCII white space (`Plain`) they coincide, the writers' images are such texts
when the kept strings (atom names, g96 title lines and labels) are (`frameLines_chars`, `g96Lines_chars` at `Plain`),
and so on a written text the complete readers are the ASCII readers: the equations of `Lemmas/CodecFixed.lean` hold for
them under that exact extra guard.
-/
namespace Infretis.CodecUni
open Infretis.Codec

/-- no non-ASCII white space (none of the 19 code points of `str.isspace` beyond ASCII) -/
def Plain (l : List Char) : Prop := ∀ c ∈ l, exotic c = false

instance (l : List Char) : Decidable (Plain l) := inferInstanceAs (Decidable (∀ c ∈ l, exotic c = false))

theorem Plain_nil : Plain [] := by intro c hc; simp at hc

theorem Plain_append {a b : List Char} (ha : Plain a) (hb : Plain b) : Plain (a ++ b) := by
  intro c hc
  rcases List.mem_append.1 hc with h | h
  · exact ha c h
  · exact hb c h

theorem Plain_cons {a : Char} {b : List Char} (ha : exotic a = false) (hb : Plain b) : Plain (a :: b) := by
  intro c hc
  rcases List.mem_cons.1 hc with h | h
  · subst h; exact ha
  · exact hb c h

theorem Plain_sub {l m : List Char} (hm : Plain m) (h : ∀ c ∈ l, c ∈ m) : Plain l := fun c hc => hm c (h c hc)

theorem outChars_plain : ∀ c ∈ outChars, exotic c = false := by decide +kernel

theorem normT_plain {l : List Char} (h : Plain l) : normT l = l := by
  unfold normT
  conv => rhs; rw [← List.map_id l]
  apply List.map_congr_left
  intro c hc
  simp [norm, h c hc]

theorem isWs_pySpace {c : Char} (h : isWs c = true) : pySpace c = true := by
  simp only [isWs, Bool.or_eq_true, decide_eq_true_eq] at h
  rcases h with ((((((((h | h) | h) | h) | h) | h) | h) | h) | h) | h <;> subst h <;> decide

theorem pySpace_eq_of_plain {c : Char} (h : exotic c = false) : pySpace c = isWs c := by
  by_cases hw : isWs c = true
  · rw [hw, isWs_pySpace hw]
  · have hw' : isWs c = false := by simpa using hw
    simp only [exotic, hw', Bool.not_false, Bool.and_true] at h
    rw [h, hw']

theorem dropWhile_plain : ∀ {l : List Char}, Plain l → l.dropWhile pySpace = l.dropWhile isWs
  | [], _ => rfl
  | c :: t, h => by
    have hc := pySpace_eq_of_plain (h c (by simp))
    have ht : Plain t := fun x hx => h x (by simp [hx])
    simp only [List.dropWhile_cons, hc, dropWhile_plain ht]

theorem Plain_reverse {l : List Char} (h : Plain l) : Plain l.reverse := fun c hc => h c (by simpa using hc)

theorem rstripU_plain {l : List Char} (h : Plain l) : rstripU l = rstrip l := by
  simp only [rstripU, rstrip, dropWhile_plain (Plain_reverse h)]

theorem Plain_rstrip {l : List Char} (h : Plain l) : Plain (rstrip l) := fun c hc => h c (Lex.mem_rstrip (ws := isWs) hc)

theorem stripU_plain {l : List Char} (h : Plain l) : stripU l = strip l := by
  simp only [stripU, strip, lstripU, lstrip, rstripU_plain h, dropWhile_plain (Plain_rstrip h)]

theorem g96CollectU_plain : ∀ (ls : List Line) (sec : Option Sec), (∀ l ∈ ls, Plain l) →
    g96CollectU sec ls = g96Collect sec ls
  | [], _, _ => by simp [g96CollectU, g96Collect]
  | l :: rest, sec, h => by
    have hl : Plain l := h l (by simp)
    have hr : ∀ x ∈ rest, Plain x := fun x hx => h x (by simp [hx])
    simp only [g96CollectU, g96Collect, stripU_plain hl, rstripU_plain hl, g96CollectU_plain rest _ hr]
    rfl

def RawPlain (r : G96Raw) : Prop :=
  (∀ l ∈ r.title, Plain l) ∧ (∀ l ∈ r.pos, Plain l) ∧ (∀ l ∈ r.vel, Plain l) ∧ (∀ l ∈ r.box, Plain l) ∧
  (∀ l ∈ r.posred, Plain l) ∧ (∀ l ∈ r.velred, Plain l)

theorem RawPlain_push {r : G96Raw} (s : Sec) {l : Line} (hr : RawPlain r) (hl : Plain l) : RawPlain (r.push s l) := by
  obtain ⟨a, b, c, d, e, f⟩ := hr
  cases s <;> simp only [G96Raw.push, RawPlain] <;>
    refine ⟨?_, ?_, ?_, ?_, ?_, ?_⟩ <;> first | assumption | (intro x hx; rcases List.mem_cons.1 hx with h | h
                                                              · subst h; exact hl
                                                              · first | exact a x h | exact b x h | exact c x h | exact d x h | exact e x h | exact f x h)

theorem g96Collect_plain : ∀ (ls : List Line) (sec : Option Sec) (raw : G96Raw), (∀ l ∈ ls, Plain l) →
    g96Collect sec ls = .ok raw → RawPlain raw
  | [], _, raw, _, h => by
    simp only [g96Collect, Except.ok.injEq] at h
    subst h
    simp [RawPlain, G96Raw.empty]
  | l :: rest, sec, raw, hp, h => by
    have hr : ∀ x ∈ rest, Plain x := fun x hx => hp x (by simp [hx])
    simp only [g96Collect] at h
    split at h
    · exact g96Collect_plain rest sec raw hr h
    · split at h
      · exact g96Collect_plain rest _ raw hr h
      · split at h
        · cases h
        · split at h
          · rename_i r hrr
            simp only [Except.ok.injEq] at h
            subst h
            exact RawPlain_push _ (g96Collect_plain rest _ r hr hrr) (Plain_rstrip (hp l (by simp)))
          · cases h

theorem map_normT_plain {ls : List Line} (h : ∀ l ∈ ls, Plain l) : ls.map normT = ls.map id := by
  apply List.map_congr_left
  intro l hl
  simp [normT_plain (h l hl)]

theorem g96Finish_plain {raw : G96Raw} (h : RawPlain raw) : g96Finish normT raw = g96Finish id raw := by
  obtain ⟨_, b, c, d, e, f⟩ := h
  unfold g96Finish
  rw [map_normT_plain b, map_normT_plain c, map_normT_plain e, map_normT_plain f]
  cases hb : raw.box with
  | nil => rfl
  | cons x xs =>
    have : normT x = id x := by simp [normT_plain (d x (by simp [hb]))]
    simp only [this]

theorem readG96Lines_finish (ls : List Line) :
    readG96Lines ls = match g96Collect none ls with
      | .error e => .error e
      | .ok raw => g96Finish id raw := by
  unfold readG96Lines
  cases g96Collect none ls with
  | error e => rfl
  | ok raw => simp only [g96Finish, List.map_id, id]; rfl

theorem readG96LinesU_plain (ls : List Line) (h : ∀ l ∈ ls, Plain l) : readG96LinesU ls = readG96Lines ls := by
  rw [readG96Lines_finish, readG96LinesU, g96CollectU_plain ls none h]
  cases hc : g96Collect none ls with
  | error e => rfl
  | ok raw => exact g96Finish_plain (g96Collect_plain ls none raw h hc)

/-- the extra guard of the complete reader: the strings the file keeps verbatim hold no non-ASCII white space -/
structure G96Plain (raw : G96Raw) : Prop where
  title : ∀ t ∈ raw.title, Plain t
  pos : ∀ t ∈ raw.pos, Plain t
  vel : ∀ t ∈ raw.vel, Plain t

theorem Plain_g96Lines (raw : G96Raw) (xyz vel : List V3) (box : List Dec) (hp : G96Plain raw) :
    ∀ l ∈ g96Lines raw xyz vel box, Plain l :=
  g96Lines_chars outChars_plain raw xyz vel box hp.title hp.pos hp.vel

theorem G96Plain_rawAfter {raw : G96Raw} (box : List Dec) (hp : G96Plain raw) : G96Plain (rawAfter raw box) :=
  ⟨hp.title, hp.pos, hp.vel⟩

theorem Plain_unlines : ∀ (ls : List Line), (∀ l ∈ ls, Plain l) → Plain (unlines ls)
  | [], _ => by simp [unlines, Plain_nil]
  | l :: t, h => by
    simp only [unlines]
    exact Plain_append (h l (by simp)) (Plain_cons (by decide) (Plain_unlines t (fun x hx => h x (by simp [hx]))))

theorem Plain_frameLines (c : Conf) (hn : ∀ nm ∈ c.names, Plain nm) : ∀ l ∈ frameLines c, Plain l :=
  frameLines_chars outChars_plain c hn

theorem Plain_trajText (cs : List Conf) (hn : ∀ c ∈ cs, ∀ nm ∈ c.names, Plain nm) : Plain (trajText cs) := by
  apply Plain_unlines
  intro l hl
  obtain ⟨c, hc, hlc⟩ := List.mem_flatMap.1 hl
  exact Plain_frameLines c (hn c hc) l hlc

/-- on a written trajectory the complete xyz readers (each is its ASCII reader after `normT`) are the ASCII readers -/
theorem normT_trajText (cs : List Conf) (hn : ∀ c ∈ cs, ∀ nm ∈ c.names, Plain nm) : normT (trajText cs) = trajText cs :=
  normT_plain (Plain_trajText cs hn)

theorem normT_frame (c : Conf) (hn : ∀ nm ∈ c.names, Plain nm) : normT (unlines (frameLines c)) = unlines (frameLines c) :=
  trajText_single c ▸ normT_trajText [c] (by simpa using hn)

theorem readG96U_g96Lines (raw : G96Raw) (xyz vel : List V3) (box : List Dec) (h : G96Ok raw xyz vel box)
    (hp : G96Plain raw) :
    readG96U (unlines (g96Lines raw xyz vel box)) = readG96 (unlines (g96Lines raw xyz vel box)) := by
  rw [readG96U, readG96, pyLines_unlines _ (NoBrk_g96Lines raw xyz vel box h),
      readG96LinesU_plain _ (Plain_g96Lines raw xyz vel box hp)]

theorem reverseG96U_g96Lines (raw : G96Raw) (xyz vel : List V3) (box : List Dec) (h : G96Ok raw xyz vel box)
    (hp : G96Plain raw) :
    reverseG96U (unlines (g96Lines raw xyz vel box)) = reverseG96 (unlines (g96Lines raw xyz vel box)) := by
  unfold reverseG96U reverseG96
  rw [readG96U_g96Lines raw xyz vel box h hp]
  cases readG96 (unlines (g96Lines raw xyz vel box)) <;> rfl

end Infretis.CodecUni
