import Infretis.Lemmas.ReadersXyz
/-!
# Lemmas for C13: `ReadAndProcessOnTheFly` as an object (`rpRun`)

The object model carries `previous_position` next to `current_position`.  `previous_position` is only ever
written: the frames returned and the new `current_position` are those of the function model
(`xyzReader`, `lmpReader`) — `*_proj`.  From there every poll sequence of the object on the file states of an
append-only trajectory (absent, or a prefix) is reduced to the one-poll lemmas, stated for the whole file and the
number of frames returned so far; what `pollAll` returns on prefixes is the object's output with the positions
dropped, so the induction over the polls is done once, on the object.
-/
namespace Infretis.Readers

/-- bytes visible in a file state of an append-only trajectory: an absent file shows nothing -/
def visBytes : Option Nat → Nat
  | none => 0
  | some c => c

/-- a loop result of the object model with `previous_position` dropped -/
def projRes {σ F : Type} : Res (σ × Nat) (List F × RP) → Res σ (List F × Nat)
  | .cont s => .cont s.1
  | .ret r => .ret (r.1, r.2.cur)
  | .err e => .err e

/-- a loop that carries `previous_position` along is the loop without it -/
theorem resRun_proj {σ F : Type} {step : σ → Line → Res σ (List F × Nat)}
    {stepO : σ × Nat → Line → Res (σ × Nat) (List F × RP)} (h : ∀ s l, projRes (stepO s l) = step s.1 l)
    (ls : List Line) (s : σ × Nat) : projRes (resRun stepO ls s) = resRun step ls s.1 := by
  induction ls generalizing s with
  | nil => rfl
  | cons l ls ih =>
    have hs := h s l
    simp only [resRun]
    cases hO : stepO s l with
    | cont s' => rw [hO] at hs; rw [← hs]; exact ih s'
    | ret r => rw [hO] at hs; rw [← hs]; rfl
    | err e => rw [hO] at hs; rw [← hs]; rfl

theorem xyzStepO_proj (v : Variant) (s : XSt × Nat) (l : Line) : projRes (xyzStepO v s l) = xyzStep v s.1 l := by
  unfold xyzStepO
  cases xyzStep v s.1 l <;> rfl

theorem lmpStepO_proj (v : Variant) (s : LSt × Nat) (l : Line) : projRes (lmpStepO v s l) = lmpStep v s.1 l := by
  unfold lmpStepO
  cases lmpStep v s.1 l <;> rfl

/-- what the object returns and where it leaves `current_position` -/
def objProj {F : Type} (r : Except Err (List F × RP)) : Except Err (List F × Nat) :=
  match r with
  | .ok x => .ok (x.1, x.2.cur)
  | .error e => .error e

theorem xyzReaderO_proj (v : Variant) (content : List Char) (o : RP) :
    objProj (xyzReaderO v content o) = xyzReader v content o.cur := by
  unfold xyzReaderO xyzReader
  rw [xyzRun_eq_resRun, ← resRun_proj (xyzStepO_proj v) _ (xInit o.cur, o.prev)]
  cases resRun (xyzStepO v) (lines (content.drop o.cur)) (xInit o.cur, o.prev) <;> rfl

theorem lmpReaderO_proj (v : Variant) (content : List Char) (o : RP) :
    objProj (lmpReaderO v content o) = lmpReader v content o.cur := by
  unfold lmpReaderO lmpReader
  rw [lmpRun_eq_resRun, ← resRun_proj (lmpStepO_proj v) _ (lInit o.cur, o.prev)]
  cases resRun (lmpStepO v) (lines (content.drop o.cur)) (lInit o.cur, o.prev) <;> rfl

theorem objProj_ok {F : Type} {r : Except Err (List F × RP)} {fs : List F} {pos : Nat}
    (h : objProj r = .ok (fs, pos)) : ∃ p', r = .ok (fs, ⟨pos, p'⟩) := by
  cases r with
  | error e => simp [objProj] at h
  | ok x =>
    obtain ⟨a, ⟨c, p⟩⟩ := x
    simp only [objProj, Except.ok.injEq, Prod.mk.injEq] at h
    obtain ⟨rfl, rfl⟩ := h
    exact ⟨p, rfl⟩

theorem objProj_error {F : Type} {r : Except Err (List F × RP)} {e : Err}
    (h : objProj r = .error e) : r = .error e := by
  cases r with
  | error e' => simpa [objProj] using h
  | ok x => simp [objProj] at h

/-- frames of every poll -/
def stagesFrames {F : Type} (r : Except Err (List (List F × RP))) : Except Err (List (List F)) :=
  match r with
  | .ok st => .ok (st.map Prod.fst)
  | .error e => .error e

/-- frames and `current_position` of every poll -/
def stagesPos {F : Type} (r : Except Err (List (List F × RP))) : Except Err (List (List F × Nat)) :=
  match r with
  | .ok st => .ok (st.map (fun s => (s.1, s.2.cur)))
  | .error e => .error e

/-- **the object is the function model**: polled on the prefixes `cuts` of one content, the object returns
    poll by poll what `pollAll` returns -/
theorem rpRun_eq_pollAll {F : Type} (readerO : List Char → RP → Except Err (List F × RP))
    (reader : List Char → Nat → Except Err (List F × Nat))
    (hproj : ∀ content o, objProj (readerO content o) = reader content o.cur)
    (content : List Char) (cuts : List Nat) (o : RP) :
    stagesFrames (rpRun readerO (visible content (cuts.map some)) o) = pollAll reader content cuts o.cur := by
  induction cuts generalizing o with
  | nil => rfl
  | cons c cs ih =>
    simp only [List.map_cons, visible, Option.map_some, rpRun, rpPoll, pollAll]
    have hp := hproj (content.take c) o
    cases hr : reader (content.take c) o.cur with
    | error e =>
      rw [hr] at hp
      rw [objProj_error hp]; rfl
    | ok x =>
      obtain ⟨fs, pos⟩ := x
      rw [hr] at hp
      obtain ⟨p', hp'⟩ := objProj_ok hp
      rw [hp']
      have := ih ⟨pos, p'⟩
      simp only [visible] at this
      simp only []
      rw [← this]
      cases rpRun readerO (List.map (fun e => Option.map (fun c => List.take c content) e) (List.map some cs))
        ⟨pos, p'⟩ <;> rfl

theorem rpRun_absent_as_empty {F : Type} (readerO : List Char → RP → Except Err (List F × RP))
    (hempty : ∀ o, readerO [] o = .ok ([], o)) (content : List Char) (evs : List (Option Nat)) (o : RP) :
    rpRun readerO (visible content evs) o
      = rpRun readerO (visible content ((evs.map visBytes).map some)) o := by
  induction evs generalizing o with
  | nil => rfl
  | cons e es ih =>
    cases e with
    | none =>
      simp only [visible, List.map_cons, Option.map_none, Option.map_some, visBytes, rpRun, rpPoll,
        List.take_zero, hempty]
      have := ih o
      simp only [visible] at this
      rw [this]
    | some c =>
      simp only [visible, List.map_cons, Option.map_some, visBytes, rpRun, rpPoll]
      cases readerO (content.take c) o with
      | error e => rfl
      | ok x =>
        have := ih x.2
        simp only [visible] at this
        simp only []
        rw [this]

theorem xyzReaderO_empty (v : Variant) (o : RP) : xyzReaderO v [] o = .ok ([], o) := by
  simp [xyzReaderO, lines, resRun, finish, xInit]

theorem lmpReaderO_empty (v : Variant) (o : RP) : lmpReaderO v [] o = .ok ([], o) := by
  simp [lmpReaderO, lines, resRun, finish, lInit]

/-- a file that does not reach beyond `current_position` (truncated, replaced by something shorter, or simply
    not grown): the poll returns nothing, moves nothing, raises nothing — whatever the file contains -/
theorem xyzReaderO_short (v : Variant) (content : List Char) (o : RP) (h : content.length ≤ o.cur) :
    xyzReaderO v content o = .ok ([], o) := by
  simp [xyzReaderO, List.drop_eq_nil_of_le h, lines, resRun, finish, xInit]

theorem lmpReaderO_short (v : Variant) (content : List Char) (o : RP) (h : content.length ≤ o.cur) :
    lmpReaderO v content o = .ok ([], o) := by
  simp [lmpReaderO, List.drop_eq_nil_of_le h, lines, resRun, finish, lInit]

theorem readerO_of_proj {F : Type} {readerO : List Char → RP → Except Err (List F × RP)}
    {reader : List Char → Nat → Except Err (List F × Nat)}
    (hproj : ∀ content o, objProj (readerO content o) = reader content o.cur) {content : List Char} {cur : Nat}
    (p : Nat) {fs : List F} {pos : Nat} (h : reader content cur = .ok (fs, pos)) :
    ∃ p', readerO content ⟨cur, p⟩ = .ok (fs, ⟨pos, p'⟩) :=
  objProj_ok ((hproj content ⟨cur, p⟩).trans h)

theorem stagesPos_rpRun_cons {F : Type} (readerO : List Char → RP → Except Err (List F × RP))
    (file : Option (List Char)) (fs : List (Option (List Char))) (o o' : RP) (frames : List F)
    (rest : List (List F × Nat))
    (hpoll : rpPoll readerO o file = .ok (frames, o')) (hrest : stagesPos (rpRun readerO fs o') = .ok rest) :
    stagesPos (rpRun readerO (file :: fs) o) = .ok ((frames, o'.cur) :: rest) := by
  simp only [rpRun, hpoll]
  cases h : rpRun readerO fs o' with
  | error e => rw [h] at hrest; simp [stagesPos] at hrest
  | ok st =>
    rw [h] at hrest
    simp only [stagesPos, Except.ok.injEq] at hrest ⊢
    simp [hrest]

theorem pollAll_of_stagesPos {F : Type} {readerO : List Char → RP → Except Err (List F × RP)}
    {reader : List Char → Nat → Except Err (List F × Nat)}
    (hproj : ∀ content o, objProj (readerO content o) = reader content o.cur) (content : List Char)
    (cuts : List Nat) (o : RP) (st : List (List F × Nat))
    (h : stagesPos (rpRun readerO (visible content (cuts.map some)) o) = .ok st) :
    pollAll reader content cuts o.cur = .ok (st.map Prod.fst) := by
  rw [← rpRun_eq_pollAll readerO reader hproj]
  cases hr : rpRun readerO (visible content (cuts.map some)) o with
  | error e => rw [hr] at h; simp [stagesPos] at h
  | ok x =>
    rw [hr] at h
    simp only [stagesPos, Except.ok.injEq] at h
    simp [stagesFrames, ← h, List.map_map, Function.comp_def]

theorem exactStagesPos_length {F : Type} (lens : List Nat) (dec : List F) (evs : List (Option Nat)) (done : Nat) :
    (exactStagesPos lens dec evs done).length = evs.length := by
  induction evs generalizing done with
  | nil => rfl
  | cons e es ih => cases e <;> simp [exactStagesPos, ih]

theorem exactStagesPos_fst {F : Type} (lens : List Nat) (dec : List F) (cuts : List Nat) (done : Nat) :
    (exactStagesPos lens dec (cuts.map some) done).map Prod.fst = exactStages lens dec cuts done := by
  induction cuts generalizing done with
  | nil => rfl
  | cons c cs ih => simp only [List.map_cons, exactStagesPos, exactStages, ih]

theorem lmpStagesPos_length {F : Type} (lens : List Nat) (dec : List F) (evs : List (Option Nat)) (done : Nat)
    (late : Bool) : (lmpStagesPos lens dec evs done late).length = evs.length := by
  induction evs generalizing done late with
  | nil => rfl
  | cons e es ih =>
    cases e with
    | none => simp [lmpStagesPos, ih]
    | some c =>
      simp only [lmpStagesPos]
      split
      · split <;> simp [ih]
      · simp [ih]

theorem xyz_rpRun_pos (v : Variant) (N : Nat) (hN : 1 ≤ N) (frames : List XyzF)
    (hwf : ∀ f ∈ frames, f.WF N) (evs : List (Option Nat))
    (hv : v = .repaired ∨ ∀ e ∈ evs, LineEnd (((frames.map XyzF.enc).flatten).take (visBytes e)))
    (done : Nat) (p : Nat) :
    stagesPos (rpRun (xyzReaderO v) (visible ((frames.map XyzF.enc).flatten) evs)
        ⟨sumLens ((frames.map XyzF.len).take done), p⟩)
      = .ok (exactStagesPos (frames.map XyzF.len) (frames.map XyzF.decode) evs done) := by
  induction evs generalizing done p with
  | nil => rfl
  | cons e es ih =>
    have hv2 : v = .repaired ∨ ∀ e ∈ es, LineEnd (((frames.map XyzF.enc).flatten).take (visBytes e)) :=
      hv.imp id (fun h e he => h e (List.mem_cons_of_mem _ he))
    cases e with
    | none => exact stagesPos_rpRun_cons _ none _ _ _ [] _ rfl (ih hv2 done p)
    | some c =>
      have hpoll := xyzReader_poll v N hN frames hwf done c (hv.imp id (fun h => h (some c) List.mem_cons_self))
      obtain ⟨p', hp'⟩ := readerO_of_proj (xyzReaderO_proj v) p hpoll
      exact stagesPos_rpRun_cons (xyzReaderO v) (some (((frames.map XyzF.enc).flatten).take c)) _ _ _ _ _ hp'
        (ih hv2 _ p')

/-- **all polls (xyz)**: the reader polled on growing — or any — prefixes behaves as the exact reader -/
theorem xyz_pollAll (v : Variant) (N : Nat) (hN : 1 ≤ N) (frames : List XyzF) (hwf : ∀ f ∈ frames, f.WF N)
    (cuts : List Nat) (hv : v = .repaired ∨ ∀ c ∈ cuts, LineEnd (((frames.map XyzF.enc).flatten).take c)) :
    pollAll (xyzReader v) ((frames.map XyzF.enc).flatten) cuts 0
      = .ok (exactStages (frames.map XyzF.len) (frames.map XyzF.decode) cuts 0) := by
  have h := xyz_rpRun_pos v N hN frames hwf (cuts.map some)
    (hv.imp id (fun h e he => by obtain ⟨c, hc, rfl⟩ := List.mem_map.mp he; exact h c hc)) 0 0
  rw [← exactStagesPos_fst]
  exact pollAll_of_stagesPos (xyzReaderO_proj v) _ cuts _ _ h

/-- what holds of every poll sequence of the function model on the visible sizes holds of the object on the
    file states (an absent file shows nothing) -/
theorem rpRun_of_pollAll {F : Type} {readerO : List Char → RP → Except Err (List F × RP)}
    {reader : List Char → Nat → Except Err (List F × Nat)}
    (hproj : ∀ content o, objProj (readerO content o) = reader content o.cur)
    (hempty : ∀ o, readerO [] o = .ok ([], o)) (content : List Char) (evs : List (Option Nat))
    (st0 : List (List F)) (h : pollAll reader content (evs.map visBytes) 0 = .ok st0) :
    ∃ stages, rpRun readerO (visible content evs) rpInit = .ok stages ∧ stages.map Prod.fst = st0 := by
  have hpa := rpRun_eq_pollAll readerO reader hproj content (evs.map visBytes) rpInit
  rw [← rpRun_absent_as_empty readerO hempty content evs rpInit, show rpInit.cur = 0 from rfl, h] at hpa
  cases hr : rpRun readerO (visible content evs) rpInit with
  | error e => rw [hr] at hpa; simp [stagesFrames] at hpa
  | ok stages =>
    rw [hr] at hpa
    simp only [stagesFrames, Except.ok.injEq] at hpa
    exact ⟨stages, rfl, hpa⟩

end Infretis.Readers
