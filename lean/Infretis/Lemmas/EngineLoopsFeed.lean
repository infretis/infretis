import Infretis.Lemmas.Moves
/-!
`Engine.feed` (shared model, C12) is the `repaired` engine loop of `Lemmas/Moves.lean` (`Moves.feed_iff`); here: it never
raises on a path with room, and `feed_spec`, a leg by positions in the stream.
-/
namespace Infretis.EngineLoops
open Infretis.Engine

/-- `feed` never raises on a path with room (the IndexError needs an empty path and `maxlen = 0`) -/
theorem feed_total (l r : Int) (ml : Option Nat) :
    ∀ (stream ops0 : List Int) (k0 : Nat), (∀ m, ml = some m → ops0.length < m) →
      feed l r ml ops0 stream k0 ≠ none := by
  intro stream ops0 k0 hfit
  obtain ⟨_, _, _, h⟩ := Moves.feedV_leg (v := .repaired) (l := l) (r := r) stream k0 hfit
  rw [← Moves.feedV_repaired, h]
  exact Option.some_ne_none _

theorem feed_spec (l r : Int) (ml : Option Nat) (stream ops0 : List Int) (k0 : Nat) (ops : List Int) (succ : Bool)
    (k : Nat) (hfit : ∀ m, ml = some m → ops0.length < m) (h : feed l r ml ops0 stream k0 = some (ops, succ, k)) :
    ∃ n, k = k0 + n ∧ n ≤ stream.length ∧ ops = ops0 ++ stream.take n ∧
      (∀ i x, i + 1 < n → stream[i]? = some x → l ≤ x ∧ x ≤ r ∧ ml ≠ some (ops0.length + i + 1)) ∧
      ((n = stream.length ∧ succ = false ∧
          ∀ i x, stream[i]? = some x → l ≤ x ∧ x ≤ r ∧ ml ≠ some (ops0.length + i + 1)) ∨
       (∃ x, 0 < n ∧ stream[n - 1]? = some x ∧ (x < l ∨ x > r ∨ ml = some (ops0.length + n)) ∧
          (succ = true ↔ (x < l ∨ x > r)))) := by
  obtain ⟨q, hq, rfl, rfl⟩ := (Moves.feed_iff hfit).1 h
  -- frames inside with room behind them, by position
  have key : ∀ (body tail : List Int), (∀ y ∈ body, l ≤ y ∧ y ≤ r) → Moves.Room ml (ops0.length + body.length) →
      ∀ i x, i < body.length → (body ++ tail)[i]? = some x → l ≤ x ∧ x ≤ r ∧ ml ≠ some (ops0.length + i + 1) := by
    intro body tail hb hm i x hi hx
    rw [List.getElem?_append_left hi] at hx
    have := hb x (List.mem_of_getElem? hx)
    exact ⟨this.1, this.2, fun e => by have := hm _ e; omega⟩
  refine ⟨q.length, rfl, hq.prefix.length_le, by rw [← List.prefix_iff_eq_take.1 hq.prefix], ?_⟩
  cases hq with
  | crossed pre x post hin hx hroom hok =>
    refine ⟨fun i y hi => key pre _ hin hroom i y (by simp at hi; omega), Or.inr ⟨x, by simp, by simp, by omega, ?_⟩⟩
    simp [hok, Moves.isRep, hx]
  | full pre x post hin hx hfull =>
    have hroom : Moves.Room ml (ops0.length + pre.length) := fun m hm => by rw [hfull] at hm; cases hm; omega
    exact ⟨fun i y hi => key pre _ hin hroom i y (by simp at hi; omega),
      Or.inr ⟨x, by simp, by simp, by simp [hfull, Nat.add_assoc], by simp; omega⟩⟩
  | dry _ hin hroom =>
    have := key stream [] hin hroom
    simp only [List.append_nil] at this
    exact ⟨fun i y hi => this i y (by omega), Or.inl ⟨rfl, rfl, fun i y hy =>
      this i y (List.getElem?_eq_some_iff.1 hy).1 hy⟩⟩

end Infretis.EngineLoops
