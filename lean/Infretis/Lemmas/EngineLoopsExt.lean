import Infretis.Model.EngineFault
import Infretis.Lemmas.EngineLoopsPath
/-!
The polling loop shared by LAMMPS and CP2K, for EVERY schedule (C12): the path it returns, or leaves behind when an
exception leaves it, is closed, the program is stopped on every way out but an unguarded exception, a non-zero exit
code raises (`ExtPost`); the loop is left normally only with the return code collected (`Exit`).  Proved for the loop
with a fault in its body (`extRunF`), of which `extRun` is the case without fault.

`sleep`, `poll` and the waits change the clock, the world and the process flags only, so what is said of the path
and the pending lists passes them unchanged.  The two engines differ in their `pop`s only (`popFrame`).
-/
namespace Infretis.EngineLoops
open Infretis.Engine Infretis.EngineFault

theorem endIter_spec (sched : Sched) (s : XState) :
    ∃ d i, endIter sched s = { s with t := s.t + 2, cur := sched (s.t + 1), dead := d, it := i } ∧
      (s.dead = true → d = true) ∧ (s.it = 2 → i = 2) := by
  unfold endIter
  obtain ⟨d, hp, hd⟩ := poll_spec sched (tick sched s)
  simp only [hp]
  split
  · rename_i h
    exact ⟨d, s.it + 1, rfl, hd, fun h2 => by simp [tick, h2] at h⟩
  · exact ⟨d, s.it, rfl, hd, id⟩

theorem waitFile_spec (sched : Sched) :
    ∀ (fuel : Nat) (s s' : XState), waitFile sched fuel s = some s' →
      ∃ t' w d, s' = { s with t := t', cur := w, dead := d } ∧ (w = s.cur ∨ ∃ u, w = sched u) ∧
        (w.file = true ∨ d = true) := by
  intro fuel
  induction fuel with
  | zero => intro s s' h; simp [waitFile] at h
  | succ fuel ih =>
    intro s s' h
    simp only [waitFile] at h
    split at h
    · rename_i hf
      cases h
      exact ⟨s.t, s.cur, s.dead, rfl, Or.inl rfl, Or.inl hf⟩
    · obtain ⟨d, hp, _⟩ := poll_spec sched (tick sched s)
      rw [hp] at h
      simp only at h
      split at h
      · obtain ⟨t', w, d', e, h1, h2⟩ := ih _ _ h
        exact ⟨t', w, d', e, Or.inr (h1.elim (fun h => ⟨_, h⟩) id), h2⟩
      · rename_i ha
        cases h
        exact ⟨_, _, d, rfl, Or.inr ⟨_, rfl⟩, Or.inr (by simpa using ha)⟩

theorem afterAdd_stop (sched : Sched) (s : XState) (es' : List Entry) (r : AddResult) (h : r.stop = true) :
    ∃ t' w k', afterAdd sched s es' r =
      ({ s with es := es', success := r.success, status := some r.status, t := t', cur := w, killed := k', dead := true,
                it := 2, terminated := true }, true) := by
  obtain ⟨d, hp, _⟩ := poll_spec sched { s with es := es', success := r.success, status := some r.status }
  simp only [afterAdd, h, if_true, hp]
  exact ⟨_, _, _, rfl⟩

theorem afterAdd_noStop (sched : Sched) (s : XState) (es' : List Entry) (r : AddResult) (h : r.stop = false) :
    afterAdd sched s es' r
      = ({ s with es := es', success := r.success, status := some r.status, stepNr := s.stepNr + 1 }, false) := by
  simp [afterAdd, h]

/-- the `pop`s at the head of the `for` body: coordinates, box and velocity handed to the order function, and the
    state without them; `none` = IndexError of a `pop` -/
def popFrame (k : Kind) (s : XState) : Option (Nat × Nat × Int × XState) :=
  match k with
  | .lammps v =>
    match s.pos with
    | [] => none
    | f :: rest =>
      match popBox v s.boxes with
      | none => none
      | some (b, boxes') => some (f.cid, b, f.vel, { s with pos := rest, boxes := boxes' })
  | .cp2k box0 =>
    match s.pos, s.vels with
    | p :: prest, w :: vrest => some (p.cid, box0, w.vel, { s with pos := prest, vels := vrest })
    | _, _ => none

theorem batchF_succ (k : Kind) (c : Cfg) (sched : Sched) (fault : Option Nat) (n : Nat) (s : XState) :
    batchF k c sched fault (n + 1) s =
      match popFrame k s with
      | none => .err .index s
      | some (cid, b, v, s0) =>
        if fault = some s.stepNr then .body s0
        else
          match record c s.es s.stepNr cid b v with
          | none => .err .index s
          | some (es', r) =>
            if (afterAdd sched s0 es' r).2 then .stopped (afterAdd sched s0 es' r).1
            else batchF k c sched fault n (afterAdd sched s0 es' r).1 := by
  cases k with
  | lammps v =>
    simp only [batchF, popFrame]
    rcases hp : s.pos with _ | ⟨f, rest⟩
    · rfl
    · rcases hb : popBox v s.boxes with _ | ⟨b, boxes'⟩ <;> rfl
  | cp2k box0 =>
    simp only [batchF, popFrame]
    rcases hp : s.pos with _ | ⟨p, prest⟩
    · rfl
    · rcases hv : s.vels with _ | ⟨w, vrest⟩ <;> rfl

theorem batch_succ (k : Kind) (c : Cfg) (sched : Sched) (n : Nat) (s : XState) :
    batch k c sched (n + 1) s =
      match popFrame k s with
      | none => .err .index s
      | some (cid, b, v, s0) =>
        match record c s.es s.stepNr cid b v with
        | none => .err .index s
        | some (es', r) =>
          if (afterAdd sched s0 es' r).2 then .stopped (afterAdd sched s0 es' r).1
          else batch k c sched n (afterAdd sched s0 es' r).1 := by
  cases k with
  | lammps v =>
    simp only [batch, popFrame]
    rcases hp : s.pos with _ | ⟨f, rest⟩
    · rfl
    · rcases hb : popBox v s.boxes with _ | ⟨b, boxes'⟩ <;> rfl
  | cp2k box0 =>
    simp only [batch, popFrame]
    rcases hp : s.pos with _ | ⟨p, prest⟩
    · rfl
    · rcases hv : s.vels with _ | ⟨w, vrest⟩ <;> rfl

/-- which box may have been used for frame `f`: its own when the pairing is repaired or no poll has yet
    delivered two frames at once; in any case the box of SOME written frame.  CP2K: the constant box. -/
def BoxP (k : Kind) (frames : List Frame) (m : Bool) (f : Frame) (b : Nat) : Prop :=
  match k with
  | .lammps v => (v = .repaired → b = f.bid) ∧ (m = false → b = f.bid) ∧ (∃ f', f' ∈ frames ∧ b = f'.bid)
  | .cp2k b0 => b = b0

theorem BoxP.weaken {k : Kind} {frames : List Frame} {m m' : Bool} {f : Frame} {b : Nat}
    (hm : m' = false → m = false) (h : BoxP k frames m f b) : BoxP k frames m' f b := by
  cases k with
  | lammps v => exact ⟨h.1, fun h' => h.2.1 (hm h'), h.2.2⟩
  | cp2k b0 => exact h

/-- entry `i` records the `i`-th written frame: its index, coordinates and velocity (with the `vel_rev` sign),
    order computed from exactly what the entry says; the box obeys `BoxP` -/
def extEnt (k : Kind) (c : Cfg) (frames : List Frame) (m : Bool) (i : Nat) (e : Entry) : Prop :=
  ∃ f b, frames[i]? = some f ∧ e = mkEntry c i f.cid b f.vel ∧ BoxP k frames m f b

/-- the pending lists beside `pos`.  LAMMPS: a box is pending for every pending frame (so `popBox` finds one whenever
    `popFrame` finds a frame), and the boxes are what `BoxP` asks of the one popped: the frames' own under the repaired
    pairing or while no poll has delivered two at once, boxes of written frames in any case.  CP2K: the velocities read
    from frame `n` on. -/
def KInv (k : Kind) (frames : List Frame) (m : Bool) (n : Nat) (pos vels : List Frame) (boxes : List Nat)
    (rv : Nat) : Prop :=
  match k with
  | .lammps v => boxes.length = pos.length ∧ (v = .repaired → boxes = pos.map (·.bid)) ∧
      (m = false → boxes = pos.map (·.bid)) ∧ (∀ b, b ∈ boxes → ∃ f', f' ∈ frames ∧ b = f'.bid)
  | .cp2k _ => vels <+: frames.drop n ∧ rv = n + vels.length

/-- the pending lists hold what has been read of the frames from index `n` on -/
def Queue (k : Kind) (frames : List Frame) (m : Bool) (n : Nat) (s : XState) : Prop :=
  s.pos <+: frames.drop n ∧ s.rp = n + s.pos.length ∧ KInv k frames m n s.pos s.vels s.boxes s.rv

structure XInv (k : Kind) (c : Cfg) (frames : List Frame) (s : XState) : Prop where
  path : Open c (extEnt k c frames s.multi) s.es s.success
  step : s.stepNr = s.es.length
  queue : Queue k frames s.multi s.stepNr s

def XFin (k : Kind) (c : Cfg) (frames : List Frame) (s : XState) : Prop :=
  Closed c (extEnt k c frames s.multi) s.es s.success

theorem XInv.init (k : Kind) (c : Cfg) (frames : List Frame) : XInv k c frames XState.init :=
  ⟨Open.nil _ _, rfl, by cases k <;> simp [Queue, KInv, XState.init]⟩

theorem XInv.endIter {k : Kind} {c : Cfg} {frames : List Frame} {s : XState} (sched : Sched)
    (h : XInv k c frames s) : XInv k c frames (endIter sched s) := by
  obtain ⟨d, i, e, _⟩ := endIter_spec sched s
  rw [e]
  exact ⟨h.path, h.step, h.queue⟩

theorem XInv.setMulti {k : Kind} {c : Cfg} {frames : List Frame} {s : XState} (x : Bool)
    (h : XInv k c frames s) : XInv k c frames { s with multi := s.multi || x } := by
  have hm : (s.multi || x) = false → s.multi = false := fun e => (Bool.or_eq_false_iff.mp e).1
  refine ⟨h.path.mono (fun i e ⟨f, b, h1, h2, h3⟩ => ⟨f, b, h1, h2, h3.weaken hm⟩), h.step, h.queue.1, h.queue.2.1, ?_⟩
  have h5 := h.queue.2.2
  cases k with
  | lammps v => exact ⟨h5.1, h5.2.1, fun e => h5.2.2.1 (hm e), h5.2.2.2⟩
  | cp2k b0 => exact h5

theorem XInv.readNew {k : Kind} {c : Cfg} {frames : List Frame} {s s' : XState}
    (h : XInv k c frames s) (hr : readNew k frames s = some s') : XInv k c frames s' := by
  obtain ⟨h1, h2, h3, h4, h5⟩ := h
  cases k with
  | lammps v =>
    simp only [EngineLoops.readNew] at hr
    split at hr
    · cases hr
      obtain ⟨k1, k2, k3, k4⟩ := h5
      refine ⟨h1, h2, ?_, ?_, by simp only [List.length_append, List.length_map, k1],
        fun hv => by rw [k2 hv, List.map_append], fun hm => by rw [k3 hm, List.map_append], ?_⟩
      · simp only [h4]; exact prefix_extend _ _ _ _ h3
      · simp only [List.length_append]; omega
      · intro b hb
        rcases List.mem_append.mp hb with hb | hb
        · exact k4 b hb
        · obtain ⟨f, hf, rfl⟩ := List.mem_map.mp hb
          exact ⟨f, List.mem_of_mem_take (List.mem_of_mem_drop hf), rfl⟩
    · cases hr
  | cp2k b0 =>
    simp only [EngineLoops.readNew] at hr
    split at hr
    · cases hr
      obtain ⟨k1, k2⟩ := h5
      refine ⟨h1, h2, ?_, ?_, ?_, ?_⟩
      · simp only [h4]; exact prefix_extend _ _ _ _ h3
      · simp only [List.length_append]; omega
      · simp only [k2]; exact prefix_extend _ _ _ _ k1
      · simp only [List.length_append]; omega
    · cases hr
      exact ⟨h1, h2, h3, h4, h5⟩

theorem popBox_spec (v : Variant) (frames : List Frame) (m : Bool) (f : Frame) (rest vels : List Frame)
    (boxes : List Nat) (n rv : Nat) (hk : KInv (.lammps v) frames m n (f :: rest) vels boxes rv)
    (hB : m = false → (f :: rest).length ≤ 1) :
    ∃ b boxes', popBox v boxes = some (b, boxes') ∧ BoxP (.lammps v) frames m f b ∧
      KInv (.lammps v) frames m (n + 1) rest vels boxes' rv := by
  obtain ⟨k1, k2, k3, k4⟩ := hk
  have hr : m = false → rest = [] := fun hm => by simpa using hB hm
  cases v with
  | asIs =>
    have hne : boxes ≠ [] := by intro e; subst e; simp at k1
    refine ⟨boxes.getLast hne, boxes.dropLast, ?_, ⟨(fun h => Variant.noConfusion h), ?_, ?_⟩, ?_,
      (fun h => Variant.noConfusion h), ?_, ?_⟩
    · simp [popBox, List.getLast?_eq_some_getLast hne]
    · intro hm
      have := k3 hm
      subst this
      simp [hr hm]
    · exact k4 _ (List.getLast_mem hne)
    · simp [k1]
    · intro hm
      have := k3 hm
      subst this
      simp [hr hm]
    · intro b hb
      exact k4 b (List.dropLast_subset _ hb)
  | repaired =>
    have hb : boxes = f.bid :: rest.map (·.bid) := by simpa using k2 rfl
    subst hb
    refine ⟨f.bid, rest.map (·.bid), by simp [popBox], ⟨fun _ => rfl, fun _ => rfl, k4 f.bid (by simp)⟩, by simp,
      fun _ => rfl, fun _ => rfl, fun b hb => k4 b (List.mem_cons_of_mem _ hb)⟩

/-- until a poll has delivered two frames at once at most one frame is pending (LAMMPS) -/
def Single (k : Kind) (m : Bool) (s : XState) : Prop :=
  match k with
  | .lammps _ => m = false → s.pos.length ≤ 1
  | .cp2k _ => True

theorem popFrame_spec {k : Kind} {frames : List Frame} {m : Bool} {n : Nat} {s : XState}
    (hq : Queue k frames m n s) (hB : Single k m s) :
    popFrame k s = none ∨
    ∃ f b p' v' b', popFrame k s = some (f.cid, b, f.vel, { s with pos := p', vels := v', boxes := b' }) ∧
      frames[n]? = some f ∧ BoxP k frames m f b ∧
      Queue k frames m (n + 1) { s with pos := p', vels := v', boxes := b' } ∧
      Single k m { s with pos := p', vels := v', boxes := b' } := by
  obtain ⟨h3, h4, h5⟩ := hq
  cases k with
  | lammps v =>
    simp only [popFrame]
    rcases hp : s.pos with _ | ⟨f, rest⟩
    · exact Or.inl rfl
    · rw [hp] at h3 h4 h5
      have hB' : m = false → (f :: rest).length ≤ 1 := fun hm => hp ▸ hB hm
      obtain ⟨b, boxes', hpop, hP, hk⟩ := popBox_spec v frames m f rest s.vels s.boxes n s.rv h5 hB'
      obtain ⟨hf, hrest⟩ := cons_prefix_drop _ _ _ _ h3
      refine Or.inr ⟨f, b, rest, s.vels, boxes', by simp only [hpop], hf, hP, ⟨hrest, ?_, hk⟩, ?_⟩
      · simp only [h4, List.length_cons]; omega
      · intro hm
        have := hB' hm
        simp only [List.length_cons] at this ⊢
        omega
  | cp2k b0 =>
    simp only [popFrame]
    obtain ⟨k1, k2⟩ := h5
    rcases hp : s.pos with _ | ⟨p, prest⟩
    · exact Or.inl rfl
    · rcases hv : s.vels with _ | ⟨w, vrest⟩
      · exact Or.inl rfl
      · rw [hp] at h3 h4
        rw [hv] at k1 k2
        obtain ⟨hf, hrest⟩ := cons_prefix_drop _ _ _ _ h3
        obtain ⟨hw, hvrest⟩ := cons_prefix_drop _ _ _ _ k1
        cases hf.symm.trans hw
        refine Or.inr ⟨p, b0, prest, vrest, s.boxes, rfl, hf, rfl, ⟨hrest, ?_, hvrest, ?_⟩, trivial⟩
        · simp only [h4, List.length_cons]; omega
        · simp only [k2, List.length_cons]; omega

/-- after a batch of frames: still open, or closed.  `.stopped`: `add_to_path` said stop, and `afterAdd` has collected the
    return code (`dead`) and set `it = 2` (`afterAdd_stop`), which is what ends the loop at the next `while` test. -/
def BatchPost (k : Kind) (c : Cfg) (frames : List Frame) : FBatch → Prop
  | .done s' => XInv k c frames s'
  | .stopped s' => XFin k c frames s' ∧ s'.it = 2 ∧ s'.dead = true
  | .err e s' => XFin k c frames s' ∧ e = .index
  | .body s' => XFin k c frames s'

theorem batchF_data (k : Kind) (c : Cfg) (sched : Sched) (frames : List Frame) (fault : Option Nat) :
    ∀ (n : Nat) (s : XState), XInv k c frames s → Single k s.multi s →
      BatchPost k c frames (batchF k c sched fault n s) := by
  intro n
  induction n with
  | zero => intro s h _; exact h
  | succ n ih =>
    intro s h hB
    rw [batchF_succ]
    rcases popFrame_spec h.queue hB with hn | ⟨f, b, p', v', b', hp, hf, hP, hq, hB'⟩
    · rw [hn]; exact ⟨h.path.closed, rfl⟩
    · rw [hp]
      simp only
      split
      · exact h.path.closed
      · rw [record_eq_push]
        cases hrec : push c s.es (mkEntry c s.stepNr f.cid b f.vel) with
        | none => exact ⟨h.path.closed, rfl⟩
        | some pr =>
          obtain ⟨es', r⟩ := pr
          obtain ⟨e1, hc, ho⟩ := push_step h.path ⟨f, b, by rw [← h.step]; exact hf, by rw [h.step], hP⟩ hrec
          simp only
          cases hs : r.stop with
          | true =>
            obtain ⟨t', w, k', ea⟩ := afterAdd_stop sched { s with pos := p', vels := v', boxes := b' } es' r hs
            rw [ea]
            exact ⟨hc, rfl, rfl⟩
          | false =>
            rw [afterAdd_noStop _ _ _ _ hs]
            simp only [Bool.false_eq_true, if_false]
            exact ih _ ⟨ho hs, by simp [e1, h.step], hq⟩ hB'

/-- how the loop can be left: normally only after `exe.poll()` returned a return code; IndexError is the only
    error of its own (`.fuel` is the model's "still looping") -/
def _root_.Infretis.EngineFault.Exit : XState × Option Exc → Prop
  | (s', none) => s'.dead = true
  | (_, some (.own e)) => e = .index ∨ e = .fuel
  | (_, some .body) => True

/-- the loop leaves a closed path, and leaves as `Exit` says; once `add_to_path` has said stop (`it = 2`, return code
    collected) the next `while` test ends it -/
theorem readerLoopF_data (k : Kind) (c : Cfg) (sched : Sched) (frames : List Frame) (fault : Option Nat) :
    ∀ (fuel : Nat) (s : XState),
      (XInv k c frames s ∨ (XFin k c frames s ∧ s.it = 2 ∧ s.dead = true)) →
      XFin k c frames (readerLoopF k c sched frames fault fuel s).1 ∧
        Exit (readerLoopF k c sched frames fault fuel s) := by
  intro fuel
  induction fuel with
  | zero => intro s h; exact ⟨h.elim (·.path.closed) (·.1), Or.inr rfl⟩
  | succ fuel ih =>
    intro s h
    simp only [readerLoopF]
    obtain ⟨d, hp, hd⟩ := poll_spec sched s
    rw [hp]
    simp only
    rcases h with h | ⟨hF, hit, hdead⟩
    · have h1 : XInv k c frames { s with t := s.t + 1, cur := sched s.t, dead := d } := ⟨h.path, h.step, h.queue⟩
      split
      · cases hr : readNew k frames { s with t := s.t + 1, cur := sched s.t, dead := d } with
        | none => exact ⟨h1.path.closed, Or.inl rfl⟩
        | some s2 =>
          simp only
          have h3 := (h1.readNew hr).setMulti (decide (2 ≤ batchCount k s2))
          have hB : Single k (s2.multi || decide (2 ≤ batchCount k s2))
              { s2 with multi := s2.multi || decide (2 ≤ batchCount k s2) } := by
            cases k with
            | lammps v =>
              intro hm
              have : decide (2 ≤ s2.pos.length) = false := (Bool.or_eq_false_iff.mp hm).2
              have := of_decide_eq_false this
              show s2.pos.length ≤ 1
              omega
            | cp2k b0 => trivial
          have hb := batchF_data k c sched frames fault (batchCount k s2) _ h3 hB
          generalize batchF k c sched fault (batchCount k s2)
            { s2 with multi := s2.multi || decide (2 ≤ batchCount k s2) } = br at hb
          cases br with
          | done s4 => exact ih _ (Or.inl (hb.endIter sched))
          | stopped s4 =>
            obtain ⟨b1, b2, b3⟩ := hb
            obtain ⟨d', i, e, e1, e2⟩ := endIter_spec sched s4
            refine ih _ (Or.inr ?_)
            rw [e]
            exact ⟨b1, e2 b2, e1 b3⟩
          | err e s4 => exact ⟨hb.1, Or.inl hb.2⟩
          | body s4 => exact ⟨hb, trivial⟩
      · rename_i hc
        -- the `while` test failed: `exe.poll()` returned a return code
        have hd1 : d = true := by
          cases d
          · simp at hc
          · rfl
        exact ⟨h1.path.closed, hd1⟩
    · simp only [hd hdead, hit]
      exact ⟨hF, rfl⟩

theorem onExc_spec (g : Guard) (sched : Sched) (s : XState) :
    ∃ t' w k' d, onExc g sched s = { s with t := t', cur := w, killed := k', dead := d } ∧ (g = .guarded → d = true) := by
  cases g with
  | asIs => exact ⟨_, _, _, _, rfl, fun h => nomatch h⟩
  | guarded =>
    obtain ⟨d, hp, _⟩ := poll_spec sched s
    simp only [onExc, hp]
    exact ⟨_, _, _, _, rfl, fun _ => rfl⟩

/-- the block of `_propagate_from` once the trajectory file has been waited for and `exe.poll()` has answered `d`:
    the loop, or nothing when the program has ended with a non-zero code -/
theorem block_spec {k : Kind} {c : Cfg} {sched : Sched} {code : Int} {frames : List Frame} {fuel : Nat}
    {fault : Option Nat} {s : XState} (hw : waitFile sched fuel XState.init = some s) (d : Bool)
    {se : XState × Option Exc}
    (hse : (if (!d || decide (code = 0)) = true
      then readerLoopF k c sched frames fault fuel { s with t := s.t + 1, cur := sched s.t, dead := d }
      else ({ s with t := s.t + 1, cur := sched s.t, dead := d }, none)) = se) :
    XFin k c frames se.1 ∧ Exit se := by
  obtain ⟨t', w, d0, rfl, _⟩ := waitFile_spec sched fuel _ _ hw
  have hi : XInv k c frames { XState.init with t := t' + 1, cur := sched t', dead := d } :=
    ⟨(XInv.init k c frames).path, rfl, (XInv.init k c frames).queue⟩
  subst hse
  split
  · exact readerLoopF_data k c sched frames fault fuel _ (Or.inl hi)
  · rename_i hc
    have hd : d = true := by
      cases d
      · simp at hc
      · rfl
    exact ⟨hi.path.closed, hd⟩

/-- what `_propagate_from` of LAMMPS / CP2K guarantees of the result it returns or leaves behind — every schedule,
    exit code, fault position and guard -/
structure ExtPost (g : Guard) (k : Kind) (c : Cfg) (frames : List Frame) (code : Int) (R : FResult) : Prop where
  /-- the path records the first `es.length` frames the program wrote, in order, each once, with their own
      coordinates and velocity and a box that obeys `BoxP`; and it equals `feed` of its own order values -/
  closed : Closed c (extEnt k c frames R.res.multi) R.res.es R.res.success
  /-- the program is stopped on every way out (out of fuel = still looping) — except, without the guard, when an
      exception raised inside the loop leaves it: the body's own or the IndexError of a `pop`, of `frames[0]` or of
      `add_to_path` -/
  stopped : R.res.raised = some .fuel ∨ R.res.dead = true ∨
    (g = .asIs ∧ (R.body = true ∨ R.res.raised = some .index))
  /-- a non-zero exit code raises RuntimeError unless `add_to_path` had said stop (`*_was_terminated`) -/
  nonzero : code ≠ 0 → R.res.raised = none → R.body = false → R.res.terminated = true

theorem extRunF_spec (g : Guard) (k : Kind) (c : Cfg) (sched : Sched) (code : Int) (frames : List Frame)
    (fuel : Nat) (fault : Option Nat) : ExtPost g k c frames code (extRunF g k c sched code frames fuel fault) := by
  unfold extRunF
  cases hw : waitFile sched fuel XState.init with
  | none => exact ⟨(Open.nil _ _).closed, .inl rfl, fun _ h => nomatch h⟩
  | some s =>
    obtain ⟨d, hp, _⟩ := poll_spec sched s
    simp only [hp]
    generalize hse : (if (!d || decide (code = 0)) = true
      then readerLoopF k c sched frames fault fuel { s with t := s.t + 1, cur := sched s.t, dead := d }
      else ({ s with t := s.t + 1, cur := sched s.t, dead := d }, none)) = se
    obtain ⟨hF, hx⟩ := block_spec hw d hse
    obtain ⟨s2, e⟩ := se
    -- the handler touches the clock, the world and the process flags only; with the guard it leaves the program dead
    obtain ⟨_, _, _, d', eo, hd'⟩ := onExc_spec g sched s2
    simp only
    rcases e with _ | ⟨e⟩ | _
    · -- the block was left normally: the return code has been collected
      simp only
      refine ⟨by split <;> split <;> exact hF, .inr (.inl (by split <;> split <;> exact hx)), fun hc hr _ => ?_⟩
      cases ht : s2.terminated with
      | true => split <;> split <;> exact ht
      | false => cases hk : s2.killed <;> simp [ht, hk, hc, XState.result] at hr
    · rcases hx with rfl | rfl
      · refine ⟨by rw [eo]; exact hF, .inr ?_, fun _ h => nomatch h⟩
        cases g
        · exact .inr ⟨rfl, .inr rfl⟩
        · exact .inl (by rw [eo]; exact hd' rfl)
      · exact ⟨hF, .inl rfl, fun _ h => nomatch h⟩
    · refine ⟨by rw [eo]; exact hF, .inr ?_, fun _ _ h => nomatch h⟩
      cases g
      · exact .inr ⟨rfl, .inl rfl⟩
      · exact .inl (by rw [eo]; exact hd' rfl)

/-- without the guard the program is stopped when the call returns or raises RuntimeError, unless the body's exception
    left the loop -/
theorem ExtPost.stopped_asIs {k : Kind} {c : Cfg} {frames : List Frame} {code : Int} {R : FResult}
    (h : ExtPost .asIs k c frames code R) (hb : R.body = false)
    (hr : R.res.raised = none ∨ R.res.raised = some .runtime) : R.res.dead = true := by
  rcases h.stopped with h1 | h1 | ⟨_, h1 | h1⟩
  · rcases hr with hr | hr <;> rw [hr] at h1 <;> cases h1
  · exact h1
  · rw [hb] at h1; cases h1
  · rcases hr with hr | hr <;> rw [hr] at h1 <;> cases h1

def liftBatch : BatchRes → FBatch
  | .done s => .done s
  | .stopped s => .stopped s
  | .err e s => .err e s

theorem batchF_none (k : Kind) (c : Cfg) (sched : Sched) :
    ∀ (n : Nat) (s : XState), batchF k c sched none n s = liftBatch (batch k c sched n s) := by
  intro n
  induction n with
  | zero => intro s; rfl
  | succ n ih =>
    intro s
    rw [batchF_succ, batch_succ]
    rcases popFrame k s with _ | ⟨cid, b, v, s0⟩
    · rfl
    · simp only [reduceCtorEq, if_false]
      rcases record c s.es s.stepNr cid b v with _ | ⟨es', r⟩
      · rfl
      · simp only
        generalize afterAdd sched s0 es' r = aa
        obtain ⟨s', stop⟩ := aa
        cases stop
        · exact ih s'
        · rfl

theorem readerLoopF_none (k : Kind) (c : Cfg) (sched : Sched) (frames : List Frame) :
    ∀ (fuel : Nat) (s : XState),
      readerLoopF k c sched frames none fuel s
        = ((readerLoop k c sched frames fuel s).1, (readerLoop k c sched frames fuel s).2.map Exc.own) := by
  intro fuel
  induction fuel with
  | zero => intro s; rfl
  | succ fuel ih =>
    intro s
    simp only [readerLoopF, readerLoop]
    generalize poll sched s = ps
    obtain ⟨s1, alive⟩ := ps
    simp only
    split
    · cases hr : readNew k frames s1 with
      | none => rfl
      | some s2 =>
        simp only [batchF_none]
        generalize batch k c sched (batchCount k s2)
          { s2 with multi := s2.multi || decide (2 ≤ batchCount k s2) } = br
        cases br with
        | done s4 => exact ih _
        | stopped s4 => exact ih _
        | err e s4 => rfl
    · rfl

theorem extRunF_asIs_none (k : Kind) (c : Cfg) (sched : Sched) (code : Int) (frames : List Frame) (fuel : Nat) :
    extRunF .asIs k c sched code frames fuel none = { res := extRun k c sched code frames fuel, body := false } := by
  unfold extRunF extRun
  cases hw : waitFile sched fuel XState.init with
  | none => rfl
  | some s =>
    simp only
    generalize poll sched s = ps
    obtain ⟨s1, alive⟩ := ps
    simp only
    by_cases hc : (alive || decide (code = 0)) = true
    · simp only [hc, if_true, readerLoopF_none]
      generalize readerLoop k c sched frames fuel s1 = se
      obtain ⟨s2, e⟩ := se
      cases e with
      | none => exact (apply_ite (fun r => ({ res := r, body := false } : FResult)) _ _ _).symm
      | some e => cases e <;> rfl
    · simp only [hc, Bool.false_eq_true, if_false]
      exact (apply_ite (fun r => ({ res := r, body := false } : FResult)) _ _ _).symm

theorem extRun_closed (k : Kind) (c : Cfg) (sched : Sched) (code : Int) (frames : List Frame) (fuel : Nat) :
    Closed c (extEnt k c frames (extRun k c sched code frames fuel).multi) (extRun k c sched code frames fuel).es
      (extRun k c sched code frames fuel).success := by
  have := (extRunF_spec .asIs k c sched code frames fuel none).closed
  rwa [extRunF_asIs_none] at this

end Infretis.EngineLoops
