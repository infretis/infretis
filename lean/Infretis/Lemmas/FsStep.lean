import Infretis.Lemmas.Fs
/-!
C08: what is on disk after `outputPath` / after the whole accepted-ensemble
loop; loading a stored path; the delete_old_all block.
-/
namespace Infretis.Fs

theorem pathOK_frame {P W : Nat → Prop} {f f' : Files} {p : PathInfo}
    (h : ∀ k, ¬ Key.inDom P W k → f'.get k = f.get k) (hp : ¬ P p.pn) :
    pathOK f' p = pathOK f p := by
  have e1 := h (.order p.pn) (by simpa [Key.inDom] using hp)
  have e2 := h (.traj p.pn) (by simpa [Key.inDom] using hp)
  have e3 := h (.energy p.pn) (by simpa [Key.inDom] using hp)
  have e4 : ∀ n, f'.get (.tfile p.pn n) = f.get (.tfile p.pn n) :=
    fun n => h (.tfile p.pn n) (by simpa [Key.inDom] using hp)
  simp only [pathOK, e1, e2, e3, e4]

theorem pathOK_iff (f : Files) (p : PathInfo) :
    pathOK f p = true ↔
      f.get (.order p.pn) = .complete p.cid ∧ f.get (.traj p.pn) = .complete p.cid
      ∧ f.get (.energy p.pn) = .complete p.cid
      ∧ ∀ nc ∈ p.files, f.get (.tfile p.pn nc.1) = .complete nc.2 := by
  simp [pathOK, and_assoc]

/-- one file of `_move_path`: `pre` is the removal of an existing destination, or nothing -/
theorem head_move (pn n c : Nat) (d : Disk) (h0 : d.files.get (.wfile n) = .complete c)
    (pre : List Effect) (hpre : pre = [Effect.remove (.tfile pn n)] ∨ pre = []) :
    (run (pre ++ [Effect.move (.wfile n) (.tfile pn n)]) d).files.get (.tfile pn n) = .complete c
    ∧ ∀ k, k ≠ .tfile pn n → k ≠ .wfile n →
        (run (pre ++ [Effect.move (.wfile n) (.tfile pn n)]) d).files.get k = d.files.get k := by
  rcases hpre with rfl | rfl <;>
    exact ⟨by simp [Effect.apply, h0], fun k h1 h2 => by simp [Effect.apply, Ne.symm h1, Ne.symm h2]⟩

theorem moveFiles_spec (pn : Nat) : ∀ (files : List (Nat × Nat)) (d : Disk),
    (files.map Prod.fst).Nodup →
    (∀ nc ∈ files, d.files.get (.wfile nc.1) = .complete nc.2) →
    (∀ nc ∈ files, (run (moveFiles pn files d) d).files.get (.tfile pn nc.1) = .complete nc.2)
    ∧ (∀ k, (∀ n ∈ files.map Prod.fst, k ≠ .tfile pn n ∧ k ≠ .wfile n) →
        (run (moveFiles pn files d) d).files.get k = d.files.get k)
  | [], _, _, _ => ⟨fun nc h => (List.not_mem_nil h).elim, fun k _ => rfl⟩
  | (n, c) :: rest, d, hnd, hsrc => by
    rw [List.map_cons, List.nodup_cons] at hnd
    obtain ⟨hh1, hh2⟩ := head_move pn n c d (hsrc (n, c) (List.mem_cons_self ..))
      (if (d.files.get (.tfile pn n)).isFile then [Effect.remove (.tfile pn n)] else []) (by split <;> simp)
    simp only [moveFiles]
    rw [run_append]
    generalize run (_ ++ [Effect.move (.wfile n) (.tfile pn n)]) d = d1 at hh1 hh2 ⊢
    obtain ⟨i1, i2⟩ := moveFiles_spec pn rest d1 hnd.2 (fun nc hnc => by
      rw [hh2 _ (by simp) (fun h => hnd.1 (by cases h; exact List.mem_map.2 ⟨nc, hnc, rfl⟩))]
      exact hsrc nc (List.mem_cons_of_mem _ hnc))
    refine ⟨fun nc hnc => ?_, fun k hk => ?_⟩
    · rcases List.mem_cons.1 hnc with rfl | hin
      · rw [i2 _ (fun m hm => ⟨fun h => hnd.1 (by cases h; exact hm), by simp⟩)]
        exact hh1
      · exact i1 nc hin
    · have hk0 := hk n (List.mem_cons_self ..)
      rw [i2 k (fun m hm => hk m (List.mem_cons_of_mem _ hm)), hh2 k hk0.1 hk0.2]

theorem run_writeFile (k : Key) (c : Nat) (d : Disk) (k' : Key) :
    (run (writeFile k c) d).files.get k' = if k = k' then .complete c else d.files.get k' := by
  simp only [writeFile, run_cons, run_nil, Effect.apply, Files.get_set]
  split <;> rfl

theorem outputPath_ok (p : PathInfo) (d : Disk) (hnd : (p.files.map Prod.fst).Nodup)
    (hsrc : ∀ nc ∈ p.files, d.files.get (.wfile nc.1) = .complete nc.2) :
    pathOK (run (outputPath p d) d).files p = true := by
  unfold outputPath
  simp only [run_append]
  generalize hd1 : run (writeFile (Key.traj p.pn) p.cid) (run (writeFile (Key.energy p.pn) p.cid)
    (run (writeFile (Key.order p.pn) p.cid) (run (makeDirs p.pn d) d))) = d1
  have ho : d1.files.get (.order p.pn) = .complete p.cid := by
    subst hd1; simp [run_writeFile]
  have he : d1.files.get (.energy p.pn) = .complete p.cid := by
    subst hd1; simp [run_writeFile]
  have ht : d1.files.get (.traj p.pn) = .complete p.cid := by
    subst hd1; simp [run_writeFile]
  -- the worker's files are still where the worker put them
  have hw : ∀ n, d1.files.get (.wfile n) = d.files.get (.wfile n) := by
    intro n
    subst hd1
    simp only [run_writeFile, reduceCtorEq, if_false]
    exact (run_frame (makeDirs_owned p.pn d) d).1 _ id
  obtain ⟨m1, m2⟩ := moveFiles_spec p.pn p.files d1 hnd (fun nc hnc => by rw [hw]; exact hsrc nc hnc)
  rw [pathOK_iff]
  refine ⟨?_, ?_, ?_, m1⟩
  · rw [m2 _ (by simp)]; exact ho
  · rw [m2 _ (by simp)]; exact ht
  · rw [m2 _ (by simp)]; exact he

/-- **the whole `for ens_num in picked` loop.**  Which keys it can touch: the directories of the new
    path numbers `tn … tn+len-1`, the worker files it moves, and the directories of paths that were
    already in the delete queue when the step began (`rem`; `app` are those pushed during the step,
    at most `n - 2`, so they are never popped).  And what it leaves: every new path completely stored. -/
theorem accLoop_spec (cfg : Cfg) : ∀ (accs : List Acc) (tn : Nat) (rem app : List Old) (d : Disk),
    app.length + accs.length ≤ cfg.n - 1 →
    Owned (fun q => (tn ≤ q ∧ q < tn + accs.length) ∨ q ∈ rem.map (·.pn))
      (fun n => n ∈ accs.flatMap (fun a => a.files.map Prod.fst))
      (accLoop cfg accs tn (rem ++ app) d)
    ∧ ((∀ o ∈ rem, o.pn < tn) →
       (accs.flatMap (fun a => a.files.map Prod.fst)).Nodup →
       (∀ a ∈ accs, ∀ nc ∈ a.files, d.files.get (.wfile nc.1) = .complete nc.2) →
       ∀ i a, accs[i]? = some a →
        pathOK (run (accLoop cfg accs tn (rem ++ app) d) d).files
          { pn := tn + i, cid := a.cid, files := a.files } = true)
  | [], _, _, _, _, _ => ⟨Owned.nil, fun _ _ _ i a h => by simp at h⟩
  | a :: rest, tn, rem, app, d, hlen => by
    simp only [accLoop, run_append]
    rw [List.length_cons] at hlen
    have hO1 := outputPath_owned { pn := tn, cid := a.cid, files := a.files } d
    generalize hd1 : run (outputPath { pn := tn, cid := a.cid, files := a.files } d) d = d1
    obtain ⟨rem', app', heq, hsub, hal, hown⟩ := deleteOld_spec cfg a.old rem app d1 (by omega)
    rw [heq]
    generalize hd2 : run (deleteOld cfg a.old (rem ++ app) d1).1 d1 = d2
    obtain ⟨ihO, ihP⟩ := accLoop_spec cfg rest (tn + 1) rem' app' d2 (by omega)
    constructor
    · refine Owned.append (Owned.append (hO1.mono ?_ ?_) (hown.mono (fun q hq => Or.inr hq) (fun _ h => h.elim)))
        (ihO.mono ?_ ?_)
      · intro q (hq : q = tn)
        rw [hq, List.length_cons]
        exact Or.inl (by omega)
      · intro n hn
        rw [List.flatMap_cons]
        exact List.mem_append_left _ hn
      · intro q hq
        rw [List.length_cons]
        rcases hq with h | h
        · exact Or.inl (by omega)
        · right
          obtain ⟨o, ho, rfl⟩ := List.mem_map.1 h
          exact List.mem_map_of_mem (hsub o ho)
      · intro n hn
        rw [List.flatMap_cons]
        exact List.mem_append_right _ hn
    · intro hrem hnd hsrc i b hb
      rw [List.flatMap_cons, List.nodup_append] at hnd
      obtain ⟨hnda, hndr, hdisj⟩ := hnd
      have hf2 := (run_frame hown d1).1
      rw [hd2] at hf2
      cases i with
      | zero =>
        -- stored by `outputPath`; neither the delete block nor the rest of the loop owns path `tn`
        obtain rfl : a = b := Option.some.inj hb
        have hnot : ∀ l : List Old, (∀ o ∈ l, o ∈ rem) → tn ∉ l.map (·.pn) := by
          intro l hl h
          obtain ⟨o, ho, he⟩ := List.mem_map.1 h
          have := hrem o (hl o ho)
          omega
        rw [Nat.add_zero, pathOK_frame (run_frame ihO d2).1, pathOK_frame hf2 (hnot rem fun _ h => h), ← hd1]
        · exact outputPath_ok _ d hnda (hsrc a (List.mem_cons_self ..))
        · exact fun h => h.elim (fun h => Nat.not_succ_le_self tn h.1) (hnot rem' hsub)
      | succ i =>
        -- the worker files of the later paths are still in place: other names, no queued directory
        have hsrc2 : ∀ x ∈ rest, ∀ nc ∈ x.files, d2.files.get (.wfile nc.1) = .complete nc.2 := by
          intro x hx nc hnc
          have hnot : nc.1 ∉ a.files.map Prod.fst := fun hin =>
            hdisj nc.1 hin nc.1 (List.mem_flatMap.2 ⟨x, hx, List.mem_map_of_mem hnc⟩) rfl
          rw [hf2 (.wfile nc.1) id, ← hd1, (run_frame hO1 d).1 (.wfile nc.1) hnot]
          exact hsrc x (List.mem_cons_of_mem _ hx) nc hnc
        have := ihP (fun o ho => Nat.lt_succ_of_lt (hrem o (hsub o ho))) hndr hsrc2 i b hb
        rwa [show tn + 1 + i = tn + (i + 1) by omega] at this

theorem loadPath_of_pathOK (M : Manifest) (f : Files) (p : PathInfo) (h : pathOK f p = true)
    (hM : M p.cid = some (p.files.map Prod.fst)) : loadPath M f p.pn = some p := by
  obtain ⟨h1, h2, h3, h4⟩ := (pathOK_iff f p).1 h
  have hall : (p.files.map Prod.fst).all (fun n => (f.get (.tfile p.pn n)).isFile) = true := by
    rw [List.all_eq_true]
    intro n hn
    obtain ⟨nc, hnc, rfl⟩ := List.mem_map.1 hn
    rw [h4 nc hnc]; rfl
  have hc : ∀ c, (FileState.complete c).isFile = true := fun _ => rfl
  unfold loadPath
  simp only [h1, h2, h3, hc, hM, hall]
  simp only [Bool.not_true, Bool.or_self, Bool.false_eq_true, if_false, if_true, List.map_map]
  refine congrArg some ?_
  obtain ⟨pn, cid, files⟩ := p
  simp only [PathInfo.mk.injEq, true_and]
  conv => rhs; rw [← List.map_id files]
  apply List.map_congr_left
  intro nc hnc
  simp [h4 nc hnc]

theorem loadPath_pn (M : Manifest) (f : Files) (a : Nat) (p : PathInfo) (h : loadPath M f a = some p) :
    p.pn = a := by
  unfold loadPath at h
  repeat' split at h
  all_goals cases h
  all_goals rfl

theorem filterMap_load (M : Manifest) (f : Files) (live : List PathInfo)
    (h : ∀ p ∈ live, loadPath M f p.pn = some p) :
    (live.map (·.pn)).filterMap (loadPath M f) = live := by
  induction live with
  | nil => rfl
  | cons p t ih =>
    simp only [List.map_cons, List.filterMap_cons, h p (List.mem_cons_self ..)]
    rw [ih (fun q hq => h q (List.mem_cons_of_mem _ hq))]

theorem run_removes {α} (g : α → Key) (l : List α) (d : Disk) (k : Key) :
    (run (l.map fun a => Effect.remove (g a)) d).files.get k
      = if k ∈ l.map g then .absent else d.files.get k := by
  induction l generalizing d with
  | nil => rfl
  | cons x t ih =>
    simp only [List.map_cons, run_cons, ih, Effect.apply, Files.get_set, List.mem_cons]
    by_cases h1 : k ∈ t.map g
    · simp [h1]
    · by_cases h2 : g x = k
      · simp [h2]
      · simp [h1, h2, Ne.symm h2]

theorem mem_dedup (x : Nat) : ∀ l : List Nat, x ∈ dedup l ↔ x ∈ l
  | [] => Iff.rfl
  | y :: t => by
    unfold dedup
    split
    · rw [mem_dedup x t, List.mem_cons]
      exact ⟨Or.inr, fun h => h.elim (fun e => e ▸ ‹y ∈ t›) id⟩
    · rw [List.mem_cons, List.mem_cons, mem_dedup x t]

theorem get_ne_absent_mem (f : Files) (k : Key) (h : f.get k ≠ .absent) : ∃ s, (k, s) ∈ f := by
  induction f with
  | nil => exact absurd rfl h
  | cons e t ih =>
    obtain ⟨k', s⟩ := e
    by_cases hk : k' = k
    · exact ⟨s, hk ▸ List.mem_cons_self ..⟩
    · rw [Files.get, if_neg hk] at h
      exact (ih h).imp fun _ hs => List.mem_cons_of_mem _ hs

theorem mem_tfileNames (f : Files) (pn n : Nat) (h : f.get (.tfile pn n) ≠ .absent) :
    n ∈ tfileNames f pn := by
  obtain ⟨s, hs⟩ := get_ne_absent_mem f _ h
  unfold tfileNames
  rw [List.mem_filter]
  refine ⟨(mem_dedup _ _).2 ?_, by simpa using h⟩
  rw [List.mem_filterMap]
  exact ⟨(.tfile pn n, s), hs, by simp⟩

/-- **the fix e7b75fb in the model**: when `os.rmdir(load/pn/accepted)` is reached, no entry of
    that directory exists any more — whatever stale files an interrupted and redone store left -/
theorem delAll_leaves_accepted_empty (o : Old) (d : Disk) (n : Nat) :
    (run (delAllRemoves o d) d).files.get (.tfile o.pn n) = .absent := by
  unfold delAllRemoves
  simp only [run_append]
  generalize run (((txtKeys o.pn).filter (fun k => (d.files.get k).isFile)).map Effect.remove) d = d2
  rw [run_removes]
  split
  · rfl
  · -- an entry that is not listed does not exist
    rename_i hn
    exact Decidable.not_not.1 fun habs => hn (List.mem_map_of_mem (mem_tfileNames d2.files o.pn n habs))

end Infretis.Fs
