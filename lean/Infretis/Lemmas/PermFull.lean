import Infretis.Lemmas.PermEmbed
import Infretis.Lemmas.PermReachDec
import Infretis.Lemmas.ListAux
/-!
# From the full weight matrix of `REPEX_state` to the reachable family on the idle block (C02)

The full matrix `W` is `n × n`, `n = 1 + p + 1`: slot/row `0` holds the path of `[0-]`,
slots `1..p` the plus paths, slot `n-1` is the ghost (always locked).  `locks` marks the busy
slots; a locked index removes row *and* column.  `FullReach` states the shape of `W` the sampler
can reach; `reach_idle_of_full` shows that the idle block (`idle W locks`, what `inf_retis`
works on) is in the family `Reach` the pipeline lemmas are proved for, with
`o = (prepare 1 W locks).offset` (`0` when slot 0 is busy, `1` otherwise) and the count of a
plus row in the idle block = number of idle columns among its `cnt` positive columns.
-/
namespace Infretis.Perm

/-- a staircase row `0^o (+)^cnt 0^*` stays one: `0^(rank o) (+)^c' 0^*` with
    `c'` = number of idle columns among the `cnt` positive ones -/
theorem keep_isPlusRow (locks : List Bool) (r : Row) (o cnt : Nat)
    (h : IsPlusRow o locks.length cnt r) :
    IsPlusRow (rank locks o) (nIdle locks) (rank locks (o + cnt) - rank locks o) (keep locks r) := by
  obtain ⟨hlen, _, hz, hp, hz'⟩ := h
  have hmono : rank locks o ≤ rank locks (o + cnt) := rank_mono locks (Nat.le_add_right _ _)
  have hsum : rank locks o + (rank locks (o + cnt) - rank locks o) = rank locks (o + cnt) := by omega
  have hle := rank_le_nIdle locks (o + cnt)
  refine ⟨keep_length locks r hlen, by omega, ?_, ?_, ?_⟩
  · intro c' hc'
    obtain ⟨c, hc, rfl⟩ := exists_idle_of_lt_nIdle locks c' (by omega)
    rw [keep_getD_rank 0 locks r c hc]
    apply hz
    rcases Nat.lt_or_ge c o with h' | h'
    · exact h'
    · have := rank_mono locks h'; omega
  · intro c' h1 h2
    obtain ⟨c, hc, rfl⟩ := exists_idle_of_lt_nIdle locks c' (by omega)
    rw [keep_getD_rank 0 locks r c hc]
    apply hp
    · rcases Nat.lt_or_ge c o with h' | h'
      · have := rank_lt_of_idle_lt locks hc h'; omega
      · exact h'
    · rcases Nat.lt_or_ge c (o + cnt) with h' | h'
      · exact h'
      · have := rank_mono locks h'; omega
  · intro c' h1 h2
    obtain ⟨c, hc, rfl⟩ := exists_idle_of_lt_nIdle locks c' h2
    rw [keep_getD_rank 0 locks r c hc]
    apply hz' _ _ (getElem?_lt_of_some hc)
    rcases Nat.lt_or_ge c (o + cnt) with h' | h'
    · have := rank_lt_of_idle_lt locks hc h'; omega
    · exact h'

theorem keep_isMinusRow (locks : List Bool) (r : Row) (h0 : locks[0]? = some false)
    (h : IsMinusRow locks.length r) : IsMinusRow (nIdle locks) (keep locks r) := by
  obtain ⟨hlen, hpos, hz⟩ := h
  refine ⟨keep_length locks r hlen, ?_, ?_⟩
  · have := keep_getD_rank 0 locks r 0 h0
    rw [rank_zero] at this
    rw [this]; exact hpos
  · intro c' h1 h2
    obtain ⟨c, hc, rfl⟩ := exists_idle_of_lt_nIdle locks c' h2
    rw [keep_getD_rank 0 locks r c hc]
    apply hz _ _ (getElem?_lt_of_some hc)
    rcases Nat.lt_or_ge c 1 with h' | h'
    · have : c = 0 := by omega
      subst this; rw [rank_zero] at h1; omega
    · exact h'

/-- The shape of the full weight matrix of `REPEX_state` (`n = 1 + p + 1` slots):
    the ghost slot `n-1` is busy; row 0 is the minus path; row `1+k` is a plus path with
    `cnts[k]` positive weights on columns `1..cnts[k]`, none of them on the ghost column. -/
structure FullReach (W : Mat) (locks : List Bool) (cnts : List Nat) : Prop where
  hn : W.length = locks.length
  hp : locks.length = cnts.length + 2
  ghost : locks[locks.length - 1]? = some true
  minus : IsMinusRow locks.length (W.getD 0 [])
  plus : ∀ k, k < cnts.length →
    IsPlusRow 1 locks.length (cnts.getD k 0) (W.getD (1 + k) []) ∧
      1 + cnts.getD k 0 ≤ locks.length - 1

instance (W : Mat) (locks : List Bool) (cnts : List Nat) : Decidable (FullReach W locks cnts) :=
  decidable_of_iff (W.length = locks.length ∧ locks.length = cnts.length + 2 ∧
      locks[locks.length - 1]? = some true ∧ IsMinusRow locks.length (W.getD 0 []) ∧
      ∀ k, k < cnts.length → IsPlusRow 1 locks.length (cnts.getD k 0) (W.getD (1 + k) []) ∧
        1 + cnts.getD k 0 ≤ locks.length - 1)
    ⟨fun h => ⟨h.1, h.2.1, h.2.2.1, h.2.2.2.1, h.2.2.2.2⟩, fun h => ⟨h.hn, h.hp, h.ghost, h.minus, h.plus⟩⟩

theorem exists_list_of_forall {P : Nat → Nat → Prop} (len : Nat)
    (h : ∀ k, k < len → ∃ c, P k c) :
    ∃ cs : List Nat, cs.length = len ∧ ∀ k, k < len → P k (cs.getD k 0) := by
  induction len with
  | zero => exact ⟨[], rfl, fun k hk => absurd hk (Nat.not_lt_zero k)⟩
  | succ len ih =>
    obtain ⟨cs, hl, hcs⟩ := ih (fun k hk => h k (Nat.lt_succ_of_lt hk))
    obtain ⟨c, hc⟩ := h len (Nat.lt_succ_self len)
    refine ⟨cs ++ [c], by simp [hl], ?_⟩
    intro k hk
    rcases Nat.lt_or_ge k len with h' | h'
    · have := hcs k h'
      rwa [List.getD_eq_getElem?_getD, List.getElem?_append_left (by omega),
        ← List.getD_eq_getElem?_getD]
    · have : k = len := by omega
      subst this
      simpa [List.getD_eq_getElem?_getD, ← hl] using hc

theorem prepare_offset_one (W : Mat) (locks : List Bool) (h : locks ≠ []) :
    (prepare 1 W locks).offset = rank locks 1 := by
  cases locks with
  | nil => exact absurd rfl h
  | cons l ls => cases l <;> simp [prepare, rank]

theorem prepare_offset_one_eq (W : Mat) (l : Bool) (ls : List Bool) :
    (prepare 1 W (l :: ls)).offset = if l = true then 0 else 1 := by
  cases l <;> simp [prepare]

theorem reach_idle_of_full (W : Mat) (locks : List Bool) (cnts : List Nat) (hF : FullReach W locks cnts) :
    ∃ cnts', Reach (prepare 1 W locks).offset (idle W locks) cnts' := by
  have hne : locks ≠ [] := by
    intro h; have := hF.hp; rw [h] at this; simp at this
  rw [prepare_offset_one W locks hne]
  have hN : (idle W locks).length = nIdle locks := idle_length W locks hF.hn
  have ho1 : rank locks 1 ≤ 1 := by
    have := (rank_succ_le locks 0).2; rw [rank_zero] at this; exact this
  have hom : rank locks 1 ≤ nIdle locks := rank_le_nIdle locks 1
  have h0 : rank locks 1 = 1 → locks[0]? = some false := by
    cases locks with
    | nil => exact absurd rfl hne
    | cons l ls => cases l <;> simp [rank]
  have h0' : rank locks 1 = 0 → locks[0]? = some true := by
    cases locks with
    | nil => exact absurd rfl hne
    | cons l ls => cases l <;> simp [rank]
  have hpt : ∀ k, k < nIdle locks - rank locks 1 →
      ∃ c, IsPlusRow (rank locks 1) (nIdle locks) c ((idle W locks).getD (rank locks 1 + k) []) := by
    intro k hk
    obtain ⟨s, hs, hr⟩ := exists_idle_of_lt_nIdle locks (rank locks 1 + k) (by omega)
    have hslt := getElem?_lt_of_some hs
    have hs0 : s ≠ 0 := by
      intro h; subst h
      rw [rank_zero] at hr
      have := h0' (by omega)
      rw [hs] at this; simp at this
    have hsg : s ≠ locks.length - 1 := by
      intro h; subst h
      have := hF.ghost
      rw [hs] at this; simp at this
    have hp := hF.hp
    obtain ⟨k0, rfl⟩ : ∃ k0, s = 1 + k0 := ⟨s - 1, by omega⟩
    have := keep_isPlusRow locks _ 1 _ (hF.plus k0 (by omega)).1
    rw [← idle_getD_rank W locks (1 + k0) hs, hr] at this
    exact ⟨_, this⟩
  obtain ⟨cs, hcl, hcs⟩ := exists_list_of_forall _ hpt
  refine ⟨cs, ho1, by rw [hN, hcl]; omega, ?_, ?_⟩
  · intro ho
    have hs := h0 ho
    have := idle_getD_rank W locks 0 hs
    rw [rank_zero] at this
    rw [this, hN]
    exact keep_isMinusRow locks _ hs hF.minus
  · intro k hk
    rw [hN]
    exact hcs k (by omega)

theorem fullReach_example : FullReach
    [[1,0,0,0,0,0],[0,1,1,1,0,0],[0,1,1,0,0,0],[0,1,1,1,1,0],[0,1,1,1,1,0],[0,0,0,0,0,0]]
    [false,false,true,false,false,true] [3,2,4,4] := by
  decide +kernel

/-- the hypothesis of `reach_idle_of_full` is satisfiable, so is its conclusion -/
example : ∃ cnts', Reach
    (prepare 1 [[1,0,0,0,0,0],[0,1,1,1,0,0],[0,1,1,0,0,0],[0,1,1,1,1,0],[0,1,1,1,1,0],[0,0,0,0,0,0]]
      [false,false,true,false,false,true]).offset
    (idle [[1,0,0,0,0,0],[0,1,1,1,0,0],[0,1,1,0,0,0],[0,1,1,1,1,0],[0,1,1,1,1,0],[0,0,0,0,0,0]]
      [false,false,true,false,false,true]) cnts' :=
  reach_idle_of_full _ _ _ fullReach_example

/-- the idle block of the example, and its offset -/
example : idle [[1,0,0,0,0,0],[0,1,1,1,0,0],[0,1,1,0,0,0],[0,1,1,1,1,0],[0,1,1,1,1,0],[0,0,0,0,0,0]]
      [false,false,true,false,false,true] = [[1,0,0,0],[0,1,1,0],[0,1,1,1],[0,1,1,1]] ∧
    (prepare 1 [[1,0,0,0,0,0],[0,1,1,1,0,0],[0,1,1,0,0,0],[0,1,1,1,1,0],[0,1,1,1,1,0],[0,0,0,0,0,0]]
      [false,false,true,false,false,true]).offset = 1 := by
  decide +kernel

end Infretis.Perm
