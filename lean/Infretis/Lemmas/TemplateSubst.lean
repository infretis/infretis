import Infretis.Lemmas.ListAux
import Infretis.Model.Template
import Infretis.Lemmas.Lex
/-!
`str.replace` on token boundaries: what one `line.replace(var, value)` makes of a line on which the variable occurs
only as a whole token (`replaceGo_line`); every line has the decomposition below (`decomp_spec`, for `decomp` of
`Infretis/Model/Template.lean`) and its tokens are the pieces `tᵢ` (`splitWS_decomp`); `KeyFree`, `Good`: the guards of
`TemplateReSub` on values and tokens.

A line is looked at as `w0 ++ t₁ ++ w₁ ++ … ++ tₙ ++ wₙ` (`w0 ++ body items`), the `wᵢ` being
white space, non-empty except possibly the last.
-/
namespace Infretis.Template

def AllWS (w : Str) : Prop := ∀ c ∈ w, isSpace c = true
def NoWS (t : Str) : Prop := ∀ c ∈ t, isSpace c = false

/-- separators are white space and non-empty, except possibly the last one -/
def SepOK : List (Str × Str) → Prop
  | [] => True
  | tw :: r => AllWS tw.2 ∧ (tw.2 ≠ [] ∨ r = []) ∧ SepOK r

/-- nothing follows, or a white-space character -/
def RestOK (rest : Str) : Prop := rest = [] ∨ ∃ c r, rest = c :: r ∧ isSpace c = true

theorem restOK_sep {w : Str} {r : List (Str × Str)} (hw : AllWS w) (hne : w ≠ [] ∨ r = []) :
    RestOK (w ++ body r) := by
  cases w with
  | nil =>
    rcases hne with h | h
    · exact absurd rfl h
    · left; subst h; rfl
  | cons c w' => right; exact ⟨c, w' ++ body r, rfl, hw c (by simp)⟩

theorem replaceGo_free (k v : Str) : ∀ (x rest : Str),
    (∀ i, i < x.length → k.isPrefixOf (x.drop i ++ rest) = false) →
    replaceGo k v 0 (x ++ rest) = x ++ replaceGo k v 0 rest := by
  intro x
  induction x with
  | nil => intro rest _; rfl
  | cons c x ih =>
    intro rest h
    have h0 := h 0 (by simp)
    simp only [List.drop_zero, List.cons_append] at h0
    simp only [List.cons_append, replaceGo, h0, Bool.false_eq_true, if_false]
    congr 1
    apply ih
    intro i hi
    have := h (i + 1) (by simp only [List.length_cons]; omega)
    simpa using this

theorem replaceGo_skip (k v : Str) : ∀ (y rest : Str),
    replaceGo k v y.length (y ++ rest) = replaceGo k v 0 rest := by
  intro y
  induction y with
  | nil => intro rest; rfl
  | cons c y ih => intro rest; simp only [List.length_cons, List.cons_append, replaceGo]; exact ih rest

theorem replaceGo_match (k v rest : Str) (hk : k ≠ []) :
    replaceGo k v 0 (k ++ rest) = v ++ replaceGo k v 0 rest := by
  cases k with
  | nil => exact absurd rfl hk
  | cons c k' =>
    have hp : (c :: k').isPrefixOf (c :: (k' ++ rest)) = true := by
      rw [List.isPrefixOf_iff_prefix]; exact ⟨rest, by simp⟩
    simp only [List.cons_append, replaceGo, hp, if_true, List.length_cons, Nat.add_sub_cancel]
    rw [replaceGo_skip]

theorem prefix_append_cases {k a b : Str} (h : k <+: a ++ b) :
    k <+: a ∨ ∃ b', b' ≠ [] ∧ b' <+: b ∧ k = a ++ b' := by
  have ha : a <+: a ++ b := List.prefix_append a b
  rcases List.prefix_or_prefix_of_prefix h ha with h1 | h1
  · exact Or.inl h1
  · obtain ⟨b', rfl⟩ := h1
    by_cases hb : b' = []
    · left; subst hb; simp
    · right
      exact ⟨b', hb, (List.prefix_append_right_inj a).1 h, rfl⟩

/-- a word that starts in `x` and runs on into `rest` would hold the white-space character `rest` begins with -/
theorem prefix_of_restOK {k x rest : Str} (hkw : NoWS k) (hrest : RestOK rest) (h : k <+: x ++ rest) : k <+: x := by
  rcases prefix_append_cases h with h1 | ⟨b', hb, hpre, hk⟩
  · exact h1
  · exfalso
    rcases hrest with rfl | ⟨c, r, rfl, hc⟩
    · exact hb (List.prefix_nil.1 hpre)
    · cases b' with
      | nil => exact hb rfl
      | cons d b'' =>
        obtain ⟨z, hz⟩ := hpre
        simp only [List.cons_append, List.cons.injEq] at hz
        have := hkw d (by rw [hk]; simp)
        rw [hz.1, hc] at this
        cases this

theorem no_match_inside {k x rest : Str} (hkw : NoWS k) (hx : ¬ k <:+: x) (hrest : RestOK rest) :
    ∀ i, i < x.length → k.isPrefixOf (x.drop i ++ rest) = false := by
  intro i _
  cases hp : k.isPrefixOf (x.drop i ++ rest) with
  | false => rfl
  | true =>
    have h1 := prefix_of_restOK hkw hrest (List.isPrefixOf_iff_prefix.1 hp)
    exact absurd (List.IsInfix.trans h1.isInfix (List.drop_suffix i x).isInfix) hx

theorem no_match_ws {k w rest : Str} (hk : k ≠ []) (hkw : NoWS k) (hw : AllWS w) :
    ∀ i, i < w.length → k.isPrefixOf (w.drop i ++ rest) = false := by
  intro i hi
  cases hp : k.isPrefixOf (w.drop i ++ rest) with
  | false => rfl
  | true =>
    exfalso
    rw [List.isPrefixOf_iff_prefix] at hp
    cases k with
    | nil => exact hk rfl
    | cons d k' =>
      have hne : w.drop i ≠ [] := by
        intro h; have := congrArg List.length h; simp at this; omega
      cases hdw : w.drop i with
      | nil => exact hne hdw
      | cons c w' =>
        rw [hdw] at hp
        obtain ⟨z, hz⟩ := hp
        simp only [List.cons_append, List.cons.injEq] at hz
        have hcw : c ∈ w := List.mem_of_mem_drop (by rw [hdw]; simp)
        have h1 := hw c hcw
        have h2 := hkw d (by simp)
        rw [hz.1, h1] at h2
        cases h2

/-- the substitution on one item: a piece equal to the variable becomes the value -/
def subst1 (k v : Str) (tw : Str × Str) : Str × Str := (if tw.1 = k then v else tw.1, tw.2)

/-- **`str.replace` respects token boundaries.**  If every piece is the variable itself or does
    not contain it, the replacement acts piece by piece. -/
theorem replaceGo_body (k v : Str) (hk : k ≠ []) (hkw : NoWS k) : ∀ (items : List (Str × Str)),
    SepOK items → (∀ tw ∈ items, tw.1 = k ∨ ¬ k <:+: tw.1) →
    replaceGo k v 0 (body items) = body (items.map (subst1 k v)) := by
  intro items
  induction items with
  | nil => intro _ _; rfl
  | cons tw r ih =>
    intro hs hg
    obtain ⟨t, w⟩ := tw
    obtain ⟨hw, hne, hs'⟩ := hs
    have ihr := ih hs' (fun x hx => hg x (List.mem_cons_of_mem _ hx))
    have hwstep : replaceGo k v 0 (w ++ body r) = w ++ body (r.map (subst1 k v)) := by
      rw [replaceGo_free k v w (body r) (no_match_ws hk hkw hw), ihr]
    have hrest := restOK_sep hw hne
    simp only [body, List.map_cons, subst1]
    rcases hg (t, w) (by simp) with h | h
    · simp only at h
      subst h
      simp only [if_true]
      rw [replaceGo_match t v _ hk, hwstep]
    · simp only at h
      have hne' : t ≠ k := by intro e; apply h; rw [e]; exact List.infix_refl k
      simp only [hne', if_false]
      rw [replaceGo_free k v t _ (no_match_inside hkw h hrest), hwstep]

theorem replaceGo_line (k v w0 : Str) (hk : k ≠ []) (hkw : NoWS k) (hw0 : AllWS w0)
    (items : List (Str × Str)) (hs : SepOK items) (hg : ∀ tw ∈ items, tw.1 = k ∨ ¬ k <:+: tw.1) :
    replaceAll k v (w0 ++ body items) = w0 ++ body (items.map (subst1 k v)) := by
  have : k.isEmpty = false := by cases k with | nil => exact absurd rfl hk | cons _ _ => rfl
  simp only [replaceAll, this, Bool.false_eq_true, if_false]
  rw [replaceGo_free k v w0 _ (no_match_ws hk hkw hw0), replaceGo_body k v hk hkw items hs hg]

theorem sepOK_map_fst (f : Str → Str) : ∀ (items : List (Str × Str)), SepOK items →
    SepOK (items.map (fun tw => (f tw.1, tw.2))) := by
  intro items
  induction items with
  | nil => intro h; exact h
  | cons tw r ih =>
    intro h
    obtain ⟨a, b, c⟩ := h
    refine ⟨a, ?_, ih c⟩
    rcases b with b | b
    · exact Or.inl b
    · right; subst b; rfl

theorem sepOK_map (k v : Str) (items : List (Str × Str)) (h : SepOK items) : SepOK (items.map (subst1 k v)) :=
  sepOK_map_fst (fun t => if t = k then v else t) items h

theorem splitWS_eq_split (s : Str) : splitWS s = Lex.split isSpace s :=
  Lex.split_acc_rev (fun s acc => splitWSGo acc s) (fun acc => by cases acc <;> rfl)
    (fun c t acc => by cases acc <;> rfl) s

theorem splitWSGo_mem_infix : ∀ (x cur tok : Str), tok ∈ splitWSGo cur x → tok <:+: cur.reverse ++ x := by
  intro x
  induction x with
  | nil =>
    intro cur tok h
    cases cur with
    | nil => simp [splitWSGo] at h
    | cons a cur =>
      simp only [splitWSGo, List.isEmpty_cons, Bool.false_eq_true, if_false, List.mem_singleton] at h
      subst h; simp
  | cons c x ih =>
    intro cur tok h
    by_cases hc : isSpace c = true
    · have hrec : tok ∈ splitWSGo [] x → tok <:+: cur.reverse ++ c :: x := by
        intro h'
        have := ih [] tok h'
        simp only [List.reverse_nil, List.nil_append] at this
        exact List.IsInfix.trans this ⟨cur.reverse ++ [c], [], by simp⟩
      cases cur with
      | nil =>
        simp only [splitWSGo, hc, if_true, List.isEmpty_nil] at h
        exact hrec h
      | cons a cur =>
        simp only [splitWSGo, hc, if_true, List.isEmpty_cons, Bool.false_eq_true, if_false,
          List.mem_cons] at h
        rcases h with h | h
        · subst h; exact ⟨[], c :: x, by simp⟩
        · exact hrec h
    · simp only [splitWSGo, hc] at h
      have := ih (c :: cur) tok h
      simpa using this

theorem splitWS_mem_infix {x tok : Str} (h : tok ∈ splitWS x) : tok <:+: x := by
  simpa using splitWSGo_mem_infix x [] tok h

theorem splitWS_body : ∀ (items : List (Str × Str)), SepOK items →
    splitWS (body items) = (items.map (fun tw => splitWS tw.1)).flatten := by
  intro items
  induction items with
  | nil => intro _; rfl
  | cons tw r ih =>
    intro hs
    obtain ⟨t, w⟩ := tw
    obtain ⟨hw, hne, hs'⟩ := hs
    simp only [body, List.map_cons, List.flatten_cons]
    cases w with
    | nil =>
      rcases hne with h | h
      · exact absurd rfl h
      · subst h; simp [body]
    | cons c w' =>
      simp only [splitWS_eq_split, List.cons_append] at ih ⊢
      rw [Lex.split_append_ws (hw c (by simp)), Lex.split_blank (fun x hx => hw x (List.mem_cons_of_mem _ hx)), ih hs']

theorem splitWS_line (w0 : Str) (hw0 : AllWS w0) (items : List (Str × Str)) (hs : SepOK items) :
    splitWS (w0 ++ body items) = (items.map (fun tw => splitWS tw.1)).flatten := by
  rw [← splitWS_body items hs, splitWS_eq_split, splitWS_eq_split, Lex.split_blank hw0]

theorem splitWS_token {t : Str} (h : NoWS t) (hne : t ≠ []) : splitWS t = [t] :=
  (splitWS_eq_split t).trans (Lex.split_tok_end ⟨hne, h⟩)

/-! ### every line has such a decomposition -/

-- (`body`, `decompGo`, `decomp` live in `Model/Template.lean`: the word-by-word specification `wordsLine` uses them)

theorem dropWhile_head_false {p : Char → Bool} (l : Str) (c : Char) (r : Str) (h : l.dropWhile p = c :: r) :
    p c = false := by
  have := List.head?_dropWhile_not p l
  rwa [h] at this

def HeadNoWS (s : Str) : Prop := ∀ c r, s = c :: r → isSpace c = false

theorem headNoWS_dropWhile (s : Str) : HeadNoWS (s.dropWhile isSpace) := by
  intro c r h
  exact dropWhile_head_false s c r h

theorem decompGo_spec : ∀ (fuel : Nat) (s : Str), s.length ≤ fuel → HeadNoWS s →
    body (decompGo fuel s) = s ∧ SepOK (decompGo fuel s) ∧
    ∀ tw ∈ decompGo fuel s, NoWS tw.1 ∧ tw.1 ≠ [] := by
  intro fuel
  induction fuel with
  | zero =>
    intro s hl _
    have : s = [] := List.eq_nil_of_length_eq_zero (by omega)
    subst this
    simp [decompGo, body, SepOK]
  | succ fuel ih =>
    intro s hl hh
    cases s with
    | nil => simp [decompGo, body, SepOK]
    | cons c s' =>
      have hc : isSpace c = false := hh c s' rfl
      simp only [decompGo, List.isEmpty_cons, Bool.false_eq_true, if_false]
      generalize ht : (c :: s').takeWhile (fun c => !isSpace c) = t
      generalize hr : (c :: s').dropWhile (fun c => !isSpace c) = r
      have hsplit : t ++ r = c :: s' := by rw [← ht, ← hr]; exact List.takeWhile_append_dropWhile
      have ht_ne : t ≠ [] := by rw [← ht]; simp [List.takeWhile, hc]
      have ht_nows : NoWS t := by
        intro x hx
        rw [← ht] at hx
        have := mem_takeWhile hx
        simpa using this
      have hwr : r.takeWhile isSpace ++ r.dropWhile isSpace = r := List.takeWhile_append_dropWhile
      have hlen : (r.dropWhile isSpace).length ≤ fuel := by
        have h1 : t.length + r.length = s'.length + 1 := by
          have := congrArg List.length hsplit; simpa using this
        have h2 : (r.dropWhile isSpace).length ≤ r.length := (List.dropWhile_sublist _).length_le
        have h3 : 0 < t.length := List.length_pos_iff.2 ht_ne
        simp only [List.length_cons] at hl
        omega
      obtain ⟨i1, i2, i3⟩ := ih (r.dropWhile isSpace) hlen (headNoWS_dropWhile r)
      have hw_all : AllWS (r.takeWhile isSpace) := by
        intro x hx
        exact mem_takeWhile hx
      refine ⟨?_, ⟨hw_all, ?_, i2⟩, ?_⟩
      · simp only [body]
        rw [i1, hwr, hsplit]
      · -- the separator is empty only at the very end
        by_cases hw : r.takeWhile isSpace = []
        · right
          have hr_nil : r = [] := by
            cases hr' : r with
            | nil => rfl
            | cons d r' =>
              exfalso
              have hd : isSpace d = true := by
                have := dropWhile_head_false (p := fun c => !isSpace c) (c :: s') d r' (by rw [hr, hr'])
                simpa using this
              rw [hr'] at hw
              simp [List.takeWhile, hd] at hw
          subst hr_nil
          cases fuel <;> simp [decompGo]
        · exact Or.inl hw
      · intro tw htw
        rcases List.mem_cons.1 htw with h | h
        · subst h; exact ⟨ht_nows, ht_ne⟩
        · exact i3 tw h

theorem decomp_spec (l : Str) :
    l = (decomp l).1 ++ body (decomp l).2 ∧ AllWS (decomp l).1 ∧ SepOK (decomp l).2 ∧
    (∀ tw ∈ (decomp l).2, NoWS tw.1 ∧ tw.1 ≠ []) := by
  have hlen : (l.dropWhile isSpace).length ≤ l.length := (List.dropWhile_sublist _).length_le
  obtain ⟨a, b, c⟩ := decompGo_spec l.length (l.dropWhile isSpace) hlen (headNoWS_dropWhile l)
  refine ⟨?_, ?_, b, c⟩
  · simp only [decomp]
    rw [a]; exact List.takeWhile_append_dropWhile.symm
  · intro x hx
    exact mem_takeWhile hx

theorem splitWS_decomp (l : Str) : splitWS l = (decomp l).2.map (·.1) := by
  obtain ⟨h1, h2, h3, h4⟩ := decomp_spec l
  conv => lhs; rw [h1]
  rw [splitWS_line _ h2 _ h3]
  generalize (decomp l).2 = items at h4
  induction items with
  | nil => rfl
  | cons tw r ih =>
    have := h4 tw (by simp)
    simp only [List.map_cons, List.flatten_cons, splitWS_token this.1 this.2]
    rw [ih (fun x hx => h4 x (List.mem_cons_of_mem _ hx))]
    rfl

def KeyFree (K : List Str) (t : Str) : Prop := ∀ k ∈ K, ¬ k <:+: t

/-- a variable of `K` occurs in `t` only if `t` is that variable -/
def Good (K : List Str) (t : Str) : Prop := ∀ k ∈ K, k <:+: t → t = k

theorem KeyFree.good {K : List Str} {t : Str} (h : KeyFree K t) : Good K t :=
  fun k hk hi => absurd hi (h k hk)

end Infretis.Template
