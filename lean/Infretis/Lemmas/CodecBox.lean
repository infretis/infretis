import Infretis.Model.CodecBox
/-! `box_matrix_to_list` (`Infretis/Model/CodecBox.lean`): the fixed order of the nine numbers, its inverse `listToMatrix`,
and the short form that `full=False` gives for at most three non-zero entries. -/
namespace Infretis.Box

theorem boxMatrixToList_full (m : M3) : boxMatrixToList m true = g96Order m := by
  simp [boxMatrixToList]

theorem listToMatrix_g96Order (m : M3) : listToMatrix (g96Order m) = some m := by
  cases m; rfl

theorem g96Order_listToMatrix (l : List Int) (h : l.length = 9) :
    ∃ m, listToMatrix l = some m ∧ g96Order m = l := by
  match l, h with
  | [xx, yy, zz, xy, xz, yx, yz, zx, zy], _ => exact ⟨_, rfl, rfl⟩

theorem short_diag (a b c : Int) :
    boxMatrixToList ⟨a, 0, 0, 0, b, 0, 0, 0, c⟩ false = [a, b, c] ∧
    listToMatrix [a, b, c] = some ⟨a, 0, 0, 0, b, 0, 0, 0, c⟩ := by
  refine ⟨?_, rfl⟩
  have : countNonzero ⟨a, 0, 0, 0, b, 0, 0, 0, c⟩ ≤ 3 := by
    simp only [countNonzero, M3.toList]
    by_cases ha : a = 0 <;> by_cases hb : b = 0 <;> by_cases hc : c = 0 <;> simp [ha, hb, hc]
  simp [boxMatrixToList, this]

theorem long_of_nonzero (m : M3) (full : Bool) (h : 3 < countNonzero m) :
    boxMatrixToList m full = g96Order m := by
  have : ¬ countNonzero m ≤ 3 := by omega
  simp [boxMatrixToList, this]

end Infretis.Box
