import Infretis.Lemmas.RepexC05Sys
/-!
# C05 — membership in the weight family is decidable

`RowOk`, `VecOk`, `EvOk` and `HistOk` of concrete rows, vectors, events and histories are settled by evaluation
(`decide +kernel`).  A plus row with `cnt` positive weights has `1 + cnt ≤ n`, which bounds the search for `cnt`.
-/
namespace Infretis.Repex
open Infretis.Perm

instance (n i : Nat) (r : Row) : Decidable (RowOk n i r) :=
  decidable_of_iff ((i = 0 → IsMinusRow n r) ∧ (1 ≤ i → ∃ cnt, cnt < n ∧ IsPlusRow 1 n cnt r ∧ 1 + cnt ≤ n - 1))
    ⟨fun h => ⟨h.1, fun hi => (h.2 hi).imp fun _ hc => hc.2⟩,
     fun h => ⟨h.1, fun hi => (h.2 hi).imp fun _ hc => ⟨by have := hc.1.2.1; omega, hc⟩⟩⟩

instance (n : Nat) (ens : Int) (w : List Rat) : Decidable (VecOk n ens w) :=
  inferInstanceAs (Decidable (RowOk n (ens + 1).toNat (padN n ens w)))

instance (y : Sys) : (ev : Ev) → Decidable (EvOk y ev)
  | .start _ _ => isTrue trivial
  | .initDone => isTrue trivial
  | .step k status newW _ =>
    match h : y.jobs[k]? with
    | none => isTrue fun _ job hj => by rw [h] at hj; cases hj
    | some job =>
      decidable_of_iff (status = .acc → ∀ pw ∈ job.picked.zip newW, VecOk y.s.n pw.1.ens pw.2)
        ⟨fun a ha job' hj => by rw [h] at hj; cases hj; exact a ha, fun a ha => a ha job h⟩

instance decHistOk : (evs : List Ev) → (y : Sys) → Decidable (HistOk y evs)
  | [], _ => isTrue trivial
  | ev :: rest, y =>
    match h : sysStep y ev with
    | .error _ => decidable_of_iff (EvOk y ev) ⟨fun a => ⟨a, fun y' hy => by rw [h] at hy; cases hy⟩, fun a => a.1⟩
    | .ok y1 =>
      have := decHistOk rest y1
      decidable_of_iff (EvOk y ev ∧ HistOk y1 rest)
        ⟨fun a => ⟨a.1, fun y' hy => by rw [h] at hy; cases hy; exact a.2⟩, fun a => ⟨a.1, a.2 y1 h⟩⟩

end Infretis.Repex
