import Infretis.Lemmas.RepexC04Restart
/-!
# C04 — a stop inside `treat_output`, then a restart: no weight is lost or counted twice

Weight-relevant disk effects of one `treat_output`, in the code's order:
  1. `write_to_pathens`: the rows of the replaced paths are appended to the data file
     (a stop may leave any number `j` of whole rows; a torn last row is dropped by the restart);
  2. `write_toml`: `restart.toml` is replaced atomically (temp file + `os.replace`) by the image of
     the new state.
(The path-store / deletion effects do not carry weights; they are C08's `Fs` model.)
At the restart `clean_data_file` drops the rows of paths that are active in the restart file.
-/
namespace Infretis.Repex.Frac

/-- what is on disk as far as the weights are concerned -/
structure WDisk where
  rows : List (Nat × List Rat × List Rat)
  img : Image

/-- the disk a stop inside `treat_output` (`s` ⟶ `s'`) leaves: before the replace of
    `restart.toml` the old image with `j` whole new rows already appended, afterwards the new
    image with all rows -/
def crashDisk (s s' : St) (j : Nat) (renamed : Bool) : WDisk :=
  if renamed then ⟨s'.rows, persist s'⟩
  else ⟨s.rows ++ (s'.rows.drop s.rows.length).take j, persist s⟩

/-- `clean_data_file`: rows of paths that are active in the restart file are dropped -/
def cleanRows (rows : List (Nat × List Rat × List Rat)) (active : List (Option Nat)) :
    List (Nat × List Rat × List Rat) :=
  rows.filter (fun r => !active.contains (some r.1))

theorem held_mem_livePaths {s : St} {H : List (Nat × Nat)} {tn : Nat} (hc : Core s H tn) (e pn : Nat)
    (h : (e, pn) ∈ H) : some pn ∈ livePaths s := by
  obtain ⟨hlt, htr, _⟩ := hc.heldOk e pn h
  unfold livePaths
  apply List.mem_of_getElem? (i := e)
  rw [List.getElem?_dropLast, if_pos (by rw [hc.lenT]; exact hlt)]
  exact htr

theorem cleanRows_self {s : St} {jobs : List Job} (r : RInv ⟨s, jobs⟩) :
    cleanRows s.rows (persist s).active = s.rows := by
  refine List.filter_eq_self.mpr fun x hx => ?_
  have hm : x.1 ∈ s.rows.map (·.1) := List.mem_map_of_mem hx
  have hnl : some x.1 ∉ s.trajs := fun hm' => r.rowsFrac x.1 hm (r.liveFrac x.1 hm')
  have : some x.1 ∉ (persist s).active := fun hm' => hnl ((List.dropLast_sublist _).subset hm')
  simpa using this

/-- **Stop inside one `treat_output`, restart.**  `s` the state the step starts from (its job held,
    table and rows well formed), `s'` the state after the step.  For EVERY stop — before the replace of
    the restart file with any number `j` of the new rows already in the data file, or after it — the
    restart (`clean_data_file` + `load_paths` on the image) sees: the data rows of `s` resp. `s'`
    exactly (a row that ran ahead of the restart file is dropped, no row is missing), and
    rows + restored table = the total of `s` resp. `s'` in every column.  No weight is lost and none
    is counted twice, whichever effect the stop falls between. -/
theorem crash_restart_total {s s' : St} {jobs : List Job} {job : Job} {status : Status}
    {newW : List (List Rat)} {fuel : Nat} {pns : List Nat} {it : Nat} {H : List (Nat × Nat)}
    (hc : Core s (heldJob job ++ H) s.trajNum) (fw : FracWF s) (r : RInv ⟨s, jobs⟩)
    (hold : job.pnumOld = job.picked.map (·.pn))
    (s0 : St) (e1 : s0.rows = s.rows) (e2 : s0.frac = s.frac) (e3 : s0.trajs = s.trajs)
    (htab : (s.frac.map Prod.fst).Perm ((livePaths s).filterMap id))
    (htab' : (s'.frac.map Prod.fst).Perm ((livePaths s').filterMap id))
    (h : treatOutput s job status newW fuel = .ok (s', pns, it))
    (j : Nat) (renamed : Bool) (n workers tsteps : Nat) (occ : List (List Int))
    (ensEng : List (List Nat)) (weightOf : Nat → List Rat) (sR : St)
    (hres : restore (crashDisk s0 s' j renamed).img n workers tsteps occ ensEng weightOf = .ok sR) :
    cleanRows (crashDisk s0 s' j renamed).rows (crashDisk s0 s' j renamed).img.active
      = (if renamed then s'.rows else s.rows) ∧
    (crashDisk s0 s' j renamed).img.cstep = (if renamed then s'.cstep else s0.cstep) ∧
    ∀ c, rowsTotal (cleanRows (crashDisk s0 s' j renamed).rows (crashDisk s0 s' j renamed).img.active) c
        + colTotal sR.frac c = if renamed then total s' c else total s c := by
  obtain ⟨r', hrows, _⟩ := treat_rinv hc fw r hold h
  obtain ⟨news, hnews, hnk⟩ := treatOutput_rows_append h
  cases renamed with
  | true =>
    simp only [crashDisk, if_true] at hres ⊢
    have hclean := cleanRows_self r'
    have fw' : (s'.frac.map Prod.fst).Nodup := by
      have hl := r'.liveNodup
      exact htab'.nodup_iff.mpr (hl.sublist ((List.dropLast_sublist _).filterMap id))
    refine ⟨hclean, rfl, fun c => ?_⟩
    rw [hclean, restore_colTotal hres fw' htab' c]
    rfl
  | false =>
    simp only [crashDisk, Bool.false_eq_true, if_false] at hres ⊢
    have hlp : livePaths s0 = livePaths s := by unfold livePaths; rw [e3]
    have hact : (persist s0).active = (persist s).active := hlp
    rw [e1, hact]
    have hdrop : s'.rows.drop s.rows.length = news := by rw [hnews]; simp
    rw [hdrop]
    have hclean : cleanRows (s.rows ++ news.take j) (persist s).active = s.rows := by
      unfold cleanRows
      rw [List.filter_append]
      have h1 : s.rows.filter (fun r => !(persist s).active.contains (some r.1)) = s.rows := cleanRows_self r
      have h2 : (news.take j).filter (fun r => !(persist s).active.contains (some r.1)) = [] := by
        refine List.filter_eq_nil_iff.mpr fun x hx => ?_
        have hxn : x ∈ news := List.mem_of_mem_take hx
        have hw : x.1 ∈ written job status := by rw [← hnk]; exact List.mem_map_of_mem hxn
        have hp : x.1 ∈ job.picked.map (·.pn) := by
          unfold written at hw
          split at hw
          · rw [hold] at hw; exact hw
          · exact absurd hw (by simp)
        simp only [List.mem_map] at hp
        obtain ⟨p, hp, hpe⟩ := hp
        have hl : some x.1 ∈ livePaths s := by
          rw [← hpe]
          exact held_mem_livePaths hc (slotOf p) p.pn
            (List.mem_append_left _ (List.mem_map.mpr ⟨p, hp, rfl⟩))
        have : some x.1 ∈ (persist s).active := hl
        simpa using this
      rw [h1, h2, List.append_nil]
    refine ⟨hclean, rfl, fun c => ?_⟩
    rw [hclean, restore_colTotal hres (by rw [e2]; exact fw.keys) (by rw [e2, hlp]; exact htab) c, e2]
    rfl

theorem crash_step_total {y y' : Sys} {k : Nat} {status : Status} {newW : List (List Rat)}
    {o : PickOutcome} (hi : HInv y) (r : RInv y)
    (h : sysStep y (.step k status newW o) = .ok y') (hm : matchableAt y (.step k status newW o)) :
    ∃ job s' pns it, y.jobs[k]? = some job ∧
      treatOutput (loop y.s).1 job status newW (sortFuel (loop y.s).1) = .ok (s', pns, it) ∧
      ((y.s.frac.map Prod.fst).Perm ((livePaths y.s).filterMap id) →
       (s'.frac.map Prod.fst).Perm ((livePaths s').filterMap id) →
       ∀ (j : Nat) (renamed : Bool) (n workers tsteps : Nat) (occ : List (List Int))
         (ensEng : List (List Nat)) (weightOf : Nat → List Rat) (sR : St),
         restore (crashDisk y.s s' j renamed).img n workers tsteps occ ensEng weightOf = .ok sR →
         (crashDisk y.s s' j renamed).img.cstep = (if renamed then y.s.cstep + 1 else y.s.cstep) ∧
         ∀ c, rowsTotal (cleanRows (crashDisk y.s s' j renamed).rows
                (crashDisk y.s s' j renamed).img.active) c + colTotal sR.frac c
              = total y.s c + (if renamed then (idleAt y (.step k status newW o) c : Rat) else 0)) := by
  obtain ⟨job, ym, hc, _⟩ := Completes.of_step h
  cases hc with | @mk s2 pns it hgo hjob htreat =>
  have hld := loop_touches y.s
  have hc1 := step_core hi.inv hjob
  have fw1 := hi.fw.loop
  have r1 := r.loop k
  have hold := r.jobsOld job (List.mem_of_getElem? hjob)
  refine ⟨job, s2, pns, it, hjob, htreat, ?_⟩
  intro htab htab' j renamed n workers tsteps occ ensEng weightOf sR hres
  have htab1 : ((loop y.s).1.frac.map Prod.fst).Perm ((livePaths (loop y.s).1).filterMap id) := by
    have : livePaths (loop y.s).1 = livePaths y.s := by unfold livePaths; rw [hld.trajs]
    rw [hld.frac, this]; exact htab
  obtain ⟨_, hcs, htot⟩ := crash_restart_total hc1 fw1 r1 hold y.s hld.rows.symm hld.frac.symm
    hld.trajs.symm htab1 htab' htreat j renamed n workers tsteps occ ensEng weightOf sR hres
  -- the step's own balance
  obtain ⟨sRec, tn, hrec, _, hlk, _, _, _, hmain⟩ := treatOutput_total fw1 htreat
  have hzl := treatOutput_jobWs_length htreat
  have hcR : Core sRec (held (y.jobs.eraseIdx k)) tn := recState_core hc1 hzl hrec
  obtain ⟨_, hbal⟩ := hmain (slotWF_of_core hcR)
  have hbal := hbal (hm job sRec tn pns hjob hrec)
  have hcs2 := (treatOutput_touches htreat).cstep
  constructor
  · rw [hcs]
    cases renamed with
    | true => simp only [if_true]; rw [hcs2, (loop_go hgo).2]
    | false => simp only [Bool.false_eq_true, if_false]
  · intro c
    rw [htot c]
    cases renamed with
    | true =>
      simp only [if_true]
      unfold total
      rw [hbal c, hld.rows, hld.frac]
      congr 1
      simp only [idleAt, hjob, hrec, hlk]
      split <;> simp
    | false =>
      simp only [Bool.false_eq_true, if_false, add_zero]
      exact total_congr hld.frac hld.rows c

end Infretis.Repex.Frac
