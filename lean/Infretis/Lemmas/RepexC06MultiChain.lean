import Infretis.Lemmas.RepexC06MultiRestart
/-
C06: restart equivalence with several workers — one restart (`restart_run_multi`), and the chains of restarts
(`RestartsM`) over which Props/C06 does the induction.
-/
namespace Infretis.Repex

theorem restart_run_multi {occ : List (List Int)} {recs : List ((List Nat × List Nat) × Nat)} {y : Sys} {s' : St}
    (k : Nat) (st : Status) (w : List (List Rat)) (o : PickOutcome) (rest : List Ev) (r : St × Job × List Job)
    (hT : stepTreat y k st w = .ok r) (hR : RestoreRelM occ recs r.1 s') (hS : StopM recs r.1 r.2.2)
    (hmore : r.1.cstep + r.1.workers ≤ r.1.tsteps) (hsteps : StepsOnly rest)
    {yN : Sys} (hrun : run y (.step k st w o :: rest) = .ok yN)
    (starts : List (PickOutcome × Nat)) (hlen : starts.length = recs.length) {yN' : Sys}
    (hrun' : run { s := s', jobs := [] }
      (starts.map (fun x => Ev.start x.1 x.2) ++ (.start o r.1.mainDraws :: .initDone :: rest)) = .ok yN') :
    RM r.1.rows [] yN yN' := by
  obtain ⟨s2, job, restJobs⟩ := r
  simp only [] at hR hS hmore hrun' ⊢
  obtain ⟨yU, hU, hrun⟩ := run_cons_ok hrun
  rw [sysStep_step_eq, hT] at hU
  obtain ⟨y1, h1, h1'⟩ := run_append_inv _ _ hrun'
  obtain ⟨y2, h2, h1'⟩ := run_cons_ok h1'
  obtain ⟨yR, h3, h1'⟩ := run_cons_ok h1'
  have hrm := restart_step_multi job restJobs o hR hS hU hmore starts hlen h1 h2 h3
  exact run_steps_relM rest hsteps hrm hrun h1'

/-- a run of several workers with restarts: run as is, or stopped right after the `treat_output` of some `.step` with a
    fresh job due, rebuilt from the image, the record re-issued, continued — with further restarts — from there.  The
    premises at each restart are facts about the restarted run itself: what the restart rebuilt (`RestoreRelM`), that the
    jobs in flight were on record (`StopM`), and that the continuation also completes without further restarts. -/
inductive RestartsM : Sys → List Ev → Sys → Prop
  | direct {y0 yN : Sys} {evs : List Ev} : run y0 evs = .ok yN → RestartsM y0 evs yN
  | restart {y0 y yMid yN : Sys} {pre : List Ev} {k : Nat} {st : Status} {w : List (List Rat)} {o : PickOutcome}
      {rest : List Ev} {r : St × Job × List Job} {s' : St} {occ : List (List Int)}
      {recs : List ((List Nat × List Nat) × Nat)} {starts : List (PickOutcome × Nat)} :
      StepsOnly rest → run y0 pre = .ok y → stepTreat y k st w = .ok r →
      RestoreRelM occ recs r.1 s' → StopM recs r.1 r.2.2 → r.1.cstep + r.1.workers ≤ r.1.tsteps →
      starts.length = recs.length →
      run { s := s', jobs := [] }
        (starts.map (fun x => Ev.start x.1 x.2) ++ (.start o r.1.mainDraws :: .initDone :: rest)) = .ok yMid →
      RestartsM { s := s', jobs := [] }
        (starts.map (fun x => Ev.start x.1 x.2) ++ (.start o r.1.mainDraws :: .initDone :: rest)) yN →
      RestartsM y0 (pre ++ (.step k st w o :: rest)) yN

theorem UniqLive.of_nodup {tr : List (Option Nat)} (h : tr.dropLast.Nodup) : UniqLive tr := by
  intro i j q hi hj
  have hlt : i < tr.dropLast.length := getElem?_lt_of_some hi
  exact (List.getElem?_inj hlt h).mp (hi.trans hj.symm)

end Infretis.Repex
