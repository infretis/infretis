import Infretis.Model.EnginePropagate
/-!
The `propagate` wrapper around the engine loops (C12): the frame it leaves at `(initial_conf, 0)`, the sign
bookkeeping, iterated reversible dynamics, and the whole `propagate` of each engine from a phase point.
-/
namespace Infretis.EnginePropagate
open Infretis.EngineLoops

/-- the phase point `p` refers to frame `f`: `(file, idx)` holds it (`idx = None`: a single-configuration file) -/
def PointHas (st : Store) (p : Point) (f : Frame) : Prop :=
  match p.idx with
  | some i => (st p.file)[i]? = some f
  | none => (st p.file)[0]? = some f

/-- time reversibility of the one-step map: stepping, flipping the velocities and stepping again gives the
    flipped starting state -/
def Reversible (step : Frame → Frame) : Prop := ∀ x, step (flipV (step x)) = flipV x

theorem set_same (st : Store) (n : FName) (v : List Frame) : (st.set n v) n = v := by simp [Store.set]

theorem set_other (st : Store) (n m : FName) (v : List Frame) (h : m ≠ n) : (st.set n v) m = st m := by
  simp [Store.set, h]

theorem propagateSetup_flip {reverse : Bool} {p : Point} (h : reverse ≠ p.velRev) :
    propagateSetup reverse p =
      { calls := dumpConfig p.file p.idx .conf ++ [.reverse .conf .rconf], initialConf := .rconf,
        sys := ⟨.rconf, some 0, reverse⟩, backward := reverse } := by
  simp [propagateSetup, h]

theorem propagateSetup_keep {reverse : Bool} {p : Point} (h : reverse = p.velRev) :
    propagateSetup reverse p =
      { calls := dumpConfig p.file p.idx .conf, initialConf := .conf, sys := ⟨.conf, some 0, reverse⟩,
        backward := reverse } := by
  simp [propagateSetup, h]

theorem propagateSetup_sys (reverse : Bool) (p : Point) :
    (propagateSetup reverse p).sys = ⟨(propagateSetup reverse p).initialConf, some 0, reverse⟩ := by
  unfold propagateSetup; simp only; split <;> rfl

theorem propagateSetup_velRev (reverse : Bool) (p : Point) : (propagateSetup reverse p).sys.velRev = reverse := by
  rw [propagateSetup_sys]

theorem runCalls_append (st : Store) (a b : List Call) :
    runCalls st (a ++ b) = (runCalls st a).bind (fun st' => runCalls st' b) := by
  induction a generalizing st with
  | nil => rfl
  | cons x a ih =>
    simp only [List.cons_append, runCalls]
    cases applyCall st x with
    | none => rfl
    | some st' => exact ih st'

/-- `dump_config` leaves the phase point's own frame at `(conf, 0)`: extracted, copied, or already there -/
theorem runCalls_dump (st : Store) (p : Point) (f : Frame) (h : PointHas st p f) :
    ∃ st', runCalls st (dumpConfig p.file p.idx .conf) = some st' ∧ (st' .conf)[0]? = some f := by
  obtain ⟨file, idx, vr⟩ := p
  unfold PointHas at h
  cases idx with
  | some i =>
    simp only at h
    exact ⟨st.set .conf [f], by simp only [dumpConfig, runCalls, applyCall, h], by rw [set_same]; rfl⟩
  | none =>
    simp only at h
    by_cases hf : file = .conf
    · subst hf
      exact ⟨st, by simp [dumpConfig, runCalls], h⟩
    · exact ⟨st.set .conf (st file), by simp [dumpConfig, hf, runCalls, applyCall], by rw [set_same]; exact h⟩

/-- **the frame at `(initial_conf, 0)`** is the phase point's own frame, velocities flipped iff
    `reverse != vel_rev` — whichever of copy / no copy / extract the wrapper chose -/
theorem startFrame_spec (reverse : Bool) (st : Store) (p : Point) (f : Frame) (h : PointHas st p f) :
    startFrame reverse st p = some (if reverse != p.velRev then flipV f else f) := by
  obtain ⟨st', hrun, hf⟩ := runCalls_dump st p f h
  unfold startFrame
  by_cases hr : reverse = p.velRev
  · subst hr
    simp only [propagateSetup_keep rfl, hrun, bne_self_eq_false, Bool.false_eq_true, if_false]
    exact hf
  · have hb : (reverse != p.velRev) = true := by simpa using hr
    simp only [propagateSetup_flip hr, runCalls_append, hrun, Option.bind_some, runCalls, applyCall, hb, if_true]
    rw [set_same]
    cases hl : st' .conf with
    | nil => rw [hl] at hf; cases hf
    | cons a t => rw [hl] at hf; cases hf; rfl

/-- the velocity the order function sees for the start frame is the phase point's own physical velocity
    `(-1)^vel_rev · v`, for every `reverse` -/
theorem start_velocity_seen (reverse vr : Bool) (f : Frame) :
    velSeen reverse (if reverse != vr then flipV f else f).vel = velSeen vr f.vel := by
  cases reverse <;> cases vr <;> simp [velSeen, flipV]

theorem start_cid_bid (reverse vr : Bool) (f : Frame) :
    (if reverse != vr then flipV f else f).cid = f.cid ∧ (if reverse != vr then flipV f else f).bid = f.bid := by
  cases reverse <;> cases vr <;> simp [flipV]

theorem flipV_flipV (f : Frame) : flipV (flipV f) = f := by
  cases f; simp [flipV]

theorem reversible_iter (step : Frame → Frame) (hrev : Reversible step) (x : Frame) (n : Nat) :
    ∀ i, i ≤ n → iter step (flipV (iter step x n)) i = flipV (iter step x (n - i)) := by
  intro i
  induction i with
  | zero => intro _; rfl
  | succ i ih =>
    intro hi
    have h1 : iter step (flipV (iter step x n)) i = flipV (iter step x (n - i)) := ih (by omega)
    have h2 : n - i = (n - (i + 1)) + 1 := by omega
    simp only [iter]
    rw [h1, h2]
    simp only [iter]
    exact hrev _

theorem unSee_velSeen (rev : Bool) (v : Int) : unSee rev (velSeen rev v) = v := by
  cases rev <;> simp [unSee, velSeen]

theorem propagateInproc_of_point (c : Cfg) (sub : Nat) (step : Frame → Frame) (ase reverse : Bool) (st : Store)
    (p : Point) (f : Frame) (hp : PointHas st p f) :
    propagateInproc c sub step ase reverse st p = some ⟨propagateSetup reverse p, true,
      inproc { c with rev := reverse } sub (iter step (if reverse != p.velRev then flipV f else f)) ase⟩ := by
  simp only [propagateInproc, startFrame_spec reverse st p f hp, propagateSetup_velRev]

theorem propagateExt_of_point (k : Kind) (c : Cfg) (sched : Sched) (code : Int) (prog : Frame → List Frame)
    (fuel : Nat) (reverse : Bool) (st : Store) (p : Point) (f : Frame) (hp : PointHas st p f) :
    propagateExt k c sched code prog fuel reverse st p = some ⟨propagateSetup reverse p, true,
      extRun k { c with rev := reverse } sched code (prog (if reverse != p.velRev then flipV f else f)) fuel⟩ := by
  simp only [propagateExt, startFrame_spec reverse st p f hp, propagateSetup_velRev]

/-- the ways `propagate` of GROMACS ends: grompp fails and mdrun is never started; or the runner's result, with a
    RuntimeError put on it when it ended normally and `gmx energy` fails -/
theorem propagateGmx_some {gv : Variant} {c : Cfg} {sched : Sched} {code : Int} {need0 : Nat}
    {prog : Frame → List Frame} {fuel : Nat} {gromppRc energyRc : Int} {reverse : Bool} {st : Store} {p : Point}
    {out : Out} (h : propagateGmx gv c sched code need0 prog fuel gromppRc energyRc reverse st p = some out) :
    (gromppRc ≠ 0 ∧ out.started = false ∧ out.res = notStarted .runtime) ∨
    (gromppRc = 0 ∧ out.started = true ∧ ∃ f0,
      let r := gmxExt gv { c with rev := (propagateSetup reverse p).sys.velRev } sched code need0 (prog f0) fuel
      (out.res = r ∧ (r.raised = none → energyRc = 0)) ∨
      (r.raised = none ∧ energyRc ≠ 0 ∧ out.res = { r with raised := some .runtime })) := by
  unfold propagateGmx at h
  simp only at h
  cases hs : startFrame reverse st p with
  | none => simp [hs] at h
  | some f0 =>
    simp only [hs, execCommand] at h
    by_cases hg : gromppRc = 0
    · refine Or.inr ⟨hg, ?_⟩
      simp only [hg, ne_eq, not_true_eq_false, if_false, Bool.false_eq_true] at h
      cases hr : (gmxExt gv { c with rev := (propagateSetup reverse p).sys.velRev } sched code need0 (prog f0) fuel).raised with
      | some e =>
        simp only [hr, Option.some.injEq] at h
        subst h
        exact ⟨rfl, f0, Or.inl ⟨rfl, fun h' => by rw [hr] at h'; cases h'⟩⟩
      | none =>
        simp only [hr] at h
        by_cases he : energyRc = 0
        · simp only [he, not_true_eq_false, if_false, Bool.false_eq_true, Option.some.injEq] at h
          subst h
          exact ⟨rfl, f0, Or.inl ⟨rfl, fun _ => he⟩⟩
        · simp only [he, not_false_eq_true, if_true, Option.some.injEq] at h
          subst h
          exact ⟨rfl, f0, Or.inr ⟨hr, he, rfl⟩⟩
    · simp only [ne_eq, hg, not_false_eq_true, if_true, Option.some.injEq] at h
      subst h
      exact Or.inl ⟨hg, rfl, rfl⟩

end Infretis.EnginePropagate
