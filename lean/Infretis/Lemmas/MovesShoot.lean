import Infretis.Lemmas.Moves
/-! `Moves.shoot` branch by branch: the ways a call completes (`ShootRun`, one constructor per `.ok` of the model)
    with the value returned on each, `shoot_ok_iff`; the raising branches (`shoot_error_cases`).
    Then the engine loop on a stream that reaches an interface (`Reaches`): what the acceptance rule in terms of the
    drawn limit (`shoot_acc_iff` in `MovesMember`) is stated with. -/
namespace Infretis.Moves
open Infretis.Engine

theorem finalChecks_acc (i : ShootIn) (t : List Int) :
    ((finalChecks i t).1 = true ↔ (finalChecks i t).2 = .ACC) := by
  unfold finalChecks
  simp only
  repeat' split
  all_goals simp

theorem finalChecks_eq_acc (i : ShootIn) (t : List Int) : finalChecks i t = (true, .ACC) ↔
    ¬ (i.sc.hasL = false ∧
        ((checkInterfaces t i.l i.m i.r).1 = .L ∨ (checkInterfaces t i.l i.m i.r).2.1 = .L)) ∧
    (((effSc i).hasL = true ∧ (effSc i).hasR = true) ∨ (checkInterfaces t i.l i.m i.r).2.2 = true) := by
  unfold finalChecks
  simp only
  by_cases h1 : i.sc.hasL = false ∧
      ((checkInterfaces t i.l i.m i.r).1 = .L ∨ (checkInterfaces t i.l i.m i.r).2.1 = .L)
  · simp [h1]
  by_cases h2 : (effSc i).hasL = true ∧ (effSc i).hasR = true
  · simp [h1, h2]
  cases (checkInterfaces t i.l i.m i.r).2.2 <;> simp [h1, h2]

/-- when the length limit comes out, and as what: `maxlength` without a draw for loaded paths and `allowmaxlength`,
    else `min(⌊(L_old − 2)/ξ⌋ + 2, maxlength)` from one `random()` that is neither negative nor zero -/
theorem drawMaxlen_ok_iff (i : ShootIn) (M : Nat) (d : List Draw) : drawMaxlen i = .ok (M, d) ↔
    ((i.genLd || i.allowMax) = true ∧ M = i.maxlength ∧ d = []) ∨
    ((i.genLd || i.allowMax) = false ∧ ¬ i.xi < 0 ∧ ¬ i.xi = 0 ∧
      M = min (((((i.old.length : Int) - 2 : Int) : Rat) / i.xi).floor.toNat + 2) i.maxlength ∧ d = [.random]) := by
  unfold drawMaxlen
  cases (i.genLd || i.allowMax) with
  | true => simp [eq_comm]
  | false =>
    by_cases h1 : i.xi < 0
    · simp [h1]
    by_cases h2 : i.xi = 0
    · simp [h2]
    simp [h1, h2, eq_comm]

theorem drawMaxlen_le (i : ShootIn) (maxlen : Nat) (d2 : List Draw) (h : drawMaxlen i = .ok (maxlen, d2)) :
    maxlen ≤ i.maxlength := by
  rcases (drawMaxlen_ok_iff i maxlen d2).1 h with ⟨_, rfl, _⟩ | ⟨_, _, _, rfl, _⟩
  · exact Nat.le_refl _
  · exact Nat.min_le_right _ _

theorem drawMaxlen_draws (i : ShootIn) (maxlen : Nat) (d2 : List Draw) (h : drawMaxlen i = .ok (maxlen, d2)) :
    d2 = [] ∨ d2 = [.random] := by
  rcases (drawMaxlen_ok_iff i maxlen d2).1 h with ⟨_, _, rfl⟩ | ⟨_, _, _, _, rfl⟩
  · exact Or.inl rfl
  · exact Or.inr rfl

/-- `shoot` reached the end of `shoot_backwards`: the old path has interior points, the drawn index is one of them, the
    kick stayed in `[l, r)`, the length limit came out as `maxlen` (requesting the draws `d2`), and the backward
    engine loop returned `(pb, okB, uB)` -/
structure BackLeg (v : Variant) (i : ShootIn) (maxlen : Nat) (d2 : List Draw) (pb : List Int) (okB : Bool)
    (uB : Nat) : Prop where
  len : 3 ≤ i.old.length
  idx1 : 1 ≤ i.idx
  idx2 : i.idx + 2 ≤ i.old.length
  kick1 : i.l ≤ i.kick
  kick2 : i.kick < i.r
  draw : drawMaxlen i = .ok (maxlen, d2)
  back : feedV v i.l i.r (some (maxlen - 1)) [] (i.kick :: i.back) 0 = some (pb, okB, uB)

/-- `shoot` reached the end of the forward propagation: the backward path succeeded and ends with `e` on a side
    the start condition allows, the forward engine loop returned `(pf, okF, uF)` -/
structure ForwLeg (v : Variant) (i : ShootIn) (maxlen : Nat) (d2 : List Draw) (pb : List Int) (uB : Nat) (e : Int)
    (pf : List Int) (okF : Bool) (uF : Nat) : Prop extends BackLeg v i maxlen d2 pb true uB where
  lr : i.l ≤ i.r
  last : pb.getLast? = some e
  side : sideIn (WF.endPoint i.l i.r e) i.sc = true
  forw : feedV v i.l i.r (some (maxlen - pb.length + 1)) [] (i.kick :: i.forw) 0 = some (pf, okF, uF)

/-- what `shoot` hands back when it stops before the forward propagation: rejected with status `st`,
    `generated = ("sh", kick, idx, 0)`, time origin that of the shooting point; `d2` the draws after the first -/
@[simp] def ShootOut.stopped (i : ShootIn) (st : Status) (trial : List Int) (d2 : List Draw) (uB : Nat) : ShootOut :=
  { accept := false, status := st, trial := trial, genSp := i.kick, genIdx := i.idx, genNb := 0,
    timeOrigin := i.oldTimeOrigin + i.idx, draws := .integers 1 (i.old.length - 1) :: d2, usedB := uB, usedF := 0 }

/-- what `shoot` hands back after both propagations: the pasted path, with the shooting point at index `|pb| − 1` -/
@[simp] def ShootOut.pasted (i : ShootIn) (acc : Bool) (st : Status) (d2 : List Draw) (pb pf : List Int)
    (uB uF : Nat) : ShootOut :=
  { accept := acc, status := st, trial := paste pb pf i.maxlength, genSp := i.kick, genIdx := i.idx,
    genNb := pb.length - 1, timeOrigin := i.oldTimeOrigin + i.idx - pb.length + 1,
    draws := .integers 1 (i.old.length - 1) :: d2, usedB := uB, usedF := uF }

/-- the five `.ok` of `shoot`, each with the stage the code reached and the value it hands back.  Of the six `return`s
    of tis.py:330-473, line 401 is `backFail` and `wrongEnd` (the two `return False` of `shoot_backwards`), and
    459, 469, 473 are `final`. -/
inductive ShootRun (v : Variant) (i : ShootIn) : ShootOut → Prop
  | kob (hL : 3 ≤ i.old.length) (h1 : 1 ≤ i.idx) (h2 : i.idx + 2 ≤ i.old.length)
      (hk : ¬ (i.l ≤ i.kick ∧ i.kick < i.r)) :
      ShootRun v i (.stopped i .KOB (pathAppend [] (some i.maxlength) i.kick).1 [] 0)
  | backFail {maxlen d2 pb uB} (B : BackLeg v i maxlen d2 pb false uB) :
      ShootRun v i (.stopped i (if pb.length + 1 ≥ i.maxlength then .BTX else .BTL)
        (appendAll (some i.maxlength) [] pb).1 d2 uB)
  | wrongEnd {maxlen d2 pb uB e} (B : BackLeg v i maxlen d2 pb true uB) (hlr : i.l ≤ i.r)
      (hlast : pb.getLast? = some e) (hside : sideIn (WF.endPoint i.l i.r e) i.sc = false) :
      ShootRun v i (.stopped i .BWI (appendAll (some i.maxlength) [] pb).1 d2 uB)
  | forwFail {maxlen d2 pb uB e pf uF} (F : ForwLeg v i maxlen d2 pb uB e pf false uF) :
      ShootRun v i (.pasted i false (if (paste pb pf i.maxlength).length = i.maxlength then .FTX else .FTL)
        d2 pb pf uB uF)
  | final {maxlen d2 pb uB e pf uF} (F : ForwLeg v i maxlen d2 pb uB e pf true uF) :
      ShootRun v i (.pasted i (finalChecks i (paste pb pf i.maxlength)).1 (finalChecks i (paste pb pf i.maxlength)).2
        d2 pb pf uB uF)

theorem ShootRun.ready {v : Variant} {i : ShootIn} {o : ShootOut} (r : ShootRun v i o) :
    3 ≤ i.old.length ∧ 1 ≤ i.idx ∧ i.idx + 2 ≤ i.old.length := by
  cases r with
  | kob hL h1 h2 _ => exact ⟨hL, h1, h2⟩
  | backFail B => exact ⟨B.len, B.idx1, B.idx2⟩
  | wrongEnd B _ _ _ => exact ⟨B.len, B.idx1, B.idx2⟩
  | forwFail F => exact ⟨F.len, F.idx1, F.idx2⟩
  | final F => exact ⟨F.len, F.idx1, F.idx2⟩

/-- **`shoot`, branch by branch.**  `→` walks through the guards in the code's order (every raising branch is
    discharged on the way); `←` are the five equations of `shoot`. -/
theorem shoot_ok_iff (v : Variant) (i : ShootIn) (o : ShootOut) : shoot v i = .ok o ↔ ShootRun v i o := by
  constructor
  · intro h
    unfold shoot at h
    simp only at h
    by_cases hL : ¬ (1 < (i.old.length : Int) - 1)
    · simp only [hL] at h; cases h
    simp only [hL, if_false] at h
    by_cases hidx : ¬ (1 ≤ i.idx ∧ (i.idx : Int) < (i.old.length : Int) - 1)
    · simp only [hidx] at h; cases h
    simp only [hidx, if_false] at h
    by_cases hk : ¬ (i.l ≤ i.kick ∧ i.kick < i.r)
    · simp only [hk] at h
      cases h
      exact .kob (by omega) (by omega) (by omega) hk
    simp only [hk, if_false] at h
    cases hd : drawMaxlen i with
    | error e => rw [hd] at h; cases h
    | ok md =>
    obtain ⟨maxlen, d2⟩ := md
    rw [hd] at h
    simp only at h
    cases hfb : feedV v i.l i.r (some (maxlen - 1)) [] (i.kick :: i.back) 0 with
    | none => rw [hfb] at h; cases h
    | some rb =>
    obtain ⟨pb, okB, uB⟩ := rb
    rw [hfb] at h
    simp only at h
    have B : BackLeg v i maxlen d2 pb okB uB := ⟨by omega, by omega, by omega, by omega, by omega, hd, hfb⟩
    cases okB with
    | false =>
      simp only [if_true] at h
      cases h
      exact .backFail B
    | true =>
    simp only [Bool.true_eq_false, if_false] at h
    by_cases hlr : i.r < i.l
    · simp only [hlr, if_true] at h; cases h
    simp only [hlr, if_false] at h
    cases hlast : pb.getLast? with
    | none => rw [hlast] at h; cases h
    | some e =>
    rw [hlast] at h
    simp only at h
    cases hside : sideIn (WF.endPoint i.l i.r e) i.sc with
    | false =>
      simp only [hside, if_true] at h
      cases h
      exact .wrongEnd B (by omega) hlast hside
    | true =>
    simp only [hside, Bool.true_eq_false, if_false] at h
    cases hff : feedV v i.l i.r (some (maxlen - pb.length + 1)) [] (i.kick :: i.forw) 0 with
    | none => rw [hff] at h; cases h
    | some rf =>
    obtain ⟨pf, okF, uF⟩ := rf
    rw [hff] at h
    simp only at h
    have F : ForwLeg v i maxlen d2 pb uB e pf okF uF := ⟨B, by omega, hlast, hside, hff⟩
    cases okF with
    | false =>
      simp only [if_true] at h
      cases h
      exact .forwFail F
    | true =>
      simp only [Bool.true_eq_false, if_false] at h
      cases h
      exact .final F
  · intro r
    obtain ⟨hL, h1, h2⟩ := r.ready
    have g1 : (1 : Int) < (i.old.length : Int) - 1 := by omega
    have g2 : 1 ≤ i.idx ∧ (i.idx : Int) < (i.old.length : Int) - 1 := by omega
    unfold shoot
    cases r with
    | kob _ _ _ hk => simp only [ShootOut.stopped, g1, g2, hk, and_self, not_true_eq_false, not_false_eq_true, if_true, if_false]
    | backFail B =>
      simp only [ShootOut.stopped, g1, g2, B.kick1, B.kick2, B.draw, B.back, not_true_eq_false, and_self, if_true, if_false]
    | wrongEnd B hlr hlast hside =>
      have g3 : ¬ i.r < i.l := by omega
      simp only [ShootOut.stopped, g1, g2, B.kick1, B.kick2, B.draw, B.back, g3, hlast, hside, not_true_eq_false, and_self, if_true,
        if_false, Bool.true_eq_false]
    | forwFail F | final F =>
      have g3 : ¬ i.r < i.l := by have := F.lr; omega
      simp only [ShootOut.pasted, g1, g2, F.kick1, F.kick2, F.draw, F.back, g3, F.last, F.side, F.forw, not_true_eq_false, and_self,
        if_true, if_false, Bool.true_eq_false]

theorem shoot_of_run {v : Variant} {i : ShootIn} {o : ShootOut} (r : ShootRun v i o) : shoot v i = .ok o :=
  (shoot_ok_iff v i o).2 r

section
variable {v : Variant} {i : ShootIn}

theorem shoot_value (h1 : ¬ (1 < (i.old.length : Int) - 1)) : shoot v i = .error .value := by
  unfold shoot
  simp only [h1, not_false_eq_true, reduceIte]

theorem shoot_idx (h1 : 1 < (i.old.length : Int) - 1)
    (h2 : ¬ (1 ≤ i.idx ∧ (i.idx : Int) < (i.old.length : Int) - 1)) : shoot v i = .error .badDraw := by
  unfold shoot
  simp only [h1, h2, not_true_eq_false, not_false_eq_true, reduceIte]

theorem shoot_drawErr (h1 : 1 < (i.old.length : Int) - 1)
    (h2 : 1 ≤ i.idx ∧ (i.idx : Int) < (i.old.length : Int) - 1) (hk : i.l ≤ i.kick ∧ i.kick < i.r)
    (er : Err) (hd : drawMaxlen i = .error er) : shoot v i = .error er := by
  unfold shoot
  simp only [h1, h2, hk, hd, and_self, not_true_eq_false, reduceIte]

/-- a backward path that may hold no frame: `phasepoints[-1]` raises -/
theorem shoot_noBack {M : Nat} {d2 : List Draw} (h1 : 1 < (i.old.length : Int) - 1)
    (h2 : 1 ≤ i.idx ∧ (i.idx : Int) < (i.old.length : Int) - 1) (hk : i.l ≤ i.kick ∧ i.kick < i.r)
    (hd : drawMaxlen i = .ok (M, d2))
    (hfb : feedV v i.l i.r (some (M - 1)) [] (i.kick :: i.back) 0 = none) : shoot v i = .error .index := by
  unfold shoot
  simp only [h1, h2, hk, hd, hfb, and_self, not_true_eq_false, reduceIte]

end

/-- every way `shoot` raises (the AssertionError of `get_end_point` is not among them) -/
theorem shoot_error_cases (v : Variant) (i : ShootIn) (er : Err) (h : shoot v i = .error er) :
    (er = .value ∧ ¬ (1 < (i.old.length : Int) - 1))
    ∨ (1 < (i.old.length : Int) - 1 ∧ er = .badDraw ∧ ¬ (1 ≤ i.idx ∧ (i.idx : Int) < (i.old.length : Int) - 1))
    ∨ (1 < (i.old.length : Int) - 1 ∧ (1 ≤ i.idx ∧ (i.idx : Int) < (i.old.length : Int) - 1)
        ∧ (i.l ≤ i.kick ∧ i.kick < i.r)
        ∧ (drawMaxlen i = .error er ∨ er = .index)) := by
  revert h
  -- the cases are the leaves of `shoot` in the order of its text: 1 `.value`, 2 `.badDraw`, 3 KOB, 4 the length draw
  -- raises, 5, 8, 10 the three `.index`, 6 the backward failure, 7 `.assert`, 9 BWI, 11 the forward failure, 12 the rest
  fun_cases shoot v i
  case case1 h1 => intro h; cases h; exact Or.inl ⟨rfl, h1⟩
  case case2 h1 h2 => intro h; cases h; exact Or.inr (Or.inl ⟨Decidable.of_not_not h1, rfl, h2⟩)
  case case3 | case6 | case9 | case11 | case12 => intro h; cases h
  -- past `check_kick` an error is the length draw's or an IndexError; `left ≤ right` cannot fail, since l ≤ kick < r
  all_goals
    intro h
    cases h
    have hk := Decidable.of_not_not ‹¬¬ (i.l ≤ _ ∧ _)›
    refine Or.inr (Or.inr ⟨Decidable.of_not_not ‹¬¬ (1 : Int) < _›, Decidable.of_not_not ‹¬¬ (1 ≤ i.idx ∧ _)›, hk, ?_⟩)
  case case4 hd => exact Or.inl hd
  case case7 hlr => omega
  all_goals exact Or.inr rfl

theorem shoot_accept_status (v : Variant) (i : ShootIn) (o : ShootOut) (h : shoot v i = .ok o) :
    o.accept = true ↔ o.status = .ACC := by
  cases (shoot_ok_iff v i o).1 h with
  | kob => simp
  | backFail => simp only [ShootOut.stopped, Bool.false_eq_true, false_iff]; split <;> simp
  | wrongEnd => simp
  | forwFail => simp only [ShootOut.pasted, Bool.false_eq_true, false_iff]; split <;> simp
  | final => exact finalChecks_acc _ _

theorem shoot_acc_inv (v : Variant) (i : ShootIn) (o : ShootOut) (h : shoot v i = .ok o)
    (hs : o.status = .ACC) :
    ∃ maxlen d2 pb uB e pf uF, ForwLeg v i maxlen d2 pb uB e pf true uF ∧
      finalChecks i (paste pb pf i.maxlength) = (true, .ACC) ∧
      o = .pasted i true .ACC d2 pb pf uB uF := by
  cases (shoot_ok_iff v i o).1 h with
  | kob => cases hs
  | backFail => simp only [ShootOut.stopped] at hs; split at hs <;> cases hs
  | wrongEnd => cases hs
  | forwFail => simp only [ShootOut.pasted] at hs; split at hs <;> cases hs
  | final F =>
    have hacc := (finalChecks_acc i _).2 hs
    simp only [ShootOut.pasted] at hs
    exact ⟨_, _, _, _, _, _, _, F, Prod.ext hacc hs, by rw [hacc, hs]⟩

structure Reaches (l r : Int) (s pre : List Int) (x : Int) (rest : List Int) : Prop where
  eq : s = pre ++ x :: rest
  inside : ∀ y ∈ pre, l ≤ y ∧ y ≤ r
  outside : x < l ∨ r < x

theorem Reaches.between {l r kick : Int} {sB preB restB sF preF restF : List Int} {xB xF : Int}
    (hB : Reaches l r sB preB xB restB) (hF : Reaches l r sF preF xF restF) (hk : l ≤ kick ∧ kick ≤ r) :
    ∀ y ∈ preB.reverse ++ kick :: preF, l ≤ y ∧ y ≤ r := by
  intro y hy
  simp only [List.mem_append, List.mem_reverse, List.mem_cons] at hy
  rcases hy with hy | rfl | hy
  · exact hB.inside y hy
  · exact hk
  · exact hF.inside y hy

def fullTrial (kick : Int) (preB : List Int) (xB : Int) (preF : List Int) (xF : Int) : List Int :=
  (kick :: preB ++ [xB]).reverse ++ (preF ++ [xF])

/-- the room the leg needs beyond its last frame: before the repair a crossing on the frame that fills the path is
    reported as a failure (`Leg.crossed`) -/
def slack : Variant → Nat
  | .asIs => 1
  | .repaired => 0

def Accepts (v : Variant) (i : ShootIn) : Prop := ∃ o, shoot v i = .ok o ∧ o.accept = true

theorem feedV_start_inv (v : Variant) (l r : Int) (M : Nat) (k0 : Int) (s p : List Int) (u : Nat)
    (hk : l ≤ k0 ∧ k0 ≤ r) (h : feedV v l r (some M) [] (k0 :: s) 0 = some (p, true, u)) :
    ∃ pre x rest, Reaches l r s pre x rest ∧ pre.length + 2 + slack v ≤ M ∧ p = k0 :: pre ++ [x] ∧
      u = pre.length + 2 := by
  obtain ⟨q, hq, rfl, rfl⟩ := (feedV_iff (by simpa using feedV_pos h)).1 h
  obtain ⟨pre', x, rest, hs, rfl, hin, hx, hroom, hv⟩ := hq.of_ok rfl
  -- `k0` is inside, so it is not the frame the leg ended on
  cases pre' with
  | nil => cases hs; omega
  | cons k pre =>
    cases hs
    simp only [room_some, List.length_nil, List.length_cons, Nat.zero_add] at hroom hv
    refine ⟨pre, x, rest, ⟨rfl, fun y hy => hin y (List.mem_cons_of_mem _ hy), hx⟩, ?_, rfl, by simp⟩
    cases v with
    | asIs => have := hv rfl; simp only [slack, ne_eq, Option.some.injEq] at this ⊢; omega
    | repaired => simp only [slack]; omega

theorem Reaches.unique {l r : Int} {s pre pre' rest rest' : List Int} {x x' : Int} (h : Reaches l r s pre x rest)
    (h' : Reaches l r s pre' x' rest') : pre = pre' ∧ x = x' := by
  obtain ⟨e1, e2, _⟩ := first_failing_unique (P := fun y => l ≤ y ∧ y ≤ r) (by have := h.outside; omega)
    (by have := h'.outside; omega) (h.eq.symm.trans h'.eq) h.inside h'.inside
  exact ⟨e1, e2⟩

theorem Reaches.feedV {v : Variant} {l r : Int} {M : Nat} {k0 : Int} {s pre rest : List Int} {x : Int}
    (hs : Reaches l r s pre x rest) (hk : l ≤ k0 ∧ k0 ≤ r) (hM : pre.length + 2 + slack v ≤ M) :
    feedV v l r (some M) [] (k0 :: s) 0 = some (k0 :: pre ++ [x], true, pre.length + 2) := by
  rw [hs.eq]
  refine (feedV_iff (by simp; omega)).2 ⟨_, .crossed (k0 :: pre) x rest (List.forall_mem_cons.2 ⟨hk, hs.inside⟩)
    hs.outside (by simp; omega) ?_, rfl, by simp⟩
  cases v <;> simp [slack, isRep] at hM ⊢
  omega

end Infretis.Moves
