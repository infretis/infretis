import Infretis.Model.Readers
import Infretis.Lemmas.Lex
/-!
# Lemmas for C13: `lammpstrj_reader` — the two sentinels at character level
(the terminating newline does not change the tokens; a torn atom line never passes the
`len(spl) == 9 and spl[0] == spl[-1]` test).  `Readers.split` is `Lex.split isBlank` (`split_eq_split`); what is
said of tokens here comes from `Lemmas/Lex.lean` through that.
-/
namespace Infretis.Readers

theorem split_eq_split (s : List Char) : split s = Lex.split isBlank s :=
  Lex.split_acc splitAux (fun acc => by cases acc <;> rfl) (fun c t acc => by cases acc <;> rfl) s []
    (fun _ h => by cases h)

theorem split_append_blanks (s tb : List Char) (h : ∀ x ∈ tb, isBlank x = true) : split (s ++ tb) = split s := by
  rw [split_eq_split, split_eq_split, Lex.split_append_blank s h]

theorem split_append_nl (body : List Char) : split (body ++ ['\n']) = split body :=
  split_append_blanks body ['\n'] (by decide)

/-- **the trailing-id sentinel**: a line whose first and last tokens are equal (≥ 2 tokens, no blank at
    its end) has no strict prefix with the same number of tokens and equal first and last token. -/
theorem sentinel_detects (body init : List Char) (c : Char) (hb : body = init ++ [c])
    (hc : isBlank c = false) (h2 : 2 ≤ (split body).length)
    (hid : (split body).head? = (split body).getLast?) (n : Nat) (hn : n < body.length) :
    ¬ ((split (body.take n)).length = (split body).length ∧
       (split (body.take n)).head? = (split (body.take n)).getLast?) := by
  rintro ⟨hl, hs⟩
  simp only [split_eq_split] at *
  rcases Lex.split_prefix (ws := isBlank) (List.take_prefix n body) with h0 | ⟨pre, u, t, post, ha, hbb, hut⟩
  · rw [h0] at hl; simp at hl; omega
  · rw [ha, hbb] at hl
    have hpost : post = [] := by
      simp only [List.length_append, List.length_cons, List.length_nil] at hl
      exact List.eq_nil_of_length_eq_zero (by omega)
    subst hpost
    have hpre : pre ≠ [] := by
      intro h; subst h; rw [hbb] at h2; simp at h2
    obtain ⟨p0, pre', rfl⟩ := List.exists_cons_of_ne_nil hpre
    rw [ha] at hs
    rw [hbb] at hid
    have e : ∀ x : List Char, (p0 :: pre' ++ [x]).getLast? = some x := fun x => List.getLast?_concat
    rw [e] at hs hid
    simp only [List.cons_append, List.head?_cons] at hs hid
    have hut' : u = t := by
      have := hs.symm.trans hid
      simpa using this
    have heq : Lex.split isBlank (body.take n) = Lex.split isBlank body := by rw [ha, hbb, hut']
    have hf := congrArg List.flatten heq
    rw [Lex.flatten_split, Lex.flatten_split] at hf
    have hlen := congrArg List.length hf
    have hnle : n ≤ init.length := by rw [hb] at hn; simp at hn; omega
    have h1 : (List.filter (fun c => !isBlank c) body).length
        = (List.filter (fun c => !isBlank c) init).length + 1 := by
      rw [hb]; simp [List.filter_append, hc]
    have h2' : body.take n = init.take n := by
      rw [hb, List.take_append_of_le_length hnle]
    rw [h2'] at hlen
    have := ((List.take_sublist n init).filter (fun c => !isBlank c)).length_le
    omega

/-- a torn atom line (cut anywhere before the end of its last token) is never accepted -/
theorem lBody_torn_atom (st : LSt) (body init : List Char) (c : Char) (hb : body = init ++ [c])
    (hc : isBlank c = false) (h9 : (split body).length = 9)
    (hid : (split body).head? = (split body).getLast?) (n : Nat) (hn : n < body.length)
    (hline : 9 ≤ st.i % st.block) (tell' : Nat) :
    lBody st ((body ++ ['\n']).take n) (split ((body ++ ['\n']).take n)) tell' = .ret (st.traj, st.pos) := by
  have ht : (body ++ ['\n']).take n = body.take n := List.take_append_of_le_length (by omega)
  have hs := sentinel_detects body init c hb hc (by omega) hid n hn
  rw [h9] at hs
  have hnot : ¬ (5 ≤ st.i % st.block ∧ st.i % st.block ≤ 7) := by omega
  rw [ht]
  unfold lBody
  simp only [hnot, if_false, hline, if_true]
  by_cases hl : (split (body.take n)).length = 9
  · have : (split (body.take n)).head? ≠ (split (body.take n)).getLast? := fun h => hs ⟨hl, h⟩
    simp [this]
  · simp [hl]

theorem split_full_body (body : List Char) : split ((body ++ ['\n']).take body.length) = split (body ++ ['\n']) := by
  rw [List.take_append_of_le_length (Nat.le_refl _), List.take_length, split_append_nl]

end Infretis.Readers
