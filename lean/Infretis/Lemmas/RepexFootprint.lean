import Infretis.Lemmas.RepexLoops
import Infretis.Lemmas.SwapList
/-!
# Which fields of the sampler state an operation may change

`Touches fs s s'`: going from `s` to `s'` changes at most the fields `fs`; `Keeps fs s s'`: the two
states agree on the fields `fs`.  One `op_touches` lemma per operation of the model, proved from the lemma
that takes a successful call apart (from the definition for `restoreStreamOnce`, `initiate` and `loop`, which cannot
fail) and closed under composition.  A relation or invariant
that reads the fields `gs` follows from any footprint disjoint from `gs` (`Agree.keeps`); a single
equality is a projection: `(treatOutput_touches h).toinitiate : s'.toinitiate = s.toinitiate`.
Membership side conditions are default arguments closed by `decide`.  The scheduler's counters `cstep`, `tsteps`,
`workers`, `toinitiate` are one value `ctr s`; only `initiate` and `loop` write them.
-/
namespace Infretis.Repex

inductive Fld
  | n | W | trajs | locks | locked | locked0 | toinitiate | workers | cworker | cstep | tsteps | trajNum
  | frac | wts | rows | occ | ensEng | seed | entropy | spawned | mainDraws | restarted | rgenRestored
  | lockedOrd | locked0Ord
deriving DecidableEq

/-- the two states agree on the field; the equation is written new = old, `s'.f = s.f` -/
def Same : Fld → St → St → Prop
  | .n, s, s' => s'.n = s.n
  | .W, s, s' => s'.W = s.W
  | .trajs, s, s' => s'.trajs = s.trajs
  | .locks, s, s' => s'.locks = s.locks
  | .locked, s, s' => s'.locked = s.locked
  | .locked0, s, s' => s'.locked0 = s.locked0
  | .toinitiate, s, s' => s'.toinitiate = s.toinitiate
  | .workers, s, s' => s'.workers = s.workers
  | .cworker, s, s' => s'.cworker = s.cworker
  | .cstep, s, s' => s'.cstep = s.cstep
  | .tsteps, s, s' => s'.tsteps = s.tsteps
  | .trajNum, s, s' => s'.trajNum = s.trajNum
  | .frac, s, s' => s'.frac = s.frac
  | .wts, s, s' => s'.wts = s.wts
  | .rows, s, s' => s'.rows = s.rows
  | .occ, s, s' => s'.occ = s.occ
  | .ensEng, s, s' => s'.ensEng = s.ensEng
  | .seed, s, s' => s'.seed = s.seed
  | .entropy, s, s' => s'.entropy = s.entropy
  | .spawned, s, s' => s'.spawned = s.spawned
  | .mainDraws, s, s' => s'.mainDraws = s.mainDraws
  | .restarted, s, s' => s'.restarted = s.restarted
  | .rgenRestored, s, s' => s'.rgenRestored = s.rgenRestored
  | .lockedOrd, s, s' => s'.lockedOrd = s.lockedOrd
  | .locked0Ord, s, s' => s'.locked0Ord = s.locked0Ord

theorem Same.refl (f : Fld) (s : St) : Same f s s := by cases f <;> rfl

theorem Same.trans {f : Fld} {a b c : St} (h1 : Same f a b) (h2 : Same f b c) : Same f a c := by
  cases f <;> exact Eq.trans h2 h1

/-- the two states agree on every field that satisfies `P` -/
def Agree (P : Fld → Prop) (s s' : St) : Prop := ∀ f, P f → Same f s s'

/-- at most the fields `fs` differ -/
abbrev Touches (fs : List Fld) : St → St → Prop := Agree (· ∉ fs)

/-- the fields `fs` are the same -/
abbrev Keeps (fs : List Fld) : St → St → Prop := Agree (· ∈ fs)

namespace Agree
variable {P Q : Fld → Prop} {fs gs hs : List Fld} {s s' a b c : St}

theorem refl (P : Fld → Prop) (s : St) : Agree P s s := fun f _ => Same.refl f s

theorem trans (h1 : Agree P a b) (h2 : Agree P b c) : Agree P a c := fun f hf => (h1 f hf).trans (h2 f hf)

theorem mono (h : Agree P s s') (hPQ : ∀ f, Q f → P f) : Agree Q s s' := fun f hf => h f (hPQ f hf)

theorem wider (h : Touches fs s s') (hsub : ∀ f ∈ fs, f ∈ gs := by decide) : Touches gs s s' :=
  h.mono fun f hf hm => hf (hsub f hm)

theorem comp (h1 : Touches fs a b) (h2 : Touches gs b c) (hf : ∀ f ∈ fs, f ∈ hs := by decide)
    (hg : ∀ f ∈ gs, f ∈ hs := by decide) : Touches hs a c :=
  (h1.wider hf).trans (h2.wider hg)

theorem keeps (h : Touches fs s s') (hd : ∀ f ∈ gs, f ∉ fs := by decide) : Keeps gs s s' := h.mono hd

theorem n (h : Agree P s s') (hf : P .n := by decide) : s'.n = s.n := h _ hf
theorem W (h : Agree P s s') (hf : P .W := by decide) : s'.W = s.W := h _ hf
theorem trajs (h : Agree P s s') (hf : P .trajs := by decide) : s'.trajs = s.trajs := h _ hf
theorem locks (h : Agree P s s') (hf : P .locks := by decide) : s'.locks = s.locks := h _ hf
theorem locked (h : Agree P s s') (hf : P .locked := by decide) : s'.locked = s.locked := h _ hf
theorem locked0 (h : Agree P s s') (hf : P .locked0 := by decide) : s'.locked0 = s.locked0 := h _ hf
theorem toinitiate (h : Agree P s s') (hf : P .toinitiate := by decide) : s'.toinitiate = s.toinitiate := h _ hf
theorem workers (h : Agree P s s') (hf : P .workers := by decide) : s'.workers = s.workers := h _ hf
theorem cworker (h : Agree P s s') (hf : P .cworker := by decide) : s'.cworker = s.cworker := h _ hf
theorem cstep (h : Agree P s s') (hf : P .cstep := by decide) : s'.cstep = s.cstep := h _ hf
theorem tsteps (h : Agree P s s') (hf : P .tsteps := by decide) : s'.tsteps = s.tsteps := h _ hf
theorem trajNum (h : Agree P s s') (hf : P .trajNum := by decide) : s'.trajNum = s.trajNum := h _ hf
theorem frac (h : Agree P s s') (hf : P .frac := by decide) : s'.frac = s.frac := h _ hf
theorem wts (h : Agree P s s') (hf : P .wts := by decide) : s'.wts = s.wts := h _ hf
theorem rows (h : Agree P s s') (hf : P .rows := by decide) : s'.rows = s.rows := h _ hf
theorem occ (h : Agree P s s') (hf : P .occ := by decide) : s'.occ = s.occ := h _ hf
theorem ensEng (h : Agree P s s') (hf : P .ensEng := by decide) : s'.ensEng = s.ensEng := h _ hf
theorem seed (h : Agree P s s') (hf : P .seed := by decide) : s'.seed = s.seed := h _ hf
theorem entropy (h : Agree P s s') (hf : P .entropy := by decide) : s'.entropy = s.entropy := h _ hf
theorem spawned (h : Agree P s s') (hf : P .spawned := by decide) : s'.spawned = s.spawned := h _ hf
theorem mainDraws (h : Agree P s s') (hf : P .mainDraws := by decide) : s'.mainDraws = s.mainDraws := h _ hf
theorem restarted (h : Agree P s s') (hf : P .restarted := by decide) : s'.restarted = s.restarted := h _ hf
theorem rgenRestored (h : Agree P s s') (hf : P .rgenRestored := by decide) :
    s'.rgenRestored = s.rgenRestored := h _ hf
theorem lockedOrd (h : Agree P s s') (hf : P .lockedOrd := by decide) : s'.lockedOrd = s.lockedOrd := h _ hf
theorem locked0Ord (h : Agree P s s') (hf : P .locked0Ord := by decide) : s'.locked0Ord = s.locked0Ord :=
  h _ hf

end Agree

/-! ### the footprints

A successful call is a record update of its argument or a composition of calls.  For an
update `s' = { s with … }` the proof goes through the fields: one that is not written is the same on
both sides (`rfl`), one that is written is listed, against `hf`. -/

theorem swap_touches (s : St) (a b : Nat) : Touches [.W, .trajs] s (swap s a b) := by
  intro f hf
  cases f <;> first | rfl | exact absurd (by decide) hf

theorem lock_touches {s s' : St} {e : Nat} (h : lock s e = .ok s') : Touches [.locks] s s' := by
  obtain ⟨_, rfl⟩ := lock_ok h
  intro f hf
  cases f <;> first | rfl | exact absurd (by decide) hf

theorem addTraj_touches {s s' : St} {ens : Int} {pn : Nat} {valid : List Rat}
    (h : addTraj s ens pn valid = .ok s') : Touches [.W, .trajs, .locks] s s' := by
  obtain ⟨_, _, rfl⟩ := addTraj_parts h
  intro f hf
  cases f <;> first | rfl | exact absurd (by decide) hf

/-- `swap` then `lock`: the elementary step of `pick` and of the re-issue loop -/
theorem lockStep_touches {s s2 : St} {t e : Nat} (h : lock (swap s t e) e = .ok s2) :
    Touches [.W, .trajs, .locks] s s2 :=
  (swap_touches s t e).comp (lock_touches h)

theorem pickCore_touches {s s' : St} {o : PickOutcome} {pairs : List (Int × Option Nat)} {ds : List Draw}
    (h : pickCore s o = .ok (s', pairs, ds)) : Touches [.W, .trajs, .locks] s s' := by
  obtain ⟨_, s2, hl2, hrest⟩ := pickCore_parts h
  rcases hrest with ⟨_, _, _, s4, hl4, rfl, _⟩ | ⟨_, rfl, _⟩
  · exact (lockStep_touches hl2).trans (lockStep_touches hl4)
  · exact lockStep_touches hl2

theorem pick_touches {s s' : St} {o : PickOutcome} {ps : List Picked} {ds : List Draw}
    (h : pick s o = .ok (s', ps, ds)) :
    Touches [.W, .trajs, .locks, .locked, .lockedOrd, .spawned, .mainDraws] s s' := by
  obtain ⟨s1, pairs, hc, _, rfl⟩ := pick_parts h
  refine (pickCore_touches hc).comp (gs := [.locked, .lockedOrd, .spawned, .mainDraws]) ?_
  intro f hf
  cases f <;> first | rfl | exact absurd (by decide) hf

theorem restoreStreamOnce_touches (s : St) (d : Nat) :
    Touches [.mainDraws, .rgenRestored] s (restoreStreamOnce s d) := by
  unfold restoreStreamOnce
  split
  · intro f hf
    cases f <;> first | rfl | exact absurd (by decide) hf
  · exact Agree.refl _ s

theorem Reissue.touches {l : List (Nat × Nat)} {s s' : St} {ps : List (Int × Option Nat)}
    (h : Reissue s l s' ps) : Touches [.W, .trajs, .locks] s s' :=
  h.steps (Agree.refl _) Agree.trans lockStep_touches

theorem reissueGo_touches (l : List (Nat × Nat)) {s s' : St} {ps : List (Int × Option Nat)}
    (h : reissue.go s l = .ok (s', ps)) : Touches [.W, .trajs, .locks] s s' :=
  (reissueGo_ok_iff.mp h).touches

theorem reissue_touches {s s1 : St} {enss0 trajs0 : List Nat} {pairs : List (Int × Option Nat)}
    (h : reissue s enss0 trajs0 = .ok (s1, pairs)) : Touches [.W, .trajs, .locks] s s1 :=
  reissueGo_touches _ h

theorem pickLock_touches {s s' : St} {o : PickOutcome} {d : Nat} {ps : List Picked} {ds : List Draw}
    (h : pickLock s o d = .ok (s', ps, ds)) :
    Touches [.W, .trajs, .locks, .locked, .lockedOrd, .spawned, .mainDraws, .rgenRestored, .locked0,
      .locked0Ord] s s' := by
  rcases pickLock_parts h with ⟨_, hp⟩ | ⟨enss0, trajs0, rest, s1, pairs, _, hre, _, rfl, _⟩
  · exact (restoreStreamOnce_touches s d).comp (pick_touches hp)
  · have h0 : Touches [.locked0, .locked0Ord] s { s with locked0 := rest, locked0Ord := s.locked0Ord.tail } := by
      intro f hf
      cases f <;> first | rfl | exact absurd (by decide) hf
    have h2 : Touches [.spawned, .locked, .lockedOrd] s1 (reissued s s1 enss0 trajs0) := by
      intro f hf
      cases f <;> first | rfl | exact absurd (by decide) hf
    exact (h0.comp (reissue_touches hre) (hs := [.W, .trajs, .locks, .locked0, .locked0Ord])).comp h2

theorem pickPart_touches {s s' : St} {o : PickOutcome} {d : Nat} {ps : List Picked} {ds : List Draw}
    (h : pickPart s o d = .ok (s', ps, ds)) :
    Touches [.W, .trajs, .locks, .locked, .lockedOrd, .spawned, .mainDraws, .rgenRestored, .locked0,
      .locked0Ord] s s' := by
  unfold pickPart at h
  split at h
  · exact pickLock_touches h
  · exact (pick_touches h).wider

/-- of the records waiting to be re-issued at most the first is consumed -/
theorem pickPart_locked0 {s s' : St} {o : PickOutcome} {d : Nat} {ps : List Picked} {ds : List Draw}
    (h : pickPart s o d = .ok (s', ps, ds)) : s'.locked0 = s.locked0 ∨ ∃ hd, s.locked0 = hd :: s'.locked0 := by
  unfold pickPart at h
  split at h
  · rcases pickLock_parts h with ⟨_, hp⟩ | ⟨enss0, trajs0, rest, s1, pairs, hcons, hre, _, rfl, _⟩
    · exact Or.inl ((pick_touches hp).locked0.trans (restoreStreamOnce_touches s d).locked0)
    · exact Or.inr ⟨_, hcons.trans (congrArg _ (reissue_touches hre).locked0.symm)⟩
  · exact Or.inl (pick_touches h).locked0

theorem prepTail_touches {s1 s' : St} {ps : List Picked} {ds : List Draw} {pin? : Option Nat} {r : Job × List Draw}
    (h : prepTail s1 ps ds pin? = .ok (s', r)) : Touches [.occ] s1 s' := by
  obtain ⟨_, _, _, _, _, _, rfl, _⟩ := prepTail_parts h
  intro f hf
  cases f <;> first | rfl | exact absurd (by decide) hf

theorem prep_touches {s s' : St} {prev : Option Nat} {o : PickOutcome} {d : Nat} {job : Job} {ds : List Draw}
    (h : prep s prev o d = .ok (s', job, ds)) :
    Touches [.W, .trajs, .locks, .locked, .lockedOrd, .spawned, .mainDraws, .rgenRestored, .locked0,
      .locked0Ord, .occ] s s' := by
  rw [prep_eq] at h
  obtain ⟨_, hr, h⟩ := bind_ok_iff.mp h
  exact (pickPart_touches hr).comp (prepTail_touches h)

theorem sortStep_touches {s s' : St} (h : sortStep s = .ok (some s')) : Touches [.W, .trajs] s s' := by
  obtain ⟨a, b, rfl, _⟩ := sortStep_parts h
  exact swap_touches s a b

theorem Sorts.touches {s s' : St} {k : Nat} (h : Sorts s s' k) : Touches [.W, .trajs] s s' :=
  h.steps (Agree.refl _) Agree.trans sortStep_touches

theorem sortTrajstate_touches (fuel : Nat) {s s' : St} {k : Nat} (h : sortTrajstate fuel s = .ok (s', k)) :
    Touches [.W, .trajs] s s' :=
  (Sorts.of_ok h).touches

theorem recordFrac_touches {s s' : St} (h : recordFrac s = .ok s') : Touches [.frac] s s' := by
  obtain ⟨_, _, rfl⟩ := recordFrac_ok h
  intro f hf
  cases f <;> first | rfl | exact absurd (by decide) hf

theorem writeRows_touches (l : List Nat) {s s' : St} (h : writeRows s l = .ok s') :
    Touches [.rows, .frac, .wts] s s' := by
  obtain ⟨_, _, _, _, rfl⟩ := writeRows_ok h
  intro f hf
  cases f <;> first | rfl | exact absurd (by decide) hf

/-- the data rows are written for an accepted move only -/
theorem writeRowsIf_touches {c : Prop} [Decidable c] {l : List Nat} {s s' : St}
    (h : (if c then writeRows s l else .ok s) = .ok s') : Touches [.rows, .frac, .wts] s s' := by
  split at h
  · exact writeRows_touches l h
  · cases h
    exact Agree.refl _ s

theorem perEnsPre_touches (status : Status) (s : St) (tn : Nat) (p : Picked) (w : List Rat) :
    Touches [.locked, .lockedOrd, .frac, .wts] s (perEnsPre status s tn p w) := by
  intro f hf
  cases f <;> first | rfl | exact absurd (by decide) hf

theorem PerEns.touches {status : Status} {l : List (Picked × List Rat)} {s s' : St} {tn tn' : Nat} {pns : List Nat}
    (h : PerEns status s tn l s' tn' pns) : Touches [.W, .trajs, .locks, .locked, .lockedOrd, .frac, .wts] s s' :=
  h.steps (Agree.refl _) Agree.trans (fun s tn p w => (perEnsPre_touches status s tn p w).wider)
    (fun h => (addTraj_touches h).wider)

theorem perEns_touches (status : Status) (l : List (Picked × List Rat)) {s s' : St} {tn tn' : Nat} {pns : List Nat}
    (h : treatOutput.perEns status s tn l = .ok (s', tn', pns)) :
    Touches [.W, .trajs, .locks, .locked, .lockedOrd, .frac, .wts] s s' :=
  (perEns_ok_iff.mp h).touches

theorem preSort_touches {s s3 : St} {job : Job} {status : Status} {newW : List (List Rat)} {tn : Nat}
    {pns : List Nat} (hp : preSort s job status newW = .ok (s3, tn, pns)) :
    Touches [.W, .trajs, .locks, .locked, .lockedOrd, .frac, .wts, .rows] s s3 := by
  obtain ⟨s1, s2, _, hper, hrec, hwr⟩ := preSort_ok_iff.mp hp
  exact (hper.touches.comp (recordFrac_touches hrec)
    (hs := [.W, .trajs, .locks, .locked, .lockedOrd, .frac, .wts])).comp (writeRowsIf_touches hwr)

theorem treatOutput_touches {s s' : St} {job : Job} {status : Status} {newW : List (List Rat)} {fuel : Nat}
    {pns : List Nat} {it : Nat} (h : treatOutput s job status newW fuel = .ok (s', pns, it)) :
    Touches [.W, .trajs, .locks, .locked, .lockedOrd, .frac, .wts, .rows, .trajNum, .cworker] s s' := by
  obtain ⟨s3, tn, s4, hpre, hsort, rfl⟩ := treatOutput_ok_iff.mp h
  have h5 : Touches [.trajNum, .cworker] s4 { s4 with trajNum := tn, cworker := job.pin } := by
    intro f hf
    cases f <;> first | rfl | exact absurd (by decide) hf
  exact ((preSort_touches hpre).comp (sortTrajstate_touches fuel hsort)
    (hs := [.W, .trajs, .locks, .locked, .lockedOrd, .frac, .wts, .rows])).comp h5

theorem initiate_touches (s : St) : Touches [.cworker, .toinitiate] s (initiate s).1 := by
  unfold initiate
  split
  · exact Agree.refl _ s
  · intro f hf
    cases f <;> first | rfl | exact absurd (by decide) hf

theorem loop_touches (s : St) : Touches [.cstep] s (loop s).1 := by
  unfold loop
  split
  · exact Agree.refl _ s
  · intro f hf
    cases f <;> first | rfl | exact absurd (by decide) hf

/-! ### picking and sorting only permute the slots

`swap` is the only write to `W` and `trajs` in `pick`, `pick_lock`, `prep_md_items` and `sort_trajstate`. -/

/-- the rows of `W` and the path slots of `s'` are those of `s` in another order -/
def Permutes (s s' : St) : Prop := s'.W.Perm s.W ∧ s'.trajs.Perm s.trajs

theorem Permutes.refl (s : St) : Permutes s s := ⟨.refl _, .refl _⟩

theorem Permutes.trans {a b c : St} (h1 : Permutes a b) (h2 : Permutes b c) : Permutes a c :=
  ⟨h2.1.trans h1.1, h2.2.trans h1.2⟩

theorem Agree.permutes {fs : List Fld} {s s' : St} (h : Touches fs s s')
    (hd : ∀ f ∈ [Fld.W, .trajs], f ∉ fs := by decide) : Permutes s s' :=
  ⟨(h.keeps hd).W ▸ .refl _, (h.keeps hd).trajs ▸ .refl _⟩

theorem swap_permutes (s : St) (a b : Nat) : Permutes s (swap s a b) := ⟨swapList_perm _ _ _, swapList_perm _ _ _⟩

theorem lockStep_permutes {s s2 : St} {t e : Nat} (h : lock (swap s t e) e = .ok s2) : Permutes s s2 :=
  (swap_permutes s t e).trans (lock_touches h).permutes

theorem pickCore_permutes {s s' : St} {o : PickOutcome} {pairs : List (Int × Option Nat)} {ds : List Draw}
    (h : pickCore s o = .ok (s', pairs, ds)) : Permutes s s' := by
  obtain ⟨_, s2, hl2, hrest⟩ := pickCore_parts h
  rcases hrest with ⟨_, _, _, s4, hl4, rfl, _⟩ | ⟨_, rfl, _⟩
  · exact (lockStep_permutes hl2).trans (lockStep_permutes hl4)
  · exact lockStep_permutes hl2

theorem pick_permutes {s s' : St} {o : PickOutcome} {ps : List Picked} {ds : List Draw}
    (h : pick s o = .ok (s', ps, ds)) : Permutes s s' := by
  obtain ⟨s1, pairs, hc, _, rfl⟩ := pick_parts h
  exact (pickCore_permutes hc : Permutes s s1)

theorem Reissue.permutes {l : List (Nat × Nat)} {s s' : St} {ps : List (Int × Option Nat)}
    (h : Reissue s l s' ps) : Permutes s s' :=
  h.steps .refl .trans lockStep_permutes

theorem reissueGo_permutes (l : List (Nat × Nat)) {s s' : St} {ps : List (Int × Option Nat)}
    (h : reissue.go s l = .ok (s', ps)) : Permutes s s' :=
  (reissueGo_ok_iff.mp h).permutes

theorem pickPart_permutes {s s' : St} {o : PickOutcome} {d : Nat} {ps : List Picked} {ds : List Draw}
    (h : pickPart s o d = .ok (s', ps, ds)) : Permutes s s' := by
  unfold pickPart at h
  split at h
  · rcases pickLock_parts h with ⟨_, hp⟩ | ⟨enss0, trajs0, rest, s1, pairs, _, hre, _, rfl, _⟩
    · exact (restoreStreamOnce_touches s d).permutes.trans (pick_permutes hp)
    · exact (reissueGo_permutes _ hre : Permutes _ s1)
  · exact pick_permutes h

theorem prep_permutes {s s' : St} {prev : Option Nat} {o : PickOutcome} {d : Nat} {job : Job} {ds : List Draw}
    (h : prep s prev o d = .ok (s', job, ds)) : Permutes s s' := by
  rw [prep_eq] at h
  obtain ⟨_, hr, h⟩ := bind_ok_iff.mp h
  exact (pickPart_permutes hr).trans (prepTail_touches h).permutes

theorem Sorts.permutes {s s' : St} {k : Nat} (h : Sorts s s' k) : Permutes s s' :=
  h.steps .refl .trans fun h => by
    obtain ⟨a, b, rfl, _⟩ := sortStep_parts h
    exact swap_permutes _ a b

theorem sortTrajstate_permutes (fuel : Nat) {s s' : St} {k : Nat} (h : sortTrajstate fuel s = .ok (s', k)) :
    Permutes s s' :=
  (Sorts.of_ok h).permutes

structure Ctr where
  cstep : Nat
  tsteps : Nat
  workers : Nat
  toinitiate : Int

def ctr (s : St) : Ctr := ⟨s.cstep, s.tsteps, s.workers, s.toinitiate⟩

theorem Agree.ctr {fs : List Fld} {s s' : St} (h : Touches fs s s')
    (hd : ∀ f ∈ [Fld.cstep, .tsteps, .workers, .toinitiate], f ∉ fs := by decide) : ctr s' = ctr s := by
  have k := h.keeps hd
  unfold Repex.ctr
  rw [k.cstep, k.tsteps, k.workers, k.toinitiate]

end Infretis.Repex
