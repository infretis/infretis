import Infretis.Model.Lattice
import Mathlib.Algebra.Order.Field.Rat
import Mathlib.Tactic.Linarith
import Mathlib.Tactic.Ring
import Mathlib.Tactic.FieldSimp
import Mathlib.Tactic.Positivity
/-!
C01, the walk and the estimator.  First-step equations on a segment (`FirstStep`: source plus the mean over the two
neighbours) have at most one solution for given boundary values; the gambler's-ruin problem is the case source 0, solved
by x ↦ x/N.  A finite-horizon law built from the same first-step recursion stays below the solution and approaches it
like ρ^t against the comparison function x(N−x)+1 (`law_gap`): `reachBy` here, `stepsBy`/`hitStepsBy` (`Props/C01`) are
instances.  The two estimators of the check are one ratio estimator `ratioEst`.
-/
namespace Infretis.Lattice

/-- `u` solves the first-step equations with source `c` inside the segment 0..N: on an inside site it is `c` plus the
    mean of its values on the two neighbours.  `Harmonic` has source 0 (boundary values 0, 1), the exit time source 1,
    the time to the top on the event "top first" source `ruin N` (boundary values 0, 0). -/
def FirstStep (N : Nat) (c u : Nat → Rat) : Prop :=
  ∀ x, 0 < x → x < N → u x = c x + (u (x - 1) + u (x + 1)) / 2

theorem Harmonic.firstStep {N : Nat} {u : Nat → Rat} (h : Harmonic N u) : FirstStep N (fun _ => 0) u :=
  fun x h0 hN => by rw [zero_add]; exact h.2.2 x h0 hN

theorem mean_value_linear (N : Nat) (d : Nat → Rat) (h0 : d 0 = 0) (hm : FirstStep N (fun _ => 0) d) :
    ∀ x, x + 1 ≤ N → d x = (x : Rat) * d 1 ∧ d (x + 1) = ((x : Rat) + 1) * d 1 := by
  intro x
  induction x with
  | zero => intro _; simp [h0]
  | succ x ih =>
    intro hx
    obtain ⟨ihx, ihx1⟩ := ih (by omega)
    have hr := hm (x + 1) (by omega) (by omega)
    rw [Nat.add_sub_cancel, zero_add] at hr
    constructor
    · rw [ihx1]; push_cast; ring
    · have : d (x + 1 + 1) = 2 * d (x + 1) - d x := by linarith
      rw [this, ihx1, ihx]; push_cast; ring

theorem zero_boundary_harmonic (N : Nat) (d : Nat → Rat) (h0 : d 0 = 0) (hN0 : d N = 0)
    (hm : FirstStep N (fun _ => 0) d) (x : Nat) (hx : x ≤ N) : d x = 0 := by
  rcases Nat.eq_zero_or_pos x with rfl | hpos
  · exact h0
  obtain ⟨m, rfl⟩ : ∃ m, N = m + 1 := ⟨N - 1, by omega⟩
  obtain ⟨y, rfl⟩ : ∃ y, x = y + 1 := ⟨x - 1, by omega⟩
  -- the increment is 0 because `d N = 0`
  have hd : d 1 = 0 := by
    have := (mean_value_linear _ d h0 hm m (le_refl _)).2
    rw [hN0] at this
    have hm' : ((m : Rat) + 1) ≠ 0 := by positivity
    exact (mul_eq_zero.1 this.symm).resolve_left hm'
  rw [(mean_value_linear _ d h0 hm y hx).2, hd, mul_zero]

/-- **Uniqueness.**  Two solutions of the first-step equations with the same source that agree on both ends agree on
    the whole segment: their difference has the mean-value property and vanishes on both ends. -/
theorem firstStep_unique (N : Nat) (c u w : Nat → Rat) (hu : FirstStep N c u) (hw : FirstStep N c w)
    (h0 : u 0 = w 0) (hN : u N = w N) (x : Nat) (hx : x ≤ N) : u x = w x :=
  sub_eq_zero.1 (zero_boundary_harmonic N (fun y => u y - w y) (sub_eq_zero.2 h0) (sub_eq_zero.2 hN)
    (fun y hy hyN => by simp only [hu y hy hyN, hw y hy hyN]; ring) x hx)

theorem ruin_harmonic (N : Nat) (hN : 0 < N) : Harmonic N (ruin N) := by
  have hN' : (N : Rat) ≠ 0 := by exact_mod_cast (Nat.pos_iff_ne_zero.mp hN)
  refine ⟨by simp [ruin], by simp [ruin, hN'], ?_⟩
  intro x hx _
  obtain ⟨y, rfl⟩ : ∃ y, x = y + 1 := ⟨x - 1, by omega⟩
  simp only [ruin, Nat.add_sub_cancel]
  push_cast
  field_simp
  ring

theorem reachBy_succ (N t x : Nat) :
    reachBy N (t + 1) x =
      if x = 0 then 0 else if N ≤ x then 1 else (reachBy N t (x - 1) + reachBy N t (x + 1)) / 2 := by
  simp [reachBy]

theorem reachBy_zero (N t : Nat) (hN : 0 < N) : reachBy N t 0 = 0 := by
  cases t with
  | zero => simp [reachBy]; omega
  | succ t => simp [reachBy]

theorem reachBy_top (N t x : Nat) (hN : 0 < N) (hx : N ≤ x) : reachBy N t x = 1 := by
  cases t with
  | zero => simp [reachBy, hx]
  | succ t =>
    have : x ≠ 0 := by omega
    simp [reachBy, hx, this]

theorem reachRow_get (N : Nat) : ∀ t x, x ≤ N → (reachRow N t)[x]? = some (reachBy N t x) := by
  intro t
  induction t with
  | zero =>
    intro x hx
    have : x < N + 1 := by omega
    simp [reachRow, reachBy, this]
  | succ t ih =>
    intro x hx
    have hlt : x < N + 1 := by omega
    simp only [reachRow, List.getElem?_map, List.getElem?_range hlt, Option.map_some, reachBy_succ]
    by_cases hx0 : x = 0
    · simp [hx0]
    · by_cases hxn : N ≤ x
      · simp [hx0, hxn]
      · simp only [hx0, hxn, if_false]
        have h1 := ih (x - 1) (by omega)
        have h2 := ih (x + 1) (by omega)
        simp [List.getD_eq_getElem?_getD, h1, h2]

theorem reachBy_mono (N : Nat) (hN : 0 < N) :
    ∀ t x, reachBy N t x ≤ reachBy N (t + 1) x := by
  intro t
  induction t with
  | zero =>
    intro x
    by_cases hx0 : x = 0
    · subst hx0; rw [reachBy_zero N 0 hN, reachBy_zero N 1 hN]
    · by_cases hxn : N ≤ x
      · rw [reachBy_top N 0 x hN hxn, reachBy_top N 1 x hN hxn]
      · simp only [reachBy, hx0, hxn, if_false]
        have a : (0 : Rat) ≤ (if N ≤ x - 1 then (1 : Rat) else 0) := by split <;> norm_num
        have b : (0 : Rat) ≤ (if N ≤ x + 1 then (1 : Rat) else 0) := by split <;> norm_num
        linarith
  | succ t ih =>
    intro x
    by_cases hx0 : x = 0
    · subst hx0; rw [reachBy_zero N _ hN, reachBy_zero N _ hN]
    · by_cases hxn : N ≤ x
      · rw [reachBy_top N _ x hN hxn, reachBy_top N _ x hN hxn]
      · have h1 := ih (x - 1)
        have h2 := ih (x + 1)
        rw [reachBy_succ N (t + 1) x, reachBy_succ N t x]
        simp only [hx0, hxn, if_false]
        linarith

/-- contraction factor of the comparison function x(N−x)+1 -/
def rho (N : Nat) : Rat := (N : Rat) ^ 2 / ((N : Rat) ^ 2 + 4)

theorem rho_nonneg (N : Nat) : 0 ≤ rho N := by unfold rho; positivity

theorem rho_lt_one (N : Nat) : rho N < 1 := by
  unfold rho
  have : (0 : Rat) < (N : Rat) ^ 2 + 4 := by positivity
  rw [div_lt_one this]; linarith

/-- x(N−x) ≤ ρ·(x(N−x)+1): the comparison function is a super-solution -/
theorem rho_key (N : Nat) (x : Rat) :
    x * ((N : Rat) - x) ≤ rho N * (x * ((N : Rat) - x) + 1) := by
  unfold rho
  have hpos : (0 : Rat) < (N : Rat) ^ 2 + 4 := by positivity
  rw [div_mul_eq_mul_div, le_div_iff₀ hpos]
  nlinarith [sq_nonneg ((N : Rat) - 2 * x)]

/-- **A finite-horizon law against the solution of its first-step equations.**  `f t` stays below `u`, and the gap is
    at most `B t·(x(N−x)+1)` as soon as `ρ·B t + d t ≤ B (t+1)`: inside, the gap is the mean of the
    neighbours' previous gaps plus `c − s t`; the mean of the comparison function x(N−x)+1 over the neighbours is x(N−x),
    and x(N−x) ≤ ρ·(x(N−x)+1) (`rho_key`). -/
theorem law_gap (N : Nat) (c u : Nat → Rat) (f s : Nat → Nat → Rat) (B d : Nat → Rat) (hu : FirstStep N c u)
    (hf : ∀ t x, 0 < x → x < N → f (t + 1) x = s t x + (f t (x - 1) + f t (x + 1)) / 2)
    (hend : ∀ t x, x = 0 ∨ x = N → f (t + 1) x = u x)
    (hs : ∀ t x, 0 < x → x < N → s t x ≤ c x ∧ c x - s t x ≤ d t * ((x : Rat) * ((N : Rat) - (x : Rat)) + 1))
    (h0 : ∀ x, x ≤ N → f 0 x ≤ u x ∧ u x - f 0 x ≤ B 0 * ((x : Rat) * ((N : Rat) - (x : Rat)) + 1))
    (hB0 : ∀ t, 0 ≤ B t) (hB : ∀ t, rho N * B t + d t ≤ B (t + 1)) :
    ∀ t x, x ≤ N → f t x ≤ u x ∧ u x - f t x ≤ B t * ((x : Rat) * ((N : Rat) - (x : Rat)) + 1) := by
  intro t
  induction t with
  | zero => exact h0
  | succ t ih =>
    intro x hx
    have hxN : (x : Rat) ≤ (N : Rat) := by exact_mod_cast hx
    have hv : 0 ≤ (x : Rat) * ((N : Rat) - (x : Rat)) := mul_nonneg (by positivity) (by linarith)
    by_cases hb : x = 0 ∨ x = N
    · rw [hend t x hb, sub_self]
      exact ⟨le_refl _, mul_nonneg (hB0 _) (by linarith)⟩
    · have hx0 : 0 < x := by omega
      obtain ⟨a1, b1⟩ := ih (x - 1) (by omega)
      obtain ⟨a2, b2⟩ := ih (x + 1) (by omega)
      obtain ⟨s1, s2⟩ := hs t x hx0 (by omega)
      rw [Nat.cast_pred hx0] at b1
      push_cast at b2
      rw [hu x hx0 (by omega), hf t x hx0 (by omega)]
      -- the neighbours' bounds average to `B t · x(N−x)`, which `rho_key` turns into `ρ·B t·(x(N−x)+1)`
      have hk := mul_le_mul_of_nonneg_left (rho_key N (x : Rat)) (hB0 t)
      have hb := mul_le_mul_of_nonneg_right (hB t) (by linarith : 0 ≤ (x : Rat) * ((N : Rat) - (x : Rat)) + 1)
      exact ⟨by linarith, by linarith⟩

/-- **Convergence.**  The probability that the walk started on site x is on site N before site 0 within t steps lies
    below x/N, by at most ρ^t·(x(N−x)+1), ρ = N²/(N²+4) < 1. -/
theorem reachBy_gap (N : Nat) (hN : 0 < N) (t x : Nat) (hx : x ≤ N) :
    reachBy N t x ≤ ruin N x ∧ ruin N x - reachBy N t x ≤ rho N ^ t * ((x : Rat) * ((N : Rat) - (x : Rat)) + 1) := by
  have hN' : (0 : Rat) < (N : Rat) := by exact_mod_cast hN
  have hr := ruin_harmonic N hN
  refine law_gap N _ (ruin N) (reachBy N) (fun _ _ => 0) (fun t => rho N ^ t) (fun _ => 0) hr.firstStep
    (fun t x h1 h2 => by rw [reachBy_succ, if_neg (by omega), if_neg (by omega), zero_add]) (fun t x hx => ?_)
    (fun _ _ _ _ => by simp) (fun x hx => ?_) (fun t => pow_nonneg (rho_nonneg N) t)
    (fun t => by rw [pow_succ]; linarith) t x hx
  · rcases hx with rfl | rfl
    · rw [reachBy_zero _ _ hN, hr.1]
    · rw [reachBy_top _ _ _ hN (le_refl _), hr.2.1]
  · have hxN : (x : Rat) ≤ (N : Rat) := by exact_mod_cast hx
    have hv : 0 ≤ (x : Rat) * ((N : Rat) - (x : Rat)) := mul_nonneg (by positivity) (by linarith)
    have hr1 : ruin N x ≤ 1 := by unfold ruin; rw [div_le_one hN']; exact hxN
    rcases Nat.lt_or_ge x N with h | h
    · have : 0 ≤ ruin N x := by unfold ruin; positivity
      simp only [reachBy, if_neg (Nat.not_le.2 h), sub_zero, pow_zero, one_mul]
      exact ⟨this, by linarith⟩
    · obtain rfl : x = N := by omega
      rw [reachBy, if_pos (le_refl _), hr.2.1, sub_self, pow_zero, one_mul]
      exact ⟨le_refl _, by linarith⟩

theorem term_nonneg (k : Nat) (r : Row) : 0 ≤ term k r := by
  unfold term
  split
  · split
    · rename_i f w _ _ h
      exact div_nonneg (le_of_lt h.1) (le_of_lt h.2)
    · exact le_refl _
  · exact le_refl _

theorem sumOver_eq (f : Row → Rat) : ∀ rows, sumOver f rows = (rows.map f).sum
  | [] => rfl
  | r :: t => by rw [sumOver, sumOver_eq f t, List.map_cons, List.sum_cons]

theorem sum_map_mul_left {α : Type} (c : Rat) (f : α → Rat) : ∀ l : List α,
    (l.map fun a => c * f a).sum = c * (l.map f).sum
  | [] => by simp
  | a :: t => by simp only [List.map_cons, List.sum_cons, sum_map_mul_left c f t, mul_add]

theorem sumOver_nonneg (f : Row → Rat) (hf : ∀ r, 0 ≤ f r) (rows : List Row) : 0 ≤ sumOver f rows :=
  sumOver_eq f rows ▸ List.sum_nonneg (List.forall_mem_map.2 fun r _ => hf r)

theorem sumOver_le (f g : Row → Rat) (rows : List Row) (h : ∀ r ∈ rows, f r ≤ g r) :
    sumOver f rows ≤ sumOver g rows := by
  rw [sumOver_eq, sumOver_eq]
  exact List.sum_le_sum h

theorem sumOver_congr (f g : Row → Rat) (rows : List Row) (h : ∀ r ∈ rows, f r = g r) :
    sumOver f rows = sumOver g rows := by
  rw [sumOver_eq, sumOver_eq, List.map_congr_left h]

theorem sumOver_append (f : Row → Rat) (a b : List Row) : sumOver f (a ++ b) = sumOver f a + sumOver f b := by
  simp only [sumOver_eq, List.map_append, List.sum_append]

theorem sumOver_mul_left (c : Rat) (f : Row → Rat) (l : List Row) : sumOver (fun r => c * f r) l = c * sumOver f l := by
  rw [sumOver_eq, sumOver_eq, sum_map_mul_left]

theorem sumOver_map_mul (f g : Row → Rat) (φ : Row → Row) (s : Rat) (h : ∀ r, f (φ r) = s * g r) (rows : List Row) :
    sumOver f (rows.map φ) = s * sumOver g rows := by
  rw [← sumOver_mul_left, sumOver_eq, sumOver_eq, List.map_map]
  exact congrArg _ (List.map_congr_left fun r _ => h r)

theorem scaled_ratio (s : Rat) (hs : s ≠ 0) (A D : Rat) :
    (if s * D = 0 then none else some (s * A / (s * D))) = if D = 0 then none else some (A / D) := by
  by_cases h0 : D = 0
  · simp [h0]
  · rw [if_neg (mul_ne_zero hs h0), if_neg h0, mul_div_mul_left _ _ hs]

theorem scaleAt_get (c : Rat) : ∀ (l : List Rat) (k : Nat), (scaleAt k c l)[k]? = (l[k]?).map (c * ·)
  | [], k => by simp [scaleAt]
  | x :: t, 0 => by simp [scaleAt]
  | x :: t, k + 1 => by simp [scaleAt, scaleAt_get c t k]

theorem term_scaleCol (k : Nat) (c d : Rat) (hc : 0 < c) (hd : 0 < d) (r : Row) :
    term k (r.scaleCol k c d) = d / c * term k r := by
  unfold term Row.scaleCol
  simp only [scaleAt_get]
  cases hf : r.frac[k]? <;> cases hw : r.w[k]? <;> simp only [Option.map_some, Option.map_none, mul_zero]
  rename_i f w
  have e1 : (0 < d * f) ↔ 0 < f := mul_pos_iff_of_pos_left hd
  have e2 : (0 < c * w) ↔ 0 < w := mul_pos_iff_of_pos_left hc
  by_cases h : 0 < f ∧ 0 < w
  · have h' : 0 < d * f ∧ 0 < c * w := ⟨e1.2 h.1, e2.2 h.2⟩
    rw [if_pos h, if_pos h']
    have : c ≠ 0 := ne_of_gt hc
    have : w ≠ 0 := ne_of_gt h.2
    field_simp
  · have h' : ¬ (0 < d * f ∧ 0 < c * w) := by
      intro hh; exact h ⟨e1.1 hh.1, e2.1 hh.2⟩
    rw [if_neg h, if_neg h']; ring

theorem crossed_scaleCol (k : Nat) (c d : Rat) (r : Row) :
    crossed k (r.scaleCol k c d) = crossed k r := rfl

/-- Σ term·f / Σ term over the rows, `none` when no row carries weight: `estimate` with `f` the crossing indicator
    (`estimate_eq`), `meanLenEst` with `f` the length (by definition) -/
def ratioEst (k : Nat) (f : Row → Rat) (rows : List Row) : Option Rat :=
  if den k rows = 0 then none else some (sumOver (fun r => term k r * f r) rows / den k rows)

theorem estimate_eq (k : Nat) (rows : List Row) :
    estimate k rows = ratioEst k (fun r => if crossed k r then 1 else 0) rows := by
  unfold estimate ratioEst num
  rw [sumOver_congr _ (fun r => term k r * (if crossed k r then 1 else 0)) rows (fun r _ => by split <;> simp)]

theorem ratioEst_some {k : Nat} {f : Row → Rat} {rows : List Row} {m : Rat} (h : ratioEst k f rows = some m) :
    m = sumOver (fun r => term k r * f r) rows / den k rows ∧ 0 < den k rows := by
  unfold ratioEst at h
  split at h
  · cases h
  · rename_i hd
    exact ⟨(Option.some.inj h).symm, lt_of_le_of_ne (sumOver_nonneg _ (term_nonneg k) rows) (Ne.symm hd)⟩

theorem ratioEst_bounds {k : Nat} {f : Row → Rat} {rows : List Row} {m : Rat} (a b : Rat)
    (h : ratioEst k f rows = some m) (hab : ∀ r ∈ rows, term k r ≠ 0 → a ≤ f r ∧ f r ≤ b) : a ≤ m ∧ m ≤ b := by
  obtain ⟨rfl, hd⟩ := ratioEst_some h
  -- row by row a·term ≤ term·f ≤ b·term; a row with term = 0 contributes 0 to all three sums
  have hrow : ∀ r ∈ rows, a * term k r ≤ term k r * f r ∧ term k r * f r ≤ b * term k r := by
    intro r hr
    by_cases ht : term k r = 0
    · simp [ht]
    · obtain ⟨h1, h2⟩ := hab r hr ht
      have h0 := term_nonneg k r
      exact ⟨by rw [mul_comm]; exact mul_le_mul_of_nonneg_left h1 h0,
        by rw [mul_comm b]; exact mul_le_mul_of_nonneg_left h2 h0⟩
  constructor
  · rw [le_div_iff₀ hd, den, ← sumOver_mul_left]
    exact sumOver_le _ _ rows fun r hr => (hrow r hr).1
  · rw [div_le_iff₀ hd, den, ← sumOver_mul_left]
    exact sumOver_le _ _ rows fun r hr => (hrow r hr).2

theorem ratioEst_scaleCol (k : Nat) (c d : Rat) (hc : 0 < c) (hd : 0 < d) (f : Row → Rat)
    (hf : ∀ r, f (r.scaleCol k c d) = f r) (rows : List Row) :
    ratioEst k f (rows.map (Row.scaleCol k c d)) = ratioEst k f rows := by
  have hden : den k (rows.map (Row.scaleCol k c d)) = d / c * den k rows :=
    sumOver_map_mul _ _ _ _ (term_scaleCol k c d hc hd) rows
  have hnum : sumOver (fun r => term k r * f r) (rows.map (Row.scaleCol k c d))
      = d / c * sumOver (fun r => term k r * f r) rows :=
    sumOver_map_mul _ _ _ _ (fun r => by rw [term_scaleCol k c d hc hd, hf, mul_assoc]) rows
  unfold ratioEst
  rw [hden, hnum, scaled_ratio _ (ne_of_gt (div_pos hd hc))]

theorem ratioEst_of_stationary (k : Nat) (f : Row → Rat) (rows : List Row) (c : Rat) (ρ : Row → Rat) (hc : 0 < c)
    (hterm : ∀ r ∈ rows, term k r = c * ρ r) (hden : sumOver ρ rows ≠ 0) :
    ratioEst k f rows = some (sumOver (fun r => ρ r * f r) rows / sumOver ρ rows) := by
  have hd : den k rows = c * sumOver ρ rows := by
    rw [den, sumOver_congr (term k) (fun r => c * ρ r) rows hterm, sumOver_mul_left]
  have hn : sumOver (fun r => term k r * f r) rows = c * sumOver (fun r => ρ r * f r) rows := by
    rw [← sumOver_mul_left]
    exact sumOver_congr _ _ rows fun r hr => by rw [hterm r hr, mul_assoc]
  unfold ratioEst
  rw [hd, hn, scaled_ratio _ (ne_of_gt hc), if_neg hden]

/-- (1/a)·min(1, a/b) = (1/b)·min(1, b/a): both are 1/max(a,b) -/
theorem min_factor_symm (a b : Rat) (ha : 0 < a) (hb : 0 < b) :
    1 / a * minR 1 (a / b) = 1 / b * minR 1 (b / a) := by
  have ha' : a ≠ 0 := ne_of_gt ha
  have hb' : b ≠ 0 := ne_of_gt hb
  simp only [minR, le_div_iff₀ hb, le_div_iff₀ ha, one_mul]
  rcases lt_trichotomy a b with h | rfl | h
  · rw [if_neg (not_le.2 h), if_pos h.le]; field_simp
  · rw [if_pos (le_refl _)]
  · rw [if_pos h.le, if_neg (not_le.2 h)]; field_simp

/-- the sum in which `Props/C01` states the ∞-swap step (resampling from the conditional, `swap_step_invariant`) -/
def lsum : List Rat → Rat
  | [] => 0
  | x :: t => x + lsum t

theorem lsum_eq : ∀ l : List Rat, lsum l = l.sum
  | [] => rfl
  | x :: t => by rw [lsum, lsum_eq t, List.sum_cons]

end Infretis.Lattice
