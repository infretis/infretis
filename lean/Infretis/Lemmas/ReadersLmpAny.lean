import Infretis.Lemmas.ReadersLmpRun
import Infretis.Lemmas.ReadersSpecS
/-!
# Lemmas for C13: `lammpstrj_reader` poll by poll for EVERY cut, any white space behind the trailing ids
(no cut guard: the per-frame-slack specification `lmpStagesS`)
-/
namespace Infretis.Readers

variable {v : Variant}

/-- the frames as the specification sees them: encoded length and slack -/
def frOf (frames : List LmpF) : List (Nat × Nat) := frames.map (fun f => (f.len, f.slack))

theorem frOf_fst (frames : List LmpF) : (frOf frames).map Prod.fst = frames.map LmpF.len := by
  simp [frOf, List.map_map, Function.comp_def]

theorem endOf_frOf (frames : List LmpF) (d : Nat) :
    endOf (frOf frames) d = sumLens ((frames.map LmpF.len).take d) := by
  simp only [endOf, ← List.map_take]
  rw [show (frOf frames).take d = frOf (frames.take d) by simp [frOf, List.map_take], frOf_fst]

theorem endOf_frOf_enc (frames : List LmpF) (d : Nat) :
    endOf (frOf frames) d = (((frames.take d).map LmpF.enc).flatten).length := by
  rw [endOf_frOf, flatten_lenc_length, List.map_take]

theorem lmpCountS_of_tbFree (fs : List LmpF) (h1 : ∀ f ∈ fs, 1 ≤ f.slack) (n : Nat) (hfree : tbFree fs n) :
    lmpCountS (frOf fs) n
      = ((lmpCount (fs.map LmpF.len) n).1, if (lmpCount (fs.map LmpF.len) n).2 then 1 else 0) := by
  induction fs generalizing n with
  | nil => rfl
  | cons f fs ih =>
    have hs := h1 f (by simp)
    have hfr : frOf (f :: fs) = (f.len, f.slack) :: frOf fs := rfl
    simp only [tbFree] at hfree
    simp only [hfr, List.map_cons, lmpCountS, lmpCount]
    by_cases hle : f.len ≤ n
    · rw [if_pos hle] at hfree
      simp only [hle, if_true, ih (fun g hg => h1 g (by simp [hg])) _ hfree]
    · rw [if_neg hle] at hfree
      by_cases h2 : f.len = n + 1
      · have h3 : f.len ≤ n + f.slack := by omega
        have h4 : f.len - n = 1 := by omega
        rw [if_neg hle, if_pos h3, if_neg hle, if_pos h2, h4]
        rfl
      · have h3 : ¬ f.len ≤ n + f.slack := fun h => h2 (hfree h)
        rw [if_neg hle, if_neg h3, if_neg hle, if_neg h2]
        rfl

theorem lmpCountS_drop_of_tbFree (N : Nat) (hN : 1 ≤ N) (frames : List LmpF) (hwf : ∀ f ∈ frames, f.WF N)
    (c : Nat) (hfree : tbFree frames c) (d : Nat) :
    lmpCountS ((frOf frames).drop d) (c - endOf (frOf frames) d)
      = ((lmpCount (((frOf frames).map Prod.fst).drop d) (c - endOf (frOf frames) d)).1,
         if (lmpCount (((frOf frames).map Prod.fst).drop d) (c - endOf (frOf frames) d)).2 then 1 else 0) := by
  have h := lmpCountS_of_tbFree (frames.drop d)
    (fun f hf => by obtain ⟨_, _, _, _, _, h⟩ := (hwf f (List.mem_of_mem_drop hf)).last_line hN; exact h)
    _ (tbFree_drop N hN frames hwf c hfree d)
  rw [← endOf_frOf] at h
  simpa only [frOf, List.map_drop, List.map_map, Function.comp_def] using h

/-- **one poll, loop level, any cut** (from a frame boundary): the frames accepted are those `lmpCountS` says -/
theorem lmpRun_framesS (N : Nat) (hN : 1 ≤ N) (rest : List LmpF) (hwf : ∀ f ∈ rest, f.WF N) (n : Nat)
    (st : LSt) (hst : LReady N st) :
    finish (fun st => (st.traj, st.pos)) (resRun (lmpStep v) (lines ((rest.map LmpF.enc).flatten.take n)) st)
      = .ok (st.traj ++ (rest.map (LmpF.decode N)).take (lmpCountS (frOf rest) n).1,
             st.pos + endOf (frOf rest) (lmpCountS (frOf rest) n).1 - (lmpCountS (frOf rest) n).2) := by
  induction rest generalizing n st with
  | nil => simp [lines, resRun, finish, lmpCountS, frOf, endOf, sumLens]
  | cons f rest ih =>
    have hf := hwf f (by simp)
    have hrest : ∀ g ∈ rest, g.WF N := fun g hg => hwf g (by simp [hg])
    have hfr : frOf (f :: rest) = (f.len, f.slack) :: frOf rest := rfl
    simp only [List.map_cons, List.flatten_cons]
    by_cases hle : f.enc.length ≤ n
    · obtain ⟨S, hS, hSr, hSt, hSp⟩ := lmpRun_frame (v := v) N hN f hf st hst
      have hcc : lmpCountS ((f.len, f.slack) :: frOf rest) n
          = ((lmpCountS (frOf rest) (n - f.len)).1 + 1, (lmpCountS (frOf rest) (n - f.len)).2) := by
        simp [lmpCountS, LmpF.len, hle]
      rw [List.take_append, List.take_of_length_le hle, show f.enc = f.lines.flatten from rfl,
        lines_flatten_append f.lines hf.allLines, resRun_append, hS]
      simp only []
      rw [ih hrest _ _ hSr, hSt, hSp, hfr, hcc]
      simp only [List.take_succ_cons, endOf_cons_succ, List.append_assoc, List.cons_append, List.nil_append,
        LmpF.len, LmpF.enc, Nat.add_assoc]
    · have hlt : n < f.enc.length := by omega
      rw [List.take_append_of_le_length (by omega), lmpRun_frame_torn N hN f hf st hst n hlt, hfr]
      by_cases hacc : f.enc.length ≤ n + f.slack
      · have hcc : lmpCountS ((f.len, f.slack) :: frOf rest) n = (1, f.len - n) := by
          simp [lmpCountS, LmpF.len, hle, hacc]
        rw [hcc, if_pos hacc]
        simp only [List.take_succ_cons, List.take_zero, endOf_cons_succ, endOf_zero, LmpF.len, hst.pos]
        congr 2
        omega
      · have hcc : lmpCountS ((f.len, f.slack) :: frOf rest) n = (0, 0) := by
          simp [lmpCountS, LmpF.len, hle, hacc]
        rw [hcc, if_neg hacc]
        simp [endOf_zero]

theorem lmpReader_pollS (N : Nat) (hN : 1 ≤ N) (frames : List LmpF) (hwf : ∀ f ∈ frames, f.WF N) (done c : Nat) :
    lmpReader v (((frames.map LmpF.enc).flatten).take c) (endOf (frOf frames) done)
      = .ok (((frames.map (LmpF.decode N)).drop done).take
               (lmpCountS ((frOf frames).drop done) (c - endOf (frOf frames) done)).1,
             endOf (frOf frames) (done + (lmpCountS ((frOf frames).drop done) (c - endOf (frOf frames) done)).1)
               - (lmpCountS ((frOf frames).drop done) (c - endOf (frOf frames) done)).2) := by
  have hsplit : (frames.map LmpF.enc).flatten
      = ((frames.take done).map LmpF.enc).flatten ++ ((frames.drop done).map LmpF.enc).flatten := by
    rw [← List.flatten_append, ← List.map_append, List.take_append_drop]
  have hfd : frOf (frames.drop done) = (frOf frames).drop done := by simp [frOf, List.map_drop]
  have := lmpRun_framesS (v := v) N hN (frames.drop done) (fun f hf => hwf f (List.mem_of_mem_drop hf))
    (c - endOf (frOf frames) done) (lInit (endOf (frOf frames) done)) (lInit_ready N _)
  unfold lmpReader
  rw [lmpRun_eq_resRun, List.drop_take, hsplit, endOf_frOf_enc, List.drop_left, ← endOf_frOf_enc, this, hfd, endOf_add]
  simp [lInit, List.map_drop]

theorem LmpF.WF.tail {N : Nat} {f : LmpF} (hf : f.WF N) (hN : 1 ≤ N) (m : Nat) (hm1 : 1 ≤ m) (hm : m ≤ f.slack) :
    ∃ A ws, f.enc = A ++ (ws ++ ['\n']) ∧ ws.length + 1 = m ∧ ∀ x ∈ ws, isBlank x = true ∧ x ≠ '\n' := by
  obtain ⟨last, hlast, hlastA, hslk, _, _⟩ := hf.last_line hN
  obtain ⟨ys, hys⟩ := List.getLast?_eq_some_iff.mp hlast
  obtain ⟨init, c, tb, hb, _, hc, htb⟩ := (hf.atoms last (List.mem_of_getElem? hlastA)).body
  rw [hslk, hb, trailLen_body init tb c hc htb] at hm
  refine ⟨ys.flatten ++ (init ++ [c]) ++ tb.take (tb.length + 1 - m), tb.drop (tb.length + 1 - m), ?_, ?_,
    fun x hx => htb x (List.mem_of_mem_drop hx)⟩
  · simp only [LmpF.enc, hys, List.flatten_append, List.flatten_cons, List.flatten_nil, List.append_nil, hb,
      List.append_assoc]
    rw [← List.append_assoc (tb.take _), List.take_append_drop]
  · rw [List.length_drop]; omega

/-- **one poll in the late state, any slack** (code as it is now): the reader stands `m` bytes (`1 ≤ m ≤ slack`)
    in front of the end of frame `j`, which it has already returned; nothing is returned; the late line end is
    skipped as soon as the frame's newline is visible -/
theorem lmpReader_poll_lateS (N : Nat) (hN : 1 ≤ N) (frames : List LmpF) (j : Nat) (f : LmpF)
    (hfj : frames[j]? = some f) (hf : f.WF N) (m : Nat) (hm1 : 1 ≤ m) (hm : m ≤ f.slack) (c : Nat) :
    lmpReader .repaired (((frames.map LmpF.enc).flatten).take c) (endOf (frOf frames) (j + 1) - m)
      = .ok ([], if c < endOf (frOf frames) (j + 1) then endOf (frOf frames) (j + 1) - m
                 else endOf (frOf frames) (j + 1)) := by
  obtain ⟨A, ws, hdec, hwl, hws⟩ := hf.tail hN m hm1 hm
  obtain ⟨hj, rfl⟩ := List.getElem?_eq_some_iff.mp hfj
  have hcontent : (frames.map LmpF.enc).flatten
      = (((frames.take j).map LmpF.enc).flatten ++ A)
          ++ (ws ++ '\n' :: ((frames.drop (j + 1)).map LmpF.enc).flatten) := by
    conv => lhs; rw [← List.take_append_drop j frames, List.drop_eq_getElem_cons hj]
    simp only [List.map_append, List.map_cons, List.flatten_append, List.flatten_cons, hdec, List.append_assoc,
      List.cons_append, List.nil_append]
  have hE : endOf (frOf frames) (j + 1) = (((frames.take j).map LmpF.enc).flatten ++ A).length + m := by
    rw [endOf_frOf_enc, List.take_succ_eq_append_getElem hj]
    simp only [List.map_append, List.map_cons, List.map_nil, List.flatten_append, List.flatten_cons,
      List.flatten_nil, List.append_nil, hdec, List.length_append, List.length_cons, List.length_nil]
    omega
  have := lmpReader_late_line_end (((frames.take j).map LmpF.enc).flatten ++ A) ws
    (((frames.drop (j + 1)).map LmpF.enc).flatten) hws c
  rw [← hcontent] at this
  rw [hE, Nat.add_sub_cancel, this]
  by_cases hc : c < (((frames.take j).map LmpF.enc).flatten ++ A).length + m
  · rw [if_pos hc, if_neg (by omega)]
  · rw [if_neg hc, if_pos (by omega)]
    congr 2
    omega

end Infretis.Readers
