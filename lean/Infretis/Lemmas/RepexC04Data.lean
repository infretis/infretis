import Infretis.Lemmas.RepexC04Rec
import Infretis.Lemmas.InsSort
import Infretis.Model.DataFile
import Infretis.Lemmas.ListAux
/-!
# C04 — the written row, the cleaned data file, the `[current.frac]` section: basic facts

`fmtCols` (`write_to_pathens`), `cleanLines` (`clean_data_file`), `fracSection` / `persistD` (`write_toml`).
-/
namespace Infretis.Repex.Data
open Infretis.Repex.Frac

theorem readCell_cellOf_self (f : Rat) : readCell (cellOf f f) = f := by
  unfold cellOf
  split
  · rename_i h; rw [h]; rfl
  · rfl

theorem cellOf_dash_iff (f x : Rat) : cellOf f x = .dash ↔ f = 0 := by
  unfold cellOf
  split <;> simp_all

theorem cellOf_eq (f x : Rat) : cellOf f x = if f = 0 then .dash else .num x := rfl

/-- which ensemble columns a row shows at all: a minus path (one weight) column 0, a plus path the columns `≥ 1` -/
def shown (w : List Rat) (c : Nat) : Bool := if w.length = 1 then c == 0 else decide (1 ≤ c)

/-- the weight vector as `add_traj` pads it (`valid`): `[w, 0, …, 0]` for the minus path, `[0, w₀, w₁, …]` else -/
def padW (size : Nat) (w : List Rat) : List Rat :=
  if w.length = 1 then w ++ List.replicate (size - 1) 0 else 0 :: w

theorem getD_map_readCell (l : List Cell) (c : Nat) :
    (l.map readCell).getD c 0 = readCell (l.getD c .dash) := by
  rw [List.getD_eq_getElem?_getD, List.getD_eq_getElem?_getD, List.getElem?_map]
  cases l[c]? <;> rfl

theorem fmtCols_ok_of_ne_nil (size : Nat) (f w : List Rat) (hf : f ≠ []) :
    ∃ fc wc, fmtCols size f w = .ok (fc, wc) := by
  unfold fmtCols
  split
  · rename_i hw
    cases f with
    | nil => exact absurd rfl hf
    | cons f0 ft =>
      cases w with
      | nil => simp at hw
      | cons w0 wt => exact ⟨_, _, rfl⟩
  · exact ⟨_, _, rfl⟩

/-- the two branches of `fmtCols`: the minus path (one weight) shows column 0 only, every other path pairs
    `weights[:-1]` with `frac[1:-1]` behind a masked column 0 -/
theorem fmtCols_cases {size : Nat} {f w : List Rat} {fc wc : List Cell} (h : fmtCols size f w = .ok (fc, wc)) :
    (w.length = 1 ∧ ∃ f0 w0, f[0]? = some f0 ∧ w[0]? = some w0 ∧
        fc = cellOf f0 f0 :: List.replicate (size - 2) .dash ∧
        wc = cellOf f0 w0 :: List.replicate (size - 2) .dash) ∨
    (w.length ≠ 1 ∧
        fc = .dash :: (List.zip w.dropLast (f.drop 1).dropLast).map (fun wf => cellOf wf.2 wf.2) ∧
        wc = .dash :: (List.zip w.dropLast (f.drop 1).dropLast).map (fun wf => cellOf wf.2 wf.1)) := by
  unfold fmtCols at h
  split at h
  · rename_i hw
    split at h
    · rename_i f0 w0 hf0 hw0
      simp only [Except.ok.injEq, Prod.mk.injEq] at h
      exact .inl ⟨hw, f0, w0, hf0, hw0, h.1.symm, h.2.symm⟩
    · exact absurd h (by simp)
  · rename_i hw
    simp only [Except.ok.injEq, Prod.mk.injEq] at h
    exact .inr ⟨hw, h.1.symm, h.2.symm⟩

theorem splitCols_append (fc wc : List Cell) (h : fc.length = wc.length) : splitCols (fc ++ wc) = (fc, wc) := by
  unfold splitCols
  have : (fc ++ wc).length / 2 = fc.length := by
    rw [List.length_append, ← h]; omega
  rw [this]
  simp

/-- a row's shape as the sampler produces it: `n` fractions, and either one weight (minus path) or `n − 1`
    weights (plus path) -/
structure Shape (size : Nat) (f w : List Rat) : Prop where
  n2 : 2 ≤ size
  flen : f.length = size
  wlen : w.length = 1 ∨ w.length = size - 1

theorem fmtCols_read (size : Nat) (f w : List Rat) (fc wc : List Cell) (sh : Shape size f w)
    (h : fmtCols size f w = .ok (fc, wc)) :
    fc.length = size - 1 ∧ wc.length = size - 1 ∧
    ∀ c, c < size - 1 →
      fc.getD c .dash = (if shown w c = true ∧ f.getD c 0 ≠ 0 then .num (f.getD c 0) else .dash) ∧
      wc.getD c .dash = (if shown w c = true ∧ f.getD c 0 ≠ 0 then .num ((padW size w).getD c 0) else .dash) := by
  have hn := sh.n2
  have hfl := sh.flen
  rcases fmtCols_cases h with ⟨hw, f0, w0, hf0, hw0, rfl, rfl⟩ | ⟨hw, rfl, rfl⟩
  · have hlen : (size - 2) + 1 = size - 1 := by omega
    refine ⟨by rw [List.length_cons, List.length_replicate, hlen],
      by rw [List.length_cons, List.length_replicate, hlen], fun c _ => ?_⟩
    cases c with
    | zero =>
      have hf0' : f.getD 0 0 = f0 := by rw [List.getD_eq_getElem?_getD, hf0]; rfl
      have hw0' : (padW size w).getD 0 0 = w0 := by
        unfold padW
        rw [if_pos hw, List.getD_eq_getElem?_getD, List.getElem?_append_left (by omega), hw0]; rfl
      have hs : shown w 0 = true := by unfold shown; rw [if_pos hw]; rfl
      simp only [List.getD_cons_zero, hs, hf0', hw0', cellOf_eq, true_and, ite_not, and_self]
    | succ c =>
      have hs : shown w (c + 1) = false := by unfold shown; rw [if_pos hw]; rfl
      simp only [List.getD_cons_succ, getD_replicate_self, hs, Bool.false_eq_true, false_and, if_false, and_self]
  · have hwl : w.length = size - 1 := sh.wlen.resolve_left hw
    have hzl : (List.zip w.dropLast (List.drop 1 f).dropLast).length + 1 = size - 1 := by
      rw [List.length_zip, List.length_dropLast, List.length_dropLast, List.length_drop]; omega
    refine ⟨by rw [List.length_cons, List.length_map, hzl], by rw [List.length_cons, List.length_map, hzl],
      fun c hc => ?_⟩
    cases c with
    | zero =>
      have hs : shown w 0 = false := by unfold shown; rw [if_neg hw]; rfl
      simp only [List.getD_cons_zero, hs, Bool.false_eq_true, false_and, if_false, and_self]
    | succ c =>
      -- entry `c` of `zip(weights[:-1], frac[1:-1])` is `(w[c], f[c+1])`
      have hcz : c < (List.zip w.dropLast (List.drop 1 f).dropLast).length := by omega
      have ez : (List.zip w.dropLast (List.drop 1 f).dropLast)[c]? = some (w.getD c 0, f.getD (c + 1) 0) := by
        rw [List.getElem?_eq_getElem hcz, List.getElem_zip, List.getElem_dropLast, List.getElem_dropLast,
          List.getElem_drop, List.getD_eq_getElem?_getD, List.getD_eq_getElem?_getD,
          List.getElem?_eq_getElem (by omega), List.getElem?_eq_getElem (by omega)]
        simp only [Option.getD_some, Nat.add_comm]
      have hp : (padW size w).getD (c + 1) 0 = w.getD c 0 := by
        unfold padW
        rw [if_neg hw, List.getD_cons_succ]
      have hs : shown w (c + 1) = true := by unfold shown; rw [if_neg hw]; exact decide_eq_true (by omega)
      simp only [List.getD_cons_succ, List.getD_eq_getElem?_getD (l := List.map _ _), List.getElem?_map, ez,
        Option.map_some, Option.getD_some, hp, hs, cellOf_eq, true_and, ite_not, and_self]

/-- the support condition of a table entry / a row: no fraction outside the columns the row shows, none in the
    ghost column -/
structure RowSup (size : Nat) (f w : List Rat) : Prop where
  shape : Shape size f w
  off : ∀ c, c < size - 1 → shown w c = false → f.getD c 0 = 0
  ghost : f.getD (size - 1) 0 = 0

theorem fmtCols_readback (size : Nat) (f w : List Rat) (fc wc : List Cell) (rs : RowSup size f w)
    (h : fmtCols size f w = .ok (fc, wc)) (c : Nat) (hc : c < size - 1) :
    (fc.map readCell).getD c 0 = f.getD c 0 := by
  obtain ⟨_, _, hcell⟩ := fmtCols_read size f w fc wc rs.shape h
  rw [getD_map_readCell, (hcell c hc).1]
  by_cases hs : shown w c = true
  · by_cases hz : f.getD c 0 = 0
    · rw [if_neg (fun h => h.2 hz), hz]; rfl
    · rw [if_pos ⟨hs, hz⟩]; rfl
  · rw [if_neg (by simp [hs])]
    have : shown w c = false := by simpa using hs
    rw [rs.off c hc this]; rfl

theorem fmtRow_ok {size : Nat} {r : Nat × List Rat × List Rat} {l : DLine} (h : fmtRow size r = .ok l) :
    ∃ fc wc, fmtCols size r.2.1 r.2.2 = .ok (fc, wc) ∧
      l = { hash := false, term := true, key := some r.1, frac := fc, wts := wc } := by
  unfold fmtRow at h
  split at h
  · exact absurd h (by simp)
  · rename_i fc wc hc
    simp only [Except.ok.injEq] at h
    exact ⟨fc, wc, hc, h.symm⟩

theorem fmtRows_cons {size : Nat} {r : Nat × List Rat × List Rat} {rest : List (Nat × List Rat × List Rat)}
    {ls : List DLine} (h : fmtRows size (r :: rest) = .ok ls) :
    ∃ l ls', fmtRow size r = .ok l ∧ fmtRows size rest = .ok ls' ∧ ls = l :: ls' := by
  unfold fmtRows at h
  split at h
  · exact absurd h (by simp)
  · rename_i l hl
    split at h
    · exact absurd h (by simp)
    · rename_i ls' hls
      simp only [Except.ok.injEq] at h
      exact ⟨l, ls', hl, hls, h.symm⟩

theorem fmtRows_append {size : Nat} : ∀ {a b : List (Nat × List Rat × List Rat)} {la lb : List DLine},
    fmtRows size a = .ok la → fmtRows size b = .ok lb → fmtRows size (a ++ b) = .ok (la ++ lb) := by
  intro a
  induction a with
  | nil =>
    intro b la lb h1 h2
    cases h1
    exact h2
  | cons r rest ih =>
    intro b la lb h1 h2
    obtain ⟨l, la', h3, h4, rfl⟩ := fmtRows_cons h1
    show fmtRows size (r :: (rest ++ b)) = _
    unfold fmtRows
    rw [h3, ih h4 h2]
    rfl

theorem dataRows_cons_row (k : Nat) (fc wc : List Cell) (ls : List DLine) :
    dataRows ({ hash := false, term := true, key := some k, frac := fc, wts := wc } :: ls)
      = (k, fc, wc) :: dataRows ls := rfl

theorem fmtRows_rows {size : Nat} : ∀ (rows : List (Nat × List Rat × List Rat)) (ls : List DLine),
    fmtRows size rows = .ok ls →
    (dataRows ls).map (·.1) = rows.map (·.1) ∧ (∀ l ∈ ls, l.hash = false ∧ l.term = true) ∧
    ls.length = rows.length ∧
    ∀ (i : Nat) (l : DLine), ls[i]? = some l → ∃ (r : Nat × List Rat × List Rat) (fc wc : List Cell),
      rows[i]? = some r ∧ fmtCols size r.2.1 r.2.2 = .ok (fc, wc) ∧
      l = { hash := false, term := true, key := some r.1, frac := fc, wts := wc } := by
  intro rows
  induction rows with
  | nil =>
    intro ls h
    simp only [fmtRows, Except.ok.injEq] at h
    subst h
    simp [dataRows]
  | cons r rest ih =>
    intro ls h
    obtain ⟨l, ls', h1, h2, rfl⟩ := fmtRows_cons h
    obtain ⟨fc, wc, hc, rfl⟩ := fmtRow_ok h1
    obtain ⟨i1, i2, i3, i4⟩ := ih ls' h2
    refine ⟨?_, ?_, by simp [i3], ?_⟩
    · rw [dataRows_cons_row]
      simp [i1]
    · intro l hl
      rcases List.mem_cons.mp hl with rfl | hl
      · exact ⟨rfl, rfl⟩
      · exact i2 l hl
    · intro i l hl
      cases i with
      | zero =>
        simp only [List.getElem?_cons_zero, Option.some.injEq] at hl
        exact ⟨r, fc, wc, by simp, hc, hl.symm⟩
      | succ i =>
        simp only [List.getElem?_cons_succ] at hl ⊢
        exact i4 i l hl

theorem lineTotal_fmtRows {size : Nat} : ∀ (rows : List (Nat × List Rat × List Rat)) (ls : List DLine),
    fmtRows size rows = .ok ls → (∀ r ∈ rows, RowSup size r.2.1 r.2.2) → ∀ c, c < size - 1 →
    lineTotal ls c = rowsTotal rows c := by
  intro rows
  induction rows with
  | nil =>
    intro ls h _ c _
    simp only [fmtRows, Except.ok.injEq] at h
    subst h
    simp [lineTotal, dataRows]
  | cons r rest ih =>
    intro ls h hs c hc
    obtain ⟨l, ls', h1, h2, rfl⟩ := fmtRows_cons h
    obtain ⟨fc, wc, hfc, rfl⟩ := fmtRow_ok h1
    have := ih ls' h2 (fun r' hr' => hs r' (List.mem_cons_of_mem _ hr')) c hc
    have hb := fmtCols_readback size r.2.1 r.2.2 fc wc (hs r List.mem_cons_self) hfc c hc
    unfold lineTotal at this ⊢
    simp only [dataRows, List.filterMap_cons, Bool.not_false, Bool.and_self, if_true, Option.map_some,
      List.map_cons, List.sum_cons] at this ⊢
    rw [this, hb]
    simp [rowsTotal]

theorem dataRows_append (a b : List DLine) : dataRows (a ++ b) = dataRows a ++ dataRows b := by
  simp [dataRows, List.filterMap_append]

theorem lineTotal_append (a b : List DLine) (c : Nat) : lineTotal (a ++ b) c = lineTotal a c + lineTotal b c := by
  simp [lineTotal, dataRows_append]

theorem dataRows_header : dataRows headerLines = [] := by
  simp [dataRows, headerLines]

theorem lineTotal_header (c : Nat) : lineTotal headerLines c = 0 := by
  simp [lineTotal, dataRows_header]

theorem keepLine_iff (active : List Nat) (l : DLine) :
    keepLine active l = true ↔ l.hash = true ∨ (l.term = true ∧ ∀ k, l.key = some k → k ∉ active) := by
  obtain ⟨hash, term, key, fr, ws⟩ := l
  cases hash <;> cases term <;> cases key <;> simp [keepLine]

theorem dataRows_cleanLines (active : List Nat) (lines : List DLine) :
    dataRows (cleanLines active lines) = (dataRows lines).filter (fun r => !active.contains r.1) := by
  unfold dataRows cleanLines
  rw [List.filterMap_filter, List.filter_filterMap]
  apply List.filterMap_congr
  intro l _
  obtain ⟨hash, term, key, fr, ws⟩ := l
  cases hash <;> cases term <;> cases key <;> simp [keepLine, Option.filter]

theorem cleanLines_spec (active : List Nat) (lines : List DLine) (l : DLine) :
    l ∈ cleanLines active lines ↔
      l ∈ lines ∧ (l.hash = true ∨ (l.term = true ∧ ∀ k, l.key = some k → k ∉ active)) := by
  unfold cleanLines
  rw [List.mem_filter, keepLine_iff]

theorem cleanLines_idem (active : List Nat) (lines : List DLine) :
    cleanLines active (cleanLines active lines) = cleanLines active lines := by
  simp [cleanLines, List.filter_filter]

theorem cleanLines_append (active : List Nat) (a b : List DLine) :
    cleanLines active (a ++ b) = cleanLines active a ++ cleanLines active b := by
  simp [cleanLines]

theorem cleanLines_torn (active : List Nat) (k : Option Nat) : cleanLines active [tornLine k] = [] := by
  simp [cleanLines, keepLine, tornLine]

theorem cleanLines_header (active : List Nat) : cleanLines active headerLines = headerLines := by
  simp [cleanLines, keepLine, headerLines]

theorem cleanLines_keep_all (active : List Nat) (ls : List DLine)
    (h : ∀ l ∈ ls, l.hash = true ∨ (l.term = true ∧ ∀ k, l.key = some k → k ∉ active)) :
    cleanLines active ls = ls :=
  List.filter_eq_self.mpr fun l hl => (keepLine_iff active l).mpr (h l hl)

theorem cleanLines_drop_all (active : List Nat) (ls : List DLine)
    (h : ∀ l ∈ ls, l.hash = false ∧ ∃ k, l.key = some k ∧ k ∈ active) :
    cleanLines active ls = [] := by
  refine List.filter_eq_nil_iff.mpr fun l hl => ?_
  obtain ⟨h1, k, h2, h3⟩ := h l hl
  rw [keepLine_iff, h1]
  rintro (h' | ⟨_, h'⟩)
  · exact absurd h' (by simp)
  · exact h' k h2 h3

theorem lookup_insertKey {α : Type} (kv : Nat × α) (l : List (Nat × α)) (k : Nat) :
    (insertKey kv l).lookup k = if k = kv.1 then some kv.2 else l.lookup k := by
  obtain ⟨a, v⟩ := kv
  induction l with
  | nil =>
    simp only [insertKey, List.lookup_cons, List.lookup_nil]
    by_cases h : k = a
    · simp [h]
    · have : (k == a) = false := by simpa using h
      simp [h, this]
  | cons x rest ih =>
    obtain ⟨b, u⟩ := x
    unfold insertKey
    split
    · simp only [List.lookup_cons]
      by_cases h : k = a
      · simp [h]
      · have : (k == a) = false := by simpa using h
        simp [h, this]
    · rename_i hle
      simp only [List.lookup_cons]
      by_cases hx : k = b
      · have hne : k ≠ a := by simp only at hle; omega
        have : (k == b) = true := by simpa using hx
        simp [this, hne]
      · have : (k == b) = false := by simpa using hx
        simp only [this]
        exact ih

theorem lookup_fracSection {α : Type} (l : List (Nat × α)) (k : Nat) :
    (fracSection l).lookup k = l.lookup k := by
  induction l with
  | nil => rfl
  | cons kv rest ih =>
    obtain ⟨a, v⟩ := kv
    show (insertKey (a, v) (fracSection rest)).lookup k = _
    rw [lookup_insertKey, ih]
    simp only [List.lookup_cons]
    by_cases h : k = a
    · simp [h]
    · have : (k == a) = false := by simpa using h
      simp [h, this]

theorem fracSection_is {α : Type} : IsInsSort (Prod.fst : Nat × α → Nat) (· ≤ ·) insertKey fracSection :=
  ⟨fun _ => rfl, fun _ _ _ => rfl, rfl, fun _ _ => rfl⟩

theorem fracSection_perm {α : Type} (l : List (Nat × α)) : (fracSection l).Perm l :=
  fracSection_is.perm l

/-- the keys are written in ascending order (`sorted(traj_data.keys())`) -/
theorem fracSection_sorted {α : Type} (l : List (Nat × α)) :
    ((fracSection l).map Prod.fst).Pairwise (· ≤ ·) :=
  List.pairwise_map.mpr (fracSection_is.pairwise Nat.le_trans (fun h => Nat.le_of_not_le h) l)

theorem restore_persistD (s : St) (n workers tsteps : Nat) (occ : List (List Int)) (ensEng : List (List Nat))
    (weightOf : Nat → List Rat) :
    restore (persistD s) n workers tsteps occ ensEng weightOf = restore (persist s) n workers tsteps occ ensEng weightOf := by
  have hp : (persistD s).active.filterMap (fun o => o.map (fun pn =>
        (pn, weightOf pn, ((persistD s).frac.lookup pn).getD (List.replicate n 0))))
      = (persist s).active.filterMap (fun o => o.map (fun pn =>
        (pn, weightOf pn, ((persist s).frac.lookup pn).getD (List.replicate n 0)))) := by
    show (persist s).active.filterMap _ = _
    apply List.filterMap_congr
    intro o _
    cases o with
    | none => rfl
    | some pn =>
      show some (pn, weightOf pn, ((fracSection s.frac).lookup pn).getD _) = _
      rw [lookup_fracSection]
      rfl
  unfold restore
  simp only []
  rw [hp]
  rfl

theorem liveTotal_persistD (s : St) (c : Nat) : liveTotal (persistD s) c = liveTotal (persist s) c := by
  unfold liveTotal activeKeys persistD
  simp only [lookup_fracSection]
  rfl

theorem liveTotal_eq_colTotal (im : Image) (frac : List (Nat × List Rat))
    (hk : (frac.map Prod.fst).Nodup) (hact : (activeKeys im).Perm (frac.map Prod.fst))
    (hl : ∀ k, im.frac.lookup k = frac.lookup k) (c : Nat) : liveTotal im c = colTotal frac c := by
  unfold liveTotal
  rw [(hact.map _).sum_eq, List.map_map]
  unfold colTotal
  apply congrArg
  apply List.map_congr_left
  intro kv hkv
  simp only [Function.comp_def]
  rw [hl kv.1, Assoc.lookup_of_mem hk hkv]
  rfl

end Infretis.Repex.Data
