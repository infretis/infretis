import Infretis.Lemmas.RepexC05Inv
import Infretis.Lemmas.RepexC03Treat
/-!
# C05 — `add_traj`, the per-ensemble loop of `treat_output`, "record weights" and
`write_to_pathens` preserve the family invariant `Fam`
-/
namespace Infretis.Repex
open Infretis.Perm Infretis.Perm.C05

/-- `padValid` without the state: `ens ≥ 0` gets a leading zero (the `[0-]` column), `[0-]` gets
    `n - 1` trailing zeros -/
def padN (n : Nat) (ens : Int) (valid : List Rat) : List Rat :=
  if ens ≥ 0 then List.replicate off 0 ++ valid else valid ++ List.replicate (n - off) 0

theorem padValid_eq_padN (s : St) (ens : Int) (valid : List Rat) :
    padValid s ens valid = padN s.n ens valid := rfl

/-- an outcome weight vector (un-padded `path.weights`) for ensemble `ens` of an `n`-slot state
    is in C02's family -/
def VecOk (n : Nat) (ens : Int) (w : List Rat) : Prop := RowOk n (ens + 1).toNat (padN n ens w)

theorem getD_set_W (W : Mat) (e i : Nat) (v : Row) (he : e < W.length) :
    (W.set e v).getD i [] = if i = e then v else W.getD i [] := by
  simp only [List.getD_eq_getElem?_getD, List.getElem?_set]
  by_cases h : e = i
  · subst h; simp [he]
  · rw [if_neg h, if_neg (fun h' => h h'.symm)]

theorem addTraj_fam {s s' : St} {H : List (Nat × Nat)} {tn tn0 : Nat} (e pnOld pn : Nat)
    (ens : Int) (valid : List Rat)
    (hc : CoreR s ((e, pnOld) :: H) tn0) (hf : Fam s tn) (ha : addTraj s ens pn valid = .ok s')
    (he : (ens + 1).toNat = e) (hens : -1 ≤ ens)
    (hrow : RowOk s.n e (padValid s ens valid)) (hlook : s.wts.lookup pn = some valid) :
    Fam s' tn := by
  obtain ⟨hl, hv, hs⟩ := addTraj_parts ha
  rw [he] at hl hv hs
  have he' : e < s.n - 1 := (hc.heldOk e pnOld (List.mem_cons_self ..)).1
  have heW : e < s.W.length := by rw [hc.lenW]; omega
  have heT : e < s.trajs.length := by rw [hc.lenT]; omega
  have heL : e < s.locks.length := by rw [hc.lenL]; omega
  subst hs
  have hrows : ∀ i, i < s.n - 1 → RowOk s.n i ((s.W.set e (padValid s ens valid)).getD i []) := by
    intro i hi
    rw [getD_set_W _ _ _ _ heW]
    split
    · rename_i hie; subst hie; exact hrow
    · exact hf.rows i hi
  refine ⟨hrows, ?_, ?_, hf.wkeys, hf.fkeys, hf.rkeys⟩
  · -- the idle block grows by a row and column with a positive diagonal entry
    show 0 < permC (idle (s.W.set e (padValid s ens valid)) (s.locks.set e false))
    have hWL : s.W.length = s.locks.length := by rw [hc.lenW, hc.lenL]
    have hnn : NonNegM (idle (s.W.set e (padValid s ens valid)) (s.locks.set e false)) := by
      apply rows_nonneg s.n
      · show (s.locks.set e false).length = s.n
        rw [List.length_set]; exact hc.lenL
      · show (s.locks.set e false)[s.n - 1]? = some true
        rw [List.getElem?_set_ne (by omega)]; exact hc.ghost
      · exact hrows
    have hlen : (idle (s.W.set e (padValid s ens valid)) (s.locks.set e false)).length
        = nIdle (s.locks.set e false) := idle_length _ _ (by simp [hWL])
    have hr := rank_lt_nIdle_unlock s.locks e hl
    have hge := permC_ge_term _ hnn (rank s.locks e) (rank s.locks e) (by rw [hlen]; exact hr)
      (by rw [hlen]; exact hr)
    have hv0 := entry_nonneg _ hnn (rank s.locks e) (rank s.locks e)
    rw [idle_unlock_entry s.W s.locks e _ hWL hl] at hv0
    rw [idle_unlock_minor s.W s.locks e _ hl, idle_unlock_entry s.W s.locks e _ hWL hl] at hge
    have hvpos : 0 < (padValid s ens valid).getD e 0 := lt_of_le_of_ne hv0 (Ne.symm hv)
    exact lt_of_lt_of_le (mul_pos hvpos hf.perm) hge
  · intro i q hi hq
    change (s.trajs.set e (some pn))[i]? = some (some q) at hq
    show ∃ w, s.wts.lookup q = some w ∧ _ = (s.W.set e (padValid s ens valid)).getD i []
    rw [getD_set_W _ _ _ _ heW]
    by_cases hie : i = e
    · subst hie
      rw [List.getElem?_set_self heT] at hq
      have : q = pn := by simpa using hq.symm
      subst this
      refine ⟨valid, hlook, ?_⟩
      rw [if_pos rfl]
      have : ((i : Int) - 1) = ens := by omega
      rw [this]
      rfl
    · rw [List.getElem?_set_ne (fun h => hie h.symm)] at hq
      rw [if_neg hie]
      exact hf.wts i q hi hq

theorem keys_append_lt {β : Type} (l : List (Nat × β)) (tn : Nat) (v : β)
    (h : ∀ k ∈ l.map Prod.fst, k < tn) : ∀ k ∈ (l ++ [(tn, v)]).map Prod.fst, k < tn + 1 := by
  intro k hk
  simp only [List.map_append, List.map_cons, List.map_nil, List.mem_append, List.mem_singleton] at hk
  rcases hk with hk | rfl
  · exact Nat.lt_succ_of_lt (h k hk)
  · exact Nat.lt_succ_self _

theorem perEns_fam {status : Status} {l : List (Picked × List Rat)} {s s' : St}
    {H : List (Nat × Nat)} {tn tn' : Nat} {pns : List Nat}
    (h : CoreR s (heldPicked (l.map Prod.fst) ++ H) tn) (hf : Fam s tn)
    (hge : ∀ pw ∈ l, -1 ≤ pw.1.ens)
    (hvec : status = .acc → ∀ pw ∈ l, VecOk s.n pw.1.ens pw.2)
    (hp : PerEns status s tn l s' tn' pns) :
    Fam s' tn' ∧ tn ≤ tn' := by
  induction hp with
  | nil => exact ⟨hf, Nat.le_refl _⟩
  | @cons s tn p w rest _ v tn1 s3 _ _ _ hput hadd _ ih =>
    obtain ⟨hlt, htr, _⟩ := h.heldOk (slotOf p) p.pn (List.mem_cons_self ..)
    have hpe : -1 ≤ p.ens := hge (p, w) (List.mem_cons_self ..)
    have hc3 := perEnsStep_coreR h hput hadd
    have hc2 := h.frame (perEnsPre_touches status s tn p w)
    have hf3 : Fam s3 tn1 := by
      cases hput with
      | acc =>
        have hnew : tn ∉ s.wts.map Prod.fst := fun hm => Nat.lt_irrefl _ (hf.wkeys tn hm)
        have hf2 : Fam (perEnsPre .acc s tn p w) (tn + 1) := by
          refine ⟨hf.rows, hf.perm, ?_, keys_append_lt _ _ _ hf.wkeys, keys_append_lt _ _ _ hf.fkeys,
            fun x hx => Nat.lt_succ_of_lt (hf.rkeys x hx)⟩
          intro i q hi hq
          obtain ⟨w', hw1, hw2⟩ := hf.wts i q hi hq
          exact ⟨w', Assoc.lookup_append_left hw1 _, hw2⟩
        exact addTraj_fam (slotOf p) p.pn tn p.ens w hc2 hf2 hadd rfl hpe
          (hvec rfl (p, w) (List.mem_cons_self ..)) (Assoc.lookup_snoc_new hnew _)
      | rej hlook =>
        -- rejected: the old path goes back with its recorded weights
        rw [perEnsPre_rej] at hadd hc2
        obtain ⟨w', hw1, hw2⟩ := hf.wts (slotOf p) p.pn hlt htr
        obtain rfl : w' = v := by rw [hw1] at hlook; simpa using hlook
        have hslot : ((slotOf p : Nat) : Int) - 1 = p.ens := by unfold slotOf; omega
        have hrow : RowOk s.n (slotOf p) (padValid s p.ens w') := by
          rw [hslot] at hw2
          rw [hw2]
          exact hf.rows (slotOf p) hlt
        exact addTraj_fam (slotOf p) p.pn p.pn p.ens w' hc2 (hf.relock rfl rfl rfl rfl rfl rfl hf.perm)
          hadd rfl hpe hrow hlook
    obtain ⟨hf4, hle⟩ := ih hc3 hf3 (fun pw hpw => hge pw (List.mem_cons_of_mem _ hpw))
      (fun ha pw hpw => by rw [(addTraj_touches hadd).n]; exact hvec ha pw (List.mem_cons_of_mem _ hpw))
    exact ⟨hf4, Nat.le_trans (perEns_fresh h hput).2.2 hle⟩

/-- an accepted move hands out the old counter, the next one, …; afterwards no live path carries a
    number of the replaced paths: a live number is new (`≥ tn`) or sits where it sat before, outside
    the job's slots -/
theorem perEns_acc_spec {l : List (Picked × List Rat)} {s s' : St} {tn tn' : Nat} {pns : List Nat}
    (hp : PerEns .acc s tn l s' tn' pns) :
    tn' = tn + l.length ∧ pns = List.range' tn l.length ∧
    ∀ i q, s'.trajs[i]? = some (some q) →
      tn ≤ q ∨ (s.trajs[i]? = some (some q) ∧ i ∉ l.map (fun pw => slotOf pw.1)) := by
  induction hp with
  | nil => exact ⟨rfl, rfl, fun i q hq => Or.inr ⟨hq, by simp⟩⟩
  | @cons s tn p w rest _ _ _ s3 _ _ _ hput hadd _ ih =>
    cases hput
    have htr3 : s3.trajs = s.trajs.set (slotOf p) (some tn) := congrArg St.trajs (addTraj_parts hadd).2.2
    obtain ⟨rfl, rfl, ih3⟩ := ih
    refine ⟨by simp only [List.length_cons]; omega, by simp [List.range'_succ], fun i q hq => ?_⟩
    rcases ih3 i q hq with h1 | ⟨h1, h2⟩
    · exact Or.inl (by omega)
    · rw [htr3, List.getElem?_set] at h1
      by_cases hie : slotOf p = i
      · rw [if_pos hie] at h1
        split at h1
        · have : q = tn := by simpa using h1.symm
          exact Or.inl (by omega)
        · exact absurd h1 (by simp)
      · rw [if_neg hie] at h1
        refine Or.inr ⟨h1, ?_⟩
        simp only [List.map_cons, List.mem_cons, not_or]
        exact ⟨fun h => hie h.symm, h2⟩

theorem perEns_idle {status : Status} {l : List (Picked × List Rat)} {s s' : St} {tn tn' : Nat}
    {pns : List Nat} (hlen : s.W.length = s.locks.length) (hp : PerEns status s tn l s' tn' pns) :
    s'.W.length = s'.locks.length ∧
    ∀ i : Nat, s'.locks[i]? = some false →
      (s.locks[i]? = some false ∧ s'.W[i]? = s.W[i]?) ∨ entryM s'.W i i ≠ 0 := by
  induction hp with
  | nil => exact ⟨hlen, fun i hi => Or.inl ⟨hi, rfl⟩⟩
  | @cons s tn p w rest pn v _ s3 s' _ _ _ hadd _ ih =>
    obtain ⟨hlk, hv, rfl⟩ := addTraj_parts hadd
    have he : slotOf p < s.locks.length := getElem?_lt_of_some hlk
    obtain ⟨g1, g4⟩ := ih (by
      show (s.W.set _ _).length = (s.locks.set _ _).length
      rw [List.length_set, List.length_set]; exact hlen)
    refine ⟨g1, ?_⟩
    intro i hi
    rcases g4 i hi with ⟨h1, h2⟩ | h1
    · change (s.locks.set (slotOf p) false)[i]? = some false at h1
      change s'.W[i]? = (s.W.set (slotOf p) _)[i]? at h2
      by_cases hie : slotOf p = i
      · right
        subst hie
        rw [entryM_congr _ _ _ _ h2]
        unfold entryM
        rw [List.getD_eq_getElem?_getD (l := List.set _ _ _),
          List.getElem?_set_self (by rw [hlen]; exact he)]
        exact hv
      · left
        rw [List.getElem?_set_ne hie] at h1 h2
        exact ⟨h1, h2⟩
    · exact Or.inr h1

theorem recordFrac_fam {s s' : St} {tn : Nat} (hf : Fam s tn) (h : recordFrac s = .ok s') :
    Fam s' tn := by
  have hk := recordFrac_keys h
  obtain ⟨f, _, rfl⟩ := recordFrac_ok h
  exact { hf with fkeys := fun k hk' => hf.fkeys k (hk ▸ hk') }

theorem writeRows_fam {s s' : St} {tn : Nat} (l : List Nat) (hf : Fam s tn)
    (hlt : ∀ pn ∈ l, pn < tn)
    (hdead : ∀ i q, i < s.n - 1 → s.trajs[i]? = some (some q) → q ∉ l)
    (h : writeRows s l = .ok s') : Fam s' tn := by
  obtain ⟨_, news, rfl, _, rfl⟩ := writeRows_ok h
  refine ⟨hf.rows, hf.perm, fun i q hi hq => ?_, fun k hk => hf.wkeys k (Assoc.keys_filter_subset hk),
    fun k hk => hf.fkeys k (Assoc.keys_filter_subset hk), fun x hx => ?_⟩
  · obtain ⟨w, hw1, hw2⟩ := hf.wts i q hi hq
    refine ⟨w, ?_, hw2⟩
    show (s.wts.filter _).lookup q = _
    rw [Assoc.lookup_filter s.wts (fun a => !(news.map (·.1)).contains a),
      if_pos (by simpa using hdead i q hi hq)]
    exact hw1
  · rcases List.mem_append.mp hx with hx | hx
    · exact hf.rkeys x hx
    · exact hlt _ (List.mem_map_of_mem (f := (·.1)) hx)

end Infretis.Repex
