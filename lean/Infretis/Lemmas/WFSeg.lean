import Infretis.Lemmas.WF
/-! The specification walk from position `i` lists exactly the valid sub-paths that end at or after `i`, in path
    order (`segsFrom_spec`; `WalkAt` says what the walk carries: the nearest outside frame and the inside frames since). -/
namespace Infretis.WF

/-- `(a, b, c)`: frames `a` and `b` are outside `[l, r)`, not both `≥ r`, every frame strictly
    between them is inside, and `c = b − a − 1 ≥ 1` is the number of those frames. -/
def ValidSeg (l r : Int) (ops : List Int) (seg : Nat × Nat × Nat) : Prop :=
  seg.1 < seg.2.1 ∧ seg.2.1 < ops.length ∧ seg.2.2 + seg.1 + 1 = seg.2.1 ∧ 1 ≤ seg.2.2 ∧
  (∃ p q, ops[seg.1]? = some p ∧ ops[seg.2.1]? = some q ∧ inside l r p = false ∧ inside l r q = false ∧
      ¬ (p ≥ r ∧ q ≥ r)) ∧
  ∀ m, seg.1 < m → m < seg.2.1 → ∃ x, ops[m]? = some x ∧ inside l r x = true

open Infretis.WFExt

theorem not_inside_of_outside {l r : Int} {ops : List Int} {k : Nat} {x : Int} (hk : ops[k]? = some x)
    (hx : inside l r x = false) : ¬ ∃ y, ops[k]? = some y ∧ inside l r y = true := by
  rintro ⟨y, hy, hin⟩
  cases hk.symm.trans hy
  rw [hx] at hin
  cases hin

theorem ValidSeg.entry_ge {l r : Int} {ops : List Int} {seg : Nat × Nat × Nat} (hv : ValidSeg l r ops seg)
    {k : Nat} {x : Int} (hk : ops[k]? = some x) (hx : inside l r x = false) (hlt : k < seg.2.1) : k ≤ seg.1 :=
  Nat.le_of_not_lt fun hc => not_inside_of_outside hk hx (hv.2.2.2.2.2 k hc hlt)

/-- the walk stands at index `i` of `full`: `pred` is the nearest outside frame before `i` (`none`: there is none)
    and `run` counts the frames since, all inside -/
def WalkAt (l r : Int) (full : List Int) (pred : Option (Nat × Int)) (run i : Nat) : Prop :=
  match pred with
  | some (j, p) => full[j]? = some p ∧ inside l r p = false ∧ j + run + 1 = i ∧
      ∀ m, j < m → m < i → ∃ x, full[m]? = some x ∧ inside l r x = true
  | none => ∀ m, m < i → ∃ x, full[m]? = some x ∧ inside l r x = true

/-- **What the specification walk lists**: from position `i` on, exactly the valid sub-paths whose exit frame is at
    or after `i`, each ending no later than the next one starts. -/
theorem segsFrom_spec (l r : Int) (full : List Int) : ∀ (t : List Int) (pred : Option (Nat × Int)) (run i : Nat),
    (∀ k, t[k]? = full[i + k]?) → WalkAt l r full pred run i →
    (∀ seg, seg ∈ segsFrom l r pred run i t ↔ ValidSeg l r full seg ∧ i ≤ seg.2.1) ∧
    (segsFrom l r pred run i t).Pairwise (fun s u => s.2.1 ≤ u.1) := by
  intro t
  induction t with
  | nil =>
    intro pred run i ht _
    have hlen : full.length ≤ i := by simpa using (ht 0).symm
    exact ⟨fun seg => ⟨nofun, fun ⟨hv, hi⟩ => absurd hv.2.1 (by omega)⟩, .nil⟩
  | cons x t ih =>
    intro pred run i ht hat
    have hx : full[i]? = some x := by simpa using (ht 0).symm
    have ht' : ∀ k, t[k]? = full[i + 1 + k]? := fun k => by
      simpa [Nat.add_assoc, Nat.add_comm 1 k] using ht (k + 1)
    have hsplit : ∀ e : Nat, i ≤ e ↔ e = i ∨ i + 1 ≤ e := fun _ => by omega
    cases hin : inside l r x with
    | true =>
      rw [segsFrom_inside l r pred run i t hin]
      have hat' : WalkAt l r full pred (run + 1) (i + 1) := by
        unfold WalkAt at hat ⊢
        have hi : ∀ m, m < i + 1 → ¬ m < i → ∃ y, full[m]? = some y ∧ inside l r y = true := fun m h1 h2 => by
          obtain rfl : m = i := by omega
          exact ⟨x, hx, hin⟩
        cases pred with
        | none => exact fun m hm => if h : m < i then hat m h else hi m hm h
        | some jp =>
          exact ⟨hat.1, hat.2.1, by omega, fun m h1 h2 => if h : m < i then hat.2.2.2 m h1 h else hi m h2 h⟩
      obtain ⟨hmem, hsort⟩ := ih pred (run + 1) (i + 1) ht' hat'
      refine ⟨fun seg => (hmem seg).trans (and_congr_right fun hv => ?_), hsort⟩
      rw [hsplit]
      refine (or_iff_right fun e => ?_).symm
      -- the exit frame of a valid sub-path is outside, `x` is inside
      obtain ⟨_, q, _, hq, _, hqo, _⟩ := hv.2.2.2.2.1
      exact not_inside_of_outside hq hqo ⟨x, e ▸ hx, hin⟩
    | false =>
      rw [segsFrom_outside l r pred run i t hin]
      obtain ⟨hmem, hsort⟩ := ih (some (i, x)) 0 (i + 1) ht' ⟨hx, hin, by omega, fun m h1 h2 => by omega⟩
      -- the sub-paths listed later start at `i` or later
      have hlater : ∀ s ∈ segsFrom l r (some (i, x)) 0 (i + 1) t, i ≤ s.1 := fun s hs =>
        ((hmem s).1 hs).1.entry_ge hx hin ((hmem s).1 hs).2
      -- the one sub-path that can end at `x`: from `pred`, over the `run` frames since
      have hemit : ∀ seg, seg ∈ emit r pred run i x ↔ ValidSeg l r full seg ∧ seg.2.1 = i := by
        intro seg
        unfold WalkAt at hat
        cases pred with
        | none =>
          refine ⟨nofun, fun ⟨hv, he⟩ => ?_⟩
          obtain ⟨p, _, hp, _, hpo, _⟩ := hv.2.2.2.2.1
          exact (not_inside_of_outside hp hpo (hat seg.1 (he ▸ hv.1))).elim
        | some jp =>
          obtain ⟨j, p⟩ := jp
          obtain ⟨h1, h2, h3, h4⟩ := hat
          simp only [emit]
          constructor
          · intro hs
            split at hs
            · rename_i hc
              obtain rfl : seg = (j, i, run) := by simpa using hs
              exact ⟨⟨by simp only; omega, (List.getElem?_eq_some_iff.1 hx).1, by simp only; omega,
                by simp only; omega, ⟨p, x, h1, hx, h2, hin, hc.2⟩, h4⟩, rfl⟩
            · cases hs
          · rintro ⟨hv, he⟩
            obtain ⟨a, b, c⟩ := seg
            simp only at he
            subst he
            -- its entry frame is the nearest outside frame before `i`
            have haj : a = j := by
              obtain ⟨p', _, hp', _, hpo', _⟩ := hv.2.2.2.2.1
              exact Nat.le_antisymm (Nat.le_of_not_lt fun hc => not_inside_of_outside hp' hpo' (h4 a hc hv.1))
                (hv.entry_ge h1 h2 (by simp only; omega))
            subst haj
            obtain ⟨_, _, hcnt, hc1, ⟨p', q', hp', hq', _, _, hpq⟩, _⟩ := hv
            simp only at hcnt hc1 hp' hq'
            cases h1.symm.trans hp'
            cases hx.symm.trans hq'
            rw [if_pos ⟨by omega, hpq⟩, show c = run by omega]
            exact List.mem_singleton_self _
      refine ⟨fun seg => ?_, List.pairwise_append.2 ⟨?_, hsort, fun s hs u hu => ?_⟩⟩
      · rw [List.mem_append, hemit, hmem]
        exact ⟨fun h => h.elim (fun h => ⟨h.1, by omega⟩) (fun h => ⟨h.1, by omega⟩),
          fun ⟨hv, hi⟩ => ((hsplit _).1 hi).imp (fun e => ⟨hv, e⟩) (fun e => ⟨hv, e⟩)⟩
      · -- at most one sub-path ends at `x`
        cases pred with
        | none => exact .nil
        | some jp =>
          simp only [emit]
          split
          · exact List.pairwise_singleton _ _
          · exact .nil
      · rw [((hemit s).1 hs).2]; exact hlater u hu

theorem mem_specSegs_iff (l r : Int) (ops : List Int) (seg : Nat × Nat × Nat) :
    seg ∈ specSegs l r ops ↔ ValidSeg l r ops seg :=
  ((segsFrom_spec l r ops ops none 0 0 (fun k => by simp) nofun).1 seg).trans (and_iff_left (Nat.zero_le _))

theorem specSegs_valid (l r : Int) (ops : List Int) : ∀ seg ∈ specSegs l r ops, ValidSeg l r ops seg :=
  fun seg => (mem_specSegs_iff l r ops seg).1

theorem specSegs_sorted (l r : Int) (ops : List Int) :
    (specSegs l r ops).Pairwise (fun s u => s.2.1 ≤ u.1) ∧ ∀ s ∈ specSegs l r ops, s.1 < s.2.1 :=
  ⟨(segsFrom_spec l r ops ops none 0 0 (fun k => by simp) nofun).2, fun s hs => (specSegs_valid l r ops s hs).1⟩

theorem specSegs_nodup (l r : Int) (ops : List Int) : (specSegs l r ops).Nodup := by
  obtain ⟨h1, h2⟩ := specSegs_sorted l r ops
  unfold List.Nodup
  refine List.Pairwise.imp_of_mem ?_ h1
  intro s u hs _ hle heq
  subst heq
  have := h2 s hs
  omega

theorem pickGo_mem (xi : Rat) (seg : Nat × Nat × Nat) :
    ∀ (arr : List (Nat × Nat × Nat)) (n cum : Nat), pickGo n xi cum arr = some seg → seg ∈ arr := by
  intro arr
  induction arr with
  | nil => intro n cum hh; simp [pickGo] at hh
  | cons s t ih =>
    intro n cum hh
    simp only [pickGo] at hh
    split at hh
    · simp at hh; simp [hh]
    · exact List.mem_cons_of_mem _ (ih n _ hh)

theorem pick_mem {l r : Int} {ops : List Int} {xi : Rat} {seg : Nat × Nat × Nat} (h : pick l r ops xi = some seg) :
    0 < weight l r ops ∧ seg ∈ (scan l r ops).arr := by
  unfold pick at h
  simp only [] at h
  split at h
  · cases h
  · exact ⟨Nat.pos_of_ne_zero ‹_›, pickGo_mem xi seg _ _ _ h⟩

end Infretis.WF
