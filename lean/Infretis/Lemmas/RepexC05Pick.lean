import Infretis.Lemmas.RepexC05Inv
import Infretis.Lemmas.RepexC03Sys
/-!
# C05 — a job can always be drawn

During the initiation phase an ensemble is idle whenever a worker is started (`start_has_idle_slot`).  Counting: with
`toinitiate ≥ 1` the jobs in flight have pairwise distinct pins below `workers − toinitiate ≤ workers − 1`; at most
one of them holds two ensembles (`[0-]` and `[0+]`); so at most `workers ≤ n − 2` of the `n − 1` real slots are held.
With the invariants and at least one idle slot, the probability matrix has a positive entry, and `pick()` with that
outcome succeeds (`pick_possible`).
-/
namespace Infretis.Repex
open Infretis.Perm Infretis.Perm.C05

/-- at most one job in flight holds two slots (it holds slot `0`) -/
theorem held_length_le : ∀ (l : List Job), (∀ j ∈ l, JobOk j) → ((held l).map Prod.fst).Nodup →
    (held l).length ≤ l.length + 1 ∧ (0 ∉ (held l).map Prod.fst → (held l).length ≤ l.length) := by
  intro l
  induction l with
  | nil => intro _ _; simp [held]
  | cons j l ih =>
    intro hok hnd
    have hcons : held (j :: l) = heldJob j ++ held l := by simp [held, List.flatMap_cons]
    rw [hcons] at hnd ⊢
    rw [List.map_append, List.nodup_append] at hnd
    obtain ⟨_, hnd2, hdis⟩ := hnd
    obtain ⟨ih1, ih2⟩ := ih (fun j' hj' => hok j' (List.mem_cons_of_mem _ hj')) hnd2
    rw [List.length_append, List.length_cons, List.map_append]
    rcases (hok j (List.mem_cons_self ..)).shape with h1 | h2
    · have hlen : (heldJob j).length = 1 := by simp [heldJob, h1]
      refine ⟨by omega, ?_⟩
      intro h0
      have := ih2 (fun hm => h0 (List.mem_append.mpr (Or.inr hm)))
      omega
    · have hfst := heldJob_fst_of_zero_swap j h2
      have hlen : (heldJob j).length = 2 := by
        have := congrArg List.length hfst
        simpa using this
      have h0mem : 0 ∈ (heldJob j).map Prod.fst := by rw [hfst]; simp
      have hnot : 0 ∉ (held l).map Prod.fst := fun hm => hdis 0 h0mem 0 hm rfl
      have := ih2 hnot
      refine ⟨by omega, ?_⟩
      intro h0
      exact absurd (List.mem_append.mpr (Or.inl h0mem)) h0

theorem start_has_idle_slot {y : Sys} (hi : InvR y) (hw : y.s.workers + 2 ≤ y.s.n)
    (hto : 1 ≤ y.s.toinitiate) : ∃ i : Nat, y.s.locks[i]? = some false := by
  have htole := hi.tole
  -- 1. at most `workers - 1` jobs in flight
  have hjobs : y.jobs.length ≤ y.s.workers - 1 := by
    have := hi.pins.length_le_of_subset (l₂ := List.range (y.s.workers - 1)) (by
      intro x hx
      obtain ⟨j, hj, rfl⟩ := List.mem_map.mp hx
      have := hi.pinBound (by omega) j hj
      exact List.mem_range.mpr (by omega))
    simpa using this
  -- 2. at most one more held slot than jobs
  have hheld := (held_length_le y.jobs hi.jobs hi.core.nodup).1
  -- 3. pigeonhole on the `n - 1` real slots
  have hex : ∃ e, e < y.s.n - 1 ∧ e ∉ (held y.jobs).map Prod.fst := by
    apply Classical.byContradiction
    intro hne
    have hall : List.range (y.s.n - 1) ⊆ (held y.jobs).map Prod.fst := by
      intro e he
      apply Classical.byContradiction
      intro hnm
      exact hne ⟨e, List.mem_range.mp he, hnm⟩
    have hle := List.nodup_range.length_le_of_subset hall
    rw [List.length_range, List.length_map] at hle
    omega
  obtain ⟨e, he, hnm⟩ := hex
  refine ⟨e, unlocked_of_not_locked _ e (by rw [hi.core.lenL]; omega) ?_⟩
  intro hl
  exact hnm ((hi.core.busy e he).mp hl)

theorem exists_pos_of_sum_pos (l : List Rat) (h : 0 < l.sum) : ∃ x ∈ l, 0 < x := by
  simpa using List.exists_lt_of_sum_lt (l := l) (f := fun _ => (0 : Rat)) (g := id) (by simpa using h)

theorem nIdle_pos_of_idle (locks : List Bool) (i : Nat) (h : locks[i]? = some false) : 0 < nIdle locks :=
  Nat.lt_of_le_of_lt (Nat.zero_le _) (rank_lt locks i h)

theorem prob_total {s : St} {H : List (Nat × Nat)} {tn tn' : Nat} (hc : CoreR s H tn') (hf : Fam s tn) :
    ((prob s).map List.sum).sum = (nIdle s.locks : Rat) ∧ ∀ i j, 0 ≤ entryM (prob s) i j := by
  have hWL : s.W.length = s.locks.length := by rw [hc.lenW, hc.lenL]
  exact ⟨probMatrix_total s.W s.locks hWL (ne_of_gt hf.perm),
    fun i j => probMatrix_nonneg s.W s.locks hWL (hf.nonneg hc) i j⟩

theorem exists_pos_entry {s : St} {H : List (Nat × Nat)} {tn tn' : Nat} (hc : CoreR s H tn') (hf : Fam s tn)
    (i : Nat) (hi : s.locks[i]? = some false) : ∃ t e, 0 < entryM (prob s) t e := by
  obtain ⟨htot, _⟩ := prob_total hc hf
  have hpos : 0 < ((prob s).map List.sum).sum := by
    rw [htot]
    exact_mod_cast nIdle_pos_of_idle s.locks i hi
  obtain ⟨x, hx, hx0⟩ := exists_pos_of_sum_pos _ hpos
  obtain ⟨row, hrow, rfl⟩ := List.mem_map.mp hx
  obtain ⟨y, hy, hy0⟩ := exists_pos_of_sum_pos _ hx0
  obtain ⟨t, ht, hrt⟩ := List.getElem_of_mem hrow
  obtain ⟨e, he, hye⟩ := List.getElem_of_mem hy
  refine ⟨t, e, ?_⟩
  have h1 : (prob s).getD t [] = row := by
    rw [List.getD_eq_getElem?_getD, List.getElem?_eq_getElem ht, hrt]; rfl
  have h2 : row.getD e 0 = y := by
    rw [List.getD_eq_getElem?_getD, List.getElem?_eq_getElem he, hye]; rfl
  show 0 < ((prob s).getD t []).getD e 0
  rw [h1, h2]; exact hy0

theorem pick_possible {s : St} {H : List (Nat × Nat)} {tn tn' : Nat} (hc : CoreR s H tn') (hf : Fam s tn)
    (i : Nat) (hi : s.locks[i]? = some false) :
    ∃ o, 0 < entryM (prob s) o.t o.e ∧ ∃ r, pick s o = .ok r := by
  obtain ⟨t, e, hpos⟩ := exists_pos_entry hc hf i hi
  obtain ⟨ht, he, hw⟩ := prob_posR hc t e hpos
  have hl : lock (swap s t e) e = .ok { swap s t e with locks := (swap s t e).locks.set e true } := by
    unfold lock
    have : (swap s t e).locks[e]? = some false := he
    rw [this]
  have hTe : ∃ pn, ({ swap s t e with locks := (swap s t e).locks.set e true } : St).trajs.getD e none = some pn := by
    obtain ⟨pn, hpn, _⟩ := hc.live t (hc.unlocked_lt t ht)
    refine ⟨pn, ?_⟩
    show (swapList s.trajs t e).getD e none = some pn
    rw [List.getD_eq_getElem?_getD, swapList_get _ _ _ _ (by rw [hc.lenT]; have := hc.unlocked_lt t ht; omega) (by rw [hc.lenT]; have := hc.unlocked_lt e he; omega), swapIdx_right, hpn]
    rfl
  obtain ⟨pn, hpn⟩ := hTe
  refine ⟨{ t := t, e := e, coin := false }, hpos, ?_⟩
  have hpc : ∃ ds, pickCore s { t := t, e := e, coin := false } =
      .ok ({ swap s t e with locks := (swap s t e).locks.set e true }, [((e : Int) - (off : Int), some pn)], ds) := by
    unfold pickCore
    simp only [hpos, not_true_eq_false, ↓reduceIte, hl, Bool.and_false, Bool.false_eq_true, hpn]
    exact ⟨_, rfl⟩
  obtain ⟨ds, hpc⟩ := hpc
  unfold pick
  rw [hpc]
  simp only [mkPicked, mkPicked.go]
  exact ⟨_, rfl⟩

end Infretis.Repex
