import Infretis.Lemmas.PermQuick
import Infretis.Lemmas.PermBlock
/-!
# The sorted matrix of the family is tiled by staircase blocks (C02)

For any `S` with a non-zero permanent: wherever the rows above `a` vanish from column `a` on and the rows above
`b` from column `b` on, the rows `a … b-1` of the specification of `S` are those of the square block `subBlock S a b 1`
on its columns and zero elsewhere (`specMat_take_tile`).  `SR o S E` is what the branch phase uses of `SortedReach`:
row `i` of the sorted idle block is positive up to column `E i` and zero from there on, `E` is non-decreasing and
`i < E i` (Hall); it cuts where `E j ≤ a` for the rows above `a` (`SR.cut`), and each block it is cut into is a
positive staircase block (`isBlk_sub`).
-/
namespace Infretis.Perm.Blk

theorem getD_take (r : Row) (k c : Nat) (hc : c < k) : (r.take k).getD c 0 = r.getD c 0 := by
  simp [List.getD_eq_getElem?_getD, hc]

theorem pSpec_map_take (k : Nat) (rows : Mat) (hl : rows.length = k) (i j : Nat)
    (hi : i < k) (hj : j < k) :
    pSpec (rows.map (List.take k)) i j = pSpec rows i j := by
  have he : entry (rows.map (List.take k)) i j = entry rows i j := by
    simp only [entry, List.getD_eq_getElem?_getD, List.getElem?_map]
    cases rows[i]? with
    | none => simp
    | some r => simpa [List.getD_eq_getElem?_getD] using getD_take r k j hj
  have hW : permC (rows.map (List.take k)) = permC rows := by
    unfold permC
    rw [List.length_map, hl]
    exact permN_map_congr k _ rows (fun r c hc => getD_take r k c hc)
  have hm : permC (minor (rows.map (List.take k)) i j) = permC (minor rows i j) := by
    unfold permC minor
    rw [List.eraseIdx_map, List.map_map]
    simp only [List.length_map]
    have hlen : (rows.eraseIdx i).length = k - 1 := by
      rw [List.length_eraseIdx, if_pos (by omega)]; omega
    rw [hlen]
    apply permN_congr_cols
    intro r c hc
    simp only [Function.comp, getD_eraseIdx]
    split
    · exact getD_take r k c (by omega)
    · exact getD_take r k (c + 1) (by omega)
  unfold pSpec
  rw [he, hW, hm]

/-- what the block proof uses of `SortedReach`: `E i` = the entry of `nonZeroCounts` for row `i`.  The minus row has
    its one positive entry in column `0 < o`, outside the range of `pos`: hence `pos0`, `E0`. -/
structure SR (o : Nat) (S : Mat) (E : Nat → Nat) : Prop where
  ho : o ≤ 1
  rowlen : ∀ r ∈ S, r.length = S.length
  nonneg : ∀ i c, 0 ≤ entry S i c
  zero_hi : ∀ i c, i < S.length → E i ≤ c → entry S i c = 0
  zero_lo : ∀ i c, i < S.length → o ≤ i → c < o → entry S i c = 0
  pos : ∀ i c, i < S.length → o ≤ i → o ≤ c → c < E i → 0 < entry S i c
  pos0 : o = 1 → 0 < entry S 0 0
  E0 : o = 1 → E 0 = 1
  mono : ∀ i j, i ≤ j → j < S.length → E i ≤ E j
  hall : ∀ i, i < S.length → i + 1 ≤ E i
  le : ∀ i, i < S.length → E i ≤ S.length

/-- the counts of `find_blocks` on the sorted reachable family -/
def Eof (o : Nat) (cnts : List Nat) (i : Nat) : Nat := if i < o then 1 else o + cnts.getD (i - o) 0

theorem entry_of_length_le (S : Mat) (i c : Nat) (h : S.length ≤ i) : entry S i c = 0 := by
  simp [entry, List.getD_eq_getElem?_getD, List.getElem?_eq_none h]

/-- the positive columns of row `i` start at `0` for the minus row (`i < o`), at `o` for a plus row -/
theorem row_shape (o : Nat) (S : Mat) (cnts : List Nat) (hS : SortedReach o S cnts) (i : Nat)
    (hi : i < S.length) :
    (S.getD i []).length = S.length ∧ Eof o cnts i ≤ S.length ∧
    (∀ c, (if i < o then 0 else o) ≤ c → c < Eof o cnts i → 0 < entry S i c) ∧
    (∀ c, c < (if i < o then 0 else o) ∨ Eof o cnts i ≤ c → entry S i c = 0) := by
  have ho := hS.ho
  have hlen := hS.hlen
  unfold Eof entry
  by_cases h : i < o
  · obtain rfl : i = 0 := by omega
    obtain ⟨hl, hw, hz⟩ := hS.minus (by omega)
    simp only [if_pos h]
    refine ⟨hl, by omega, fun c _ hc => ?_, fun c hc => ?_⟩
    · obtain rfl : c = 0 := by omega
      exact hw
    · by_cases hcm : c < S.length
      · exact hz c (by omega) hcm
      · exact List.getD_eq_default _ _ (by omega)
  · have hp := hS.plus (i - o) (by omega)
    rw [show o + (i - o) = i by omega] at hp
    obtain ⟨hl, hle, hz1, hpos, hz2⟩ := hp
    simp only [if_neg h]
    refine ⟨hl, hle, hpos, fun c hc => ?_⟩
    by_cases hcm : c < S.length
    · rcases hc with hc | hc
      · exact hz1 c hc
      · exact hz2 c hc hcm
    · exact List.getD_eq_default _ _ (by omega)

theorem sr_of_sortedReach (o : Nat) (S : Mat) (cnts : List Nat) (hS : SortedReach o S cnts) :
    SR o S (Eof o cnts) := by
  have ho := hS.ho
  have hlen := hS.hlen
  have row := row_shape o S cnts hS
  have hmono : ∀ a b, a ≤ b → b < cnts.length → cnts.getD a 0 ≤ cnts.getD b 0 := by
    intro a b hab hb
    rcases Nat.eq_or_lt_of_le hab with h | h
    · subst h; exact le_refl _
    · have := (List.pairwise_iff_getElem.mp hS.sorted) a b (by omega) hb h
      simpa [List.getD_eq_getElem?_getD, hb, show a < cnts.length by omega] using this
  refine ⟨ho, ?_, ?_, fun i c hi hc => (row i hi).2.2.2 c (Or.inr hc),
    fun i c hi hoi hc => (row i hi).2.2.2 c (Or.inl (by rw [if_neg (by omega)]; exact hc)), ?_, ?_, ?_, ?_, ?_,
    fun i hi => (row i hi).2.1⟩
  · intro r hr
    obtain ⟨i, hi, rfl⟩ := List.getElem_of_mem hr
    have := (row i hi).1
    rwa [List.getD_eq_getElem _ _ hi] at this
  · intro i c
    by_cases hi : i < S.length
    · obtain ⟨_, _, hp, hz⟩ := row i hi
      by_cases hc : (if i < o then 0 else o) ≤ c ∧ c < Eof o cnts i
      · exact le_of_lt (hp c hc.1 hc.2)
      · rw [hz c (by rcases not_and_or.mp hc with h | h <;> omega)]
    · rw [entry_of_length_le S i c (by omega)]
  · intro i c hi hoi hoc hc
    have := (row i hi).2.2.1 c
    rw [if_neg (by omega)] at this
    exact this hoc hc
  · intro h1
    subst h1
    simpa [Eof] using (row 0 (by omega)).2.2.1 0
  · intro h1
    simp [Eof, h1]
  · intro i j hij hj
    unfold Eof
    by_cases h1 : i < o
    · rw [if_pos h1]
      by_cases h2 : j < o
      · rw [if_pos h2]
      · rw [if_neg h2]
        have := hS.hall (j - o) (by omega)
        omega
    · rw [if_neg h1, if_neg (by omega)]
      have := hmono (i - o) (j - o) (by omega) (by omega)
      omega
  · intro i hi
    unfold Eof
    by_cases h1 : i < o
    · rw [if_pos h1]; omega
    · rw [if_neg h1]
      have := hS.hall (i - o) (by omega)
      omega

theorem getD_nonneg_of_entry (S : Mat) (h : ∀ i c, 0 ≤ entry S i c) : ∀ r ∈ S, ∀ c, 0 ≤ r.getD c 0 := by
  intro r hr c
  obtain ⟨i, hi, rfl⟩ := List.getElem_of_mem hr
  have := h i c
  simpa [entry, List.getD_eq_getElem?_getD, hi] using this

section sr
variable {o : Nat} {S : Mat} {E : Nat → Nat} (h : SR o S E)
include h

theorem SR.diag (i : Nat) (hi : i < S.length) : 0 < entry S i i := by
  by_cases hoi : o ≤ i
  · exact h.pos i i hi hoi hoi (h.hall i hi)
  · have := h.ho
    have h0 : i = 0 := by omega
    subst h0
    exact h.pos0 (by omega)

theorem SR.permC_pos : 0 < permC S :=
  Perm.permC_pos S (getD_nonneg_of_entry S h.nonneg) h.diag

theorem SR.cut (k : Nat) (hk : k ≤ S.length) (hE : ∀ j, j < k → E j ≤ k) :
    ∀ t c, t < k → k ≤ c → entry S t c = 0 :=
  fun t c ht hc => h.zero_hi t c (by omega) (le_trans (hE t ht) hc)

end sr

theorem subBlock_one (S : Mat) (a b : Nat) :
    subBlock S a b 1 = ((S.drop a).take (b - a)).map (fun r => (r.drop a).take (b - a)) := by
  unfold subBlock
  apply List.map_congr_left
  intro r _
  rw [if_neg (by decide)]

theorem subBlock_eq_map_take (S : Mat) (a b : Nat) :
    subBlock S a b 1 = ((((S.drop a).map (List.drop a)).take (b - a))).map (List.take (b - a)) := by
  rw [subBlock_one, ← List.map_take, List.map_map]
  rfl

theorem subBlock_length (S : Mat) (a b : Nat) (dir : Int) (hb : b ≤ S.length) :
    (subBlock S a b dir).length = b - a := by
  simp [subBlock]; omega

theorem subBlock_rowlen (S : Mat) (a b : Nat) (hb : b ≤ S.length)
    (hrl : ∀ r ∈ S, r.length = S.length) : ∀ r ∈ subBlock S a b 1, r.length = b - a := by
  intro r hr
  rw [subBlock_one] at hr
  obtain ⟨r0, hr0, rfl⟩ := List.mem_map.mp hr
  have : r0 ∈ S := List.mem_of_mem_drop (List.mem_of_mem_take hr0)
  have := hrl r0 this
  simp; omega

theorem subBlock_entry (S : Mat) (a b i c : Nat) (hi : i < b - a) (hc : c < b - a) :
    entry (subBlock S a b 1) i c = entry S (a + i) (a + c) := by
  rw [subBlock_one]
  simp only [entry, List.getD_eq_getElem?_getD, List.getElem?_map, List.getElem?_take,
    List.getElem?_drop, if_pos hi]
  cases S[a + i]? with
  | none => simp
  | some r => simp [List.getElem?_drop, hc]

theorem map_range_tile (f : Nat → Rat) (a k m : Nat) (h : a + k ≤ m)
    (hz : ∀ n, n < m → ¬(a ≤ n ∧ n < a + k) → f n = 0) :
    (List.range m).map f = List.replicate a 0 ++ (List.range k).map (fun t => f (a + t))
      ++ List.replicate (m - a - k) 0 := by
  obtain ⟨d, rfl⟩ : ∃ d, m = a + k + d := ⟨m - a - k, by omega⟩
  rw [List.range_add, List.range_add, List.map_append, List.map_append, List.map_map, List.map_map]
  congr 1
  · congr 1
    rw [List.eq_replicate_iff]
    refine ⟨by simp, ?_⟩
    intro x hx
    obtain ⟨n, hn, rfl⟩ := List.mem_map.mp hx
    have := List.mem_range.mp hn
    exact hz n (by omega) (by omega)
  · rw [List.eq_replicate_iff]
    refine ⟨by simp; omega, ?_⟩
    intro x hx
    obtain ⟨n, hn, rfl⟩ := List.mem_map.mp hx
    have := List.mem_range.mp hn
    exact hz (a + k + n) (by omega) (by omega)

theorem specMat_take (S : Mat) (b : Nat) (hb : b ≤ S.length) :
    (specMat S).take b
      = (List.range b).map (fun i => (List.range S.length).map (fun j => pSpec S i j)) := by
  unfold specMat
  rw [← List.map_take, List.take_range, Nat.min_eq_left hb]

section tile
variable {S : Mat} (a b : Nat) (hab : a < b) (hb : b ≤ S.length) (hp : permC S ≠ 0)
  (ha : ∀ t c, t < a → a ≤ c → entry S t c = 0) (hbE : ∀ t c, t < b → b ≤ c → entry S t c = 0)
include hab hb ha

theorem top_zero : ∀ r ∈ S.take a, ∀ c, a ≤ c → c < S.length → r.getD c 0 = 0 := by
  intro r hr c hc _
  obtain ⟨t, ht, rfl⟩ := List.getElem_of_mem hr
  have ht' : t < a := by simp at ht; omega
  rw [List.getElem_take, ← entry_eq_getElem S t c (by omega)]
  exact ha t c ht' hc

include hbE

omit ha in
theorem D_top_zero : ∀ r ∈ ((S.drop a).map (List.drop a)).take (b - a), ∀ c, b - a ≤ c →
    c < ((S.drop a).map (List.drop a)).length → r.getD c 0 = 0 := by
  intro r hr c hc _
  obtain ⟨t, ht, rfl⟩ := List.getElem_of_mem hr
  have ht' : t < b - a := by simp at ht; omega
  rw [List.getElem_take, List.getElem_map, List.getElem_drop, getD_drop,
    ← entry_eq_getElem S (a + t) (a + c) (by omega)]
  exact hbE (a + t) (a + c) (by omega) (by omega)

include hp

/-- **the ratios on the rows of the block `(a, b)`**: split `S` at `a`, then the lower right part at `b - a` -/
theorem pSpec_tile (i j : Nat) (hi1 : a ≤ i) (hi2 : i < b) (hj : j < S.length) :
    pSpec S i j = if a ≤ j ∧ j < b then pSpec (subBlock S a b 1) (i - a) (j - a) else 0 := by
  have hDl : ((S.drop a).map (List.drop a)).length = S.length - a := by simp
  obtain ⟨hD, _, hbot, _, hlow⟩ :=
    pSpec_split S a (by omega) (top_zero a b hab hb ha) hp
  obtain ⟨_, htop, _, hup, _⟩ :=
    pSpec_split _ (b - a) (by rw [hDl]; omega) (D_top_zero a b hab hb hbE) hD
  obtain ⟨i', rfl⟩ : ∃ i', i = a + i' := ⟨i - a, by omega⟩
  have hi' : i' < b - a := by omega
  rw [Nat.add_sub_cancel_left]
  by_cases hja : j < a
  · rw [if_neg (by omega)]
    exact hlow i' j (by omega) hja
  · obtain ⟨j', rfl⟩ : ∃ j', j = a + j' := ⟨j - a, by omega⟩
    rw [hbot i' j' (by omega), Nat.add_sub_cancel_left]
    by_cases hjb : a + j' < b
    · rw [if_pos ⟨by omega, hjb⟩, htop i' j' hi' (by omega), subBlock_eq_map_take,
        pSpec_map_take (b - a) _ (by simp; omega) i' j' hi' (by omega)]
    · rw [if_neg (by omega)]
      exact hup i' j' hi' (by omega) (by rw [hDl]; omega)

theorem specMat_row_tile (t : Nat) (ht : t < b - a) :
    (List.range S.length).map (fun j => pSpec S (a + t) j)
      = padRow S.length a 1
          ((List.range (b - a)).map (fun j => pSpec (subBlock S a b 1) t j)) := by
  unfold padRow
  rw [if_neg (by decide), List.length_map, List.length_range]
  rw [map_range_tile (fun j => pSpec S (a + t) j) a (b - a) S.length (by omega)]
  · congr 2
    apply List.map_congr_left
    intro j hj
    have hj' := List.mem_range.mp hj
    rw [pSpec_tile a b hab hb hp ha hbE (a + t) (a + j) (by omega) (by omega) (by omega),
      if_pos ⟨by omega, by omega⟩, Nat.add_sub_cancel_left, Nat.add_sub_cancel_left]
  · intro n hn hnn
    rw [pSpec_tile a b hab hb hp ha hbE (a + t) n (by omega) (by omega) hn, if_neg (by omega)]

theorem specMat_take_tile :
    (specMat S).take b
      = (specMat S).take a ++ (specMat (subBlock S a b 1)).map (padRow S.length a 1) := by
  rw [specMat_take S b hb, specMat_take S a (by omega)]
  obtain ⟨k, rfl⟩ : ∃ k, b = a + k := ⟨b - a, by omega⟩
  rw [List.range_add, List.map_append, List.map_map]
  congr 1
  unfold specMat
  rw [subBlock_length S a (a + k) 1 hb, List.map_map, Nat.add_sub_cancel_left]
  apply List.map_congr_left
  intro t ht
  have := specMat_row_tile a (a + k) hab hb hp ha hbE t (by have := List.mem_range.mp ht; omega)
  rw [Nat.add_sub_cancel_left] at this
  exact this

end tile

/-- `b = 1` is the block `(0, 1)` of the minus row -/
theorem isBlk_sub {o : Nat} {S : Mat} {E : Nat → Nat} (h : SR o S E) (a b : Nat) (hab : a < b)
    (hb : b ≤ S.length) (hoa : o ≤ a ∨ b = 1) :
    IsBlk (subBlock S a b 1) (b - a) (fun i => E (a + i) - a) := by
  refine ⟨subBlock_length S a b 1 hb, subBlock_rowlen S a b hb h.rowlen, ?_, ?_, ?_⟩
  · intro i c hi hc hcg
    rw [subBlock_entry S a b i c hi hc]
    rcases hoa with hoa | hb1
    · exact h.pos (a + i) (a + c) (by omega) (by omega) (by omega) (by omega)
    · have : c = i := by omega
      subst this
      exact h.diag (a + c) (by omega)
  · intro i c hi hc hcg
    rw [subBlock_entry S a b i c hi hc]
    have := h.hall (a + i) (by omega)
    exact h.zero_hi (a + i) (a + c) (by omega) (by omega)
  · intro i hi
    have := h.hall (a + i) (by omega)
    omega

end Infretis.Perm.Blk
