import Infretis.Lemmas.RepexC03RLocked
import Infretis.Lemmas.RepexLoad
/-!
# C03 across restarts — a restart from the image of a reachable state is an `InitR` state

`restore (persist s) …` rebuilds the slots in the same order (`load_paths` puts `active[i]` into
slot `i`), leaves every ensemble slot idle, and takes `locked0` from the recorded `locked`; since
`locked` lists exactly the jobs in flight at the stop (RepexC03RLocked) and each of those held its
path in its slot (`CoreR`), the recorded slots are distinct and each recorded path sits in its
recorded slot; `add_traj` asserts the non-zero own-ensemble weight while loading.
Load success is a hypothesis (C05 `restore_loads` proves it from the weight family).
-/
namespace Infretis.Repex

/-- the slots/paths recorded for a job in the restart file are what the job holds -/
theorem held0_persist (jobs : List Job) :
    held0 ((jobs.map jobRec).map (fun x => (x.1.map (fun e => (e + (off : Int)).toNat), x.2)))
      = held jobs := by
  unfold held0 held
  rw [List.map_map, List.flatMap_map]
  congr 1
  funext j
  simp only [Function.comp_apply, jobRec, List.map_map]
  rw [List.zip_map']
  unfold heldJob
  apply List.map_congr_left
  intro p _
  simp [slotOf, off]

theorem CoreR.allLive {s : St} {H : List (Nat × Nat)} {tn : Nat} (hc : CoreR s H tn) : AllLive s :=
  ⟨hc.n2, hc.lenT, fun e he => (hc.live e he).imp fun _ h => h.1⟩

/-- the restored state has the slot layout of the stopped one: a path in every real slot, numbers below the
    counter, no path twice -/
theorem restoredSt_live {s : St} {H : List (Nat × Nat)} {tn : Nat} (hc : CoreR s H tn) (workers tsteps : Nat)
    (occ : List (List Int)) (ensEng : List (List Nat)) (weightOf : Nat → List Rat) :
    (∀ e, e < s.n - 1 → ∃ pn, (restoredSt s workers tsteps occ ensEng weightOf).trajs[e]? = some (some pn) ∧ pn < tn) ∧
    ∀ a b pn, a < s.n - 1 → b < s.n - 1 →
      (restoredSt s workers tsteps occ ensEng weightOf).trajs[a]? = some (some pn) →
      (restoredSt s workers tsteps occ ensEng weightOf).trajs[b]? = some (some pn) → a = b := by
  have hsame := fun e he => restoredSt_trajs hc.allLive workers tsteps occ ensEng weightOf (e := e) he
  refine ⟨fun e he => ?_, fun a b pn ha hb h1 h2 => ?_⟩
  · rw [hsame e he]
    exact hc.live e he
  · rw [hsame a ha] at h1
    rw [hsame b hb] at h2
    exact hc.inj a b pn ha hb h1 h2

/-- **A restart from the restart file of a state with the slot invariant is an `InitR` state.**
    `s` with C03's slot invariant for the jobs `jobs` in flight, each job one ensemble or `[0-],[0+]`, `locked` the
    records of exactly those jobs, in any order (every state reachable from a fresh start or from a restart, `reach_invR`,
    `run_recEq`; also the state `treat_output` writes the file from); the image written there, restored with the
    same number of slots (any workers / steps / engine table / recomputed weights) — if `load_paths` does not
    raise, the restored state with nothing in flight is `InitR`. -/
theorem restore_initR {s s' : St} {jobs : List Job} (hc : CoreR s (held jobs) s.trajNum)
    (hsh : ∀ j ∈ jobs, j.picked.length = 1 ∨ j.picked.map (·.ens) = [-1, 0])
    (hr : s.locked.Perm (jobs.map jobRec)) {workers tsteps : Nat}
    {occ : List (List Int)} {ensEng : List (List Nat)} {weightOf : Nat → List Rat}
    (h : restore (persist s) s.n workers tsteps occ ensEng weightOf = .ok s') :
    InitR { s := s', jobs := [] } := by
  have hl := hc.allLive
  obtain ⟨hok, rfl⟩ := (restore_persist_ok_iff hl).mp h
  -- the recorded (slot, path) pairs are, up to order, what the jobs in flight held
  have hperm : (held0 (restoredSt s workers tsteps occ ensEng weightOf).locked0).Perm (held jobs) := by
    show (held0 (s.locked.map _)).Perm _
    rw [← held0_persist jobs]
    unfold held0
    exact (hr.map _).flatMap_right _
  obtain ⟨hlive, hinj⟩ := restoredSt_live hc workers tsteps occ ensEng weightOf
  refine ⟨rfl, hc.n2, restoredSt_lenW hl .., restoredSt_lenT hl .., rfl, hlive, hinj,
    ⟨fun en hen => ?_, ?_, fun e pn hm => ?_⟩, rfl, rfl⟩
  · obtain ⟨r, hrm, rfl⟩ := List.mem_map.mp (show en ∈ s.locked.map _ from hen)
    obtain ⟨j, hj, rfl⟩ := List.mem_map.mp (hr.mem_iff.mp hrm)
    simp only [jobRec, List.length_map, true_and]
    rcases hsh j hj with hs | hs
    · exact Or.inl hs
    · right
      rw [show j.picked.map (·.ens) = [-1, 0] from hs]
      simp [off]
  · rw [(hperm.map Prod.fst).nodup_iff]
    exact hc.nodup
  · obtain ⟨he, htr, _⟩ := hc.heldOk e pn (hperm.mem_iff.mp hm)
    have hW := restoredSt_W hl workers tsteps occ ensEng weightOf he htr
    refine ⟨?_, (restoredSt_trajs hl _ _ _ _ _ he).trans htr, ?_⟩
    · show (List.replicate (s.n - 1) false ++ [true])[e]? = some false
      rw [List.getElem?_append_left (by simpa using he)]
      simp [he]
    · simpa [entryM, List.getD_eq_getElem?_getD, hW] using (hok e pn (hl.livePns_get.mpr ⟨he, htr⟩)).2

theorem restore_is_initR {y : Sys} (hi : InvR y) (hr : RecInv y) (workers tsteps : Nat)
    (occ : List (List Int)) (ensEng : List (List Nat)) (weightOf : Nat → List Rat) (s' : St)
    (h : restore (persist y.s) y.s.n workers tsteps occ ensEng weightOf = .ok s') :
    InitR { s := s', jobs := [] } :=
  restore_initR hi.core (fun j hj => (hi.jobs j hj).shape) hr h

theorem restore_of_reachable_is_initR (y0 y : Sys) (evs : List Ev) (h0 : Start y0)
    (hl : y0.s.locked = []) (hj : y0.jobs = []) (hr : run y0 evs = .ok y) (workers tsteps : Nat)
    (occ : List (List Int)) (ensEng : List (List Nat)) (weightOf : Nat → List Rat) (s' : St)
    (h : restore (persist y.s) y.s.n workers tsteps occ ensEng weightOf = .ok s') :
    InitR { s := s', jobs := [] } :=
  restore_is_initR (reach_invR h0 hr) (run_recEq evs h0.inv (.ofEmpty hl hj) hr).recInv workers tsteps occ ensEng
    weightOf s' h

end Infretis.Repex
