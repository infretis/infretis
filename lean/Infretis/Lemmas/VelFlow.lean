import Infretis.Model.VelFlow
/-!
C16: files of the heap model, the per-engine file flow (`Infretis.VelFlow`), and the steps of
`prepare_shooting_point` that follow the dump in both flows.
-/
namespace Infretis.Vel

theorem Heap.readFile_writeFile_ne (h : Heap) (f g : Nat) (frames : List Frame) (hne : f ≠ g) :
    (h.writeFile g frames).readFile f = h.readFile f := by
  simp [Heap.readFile, Heap.writeFile, Ne.symm hne]

theorem Heap.readFile_writeFile_self (h : Heap) (g : Nat) (frames : List Frame) :
    (h.writeFile g frames).readFile g = some frames := by
  simp [Heap.readFile, Heap.writeFile]

/-- What `prepare_shooting_point` does after the dump, in the engine-blind and the engine-aware flow alike: write
    `genvel`, put the rebound copy `sp'` at the fresh address, append fresh objects.  If the dump (`h2`) changed no
    object and no file but `conf`, the old systems, the old objects and every file but `conf` and `genvel` are as
    in `h`. -/
theorem shoot_tail_untouched (h h2 : Heap) (sp' : Sys) (conf genvel : Nat) (frames : List Frame)
    (extra : List (List Rat)) (ho : h2.objs = h.objs) (hf : ∀ f, f ≠ conf → h2.readFile f = h.readFile f) :
    let h4 : Heap := { h2.writeFile genvel frames with
      systems := h.systems ++ [sp'], objs := (h2.writeFile genvel frames).objs ++ extra }
    (∀ i, i < h.systems.length → h4.systems[i]? = h.systems[i]?)
    ∧ (∀ i, i < h.objs.length → h4.objs[i]? = h.objs[i]?)
    ∧ (∀ f, f ≠ conf → f ≠ genvel → h4.readFile f = h.readFile f)
    ∧ h4.systems[h.systems.length]? = some sp'
    ∧ h4.readFile genvel = some frames := by
  refine ⟨fun i hi => List.getElem?_append_left hi, fun i hi => ?_, fun f hfc hfg => ?_,
    List.getElem?_concat_length, h2.readFile_writeFile_self genvel frames⟩
  · simp only [Heap.writeFile, ho]
    exact List.getElem?_append_left hi
  · exact (h2.readFile_writeFile_ne f genvel frames hfg).trans (hf f hfc)

end Infretis.Vel

namespace Infretis.VelFlow
open Infretis.Vel

/-- what `dump_frame` may change: nothing but the file `conf.<ext>` -/
theorem dumpFrameE_effect (e : Engine) (g : GmxSrc) (top : List Nat) (h : Heap) (cfg : Nat × Option Nat)
    (conf : Nat) (h2 : Heap) (fr : Frame) (hd : dumpFrameE e g top h cfg conf = .ok (h2, fr)) :
    h2.systems = h.systems ∧ h2.objs = h.objs ∧ ∀ f, f ≠ conf → h2.readFile f = h.readFile f := by
  unfold dumpFrameE at hd
  simp only at hd
  split at hd
  · cases hd
  · rename_i h1 hw
    have key : h1.systems = h.systems ∧ h1.objs = h.objs ∧ ∀ f, f ≠ conf → h1.readFile f = h.readFile f := by
      split at hw
      · split at hw
        · cases hw; exact ⟨rfl, rfl, fun _ _ => rfl⟩
        · split at hw
          · cases hw
          · cases hw
            exact ⟨rfl, rfl, fun f hf => h.readFile_writeFile_ne f conf _ hf⟩
      · split at hw
        · cases hw
        · split at hw
          · cases hw
          · split at hw
            · cases hw
            · cases hw; exact ⟨rfl, rfl, fun _ _ => rfl⟩
            · cases hw
              exact ⟨rfl, rfl, fun f hf => h.readFile_writeFile_ne f conf _ hf⟩
    split at hd
    · cases hd
    · split at hd
      · cases hd
      · cases hd
        exact key

/-- an index that IS in the file: every engine extracts exactly that frame into `conf` and regenerates from it
    (GROMACS from a `.trr`: with the topology's identities; GROMACS `.g96`: the file is a single frame) -/
theorem dumpFrameE_in_range (e : Engine) (g : GmxSrc) (top : List Nat) (h : Heap) (src i conf : Nat)
    (frames : List Frame) (fr : Frame) (hsrc : h.readFile src = some frames) (hfr : frames[i]? = some fr)
    (hg : e = .gromacs → g = .trr ∨ (g = .g96 ∧ frames = [fr] ∧ src ≠ conf)) :
    let fr' := if e = .gromacs ∧ g = .trr then { fr with ids := top } else fr
    dumpFrameE e g top h (src, some i) conf = .ok (h.writeFile conf [fr'], fr') := by
  cases e
  case gromacs =>
    rcases hg rfl with rfl | ⟨rfl, rfl, hne⟩
    · simp [dumpFrameE, hsrc, extractFrame, hfr, Heap.readFile_writeFile_self, readConf]
    · simp [dumpFrameE, hsrc, extractFrame, hne, Heap.readFile_writeFile_self, readConf]
  all_goals simp [dumpFrameE, hsrc, extractFrame, hfr, Heap.readFile_writeFile_self, readConf]

end Infretis.VelFlow
