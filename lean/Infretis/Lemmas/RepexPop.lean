import Infretis.Lemmas.RepexFootprint
import Infretis.Lemmas.ListAux
/-!
# The pop-while-iterating loop of `treat_output`

`treat_output` runs `for idx, lock in enumerate(self.locked): if pn in lock[1]: self.locked.pop(idx)` once per picked
ensemble (`popLocked`, and `popLockedOrd` for the ordinals riding along).  Whatever the records are, `treat_output`
leaves `popAll job.picked` of them (`treatOutput_popAll`); when the path numbers of the completed job occur in its own
record only, that is the record list without the job's entry (`popAll_erase`).
-/
namespace Infretis.Repex

/-- the pops of `treat_output`'s per-ensemble loop, in order, on the records and on the ordinals
    riding with them -/
def popAll (ps : List Picked) (LO : List (List Int × List Nat) × List Nat) :
    List (List Int × List Nat) × List Nat :=
  ps.foldl (fun LO p => (popLocked p.pn LO.1.length 0 LO.1, popLockedOrd p.pn LO.1.length 0 LO.1 LO.2)) LO

theorem perEns_popAll {status : Status} {l : List (Picked × List Rat)} {s s' : St} {tn tn' : Nat}
    {pns : List Nat} (h : PerEns status s tn l s' tn' pns) :
    (s'.locked, s'.lockedOrd) = popAll (l.map Prod.fst) (s.locked, s.lockedOrd) := by
  induction h with
  | nil => rfl
  | cons _ hadd _ ih =>
    have t := addTraj_touches hadd
    rw [ih, t.locked, t.lockedOrd]
    rfl

theorem treatOutput_popAll {s s' : St} {job : Job} {status : Status} {newW : List (List Rat)} {fuel : Nat}
    {pns : List Nat} {it : Nat} (h : treatOutput s job status newW fuel = .ok (s', pns, it)) :
    (s'.locked, s'.lockedOrd) = popAll job.picked (s.locked, s.lockedOrd) := by
  obtain ⟨s1, tn, s2, s3, s4, hlen, hper, hrec, hwr, hit, hsort, rfl⟩ := treatOutput_parts h
  have h1 := perEns_popAll hper
  rw [List.map_fst_zip (by omega)] at h1
  have t2 := recordFrac_touches hrec
  have t3 := writeRowsIf_touches hwr
  have t4 := sortTrajstate_touches fuel (sortTrajstate_ok_iff.mpr ⟨hit, hsort⟩)
  show (s4.locked, s4.lockedOrd) = _
  rw [t4.locked, t4.lockedOrd, t3.locked, t3.lockedOrd, t2.locked, t2.lockedOrd, h1]

theorem pop_noop (pn : Nat) : ∀ (fuel idx : Nat) (L : List (List Int × List Nat)) (O : List Nat),
    (∀ e ∈ L, pn ∉ e.2) → popLocked pn fuel idx L = L ∧ popLockedOrd pn fuel idx L O = O := by
  intro fuel
  induction fuel with
  | zero => intro idx L O _; exact ⟨rfl, rfl⟩
  | succ fuel ih =>
    intro idx L O h
    unfold popLocked popLockedOrd
    cases he : L[idx]? with
    | none => exact ⟨rfl, rfl⟩
    | some entry =>
      have hc : entry.2.contains pn = false :=
        Bool.eq_false_iff.mpr (fun hcc => h entry (List.mem_of_getElem? he) (List.contains_iff_mem.mp hcc))
      simp only [hc, Bool.false_eq_true, ↓reduceIte]
      exact ih (idx + 1) L O h

theorem pop_erase (pn : Nat) (L : List (List Int × List Nat)) (O : List Nat) (k : Nat)
    (e : List Int × List Nat) (hk : L[k]? = some e) (hin : pn ∈ e.2)
    (huniq : ∀ i e', L[i]? = some e' → pn ∈ e'.2 → i = k) :
    ∀ (fuel idx : Nat), idx ≤ k → k - idx < fuel →
      popLocked pn fuel idx L = L.eraseIdx k ∧ popLockedOrd pn fuel idx L O = O.eraseIdx k := by
  intro fuel
  induction fuel with
  | zero => intro idx _ h; omega
  | succ fuel ih =>
    intro idx hle hf
    unfold popLocked popLockedOrd
    have hklt : k < L.length := getElem?_lt_of_some hk
    have hidx : idx < L.length := by omega
    rw [List.getElem?_eq_getElem hidx]
    simp only []
    by_cases hik : idx = k
    · subst hik
      have he : L[idx] = e := by
        rw [List.getElem?_eq_getElem hidx] at hk
        exact Option.some.inj hk
      have hc : e.2.contains pn = true := List.contains_iff_mem.mpr hin
      rw [he, hc]
      simp only [↓reduceIte]
      apply pop_noop
      intro e' he' hpn
      obtain ⟨i, hne, hi⟩ := List.mem_eraseIdx_iff_getElem?.mp he'
      exact hne (huniq i e' hi hpn)
    · have hc : (L[idx]).2.contains pn = false :=
        Bool.eq_false_iff.mpr (fun hcc =>
          hik (huniq idx L[idx] (List.getElem?_eq_getElem hidx) (List.contains_iff_mem.mp hcc)))
      rw [hc]
      simp only [Bool.false_eq_true, ↓reduceIte]
      exact ih (idx + 1) (by omega) (by omega)

theorem popAll_noop : ∀ (ps : List Picked) (L : List (List Int × List Nat)) (O : List Nat),
    (∀ p ∈ ps, ∀ e ∈ L, p.pn ∉ e.2) → popAll ps (L, O) = (L, O) := by
  intro ps
  induction ps with
  | nil => intro L O _; rfl
  | cons p ps ih =>
    intro L O h
    unfold popAll
    rw [List.foldl_cons]
    simp only []
    obtain ⟨h1, h2⟩ := pop_noop p.pn L.length 0 L O (h p (List.mem_cons_self ..))
    rw [h1, h2]
    exact ih L O (fun q hq => h q (List.mem_cons_of_mem _ hq))

/-- the pops of a completed job remove exactly its own record and its ordinal when its path numbers
    occur in no other record: the first pop erases entry `k`, the others find nothing -/
theorem popAll_erase (ps : List Picked) (hne : ps ≠ []) (L : List (List Int × List Nat)) (O : List Nat)
    (k : Nat) (e : List Int × List Nat) (hk : L[k]? = some e) (he : e.2 = ps.map (·.pn))
    (huniq : ∀ p ∈ ps, ∀ i e', L[i]? = some e' → p.pn ∈ e'.2 → i = k) :
    popAll ps (L, O) = (L.eraseIdx k, O.eraseIdx k) := by
  cases ps with
  | nil => exact absurd rfl hne
  | cons p rest =>
    unfold popAll
    rw [List.foldl_cons]
    simp only []
    have hin : p.pn ∈ e.2 := by rw [he]; simp
    have hklt : k < L.length := getElem?_lt_of_some hk
    obtain ⟨h1, h2⟩ := pop_erase p.pn L O k e hk hin (huniq p (List.mem_cons_self ..)) L.length 0
      (Nat.zero_le _) (by omega)
    rw [h1, h2]
    apply popAll_noop
    intro q hq e' he' hpn
    obtain ⟨i, hnei, hi⟩ := List.mem_eraseIdx_iff_getElem?.mp he'
    exact hnei (huniq q (List.mem_cons_of_mem _ hq) i e' hi hpn)

theorem popLockedOrd_subset (pn : Nat) : ∀ (fuel idx : Nat) (L : List (List Int × List Nat))
    (O : List Nat), ∀ x ∈ popLockedOrd pn fuel idx L O, x ∈ O := by
  intro fuel
  induction fuel with
  | zero => intro idx L O x hx; exact hx
  | succ fuel ih =>
    intro idx L O x hx
    unfold popLockedOrd at hx
    split at hx
    · exact hx
    · split at hx
      · exact List.mem_of_mem_eraseIdx (ih _ _ _ x hx)
      · exact ih _ _ _ x hx

theorem popAll_ord_subset : ∀ (ps : List Picked) (L : List (List Int × List Nat)) (O : List Nat),
    ∀ x ∈ (popAll ps (L, O)).2, x ∈ O := by
  intro ps
  induction ps with
  | nil => intro L O x hx; exact hx
  | cons p ps ih =>
    intro L O x hx
    unfold popAll at hx
    rw [List.foldl_cons] at hx
    exact popLockedOrd_subset p.pn _ _ L O x (ih _ _ x hx)


end Infretis.Repex
