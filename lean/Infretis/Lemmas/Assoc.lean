/-!
# Association lists as finite maps

`traj_data[pn]['frac']`, `traj_data[pn]['weights']`, the engine tables and the runner's outcome table are all
`List (κ × β)` read with `List.lookup`.  What the packages need of them: when a key is present, and what `lookup`
and the key list are after the three ways the model writes a table (`filter` on the key, `map` on the value, `++`),
and that a loop of `d[k] = d.get(k, 0) + 1` counts occurrences (`lookup_foldl_count`, for both models of
`create_engines`).  `set` is Python's `d[k] = v` on an insertion-ordered dict; the models that write it out for their
own key type (`Store.dictSet`, `Store.dsetF`) are `set` by one agreement lemma each.
Core has `List.lookup_append`, `List.lookup_eq_some_iff`, `List.lookup_eq_none_iff`.
-/
namespace Infretis.Assoc
variable {κ β γ : Type} [BEq κ] [LawfulBEq κ]

theorem mem_of_lookup {l : List (κ × β)} {k : κ} {v : β} (h : l.lookup k = some v) : (k, v) ∈ l := by
  obtain ⟨l₁, l₂, rfl, _⟩ := List.lookup_eq_some_iff.mp h
  simp

theorem lookup_eq_none_iff {l : List (κ × β)} {k : κ} : l.lookup k = none ↔ k ∉ l.map Prod.fst := by
  rw [List.lookup_eq_none_iff]
  simp only [bne_iff_ne, ne_eq, List.mem_map, not_exists, not_and]
  exact ⟨fun h p hp e => h p hp e.symm, fun h p hp e => h p hp e.symm⟩

theorem lookup_isSome_iff {l : List (κ × β)} {k : κ} : (l.lookup k).isSome ↔ k ∈ l.map Prod.fst := by
  rw [← Option.ne_none_iff_isSome, ne_eq, lookup_eq_none_iff, Classical.not_not]

theorem exists_lookup {l : List (κ × β)} {k : κ} (h : k ∈ l.map Prod.fst) : ∃ v, l.lookup k = some v :=
  Option.isSome_iff_exists.mp (lookup_isSome_iff.mpr h)

theorem mem_keys_of_lookup {l : List (κ × β)} {k : κ} {v : β} (h : l.lookup k = some v) : k ∈ l.map Prod.fst :=
  List.mem_map_of_mem (f := Prod.fst) (mem_of_lookup h)

theorem lookup_of_mem {l : List (κ × β)} (hnd : (l.map Prod.fst).Nodup) {k : κ} {v : β} (h : (k, v) ∈ l) :
    l.lookup k = some v := by
  obtain ⟨s, t, rfl⟩ := List.append_of_mem h
  refine List.lookup_eq_some_iff.mpr ⟨s, t, rfl, fun p hp => ?_⟩
  simp only [List.map_append, List.map_cons, List.nodup_append, List.mem_cons] at hnd
  simpa using fun e => hnd.2.2 _ (List.mem_map_of_mem (f := Prod.fst) hp) _ (Or.inl rfl) e.symm

theorem lookup_iff_mem {l : List (κ × β)} (hnd : (l.map Prod.fst).Nodup) {k : κ} {v : β} :
    l.lookup k = some v ↔ (k, v) ∈ l :=
  ⟨mem_of_lookup, lookup_of_mem hnd⟩

theorem lookup_of_keyed {l : List (κ × β)} {g : κ → β} (h : ∀ kv ∈ l, kv.2 = g kv.1) {k : κ}
    (hk : k ∈ l.map Prod.fst) : l.lookup k = some (g k) := by
  obtain ⟨v, hv⟩ := exists_lookup hk
  rw [hv]
  exact congrArg some (h (k, v) (mem_of_lookup hv))

theorem lookup_keyed (l : List κ) (g : κ → β) (k : κ) :
    (l.map (fun a => (a, g a))).lookup k = if k ∈ l then some (g k) else none := by
  have hkeys : (l.map (fun a => (a, g a))).map Prod.fst = l := by
    rw [List.map_map]
    exact List.map_id l
  split
  · rename_i hk
    refine lookup_of_keyed (fun kv hkv => ?_) (hkeys.symm ▸ hk)
    obtain ⟨a, _, rfl⟩ := List.mem_map.mp hkv
    rfl
  · rename_i hk
    exact lookup_eq_none_iff.mpr (hkeys.symm ▸ hk)

theorem any_key (l : List (κ × β)) (k : κ) : l.any (·.1 == k) = (l.lookup k).isSome := by
  induction l with
  | nil => rfl
  | cons kv t ih =>
    obtain ⟨a, v⟩ := kv
    rw [List.any_cons, List.lookup_cons, ih, BEq.comm]
    cases k == a
    · rfl
    · rfl

theorem lookup_filter (l : List (κ × β)) (p : κ → Bool) (k : κ) :
    (l.filter (fun kv => p kv.1)).lookup k = if p k then l.lookup k else none := by
  induction l with
  | nil => simp
  | cons kv t ih =>
    obtain ⟨a, v⟩ := kv
    by_cases hk : k == a
    · cases eq_of_beq hk
      by_cases hp : p k
      · simp [hp]
      · simp [hp, ih]
    · by_cases hp : p a
      · simp [List.lookup_cons, hk, hp, ih]
      · simp [List.lookup_cons, hk, hp, ih]

omit [BEq κ] [LawfulBEq κ] in
theorem keys_filter (l : List (κ × β)) (p : κ → Bool) :
    (l.filter (fun kv => p kv.1)).map Prod.fst = (l.map Prod.fst).filter p := by
  rw [List.filter_map]
  rfl

omit [BEq κ] [LawfulBEq κ] in
theorem keys_filter_subset {l : List (κ × β)} {p : κ × β → Bool} {k : κ} (h : k ∈ (l.filter p).map Prod.fst) :
    k ∈ l.map Prod.fst :=
  (List.Sublist.map _ List.filter_sublist).subset h

omit [BEq κ] [LawfulBEq κ] in
theorem nodup_keys_filter {l : List (κ × β)} (h : (l.map Prod.fst).Nodup) (p : κ × β → Bool) :
    ((l.filter p).map Prod.fst).Nodup :=
  h.sublist (List.Sublist.map _ List.filter_sublist)

theorem lookup_mapVal (l : List (κ × β)) (f : κ → β → γ) (k : κ) :
    (l.map (fun kv => (kv.1, f kv.1 kv.2))).lookup k = (l.lookup k).map (f k) := by
  induction l with
  | nil => rfl
  | cons kv t ih =>
    obtain ⟨a, v⟩ := kv
    rw [List.map_cons, List.lookup_cons, List.lookup_cons, ih]
    by_cases hk : k == a
    · cases eq_of_beq hk
      simp
    · simp [hk]

omit [BEq κ] [LawfulBEq κ] in
theorem keys_mapVal (l : List (κ × β)) (f : κ → β → γ) :
    (l.map (fun kv => (kv.1, f kv.1 kv.2))).map Prod.fst = l.map Prod.fst := by
  simp [List.map_map, Function.comp_def]

omit [LawfulBEq κ] in
theorem lookup_append_left {l₁ : List (κ × β)} {k : κ} {v : β} (h : l₁.lookup k = some v) (l₂ : List (κ × β)) :
    (l₁ ++ l₂).lookup k = some v := by
  rw [List.lookup_append, h]
  rfl

theorem lookup_snoc_new {l : List (κ × β)} {k : κ} (h : k ∉ l.map Prod.fst) (v : β) :
    (l ++ [(k, v)]).lookup k = some v := by
  rw [List.lookup_append, lookup_eq_none_iff.mpr h]
  simp

/-- Python's `d[k] = v`: an existing key keeps its place, a new one goes last -/
def set (k : κ) (v : β) : List (κ × β) → List (κ × β)
  | [] => [(k, v)]
  | (k', v') :: t => if k' == k then (k, v) :: t else (k', v') :: set k v t

theorem keys_set (k : κ) (v : β) (l : List (κ × β)) :
    (set k v l).map Prod.fst = if k ∈ l.map Prod.fst then l.map Prod.fst else l.map Prod.fst ++ [k] := by
  induction l with
  | nil => simp [set]
  | cons e t ih =>
    obtain ⟨k', v'⟩ := e
    by_cases h : k' = k
    · simp [set, h]
    · have hk : ¬ k = k' := fun e => h e.symm
      simp only [set, beq_iff_eq, h, if_false, List.map_cons, ih, List.mem_cons, hk, false_or]
      split <;> simp

omit [LawfulBEq κ] in
theorem mem_set {k : κ} {v : β} {l : List (κ × β)} {e : κ × β} (h : e ∈ set k v l) : e ∈ l ∨ e = (k, v) := by
  induction l with
  | nil => exact .inr (by simpa [set] using h)
  | cons x t ih =>
    obtain ⟨k', v'⟩ := x
    simp only [set] at h
    split at h
    · exact (List.mem_cons.mp h).elim .inr (fun h => .inl (List.mem_cons_of_mem _ h))
    · exact (List.mem_cons.mp h).elim (fun h => .inl (h ▸ List.mem_cons_self))
        (fun h => (ih h).imp (List.mem_cons_of_mem _) id)

theorem length_set (k : κ) (v : β) (l : List (κ × β)) :
    (set k v l).length = if k ∈ l.map Prod.fst then l.length else l.length + 1 := by
  have h := congrArg List.length (keys_set k v l)
  rw [List.length_map] at h
  rw [h]
  split <;> simp

theorem lookup_set (k k' : κ) (v : β) (l : List (κ × β)) :
    (set k v l).lookup k' = if k' == k then some v else l.lookup k' := by
  induction l with
  | nil =>
    rw [set, List.lookup_cons]
    cases k' == k
    · rfl
    · rfl
  | cons e t ih =>
    obtain ⟨a, w⟩ := e
    by_cases ha : a = k
    · subst ha
      simp only [set, beq_self_eq_true, if_true, List.lookup_cons]
      cases k' == a
      · rfl
      · rfl
    · simp only [set, beq_iff_eq, ha, if_false, List.lookup_cons, ih]
      by_cases hk : k' = a
      · simp [hk, ha]
      · have : (k' == a) = false := by simpa using hk
        simp only [this]

/-- a dict entry after `c` more increments -/
def cntOpt (o : Option Nat) (c : Nat) : Option Nat := if c = 0 then o else some (o.getD 0 + c)

/-- whatever way the model writes the increment, a loop of increments counts occurrences -/
theorem lookup_foldl_count [DecidableEq κ] (bump : List (κ × Nat) → κ → List (κ × Nat))
    (hb : ∀ acc k k', (bump acc k).lookup k' = if k' = k then some ((acc.lookup k).getD 0 + 1) else acc.lookup k') :
    ∀ (l : List κ) (acc : List (κ × Nat)) (k : κ),
      (l.foldl bump acc).lookup k = cntOpt (acc.lookup k) (l.count k) := by
  intro l
  induction l with
  | nil => intro acc k; simp [cntOpt]
  | cons x l ih =>
    intro acc k
    rw [List.foldl_cons, ih, hb, List.count_cons]
    by_cases hk : k = x
    · subst hk
      simp only [↓reduceIte, beq_self_eq_true]
      unfold cntOpt
      by_cases hc : List.count k l = 0
      · simp [hc]
      · simp only [hc, ↓reduceIte, Option.getD_some]
        rw [if_neg (by omega)]
        congr 1
        omega
    · have : (x == k) = false := by simpa using fun h => hk h.symm
      simp only [if_neg hk, this, Bool.false_eq_true, ↓reduceIte, Nat.add_zero]

theorem lookup_foldl_count_nil [DecidableEq κ] (bump : List (κ × Nat) → κ → List (κ × Nat))
    (hb : ∀ acc k k', (bump acc k).lookup k' = if k' = k then some ((acc.lookup k).getD 0 + 1) else acc.lookup k')
    (l : List κ) (k : κ) :
    (l.foldl bump []).lookup k = if l.count k = 0 then none else some (l.count k) := by
  rw [lookup_foldl_count bump hb]
  simp [cntOpt]

end Infretis.Assoc
