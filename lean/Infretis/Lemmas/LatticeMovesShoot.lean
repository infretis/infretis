import Infretis.Lemmas.LatticeMovesProp
import Mathlib.Algebra.Order.Field.Rat
/-!
C01: the accepted answers of the shooting move `latShoot` against segments, read off its branches
(`latShoot_acc_sound`).
-/
namespace Infretis.LatticeMoves

theorem xi_usable (ld : Bool) (xi : Rat) :
    (¬ (ld = false ∧ xi < 0) ∧ ¬ (ld = false ∧ xi = 0)) ↔ (ld = true ∨ 0 < xi) := by
  cases ld
  · simp only [true_and, Bool.false_eq_true, false_or, not_lt]
    exact ⟨fun h => lt_of_le_of_ne h.1 (Ne.symm h.2), fun h => ⟨le_of_lt h, ne_of_gt h⟩⟩
  · simp

/-- the two propagations of a trial that fits the length limit, pasted -/
theorem take_paste (x : Int) (pre post : List Int) (m : Nat) (h : pre.length + 1 + post.length ≤ m) :
    ((x :: pre).reverse ++ (x :: post).tail).take m = pre.reverse ++ x :: post := by
  rw [List.take_of_length_le]
  · simp
  · simp; omega

/-- **Nothing else is accepted.** -/
theorem latShoot_acc_sound (e : Ens) (old : List Int) (ld : Bool) (idx : Nat) (xi : Rat) (cb cf : List Bool) (o : Out)
    (h : latShoot e old ld idx xi cb cf = .ok o) (hacc : o.accept = true) :
    ∃ x last pre post, old[idx]? = some x ∧ (1 ≤ idx ∧ idx + 1 < old.length) ∧ (0 < x ∧ x < e.top)
      ∧ Seg e.top x pre ∧ pre.getLast? = some last ∧ last ≤ 0 ∧ Seg e.top x post
      ∧ o.trial = pre.reverse ++ x :: post
      ∧ pre.length + 1 + post.length ≤ maxlenOf e old.length ld xi
      ∧ crossMid e o.trial = true
      ∧ cb.take pre.length = coinsOf x pre ∧ cf.take post.length = coinsOf x post
      ∧ o.status = .ACC ∧ o.genNb = pre.length ∧ o.usedB = pre.length ∧ o.usedF = post.length
      ∧ o.maxlen = maxlenOf e old.length ld xi ∧ (ld = true ∨ 0 < xi) := by
  revert h
  fun_cases latShoot e old ld idx xi cb cf
  case case14 _ hidx x hx hin hxi1 hxi2 M pb okB kb hb hokB last hlast hl0 pf okF kf hf trial hokF hcross =>
    intro h
    cases h
    have hin := not_not.1 hin
    obtain rfl := Bool.of_not_eq_false hokB
    obtain rfl := Bool.of_not_eq_false hokF
    -- both propagations succeeded: each returned the start frame followed by a segment
    obtain ⟨pre, rfl, hpre, rfl, htb, hlb⟩ := prop_success e.top _ x cb pb kb hin.1 hin.2 hb
    obtain ⟨post, rfl, hpost, rfl, htf, hlf⟩ := prop_success e.top _ x cf pf kf hin.1 hin.2 hf
    have hM : M ≤ e.maxlength := maxlenOf_le e old.length ld xi
    have hfit : pre.length + 1 + post.length ≤ M := by simp only [List.length_cons] at hlf hlb; omega
    have htake : trial = pre.reverse ++ x :: post := take_paste x pre post e.maxlength (by omega)
    have hlast' : pre.getLast? = some last := by rwa [seg_getLast? _ _ _ hpre] at hlast
    exact ⟨x, last, pre, post, hx, not_not.1 hidx, hin, hpre, hlast', not_not.1 hl0, hpost, htake, hfit,
      Bool.of_not_eq_false hcross, htb, htf, rfl, rfl, rfl, rfl, rfl, (xi_usable ld xi).1 ⟨hxi1, hxi2⟩⟩
  -- every other branch raises or rejects
  all_goals intro h; cases h <;> cases hacc

end Infretis.LatticeMoves
