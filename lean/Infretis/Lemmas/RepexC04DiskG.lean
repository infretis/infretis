import Infretis.Lemmas.RepexC04Disk
/-!
# C04 — the law on the files from ANY good disk state: histories, stops and restarts to any depth

`DiskInvG`: the data file is some lines from earlier runs (`pre`: comments, or complete rows of paths that are no
longer in the table) followed by the formatted rows of the model's row list; the restart file, once written, lists
the keys of the fraction table as active with the table's column totals and the sampler's counters; and the law
itself: fractions shown by the data file + fraction table = the count.
`Good z` = all sampler invariants (`Reach4`, `JInv`) + `DiskInvG`.  Kept by every event (`dStep_good`, which also
keeps the prefix `pre`: `LinesFrom`); established again by the restart of what a stop leaves when the restart file
records nothing as in flight (`restart_good`, RepexC04Resume).
-/
namespace Infretis.Repex.Data
open Infretis.Repex.Frac

def lineKeys (lines : List DLine) : List Nat := (dataRows lines).map (·.1)

theorem lineKeys_append (a b : List DLine) : lineKeys (a ++ b) = lineKeys a ++ lineKeys b := by
  simp [lineKeys, dataRows_append]

theorem mem_lineKeys {lines : List DLine} {q : Nat} :
    q ∈ lineKeys lines ↔ ∃ l ∈ lines, l.hash = false ∧ l.term = true ∧ l.key = some q := by
  unfold lineKeys dataRows
  simp only [List.mem_map, List.mem_filterMap]
  constructor
  · rintro ⟨x, ⟨l, hl, hle⟩, rfl⟩
    obtain ⟨hash, term, key, fr, ws⟩ := l
    cases hash <;> cases term <;> cases key <;> simp at hle
    exact ⟨_, hl, rfl, rfl, by rw [← hle]⟩
  · rintro ⟨⟨hash, term, key, fr, ws⟩, hl, rfl, rfl, rfl⟩
    exact ⟨(q, fr, ws), ⟨_, hl, rfl⟩, rfl⟩

/-- lines from earlier runs: comment lines, or complete lines whose path (if any) was numbered before and is not in
    the fraction table -/
def PreOk (y : Sys) (pre : List DLine) : Prop :=
  ∀ l ∈ pre, l.hash = true ∨
    (l.term = true ∧ ∀ k, l.key = some k → k < y.s.trajNum ∧ k ∉ y.s.frac.map Prod.fst)

/-- the restart file on disk, seen from the sampler: it lists the keys of the table as active, its live weights
    are the table's column totals, its counters are the sampler's; and it is the image of a state `sP` that
    satisfies all invariants and records the same weights for the active paths -/
structure ImgG (y : Sys) (im : Image) : Prop where
  act : (activeKeys im).Perm (y.s.frac.map Prod.fst)
  tot : ∀ c, liveTotal im c = colTotal y.s.frac c
  cstep : im.cstep = y.s.cstep
  tn : im.trajNum = y.s.trajNum
  src : ∃ sP jobsP, im = persistD sP ∧ Reach4 ⟨sP, jobsP⟩ ∧ sP.n = y.s.n ∧
    ∀ pn ∈ activeKeys im, sP.wts.lookup pn = y.s.wts.lookup pn

structure DiskInvG (z : DSys) : Prop where
  lines : ∃ pre ls, fmtRows z.y.s.n z.y.s.rows = .ok ls ∧ z.d.lines = pre ++ ls ∧ PreOk z.y pre ∧
    (lineKeys pre ++ z.y.s.rows.map (·.1)).Nodup
  img : ∀ im, z.d.img = some im → ImgG z.y im
  cntLen : z.cnt.length = z.y.s.n
  law : ∀ c, c < z.y.s.n - 1 → lineTotal z.d.lines c + colTotal z.y.s.frac c = (z.cnt.getD c 0 : Rat)

structure Good (z : DSys) : Prop where
  r4 : Reach4 z.y
  j : JInv z.y
  d : DiskInvG z

/-- the data file is `pre` followed by the formatted rows of the model's row list -/
def LinesFrom (pre : List DLine) (z : DSys) : Prop :=
  ∃ ls, fmtRows z.y.s.n z.y.s.rows = .ok ls ∧ z.d.lines = pre ++ ls

theorem ImgG.congr {y y' : Sys} {im : Image} (ig : ImgG y im) (hf : y'.s.frac = y.s.frac)
    (hc : y'.s.cstep = y.s.cstep) (ht : y'.s.trajNum = y.s.trajNum) (hn : y'.s.n = y.s.n)
    (hw : y'.s.wts = y.s.wts) : ImgG y' im := by
  obtain ⟨sP, jP, e1, e2, e3, e4⟩ := ig.src
  exact ⟨by rw [hf]; exact ig.act, by rw [hf]; exact ig.tot, by rw [hc]; exact ig.cstep,
    by rw [ht]; exact ig.tn, ⟨sP, jP, e1, e2, by rw [hn]; exact e3, fun pn hp => by rw [hw]; exact e4 pn hp⟩⟩

theorem imgG_persistD {y : Sys} (hr : Reach4 y) : ImgG y (persistD y.s) := by
  have hact := activeKeys_persistD hr.hinv.inv.core.coreR hr.tidy.tidy hr.hinv.fw.keys hr.rinv.liveNodup
  exact ⟨hact, fun c => liveTotal_eq_colTotal _ _ hr.hinv.fw.keys hact (lookup_fracSection y.s.frac) c, rfl, rfl,
    ⟨y.s, y.jobs, rfl, hr, rfl, fun _ _ => rfl⟩⟩

theorem freshSys_good {y : Sys} (h : DiskStart y) : Good (freshSys y) := by
  refine ⟨h.reach4, h.ri.fi.jinv, ⟨⟨headerLines, [], ?_, by simp [freshSys, freshDisk], ?_, ?_⟩, ?_, by simp [freshSys], ?_⟩⟩
  · show fmtRows y.s.n y.s.rows = .ok []
    rw [h.ri.fi.rows]; rfl
  · intro l hl
    left
    unfold headerLines at hl
    rw [List.eq_of_mem_replicate hl]
  · show (lineKeys headerLines ++ y.s.rows.map (·.1)).Nodup
    rw [h.ri.fi.rows]
    simp [lineKeys, dataRows_header]
  · intro im him
    simp [freshSys, freshDisk] at him
  · intro c _
    show lineTotal headerLines c + colTotal y.s.frac c = ((List.replicate y.s.n 0).getD c 0 : Nat)
    rw [lineTotal_header, getD_replicate_self]
    have := h.ri.fi.total_zero c
    unfold total at this
    rw [h.ri.fi.rows] at this
    simpa using this

theorem step_frac_keys {y y' : Sys} {k : Nat} {status : Status} {newW : List (List Rat)} {o : PickOutcome}
    (h : sysStep y (.step k status newW o) = .ok y') :
    ∀ q ∈ y'.s.frac.map Prod.fst, q ∈ y.s.frac.map Prod.fst ∨ y.s.trajNum ≤ q := by
  obtain ⟨job, ym, hc, _, hk⟩ := treatPart_ok h
  cases hc with | @mk s2 pns it _ hjob htreat =>
  replace hk : Touches _ s2 y'.s := hk
  have hld := loop_touches y.s
  obtain ⟨sR, tn, sC, _, d⟩ := treatOutput_data htreat
  obtain ⟨_, _, _, p5, _, _⟩ := recState_data d.len d.recSt
  intro q hq
  rw [hk.frac, d.frac] at hq
  have hq2 := Assoc.keys_filter_subset hq
  rw [recordFrac_keys d.recorded, p5, List.map_append, zeroFracs_keys, hld.frac, hld.trajNum] at hq2
  exact (List.mem_append.mp hq2).imp id fun h1 => (List.mem_range'_1.mp h1).1

theorem dStep_good {z z' : DSys} (ev : Ev) (hg : Good z) (hev : EvOk z.y ev) (h : dStep z ev = .ok z') :
    Good z' ∧ (∀ c, z'.cnt.getD c 0 = z.cnt.getD c 0 + idleAt z.y ev c) ∧
      ∀ pre, LinesFrom pre z → LinesFrom pre z' := by
  have hs := dStep_sys h
  have hr := hg.r4
  have hr' := sysStep_reach4 ev hr hev hs
  obtain ⟨_, hj', htot, _⟩ := sysStep_total ev hr.hinv hg.j hs (matchableAt_of_inv5 hr.inv5 hev)
  obtain ⟨pre, ls, hl1, hl2, hpre, hnd⟩ := hg.d.lines
  by_cases hst : ∃ k status newW o, ev = .step k status newW o
  · obtain ⟨k, status, newW, o, rfl⟩ := hst
    obtain ⟨job, s2, sf⟩ := step_facts hr hs
    obtain ⟨job', s2', pns, it, _, _, htp', hmid, hkeep⟩ := mid_reach4 hr hev hs
    have e22 : s2' = s2 := by
      have := sf.htp
      rw [htp'] at this
      simp only [Except.ok.injEq, Prod.mk.injEq] at this
      exact this.2
    subst e22
    obtain ⟨ls', hls, hd, hcnt⟩ := dStep_step h sf.htp
    obtain ⟨news, hn1, hn2, hn3⟩ := sf.rows
    have hlen : z.cnt.length = (idleInc s2'.locks).length := by
      rw [length_idleInc, sf.locksLen]; exact hg.d.cntLen
    have hcnt' : ∀ c, z'.cnt.getD c 0 = z.cnt.getD c 0 + idleAt z.y (.step k status newW o) c := by
      intro c; rw [hcnt, getD_addCnt _ _ hlen, sf.idle c]
    have hrows' : z'.y.s.rows = z.y.s.rows ++ news := by rw [sf.keep.rows, hn1]
    have hn' : z'.y.s.n = z.y.s.n := by rw [sf.keep.n, sf.n]
    have hls' : fmtRows z.y.s.n news = .ok ls' := by rw [← hn2, ← sf.n]; exact hls
    -- the step appends the lines of its new rows behind whatever the file held
    have hlines : ∀ pre, LinesFrom pre z → LinesFrom pre z' := by
      rintro pre ⟨ls, hl1, hl2⟩
      refine ⟨ls ++ ls', ?_, by rw [hd, hl2, List.append_assoc]⟩
      rw [hn', hrows']
      exact fmtRows_append hl1 hls'
    obtain ⟨lsN, hlN1, hlN2⟩ := hlines pre ⟨ls, hl1, hl2⟩
    refine ⟨⟨hr', hj', ⟨⟨pre, lsN, hlN1, hlN2, ?_, ?_⟩, ?_, ?_, ?_⟩⟩, hcnt', hlines⟩
    · intro l hl
      rcases hpre l hl with h1 | ⟨h1, h2⟩
      · exact Or.inl h1
      · right
        refine ⟨h1, fun q hq => ?_⟩
        obtain ⟨a1, a2⟩ := h2 q hq
        have htn := (sysStep_preserves5 _ hr.inv5 hev hs).2
        refine ⟨by omega, fun hin => ?_⟩
        rcases step_frac_keys hs q hin with h3 | h3
        · exact a2 h3
        · omega
    · rw [hrows', List.map_append, ← List.append_assoc]
      rw [List.nodup_append]
      refine ⟨hnd, ?_, ?_⟩
      · have := hr'.rinv.rowsNodup
        rw [hrows', List.map_append, List.nodup_append] at this
        exact this.2.1
      · intro a ha b hb hab
        subst hab
        simp only [List.mem_map] at hb
        obtain ⟨r, hrn, rfl⟩ := hb
        have hfk := hn3 r hrn
        rcases List.mem_append.mp ha with ha | ha
        · -- a key of an earlier run is not in the table
          obtain ⟨l, hlm, hh, _, hkey⟩ := mem_lineKeys.mp ha
          rcases hpre l hlm with h1 | ⟨_, h2⟩
          · rw [hh] at h1; exact absurd h1 (by simp)
          · exact (h2 _ hkey).2 hfk
        · exact hr.rinv.rowsFrac r.1 ha hfk
    · intro im him
      rw [hd] at him
      simp only [Option.some.injEq] at him
      subst him
      exact (imgG_persistD hmid).congr sf.keep.frac sf.keep.cstep sf.keep.trajNum sf.keep.n sf.keep.wts
    · rw [hcnt, length_addCnt _ _ hlen, hg.d.cntLen, hn']
    · intro c hc
      rw [hn'] at hc
      rw [hd]
      simp only
      have hlaw := hg.d.law c hc
      have hsup : ∀ r ∈ news, RowSup z.y.s.n r.2.1 r.2.2 := by
        intro r hrn
        rw [← hn']
        exact hr'.sup.rows r (by rw [hrows']; exact List.mem_append_right _ hrn)
      rw [lineTotal_append]
      rw [lineTotal_fmtRows news ls' hls' hsup c hc, hcnt' c]
      have ht := htot c
      unfold total at ht
      rw [hrows', rowsTotal_append] at ht
      push_cast
      linarith
  · have hne : ∀ k status newW o, ev ≠ .step k status newW o := fun k status newW o he => hst ⟨k, status, newW, o, he⟩
    have q := quiet_event hne hs
    have hz : z'.d = z.d ∧ z'.cnt = z.cnt := by
      unfold dStep at h
      split at h
      · exact absurd h (by simp)
      cases ev with
      | start o saved => simp only [Except.ok.injEq] at h; rw [← h]; exact ⟨rfl, rfl⟩
      | initDone => simp only [Except.ok.injEq] at h; rw [← h]; exact ⟨rfl, rfl⟩
      | step k status newW o => exact absurd rfl (hne k status newW o)
    have hidle : ∀ c, idleAt z.y ev c = 0 := by
      intro c
      cases ev with
      | start o saved => rfl
      | initDone => rfl
      | step k status newW o => exact absurd rfl (hne k status newW o)
    have hlines : ∀ pre, LinesFrom pre z → LinesFrom pre z' := by
      rintro pre ⟨ls, hl1, hl2⟩
      exact ⟨ls, by rw [q.n, q.rows]; exact hl1, by rw [hz.1]; exact hl2⟩
    obtain ⟨lsN, hlN1, hlN2⟩ := hlines pre ⟨ls, hl1, hl2⟩
    refine ⟨⟨hr', hj', ⟨⟨pre, lsN, hlN1, hlN2, ?_, by rw [q.rows]; exact hnd⟩,
      ?_, by rw [hz.2, q.n]; exact hg.d.cntLen, ?_⟩⟩, fun c => by rw [hz.2, hidle c]; rfl, hlines⟩
    · intro l hl
      rcases hpre l hl with h1 | ⟨h1, h2⟩
      · exact Or.inl h1
      · exact Or.inr ⟨h1, fun k hk => by rw [q.trajNum, q.frac]; exact h2 k hk⟩
    · intro im him
      rw [hz.1] at him
      exact (hg.d.img im him).congr q.frac q.cstep q.trajNum q.n q.wts
    · intro c hc
      rw [hz.1, hz.2, q.frac]
      rw [q.n] at hc
      exact hg.d.law c hc

theorem dRun_good_lines : ∀ (evs : List Ev) {z z' : DSys}, Good z → HistOk z.y evs → dRun z evs = .ok z' →
    Good z' ∧ run z.y evs = .ok z'.y ∧ (∀ c, z'.cnt.getD c 0 = z.cnt.getD c 0 + idleSteps z.y evs c) ∧
      ∀ pre, LinesFrom pre z → LinesFrom pre z' := by
  intro evs
  induction evs with
  | nil =>
    intro z z' hg _ h
    simp only [dRun, Except.ok.injEq] at h
    subst h
    exact ⟨hg, rfl, fun c => by simp [idleSteps], fun _ hl => hl⟩
  | cons ev rest ih =>
    intro z z' hg hh h
    unfold dRun at h
    split at h
    · exact absurd h (by simp)
    rename_i z1 h1
    have hs := dStep_sys h1
    obtain ⟨g1, c1, l1⟩ := dStep_good ev hg hh.1 h1
    obtain ⟨g2, r2, c2, l2⟩ := ih g1 (hh.2 z1.y hs) h
    refine ⟨g2, by unfold run; rw [hs]; exact r2, fun c => ?_, fun pre hl => l2 pre (l1 pre hl)⟩
    rw [c2 c, c1 c]
    simp only [idleSteps, hs]
    omega

theorem dRun_good : ∀ (evs : List Ev) {z z' : DSys}, Good z → HistOk z.y evs → dRun z evs = .ok z' →
    Good z' ∧ run z.y evs = .ok z'.y ∧ ∀ c, z'.cnt.getD c 0 = z.cnt.getD c 0 + idleSteps z.y evs c :=
  fun evs _ _ hg hh h => ⟨(dRun_good_lines evs hg hh h).1, (dRun_good_lines evs hg hh h).2.1,
    (dRun_good_lines evs hg hh h).2.2.1⟩

end Infretis.Repex.Data
