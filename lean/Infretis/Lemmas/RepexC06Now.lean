import Infretis.Model.RepexRestartNow
import Infretis.Lemmas.RepexC06MultiChainU
import Infretis.Lemmas.RepexC06MultiEnd
/-
C06: restarts from the file that is on disk, with the stream position put back at once
(`restoreNow` = what `set_rgen()` does inside `REPEX_state.__init__`).

* `RestoreRelM` does not mention the stream position, so everything proved from it applies to `restoreNow` as well.
* A stop in the final phase (fewer steps left than workers): the restarted run never picks, `restoreStreamOnce` never
  fires; with `restoreNow` the position is the saved one all along, so the equivalence is exact — no `setMD` left — and
  the images (`persist`) of the two runs agree on the stream position at every later stop.
* `ChainN`: chains of restarts at BOTH kinds of stop.  A process that dies anywhere between the `write_toml` ending the
  `treat_output` of step k and the next one leaves the file `persist r.1` (`r = stepTreat …`) — the job issued after the
  write, if any, is not in it — so these are all the files a kill can leave; the end-of-run write of `loop()` is
  `persist` of the same kind of state (nothing drawn, nothing issued since the last `treat_output`).
-/
namespace Infretis.Repex

theorem restoreNow_ok {im : Image} {n workers tsteps : Nat} {occ : List (List Int)} {ensEng : List (List Nat)}
    {weightOf : Nat → List Rat} {s' : St} (h : restoreNow im n workers tsteps occ ensEng weightOf = .ok s') :
    ∃ s0, restore im n workers tsteps occ ensEng weightOf = .ok s0 ∧ s' = setMD s0 im.rngDraws := by
  unfold restoreNow at h
  split at h
  · exact absurd h (by simp)
  · rename_i s0 h0
    simp only [Except.ok.injEq] at h
    exact ⟨s0, h0, h.symm⟩

theorem RestoreRelM.setMD {occ : List (List Int)} {recs : List ((List Nat × List Nat) × Nat)} {s s' : St}
    (h : RestoreRelM occ recs s s') (d : Nat) : RestoreRelM occ recs s (setMD s' d) :=
  ⟨h.n, h.W, h.trajs, h.locks, h.locked, h.lockedOrd, h.locked0, h.locked0Ord, h.workers, h.cstep, h.tsteps, h.trajNum,
   h.frac, h.wts, h.ensEng, h.seed, h.entropy, h.spawned, h.toinitiate, h.restarted, h.rgenRestored, h.occ, h.rows⟩

theorem nm_self {y : Sys} {d : Nat} (h : y.s.mainDraws = d) : nm d y = y := by
  cases y with
  | mk s jobs =>
    cases s
    simp only [nm, setMD] at *
    subst h
    rfl

theorem reissue_close_mainDraws {occ : List (List Int)} {recs : List ((List Nat × List Nat) × Nat)} {s2 s' : St}
    {restJobs : List Job} (hR : RestoreRelM occ recs s2 s') (hS : StopM recs s2 restJobs)
    (starts : List (PickOutcome × Nat)) (hlen : starts.length = recs.length)
    {y1 yR : Sys} (h1 : run { s := s', jobs := [] } (starts.map (fun x => Ev.start x.1 x.2)) = .ok y1)
    (h3 : sysStep y1 .initDone = .ok yR) : yR.s.mainDraws = s'.mainDraws := by
  obtain ⟨jobs, occ1, cw1, _, _, hs1⟩ := reissue_run_state recs starts _ y1 [] [] hlen
    (by simp [hR.locked0]) (by simp [hR.locked0Ord])
    (by intro x hx; show s'.trajs[x.1]? = _ ∧ x.1 + 1 < s'.trajs.length; rw [hR.trajs]; exact hS.inplace x hx)
    (by show UniqLive s'.trajs; rw [hR.trajs]; exact hS.uniq) h1
  obtain ⟨_, hst⟩ := Step.of_ok h3
  cases hst with
  | initDone _ =>
    show (initiate y1.s).1.mainDraws = s'.mainDraws
    rw [(initiate_touches y1.s).mainDraws, hs1]
    rfl

theorem run_end_mainDraws (evs : List Ev) {y yN : Sys} (hs : StepsOnly evs) (hend : EndPhase y)
    (h : run y evs = .ok yN) : yN.s.mainDraws = y.s.mainDraws := by
  have h4 := run_nm_end y.s.mainDraws evs y hs hend
  rw [nm_self rfl, h] at h4
  simp only [Except.map, Except.ok.injEq] at h4
  have : (nm y.s.mainDraws yN).s.mainDraws = y.s.mainDraws := rfl
  rw [← h4] at this
  exact this

/-- a run of several workers with restarts FROM THE FILE ON DISK, at every kind of stop: run `.step` events; the
    process dies anywhere between the `write_toml` that ends the `treat_output` of a `.step` and the next one (the job
    issued in between, if any, is lost with the process: the file does not know it); `restoreNow` the image (`set_rgen`
    puts the stream position back at `__init__`); as many initiation iterations as jobs are on record; then — a fresh
    job due (`restart`): one more iteration, which picks it from the saved stream position; or the final phase
    (`restartEnd`: fewer steps left than workers): none; `.initDone`; go on -/
inductive ChainN : Sys → List Ev → Sys → Prop
  | done {y yN : Sys} {evs : List Ev} : run y evs = .ok yN → ChainN y evs yN
  | restart {y y1 yR yN : Sys} {steps1 rest : List Ev} {k : Nat} {st : Status} {w : List (List Rat)} {o : PickOutcome}
      {r : St × Job × List Job} {s' : St} {occ : List (List Int)} {starts : List (PickOutcome × Nat)} :
      run y steps1 = .ok y1 → stepTreat y1 k st w = .ok r → r.1.cstep + r.1.workers ≤ r.1.tsteps →
      restoreNow (persist r.1) r.1.n r.1.workers r.1.tsteps occ r.1.ensEng (fun pn => (r.1.wts.lookup pn).getD []) = .ok s' →
      starts.length = r.2.2.length →
      run { s := s', jobs := [] }
        (starts.map (fun x => Ev.start x.1 x.2) ++ [.start o (persist r.1).rngDraws, .initDone]) = .ok yR →
      ChainN yR rest yN →
      ChainN y (steps1 ++ (.step k st w o :: rest)) yN
  | restartEnd {y y1 yR yN : Sys} {steps1 rest : List Ev} {k : Nat} {st : Status} {w : List (List Rat)}
      {o : PickOutcome} {r : St × Job × List Job} {s' : St} {occ : List (List Int)}
      {starts : List (PickOutcome × Nat)} :
      run y steps1 = .ok y1 → stepTreat y1 k st w = .ok r →
      ¬ (r.1.cstep + r.1.workers ≤ r.1.tsteps) → r.1.cstep < r.1.tsteps → r.2.2.length ≤ r.1.workers →
      restoreNow (persist r.1) r.1.n r.1.workers r.1.tsteps occ r.1.ensEng (fun pn => (r.1.wts.lookup pn).getD []) = .ok s' →
      starts.length = r.2.2.length →
      run { s := s', jobs := [] } (starts.map (fun x => Ev.start x.1 x.2) ++ [.initDone]) = .ok yR →
      ChainN yR rest yN →
      ChainN y (steps1 ++ (.step k st w o :: rest)) yN

theorem restart_chain_now : ∀ {y : Sys} {evs : List Ev} {yN' : Sys}, ChainN y evs yN' →
    ∀ {x xN : Sys} {ra rb : List Row}, ReachM x → HistOk x evs → RM ra rb x y → StepsOnly evs → run x evs = .ok xN →
    ∃ ra' rb', RM ra' rb' xN yN' := by
  intro y evs yN' hc
  induction hc with
  | @done y yN evs hrun' =>
    intro x xN ra rb _ _ hrm hs hrun
    exact ⟨ra, rb, run_steps_relM evs hs hrm hrun hrun'⟩
  | @restart y y1 yR yN steps1 rest k st w o r s' occ starts hy1 hT hmore hres hlen hinit _ ih =>
    intro x xN ra rb hx hh hrm hs hrun
    obtain ⟨x2, rx, hU, hrun2, hx2, hh2, hs2, hmid, hSx, hl, hload⟩ := chain_split hx hh hrm hs hrun hy1 hT
    obtain ⟨s0, hres0, rfl⟩ := restoreNow_ok hres
    exact ih hx2 hh2 (chain_fresh hmid hSx ((hload occ s0 hres0).setMD _) hU hmore (by rw [hl]; exact hlen) hinit)
      hs2 hrun2
  | @restartEnd y y1 yR yN steps1 rest k st w o r s' occ starts hy1 hT hend hlt hmW hres hlen hinit _ ih =>
    intro x xN ra rb hx hh hrm hs hrun
    obtain ⟨x2, rx, hU, hrun2, hx2, hh2, hs2, hmid, hSx, hl, hload⟩ := chain_split hx hh hrm hs hrun hy1 hT
    obtain ⟨s0, hres0, rfl⟩ := restoreNow_ok hres
    have hRx := (hload occ s0 hres0).setMD (persist r.1).rngDraws
    -- no fresh job on the uninterrupted side either: `x2` is `rx` as it stands
    have hendx : ¬ (rx.1.cstep + rx.1.workers ≤ rx.1.tsteps) := by
      rw [hmid.obs.cstep, hmid.obs.workers, hmid.obs.tsteps]; exact hend
    simp only [stepPrep, if_neg hendx, Except.ok.injEq] at hU
    obtain ⟨ya, ha, hb⟩ := run_append_inv _ _ hinit
    obtain ⟨yb, hb3, hb'⟩ := run_cons_ok hb
    cases hb'
    obtain ⟨hrm2, _, _, _⟩ := restart_step_multi_end rx.2.2 hRx hSx (by rw [hmid.obs.cstep, hmid.obs.tsteps]; exact hlt)
      (by rw [hl, hmid.obs.workers]; exact hmW) starts (by rw [hl]; exact hlen) ha hb3
    have hmd : yR.s.mainDraws = rx.1.mainDraws := by
      rw [reissue_close_mainDraws hRx hSx starts (by rw [hl]; exact hlen) ha hb3]
      exact hmid.obs.mainDraws.symm
    rw [nm_self hmd, hU] at hrm2
    exact ih hx2 hh2 hrm2 hs2 hrun2

end Infretis.Repex
