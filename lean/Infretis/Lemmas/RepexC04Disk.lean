import Infretis.Lemmas.RepexC04Sup
import Infretis.Lemmas.RepexC06Tidy
/-!
# C04 — the disk system `DSys`: what one event does to the sampler, the data file, the restart file, the counts

`DSys` (Model/DataFile.lean) = sampler + the two files + the per-column count of idle recordings.
`Reach4` bundles the sampler invariants carried along a history: C03 (`Core`), C05 (`Fam`, for the support
invariant), C06's `Tidy` (tables keyed exactly by the live paths, ghost slot empty) and this package's `HInv`,
`RInv`, `SupInv`.  `activeKeys_persistD`: the restart file `write_toml` writes lists exactly the keys of the fraction
table as active.  The invariant of the disk itself is `DiskInvG` (RepexC04DiskG).

`sysStep (.step …)` = `loop`, `treat_output`, then (if steps remain) `prep_md_items` for the freed worker.  The
restart file is written at the end of `treat_output`, BEFORE that `prep_md_items`: it is the image of the
mid-state `⟨s2, jobs without the completed one⟩`, which satisfies `Reach4` (`Reach4.done`: each package's fact
about the completion of a job; `mid_reach4`).
-/
namespace Infretis.Repex.Data
open Infretis.Repex.Frac

structure Reach4 (y : Sys) : Prop where
  hinv : HInv y
  rinv : RInv y
  inv5 : Inv5 y
  tidy : TidyY y
  sup : SupInv y.s

theorem sysStep_reach4 {y y' : Sys} (ev : Ev) (hr : Reach4 y) (hev : EvOk y ev) (h : sysStep y ev = .ok y') :
    Reach4 y' :=
  ⟨sysStep_hinv ev hr.hinv h, (sysStep_rinv ev hr.hinv hr.rinv h).1, (sysStep_preserves5 ev hr.inv5 hev h).1,
   sysStep_tidy ev hr.inv5.inv hr.tidy h, sysStep_sup ev hr.hinv hr.inv5 hev hr.sup h⟩

theorem run_reach4 (evs : List Ev) {y y' : Sys} (hr : Reach4 y) (hh : HistOk y evs) (h : run y evs = .ok y') :
    Reach4 y' :=
  run_guarded (fun ev _ _ => sysStep_reach4 ev) evs hr ((histOk_iff_along evs y).mp hh) h

/-- a fresh start for the law on the files: `RowInit` (C04), `Init5` (C05) and tidy tables (C06) -/
structure DiskStart (y : Sys) : Prop where
  ri : RowInit y
  i5 : Init5 y
  tidy : Tidy y.s

theorem DiskStart.reach4 {y : Sys} (h : DiskStart y) : Reach4 y :=
  ⟨h.ri.fi.hinv, h.ri.rinv, h.i5.inv5, ⟨h.tidy, by rw [h.ri.fi.init.jobs]; intro j hj; simp at hj⟩,
   supInv_of_fracInit h.ri.fi⟩

theorem dropLast_append_getLast {α : Type} (l : List α) (n : Nat) (x : α) (hl : l.length = n) (hn : 1 ≤ n)
    (hx : l[n - 1]? = some x) : l = l.dropLast ++ [x] := by
  have hne : l ≠ [] := by intro h; rw [h] at hl; simp at hl; omega
  have h1 := List.dropLast_append_getLast hne
  have h2 : l.getLast hne = x := by
    rw [List.getLast_eq_getElem]
    have : l.length - 1 = n - 1 := by omega
    have hlt : n - 1 < l.length := by omega
    rw [List.getElem?_eq_getElem hlt] at hx
    simp only [Option.some.injEq] at hx
    simp only [this]
    exact hx
  rw [← h2]; exact h1.symm

theorem mem_livePaths_iff {s : St} {H : List (Nat × Nat)} {tn : Nat} (hc : CoreR s H tn) (hn : none ∈ s.trajs)
    (q : Nat) : some q ∈ livePaths s ↔ some q ∈ s.trajs := by
  have hg := ghost_none_of hc hn
  have hsplit := dropLast_append_getLast s.trajs s.n none hc.lenT (by have := hc.n2; omega) hg
  unfold livePaths
  constructor
  · intro h; exact (List.dropLast_sublist _).subset h
  · intro h
    rw [hsplit] at h
    rcases List.mem_append.mp h with h | h
    · exact h
    · simp at h

theorem activeKeys_persistD {s : St} {H : List (Nat × Nat)} {tn : Nat} (hc : CoreR s H tn) (ht : Tidy s)
    (hk : (s.frac.map Prod.fst).Nodup) (hl : (s.trajs.filterMap id).Nodup) :
    (activeKeys (persistD s)).Perm (s.frac.map Prod.fst) := by
  show ((livePaths s).filterMap id).Perm _
  apply (List.perm_ext_iff_of_nodup (hl.sublist ((List.dropLast_sublist _).filterMap id)) hk).mpr
  intro q
  rw [mem_fm]
  have := mem_livePaths_iff hc ht.hasNone q
  unfold livePaths at this
  rw [this, ← ht.keysLive q, ht.sameKeys]

/-- a `.step` event: the completion of a job is what `treatPart` computes, and what follows writes at most what
    `prep_md_items` writes -/
theorem treatPart_ok {y y' : Sys} {k : Nat} {status : Status} {newW : List (List Rat)} {o : PickOutcome}
    (h : sysStep y (.step k status newW o) = .ok y') :
    ∃ job ym, Completes y k status newW job ym ∧ treatPart y k status newW = .ok ((loop y.s).1, ym.s) ∧
      Touches [.W, .trajs, .locks, .locked, .lockedOrd, .spawned, .mainDraws, .rgenRestored, .locked0,
        .locked0Ord, .occ] ym.s y'.s := by
  obtain ⟨job, ym, hc, hrest⟩ := Completes.of_step h
  refine ⟨job, ym, hc, ?_, ?_⟩
  · obtain ⟨hgo, hjob, _, pns, it, htreat⟩ := hc.ok
    unfold treatPart
    generalize hl : loop y.s = r at hgo htreat ⊢
    obtain ⟨s1, go⟩ := r
    simp only [] at hgo htreat ⊢
    subst hgo
    simp only [not_true_eq_false, if_false, hjob, htreat]
  · rcases hrest with ⟨_, rfl⟩ | ⟨_, jd, hs⟩
    · exact Agree.refl _ _
    · exact hs.touches

/-- every invariant of `Reach4` holds when `treat_output` has returned: each package's fact about the completion -/
theorem Reach4.done {y ym : Sys} {k : Nat} {status : Status} {newW : List (List Rat)} {job : Job} (o : PickOutcome)
    (hr : Reach4 y) (hev : EvOk y (.step k status newW o)) (hc : Completes y k status newW job ym) : Reach4 ym := by
  have h5 := (hr.inv5.done o hev hc).1
  have hl0 : ym.s.locked0 = [] := hc.touches.locked0.trans hr.hinv.inv.core.l0
  exact ⟨⟨h5.inv.inv hl0, fracWF_kept.done o hr.hinv.inv.invR hr.hinv.fw trivial hc⟩, (hr.rinv.done (o := o) hr.hinv hc).1,
    h5, ⟨tidy_kept.done o ⟨hr.inv5.inv, hr.tidy.pnum⟩ hr.tidy.tidy trivial hc, h5.pnum⟩,
    sup_kept.done o ⟨hr.hinv, hr.inv5⟩ hr.sup hev hc⟩

theorem mid_reach4 {y y' : Sys} {k : Nat} {status : Status} {newW : List (List Rat)} {o : PickOutcome}
    (hr : Reach4 y) (hev : EvOk y (.step k status newW o)) (h : sysStep y (.step k status newW o) = .ok y') :
    ∃ job s2 pns it, y.jobs[k]? = some job ∧
      treatOutput (loop y.s).1 job status newW (sortFuel (loop y.s).1) = .ok (s2, pns, it) ∧
      treatPart y k status newW = .ok ((loop y.s).1, s2) ∧
      Reach4 ⟨s2, y.jobs.eraseIdx k⟩ ∧
      Touches [.W, .trajs, .locks, .locked, .lockedOrd, .spawned, .mainDraws, .rgenRestored, .locked0, .locked0Ord,
        .occ] s2 y'.s := by
  obtain ⟨job, ym, hc, htp, hk⟩ := treatPart_ok h
  have hm := hr.done o hev hc
  obtain ⟨_, hjob, hjobs, pns, it, htreat⟩ := hc.ok
  rw [← hjobs]
  exact ⟨job, ym.s, pns, it, hjob, htreat, htp, hm, hk⟩

theorem getD_idleInc (locks : List Bool) (c : Nat) :
    (idleInc locks).getD c 0 = if locks[c]? = some false then 1 else 0 := by
  unfold idleInc
  rw [List.getD_eq_getElem?_getD, List.getElem?_map]
  cases h : locks[c]? with
  | none => simp
  | some b => cases b <;> simp

structure StepFacts (y y' : Sys) (k : Nat) (status : Status) (newW : List (List Rat)) (o : PickOutcome)
    (job : Job) (s2 : St) : Prop where
  hjob : y.jobs[k]? = some job
  htp : treatPart y k status newW = .ok ((loop y.s).1, s2)
  keep : Touches [.W, .trajs, .locks, .locked, .lockedOrd, .spawned, .mainDraws, .rgenRestored, .locked0,
    .locked0Ord, .occ] s2 y'.s
  cstep : s2.cstep = y.s.cstep + 1
  n : s2.n = y.s.n
  rows : ∃ news, s2.rows = y.s.rows ++ news ∧ newRows (loop y.s).1 s2 = news ∧
    ∀ r ∈ news, r.1 ∈ y.s.frac.map Prod.fst
  locksLen : s2.locks.length = y.s.n
  idle : ∀ c, idleAt y (.step k status newW o) c = (idleInc s2.locks).getD c 0

theorem step_facts {y y' : Sys} {k : Nat} {status : Status} {newW : List (List Rat)} {o : PickOutcome}
    (hr : Reach4 y) (h : sysStep y (.step k status newW o) = .ok y') :
    ∃ job s2, StepFacts y y' k status newW o job s2 := by
  obtain ⟨job, ym, hc, htp, hk⟩ := treatPart_ok h
  cases hc with | @mk s2 pns it hgo hjob htreat =>
  replace hk : Touches _ s2 y'.s := hk
  have hi := hr.hinv
  have hld := loop_touches y.s
  have hc1 := step_core hi.inv hjob
  have fw1 := hi.fw.loop
  have r1 := hr.rinv.loop k
  have hold := hr.rinv.jobsOld job (List.mem_of_getElem? hjob)
  have hc2 := treatOutput_core job status newW _ pns it hc1 htreat
  have hn2 := (treatOutput_touches htreat).n
  have hcs2 := (treatOutput_touches htreat).cstep
  obtain ⟨r2, hrows2, hlive2⟩ := treat_rinv hc1 fw1 r1 hold htreat
  obtain ⟨news, hnews, hnk⟩ := treatOutput_rows_append htreat
  obtain ⟨sRec, tn, hrec, _, hlk, _⟩ := treatOutput_total fw1 htreat
  refine ⟨job, s2, hjob, htp, hk, ?_, hn2.trans hld.n, ?_, ?_, ?_⟩
  · rw [hcs2, (loop_go hgo).2]
  · refine ⟨news, by rw [hnews, hld.rows], ?_, ?_⟩
    · unfold newRows
      rw [hnews]; simp
    · intro r hrn
      have hw : r.1 ∈ written job status := by rw [← hnk]; exact List.mem_map_of_mem hrn
      obtain ⟨hl1, _⟩ := hlive2 r.1 hw
      rw [hld.trajs] at hl1
      exact hr.rinv.liveFrac r.1 hl1
  · rw [hc2.lenL, hn2, hld.n]
  · intro c
    simp only [idleAt, hjob, hrec]
    rw [getD_idleInc, hlk]

theorem getD_addCnt (a b : List Nat) (h : a.length = b.length) (c : Nat) :
    (addCnt a b).getD c 0 = a.getD c 0 + b.getD c 0 := by
  unfold addCnt
  rw [List.getD_eq_getElem?_getD, List.getD_eq_getElem?_getD, List.getD_eq_getElem?_getD, List.getElem?_zipWith]
  rcases Nat.lt_or_ge c a.length with hc | hc
  · rw [List.getElem?_eq_getElem hc, List.getElem?_eq_getElem (by omega)]
    rfl
  · rw [List.getElem?_eq_none hc, List.getElem?_eq_none (by omega)]
    rfl

theorem length_addCnt (a b : List Nat) (h : a.length = b.length) : (addCnt a b).length = a.length := by
  unfold addCnt
  rw [List.length_zipWith, h, Nat.min_self]

theorem length_idleInc (locks : List Bool) : (idleInc locks).length = locks.length := by
  simp [idleInc]

theorem quiet_event {y y' : Sys} {ev : Ev} (hne : ∀ k status newW o, ev ≠ .step k status newW o)
    (h : sysStep y ev = .ok y') :
    Touches [.W, .trajs, .locks, .locked, .lockedOrd, .spawned, .mainDraws, .rgenRestored, .locked0, .locked0Ord,
      .occ, .cworker, .toinitiate] y.s y'.s := by
  obtain ⟨_, hst⟩ := Step.of_ok h
  have hd := initiate_touches y.s
  cases hst with
  | start _ hs => exact hd.comp hs.touches
  | initDone _ => exact hd.wider
  | resubmit => exact absurd rfl (hne _ _ _ _)
  | last => exact absurd rfl (hne _ _ _ _)

theorem dStep_sys {z z' : DSys} {ev : Ev} (h : dStep z ev = .ok z') : sysStep z.y ev = .ok z'.y := by
  unfold dStep at h
  split at h
  · exact absurd h (by simp)
  rename_i y' hs
  cases ev with
  | start o saved => simp only [Except.ok.injEq] at h; rw [← h]; exact hs
  | initDone => simp only [Except.ok.injEq] at h; rw [← h]; exact hs
  | step k status newW o =>
    simp only [] at h
    split at h
    · exact absurd h (by simp)
    split at h
    · exact absurd h (by simp)
    simp only [Except.ok.injEq] at h
    rw [← h]; exact hs

theorem dStep_step {z z' : DSys} {k : Nat} {status : Status} {newW : List (List Rat)} {o : PickOutcome}
    {s1 s2 : St} (h : dStep z (.step k status newW o) = .ok z')
    (htp : treatPart z.y k status newW = .ok (s1, s2)) :
    ∃ ls', fmtRows s2.n (newRows s1 s2) = .ok ls' ∧
      z'.d = { lines := z.d.lines ++ ls', img := some (persistD s2) } ∧
      z'.cnt = addCnt z.cnt (idleInc s2.locks) := by
  unfold dStep at h
  split at h
  · exact absurd h (by simp)
  simp only [htp] at h
  unfold treatDisk at h
  split at h
  · exact absurd h (by simp)
  rename_i d' hd
  split at hd
  · exact absurd hd (by simp)
  rename_i ls' hls
  simp only [Except.ok.injEq] at hd h
  subst hd
  rw [← h]
  exact ⟨ls', hls, rfl, rfl⟩

end Infretis.Repex.Data
