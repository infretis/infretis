import Infretis.Lemmas.RepexC03AvailSys
import Infretis.Model.EngFactory
/-!
# C03 — `create_engines` builds what the engine-availability theorems assume (`EngInit`)

`createLoop_eq` is `create_engines` in closed form: per engine name `min(count, workers)` free cells, and as engine
objects the ordinals of the `create_engine` calls in order (`engineIds`), so no object is built twice.
-/
namespace Infretis.C03

/-- object identities of the instances: `sizes[k]` fresh ids for engine type `k`, counter from `next` -/
def engineIds : Nat → List Nat → List (List Nat)
  | _, [] => []
  | next, m :: rest => List.range' next m :: engineIds (next + m) rest

theorem engineIds_flatten : ∀ (sizes : List Nat) (next : Nat),
    (engineIds next sizes).flatten = List.range' next sizes.sum := by
  intro sizes
  induction sizes with
  | nil => intro next; simp [engineIds]
  | cons m rest ih =>
    intro next
    simp only [engineIds, List.flatten_cons, ih, List.sum_cons]
    rw [List.range'_append_1]

theorem engineIds_length : ∀ (sizes : List Nat) (next : Nat), (engineIds next sizes).map List.length = sizes := by
  intro sizes
  induction sizes with
  | nil => intro next; rfl
  | cons m rest ih => intro next; simp [engineIds, ih]

end Infretis.C03

namespace Infretis.Repex.Factory

theorem lookup_bump (acc : List (Nat × Nat)) (k k' : Nat) :
    (bump acc k).lookup k' = if k' = k then some ((acc.lookup k).getD 0 + 1) else acc.lookup k' := by
  have hmap : acc.map (fun a => if a.1 == k then (a.1, a.2 + 1) else a)
      = acc.map (fun a => (a.1, if a.1 == k then a.2 + 1 else a.2)) :=
    List.map_congr_left fun a _ => by
      split
      · rfl
      · rfl
  unfold bump
  rw [Assoc.any_key, hmap]
  cases hl : acc.lookup k with
  | some c =>
    rw [Option.isSome_some, if_pos rfl, Assoc.lookup_mapVal acc (fun a c => if a == k then c + 1 else c)]
    by_cases hk : k' = k
    · subst hk
      rw [hl, if_pos rfl]
      simp
    · rw [if_neg hk]
      cases acc.lookup k' with
      | some c' => simp [hk]
      | none => rfl
  | none =>
    rw [Option.isSome_none, if_neg (by simp)]
    by_cases hk : k' = k
    · subst hk
      rw [if_pos rfl, Assoc.lookup_snoc_new (Assoc.lookup_eq_none_iff.mp hl)]
      rfl
    · have hb : (k' == k) = false := by simpa using hk
      rw [if_neg hk, List.lookup_append, List.lookup_cons, List.lookup_nil, hb]
      cases acc.lookup k' with
      | some c' => rfl
      | none => rfl

theorem engineCount_eq (ensEng : List (List Nat)) : engineCount ensEng = ensEng.flatten.foldl bump [] := by
  unfold engineCount
  rw [List.foldl_flatten]

/-- **the first loop of `create_engines` counts occurrences**: the entry of name `k` is the number of
    times `k` is written in `ensemble_engines` (absent iff never) -/
theorem engineCount_lookup (ensEng : List (List Nat)) (k : Nat) :
    (engineCount ensEng).lookup k =
      if ensEng.flatten.count k = 0 then none else some (ensEng.flatten.count k) := by
  rw [engineCount_eq]
  exact Infretis.Assoc.lookup_foldl_count_nil bump lookup_bump _ k

theorem createN_eq : ∀ (m next : Nat), createN m next = (List.replicate m (-1), List.range' next m) := by
  intro m
  induction m with
  | zero => intro next; rfl
  | succ m ih => intro next; simp [createN, ih, List.replicate_succ, List.range'_succ]

/-- **the second loop of `create_engines` in closed form**: the names in the order counted, per name
    `min(count, workers)` free cells, and as objects the next `min(count, workers)` ordinals of `create_engine` calls -/
theorem createLoop_eq (workers : Nat) : ∀ (cnt : List (Nat × Nat)) (next : Nat),
    createLoop workers cnt next =
      { names := cnt.map Prod.fst, objs := C03.engineIds next (cnt.map (fun a => min a.2 workers)),
        occ := cnt.map (fun a => List.replicate (min a.2 workers) (-1)) } := by
  intro cnt
  induction cnt with
  | nil => intro next; rfl
  | cons a cnt ih => intro next; obtain ⟨ka, ca⟩ := a; simp [createLoop, ih, createN_eq, C03.engineIds]

/-- a dict given as a list of keys and a list of values, both computed from one association list -/
theorem lookup_zip_map_fst {β γ : Type} (f : β → γ) (k : Nat) : ∀ (l : List (Nat × β)),
    ((l.map Prod.fst).zip (l.map (fun a => f a.2))).lookup k = (l.lookup k).map f := by
  intro l
  induction l with
  | nil => rfl
  | cons a l ih =>
    obtain ⟨ka, ca⟩ := a
    simp only [List.map_cons, List.zip_cons_cons, List.lookup_cons]
    cases k == ka with
    | true => rfl
    | false => exact ih

theorem occRow_createEngines (ensEng : List (List Nat)) (workers k : Nat) :
    occRow (createEngines ensEng workers) k
      = List.replicate (min (ensEng.flatten.count k) workers) (-1) := by
  unfold occRow createEngines
  rw [createLoop_eq, lookup_zip_map_fst (fun c => List.replicate (min c workers) (-1)), engineCount_lookup]
  by_cases h : ensEng.flatten.count k = 0
  · simp [h]
  · simp [h]

theorem filter_range_getD_le (k : Nat) : ∀ (L : List (List Nat)) (m : Nat),
    ((List.range m).filter (fun e => (L.getD e []).contains k)).length ≤ L.flatten.count k := by
  intro L
  induction L with
  | nil =>
    intro m
    have : (List.range m).filter (fun e => (([] : List (List Nat)).getD e []).contains k) = [] := by
      rw [List.filter_eq_nil_iff]
      intro e _
      simp
    rw [this]; simp
  | cons l L ih =>
    intro m
    cases m with
    | zero => simp
    | succ m =>
      rw [List.range_succ_eq_map, List.filter_cons, List.flatten_cons, List.count_append]
      have htail : ((List.map Nat.succ (List.range m)).filter (fun e => ((l :: L).getD e []).contains k)).length
          = ((List.range m).filter (fun e => (L.getD e []).contains k)).length := by
        rw [List.filter_map, List.length_map]
        congr 1
      have hih := ih m
      have hhead : (if ((l :: L).getD 0 []).contains k = true then 1 else 0) ≤ l.count k := by
        simp only [List.getD_cons_zero]
        split
        · rename_i hc
          have : k ∈ l := by simpa using hc
          exact List.count_pos_iff.mpr this
        · omega
      split
      · rename_i hc
        rw [if_pos hc] at hhead
        simp only [List.length_cons, htail]
        omega
      · rw [htail]; omega

theorem countK_le_count (ensEng : List (List Nat)) (n k : Nat) :
    countK ensEng n k ≤ ensEng.flatten.count k := by
  unfold countK slotsUsing
  exact filter_range_getD_le k ensEng (n - 1)

theorem occTable_getElem? (E : Engines) (m k : Nat) (l : List Int) (h : (occTable E m)[k]? = some l) :
    k < m ∧ l = occRow E k := by
  unfold occTable at h
  rw [List.getElem?_map] at h
  by_cases hk : k < m
  · rw [List.getElem?_range hk] at h
    simp only [Option.map_some, Option.some.injEq] at h
    exact ⟨hk, h.symm⟩
  · rw [List.getElem?_eq_none (by simpa using Nat.le_of_not_lt hk)] at h
    simp at h

/-- **a sampler whose engine table is the one `create_engines` builds satisfies `EngInit`**, provided
    every ensemble lists at least one engine (`check_config`: "Found an ensemble without an engine!")
    and the table covers the type numbers `0 … m-1` that are used -/
theorem engInit_of_createEngines (y : Sys) (m : Nat)
    (hocc : y.s.occ = occTable (createEngines y.s.ensEng y.s.workers) m)
    (hm : ∀ k ∈ y.s.ensEng.flatten, k < m)
    (hne : ∀ e, e < y.s.n - 1 → y.s.ensEng.getD e [] ≠ []) : EngInit y := by
  constructor
  · intro k i x hx
    unfold cell at hx
    rw [hocc] at hx
    cases hrow : (occTable (createEngines y.s.ensEng y.s.workers) m)[k]? with
    | none => rw [hrow] at hx; simp at hx
    | some l =>
      rw [hrow] at hx
      simp only [Option.bind_some] at hx
      obtain ⟨_, hl⟩ := occTable_getElem? _ _ _ _ hrow
      rw [hl, occRow_createEngines] at hx
      have := List.mem_of_getElem? hx
      exact (List.mem_replicate.mp this).2
  · intro k l hl
    rw [hocc] at hl
    obtain ⟨_, hl'⟩ := occTable_getElem? _ _ _ _ hl
    rw [hl', occRow_createEngines, List.length_replicate]
    have := countK_le_count y.s.ensEng y.s.n k
    omega
  · intro e he
    refine ⟨hne e he, ?_⟩
    intro k hk
    have hkf : k ∈ y.s.ensEng.flatten := by
      rw [List.mem_flatten]
      refine ⟨y.s.ensEng.getD e [], ?_, hk⟩
      rw [List.getD_eq_getElem?_getD] at hk ⊢
      cases hg : y.s.ensEng[e]? with
      | none => rw [hg] at hk; simp at hk
      | some l => simp only [Option.getD_some]; exact List.mem_of_getElem? hg
    have hlt := hm k hkf
    rw [hocc]
    refine ⟨occRow (createEngines y.s.ensEng y.s.workers) k, ?_⟩
    unfold occTable
    rw [List.getElem?_map, List.getElem?_range hlt]
    rfl

theorem lookup_zip_pos {γ : Type} (k : Nat) : ∀ (names : List Nat) (rows : List γ) (l : γ),
    (names.zip rows).lookup k = some l → ∃ p : Nat, names[p]? = some k ∧ rows[p]? = some l := by
  intro names
  induction names with
  | nil => intro rows l h; simp at h
  | cons n names ih =>
    intro rows l h
    cases rows with
    | nil => simp at h
    | cons r rows =>
      simp only [List.zip_cons_cons, List.lookup_cons] at h
      by_cases hk : (k == n) = true
      · simp only [hk, Option.some.injEq] at h
        exact ⟨0, by simpa using (beq_iff_eq.mp hk).symm, by simpa using h⟩
      · have hk' : (k == n) = false := by simpa using hk
        simp only [hk'] at h
        obtain ⟨p, h1, h2⟩ := ih rows l h
        exact ⟨p + 1, by simpa using h1, by simpa using h2⟩

theorem createEngines_objs_nodup (ensEng : List (List Nat)) (workers : Nat) :
    (createEngines ensEng workers).objs.flatten.Nodup := by
  unfold createEngines
  rw [createLoop_eq, C03.engineIds_flatten]
  exact List.nodup_range'

/-- **`ENGINES[k][i]` is injective**: two instance addresses that resolve to the same engine object are
    the same address (every object is built by one `create_engine` call: the rows of `engines` have no element in
    common, and no row lists an object twice) -/
theorem engineObj_inj (ensEng : List (List Nat)) (workers : Nat) (a b : Nat × Nat) (o : Nat)
    (ha : engineObj (createEngines ensEng workers) a = some o)
    (hb : engineObj (createEngines ensEng workers) b = some o) : a = b := by
  unfold engineObj objRow at ha hb
  obtain ⟨k1, i1⟩ := a
  obtain ⟨k2, i2⟩ := b
  simp only at ha hb
  cases h1 : ((createEngines ensEng workers).names.zip (createEngines ensEng workers).objs).lookup k1 with
  | none => rw [h1] at ha; simp at ha
  | some l1 =>
    cases h2 : ((createEngines ensEng workers).names.zip (createEngines ensEng workers).objs).lookup k2 with
    | none => rw [h2] at hb; simp at hb
    | some l2 =>
      rw [h1] at ha
      rw [h2] at hb
      simp only [Option.getD_some] at ha hb
      obtain ⟨p1, n1, r1⟩ := lookup_zip_pos k1 _ _ l1 h1
      obtain ⟨p2, n2, r2⟩ := lookup_zip_pos k2 _ _ l2 h2
      have hnd := createEngines_objs_nodup ensEng workers
      obtain rfl : p1 = p2 := flatten_nodup_unique hnd r1 r2 (List.mem_of_getElem? ha) (List.mem_of_getElem? hb)
      obtain rfl : k1 = k2 := Option.some.inj (n1.symm.trans n2)
      obtain rfl : l1 = l2 := Option.some.inj (r1.symm.trans r2)
      have hrow : l1.Nodup := (List.pairwise_flatten.mp hnd).1 l1 (List.mem_of_getElem? r1)
      rw [(List.getElem?_inj (getElem?_lt_of_some ha) hrow).mp (ha.trans hb.symm)]

end Infretis.Repex.Factory
