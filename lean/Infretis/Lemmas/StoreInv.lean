import Infretis.Lemmas.StoreDel
/-!
Invariants of the deletion model (C14, part B) and their preservation by `replace` (`good_replace`,
`olds_len_replace`), including a `replace` that raises (the state returned with an error is what is left on disk).  The
other operations: `good_finish`, `good_stale` in `StoreProt`, `good_restart` in `StoreRestart`; every step,
`C14.good_step`.
What `replace` does is said once, `replace_cases`: a KeyError, or the explicit state `replaced` with the outcome of
the delete block (`DelBlock`); `Good`, `Prot`, the lag and `NR` are read off it.
-/
namespace Infretis.Store

/-- every file that `load_path(load/p)` needs is there: order.txt, traj.txt, and the record of what
    traj.txt refers to EXISTS (`St.txt`, compared by the tie with the names in the real traj.txt after
    every call) and every trajectory file it names is on disk.
    [With `∀ adr, lookup p s.txt = some adr → …` for the third conjunct a path without a record would be
    vacuously intact, and a state whose live path has lost all its trajectory files would be `Good`:
    `C14.intact_needs_record`.] -/
def Intact (s : St) (p : Nat) : Prop :=
  DFile.txt p 0 ∈ s.disk ∧ DFile.txt p 1 ∈ s.disk ∧
    ∃ adr, lookup p s.txt = some adr ∧ ∀ a ∈ adr, DFile.acc p a ∈ s.disk

/-- `olds_dead`: only a replaced path that `qualifies` is queued, hence `n - 2 < q`.  `td_lt`: `replace` looks `pnOld`
    up in `traj_data` and gives the new path the number `trajNum`, so the path replaced is older than the one stored. -/
structure Good (s : St) : Prop where
  olds_dead : ∀ q ∈ keys s.pnOlds, q ∉ s.live ∧ (s.n : Int) - 2 < q ∧ q < s.trajNum
  live_lt : ∀ p ∈ s.live, p < s.trajNum
  td_lt : ∀ p ∈ keys s.trajData, p < s.trajNum
  live_intact : ∀ p ∈ s.live, Intact s p

theorem Intact.mono {s t : St} {p : Nat} (h : Intact s p) (htxt : lookup p t.txt = lookup p s.txt)
    (hd : ∀ g ∈ s.disk, g.pn = p → g ∈ t.disk) : Intact t p :=
  ⟨hd _ h.1 rfl, hd _ h.2.1 rfl, h.2.2.imp (fun _ ⟨hl, h2⟩ => ⟨htxt.trans hl, fun a ha => hd _ (h2 a ha) rfl⟩)⟩

theorem stored_disk (s : St) (pnOld : Nat) (files kept : List String) (g : DFile) (h : g ∈ s.disk) :
    g ∈ (stored s pnOld files kept).disk := by
  simp only [stored, storeNew]
  exact List.mem_append_right _ h

/-- the state a replacement leaves once `pnOld` has been looked up: the new path stored and registered; queue,
    files and directories as the delete block left them; the new path live in place of `pnOld` unless the
    block raised -/
def replaced (s : St) (pnOld : Nat) (files kept : List String) (olds : List (Nat × List String))
    (disk : List DFile) (dirs : List DDir) (e : Option Err) : St :=
  { stored s pnOld files kept with
    pnOlds := olds, disk := disk, dirs := dirs,
    live := if e = none then s.live.map (fun p => if p = pnOld then s.trajNum else p) else s.live }

/-- **What a replacement does**: a KeyError and nothing else, or `replaced` with the outcome of the delete block
    (`DelBlock`) run on the state with the new path stored.  Every fact about `replace` below is read off this. -/
theorem replace_cases (s : St) (pnOld : Nat) (files kept : List String) :
    (lookup pnOld s.trajData = none ∧ replace s pnOld files kept = (s, some .key)) ∨
    ∃ adr olds disk dirs e, lookup pnOld s.trajData = some adr ∧
      DelBlock s.delCfg (qualifies s pnOld) s.n pnOld adr s.pnOlds (stored s pnOld files kept).disk
        (stored s pnOld files kept).dirs olds disk dirs e ∧
      replace s pnOld files kept = (replaced s pnOld files kept olds disk dirs e, e) := by
  unfold replace
  cases hl : lookup pnOld s.trajData with
  | none => exact .inl ⟨rfl, rfl⟩
  | some adr =>
    obtain ⟨olds, disk, dirs, e, hb, he⟩ := delBlock_rel (stored s pnOld files kept) pnOld adr
    refine .inr ⟨adr, olds, disk, dirs, e, rfl, hb, ?_⟩
    simp only [he]
    cases e <;> rfl

/-- a replacement leaves the settings and the restart file alone -/
theorem replace_touches (s : St) (pnOld : Nat) (files kept : List String) :
    (replace s pnOld files kept).1 =
      { s with trajNum := (replace s pnOld files kept).1.trajNum, live := (replace s pnOld files kept).1.live,
               trajData := (replace s pnOld files kept).1.trajData, pnOlds := (replace s pnOld files kept).1.pnOlds,
               disk := (replace s pnOld files kept).1.disk, dirs := (replace s pnOld files kept).1.dirs,
               pending := (replace s pnOld files kept).1.pending, cnt := (replace s pnOld files kept).1.cnt,
               txt := (replace s pnOld files kept).1.txt } := by
  rcases replace_cases s pnOld files kept with ⟨_, he⟩ | ⟨_, _, _, _, _, _, _, he⟩
  · rw [he]
  · rw [he]
    rfl

/-- only the head of a full queue loses files, and only to a qualifying replacement -/
theorem replace_keeps (s : St) (pnOld : Nat) (files kept : List String) (g : DFile) (hg : g ∈ s.disk)
    (hn : ¬ Pops s pnOld g.pn) : g ∈ (replace s pnOld files kept).1.disk := by
  rcases replace_cases s pnOld files kept with ⟨_, he⟩ | ⟨_, _, _, _, _, _, hb, he⟩ <;> rw [he]
  · exact hg
  · exact hb.keeps g (stored_disk s pnOld files kept g hg) hn

theorem replace_intact (s : St) (pnOld : Nat) (files kept : List String) (p : Nat)
    (hp : p < s.trajNum) (hh : ¬ Pops s pnOld p) (hi : Intact s p) : Intact (replace s pnOld files kept).1 p := by
  refine hi.mono ?_ (fun g hg hgp => replace_keeps s pnOld files kept g hg (hgp ▸ hh))
  rcases replace_cases s pnOld files kept with ⟨_, he⟩ | ⟨_, _, _, _, _, _, _, he⟩
  · rw [he]
  · rw [he]
    exact lookup_cons_ne p s.trajNum files s.txt (by omega)

theorem replace_new_intact (s : St) (hg : Good s) (pnOld : Nat) (files kept : List String)
    (hk : lookup pnOld s.trajData ≠ none) : Intact (replace s pnOld files kept).1 s.trajNum := by
  rcases replace_cases s pnOld files kept with ⟨h0, _⟩ | ⟨_, _, disk, _, _, _, hb, he⟩
  · exact absurd h0 hk
  rw [he]
  have keep : ∀ g ∈ (stored s pnOld files kept).disk, g.pn = s.trajNum → g ∈ disk := fun g hgd hgp =>
    hb.keeps g hgd (fun h => Nat.lt_irrefl _ (hgp ▸ (hg.olds_dead _ (Pops.mem_keys h)).2.2))
  refine ⟨keep _ (by simp [stored, storeNew]) rfl, keep _ (by simp [stored, storeNew]) rfl, files,
    by simp [replaced, stored, storeNew, lookup], fun a ha => keep _ ?_ rfl⟩
  simp only [stored, storeNew]
  exact List.mem_append_left _ (List.mem_append_right _ (List.mem_map_of_mem (List.mem_append_left _ ha)))

theorem qualifies_gt (s : St) (p : Nat) (h : qualifies s p = true) : (s.n : Int) - 2 < p := by
  simp only [qualifies, Bool.and_eq_true, decide_eq_true_eq] at h
  omega

theorem mem_live_map (live : List Nat) (pnOld N q : Nat) (h : q ∈ live.map (fun p => if p = pnOld then N else p)) :
    q = N ∨ (q ∈ live ∧ q ≠ pnOld) := by
  obtain ⟨p, hp, rfl⟩ := List.mem_map.mp h
  by_cases hpo : p = pnOld
  · left; simp [hpo]
  · right; simp only [hpo, if_false]; exact ⟨hp, hpo⟩

theorem mem_replaced_live {s : St} {pnOld : Nat} {files kept : List String} {olds : List (Nat × List String)}
    {disk : List DFile} {dirs : List DDir} {e : Option Err} {q : Nat}
    (h : q ∈ (replaced s pnOld files kept olds disk dirs e).live) :
    (q = s.trajNum ∧ e = none) ∨ (q ∈ s.live ∧ (e = none → q ≠ pnOld)) := by
  simp only [replaced] at h
  split at h
  · rename_i he
    exact (mem_live_map _ _ _ _ h).imp (fun h => ⟨h, he⟩) (fun h => ⟨h.1, fun _ => h.2⟩)
  · rename_i he
    exact .inr ⟨h, fun h' => absurd h' he⟩

theorem good_replace (s : St) (hg : Good s) (pnOld : Nat) (files kept : List String) :
    Good (replace s pnOld files kept).1 := by
  have old : ∀ p ∈ s.live, Intact (replace s pnOld files kept).1 p := fun p hp =>
    replace_intact s pnOld files kept p (hg.live_lt p hp) (fun h => (hg.olds_dead p h.mem_keys).1 hp) (hg.live_intact p hp)
  have new := replace_new_intact s hg pnOld files kept
  rcases replace_cases s pnOld files kept with ⟨_, he⟩ | ⟨adr, olds, disk, dirs, e, hlk, hb, he⟩
  · rw [he]; exact hg
  rw [he] at old new ⊢
  show Good (replaced s pnOld files kept olds disk dirs e)
  have hpo : pnOld < s.trajNum := hg.td_lt pnOld (lookup_keys _ _ _ hlk)
  have htn : (replaced s pnOld files kept olds disk dirs e).trajNum = s.trajNum + 1 := rfl
  refine ⟨fun q hq => ?_, fun p hp => ?_, fun p hp => ?_, fun p hp => ?_⟩
  · rw [htn]
    rcases hb.keys_sub q hq with h | ⟨rfl, hq', rfl⟩
    · obtain ⟨h1, h2, h3⟩ := hg.olds_dead q h
      refine ⟨fun hm => ?_, h2, by omega⟩
      rcases mem_replaced_live hm with ⟨h, _⟩ | ⟨h, _⟩
      · omega
      · exact h1 h
    · refine ⟨fun hm => ?_, qualifies_gt s q hq', by omega⟩
      rcases mem_replaced_live hm with ⟨h, _⟩ | ⟨_, h⟩
      · omega
      · exact h rfl rfl
  · rw [htn]
    rcases mem_replaced_live hp with ⟨h, _⟩ | ⟨h, _⟩
    · omega
    · have := hg.live_lt p h; omega
  · change p ∈ s.trajNum :: keys s.trajData at hp
    rw [htn]
    rcases List.mem_cons.mp hp with h | h
    · omega
    · have := hg.td_lt p h; omega
  · rcases mem_replaced_live hp with ⟨rfl, _⟩ | ⟨h, _⟩
    · exact new (by rw [hlk]; simp)
    · exact old p h

theorem olds_len_replace (s : St) (hlen : s.pnOlds.length + 1 ≤ s.n) (pnOld : Nat) (files kept : List String) :
    (replace s pnOld files kept).1.pnOlds.length + 1 ≤ (replace s pnOld files kept).1.n := by
  rcases replace_cases s pnOld files kept with ⟨_, he⟩ | ⟨_, _, _, _, _, _, hb, he⟩ <;> rw [he]
  · exact hlen
  show _ + 1 ≤ s.n
  cases hb with
  | skip _ | raise _ _ _ _ _ _ _ => exact hlen
  | push _ hl =>
    show (dictSet _ _ _).length + 1 ≤ _
    rw [length_dictSet]
    split <;> omega
  | pop pd adrd rest _ _ _ _ ho _ _ =>
    have : s.pnOlds.length = rest.length + 1 := congrArg List.length ho
    show List.length (ite _ _ _) + 1 ≤ _
    split
    · rw [length_dictSet]; split <;> omega
    · omega

end Infretis.Store
