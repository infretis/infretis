import Infretis.Lemmas.EngineLoopsPath
/-!
The GROMACS loop (C12): the consumer loop alone (`gmxRun`) and with `GromacsRunner` at tick level (`gmxExt`), every
schedule: the path is closed, a failure raises, mdrun is stopped.
-/
namespace Infretis.EngineLoops
open Infretis.Engine

theorem gmxVelSeen_eq (rev : Bool) (v : Int) : gmxVelSeen rev v = v := by
  cases rev <;> simp [gmxVelSeen, velSeen]

def gmxEnt (gv : Variant) (c : Cfg) (frames : List Frame) (k : Nat) (e : Entry) : Prop :=
  ∃ f, frames[k]? = some f ∧ e = gmxEntry gv c k f

theorem gmxGo_closed (gv : Variant) (c : Cfg) (all : List Frame) :
    ∀ (rest : List Frame) (i : Nat) (es : List Entry) (succ : Bool) (st : Option PStatus),
      Open c (gmxEnt gv c all) es succ → i = es.length → rest <+: all.drop i →
      Closed c (gmxEnt gv c all) (gmxGo gv c rest i es succ st).es (gmxGo gv c rest i es succ st).success := by
  intro rest
  induction rest with
  | nil => intro i es succ st h _ _; exact h.closed
  | cons f rest ih =>
    intro i es succ st h hi hrest
    obtain ⟨hf, hrest'⟩ := cons_prefix_drop _ _ _ _ hrest
    simp only [gmxGo]
    rw [gmxRecord_eq_push]
    cases hp : push c es (gmxEntry gv c i f) with
    | none => exact h.closed
    | some pr =>
      obtain ⟨es', r⟩ := pr
      obtain ⟨e1, hc, ho⟩ := push_step h ⟨f, hi ▸ hf, by rw [hi]⟩ hp
      simp only
      split
      · exact hc
      · rename_i hs
        exact ih _ _ _ _ (ho (by simpa using hs)) (by simp [e1, hi]) hrest'

theorem gmxRun_closed (gv : Variant) (c : Cfg) (frames : List Frame) :
    Closed c (gmxEnt gv c frames) (gmxRun gv c frames).es (gmxRun gv c frames).success :=
  gmxGo_closed gv c frames frames 0 [] false none (Open.nil _ _) rfl (List.prefix_refl _)

theorem gmxRun_path_eq_feed (gv : Variant) (c : Cfg) (frames : List Frame) :
    FeedOK c (gmxRun gv c frames).es (gmxRun gv c frames).success :=
  (gmxRun_closed gv c frames).feed

theorem gmxWait_spec (sched : Sched) (code : Int) :
    ∀ (fuel : Nat) (s s' : XState) (e : Option Err), gmxWait sched code fuel s = some (s', e) →
      ∃ t' w d, s' = { s with t := t', cur := w, dead := d } ∧
        (∀ err, e = some err → s'.dead = true ∧ err = .runtime) := by
  intro fuel
  induction fuel with
  | zero => intro s s' e h; simp [gmxWait] at h
  | succ fuel ih =>
    intro s s' e h
    simp only [gmxWait] at h
    split at h
    · cases h
      exact ⟨s.t, s.cur, s.dead, rfl, fun _ h => by cases h⟩
    · obtain ⟨d, hp, _⟩ := poll_spec sched (tick sched s)
      rw [hp] at h
      simp only at h
      split at h
      · obtain ⟨t', w, d', e1, h2⟩ := ih _ _ _ h
        exact ⟨t', w, d', e1, h2⟩
      · rename_i ha
        have hd : d = true := by simpa using ha
        split at h <;> cases h
        · exact ⟨_, _, d, rfl, fun _ h => by cases h; exact ⟨hd, rfl⟩⟩
        · exact ⟨_, _, d, rfl, fun _ h => by cases h⟩

structure GInv (gv : Variant) (c : Cfg) (frames : List Frame) (s : XState) : Prop where
  path : Open c (gmxEnt gv c frames) s.es s.success
  step : s.stepNr = s.es.length
  rp : s.rp = s.stepNr

def GFin (gv : Variant) (c : Cfg) (frames : List Frame) (s : XState) : Prop :=
  Closed c (gmxEnt gv c frames) s.es s.success

theorem gmxConsume_spec {gv : Variant} {c : Cfg} {frames : List Frame} {s s' : XState} {f : Frame} {stop : Bool}
    (h : GInv gv c frames s) (hf : frames[s.rp]? = some f) (hc : gmxConsume gv c s f = some (s', stop)) :
    GFin gv c frames s' ∧ (stop = false → GInv gv c frames s' ∧ s'.rp = s.rp + 1) ∧
      (stop = true → s'.terminated = true) := by
  simp only [gmxConsume, gmxRecord_eq_push] at hc
  cases hrec : push c s.es (gmxEntry gv c s.stepNr f) with
  | none => simp [hrec] at hc
  | some pr =>
    obtain ⟨es', r⟩ := pr
    obtain ⟨e1, hcl, ho⟩ := push_step h.path ⟨f, by rw [← h.step, ← h.rp]; exact hf, by rw [h.step]⟩ hrec
    simp only [hrec] at hc
    cases hs : r.stop with
    | true =>
      simp only [hs, if_true, Option.some.injEq, Prod.mk.injEq] at hc
      obtain ⟨rfl, rfl⟩ := hc
      exact ⟨hcl, fun hh => Bool.noConfusion hh, fun _ => rfl⟩
    | false =>
      simp only [hs, Bool.false_eq_true, if_false, Option.some.injEq, Prod.mk.injEq] at hc
      obtain ⟨rfl, rfl⟩ := hc
      exact ⟨hcl, fun _ => ⟨⟨ho hs, by simp [e1, h.step], by simp [h.rp]⟩, rfl⟩, fun hh => by cases hh⟩

theorem gmxDrain_closed (gv : Variant) (c : Cfg) (frames : List Frame) :
    ∀ (L : List Frame) (s : XState), GInv gv c frames s → L <+: frames.drop s.rp →
      GFin gv c frames (gmxDrain gv c L s).1 := by
  intro L
  induction L with
  | nil => intro s h _; exact h.path.closed
  | cons f rest ih =>
    intro s h hL
    obtain ⟨hf, hrest⟩ := cons_prefix_drop _ _ _ _ hL
    simp only [gmxDrain]
    cases hc : gmxConsume gv c s f with
    | none => exact h.path.closed
    | some pr =>
      obtain ⟨s', stop⟩ := pr
      obtain ⟨g1, g2, _⟩ := gmxConsume_spec h hf hc
      simp only
      cases stop with
      | true => exact g1
      | false => exact ih s' (g2 rfl).1 (by rw [(g2 rfl).2]; exact hrest)

/-- with a non-zero exit code the only normal end of `get_gromacs_frames` is the consumer's `break` -/
theorem gmxFrames_spec (gv : Variant) (c : Cfg) (sched : Sched) (code : Int) (need0 : Nat) (frames : List Frame) :
    ∀ (fuel : Nat) (s : XState), GInv gv c frames s →
      GFin gv c frames (gmxFrames gv c sched code need0 frames fuel s).1 ∧
      (code ≠ 0 → (gmxFrames gv c sched code need0 frames fuel s).2 = none →
        (gmxFrames gv c sched code need0 frames fuel s).1.terminated = true) := by
  intro fuel
  induction fuel with
  | zero => intro s h; exact ⟨h.path.closed, fun _ h => by cases h⟩
  | succ fuel ih =>
    intro s h
    simp only [gmxFrames]
    obtain ⟨d, hp, _⟩ := poll_spec sched s
    rw [hp]
    simp only
    have h1 : GInv gv c frames { s with t := s.t + 1, cur := sched s.t, dead := d } := ⟨h.path, h.step, h.rp⟩
    split
    · split
      · exact ⟨h1.path.closed, fun _ h => by cases h⟩
      · rename_i hc
        refine ⟨gmxDrain_closed gv c frames _ _ h1 ?_, fun hc' => absurd hc' hc⟩
        rw [List.drop_take]
        exact List.take_prefix _ _
    · generalize (if s.rp = 0 then need0 else 1) = need
      split
      · cases hf : frames[s.rp]? with
        | none => exact ⟨h1.path.closed, fun _ h => by cases h⟩
        | some f =>
          simp only
          cases hc : gmxConsume gv c { s with t := s.t + 1, cur := sched s.t, dead := d } f with
          | none => exact ⟨h1.path.closed, fun _ h => by cases h⟩
          | some pr =>
            obtain ⟨s', stop⟩ := pr
            obtain ⟨g1, g2, g3⟩ := gmxConsume_spec h1 hf hc
            simp only
            cases stop with
            | true => exact ⟨g1, fun _ _ => g3 rfl⟩
            | false => exact ih s' (g2 rfl).1
      · exact ih _ ⟨h1.path, h1.step, h1.rp⟩

theorem GInv.init (gv : Variant) (c : Cfg) (frames : List Frame) : GInv gv c frames XState.init :=
  ⟨Open.nil _ _, rfl, rfl⟩

theorem GInv.wait {gv : Variant} {c : Cfg} {frames : List Frame} {sched : Sched} {code : Int} {fuel : Nat}
    {s s' : XState} {e : Option Err} (h : GInv gv c frames s) (hw : gmxWait sched code fuel s = some (s', e)) :
    GInv gv c frames s' := by
  obtain ⟨t', w, d, rfl, _⟩ := gmxWait_spec sched code fuel _ _ _ hw
  exact ⟨h.path, h.step, h.rp⟩

structure GmxPost (gv : Variant) (c : Cfg) (frames : List Frame) (code : Int) (R : Result) : Prop where
  /-- the path records the frames mdrun wrote, in order, each once, own coordinates and box, velocity as `gmxVel`
      says, and equals `feed` of its own order values -/
  closed : Closed c (gmxEnt gv c frames) R.es R.success
  /-- any non-zero return code collected by `check_poll` raises RuntimeError: a normal return with `code ≠ 0` is
      only possible after `add_to_path` said stop -/
  nonzero : code ≠ 0 → R.raised = none → R.terminated = true
  /-- mdrun is stopped whenever propagate returns or raises (anything but the model's out-of-fuel): `stop()` runs
      on leaving the `with` block, and an exception in `start()` is only raised for a collected return code -/
  stopped : R.raised ≠ some .fuel → R.dead = true

theorem GmxPost.raise {gv : Variant} {c : Cfg} {frames : List Frame} {code : Int} {s : XState} (e : Err)
    (hc : GFin gv c frames s) (hd : e = .fuel ∨ s.dead = true) : GmxPost gv c frames code (s.result (some e)) := by
  refine ⟨hc, fun _ h => (by cases h), fun h => ?_⟩
  rcases hd with rfl | hd
  · exact absurd rfl h
  · exact hd

theorem gmxExt_spec (gv : Variant) (c : Cfg) (sched : Sched) (code : Int) (need0 : Nat) (frames : List Frame)
    (fuel : Nat) : GmxPost gv c frames code (gmxExt gv c sched code need0 frames fuel) := by
  have h0 := GInv.init gv c frames
  unfold gmxExt
  cases hw1 : gmxWait sched code fuel XState.init with
  | none => exact .raise _ h0.path.closed (Or.inl rfl)
  | some p1 =>
    obtain ⟨s1, e1⟩ := p1
    have hi1 := h0.wait hw1
    obtain ⟨_, _, _, _, hd1⟩ := gmxWait_spec sched code fuel _ _ _ hw1
    cases e1 with
    | some e => exact .raise _ hi1.path.closed (Or.inr (hd1 e rfl).1)
    | none =>
      simp only
      cases hw2 : gmxWait sched code fuel s1 with
      | none => exact .raise _ hi1.path.closed (Or.inl rfl)
      | some p2 =>
        obtain ⟨s2, e2⟩ := p2
        have hi2 := hi1.wait hw2
        obtain ⟨_, _, _, _, hd2⟩ := gmxWait_spec sched code fuel _ _ _ hw2
        cases e2 with
        | some e => exact .raise _ hi2.path.closed (Or.inr (hd2 e rfl).1)
        | none =>
          simp only
          cases hfiles : (s1.cur.file && s2.cur.file) with
          | false => exact .raise _ hi2.path.closed (Or.inr rfl)
          | true =>
            obtain ⟨hF1, hF2⟩ := gmxFrames_spec gv c sched code need0 frames fuel s2 hi2
            simp only [if_true]
            generalize gmxFrames gv c sched code need0 frames fuel s2 = se at hF1 hF2
            obtain ⟨s3, e⟩ := se
            rcases e with _ | e
            · exact ⟨hF1, fun hc _ => hF2 hc rfl, fun _ => rfl⟩
            · cases e with
              | fuel => exact .raise _ hF1 (Or.inl rfl)
              | _ => exact .raise _ hF1 (Or.inr rfl)

end Infretis.EngineLoops
