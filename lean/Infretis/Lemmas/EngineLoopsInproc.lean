import Infretis.Lemmas.EngineLoopsPath
/-!
The in-process loop (ASE, TurtleMD): its path is closed, whatever the loop maintains between its variable `i` and
the step number; with `subcycles ≥ 1` the `k`-th entry is the system after `k·subcycles` steps (C12).

It runs long enough: with `subcycles ≥ 1` and a length limit `≥ 1` the loop of ASE (`range(subcycles * maxlen)`) and
TurtleMD (`subcycles * maxlen + 1` systems) reaches the sample with index `maxlen − 1` unless `add_to_path` said stop
before — so the path ends exactly at the first outside frame or at the limit, never earlier.  (A bound
`subcycles * (maxlen − 1)` would make `inprocGo_stops_at` false.)
-/
namespace Infretis.EngineLoops
open Infretis.Engine

def sampleEnt (c : Cfg) (sub : Nat) (micro : Nat → Frame) (k : Nat) (e : Entry) : Prop :=
  e = mkEntry c k (micro (k * sub)).cid (micro (k * sub)).bid (micro (k * sub)).vel

/-- `L i n`: what the loop maintains between its variable `i` and the step number `n`; `ent` may use it when a
    frame is recorded.  (`L` trivial gives the path-equals-feed part for `subcycles = 0` as well.) -/
theorem inprocGo_closed (c : Cfg) (sub : Nat) (micro : Nat → Frame) (ent : Nat → Entry → Prop) (L : Nat → Nat → Prop)
    (hrec : ∀ i n, L i n → i % sub = 0 →
      ent n (mkEntry c n (micro i).cid (micro i).bid (micro i).vel) ∧ L (i + 1) (n + 1))
    (hskip : ∀ i n, L i n → i % sub ≠ 0 → L (i + 1) n) :
    ∀ (fuel i n : Nat) (es : List Entry) (succ : Bool) (st : Option PStatus),
      Open c ent es succ → n = es.length → L i n →
      Closed c ent (inprocGo c sub micro fuel i n es succ st).es (inprocGo c sub micro fuel i n es succ st).success := by
  intro fuel
  induction fuel with
  | zero => intro i n es succ st h _ _; exact h.closed
  | succ fuel ih =>
    intro i n es succ st h hn hL
    simp only [inprocGo]
    split
    · rename_i hmod
      obtain ⟨he, hL'⟩ := hrec i n hL hmod
      rw [record_eq_push]
      cases hp : push c es (mkEntry c n (micro i).cid (micro i).bid (micro i).vel) with
      | none => exact h.closed
      | some pr =>
        obtain ⟨es', r⟩ := pr
        obtain ⟨e1, hc, ho⟩ := push_step h (hn ▸ he) hp
        simp only
        split
        · exact hc
        · rename_i hs
          exact ih _ _ _ _ _ (ho (by simpa using hs)) (by simp [e1, hn]) hL'
    · rename_i hmod
      exact ih _ _ _ _ _ h hn (hskip i n hL hmod)

theorem inproc_closed (c : Cfg) (sub : Nat) (micro : Nat → Frame) (ase : Bool) (ent : Nat → Entry → Prop)
    (L : Nat → Nat → Prop)
    (hrec : ∀ i n, L i n → i % sub = 0 →
      ent n (mkEntry c n (micro i).cid (micro i).bid (micro i).vel) ∧ L (i + 1) (n + 1))
    (hskip : ∀ i n, L i n → i % sub ≠ 0 → L (i + 1) n) (h0 : L 0 0) :
    Closed c ent (inproc c sub micro ase).es (inproc c sub micro ase).success := by
  unfold inproc
  simp only
  generalize (if ase = true then sub * c.maxlen else sub * c.maxlen + 1) = n
  split
  · exact (Open.nil c ent).closed
  · exact inprocGo_closed c sub micro ent L hrec hskip _ 0 0 [] false none (Open.nil c ent) rfl h0

theorem inproc_path_eq_feed (c : Cfg) (sub : Nat) (micro : Nat → Frame) (ase : Bool) :
    FeedOK c (inproc c sub micro ase).es (inproc c sub micro ase).success :=
  (inproc_closed c sub micro ase (fun _ _ => True) (fun _ _ => True) (fun _ _ _ _ => ⟨trivial, trivial⟩)
    (fun _ _ _ _ => trivial) trivial).feed

theorem first_multiple (i m sub : Nat) (hdiv : sub ∣ m) (h1 : i ≤ m) (h2 : m < i + sub)
    (hmod : i % sub = 0) : i = m := by
  have hd : sub ∣ m - i := Nat.dvd_sub hdiv (Nat.dvd_of_mod_eq_zero hmod)
  have := Nat.eq_zero_of_dvd_of_lt hd (by omega)
  omega

/-- the loop keeps `n·subcycles` the first multiple of `subcycles` at or after `i` -/
theorem inproc_sampled (c : Cfg) (sub : Nat) (hsub : 0 < sub) (micro : Nat → Frame) (ase : Bool) :
    Tracks (sampleEnt c sub micro) (inproc c sub micro ase).es := by
  refine (inproc_closed c sub micro ase (sampleEnt c sub micro) (fun i n => i ≤ n * sub ∧ n * sub < i + sub)
    ?_ ?_ ⟨by simp, by simpa using hsub⟩).tracks
  · intro i n ⟨h1, h2⟩ hmod
    have hi : i = n * sub := first_multiple i (n * sub) sub (Nat.dvd_mul_left _ _) h1 h2 hmod
    refine ⟨by rw [hi]; rfl, ?_⟩
    rw [Nat.succ_mul]
    omega
  · intro i n ⟨h1, h2⟩ hmod
    have : i ≠ n * sub := fun e => hmod (by rw [e]; exact Nat.mul_mod_left _ _)
    omega

/-- the order parameter of the `k`-th sample (the system after `k·subcycles` steps) as the loop computes it -/
def sampleOrd (c : Cfg) (sub : Nat) (micro : Nat → Frame) (k : Nat) : Int :=
  (mkEntry c k (micro (k * sub)).cid (micro (k * sub)).bid (micro (k * sub)).vel).order

def Outside (c : Cfg) (x : Int) : Prop := x < c.left ∨ x > c.right

theorem inprocGo_stops_at (c : Cfg) (sub : Nat) (micro : Nat → Frame) (f : Nat) (hf : f < c.maxlen)
    (hin : ∀ k, k < f → ¬ Outside c (sampleOrd c sub micro k))
    (hstop : Outside c (sampleOrd c sub micro f) ∨ f + 1 = c.maxlen) :
    ∀ (fuel i s : Nat) (es : List Entry) (succ : Bool) (st : Option PStatus),
      s = es.length → i ≤ s * sub → s * sub < i + sub → s ≤ f → f * sub < i + fuel →
      (inprocGo c sub micro fuel i s es succ st).es.length = f + 1 ∧
      (inprocGo c sub micro fuel i s es succ st).raised = none ∧
      ((inprocGo c sub micro fuel i s es succ st).success = true ↔ Outside c (sampleOrd c sub micro f)) := by
  intro fuel
  induction fuel with
  | zero =>
    intro i s es succ st _ h1 _ hsf hfuel
    exfalso
    have : s * sub ≤ f * sub := Nat.mul_le_mul_right _ hsf
    omega
  | succ fuel ih =>
    intro i s es succ st hlen h1 h2 hsf hfuel
    simp only [inprocGo]
    split
    · rename_i hmod
      have hi : i = s * sub := first_multiple i (s * sub) sub (Nat.dvd_mul_left _ _) h1 h2 hmod
      obtain ⟨res, hrec, hst, hsu⟩ := push_fits c es (mkEntry c s (micro i).cid (micro i).bid (micro i).vel)
        (by omega)
      rw [record_eq_push, hrec]
      simp only
      have hord : (mkEntry c s (micro i).cid (micro i).bid (micro i).vel).order = sampleOrd c sub micro s := by
        rw [hi]; rfl
      rw [hord] at hst hsu
      by_cases hsf' : s = f
      · subst hsf'
        have hstop' : res.stop = true := hst.2 (or_assoc.mp (hstop.imp id (fun h => by omega)))
        simp only [hstop', if_true]
        refine ⟨by simp [hlen], trivial, ?_⟩
        rw [hsu]; rfl
      · have hlt : s < f := by omega
        have hns : res.stop = false :=
          Bool.eq_false_iff.mpr (fun hr => (or_assoc.mpr (hst.mp hr)).elim (hin s hlt) (fun h => by omega))
        simp only [hns, Bool.false_eq_true, if_false]
        apply ih
        · simp [hlen]
        · rw [Nat.succ_mul]; omega
        · rw [Nat.succ_mul]; omega
        · omega
        · omega
    · rename_i hmod
      apply ih _ _ _ _ _ hlen
      · have : i ≠ s * sub := by
          intro e; apply hmod; rw [e]; exact Nat.mul_mod_left _ _
        omega
      · omega
      · exact hsf
      · omega

/-- **the loop bound suffices**: `inproc` (ASE and TurtleMD) stops exactly at `f`, the first sample that is outside
    the interfaces or has index `maxlen − 1` -/
theorem inproc_stops_at (c : Cfg) (sub : Nat) (hsub : 0 < sub) (micro : Nat → Frame) (ase : Bool) (f : Nat)
    (hf : f < c.maxlen) (hin : ∀ k, k < f → ¬ Outside c (sampleOrd c sub micro k))
    (hstop : Outside c (sampleOrd c sub micro f) ∨ f + 1 = c.maxlen) :
    (inproc c sub micro ase).es.length = f + 1 ∧ (inproc c sub micro ase).raised = none ∧
    ((inproc c sub micro ase).success = true ↔ Outside c (sampleOrd c sub micro f)) := by
  -- the loop bound reaches sample `f`: `f·sub + sub ≤ maxlen·sub`
  have hb : f * sub < sub * c.maxlen := by
    have : (f + 1) * sub ≤ c.maxlen * sub := Nat.mul_le_mul_right _ hf
    rw [Nat.succ_mul, Nat.mul_comm c.maxlen] at this
    omega
  have hn : f * sub < (if ase = true then sub * c.maxlen else sub * c.maxlen + 1) := by split <;> omega
  unfold inproc
  simp only
  generalize (if ase = true then sub * c.maxlen else sub * c.maxlen + 1) = n at hn
  have h0 : (ase && n == 0) = false := by
    have : n ≠ 0 := by omega
    simp [this]
  simp only [h0, Bool.false_eq_true, if_false]
  exact inprocGo_stops_at c sub micro f hf hin hstop n 0 0 [] false none rfl (by simp) (by simpa using hsub)
    (by omega) (by omega)

end Infretis.EngineLoops
