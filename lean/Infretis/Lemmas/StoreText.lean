import Infretis.Model.StoreText
import Infretis.Lemmas.StoreWs
/-!
Helper lemmas for C14 at the text level (`Infretis/Model/StoreText.lean`): rounding, padding and
splitting, `int()` / `float()` on what the formatters write, blank lines.
-/
namespace Infretis.StoreText
-- white space: the definitions and lemmas of Model/StoreWs.lean + Lemmas/StoreWs.lean (Python's complete set), not Codec's
open Infretis.Codec hiding Err Line Text isWs lstrip rstrip strip splitWs NoWs fmtCore_noWs NoBrk_of_noWs splitWs_eq_split isWs_blank splitWs_strip

/-! ### `'{:.6f}'`: the rounding rule -/

theorem round6_exact (m : Nat) : round6 m 1000000 = m := by
  unfold round6
  simp only [Nat.mul_mod_left, Nat.mul_zero, Nat.zero_lt_succ, if_true]
  omega

theorem round6_def (n d : Nat) : round6 n d =
    (if 2 * (n * 1000000 % d) < d then n * 1000000 / d
     else if d < 2 * (n * 1000000 % d) then n * 1000000 / d + 1
     else if (n * 1000000 / d) % 2 = 0 then n * 1000000 / d else n * 1000000 / d + 1) := rfl

/-- the written decimal is within half a unit of the sixth decimal of the value:
    `|round6 n d · d − n·10⁶| ≤ d/2`, i.e. `|round6 n d · 10⁻⁶ − n/d| ≤ ½·10⁻⁶` -/
theorem round6_err (n d : Nat) (hd : 0 < d) :
    2 * (round6 n d * d) ≤ 2 * (n * 1000000) + d ∧ 2 * (n * 1000000) ≤ 2 * (round6 n d * d) + d := by
  rw [round6_def]
  have h1 := Nat.div_add_mod (n * 1000000) d
  have h2 := Nat.mod_lt (n * 1000000) hd
  generalize (n * 1000000) / d = q at *
  generalize (n * 1000000) % d = r at *
  have hq : q * d = d * q := Nat.mul_comm _ _
  have hq1 : (q + 1) * d = d * q + d := by rw [Nat.add_mul, Nat.one_mul, hq]
  split
  · rw [hq]; omega
  · split
    · rw [hq1]; omega
    · split
      · rw [hq]; omega
      · rw [hq1]; omega

theorem round6_exact_iff (n d : Nat) (hd : 0 < d) : round6 n d * d = n * 1000000 ↔ d ∣ n * 1000000 := by
  constructor
  · intro h; exact ⟨round6 n d, by rw [← h, Nat.mul_comm]⟩
  · intro h
    have hm : (n * 1000000) % d = 0 := Nat.mod_eq_zero_of_dvd h
    unfold round6
    simp only [hm, Nat.mul_zero, hd, if_true]
    exact Nat.div_mul_cancel h

/-- a token: non-empty and free of white space — of EVERY character `str.split()` separates at
    (`isWs` of Model/StoreWs.lean: the ten ASCII ones, U+0085, U+00A0, U+1680, U+2000–200A, U+2028,
    U+2029, U+202F, U+205F, U+3000).  [With `Infretis.Codec.NoWs` (ASCII white space only) as the guard
    the text-level round trip is FALSE of the real code for a name such as "a\u00a0b.xyz" — see
    `C14.roundtrip_text_nbsp_in_name_counterexample`.] -/
def Tokn (t : Str) : Prop := t ≠ [] ∧ NoWs t

theorem tokn_natDigits (n : Nat) : Tokn (natDigits n) :=
  ⟨natDigits_ne_nil n, fun c hc => numChars_noWs c (by simp [numChars, natDigits_mem n c hc])⟩

theorem tokn_intDigits (z : Int) : Tokn (intDigits z) :=
  ⟨intDigits_ne_nil z, fun c hc => numChars_noWs c (intDigits_mem z c hc)⟩

/-- the unpadded text of a written float -/
def tokF : FVal → Str
  | .dec d => fmtCore 6 d
  | .nan => nanStr
  | .inf neg => if neg then ninfStr else infStr

theorem tokn_tokF (v : FVal) : Tokn (tokF v) := by
  cases v with
  | dec d => exact ⟨fmtCore_ne_nil 6 d, fmtCore_noWs 6 d⟩
  | nan => exact ⟨by decide, by unfold NoWs; decide⟩
  | inf neg => cases neg <;> exact ⟨by decide, by unfold NoWs; decide⟩

theorem fmtF_eq (w : Nat) (x : FIn) : fmtF w x = padL w (tokF (written x)) := by
  unfold fmtF
  cases written x <;> rfl

theorem split_padL (w : Nat) {tok rest : Str} (ht : Tokn tok) (hr : Lex.Ends isWs rest) :
    Lex.split isWs (padL w tok ++ rest) = tok :: Lex.split isWs rest := by
  rw [padL, List.append_assoc, Lex.split_pad isWs_blank _ ht hr]

theorem split_joinSp_padL (ps : List (Nat × Str)) (h : ∀ p ∈ ps, Tokn p.2) :
    Lex.split isWs (joinSp (ps.map (fun p => padL p.1 p.2))) = ps.map (·.2) := by
  have := split_joinSp_pad isWs_blank ps h Lex.Ends.nil
  rw [List.append_nil] at this
  exact this.trans (List.append_nil _)

theorem isCommentT_eq (l : Str) : isCommentT l = ((lstrip l).head? == some '#') :=
  congrArg (· == some '#') (Lex.head?_strip (ws := isWs) l)

theorem isCommentT_padL (w : Nat) (tok rest : Str) (ht : Tokn tok) (hh : tok.head? ≠ some '#') :
    isCommentT (padL w tok ++ rest) = false := by
  cases tok with
  | nil => exact absurd rfl ht.1
  | cons a t =>
    have : lstrip (padL w (a :: t) ++ rest) = a :: t ++ rest := by
      rw [padL, List.append_assoc]
      exact (Lex.lstrip_blank (Lex.blank_replicate isWs_blank _) _).trans
        (Lex.lstrip_ends (fun c e => by cases e; exact ht.2 _ (by simp)))
    rw [isCommentT_eq, this]
    simpa using hh

theorem head_natDigits_ne_hash (n : Nat) : (natDigits n).head? ≠ some '#' := by
  intro h
  cases hd : natDigits n with
  | nil => simp [hd] at h
  | cons c t =>
    simp only [hd, List.head?_cons, Option.some.injEq] at h
    have := natDigits_mem n c (by simp [hd])
    subst h
    revert this
    decide

theorem pyInt_natDigits (n : Nat) : pyInt (natDigits n) = some (n : Int) := by
  cases hd : natDigits n with
  | nil => exact absurd hd (natDigits_ne_nil n)
  | cons c t =>
    have hc : c ≠ '-' := (digs_props c (natDigits_mem n c (by simp [hd]))).1
    unfold pyInt
    simp only [hc, if_false]
    rw [← hd, natDigits_val]
    rfl

theorem pyInt_intDigits (z : Int) : pyInt (intDigits z) = some z := by
  unfold intDigits
  split
  · rename_i hz
    unfold pyInt
    simp only [if_true, natDigits_ne_nil, if_false, natDigits_val]
    show some (-(z.natAbs : Int)) = some z
    congr 1
    omega
  · rename_i hz
    rw [pyInt_natDigits]
    congr 1
    omega

/-- `nan`, `inf` and `-inf` hold an `n`, a written decimal does not -/
theorem fmtCore_ne_of_n (d : Dec) (s : Str) (hs : 'n' ∈ s) : fmtCore 6 d ≠ s := by
  intro h
  have := fmtCore_mem 6 d 'n' (h ▸ hs)
  revert this
  decide

theorem pyFloat_tokF (v : FVal) : pyFloat (tokF v) = some v := by
  cases v with
  | dec d =>
    unfold pyFloat tokF
    simp only [fmtCore_ne_of_n d nanStr (by decide), fmtCore_ne_of_n d infStr (by decide),
      fmtCore_ne_of_n d ninfStr (by decide), if_false, parseCore_fmtCore]
  | nan => rfl
  | inf neg => cases neg <;> rfl

theorem mapOpt_pyFloat : ∀ (vs : List FVal), mapOpt pyFloat (vs.map tokF) = some vs := by
  intro vs
  induction vs with
  | nil => rfl
  | cons v vs ih => simp [mapOpt, pyFloat_tokF, ih]

/-- a line of blanks, tabs, … (no line terminator) -/
def Blank (l : Str) : Prop := (∀ c ∈ l, isWs c = true) ∧ NoBrk l

theorem strip_blank (l : Str) (h : ∀ c ∈ l, isWs c = true) : strip l = [] := Lex.strip_all_blank h

theorem isCommentT_blank (l : Str) (h : ∀ c ∈ l, isWs c = true) : isCommentT l = false := by
  unfold isCommentT
  rw [strip_blank l h]
  rfl

end Infretis.StoreText
