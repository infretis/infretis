/-
Lemmas for the swap-twice statements of C11: a deterministic, time-reversible engine retraces a
trajectory it is started on.  The order function the engine evaluates on the stored configuration is a
variable `g`: `D.opf` itself for `orbit`, `D.opf` of the physical phase point for `orbitV`
(`orbitV_eq_orbit`), so both engine models are covered by the same lemmas.
-/
import Infretis.Lemmas.ZeroSwap
import Infretis.Model.ZeroSwapAlg

namespace Infretis.ZeroSwap

/-- consecutive frames are related by `R` -/
def Consec (R : Frame → Frame → Prop) : List Frame → Prop
  | [] => True
  | [_] => True
  | a :: b :: t => R a b ∧ Consec R (b :: t)

theorem Consec.tail {R : Frame → Frame → Prop} {a : Frame} {l : List Frame} (h : Consec R (a :: l)) :
    Consec R l := by
  cases l with
  | nil => trivial
  | cons b t => exact h.2

theorem Consec.imp {R S : Frame → Frame → Prop} (hRS : ∀ u w, R u w → S u w) :
    ∀ {l : List Frame}, Consec R l → Consec S l
  | [], _ => trivial
  | [_], _ => trivial
  | _ :: b :: t, h => ⟨hRS _ _ h.1, Consec.imp hRS (l := b :: t) h.2⟩

theorem consec_append_singleton {R : Frame → Frame → Prop} :
    ∀ {l : List Frame} {x : Frame}, Consec R (l ++ [x]) ↔ Consec R l ∧ ∀ y, l.getLast? = some y → R y x
  | [], x => by simp [Consec]
  | [a], x => by simp [Consec]
  | a :: b :: t, x => by
    have ih := consec_append_singleton (R := R) (l := b :: t) (x := x)
    simp only [List.cons_append, Consec] at ih ⊢
    rw [ih]
    simp only [List.getLast?_cons_cons]
    constructor
    · rintro ⟨h1, h2, h3⟩; exact ⟨⟨h1, h2⟩, h3⟩
    · rintro ⟨⟨h1, h2⟩, h3⟩; exact ⟨h1, h2, h3⟩

theorem Consec.prefix {R : Frame → Frame → Prop} {l : List Frame} {x : Frame} (h : Consec R (l ++ [x])) :
    Consec R l := (consec_append_singleton.mp h).1

theorem consec_reverse {R : Frame → Frame → Prop} :
    ∀ {l : List Frame}, Consec R l → Consec (fun u w => R w u) l.reverse
  | [], _ => by simp [Consec]
  | [a], _ => by simp [Consec]
  | a :: b :: t, h => by
    have ih := consec_reverse (l := b :: t) h.2
    rw [List.reverse_cons]
    refine consec_append_singleton.mpr ⟨ih, ?_⟩
    intro y hy
    have : y = b := by
      simp at hy
      rcases hy with h | h <;> simp_all
    rw [this]; exact h.1

/-- a deterministic engine: one-step map on stored configurations, order function, energy -/
structure Dyn where
  step : Cfg → Cfg
  opf : Cfg → Int
  vf : Cfg → Option Int

/-- time-reversibility: stepping the velocity-reversed image of a step leads back -/
def Dyn.Reversible (D : Dyn) : Prop := ∀ c, D.step (D.step c).flip = c.flip

/-- the order parameter does not depend on the sign of the velocities -/
def Dyn.OpEven (D : Dyn) : Prop := ∀ c, D.opf c.flip = D.opf c

/-- `p` is a trajectory of `D`: every frame's order value is that of its phase point and each
    phase point is the image of the previous one -/
def IsTraj (D : Dyn) (p : List Frame) : Prop :=
  (∀ f ∈ p, f.op = D.opf f.phys) ∧ Consec (fun f g => g.phys = D.step f.phys) p

theorem flip_flip (c : Cfg) : c.flip.flip = c := by
  cases c; simp [Cfg.flip]

theorem phys_start (sys : Frame) (rev : Bool) (o : Int) (v : Option Int) :
    ({ op := o, cfg := startCfg sys rev, vr := rev, vpot := v } : Frame).phys = sys.phys := by
  cases rev <;> cases hv : sys.vr <;> simp [Frame.phys, startCfg, hv, flip_flip]

theorem orbit_follow (D : Dyn) (κ : Cfg → Cfg) (g : Cfg → Int) (hg : ∀ c, g (κ c) = D.opf c) :
    ∀ (l : List Frame) (q : Frame) (n : Nat), l.length ≤ n →
      Consec (fun u w => κ w.phys = D.step (κ u.phys)) (q :: l) → (∀ f ∈ l, f.op = D.opf f.phys) →
      ∃ post, orbit D.step g D.vf n (κ q.phys) =
        l.map (fun f => ({ op := f.op, cfg := κ f.phys, vpot := D.vf (κ f.phys) } : GenFrame)) ++ post := by
  intro l
  induction l with
  | nil => intro q n _ _ _; exact ⟨orbit D.step g D.vf n (κ q.phys), by simp⟩
  | cons w l ih =>
    intro q n hn hc hop
    cases n with
    | zero => simp at hn
    | succ n =>
      have hstep : D.step (κ q.phys) = κ w.phys := hc.1.symm
      obtain ⟨post, hpost⟩ := ih w n (by simpa using hn) hc.2 (fun f hf => hop f (by simp [hf]))
      refine ⟨post, ?_⟩
      simp only [orbit, hstep, List.map_cons, List.cons_append]
      rw [hpost, hg, ← hop w (by simp)]

/-- started on `q` (in direction `rev`), the engine's frame stream begins with frames that have
    the order values and phase points of `q :: l` -/
theorem retrace_with (D : Dyn) (κ : Cfg → Cfg) (rev : Bool) (g : Cfg → Int) (hg : ∀ c, g (κ c) = D.opf c)
    (hκ : ∀ c, physOf rev (κ c) = c)
    (q : Frame) (l : List Frame) (n : Nat) (hn : l.length ≤ n) (hstart : startCfg q rev = κ q.phys)
    (hc : Consec (fun u w => κ w.phys = D.step (κ u.phys)) (q :: l)) (hop : ∀ f ∈ l, f.op = D.opf f.phys) :
    ∃ retr post, streamOf q rev (detScript D.step g D.vf n (startCfg q rev)) = retr ++ post ∧
      retr.map Frame.phys = (q :: l).map Frame.phys ∧ ops retr = ops (q :: l) := by
  obtain ⟨post, hpost⟩ := orbit_follow D κ g hg l q n hn hc hop
  refine ⟨{ op := q.op, cfg := startCfg q rev, vr := rev, vpot := D.vf (startCfg q rev) } ::
      l.map (fun f => ({ op := f.op, cfg := κ f.phys, vr := rev, vpot := D.vf (κ f.phys) } : Frame)),
    post.map (fun g => { op := g.op, cfg := g.cfg, vr := rev, vpot := g.vpot }), ?_, ?_, ?_⟩
  · simp only [streamOf, detScript, hstart, hpost, List.map_append, List.map_map, List.cons_append]
    congr 1
  · simp only [List.map_cons, phys_start, List.map_map]
    congr 1
    apply List.map_congr_left
    intro f _
    have := hκ f.phys
    unfold physOf at this
    simp only [Function.comp]
    generalize f.phys = c at this ⊢
    cases rev <;> simpa [Frame.phys] using this
  · simp [ops, List.map_map, Function.comp]

theorem retrace (D : Dyn) (κ : Cfg → Cfg) (rev : Bool) (hκop : ∀ c, D.opf (κ c) = D.opf c)
    (hκ : ∀ c, (if rev then (κ c).flip else κ c) = c)
    (q : Frame) (l : List Frame) (n : Nat) (hn : l.length ≤ n) (hstart : startCfg q rev = κ q.phys)
    (hc : Consec (fun u w => D.step (κ u.phys) = κ w.phys) (q :: l)) (hop : ∀ f ∈ l, f.op = D.opf f.phys) :
    ∃ retr post, streamOf q rev (detScript D.step D.opf D.vf n (startCfg q rev)) = retr ++ post ∧
      retr.map Frame.phys = (q :: l).map Frame.phys ∧ ops retr = ops (q :: l) :=
  retrace_with D κ rev D.opf hκop hκ q l n hn hstart (hc.imp fun _ _ h => h.symm) hop

theorem orbit_length (st : Cfg → Cfg) (opf : Cfg → Int) (vf : Cfg → Option Int) :
    ∀ (n : Nat) (c : Cfg), (orbit st opf vf n c).length = n
  | 0, _ => rfl
  | n + 1, c => by simp [orbit, orbit_length st opf vf n]

theorem orbitV_eq_orbit (st : Cfg → Cfg) (opf : Cfg → Int) (vf : Cfg → Option Int) (rev : Bool) :
    ∀ (n : Nat) (c : Cfg), orbitV st opf vf rev n c = orbit st (fun c => opf (physOf rev c)) vf n c
  | 0, _ => rfl
  | n + 1, c => by simp [orbitV, orbit, orbitV_eq_orbit st opf vf rev n]

theorem detScriptV_eq (st : Cfg → Cfg) (opf : Cfg → Int) (vf : Cfg → Option Int) (rev : Bool) (n : Nat) (c : Cfg) :
    detScriptV st opf vf rev n c = detScript st (fun c => opf (physOf rev c)) vf n c := by
  simp [detScriptV, detScript, orbitV_eq_orbit]

theorem orbitV_length (st : Cfg → Cfg) (opf : Cfg → Int) (vf : Cfg → Option Int) (rev : Bool) (n : Nat) (c : Cfg) :
    (orbitV st opf vf rev n c).length = n := by
  rw [orbitV_eq_orbit, orbit_length]

theorem startCfg_true (q : Frame) : startCfg q true = q.phys.flip := by
  cases hv : q.vr <;> simp [startCfg, Frame.phys, hv, flip_flip]

theorem startCfg_false (q : Frame) : startCfg q false = q.phys := by
  cases hv : q.vr <;> simp [startCfg, Frame.phys, hv]

theorem split_by_ops {retr qpre : List Frame} {qx : Frame} (h : ops retr = ops (qpre ++ [qx])) :
    ∃ rpre rx, retr = rpre ++ [rx] ∧ ops rpre = ops qpre ∧ rx.op = qx.op := by
  simp only [ops, List.map_append, List.map_cons, List.map_nil] at h
  obtain ⟨l1, l2, hl, h1, h2⟩ := List.map_eq_append_iff.mp h
  obtain ⟨rx, hrx, hop⟩ := List.map_eq_singleton_iff.mp h2
  exact ⟨l1, rx, by rw [hl, hrx], h1, hop⟩

/-- a `propagate` call of the deterministic engine started on `q`, where `q :: lst` is a piece of
    trajectory (in the direction of the call) whose last frame is the first one outside: the call
    returns exactly that piece (order values and phase points) -/
theorem propagate_retrace (D : Dyn) (κ : Cfg → Cfg) (rev : Bool) (g : Cfg → Int) (hg : ∀ c, g (κ c) = D.opf c)
    (hκ : ∀ c, physOf rev (κ c) = c)
    {m : Nat} {l r : Int} {q : Frame} {lst lpre : List Frame} {lx : Frame} {n : Nat}
    {tmp : List Frame} {s : Bool}
    (h : propagate m l r q rev (detScript D.step g D.vf n (startCfg q rev)) = some (tmp, s))
    (hlt : tmp.length < m) (hlong : m ≤ n + 1) (hn : lst.length ≤ n)
    (hstart : startCfg q rev = κ q.phys)
    (hc : Consec (fun u w => κ w.phys = D.step (κ u.phys)) (q :: lst))
    (hop : ∀ f ∈ lst, f.op = D.opf f.phys)
    (hsplit : q :: lst = lpre ++ [lx]) (hnc : ∀ g ∈ lpre, ¬ Crosses l r g.op) (hcx : Crosses l r lx.op) :
    tmp.map Frame.phys = (q :: lst).map Frame.phys ∧ ops tmp = ops (q :: lst) := by
  obtain ⟨tpre, tx, post, htmp, hstream, htnc, htc⟩ :=
    propagate_crossed h hlt (by simp [detScript, orbit_length]; exact hlong)
  obtain ⟨retr, post', hretr, hphys, hops⟩ := retrace_with D κ rev g hg hκ q lst n hn hstart hc hop
  rw [hsplit] at hops
  obtain ⟨rpre, rx, hr, hrpre, hrx⟩ := split_by_ops hops
  have hrnc : ∀ g ∈ rpre, ¬ Crosses l r g.op := by
    intro g hg
    have : g.op ∈ ops rpre := List.mem_map_of_mem hg
    rw [hrpre] at this
    obtain ⟨f, hf, hfo⟩ := List.mem_map.mp this
    rw [← hfo]; exact hnc f hf
  have hrc : Crosses l r rx.op := by rw [hrx]; exact hcx
  have heq : tpre ++ tx :: post = rpre ++ rx :: post' := by
    rw [← hstream, hretr, hr]; simp
  obtain ⟨e1, e2, _⟩ := first_failing_unique (P := fun g => ¬ Crosses l r g.op) (fun h => h htc) (fun h => h hrc)
    heq htnc hrnc
  have htr : tmp = retr := by rw [htmp, hr, e1, e2]
  refine ⟨by rw [htr]; exact hphys, ?_⟩
  rw [htr, hsplit]; exact hops

end Infretis.ZeroSwap
