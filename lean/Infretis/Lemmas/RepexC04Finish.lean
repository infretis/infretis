import Infretis.Lemmas.RepexC04DiskG
/-!
# C04 — the end-of-run `write_toml` (`loop()` when the step target is reached) and "rewrite only if changed"

`finishDisk d s` replaces the restart file by the image of the CURRENT sampler state when `cstep ≥ tsteps`
(otherwise `loop()` writes nothing).  For a good disk state the result is a good disk state again: the image of
the current state lists the table's keys as active and carries the table's vectors, so all the facts of
`good_disk_facts` (law on the two files, no row of an active path) hold for the file a user continues from.
`cleanRewrites`: `clean_data_file` rewrites the data file iff it drops a line; on the disk of a good state it
drops none.
-/
namespace Infretis.Repex.Data

theorem finishDisk_lines (d : Disk) (s : St) : (finishDisk d s).lines = d.lines := by
  unfold finishDisk; split <;> rfl

theorem finishDisk_img_of_done (d : Disk) (s : St) (h : s.cstep ≥ s.tsteps) :
    (finishDisk d s).img = some (persistD s) := by
  unfold finishDisk; rw [if_pos h]

theorem finishDisk_of_not_done (d : Disk) (s : St) (h : ¬ s.cstep ≥ s.tsteps) : finishDisk d s = d := by
  unfold finishDisk; rw [if_neg h]

theorem finish_good {z : DSys} (hg : Good z) : Good { z with d := finishDisk z.d z.y.s } := by
  refine ⟨hg.r4, hg.j, ⟨?_, ?_, hg.d.cntLen, ?_⟩⟩
  · show ∃ pre ls, fmtRows z.y.s.n z.y.s.rows = .ok ls ∧ (finishDisk z.d z.y.s).lines = pre ++ ls ∧ _
    rw [finishDisk_lines]
    exact hg.d.lines
  · intro im him
    show ImgG z.y im
    by_cases hd : z.y.s.cstep ≥ z.y.s.tsteps
    · have : (finishDisk z.d z.y.s).img = some im := him
      rw [finishDisk_img_of_done _ _ hd] at this
      simp only [Option.some.injEq] at this
      subst this
      exact imgG_persistD hg.r4
    · have : (finishDisk z.d z.y.s).img = some im := him
      rw [finishDisk_of_not_done _ _ hd] at this
      exact hg.d.img im this
  · intro c hc
    show lineTotal (finishDisk z.d z.y.s).lines c + _ = _
    rw [finishDisk_lines]
    exact hg.d.law c hc

theorem cleanRewrites_iff (active : List Nat) (lines : List DLine) :
    cleanRewrites active lines = true ↔ cleanLines active lines ≠ lines := by
  unfold cleanRewrites
  simp

theorem cleanRewrites_false_iff (active : List Nat) (lines : List DLine) :
    cleanRewrites active lines = false ↔ cleanLines active lines = lines := by
  unfold cleanRewrites
  simp

end Infretis.Repex.Data
