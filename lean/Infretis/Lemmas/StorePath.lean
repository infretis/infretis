import Infretis.Lemmas.StoreCodec
/-!
Helper lemmas for C14: the `Path` object layer (`Infretis/Model/StorePath.lean`).
-/
namespace Infretis.Store

theorem fill_push {α : Type} : ∀ (xs : List α) (p : PathObj α),
    fill .push p xs = { maxlen := p.maxlen, pts := p.pts ++ xs } := by
  intro xs
  induction xs with
  | nil => intro p; simp [fill]
  | cons x xs ih => intro p; simp [fill, ih, PathObj.push]

theorem fill_append_maxlen {α : Type} : ∀ (xs : List α) (p : PathObj α),
    (fill .viaAppend p xs).maxlen = p.maxlen := by
  intro xs
  induction xs with
  | nil => intro p; rfl
  | cons x xs ih =>
    intro p
    simp only [fill, ih, PathObj.append]
    split <;> rfl

theorem fill_append_none {α : Type} : ∀ (xs : List α) (pts : List α),
    fill .viaAppend { maxlen := none, pts := pts } xs = { maxlen := none, pts := pts ++ xs } := by
  intro xs
  induction xs with
  | nil => intro pts; simp [fill]
  | cons x xs ih => intro pts; simp [fill, PathObj.append, PathObj.room, ih]

/-- through `Path.append` a path takes frames only while it is shorter than its limit -/
theorem fill_append_some {α : Type} (m : Int) : ∀ (xs : List α) (pts : List α),
    fill .viaAppend { maxlen := some m, pts := pts } xs =
      { maxlen := some m, pts := pts ++ xs.take (m - pts.length).toNat } := by
  intro xs
  induction xs with
  | nil => intro pts; simp [fill]
  | cons x xs ih =>
    intro pts
    simp only [fill, PathObj.append, PathObj.room]
    by_cases h : (pts.length : Int) < m
    · simp only [h, decide_true, if_true]
      rw [ih]
      have : (m - (pts.length : Int)).toNat = (m - ((pts ++ [x]).length : Int)).toNat + 1 := by
        simp only [List.length_append, List.length_cons, List.length_nil]
        omega
      rw [this, List.take_succ_cons]
      simp
    · simp only [h, decide_false, Bool.false_eq_true, if_false]
      rw [ih]
      have : (m - (pts.length : Int)).toNat = 0 := by omega
      simp [this]

theorem fill_append_empty {α : Type} (lim : Option Int) (xs : List α) :
    fill .viaAppend (PathObj.empty lim) xs =
      { maxlen := lim, pts := match lim with | none => xs | some m => xs.take m.toNat } := by
  cases lim with
  | none => simp [PathObj.empty, fill_append_none]
  | some m => simp [PathObj.empty, fill_append_some]

/-- however a path is filled from `Path()`, it ends up with a prefix of the frames offered, and how long
    a prefix depends only on how many were offered -/
theorem fill_empty_take (v : Fill) (lim : Option Int) (n : Nat) :
    ∃ k, ∀ {α : Type} (xs : List α), xs.length = n → fill v (PathObj.empty lim) xs = { maxlen := lim, pts := xs.take k } := by
  cases v with
  | push =>
    refine ⟨n, fun xs h => ?_⟩
    rw [fill_push, List.take_of_length_le (by omega)]
    rfl
  | viaAppend =>
    cases lim with
    | none =>
      refine ⟨n, fun xs h => ?_⟩
      rw [fill_append_empty, List.take_of_length_le (by omega)]
    | some m => exact ⟨m.toNat, fun xs _ => fill_append_empty _ xs⟩

theorem copy_of_fits {α : Type} (p : PathObj α) (h : p.fits) : p.copy = p := by
  obtain ⟨ml, pts⟩ := p
  unfold PathObj.copy
  rw [fill_append_empty]
  cases ml with
  | none => rfl
  | some m =>
    have hle : pts.length ≤ m.toNat := by
      have : (pts.length : Int) ≤ m := h
      omega
    simp [List.take_of_length_le hle]

theorem copy_pts {α : Type} (p : PathObj α) :
    p.copy.pts = match p.maxlen with | none => p.pts | some m => p.pts.take m.toNat := by
  obtain ⟨ml, pts⟩ := p
  unfold PathObj.copy
  rw [fill_append_empty]

theorem load_eq (t o e : Option (List Line)) (files : List String) :
    load t o e files = match loadFrames t o files with
      | .error er => .error er
      | .ok fr => loadEnergies e fr := by
  unfold load loadFrames
  cases t with
  | none => rfl
  | some tl =>
    cases o with
    | none => rfl
    | some ol =>
      simp only
      cases firstBlock parseStr tl with
      | error er => rfl
      | ok trows =>
        simp only
        cases snapshots trows with
        | error er => rfl
        | ok snaps =>
          simp only
          generalize (snaps.all fun s => files.contains s.1) = b
          cases b with
          | false => rfl
          | true =>
            simp only [not_true_eq_false, if_false]
            unfold loadEnergies
            cases firstBlock parseNum ol with
            | error er => rfl
            | ok orows =>
              simp only
              cases dropFirstCol orows with
              | error er => rfl
              | ok ords => rfl

theorem loadPath_push (lim : Option Int) (t o e : Option (List Line)) (files : List String) :
    loadPath .push lim t o e files =
      match load t o e files with
      | .error er => .error er
      | .ok fr => .ok { maxlen := lim, pts := fr } := by
  rw [load_eq]
  unfold loadPath
  cases loadFrames t o files with
  | error er => rfl
  | ok fr =>
    simp only [fill_push, PathObj.empty, List.nil_append]
    cases loadEnergies e fr <;> rfl

theorem setEnergies_take : ∀ (k : Nat) (fr : List LFrame) (rows : List (List Num)),
    setEnergies (fr.take k) rows = (setEnergies fr rows).take k := by
  intro k
  induction k with
  | zero => intro fr rows; simp [setEnergies]
  | succ k ih =>
    intro fr rows
    cases fr with
    | nil => simp [setEnergies]
    | cons f fr =>
      cases rows with
      | nil => simp [setEnergies, ih]
      | cons r rows => simp [setEnergies, ih]

theorem loadFrames_text (step : Nat) (mv : List String) (fs : List Frame) (hne : fs ≠ [])
    (c : Nat) (hc : ∀ f ∈ fs, f.order.length = c) (files : List String) (hfiles : ∀ f ∈ fs, f.base ∈ files) :
    loadFrames (some (trajTxt step fs)) (some (orderTxt step mv fs)) files = .ok (fs.map bare) := by
  unfold loadFrames
  simp only
  rw [firstBlock_traj]
  simp only [snapshots_rows]
  have hf := files_check_of_sub fs files hfiles
  simp only [hf, not_true_eq_false, if_false]
  rw [firstBlock_order step mv fs c hc]
  simp only
  have hrows : (rowsFrom orderRow 0 fs).map numRow ≠ [] := by
    cases fs with
    | nil => exact absurd rfl hne
    | cons f fs => simp [rowsFrom]
  simp only [dropFirstCol, hrows, if_false, order_cols, zipFrames_maps]

theorem loadEnergies_text (step : Nat) (mv : List String) (fs : List Frame) (hne : fs ≠ []) (k : Nat) :
    loadEnergies (some (energyTxt step mv fs)) ((fs.map bare).take k) = .ok ((fs.map expected).take k) := by
  unfold loadEnergies
  simp only
  rw [firstBlock_energy]
  simp only
  cases fs with
  | nil => exact absurd rfl hne
  | cons f fs' =>
    have := setEnergies_rows (f :: fs') 0
    simp only [rowsFrom, List.map_cons] at this ⊢
    simp only [numRow, parseNum_energyRow] at this ⊢
    simp only [List.length_cons, List.length_nil]
    simp only [show ¬ (0 + 1 + 1 + 1 + 1 + 1 < 3) by omega, if_false]
    rw [← List.map_cons, ← List.map_cons (f := expected), setEnergies_take]
    simp only [List.map_cons]
    rw [this]

/-- **Loading the three files of a stored path, whichever way `load_path` fills the `Path()` object**, when
    `accepted/` holds every file the frames name: the result is that object filled the same way with the
    frames the property expects. -/
theorem loadPath_text (v : Fill) (lim : Option Int) (step : Nat) (mv : List String) (fs : List Frame)
    (hne : fs ≠ []) (c : Nat) (hc : ∀ f ∈ fs, f.order.length = c) (files : List String)
    (hfiles : ∀ f ∈ fs, f.base ∈ files) :
    loadPath v lim (some (trajTxt step fs)) (some (orderTxt step mv fs)) (some (energyTxt step mv fs)) files =
      .ok (fill v (PathObj.empty lim) (fs.map expected)) := by
  obtain ⟨k, hk⟩ := fill_empty_take v lim fs.length
  unfold loadPath
  rw [loadFrames_text step mv fs hne c hc files hfiles]
  simp only [hk (fs.map bare) (by simp), hk (fs.map expected) (by simp), loadEnergies_text step mv fs hne k]

theorem loadStoredPath_store (v : Fill) (lim : Option Int) (step : Nat) (mv : List String) (fs : List Frame)
    (hne : fs ≠ []) (c : Nat) (hc : ∀ f ∈ fs, f.order.length = c) :
    loadStoredPath v lim (store step mv fs) = .ok (fill v (PathObj.empty lim) (fs.map expected)) :=
  loadPath_text v lim step mv fs hne c hc _ (base_mem_accepted step mv fs)

end Infretis.Store
