import Infretis.Lemmas.RepexC03Core
/-!
# C03 — `add_traj`, `sort_trajstate`, `treat_output` preserve the slot / lock invariant

Reserved slots are idle, so releasing held slots does not touch them, and sorting only happens once
`toinitiate = -1`, when nothing is reserved any more.
-/
namespace Infretis.Repex

theorem addTraj_coreR {s s' : St} {H : List (Nat × Nat)} {tn tn' : Nat} (e pnOld pn : Nat)
    (ens : Int) (valid : List Rat)
    (h : CoreR s ((e, pnOld) :: H) tn) (ha : addTraj s ens pn valid = .ok s')
    (he : (ens + 1).toNat = e)
    (hfresh : ∀ b, b < s.n - 1 → b ≠ e → s.trajs[b]? ≠ some (some pn))
    (hpn : pn < tn') (hle : tn ≤ tn') :
    CoreR s' H tn' := by
  obtain ⟨_, hv, hs⟩ := addTraj_parts ha
  rw [he] at hv hs
  subst hs
  exact addTrajWrites_coreR e pnOld pn _ h hv hfresh hpn hle

theorem bool_getElem?_cases (l : List Bool) (i : Nat) (hi : i < l.length) :
    l[i]? = some true ∨ l[i]? = some false := by
  rw [List.getElem?_eq_getElem hi]
  cases l[i] <;> simp

theorem unlocked_of_not_locked (l : List Bool) (i : Nat) (hi : i < l.length)
    (h : l[i]? ≠ some true) : l[i]? = some false := by
  rcases bool_getElem?_cases l i hi with h' | h'
  · exact absurd h' h
  · exact h'

/-- a held slot has a non-zero diagonal: a real slot with a zero diagonal is idle -/
theorem idle_of_diag_zero {s : St} {H : List (Nat × Nat)} {tn : Nat} (hc : CoreR s H tn) {e : Nat}
    (he : e < s.n - 1) (hz : entryM s.W e e = 0) : s.locks[e]? = some false := by
  apply unlocked_of_not_locked _ _ (by rw [hc.lenL]; omega)
  intro hl
  obtain ⟨⟨e0, pn⟩, hm, rfl⟩ := List.mem_map.mp ((hc.busy _ he).mp hl)
  exact (hc.heldOk e0 pn hm).2.2 hz

theorem idle_of_not_lockedPath {s : St} {H : List (Nat × Nat)} {tn : Nat} (hc : CoreR s H tn) {t : Nat}
    (ht : t < s.n - 1) (h : (lockedPaths s).contains (s.trajs.getD t none) = false) :
    s.locks[t]? = some false := by
  apply unlocked_of_not_locked _ _ (by rw [hc.lenL]; omega)
  intro hl
  have hm := mem_lockedPaths_of_locked (by rw [hc.lenT]; exact ht) (by rw [hc.lenL]; exact ht) hl
  rw [← List.contains_iff_mem, h] at hm
  exact absurd hm (by simp)

/-- `sort_trajstate` swaps two idle slots, after the initiation -/
theorem sortStep_idle {s s' : St} {H : List (Nat × Nat)} {tn : Nat} (h : CoreR s H tn)
    (hs : sortStep s = .ok (some s')) :
    ∃ e t, s' = swap s e t ∧ s.toinitiate = -1 ∧ s.locks[e]? = some false ∧ s.locks[t]? = some false := by
  obtain ⟨e, t, rfl, hto, he, hz, ht, hav⟩ := sortStep_parts hs
  exact ⟨e, t, rfl, hto, idle_of_diag_zero h he hz, idle_of_not_lockedPath h ht hav⟩

theorem sortStep_coreR {s s' : St} {H : List (Nat × Nat)} {tn : Nat} (h : CoreR s H tn)
    (hs : sortStep s = .ok (some s')) : CoreR s' H tn := by
  obtain ⟨e, t, rfl, hto, he, ht⟩ := sortStep_idle h hs
  exact swap_coreR h e t he ht (Or.inl (by omega))

theorem sortTrajstate_coreR {s s' : St} {H : List (Nat × Nat)} {tn k : Nat} (h : CoreR s H tn)
    (hs : Sorts s s' k) : CoreR s' H tn := by
  induction hs with
  | done => exact h
  | step h1 _ ih => exact ih (sortStep_coreR h h1)

/-- the path put back is in no other slot: a fresh number, or the one the slot held -/
theorem perEns_fresh {s : St} {H : List (Nat × Nat)} {tn : Nat} {p : Picked}
    (h : CoreR s ((slotOf p, p.pn) :: H) tn) {status : Status} {w v : List Rat} {pn tn1 : Nat}
    (hput : PutBack s tn p w status pn v tn1) :
    (∀ b, b < s.n - 1 → b ≠ slotOf p → s.trajs[b]? ≠ some (some pn)) ∧ pn < tn1 ∧ tn ≤ tn1 := by
  obtain ⟨hlt, htr, _⟩ := h.heldOk (slotOf p) p.pn (List.mem_cons_self ..)
  cases hput with
  | acc =>
    refine ⟨?_, by omega, by omega⟩
    intro b hb _ hcontra
    obtain ⟨q, hq, hqlt⟩ := h.live b hb
    rw [hq] at hcontra
    simp only [Option.some.injEq] at hcontra
    omega
  | rej _ =>
    obtain ⟨q, hq, hqlt⟩ := h.live (slotOf p) hlt
    have hqp : q = p.pn := by
      rw [htr] at hq
      simpa using hq.symm
    exact ⟨fun b hb hne hcontra => hne (h.inj b (slotOf p) p.pn hb hlt hcontra htr), by omega,
      Nat.le_refl _⟩

theorem perEnsStep_coreR {status : Status} {s s3 : St} {H : List (Nat × Nat)} {tn tn1 pn : Nat}
    {p : Picked} {w v : List Rat} (h : CoreR s ((slotOf p, p.pn) :: H) tn)
    (hput : PutBack s tn p w status pn v tn1)
    (hadd : addTraj (perEnsPre status s tn p w) p.ens pn v = .ok s3) : CoreR s3 H tn1 := by
  obtain ⟨hfr, hpn, hle⟩ := perEns_fresh h hput
  exact addTraj_coreR (slotOf p) p.pn pn p.ens v (h.frame (perEnsPre_touches status s tn p w)) hadd rfl hfr hpn hle

theorem perEns_coreR {status : Status} {l : List (Picked × List Rat)} {s s' : St}
    {H : List (Nat × Nat)} {tn tn' : Nat} {pns : List Nat}
    (h : CoreR s (heldPicked (l.map Prod.fst) ++ H) tn) (hp : PerEns status s tn l s' tn' pns) :
    CoreR s' H tn' := by
  induction hp with
  | nil => exact h
  | cons hput hadd _ ih => exact ih (perEnsStep_coreR h hput hadd)

theorem perEns_core {status : Status} {l : List (Picked × List Rat)} {s s' : St}
    {H : List (Nat × Nat)} {tn tn' : Nat} {pns : List Nat}
    (h : Core s (heldPicked (l.map Prod.fst) ++ H) tn)
    (hp : PerEns status s tn l s' tn' pns) : Core s' H tn' :=
  (perEns_coreR h.coreR hp).core (hp.touches.locked0.trans h.l0)

theorem preSort_coreR {s s3 : St} {H : List (Nat × Nat)} {job : Job} {status : Status}
    {newW : List (List Rat)} {tn : Nat} {pns : List Nat} (h : CoreR s (heldJob job ++ H) s.trajNum)
    (hp : preSort s job status newW = .ok (s3, tn, pns)) : CoreR s3 H tn := by
  obtain ⟨s1, s2, hlen, hper, hrec, hwr⟩ := preSort_ok_iff.mp hp
  rw [← heldPicked_zip hlen] at h
  exact ((perEns_coreR h hper).frame (recordFrac_touches hrec)).frame (writeRowsIf_touches hwr)

/-- **`treat_output`** releases exactly what the completed job held. -/
theorem treatOutput_coreR {s s' : St} {H : List (Nat × Nat)} (job : Job) (status : Status)
    (newW : List (List Rat)) (fuel : Nat) (pns : List Nat) (it : Nat)
    (h : CoreR s (heldJob job ++ H) s.trajNum)
    (ht : treatOutput s job status newW fuel = .ok (s', pns, it)) : CoreR s' H s'.trajNum := by
  obtain ⟨s3, tn, s4, hpre, hsort, rfl⟩ := treatOutput_ok_iff.mp ht
  exact (sortTrajstate_coreR (preSort_coreR h hpre) (Sorts.of_ok hsort)).congrTo rfl rfl rfl rfl rfl id

theorem treatOutput_core {s s' : St} {H : List (Nat × Nat)} (job : Job) (status : Status)
    (newW : List (List Rat)) (fuel : Nat) (pns : List Nat) (it : Nat)
    (h : Core s (heldJob job ++ H) s.trajNum)
    (ht : treatOutput s job status newW fuel = .ok (s', pns, it)) : Core s' H s'.trajNum :=
  (treatOutput_coreR job status newW fuel pns it h.coreR ht).core ((treatOutput_touches ht).locked0.trans h.l0)

end Infretis.Repex
