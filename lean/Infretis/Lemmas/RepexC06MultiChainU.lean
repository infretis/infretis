import Infretis.Lemmas.RepexC06Stop
import Infretis.Lemmas.RepexC06MultiRestart
/-
C06: chains of restarts with several workers — no hypothesis on any state of the restarted runs.

`StopStateM`, `StopM` and `RestoreRelM` only speak about fields that `ObsR False` relates (tables as finite maps), about
`toinitiate = -1`, which `RM` carries, and, for the jobs, about `jobKey`.  So they transfer from the uninterrupted run — where they are proved for every reachable
state — to a run that has already been restarted and is related to it by `RM`; the induction over the chain keeps the
uninterrupted run on the left all along.
-/
namespace Infretis.Repex

theorem StopM.transfer {recs : List ((List Nat × List Nat) × Nat)} {a b : St} {ja jb : List Job} {t0 : Int}
    {ra rb : List Row} (h : StopM recs a ja) (ho : ObsR False t0 ra rb a b) (hti : b.toinitiate = -1)
    (hj : JobsEq ja jb) : StopM recs b jb :=
  ⟨ho.locked ▸ h.locked, ho.lockedOrd ▸ h.lockedOrd, ho.locked0 ▸ h.locked0, ho.locked0Ord ▸ h.locked0Ord, hti,
   ho.trajs ▸ h.inplace, ho.trajs ▸ h.uniq, by
     have := h.onRecord
     unfold JobsEq at hj
     rw [← hj, ← ho.entropy]; exact this⟩

theorem RestoreRelM.transfer {occ : List (List Int)} {recs : List ((List Nat × List Nat) × Nat)} {a b s' : St}
    {t0 : Int} {ra rb : List Row} (h : RestoreRelM occ recs b s') (ho : ObsR False t0 ra rb a b) :
    RestoreRelM occ recs a s' :=
  { n := h.n.trans ho.n.symm, W := h.W.trans ho.W.symm, trajs := h.trajs.trans ho.trajs.symm,
    locks := h.locks.trans ho.locks.symm, locked := h.locked, lockedOrd := h.lockedOrd, locked0 := h.locked0,
    locked0Ord := h.locked0Ord, workers := h.workers.trans ho.workers.symm, cstep := h.cstep.trans ho.cstep.symm,
    tsteps := h.tsteps.trans ho.tsteps.symm, trajNum := h.trajNum.trans ho.trajNum.symm,
    frac := ho.frac.trans h.frac, wts := ho.wts.trans h.wts, ensEng := h.ensEng.trans ho.ensEng.symm,
    seed := h.seed.trans ho.seed.symm, entropy := h.entropy.trans ho.entropy.symm,
    spawned := h.spawned.trans ho.spawned.symm, toinitiate := h.toinitiate, restarted := h.restarted,
    rgenRestored := h.rgenRestored, occ := h.occ, rows := h.rows }

theorem StopStateM.transfer {pns : List Nat} {recs : List ((List Nat × List Nat) × Nat)} {a b : St} {t0 : Int}
    {ra rb : List Row} (h : StopStateM a pns recs) (ho : ObsR False t0 ra rb a b) : StopStateM b pns recs := by
  have hpad : ∀ (e : Int) (w : List Rat), padValid b e w = padValid a e w := fun e w => padValid_congr ho.n.symm e w
  refine ⟨ho.n ▸ h.n2, by rw [← ho.W, ← ho.n]; exact h.lenW, by rw [← ho.trajs, ← ho.n]; exact h.lenT,
    by rw [← ho.locks, ← ho.n]; exact h.lenL, by rw [← ho.n]; exact h.pnsLen, ?_,
    by rw [← ho.trajs, ← ho.n]; exact h.ghostT, by rw [← ho.W, ← ho.n]; exact h.ghostW, ?_, ?_,
    ho.locked ▸ h.locked, ho.lockedOrd ▸ h.lockedOrd, by rw [← ho.locks, ← ho.n]; exact h.locksRec,
    ho.locked0 ▸ h.locked0, ho.locked0Ord ▸ h.locked0Ord, by rw [← ho.entropy, ← ho.seed]; exact h.entropy⟩
  · intro e pn hp
    obtain ⟨a1, w, c, d, e1, e2, f, hf⟩ := h.slot e pn hp
    refine ⟨ho.trajs ▸ a1, w, by rw [← ho.wts pn]; exact c, ?_, ?_, ?_, f, by rw [← ho.frac pn]; exact hf⟩
    · rw [← ho.W, hpad]; exact d
    · rw [hpad, ← ho.n]; exact e1
    · rw [hpad]; exact e2
  · intro q hq
    apply h.fracKeys q
    obtain ⟨v, hv⟩ := Assoc.exists_lookup hq
    exact Assoc.mem_keys_of_lookup ((ho.frac q).trans hv)
  · intro q hq
    apply h.wtsKeys q
    obtain ⟨v, hv⟩ := Assoc.exists_lookup hq
    exact Assoc.mem_keys_of_lookup ((ho.wts q).trans hv)

theorem RM.refl {y : Sys} (h : y.s.toinitiate = -1) : RM y.s.rows y.s.rows y y := by
  have h0 := ObsR.refl y.s
  exact ⟨{ h0 with toinitiate := fun f => f.elim, occ := fun f => f.elim }, h, h, rfl⟩

/-- a run of several workers with restarts, described by what the processes do and nothing else: run `.step` events,
    stop right after the `treat_output` of a `.step` at which a fresh job is due, rebuild the sampler from the image with
    some engine table, run as many initiation iterations as jobs were in flight, one more with the saved stream position,
    close the initiation, go on — with further restarts — from there -/
inductive ChainM : Sys → List Ev → Sys → Prop
  | done {y yN : Sys} {evs : List Ev} : run y evs = .ok yN → ChainM y evs yN
  | restart {y y1 yR yN : Sys} {steps1 rest : List Ev} {k : Nat} {st : Status} {w : List (List Rat)} {o : PickOutcome}
      {r : St × Job × List Job} {s' : St} {occ : List (List Int)} {starts : List (PickOutcome × Nat)} :
      run y steps1 = .ok y1 → stepTreat y1 k st w = .ok r → r.1.cstep + r.1.workers ≤ r.1.tsteps →
      restore (persist r.1) r.1.n r.1.workers r.1.tsteps occ r.1.ensEng (fun pn => (r.1.wts.lookup pn).getD []) = .ok s' →
      starts.length = r.2.2.length →
      run { s := s', jobs := [] }
        (starts.map (fun x => Ev.start x.1 x.2) ++ [.start o (persist r.1).rngDraws, .initDone]) = .ok yR →
      ChainM yR rest yN →
      ChainM y (steps1 ++ (.step k st w o :: rest)) yN

theorem stepsOnly_append : ∀ (a b : List Ev), StepsOnly (a ++ b) → StepsOnly a ∧ StepsOnly b := by
  intro a
  induction a with
  | nil => intro b h; exact ⟨trivial, h⟩
  | cons ev rest ih =>
    intro b h
    cases ev with
    | start o sv => exact h.elim
    | initDone => exact h.elim
    | step k st w o => exact ih b h

/-- **one restart of a chain, seen from the uninterrupted run.**  `x` reachable and related to `y` (`RM`); both run
    `steps1`, and the restarted side stops right after the `treat_output` of the next step, leaving `r`.  Then the
    uninterrupted run leaves `rx` at the same instant, related to `r` (`RMid`); it is a stop state with its jobs on
    record, which transfers to `r`: whatever `restore` rebuilds from the image of `r`, with any engine table, stands
    in `RestoreRelM` to `rx`.  The uninterrupted run goes on (`stepPrep`) to a reachable `x2`, from which the rest of the
    history runs. -/
theorem chain_split {x xN y y1 : Sys} {ra rb : List Row} {steps1 rest : List Ev} {k : Nat} {st : Status}
    {w : List (List Rat)} {o : PickOutcome} {r : St × Job × List Job}
    (hx : ReachM x) (hh : HistOk x (steps1 ++ (.step k st w o :: rest))) (hrm : RM ra rb x y)
    (hs : StepsOnly (steps1 ++ (.step k st w o :: rest))) (hrun : run x (steps1 ++ (.step k st w o :: rest)) = .ok xN)
    (hy1 : run y steps1 = .ok y1) (hT : stepTreat y1 k st w = .ok r) :
    ∃ x2 rx, stepPrep rx o = .ok x2 ∧ run x2 rest = .ok xN ∧ ReachM x2 ∧ HistOk x2 rest ∧ StepsOnly rest ∧
      RMid ra rb rx r ∧ StopM (recsOf rx.2.2 rx.1.lockedOrd) rx.1 rx.2.2 ∧
      (recsOf rx.2.2 rx.1.lockedOrd).length = r.2.2.length ∧
      ∀ occ s0, restore (persist r.1) r.1.n r.1.workers r.1.tsteps occ r.1.ensEng
          (fun pn => (r.1.wts.lookup pn).getD []) = .ok s0 →
        RestoreRelM occ (recsOf rx.2.2 rx.1.lockedOrd) rx.1 s0 := by
  obtain ⟨hs1, hs2⟩ := stepsOnly_append steps1 _ hs
  obtain ⟨x1, hx1, hrun1⟩ := run_append_inv _ _ hrun
  have hrm1 := run_steps_relM steps1 hs1 hrm hx1 hy1
  have hx1r := run_reachM steps1 hx (histOk_prefix steps1 _ hh) hx1
  have hh1 := histOk_rest steps1 _ hh hx1
  obtain ⟨x2, hstep, hrun2⟩ := run_cons_ok hrun1
  obtain ⟨rx, hTx, hhalf⟩ := sysStep_step_inv hstep
  obtain ⟨hSSx, hSx⟩ := stopStateM_of_reach hx1r hrm1.tx k st w o hh1.1 hTx
  obtain ⟨ry, hTy, hmid⟩ := (hTx ▸ stepTreat_relM hrm1 k st w).ok_left
  rw [hT] at hTy
  cases hTy
  refine ⟨x2, rx, hhalf, hrun2, sysStep_reachM _ hx1r hh1.1 hstep, hh1.2 x2 hstep, hs2, hmid, hSx, ?_, ?_⟩
  · have h4 := congrArg List.length hmid.jobs
    simp only [List.length_map] at h4
    rw [hSx.length_eq, h4]
  · -- the restarted side's stop is a stop state too (transfer), so its image loads into a `RestoreRelM` state
    intro occ s0 hres
    obtain ⟨s'', hres'', hR''⟩ := restore_persist_multi (hSSx.transfer hmid.obs) occ
    rw [hres] at hres''
    cases hres''
    exact hR''.transfer hmid.obs

theorem chain_fresh {ra rb : List Row} {rx r : St × Job × List Job} {x2 yR : Sys} {s' : St} {occ : List (List Int)}
    {recs : List ((List Nat × List Nat) × Nat)} {o : PickOutcome} {starts : List (PickOutcome × Nat)}
    (hmid : RMid ra rb rx r) (hSx : StopM recs rx.1 rx.2.2) (hRx : RestoreRelM occ recs rx.1 s')
    (hU : stepPrep rx o = .ok x2) (hmore : r.1.cstep + r.1.workers ≤ r.1.tsteps) (hlen : starts.length = recs.length)
    (hinit : run { s := s', jobs := [] }
      (starts.map (fun x => Ev.start x.1 x.2) ++ [.start o (persist r.1).rngDraws, .initDone]) = .ok yR) :
    RM rx.1.rows [] x2 yR := by
  obtain ⟨ya, ha, hb⟩ := run_append_inv _ _ hinit
  obtain ⟨yb, hb2, hb'⟩ := run_cons_ok hb
  obtain ⟨yc, hb3, hb''⟩ := run_cons_ok hb'
  cases hb''
  rw [show (persist r.1).rngDraws = rx.1.mainDraws from hmid.obs.mainDraws.symm] at hb2
  exact restart_step_multi rx.2.1 rx.2.2 o hRx hSx hU
    (by rw [hmid.obs.cstep, hmid.obs.workers, hmid.obs.tsteps]; exact hmore) starts hlen ha hb2 hb3

theorem restart_chain_multi_unconditional : ∀ {y : Sys} {evs : List Ev} {yN' : Sys}, ChainM y evs yN' →
    ∀ {x xN : Sys} {ra rb : List Row}, ReachM x → HistOk x evs → RM ra rb x y → StepsOnly evs → run x evs = .ok xN →
    ∃ ra' rb', RM ra' rb' xN yN' := by
  intro y evs yN' hc
  induction hc with
  | @done y yN evs hrun' =>
    intro x xN ra rb _ _ hrm hs hrun
    exact ⟨ra, rb, run_steps_relM evs hs hrm hrun hrun'⟩
  | @restart y y1 yR yN steps1 rest k st w o r s' occ starts hy1 hT hmore hres hlen hinit _ ih =>
    intro x xN ra rb hx hh hrm hs hrun
    obtain ⟨x2, rx, hU, hrun2, hx2, hh2, hs2, hmid, hSx, hl, hload⟩ := chain_split hx hh hrm hs hrun hy1 hT
    exact ih hx2 hh2 (chain_fresh hmid hSx (hload occ s' hres) hU hmore (by rw [hl]; exact hlen) hinit) hs2 hrun2

end Infretis.Repex
