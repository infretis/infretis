import Infretis.Model.Readers
/-!
Python's text-mode iteration over a file (`for line in f`, `iter(f.readline, "")`): `Readers.lines`, the pieces end
behind each '\n', a last piece without '\n' is yielded if non-empty.  The readers of C13 run over it; the template
editors of C19 model the same iteration with an accumulator (`Template.linesKeep`, `linesKeep_eq_lines` in
`Lemmas/Template.lean`) and use these lemmas through it.
-/
namespace Infretis.Readers

theorem readline_fst_nil (s : List Char) : (readline s).1 = [] → s = [] := by
  cases s with
  | nil => intro _; rfl
  | cons c cs =>
    simp only [readline]
    split <;> simp

theorem lines_eq_readline (s : List Char) :
    lines s = if (readline s).1 = [] then [] else (readline s).1 :: lines (readline s).2 := by
  induction s with
  | nil => simp [lines, readline]
  | cons c cs ih =>
    by_cases hc : c = '\n'
    · simp [lines, readline, hc]
    · simp only [lines, readline, hc, if_false]
      rw [ih]
      by_cases h0 : (readline cs).1 = []
      · have := readline_fst_nil cs h0
        subst this
        simp [readline, lines]
      · simp [h0]

def IsLine (l : Line) : Prop := ∃ body, l = body ++ ['\n'] ∧ '\n' ∉ body

theorem IsLine.endsNl {l : Line} (h : IsLine l) : endsNl l = true := by
  obtain ⟨b, rfl, _⟩ := h
  simp [Readers.endsNl]

theorem endsNl_false_of_noNl (p : List Char) (hp : '\n' ∉ p) : endsNl p = false := by
  simp only [endsNl]
  cases hg : p.getLast? with
  | none => rfl
  | some c =>
    have : c ∈ p := List.mem_of_getLast? hg
    have hc : c ≠ '\n' := by rintro rfl; exact hp this
    simp [hc]

theorem IsLine.ne_nil {l : Line} (h : IsLine l) : l ≠ [] := by
  obtain ⟨b, rfl, _⟩ := h
  simp

theorem IsLine.length_pos {l : Line} (h : IsLine l) : 0 < l.length := by
  obtain ⟨b, rfl, _⟩ := h
  simp

theorem lines_body_nl (body : List Char) (h : '\n' ∉ body) (s : List Char) :
    lines (body ++ '\n' :: s) = (body ++ ['\n']) :: lines s := by
  induction body with
  | nil => simp [lines]
  | cons c b ih =>
    have hc : c ≠ '\n' := by intro e; apply h; simp [e]
    have hb : '\n' ∉ b := by intro e; apply h; simp [e]
    simp only [List.cons_append, lines, hc, if_false, ih hb]

theorem lines_line_append {l : Line} (h : IsLine l) (s : List Char) :
    lines (l ++ s) = l :: lines s := by
  obtain ⟨b, rfl, hb⟩ := h
  simpa using lines_body_nl b hb s

theorem lines_noNl (p : List Char) (h : '\n' ∉ p) (hp : p ≠ []) : lines p = [p] := by
  induction p with
  | nil => exact absurd rfl hp
  | cons c b ih =>
    have hc : c ≠ '\n' := by intro e; apply h; simp [e]
    have hb : '\n' ∉ b := by intro e; apply h; simp [e]
    cases b with
    | nil => simp [lines, hc]
    | cons d b' =>
      have := ih hb (by simp)
      simp only [lines, hc, if_false] at this ⊢
      rw [this]

theorem lines_flatten_append (fl : List Line) (h : ∀ l ∈ fl, IsLine l) (s : List Char) :
    lines (fl.flatten ++ s) = fl ++ lines s := by
  induction fl with
  | nil => simp
  | cons l fl ih =>
    have hl := h l (by simp)
    have hfl : ∀ x ∈ fl, IsLine x := fun x hx => h x (by simp [hx])
    simp only [List.flatten_cons, List.append_assoc, List.cons_append]
    rw [lines_line_append hl, ih hfl]

theorem lines_join (s : List Char) : (lines s).flatten = s := by
  induction s with
  | nil => rfl
  | cons c cs ih =>
    by_cases hc : c = '\n'
    · simp [lines, hc, ih]
    · simp only [lines, hc, if_false]
      cases h : lines cs with
      | nil => rw [h] at ih; simp [← ih]
      | cons l ls => rw [h] at ih; simp [← ih]

end Infretis.Readers
