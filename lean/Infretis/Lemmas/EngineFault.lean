import Infretis.Lemmas.EngineLoopsExt
/-!
The guard of the LAMMPS / CP2K loop with a fault in its body (`extRunF`, C12): it changes nothing on a run in which no
exception leaves the loop (`extRunF_guard_unused`).
`extRun` is the unguarded loop without fault (`extRunF_asIs_none`).
-/
namespace Infretis.EngineFault
open Infretis.EngineLoops

/-- **The guard changes nothing on a run in which no exception leaves the loop**: neither the body's nor an
    IndexError (the only own exception raised inside the block; with the guard the handler then polls once more). -/
theorem extRunF_guard_unused (k : Kind) (c : Cfg) (sched : Sched) (code : Int) (frames : List Frame) (fuel : Nat)
    (fault : Option Nat) (hb : (extRunF .asIs k c sched code frames fuel fault).body = false)
    (hi : (extRunF .asIs k c sched code frames fuel fault).res.raised ≠ some .index) :
    extRunF .guarded k c sched code frames fuel fault = extRunF .asIs k c sched code frames fuel fault := by
  unfold extRunF at hb hi ⊢
  cases hw : waitFile sched fuel XState.init with
  | none => rfl
  | some s =>
    obtain ⟨d, hp, _⟩ := poll_spec sched s
    simp only [hw, hp] at hb hi ⊢
    generalize hse : (if (!d || decide (code = 0)) = true
          then readerLoopF k c sched frames fault fuel { s with t := s.t + 1, cur := sched s.t, dead := d }
          else ({ s with t := s.t + 1, cur := sched s.t, dead := d }, none)) = se at hb hi ⊢
    have hx := (block_spec hw d hse).2
    obtain ⟨s2, e⟩ := se
    rcases e with _ | ⟨e⟩ | _
    · rfl
    · rcases hx with rfl | rfl
      · exact absurd rfl hi
      · rfl
    · cases hb

theorem extRunF_guarded_none (k : Kind) (c : Cfg) (sched : Sched) (code : Int) (frames : List Frame) (fuel : Nat)
    (h : (extRun k c sched code frames fuel).raised ≠ some .index) :
    extRunF .guarded k c sched code frames fuel none = { res := extRun k c sched code frames fuel, body := false } := by
  rw [← extRunF_asIs_none]
  exact extRunF_guard_unused k c sched code frames fuel none (by rw [extRunF_asIs_none]) (by rwa [extRunF_asIs_none])

theorem onExc_guarded_dead(sched : Sched) (s : XState) : (onExc .guarded sched s).dead = true := by
  simp [onExc]

end Infretis.EngineFault
