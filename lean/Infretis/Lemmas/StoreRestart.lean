import Infretis.Model.StoreRestart
import Infretis.Lemmas.StoreProt
/-!
C14, part B: the invariants survive a restart between two calls; the induction over a history that
carries an invariant of the steps to the end of `run` / `runR`.
-/
namespace Infretis.Store

theorem intact_restart (s : St) (p : Nat) : Intact (restartSt s) p ↔ Intact s p := Iff.rfl

theorem restart_keys (s : St) : ∀ q ∈ keys (restartSt s).trajData, q ∈ s.restart := by
  intro q hq
  simp only [restartSt, keys, List.mem_map, List.mem_filterMap] at hq
  obtain ⟨e, ⟨p, hp, he⟩, rfl⟩ := hq
  cases hl : lookup p s.txt with
  | none => simp [hl] at he
  | some adr =>
    simp only [hl, Option.map_some, Option.some.injEq] at he
    subst he
    exact hp

/-- the paths named by the restart file are intact and numbered below traj_num (`Prot`): so the
    restarted state satisfies `Good` -/
theorem good_restart (s : St) (hp : Prot s) : Good (restartSt s) := by
  refine ⟨?_, ?_, ?_, ?_⟩
  · intro q hq; simp [restartSt, keys] at hq
  · exact hp.restart_lt
  · intro q hq; exact hp.restart_lt q (restart_keys s q hq)
  · exact hp.restart_intact

theorem prot_restart (s : St) (hp : Prot s) : Prot (restartSt s) := by
  refine ⟨hp.restart_lt, hp.restart_intact, ?_, ?_⟩
  · have := hp.olds_len
    show 0 + 1 ≤ s.n
    omega
  · intro p _ hk; simp [restartSt, keys] at hk

theorem restart_disk (s : St) : (restartSt s).disk = s.disk ∧ (restartSt s).n = s.n ∧ (restartSt s).restart = s.restart ∧
    (restartSt s).trajNum = s.trajNum ∧ (restartSt s).cnt = 0 ∧ (restartSt s).pnOlds = [] ∧ (restartSt s).live = s.restart :=
  ⟨rfl, rfl, rfl, rfl, rfl, rfl, rfl⟩

/-- `run` and `runR` iterate a step function until it raises.  A predicate `P` on (state, exception) that every
    step re-establishes, under a side condition `C` on the remaining history that successful steps hand on,
    holds of the result — also when the run ends in an exception (the state then is the one the failing
    step left). -/
theorem iter_invariant {σ ο : Type} (step : σ → ο → σ × Option Err) (run : σ → List ο → σ × Option Err)
    (hnil : ∀ s, run s [] = (s, none))
    (hcons : ∀ s o os, run s (o :: os) =
      match (step s o).2 with
      | none => run (step s o).1 os
      | some e => ((step s o).1, some e))
    (P : σ × Option Err → Prop) (C : σ → List ο → Prop)
    (hC : ∀ s o os, C s (o :: os) → (step s o).2 = none → C (step s o).1 os)
    (hP : ∀ s o os, P (s, none) → C s (o :: os) → P (step s o)) :
    ∀ (os : List ο) (s : σ), P (s, none) → C s os → P (run s os) := by
  intro os
  induction os with
  | nil => intro s h _; rw [hnil]; exact h
  | cons o os ih =>
    intro s h hc
    have hs := hP s o os h hc
    rw [hcons]
    split
    · rename_i hok
      exact ih _ (by rw [← hok]; exact hs) (hC s o os hc hok)
    · rename_i e he
      rw [← he]; exact hs

theorem run_invariant (P : St → Prop) (C : St → List Op → Prop)
    (hC : ∀ s o os, C s (o :: os) → (step s o).2 = none → C (step s o).1 os)
    (hP : ∀ s o os, P s → C s (o :: os) → P (step s o).1) (os : List Op) (s : St) :
    P s → C s os → P (run s os).1 :=
  iter_invariant step run (fun _ => rfl) (fun _ _ _ => rfl) (fun r => P r.1) C hC hP os s

theorem runR_invariant (P : St → Prop) (C : St → List OpR → Prop)
    (hC : ∀ s o os, C s (o :: os) → (stepR s o).2 = none → C (stepR s o).1 os)
    (hP : ∀ s o os, P s → C s (o :: os) → P (stepR s o).1) (os : List OpR) (s : St) :
    P s → C s os → P (runR s os).1 :=
  iter_invariant stepR runR (fun _ => rfl) (fun _ _ _ => rfl) (fun r => P r.1) C hC hP os s

end Infretis.Store
