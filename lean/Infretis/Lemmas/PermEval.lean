import Infretis.Model.PermEval
/-!
# Evaluating `infRetis` on concrete matrices inside proofs

`argsort` is `List.mergeSort` (well-founded recursion), which `decide` cannot unfold on lists longer than one.
`Model/PermEval.lean` splits `infRetis` into the keys handed to the two `argsort` calls, the preparation given their
results, and the rest; all three are structurally recursive, so a concrete evaluation needs only the two `argsort`
values (proved by `simp` with the `mergeSort` equations).  Here: the pieces compose to `prepare` and `infRetis` by `rfl`.
-/
namespace Infretis.Perm

theorem prepare_eq_given (off : Nat) (W : Mat) (locks : List Bool) :
    prepare off W locks
      = prepareGiven off W locks (argsort (keysMinus off W locks)) (argsort (keysPlus off W locks)) := rfl

theorem infRetis_eq_finish (W : Mat) (locks : List Bool) (off : Nat) :
    infRetis W locks off = finishOf locks (prepare off W locks) := rfl

theorem infRetis_of_argsorts (W : Mat) (locks : List Bool) (off : Nat) (km kp : List Int) (a b : List Nat)
    (h1 : keysMinus off W locks = km) (h2 : keysPlus off W locks = kp)
    (h3 : argsort km = a) (h4 : argsort kp = b) :
    infRetis W locks off = finishOf locks (prepareGiven off W locks a b)
      ∧ prepare off W locks = prepareGiven off W locks a b := by
  rw [infRetis_eq_finish, prepare_eq_given, h1, h2, h3, h4]
  exact ⟨rfl, rfl⟩

/-- sorted keys are their own (stable) order: the common case of the two `argsort` values -/
theorem argsort_of_sorted (keys : List Int) (h : keys.Pairwise (· ≤ ·)) : argsort keys = List.range keys.length := by
  unfold argsort
  rw [List.mergeSort_of_pairwise]
  · simp [List.range_eq_range']
  · rw [List.pairwise_iff_getElem] at h ⊢
    intro i j hi hj hij
    simp only [List.getElem_zipIdx, decide_eq_true_eq]
    simp only [List.length_zipIdx] at hi hj
    exact h i j hi hj hij

end Infretis.Perm
