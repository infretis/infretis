import Infretis.Model.StoreMove
import Infretis.Lemmas.StoreCodec
import Infretis.Lemmas.Assoc
import Infretis.Lemmas.ListAux
/-!
The file operations of `_move_path` (`Infretis/Model/StoreMove.lean`).  The file system and the move dict are
association lists: `fsGet` is `List.lookup`, `dsetF` is `Assoc.set`.
-/
namespace Infretis.Store

theorem fsGet_cons_same (k : FName) (c : Nat) (fs : FS) : fsGet ((k, c) :: fs) k = some c := by
  simp [fsGet]

theorem fsGet_cons_ne (k k' : FName) (c : Nat) (fs : FS) (h : k' ≠ k) : fsGet ((k', c) :: fs) k = fsGet fs k := by
  simp [fsGet, h]

theorem fsGet_eq (fs : FS) (k : FName) : fsGet fs k = fs.lookup k := by
  induction fs with
  | nil => rfl
  | cons e t ih =>
    obtain ⟨k', c⟩ := e
    rw [fsGet, List.lookup_cons, ih]
    by_cases h : k' = k
    · simp [h]
    · have : (k == k') = false := by simpa using fun e : k = k' => h e.symm
      simp [h, this]

theorem fsGet_remove (k k' : FName) (fs : FS) : fsGet (fsRemove fs k') k = if k = k' then none else fsGet fs k := by
  rw [fsGet_eq, fsGet_eq, fsRemove, Assoc.lookup_filter fs (fun a => decide (a ≠ k')) k]
  by_cases h : k = k' <;> simp [h]

theorem fsGet_remove_same (k : FName) (fs : FS) : fsGet (fsRemove fs k) k = none := by
  rw [fsGet_remove, if_pos rfl]

theorem fsGet_remove_ne (k k' : FName) (h : k ≠ k') (fs : FS) : fsGet (fsRemove fs k') k = fsGet fs k := by
  rw [fsGet_remove, if_neg h]

/-- every source goes to `target/<its own name>`, sources are distinct files outside `target`,
    and no two of them have the same name -/
structure DictOk (target : String) (d : MoveDict) : Prop where
  form : ∀ e ∈ d, e.2 = (target, e.1.2) ∧ e.1.1 ≠ target
  keys_nodup : (d.map (·.1)).Nodup
  names_nodup : (d.map (·.1.2)).Nodup

theorem DictOk.tail {target : String} {e : FName × FName} {t : MoveDict} (h : DictOk target (e :: t)) : DictOk target t :=
  ⟨fun x hx => h.form x (List.mem_cons_of_mem _ hx), (List.nodup_cons.mp h.keys_nodup).2,
   (List.nodup_cons.mp h.names_nodup).2⟩

theorem doMoves_spec (target : String) : ∀ (d : MoveDict) (fs : FS), DictOk target d →
    (∀ e ∈ d, fsGet fs e.1 ≠ none) →
    (doMoves d fs).2 = none ∧
    (∀ e ∈ d, fsGet (doMoves d fs).1 e.2 = fsGet fs e.1 ∧ fsGet (doMoves d fs).1 e.1 = none) ∧
    (∀ k, k ∉ d.map (·.1) → k ∉ d.map (·.2) → fsGet (doMoves d fs).1 k = fsGet fs k) := by
  intro d
  induction d with
  | nil => intro fs _ _; exact ⟨rfl, fun e he => absurd he (by simp), fun k _ _ => rfl⟩
  | cons e t ih =>
    intro fs hok hpres
    obtain ⟨src, dest⟩ := e
    have hf := hok.form (src, dest) (by simp)
    have hdest : dest = (target, src.2) := hf.1
    have hsd : src ≠ dest := by
      intro h; apply hf.2; rw [h, hdest]
    obtain ⟨c, hc⟩ := Option.ne_none_iff_exists'.mp (hpres (src, dest) (by simp))
    -- the file system after removing an existing destination
    have hfs1 : ∀ k, k ≠ dest →
        fsGet (if fsIsfile fs dest = true then fsRemove fs dest else fs) k = fsGet fs k := by
      intro k hk
      split
      · exact fsGet_remove_ne k dest hk fs
      · rfl
    have hsrc1 : fsGet (if fsIsfile fs dest = true then fsRemove fs dest else fs) src = some c := by
      rw [hfs1 src hsd]; exact hc
    have hstep : doMoves ((src, dest) :: t) fs =
        doMoves t ((dest, c) :: fsRemove (if fsIsfile fs dest = true then fsRemove fs dest else fs) src) := by
      rw [doMoves]
      simp only [hsd, if_false, hsrc1]
    rw [hstep]
    generalize hfs2 : ((dest, c) :: fsRemove (if fsIsfile fs dest = true then fsRemove fs dest else fs) src) = fs2
    have h2dest : fsGet fs2 dest = some c := by rw [← hfs2]; exact fsGet_cons_same _ _ _
    have h2src : fsGet fs2 src = none := by
      rw [← hfs2, fsGet_cons_ne _ _ _ _ (fun e => hsd e.symm)]
      exact fsGet_remove_same src _
    have h2other : ∀ k, k ≠ src → k ≠ dest → fsGet fs2 k = fsGet fs k := by
      intro k h1 h2
      rw [← hfs2, fsGet_cons_ne _ _ _ _ (fun e => h2 e.symm), fsGet_remove_ne k src h1, hfs1 k h2]
    have hkn := List.nodup_cons.mp hok.keys_nodup
    have hnn := List.nodup_cons.mp hok.names_nodup
    have ht_src : ∀ x ∈ t, x.1 ≠ src := by
      intro x hx he
      exact hkn.1 (List.mem_map.mpr ⟨x, hx, he⟩)
    have ht_dest : ∀ x ∈ t, x.1 ≠ dest := by
      intro x hx he
      have := (hok.form x (List.mem_cons_of_mem _ hx)).2
      apply this; rw [he, hdest]
    have ht_dd : ∀ x ∈ t, x.2 ≠ dest := by
      intro x hx he
      have hx2 := (hok.form x (List.mem_cons_of_mem _ hx)).1
      rw [hx2, hdest] at he
      have : x.1.2 = src.2 := by injection he
      exact hnn.1 (List.mem_map.mpr ⟨x, hx, this⟩)
    have ht_ds : ∀ x ∈ t, x.2 ≠ src := by
      intro x hx he
      have hx2 := (hok.form x (List.mem_cons_of_mem _ hx)).1
      apply hf.2
      rw [← he, hx2]
    obtain ⟨ih1, ih2, ih3⟩ := ih fs2 hok.tail (by
      intro x hx
      rw [h2other x.1 (ht_src x hx) (ht_dest x hx)]
      exact hpres x (List.mem_cons_of_mem _ hx))
    refine ⟨ih1, ?_, ?_⟩
    · intro x hx
      rcases List.mem_cons.mp hx with h | h
      · subst h
        refine ⟨?_, ?_⟩
        · show fsGet (doMoves t fs2).1 dest = fsGet fs src
          rw [ih3 dest (by
            intro hm; obtain ⟨y, hy, hyd⟩ := List.mem_map.mp hm; exact ht_dest y hy hyd) (by
            intro hm; obtain ⟨y, hy, hyd⟩ := List.mem_map.mp hm; exact ht_dd y hy hyd), h2dest, hc]
        · show fsGet (doMoves t fs2).1 src = none
          rw [ih3 src (by
            intro hm; obtain ⟨y, hy, hyd⟩ := List.mem_map.mp hm; exact ht_src y hy hyd) (by
            intro hm; obtain ⟨y, hy, hyd⟩ := List.mem_map.mp hm; exact ht_ds y hy hyd), h2src]
      · obtain ⟨a, b⟩ := ih2 x h
        exact ⟨by rw [a, h2other x.1 (ht_src x h) (ht_dest x h)], b⟩
    · intro k hk1 hk2
      simp only [List.map_cons, List.mem_cons, not_or] at hk1 hk2
      rw [ih3 k hk1.2 hk2.2, h2other k hk1.1 hk2.1]

theorem sourceDict_keys (target : String) (fs : List Frame) : (sourceDict target fs).map (·.1) = sources fs := by
  simp [sourceDict, List.map_map, Function.comp_def]

theorem dsetF_eq (k v : FName) (d : MoveDict) : dsetF k v d = Assoc.set k v d := by
  induction d with
  | nil => rfl
  | cons e t ih => simp [dsetF, Assoc.set, ih]

theorem dsetF_keys (k v : FName) (d : MoveDict) :
    (dsetF k v d).map (·.1) = if k ∈ d.map (·.1) then d.map (·.1) else d.map (·.1) ++ [k] :=
  dsetF_eq k v d ▸ Assoc.keys_set k v d

theorem dsetF_mem (k v : FName) (d : MoveDict) (e : FName × FName) (h : e ∈ dsetF k v d) : e = (k, v) ∨ e ∈ d :=
  (Assoc.mem_set (dsetF_eq k v d ▸ h)).symm

/-- what the `keep_traj_fnames` loops preserve: the form of the entries, presence of the sources,
    distinct keys (that they never drop a key is the second half of each `keepInv_*` lemma) -/
structure KeepInv (fs : FS) (target : String) (dirs : List String) (d : MoveDict) : Prop where
  form : ∀ e ∈ d, e.2 = (target, e.1.2) ∧ e.1.1 ∈ dirs
  present : ∀ e ∈ d, fsGet fs e.1 ≠ none
  keys_nodup : (d.map (·.1)).Nodup

theorem keepInv_dsetF (fs : FS) (target : String) (dirs : List String) (d : MoveDict) (h : KeepInv fs target dirs d)
    (dir nm : String) (hd : dir ∈ dirs) (hp : fsIsfile fs (dir, nm) = true) :
    KeepInv fs target dirs (dsetF (dir, nm) (target, nm) d) ∧
    ∀ k ∈ d.map (·.1), k ∈ (dsetF (dir, nm) (target, nm) d).map (·.1) := by
  refine ⟨⟨?_, ?_, ?_⟩, ?_⟩
  · intro e he
    rcases dsetF_mem _ _ d e he with h' | h'
    · subst h'; exact ⟨rfl, hd⟩
    · exact h.form e h'
  · intro e he
    rcases dsetF_mem _ _ d e he with h' | h'
    · subst h'
      unfold fsIsfile at hp
      intro hn; rw [hn] at hp; simp at hp
    · exact h.present e h'
  · rw [dsetF_keys]
    split
    · exact h.keys_nodup
    · rename_i hk
      exact nodup_snoc h.keys_nodup hk
  · intro k hk
    rw [dsetF_keys]
    split
    · exact hk
    · exact List.mem_append_left _ hk

theorem keepInv_keepOne (fs : FS) (target : String) (dirs : List String) (src : FName) (hs : src.1 ∈ dirs) :
    ∀ (exts : List String) (d : MoveDict), KeepInv fs target dirs d →
      KeepInv fs target dirs (keepOne fs target src exts d) ∧
      ∀ k ∈ d.map (·.1), k ∈ (keepOne fs target src exts d).map (·.1) := by
  intro exts
  induction exts with
  | nil => intro d h; exact ⟨h, fun k hk => hk⟩
  | cons ext exts ih =>
    intro d h
    unfold keepOne
    simp only
    by_cases hp : fsIsfile fs (src.1, stemOf src.2 ++ ext) = true
    · simp only [hp, if_true]
      obtain ⟨h1, h2⟩ := keepInv_dsetF fs target dirs d h src.1 (stemOf src.2 ++ ext) hs hp
      obtain ⟨h3, h4⟩ := ih _ h1
      exact ⟨h3, fun k hk => h4 k (h2 k hk)⟩
    · simp only [hp, Bool.false_eq_true, if_false]
      exact ih d h

theorem keepInv_keepAll (fs : FS) (target : String) (dirs : List String) (keep : List String) :
    ∀ (ss : List FName) (d : MoveDict), (∀ s ∈ ss, s.1 ∈ dirs) → KeepInv fs target dirs d →
      KeepInv fs target dirs (keepAll fs target keep ss d) ∧
      ∀ k ∈ d.map (·.1), k ∈ (keepAll fs target keep ss d).map (·.1) := by
  intro ss
  induction ss with
  | nil => intro d _ h; exact ⟨h, fun k hk => hk⟩
  | cons s ss ih =>
    intro d hs h
    unfold keepAll
    obtain ⟨h1, h2⟩ := keepInv_keepOne fs target dirs s (hs s (by simp)) keep d h
    obtain ⟨h3, h4⟩ := ih _ (fun x hx => hs x (List.mem_cons_of_mem _ hx)) h1
    exact ⟨h3, fun k hk => h4 k (h2 k hk)⟩

theorem moveDict_inv (fs : FS) (target : String) (keep : List String) (frames : List Frame)
    (H1 : ∀ f ∈ frames, fsGet fs (f.dir, f.base) ≠ none) :
    KeepInv fs target (frames.map (·.dir)) (moveDict fs target keep frames) ∧
    ∀ f ∈ frames, (f.dir, f.base) ∈ (moveDict fs target keep frames).map (·.1) := by
  have h0 : KeepInv fs target (frames.map (·.dir)) (sourceDict target frames) := by
    refine ⟨?_, ?_, ?_⟩
    · intro e he
      obtain ⟨s, hs, rfl⟩ := List.mem_map.mp he
      obtain ⟨f, hf, rfl⟩ := sources_sub frames s hs
      exact ⟨rfl, List.mem_map.mpr ⟨f, hf, rfl⟩⟩
    · intro e he
      obtain ⟨s, hs, rfl⟩ := List.mem_map.mp he
      obtain ⟨f, hf, rfl⟩ := sources_sub frames s hs
      exact H1 f hf
    · rw [sourceDict_keys]; exact sources_nodup frames
  have hk0 : ∀ f ∈ frames, (f.dir, f.base) ∈ (sourceDict target frames).map (·.1) := by
    intro f hf; rw [sourceDict_keys]; exact mem_sources frames f hf
  unfold moveDict
  simp only
  split
  · exact ⟨h0, hk0⟩
  · obtain ⟨h1, h2⟩ := keepInv_keepAll fs target (frames.map (·.dir)) keep
      ((sourceDict target frames).map (·.1)) (sourceDict target frames) (by
      intro s hs
      rw [sourceDict_keys] at hs
      obtain ⟨f, hf, rfl⟩ := sources_sub frames s hs
      exact List.mem_map.mpr ⟨f, hf, rfl⟩) h0
    exact ⟨h1, fun f hf => h2 _ (hk0 f hf)⟩

theorem mem_accListing (fs : FS) (target nm : String) (h : fsGet fs (target, nm) ≠ none) : nm ∈ accListing fs target := by
  obtain ⟨c, hc⟩ := Option.ne_none_iff_exists'.mp h
  exact List.mem_map.mpr ⟨_, List.mem_filter.mpr ⟨Assoc.mem_of_lookup (fsGet_eq fs _ ▸ hc), by simp⟩, rfl⟩

end Infretis.Store
