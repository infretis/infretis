import Infretis.Lemmas.PathAlg
/-!
`Path.reverse` as the copy loop on the reversed frame list followed by the re-computation of `order`
(`reverse_eq`): the reversed path (`reverse_snd`), the heap it lives in (`reverse_heap`) and the field values
of its frames (`reverse_vals`, in terms of `revVals`).
-/
namespace Infretis.PathAlg

/-- what `reverse(order_function, rev_v)` does to the field values of one frame -/
def revVals (ofn : Option OrderFn) (rv : Bool) (v : Vals) : Vals :=
  if rv then
    match ofn with
    | some f => if f.velDep then { flipV v with order := f.calcF (flipV v) } else flipV v
    | none => flipV v
  else v

/-- the field values of the frames of a path, as seen in a heap -/
def vals (h : Heap) (p : Path) : List (Option Vals) := p.frames.map (fun r => (h.look r).map (·.v))

/-- the empty path `reverse` starts from -/
def revStart (p : Path) : Path := { Path.empty p.maxlen 0 with weights := p.weights }

@[simp] theorem revStart_frames (p : Path) : (revStart p).frames = [] := rfl

theorem room_revStart (p : Path) (n : Nat) : room (revStart p) n = capLen p.maxlen n :=
  room_empty p.maxlen 0 n

/-- the heap after the copy loop of `reverse` -/
def revHeap1 (h : Heap) (p : Path) (rv : Bool) : Heap :=
  (copyEach (if rv then flipS else id) false h (revStart p) p.frames.reverse).1

theorem wf_reverse (h : Heap) (rs : List Nat) (hwf : WF h rs) : WF h rs.reverse :=
  fun r hr => hwf r (List.mem_reverse.1 hr)

/-- the `calculate` with which `reverse` re-assigns `order` on the new frames, if it does: only for a
    velocity dependent order function and `rev_v` -/
def recalc (ofn : Option OrderFn) (rv : Bool) : Option (Vals → List Int) :=
  match ofn with
  | some f => if f.velDep && rv then some f.calcF else none
  | none => none

/-- field values with `order` re-computed (or not) -/
def reorder (c : Option (Vals → List Int)) (v : Vals) : Vals :=
  match c with
  | some g => { v with order := g v }
  | none => v

theorem revVals_eq (ofn : Option OrderFn) (rv : Bool) (v : Vals) :
    revVals ofn rv v = reorder (recalc ofn rv) (if rv then flipV v else v) := by
  cases ofn with
  | none => cases rv <;> rfl
  | some f => cases rv <;> cases hvd : f.velDep <;> simp [revVals, recalc, reorder, hvd]

theorem reverse_eq (h : Heap) (p : Path) (ofn : Option OrderFn) (rv : Bool) :
    Path.reverse h p ofn rv
      = (match recalc ofn rv with
         | some c => recompute c (revHeap1 h p rv)
             (copyEach (if rv then flipS else id) false h (revStart p) p.frames.reverse).2.frames
         | none => revHeap1 h p rv,
         (copyEach (if rv then flipS else id) false h (revStart p) p.frames.reverse).2) := by
  unfold Path.reverse revHeap1 recalc
  simp only [revStart]
  cases ofn with
  | none => rfl
  | some f => cases hc : (f.velDep && rv) <;> simp [hc]

theorem revFrames (h : Heap) (p : Path) (rv : Bool) (hwf : WF h p.frames) :
    (copyEach (if rv then flipS else id) false h (revStart p) p.frames.reverse).2
      = (revStart p).withFrames (List.range' h.sys.length (capLen p.maxlen p.frames.length)) := by
  rw [copyEach_frames _ _ _ _ _ (wf_reverse h _ hwf), room_revStart, List.length_reverse, revStart_frames,
    List.nil_append]

theorem reverse_snd (h : Heap) (p : Path) (ofn : Option OrderFn) (rv : Bool) (hwf : WF h p.frames) :
    (Path.reverse h p ofn rv).2
      = (revStart p).withFrames (List.range' h.sys.length (capLen p.maxlen p.frames.length)) := by
  rw [reverse_eq, revFrames h p rv hwf]

theorem reverse_fst (h : Heap) (p : Path) (ofn : Option OrderFn) (rv : Bool) (hwf : WF h p.frames) :
    (Path.reverse h p ofn rv).1
      = match recalc ofn rv with
        | some c => recompute c (revHeap1 h p rv) (List.range' h.sys.length (capLen p.maxlen p.frames.length))
        | none => revHeap1 h p rv := by
  rw [reverse_eq, revFrames h p rv hwf]; rfl

theorem revHeap1_len (h : Heap) (p : Path) (rv : Bool) (hwf : WF h p.frames) :
    (revHeap1 h p rv).sys.length = h.sys.length + p.frames.length := by
  unfold revHeap1
  rw [copyEach_len _ _ _ _ _ (wf_reverse h _ hwf)]
  simp [nAlloc]

theorem revHeap1_old (h : Heap) (p : Path) (rv : Bool) (hwf : WF h p.frames) (r : Nat)
    (hr : r < h.sys.length) : (revHeap1 h p rv).look r = h.look r :=
  copyEach_old _ _ _ _ _ (wf_reverse h _ hwf) r hr

theorem recompute_writes (c : Vals → List Int) : ∀ (rs : List Nat) (h : Heap), h.Writes rs (recompute c h rs)
  | [], h => .refl ..
  | r :: rs, h => by
    rw [recompute]
    split
    · exact (setOrder_writes h r _).cons (recompute_writes c rs _)
    · exact (Heap.Writes.refl h [r]).cons (recompute_writes c rs _)

theorem recompute_look (c : Vals → List Int) : ∀ (rs : List Nat) (h : Heap), WF h rs → rs.Nodup →
    ∀ r ∈ rs, ((recompute c h rs).look r).map (·.v) = (h.look r).map (fun s => { s.v with order := c s.v })
  | x :: xs, h, hwf, hnd, r, hr => by
    have hlx := look_of_lt h x (hwf x (by simp))
    have hnd' := List.nodup_cons.1 hnd
    have hw := setOrder_writes h x (c (h.getD x).v)
    have hrec : recompute c h (x :: xs) = recompute c (h.setOrder x (c (h.getD x).v)) xs := by
      simp only [recompute, hlx]
    rw [hrec]
    rcases List.mem_cons.1 hr with rfl | hr
    · rw [(recompute_writes c xs _).look_ne r hnd'.1, hlx]
      exact setOrder_look_self h r _ _ hlx
    · rw [recompute_look c xs _ (fun y hy => hw.len ▸ hwf y (by simp [hy])) hnd'.2 r hr,
        hw.look_ne r (fun hh => hnd'.1 (List.mem_singleton.1 hh ▸ hr))]

theorem wf_revHeap1 (h : Heap) (p : Path) (rv : Bool) (hwf : WF h p.frames) :
    WF (revHeap1 h p rv) (List.range' h.sys.length (capLen p.maxlen p.frames.length)) := by
  intro r hr
  have := (List.mem_range'_1.1 hr).2
  have := capLen_le p.maxlen p.frames.length
  rw [revHeap1_len h p rv hwf]; omega

theorem reverse_heap (h : Heap) (p : Path) (ofn : Option OrderFn) (rv : Bool) (hwf : WF h p.frames) :
    (Path.reverse h p ofn rv).1.sys.length = h.sys.length + p.frames.length
    ∧ ∀ r, r < h.sys.length → (Path.reverse h p ofn rv).1.look r = h.look r := by
  rw [reverse_fst h p ofn rv hwf]
  cases recalc ofn rv with
  | none => exact ⟨revHeap1_len h p rv hwf, revHeap1_old h p rv hwf⟩
  | some c =>
    -- the new frames are distinct valid references
    have hs := recompute_writes c (List.range' h.sys.length (capLen p.maxlen p.frames.length)) (revHeap1 h p rv)
    refine ⟨by rw [hs.len, revHeap1_len h p rv hwf], fun r hr => ?_⟩
    rw [hs.look_ne r (by simp; omega)]
    exact revHeap1_old h p rv hwf r hr

theorem reverse_wf (h : Heap) (p : Path) (ofn : Option OrderFn) (rv : Bool) (hwf : WF h p.frames) :
    WF (Path.reverse h p ofn rv).1 (Path.reverse h p ofn rv).2.frames := by
  intro r hr
  rw [reverse_snd h p ofn rv hwf] at hr
  have := (List.mem_range'_1.1 hr).2
  have := capLen_le p.maxlen p.frames.length
  rw [(reverse_heap h p ofn rv hwf).1]
  omega

theorem reverse_vals (h : Heap) (p : Path) (ofn : Option OrderFn) (rv : Bool) (hwf : WF h p.frames) :
    vals (Path.reverse h p ofn rv).1 (Path.reverse h p ofn rv).2
      = capTake p.maxlen ((vals h p).reverse.map (Option.map (revVals ofn rv))) := by
  have hlk := copyEach_new_looks (if rv then flipS else id) false p.frames.reverse h (revStart p)
    (wf_reverse h _ hwf)
  rw [room_revStart, List.length_reverse] at hlk
  -- right-hand side in terms of the reversed frame list
  have hrhs : capTake p.maxlen ((vals h p).reverse.map (Option.map (revVals ofn rv)))
      = (p.frames.reverse.take (capLen p.maxlen p.frames.length)).map
          (fun r => (h.look r).map (fun s => revVals ofn rv s.v)) := by
    rw [← take_capLen]
    simp only [vals, List.length_map, List.length_reverse, ← List.map_reverse, List.map_map, List.map_take]
    congr 1
    apply List.map_congr_left
    intro r _
    show Option.map _ (Option.map _ (h.look r)) = _
    cases h.look r <;> rfl
  rw [hrhs]
  unfold vals
  rw [reverse_snd h p ofn rv hwf]
  simp only [withFrames_frames]
  -- left-hand side: a new frame holds what the copy loop put there, with `order` re-computed if `recalc`
  have hG : ∀ r ∈ List.range' h.sys.length (capLen p.maxlen p.frames.length),
      ((Path.reverse h p ofn rv).1.look r).map (·.v)
        = ((revHeap1 h p rv).look r).map (fun s => reorder (recalc ofn rv) s.v) := by
    intro r hr
    rw [reverse_fst h p ofn rv hwf]
    cases recalc ofn rv with
    | none => rfl
    | some c => exact recompute_look c _ _ (wf_revHeap1 h p rv hwf) List.nodup_range' r hr
  rw [List.map_congr_left hG]
  refine (List.map_map (g := Option.map fun s => reorder (recalc ofn rv) s.v)
    (f := (revHeap1 h p rv).look)).symm.trans ?_
  unfold revHeap1
  rw [hlk, List.map_map]
  apply List.map_congr_left
  intro r _
  show Option.map _ (Option.map _ (h.look r)) = _
  cases h.look r with
  | none => rfl
  | some s => simp only [Option.map_some, revVals_eq]; cases rv <;> rfl

theorem reverse_vals_of_fits (h : Heap) (p : Path) (ofn : Option OrderFn) (rv : Bool) (hwf : WF h p.frames)
    (hfits : capLen p.maxlen p.frames.length = p.frames.length) :
    vals (Path.reverse h p ofn rv).1 (Path.reverse h p ofn rv).2
      = (vals h p).reverse.map (Option.map (revVals ofn rv)) := by
  rw [reverse_vals h p ofn rv hwf]
  exact capTake_of_fits _ _ (by simpa [vals] using hfits)

theorem revVals_velRev (ofn : Option OrderFn) (rv : Bool) (v : Vals) :
    (revVals ofn rv v).velRev = (v.velRev != rv) := by
  rw [revVals_eq]
  cases recalc ofn rv <;> cases rv <;> simp [reorder, flipV]

theorem recalc_eq_none (ofn : Option OrderFn) (rv : Bool)
    (hno : ∀ f, ofn = some f → (f.velDep && rv) = false) : recalc ofn rv = none := by
  cases ofn with
  | none => rfl
  | some f => simp [recalc, hno f rfl]

theorem revVals_order_of_no_recompute (ofn : Option OrderFn) (rv : Bool) (v : Vals)
    (hno : ∀ f, ofn = some f → (f.velDep && rv) = false) : (revVals ofn rv v).order = v.order := by
  rw [revVals_eq, recalc_eq_none ofn rv hno]
  cases rv <;> rfl

theorem flipV_flipV (v : Vals) : flipV (flipV v) = v := by
  cases v; simp [flipV]

theorem revVals_revVals (ofn : Option OrderFn) (rv : Bool) (v : Vals)
    (hcons : ∀ f, ofn = some f → f.velDep = true → rv = true →
      (∀ w o, f.calcF { w with order := o } = f.calcF w) ∧ f.calcF v = v.order) :
    revVals ofn rv (revVals ofn rv v) = v := by
  unfold revVals
  cases rv with
  | false => simp
  | true =>
    simp only [if_true]
    cases ofn with
    | none => exact flipV_flipV v
    | some f =>
      obtain ⟨vd, c⟩ := f
      cases vd with
      | false => simp [flipV_flipV]
      | true =>
        obtain ⟨h1, h2⟩ := hcons _ rfl rfl rfl
        simp only at h1 h2
        simp only [if_true]
        have e : flipV { flipV v with order := c (flipV v) } = { v with order := c (flipV v) } := by
          cases v; simp [flipV]
        rw [e]
        have e2 := h1 v (c (flipV v))
        simp only [e2, h2]

end Infretis.PathAlg
