import Infretis.Model.StoreWs
import Infretis.Lemmas.CodecFixed
/-!
`strip` / `split` w.r.t. Python's COMPLETE white-space set (`Model/StoreWs.lean`), for the text level of C14:
they are `Lex.strip` / `Lex.split` of `StoreText.isWs`, so the lexical lemmas of `Lemmas/Lex.lean` apply.
-/
namespace Infretis.StoreText
open Infretis.Codec (numChars NoBrk fmtCore fmtCore_mem Dec)

def NoWs (l : List Char) : Prop := ∀ c ∈ l, isWs c = false

theorem numChars_noWs : ∀ c ∈ numChars, isWs c = false := by decide

/-- the ASCII-only predicate of `Infretis.Codec` is weaker: everything it calls white space is white space -/
theorem isWs_of_codec (c : Char) (h : Infretis.Codec.isWs c = true) : isWs c = true := by
  simp only [Infretis.Codec.isWs, Bool.or_eq_true, decide_eq_true_eq] at h
  rcases h with ((((((((h | h) | h) | h) | h) | h) | h) | h) | h) | h <;> (subst h; decide)

theorem NoWs.codec {l : List Char} (h : NoWs l) : Infretis.Codec.NoWs l := by
  intro c hc
  cases hw : Infretis.Codec.isWs c
  · rfl
  · have := isWs_of_codec c hw
    rw [h c hc] at this
    cases this

theorem fmtCore_noWs (prec : Nat) (d : Dec) : NoWs (fmtCore prec d) :=
  fun c h => numChars_noWs c (fmtCore_mem prec d c h)

theorem dropWhile_noWs {l : List Char} (h : NoWs l) : l.dropWhile isWs = l :=
  Lex.lstrip_ends (fun c e => h c (List.mem_of_mem_head? e))

theorem NoBrk_of_noWs {l : List Char} (h : NoWs l) : NoBrk l := by
  intro c hc
  have := h c hc
  constructor <;> (intro e; subst e; revert this; decide)

theorem splitWs_eq_split : ∀ l : List Char, splitWs l = Lex.split isWs l
  | [] => by rw [splitWs.eq_def]; rfl
  | [c] => by
    rw [splitWs.eq_def]
    simp only [Lex.split, splitWs_eq_split [], List.head?_nil, Option.all_none, if_true]
  | c :: d :: t => by
    rw [splitWs.eq_def, Lex.split]
    simp only [List.head?_cons, Option.all_some, splitWs_eq_split (d :: t)]
    cases Lex.split isWs (d :: t) <;> rfl

theorem isWs_blank : isWs ' ' = true := rfl

/-- the tokens of a line as the readers take them (`line.strip().split()`) -/
theorem splitWs_strip (l : List Char) : splitWs (strip l) = Lex.split isWs l :=
  (splitWs_eq_split _).trans (Lex.split_strip l)

/-- a token for `str.split()`: splitting a line that holds it between blanks gives it back; a token
    with a white-space character inside is split in two -/
theorem splitWs_inner_ws (a b : List Char) (c : Char) (ha : a ≠ []) (hna : NoWs a) (hc : isWs c = true) :
    splitWs (a ++ c :: b) = a :: splitWs b := by
  rw [splitWs_eq_split, splitWs_eq_split, Lex.split_tok ⟨ha, hna⟩ (Lex.Ends.cons hc b), Lex.split_ws hc]

end Infretis.StoreText
