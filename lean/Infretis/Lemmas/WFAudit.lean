import Infretis.Lemmas.WFSeg
import Infretis.Lemmas.WFCv
/-! * `left > right` (a cap below the ensemble's interface): no frame is inside, the scan records nothing, the
    weight is 0;
  * time reversal: the maximum and the end-point classification of a reversed path;
  * `load_paths` with the state's own size, `run_md` over all its trials, entry by entry. -/
namespace Infretis.WF
open Infretis.WFExt

theorem inside_of_gt (l r : Int) (h : r < l) (x : Int) : inside l r x = false := by
  rw [inside_false_iff]; omega

theorem scan_arr_of_gt (l r : Int) (h : r < l) (ops : List Int) : (scan l r ops).arr = [] := by
  rw [scan_arr_eq_specSegs]
  refine List.eq_nil_iff_forall_not_mem.2 fun seg hs => ?_
  -- a valid sub-path has a frame inside: the one after its entry frame
  obtain ⟨_, _, hcnt, hc1, _, hmid⟩ := (mem_specSegs_iff l r ops seg).1 hs
  obtain ⟨x, _, hx⟩ := hmid (seg.1 + 1) (by omega) (by omega)
  rw [inside_of_gt l r h] at hx
  cases hx

theorem weight_of_gt (l r : Int) (h : r < l) (ops : List Int) : weight l r ops = 0 := by
  unfold weight
  rw [scan_arr_of_gt l r h]
  rfl

theorem maxOf_reverse (ops : List Int) : maxOf ops.reverse = maxOf ops := by
  cases h : maxOf ops with
  | none =>
    cases ops with
    | nil => rfl
    | cons a t => simp [maxOf] at h
  | some m =>
    rw [maxOf_spec] at h ⊢
    simpa using h

theorem sidesDiffer_comm (s e : Side) : sidesDiffer s e = sidesDiffer e s := by
  cases s <;> cases e <;> rfl

theorem startPoint_eq_endPoint (l r x : Int) : startPoint l r x = endPoint l r x := rfl

end Infretis.WF

namespace Infretis.WFExt

theorem loadPlusIdx_spec (intfs : List Int) (moves : List Move) (lm1 cap : Option Int) (paths : List (List Int)) :
    ∀ (k j : Nat) (ws : List (List Nat)), loadPlusIdx intfs moves lm1 cap paths j k = .ok ws →
      ws.length = k ∧ j + k ≤ max paths.length j ∧
      ∀ t, t < k → ∃ p w, paths[j + t]? = some p ∧ loadPathWeights intfs moves lm1 cap p = .ok w ∧ ws[t]? = some w := by
  intro k
  induction k with
  | zero =>
    intro j ws h
    simp [loadPlusIdx] at h
    subst h
    refine ⟨rfl, by omega, ?_⟩
    intro t ht; omega
  | succ k ih =>
    intro j ws h
    simp only [loadPlusIdx] at h
    cases hp : paths[j]? with
    | none => simp [hp] at h
    | some p =>
      simp only [hp] at h
      cases hw : loadPathWeights intfs moves lm1 cap p with
      | error e => simp [hw] at h
      | ok w =>
        simp only [hw] at h
        cases hr : loadPlusIdx intfs moves lm1 cap paths (j + 1) k with
        | error e => simp [hr] at h
        | ok ws' =>
          simp only [hr] at h
          injection h with h
          subst h
          obtain ⟨hl, hb, hget⟩ := ih (j + 1) ws' hr
          have hjlt : j < paths.length := (List.getElem?_eq_some_iff.mp hp).1
          refine ⟨by simp [hl], by omega, ?_⟩
          intro t ht
          cases t with
          | zero => exact ⟨p, w, by simpa using hp, hw, rfl⟩
          | succ t =>
            obtain ⟨p', w', h1, h2, h3⟩ := hget t (by omega)
            refine ⟨p', w', ?_, h2, by simpa using h3⟩
            rw [← h1]; congr 1; omega

theorem loadPlusIdx_eq_loadPlus (intfs : List Int) (moves : List Move) (lm1 cap : Option Int) :
    ∀ (rest : List (List Int)) (pre : List (List Int)),
      loadPlusIdx intfs moves lm1 cap (pre ++ rest) pre.length rest.length = loadPlus intfs moves lm1 cap rest := by
  intro rest
  induction rest with
  | nil => intro pre; simp [loadPlusIdx, loadPlus]
  | cons p ps ih =>
    intro pre
    have hget : (pre ++ p :: ps)[pre.length]? = some p := by simp
    have hnext := ih (pre ++ [p])
    simp only [List.append_assoc, List.singleton_append, List.length_append, List.length_cons, List.length_nil,
      Nat.zero_add] at hnext
    simp only [List.length_cons, loadPlusIdx, hget, loadPlus, hnext]

theorem loadPlus_length {intfs : List Int} {moves : List Move} {lm1 cap : Option Int} {plus : List (List Int)}
    {ws : List (List Nat)} (h : loadPlus intfs moves lm1 cap plus = .ok ws) : ws.length = plus.length :=
  (loadPlusIdx_spec intfs moves lm1 cap plus _ _ ws ((loadPlusIdx_eq_loadPlus intfs moves lm1 cap plus []).trans h)).1

theorem runMdAll_spec (intfs : List Int) (moves : List Move) (cap : Option Int) (acc : Bool) :
    ∀ (trials : List (List Int)) (keys : List (Int × Option Int)) (out : List (Option (List Nat))),
      runMdAll intfs moves cap acc trials keys = .ok out →
      out.length = min trials.length keys.length ∧
      ∀ k (hk : k < out.length) (ht : k < trials.length) (hq : k < keys.length),
        runMdOne intfs moves cap acc keys[k].1 keys[k].2 trials[k] = .ok out[k] := by
  intro trials
  induction trials with
  | nil =>
    intro keys out h
    simp [runMdAll] at h
    subst h
    simp
  | cons t ts ih =>
    intro keys out h
    cases keys with
    | nil =>
      simp [runMdAll] at h
      subst h
      simp
    | cons key ks =>
      obtain ⟨e, lm1⟩ := key
      simp only [runMdAll] at h
      cases h1 : runMdOne intfs moves cap acc e lm1 t with
      | error er => simp [h1] at h
      | ok w =>
        simp only [h1] at h
        cases h2 : runMdAll intfs moves cap acc ts ks with
        | error er => simp [h2] at h
        | ok ws =>
          simp only [h2] at h
          injection h with h
          subst h
          obtain ⟨hl, hget⟩ := ih ks ws h2
          refine ⟨by simp [hl], ?_⟩
          intro k hk ht hq
          cases k with
          | zero => simpa using h1
          | succ k =>
            simp only [List.getElem_cons_succ]
            exact hget k (by simpa using hk) (by simpa using ht) (by simpa using hq)

end Infretis.WFExt
