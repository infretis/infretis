import Infretis.Lemmas.ReadersObj
import Infretis.Lemmas.ReadersLmpAny
/-!
# Lemmas for C13: the reader OBJECT with `lammpstrj_reader`, positions, EVERY schedule, any slack
-/
namespace Infretis.Readers

/-- **one poll is one poll of the specification** (code as it is now), from every state the specification can be in:
    at a frame boundary (`lmpReader_pollS`) or `miss` bytes in front of one (`lmpReader_poll_lateS`) -/
theorem lmpReader_pollS_any (N : Nat) (hN : 1 ≤ N) (frames : List LmpF) (hwf : ∀ f ∈ frames, f.WF N) (done miss : Nat)
    (hm : miss = 0 ∨ (1 ≤ done ∧ ∃ g, (frOf frames)[done - 1]? = some g ∧ miss ≤ g.2)) (c : Nat) :
    lmpReader .repaired (((frames.map LmpF.enc).flatten).take c) (endOf (frOf frames) done - miss)
      = .ok (((frames.map (LmpF.decode N)).drop done).take ((pollS (frOf frames) c done miss).1 - done),
             endOf (frOf frames) (pollS (frOf frames) c done miss).1 - (pollS (frOf frames) c done miss).2) := by
  by_cases hm0 : miss ≠ 0
  · obtain ⟨hd1, g, hg, hms⟩ := hm.resolve_left hm0
    obtain ⟨j, rfl⟩ : ∃ j, done = j + 1 := ⟨done - 1, by omega⟩
    obtain ⟨f, hf, rfl⟩ : ∃ f, frames[j]? = some f ∧ (f.len, f.slack) = g := by
      simpa [frOf] using hg
    rw [lmpReader_poll_lateS N hN frames j f hf (hwf f (List.mem_of_getElem? hf)) miss (by omega) hms c]
    by_cases hc : c < endOf (frOf frames) (j + 1) <;> simp [pollS, hm0, hc]
  · obtain rfl : miss = 0 := by omega
    rw [Nat.sub_zero, lmpReader_pollS (v := .repaired) N hN frames hwf done c]
    simp [pollS]

theorem lmp_rpRun_posS (N : Nat) (hN : 1 ≤ N) (frames : List LmpF) (hwf : ∀ f ∈ frames, f.WF N)
    (evs : List (Option Nat)) (done miss : Nat)
    (hm : miss = 0 ∨ (1 ≤ done ∧ ∃ g, (frOf frames)[done - 1]? = some g ∧ miss ≤ g.2)) (p : Nat) :
    stagesPos (rpRun (lmpReaderO .repaired) (visible ((frames.map LmpF.enc).flatten) evs)
        ⟨endOf (frOf frames) done - miss, p⟩)
      = .ok (lmpStagesPosS (frOf frames) (frames.map (LmpF.decode N)) evs done miss) := by
  induction evs generalizing done miss p with
  | nil => rfl
  | cons e es ih =>
    cases e with
    | none => exact stagesPos_rpRun_cons _ none _ _ _ [] _ rfl (ih done miss hm p)
    | some c =>
      obtain ⟨p', hp'⟩ := readerO_of_proj (lmpReaderO_proj .repaired) p (lmpReader_pollS_any N hN frames hwf done miss hm c)
      rw [lmpStagesPosS_some]
      exact stagesPos_rpRun_cons (lmpReaderO .repaired) (some (((frames.map LmpF.enc).flatten).take c)) _ _ _ _ _ hp'
        (ih _ _ (pollS_slack (frOf frames) c hm) p')

theorem lmp_rpRun_posS_init (N : Nat) (hN : 1 ≤ N) (frames : List LmpF) (hwf : ∀ f ∈ frames, f.WF N)
    (evs : List (Option Nat)) :
    stagesPos (rpRun (lmpReaderO .repaired) (visible ((frames.map LmpF.enc).flatten) evs) rpInit)
      = .ok (lmpStagesPosS (frOf frames) (frames.map (LmpF.decode N)) evs 0 0) := by
  have := lmp_rpRun_posS N hN frames hwf evs 0 0 (Or.inl rfl) 0
  rwa [endOf_zero] at this

/-- **all polls, every cut, any white space behind the trailing ids** (code as it is now): the real loop, polled on
    growing — or any — prefixes, behaves exactly as `lmpStagesS` says -/
theorem lmp_pollAllS (N : Nat) (hN : 1 ≤ N) (frames : List LmpF) (hwf : ∀ f ∈ frames, f.WF N) (cuts : List Nat) :
    pollAll (lmpReader .repaired) ((frames.map LmpF.enc).flatten) cuts 0
      = .ok (lmpStagesS (frOf frames) (frames.map (LmpF.decode N)) cuts 0 0) := by
  rw [← lmpStagesPosS_fst]
  exact pollAll_of_stagesPos (lmpReaderO_proj .repaired) _ cuts _ _
    (lmp_rpRun_posS_init N hN frames hwf (cuts.map some))

end Infretis.Readers
