import Infretis.Model.RepexSubmit
import Infretis.Lemmas.RepexC03Sys
/-!
# C03 — submitted references vs received values (`Model/RepexSubmit.lean`)

`Coherent q`: every queued reference still points at an object that holds the value it held at `submit_work`, and every
unit taken so far was received as submitted.  It is kept by every operation as long as `prep_md_items` is never run on
an object whose reference is queued (`Fresh`); a program that uses a NEW object per submission (`freshProg`) is of that
kind whatever the workers do in between.
-/
namespace Infretis.Repex.Submit

def Coherent (q : Q) : Prop :=
  (∀ e ∈ q.queue, q.heap[e.addr]? = some e.sub) ∧ (∀ r ∈ q.recv, r.got = r.sub)

/-- `prep_md_items` is not run on an object whose reference sits in the queue -/
def Fresh (q : Q) : Op → Prop
  | .prepBegin a => ∀ e ∈ q.queue, e.addr ≠ a
  | .prepEnd a _ => ∀ e ∈ q.queue, e.addr ≠ a
  | _ => True

def FreshRun : Q → List Op → Prop
  | _, [] => True
  | q, op :: rest => Fresh q op ∧ (∀ q', step q op = .ok q' → FreshRun q' rest)

theorem coherent_empty : Coherent {} := ⟨by simp, by simp⟩

/-- `Fresh`, decided -/
def freshB (q : Q) : Op → Bool
  | .prepBegin a => q.queue.all (fun e => e.addr != a)
  | .prepEnd a _ => q.queue.all (fun e => e.addr != a)
  | _ => true

/-- `FreshRun`, decided along the run -/
def freshRunB : Q → List Op → Bool
  | _, [] => true
  | q, op :: rest =>
    freshB q op && (match step q op with
                    | .ok q' => freshRunB q' rest
                    | .error _ => true)

theorem freshB_sound {q : Q} {op : Op} (h : freshB q op = true) : Fresh q op := by
  cases op with
  | prepBegin a =>
    simp only [freshB, List.all_eq_true, bne_iff_ne] at h
    exact h
  | prepEnd a j =>
    simp only [freshB, List.all_eq_true, bne_iff_ne] at h
    exact h
  | alloc => trivial
  | submit a => trivial
  | take => trivial

theorem freshRunB_sound : ∀ (ops : List Op) (q : Q), freshRunB q ops = true → FreshRun q ops
  | [], _, _ => trivial
  | op :: rest, q, h => by
    simp only [freshRunB, Bool.and_eq_true] at h
    refine ⟨freshB_sound h.1, ?_⟩
    intro q' hq'
    have h2 := h.2
    rw [hq'] at h2
    exact freshRunB_sound rest q' h2

theorem coherent_below {q : Q} (hc : Coherent q) : ∀ e ∈ q.queue, e.addr < q.heap.length :=
  fun e he => getElem?_lt_of_some (hc.1 e he)

theorem takeQ_spec {q q' : Q} {r : Recv} (h : takeQ q = .ok (q', r)) :
    ∃ e rest, q.queue = e :: rest ∧ q.heap[e.addr]? = some r.got ∧ r.addr = e.addr ∧ r.sub = e.sub ∧
      q' = { q with queue := rest, recv := q.recv ++ [r] } := by
  unfold takeQ at h
  split at h
  · exact absurd h (by simp)
  rename_i e rest hq
  split at h
  · exact absurd h (by simp)
  rename_i v hv
  simp only [Except.ok.injEq, Prod.mk.injEq] at h
  obtain ⟨h1, h2⟩ := h
  subst h2
  exact ⟨e, rest, hq, hv, rfl, rfl, h1.symm⟩

theorem takeQ_coherent {q q' : Q} {r : Recv} (hc : Coherent q) (h : takeQ q = .ok (q', r)) :
    Coherent q' ∧ r.got = r.sub ∧ q'.heap = q.heap ∧ submittedVals q' = submittedVals q ∧
      (∀ e ∈ q'.queue, e ∈ q.queue) ∧ r.sub :: q'.queue.map (·.sub) = q.queue.map (·.sub) := by
  obtain ⟨e, rest, hq, hv, _, hs, rfl⟩ := takeQ_spec h
  have he : q.heap[e.addr]? = some e.sub := hc.1 e (by rw [hq]; simp)
  have hgot : r.got = r.sub := by
    rw [he] at hv
    rw [hs]
    exact (Option.some.inj hv).symm
  refine ⟨⟨?_, ?_⟩, hgot, rfl, ?_, ?_, ?_⟩
  · intro e' he'
    exact hc.1 e' (by rw [hq]; exact List.mem_cons_of_mem _ he')
  · intro r' hr'
    rcases List.mem_append.mp hr' with hr' | hr'
    · exact hc.2 r' hr'
    · simp only [List.mem_singleton] at hr'
      subst hr'
      exact hgot
  · simp only [submittedVals, hq, List.map_append, List.map_cons, List.map_nil, List.append_assoc,
      List.cons_append, List.nil_append, hs]
  · intro e' he'
    rw [hq]
    exact List.mem_cons_of_mem _ he'
  · simp only [hq, List.map_cons, hs]

theorem step_coherent {q q' : Q} {op : Op} (hc : Coherent q) (hf : Fresh q op) (h : step q op = .ok q') :
    Coherent q' := by
  cases op with
  | alloc =>
    simp only [step, Except.ok.injEq] at h
    subst h
    refine ⟨?_, hc.2⟩
    intro e he
    have hlt := coherent_below hc e he
    show (q.heap ++ [none])[e.addr]? = some e.sub
    rw [List.getElem?_append_left hlt]
    exact hc.1 e he
  | prepBegin a =>
    simp only [step] at h
    split at h
    · simp only [Except.ok.injEq] at h
      subst h
      refine ⟨?_, hc.2⟩
      intro e he
      show (q.heap.set a none)[e.addr]? = some e.sub
      rw [List.getElem?_set_ne (fun hh => hf e he hh.symm)]
      exact hc.1 e he
    · exact absurd h (by simp)
  | prepEnd a j =>
    simp only [step] at h
    split at h
    · simp only [Except.ok.injEq] at h
      subst h
      refine ⟨?_, hc.2⟩
      intro e he
      show (q.heap.set a (some j))[e.addr]? = some e.sub
      rw [List.getElem?_set_ne (fun hh => hf e he hh.symm)]
      exact hc.1 e he
    · exact absurd h (by simp)
  | submit a =>
    simp only [step] at h
    split at h
    · exact absurd h (by simp)
    rename_i v hv
    simp only [Except.ok.injEq] at h
    subst h
    refine ⟨?_, hc.2⟩
    intro e he
    rcases List.mem_append.mp he with he | he
    · exact hc.1 e he
    · simp only [List.mem_singleton] at he
      subst he
      exact hv
  | take =>
    simp only [step] at h
    split at h
    · exact absurd h (by simp)
    rename_i q1 r ht
    simp only [Except.ok.injEq] at h
    subst h
    exact (takeQ_coherent hc ht).1

theorem run_coherent : ∀ (ops : List Op) {q q' : Q}, Coherent q → FreshRun q ops → run q ops = .ok q' → Coherent q'
  | [], q, q', hc, _, h => by
    simp only [run, Except.ok.injEq] at h
    subst h; exact hc
  | op :: rest, q, q', hc, hf, h => by
    simp only [run] at h
    split at h
    · exact absurd h (by simp)
    rename_i q1 h1
    exact run_coherent rest (step_coherent hc hf.1 h1) (hf.2 q1 h1) h

theorem run_cons_ok {q q' : Q} {op : Op} {l : List Op} (h : run q (op :: l) = .ok q') :
    ∃ q1, step q op = .ok q1 ∧ run q1 l = .ok q' := by
  simp only [run] at h
  split at h
  · exact absurd h (by simp)
  rename_i q1 h1
  exact ⟨q1, h1, h⟩

theorem run_append_ok : ∀ (l1 : List Op) {l2 : List Op} {q q' : Q}, run q (l1 ++ l2) = .ok q' →
    ∃ q1, run q l1 = .ok q1 ∧ run q1 l2 = .ok q'
  | [], _, q, _, h => ⟨q, rfl, h⟩
  | op :: l1, l2, q, q', h => by
    obtain ⟨q1, h1, h2⟩ := run_cons_ok (l := l1 ++ l2) h
    obtain ⟨q2, h3, h4⟩ := run_append_ok l1 h2
    refine ⟨q2, ?_, h4⟩
    simp only [run, h1]
    exact h3

/-- between two statements of the scheduler the workers take `k` units -/
theorem run_takes : ∀ (k : Nat) {q q' : Q}, Coherent q → run q (takes k) = .ok q' →
    Coherent q' ∧ q'.heap = q.heap ∧ submittedVals q' = submittedVals q ∧ (∀ e ∈ q'.queue, e ∈ q.queue)
  | 0, q, q', hc, h => by
    simp only [takes, List.replicate, run, Except.ok.injEq] at h
    subst h
    exact ⟨hc, rfl, rfl, fun _ he => he⟩
  | k + 1, q, q', hc, h => by
    have : takes (k + 1) = .take :: takes k := rfl
    rw [this] at h
    obtain ⟨q1, h1, h2⟩ := run_cons_ok h
    simp only [step] at h1
    split at h1
    · exact absurd h1 (by simp)
    rename_i q1' r ht
    simp only [Except.ok.injEq] at h1
    subst h1
    obtain ⟨hc1, _, hh, hv, hsub, _⟩ := takeQ_coherent hc ht
    obtain ⟨hc2, hh2, hv2, hsub2⟩ := run_takes k hc1 h2
    exact ⟨hc2, hh2.trans hh, hv2.trans hv, fun e he => hsub e (hsub2 e he)⟩

/-- state of the hand-over inside one submission: object `H` is new, no queued reference points at it -/
structure Mid (q0 q : Q) (H : Nat) : Prop where
  coh : Coherent q
  len : q.heap.length = H + 1
  below : ∀ e ∈ q.queue, e.addr < H
  vals : submittedVals q = submittedVals q0

theorem Mid.takes {q0 q q' : Q} {H k : Nat} (m : Mid q0 q H) (h : run q (takes k) = .ok q') :
    Mid q0 q' H ∧ q'.heap = q.heap := by
  obtain ⟨hc, hh, hv, hsub⟩ := run_takes k m.coh h
  exact ⟨⟨hc, by rw [hh]; exact m.len, fun e he => m.below e (hsub e he), hv.trans m.vals⟩, hh⟩

theorem Mid.set {q0 q : Q} {H : Nat} (m : Mid q0 q H) (v : Option Job) :
    Mid q0 { q with heap := q.heap.set H v } H ∧ ({ q with heap := q.heap.set H v } : Q).heap[H]? = some v := by
  refine ⟨⟨⟨?_, m.coh.2⟩, ?_, m.below, m.vals⟩, ?_⟩
  · intro e he
    have hlt := m.below e he
    show (q.heap.set H v)[e.addr]? = some e.sub
    rw [List.getElem?_set_ne (by omega)]
    exact m.coh.1 e he
  · show (q.heap.set H v).length = H + 1
    rw [List.length_set]; exact m.len
  · show (q.heap.set H v)[H]? = some v
    rw [List.getElem?_set_self (by rw [m.len]; omega)]

/-- **one submission on a new object, with any takes in between, keeps `Coherent` and appends exactly the job** -/
theorem freshBlock_spec {q q' : Q} {b : Slot} (hc : Coherent q) (h : run q (freshBlock q.heap.length b) = .ok q') :
    Coherent q' ∧ q'.heap.length = q.heap.length + 1 ∧ submittedVals q' = submittedVals q ++ [some b.job] := by
  unfold freshBlock at h
  obtain ⟨qa, h1, h⟩ := run_cons_ok h
  simp only [step, Except.ok.injEq] at h1
  subst h1
  have m0 : Mid q { q with heap := q.heap ++ [none] } q.heap.length := by
    refine ⟨?_, by simp, coherent_below hc, rfl⟩
    exact step_coherent (op := .alloc) hc trivial rfl
  obtain ⟨qb, h2, h⟩ := run_append_ok (takes b.k0) h
  obtain ⟨m1, _⟩ := m0.takes h2
  obtain ⟨qc, h3, h⟩ := run_cons_ok h
  simp only [step] at h3
  split at h3
  case isFalse => exact absurd h3 (by simp)
  simp only [Except.ok.injEq] at h3
  subst h3
  obtain ⟨m2, _⟩ := m1.set none
  obtain ⟨qd, h4, h⟩ := run_append_ok (takes b.k1) h
  obtain ⟨m3, _⟩ := m2.takes h4
  obtain ⟨qe, h5, h⟩ := run_cons_ok h
  simp only [step] at h5
  split at h5
  case isFalse => exact absurd h5 (by simp)
  simp only [Except.ok.injEq] at h5
  subst h5
  obtain ⟨m4, hH⟩ := m3.set (some b.job)
  obtain ⟨qf, h6, h⟩ := run_append_ok (takes b.k2) h
  obtain ⟨m5, hheap⟩ := m4.takes h6
  obtain ⟨qg, h7, h⟩ := run_cons_ok h
  have hH' : qf.heap[q.heap.length]? = some (some b.job) := by rw [hheap]; exact hH
  simp only [step] at h7
  rw [hH'] at h7
  simp only [Except.ok.injEq] at h7
  subst h7
  have hcg : Coherent { qf with queue := qf.queue ++ [{ addr := q.heap.length, sub := some b.job }] } := by
    refine ⟨?_, m5.coh.2⟩
    intro e he
    rcases List.mem_append.mp he with he | he
    · exact m5.coh.1 e he
    · simp only [List.mem_singleton] at he
      subst he
      exact hH'
  obtain ⟨hc', hh', hv', _⟩ := run_takes b.k3 hcg h
  refine ⟨hc', ?_, ?_⟩
  · rw [hh']; exact m5.len
  · rw [hv']
    have := m5.vals
    simp only [submittedVals, List.map_append, List.map_cons, List.map_nil] at this ⊢
    rw [← List.append_assoc, this]

/-- **a new object per submission: whatever the workers do in between, every unit is received as submitted, in
    submission order** -/
theorem freshProg_spec : ∀ (slots : List Slot) {q q' : Q}, Coherent q →
    run q (freshProg q.heap.length slots) = .ok q' →
    Coherent q' ∧ submittedVals q' = submittedVals q ++ slots.map (fun b => some b.job)
  | [], q, q', hc, h => by
    simp only [freshProg, run, Except.ok.injEq] at h
    subst h
    exact ⟨hc, by simp⟩
  | b :: rest, q, q', hc, h => by
    simp only [freshProg] at h
    obtain ⟨q1, h1, h2⟩ := run_append_ok _ h
    obtain ⟨hc1, hl1, hv1⟩ := freshBlock_spec hc h1
    rw [← hl1] at h2
    obtain ⟨hc2, hv2⟩ := freshProg_spec rest hc1 h2
    refine ⟨hc2, ?_⟩
    rw [hv2, hv1]
    simp

/-- the jobs in flight after an event are those that stay (`kept`, as many as `keepLen` says) followed by at most one
    new one; and if the units the workers hold followed by the queued ones were the jobs in flight, then what the workers
    hold after the event followed by the same queue are the kept ones -/
theorem sysStep_jobs {y y' : Sys} {ev : Ev} (h : sysStep y ev = .ok y') :
    ∃ kept sub, y'.jobs = kept ++ sub ∧ sub.length ≤ 1 ∧ kept.length = keepLen y.jobs.length ev ∧
      ∀ got Q : List (Option Job), blocked got ev = false → got ++ Q = y.jobs.map some →
        gotAfter got ev ++ Q = kept.map some := by
  have erased : ∀ {k : Nat} {job : Job}, y.jobs[k]? = some job → ∀ got Q : List (Option Job),
      decide (got.length ≤ k) = false → got ++ Q = y.jobs.map some →
      got.eraseIdx k ++ Q = (y.jobs.eraseIdx k).map some := fun _ got Q hb hj => by
    rw [← List.eraseIdx_append_of_lt_length (by simpa using hb), hj, List.eraseIdx_map]
  have len : ∀ {k : Nat} {job : Job}, y.jobs[k]? = some job → (y.jobs.eraseIdx k).length = y.jobs.length - 1 :=
    fun hjob => List.length_eraseIdx_of_lt (getElem?_lt_of_some hjob)
  obtain ⟨_, h⟩ := Step.of_ok h
  cases h with
  | start _ hs => cases hs with | mk _ => exact ⟨_, [_], rfl, Nat.le_refl _, rfl, fun _ _ _ hj => hj⟩
  | initDone _ => exact ⟨_, [], (List.append_nil _).symm, Nat.zero_le _, rfl, fun _ _ _ hj => hj⟩
  | resubmit hc _ hs =>
    cases hc with | mk _ hjob _ =>
    cases hs with | mk _ => exact ⟨_, [_], rfl, Nat.le_refl _, len hjob, erased hjob⟩
  | last hc _ =>
    cases hc with | mk _ hjob _ =>
    exact ⟨_, [], (List.append_nil _).symm, Nat.zero_le _, len hjob, erased hjob⟩

def LInv (L : LSys) : Prop :=
  Coherent L.q ∧ L.got ++ L.q.queue.map (·.sub) = L.y.jobs.map some

def schedEvs : List LEv → List Ev
  | [] => []
  | .sched ev :: rest => ev :: schedEvs rest
  | .take :: rest => schedEvs rest

/-- the scheduler's own part of the lazy system is the scheduler model, untouched by the takes -/
theorem lazyStep_proj {shared : Bool} {L L' : LSys} {ev : LEv} (h : lazyStep shared L ev = .ok L') :
    match ev with
    | .sched e => sysStep L.y e = .ok L'.y
    | .take => L'.y = L.y := by
  cases ev with
  | take =>
    simp only [lazyStep] at h
    split at h
    · exact absurd h (by simp)
    simp only [Except.ok.injEq] at h
    subst h
    rfl
  | sched e =>
    simp only [lazyStep] at h
    split at h
    · exact absurd h (by simp)
    split at h
    · exact absurd h (by simp)
    rename_i y' hy
    show sysStep L.y e = .ok L'.y
    rw [hy]
    split at h
    · simp only [Except.ok.injEq] at h
      subst h; rfl
    · split at h
      · exact absurd h (by simp)
      simp only [Except.ok.injEq] at h
      subst h; rfl

theorem lazyRun_proj {shared : Bool} : ∀ (evs : List LEv) {L L' : LSys}, lazyRun shared L evs = .ok L' →
    Repex.run L.y (schedEvs evs) = .ok L'.y
  | [], L, L', h => by
    simp only [lazyRun, Except.ok.injEq] at h
    subst h; rfl
  | ev :: rest, L, L', h => by
    simp only [lazyRun] at h
    split at h
    · exact absurd h (by simp)
    rename_i L1 h1
    have hp := lazyStep_proj h1
    have ih := lazyRun_proj rest h
    cases ev with
    | take =>
      simp only at hp
      simp only [schedEvs]
      rw [← hp]; exact ih
    | sched e =>
      simp only at hp
      simp only [schedEvs, Repex.run, hp]
      exact ih

/-- the three statements a submitting event runs on a NEW object -/
theorem submit_fresh {q q2 : Q} {j : Job} (hc : Coherent q)
    (h : run { q with heap := q.heap ++ [none] } [.prepBegin q.heap.length, .prepEnd q.heap.length j, .submit q.heap.length]
          = .ok q2) :
    Coherent q2 ∧ q2.queue = q.queue ++ [{ addr := q.heap.length, sub := some j }] ∧ q2.recv = q.recv := by
  have hb : freshBlock q.heap.length { job := j } =
      [.alloc, .prepBegin q.heap.length, .prepEnd q.heap.length j, .submit q.heap.length] := rfl
  have hrun : run q (freshBlock q.heap.length { job := j }) = .ok q2 := by
    rw [hb]
    simp only [run, step]
    exact h
  refine ⟨(freshBlock_spec hc hrun).1, ?_, ?_⟩
  all_goals
    simp only [run, step, List.length_append, List.length_cons, List.length_nil, Nat.zero_add,
      Nat.lt_add_one, ↓reduceIte, List.length_set] at h
    rw [List.getElem?_set_self (by simp)] at h
    simp only [Except.ok.injEq] at h
    subst h
    rfl

/-- **the code as it is (`shared = false`): at every instant the units the workers hold followed by the queued ones
    are exactly the jobs in flight of the scheduler model, value for value** -/
theorem lazyStep_fresh_inv {L L' : LSys} {ev : LEv} (hi : LInv L) (h : lazyStep false L ev = .ok L') : LInv L' := by
  obtain ⟨hc, hj⟩ := hi
  cases ev with
  | take =>
    simp only [lazyStep] at h
    split at h
    · exact absurd h (by simp)
    rename_i q1 r ht
    simp only [Except.ok.injEq] at h
    subst h
    obtain ⟨hc1, hgot, _, _, _, hq⟩ := takeQ_coherent hc ht
    refine ⟨hc1, ?_⟩
    show (L.got ++ [r.got]) ++ q1.queue.map (·.sub) = L.y.jobs.map some
    rw [List.append_assoc, List.singleton_append, hgot, hq]
    exact hj
  | sched e =>
    simp only [lazyStep] at h
    split at h
    · exact absurd h (by simp)
    rename_i hdone
    split at h
    · exact absurd h (by simp)
    rename_i y' hy
    obtain ⟨kept, sub, hjobs, hsub, hlen, hkeep⟩ := sysStep_jobs hy
    have hk := hkeep L.got _ (Bool.eq_false_iff.mpr hdone) hj
    rw [hjobs, ← hlen, List.drop_left] at h
    match sub, hsub with
    | [], _ =>
      simp only [Except.ok.injEq] at h
      subst h
      exact ⟨hc, by rw [hjobs, List.append_nil]; exact hk⟩
    | [j], _ =>
      simp only [target] at h
      split at h
      · exact absurd h (by simp)
      rename_i q2 hq2
      simp only [Except.ok.injEq] at h
      subst h
      obtain ⟨hc2, hqq, _⟩ := submit_fresh hc hq2
      refine ⟨hc2, ?_⟩
      show gotAfter L.got e ++ q2.queue.map (·.sub) = y'.jobs.map some
      rw [hqq, hjobs, List.map_append, List.map_append, ← List.append_assoc, hk]
      rfl

theorem lazyRun_fresh_inv : ∀ (evs : List LEv) {L L' : LSys}, LInv L → lazyRun false L evs = .ok L' → LInv L'
  | [], L, L', hi, h => by
    simp only [lazyRun, Except.ok.injEq] at h
    subst h; exact hi
  | ev :: rest, L, L', hi, h => by
    simp only [lazyRun] at h
    split at h
    · exact absurd h (by simp)
    rename_i L1 h1
    exact lazyRun_fresh_inv rest (lazyStep_fresh_inv hi h1) h

theorem linv_start (y0 : Sys) (h : y0.jobs = []) : LInv { y := y0 } :=
  ⟨coherent_empty, by simp [h]⟩

theorem got_prefix {L : LSys} (hi : LInv L) : L.got = (L.y.jobs.take L.got.length).map some := by
  have := congrArg (List.take L.got.length) hi.2
  rw [List.take_left' rfl] at this
  rw [List.map_take]
  exact this

end Infretis.Repex.Submit
