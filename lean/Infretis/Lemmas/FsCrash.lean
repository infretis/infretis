import Infretis.Lemmas.FsStep
/-!
C08: the tail of a step (data rows, restart file) at every crash point, `restartOutcome`, `clean_data_file`.
-/
namespace Infretis.Fs

theorem appendRows_nil (df : DataFile) : appendRows df [] = df := by
  unfold appendRows; split <;> simp

theorem appendRows_of_not_torn (df : DataFile) (rows : List Nat) (h : df.torn = false) :
    appendRows df rows = { df with rows := df.rows ++ rows } := by
  unfold appendRows; simp [h]

theorem run_dataEffs (c : Choice) (d : Disk) :
    run (dataEffs c) d = { d with data := appendRows d.data (c.accs.map (fun a => a.old.pn)) } := by
  unfold dataEffs
  split
  · rename_i he
    rw [List.isEmpty_iff.1 he, List.map_nil, appendRows_nil]
    rfl
  · rfl

theorem dataEffs_length (c : Choice) : (dataEffs c).length = if c.accs.isEmpty then 0 else 2 := by
  unfold dataEffs; split <;> rfl

/-- `write_to_pathens` at every crash point: only the data file changes; it holds the old rows and
    some of the new ones, and none of the new ones before the append has begun to write -/
theorem crashAt_dataEffs (c : Choice) (d : Disk) (j : Nat) (h : Bool) :
    (crashAt (dataEffs c) d j h).files = d.files ∧ (crashAt (dataEffs c) d j h).restart = d.restart
    ∧ (d.data.torn = false →
        ∃ n, (crashAt (dataEffs c) d j h).data.rows = d.data.rows ++ (c.accs.map (fun a => a.old.pn)).take n
          ∧ (crashAt (dataEffs c) d j h).data.garbled = d.data.garbled)
    ∧ (j ≤ 1 → ¬ (j = 1 ∧ h = true ∧ (c.halfTorn = true ∨ c.halfRows ≠ 0)) →
        (crashAt (dataEffs c) d j h).data = d.data) := by
  -- where the crash leaves the disk as it was there is nothing to show
  by_cases hd : crashAt (dataEffs c) d j h = d
  · rw [hd]
    exact ⟨rfl, rfl, fun _ => ⟨0, by simp, rfl⟩, fun _ _ => rfl⟩
  unfold dataEffs at hd ⊢
  by_cases he : c.accs.isEmpty = true
  · rw [if_pos he] at hd
    exact absurd (crashAt_nil ..) hd
  · rw [if_neg he] at hd ⊢
    rcases j with _ | _ | j
    · cases h <;> exact absurd rfl hd
    · cases h
      · exact absurd rfl hd
      · simp only [crashAt_cons_succ, crashAt_cons_zero, Effect.apply, Effect.applyHalf, true_and]
        refine ⟨fun ht => ⟨c.halfRows, ?_⟩, ?_⟩
        · rw [appendRows_of_not_torn _ _ ht]
          split <;> exact ⟨rfl, rfl⟩
        · -- nothing of the half-written append shows: no torn row and no whole one
          intro _ hn
          obtain ⟨h1, h2⟩ := not_or.1 hn
          rw [if_neg h1, Decidable.not_not.1 h2, List.take_zero, appendRows_nil]
    · simp only [crashAt_cons_succ, crashAt_nil, Effect.apply, true_and]
      refine ⟨fun ht => ⟨(c.accs.map (fun a => a.old.pn)).length, ?_⟩, by omega⟩
      rw [appendRows_of_not_torn _ _ ht, List.take_length]
      exact ⟨rfl, rfl⟩

theorem restartEffs_length (v : Variant) (rN : Rec) :
    (restartEffs v rN).length = if v = .asIs then 2 else 3 := by
  cases v <;> rfl

/-- `write_toml` at every crash point: the path files and the data file stay; restart.toml is the new record once all
    effects are through, empty or partial at the one crash point where the record is being written under the file's own
    name (none in the repaired variant), and the old one everywhere else -/
theorem crashAt_restartEffs (v : Variant) (rN : Rec) (d : Disk) (j : Nat) (h : Bool) :
    (crashAt (restartEffs v rN) d j h).files = d.files ∧ (crashAt (restartEffs v rN) d j h).data = d.data
    ∧ ((restartEffs v rN).length ≤ j → (crashAt (restartEffs v rN) d j h).restart = .complete rN)
    ∧ (v = .asIs ∧ j = 1 ∨ v = .renamedOpen ∧ j = 2 →
        (crashAt (restartEffs v rN) d j h).restart = .empty ∨ (crashAt (restartEffs v rN) d j h).restart = .part)
    ∧ (¬ (restartEffs v rN).length ≤ j → ¬ (v = .asIs ∧ j = 1 ∨ v = .renamedOpen ∧ j = 2) →
        (crashAt (restartEffs v rN) d j h).restart = d.restart) := by
  cases v <;> rcases j with _ | _ | _ | j <;> cases h <;>
    simp [restartEffs, crashAt_cons_zero, Effect.apply, Effect.applyHalf, setR]

theorem outcome_starts (M : Manifest) (d' : Disk) (r : Rec) (L : List PathInfo)
    (hr : d'.restart = .complete r) (hrf : r.restartedFrom ≠ some r.cstep)
    (hact : r.active = L.map (·.pn))
    (hL : ∀ p ∈ L, pathOK d'.files p = true ∧ M p.cid = some (p.files.map Prod.fst)) :
    restartOutcome M .restartToml d' = .starts r := by
  have hany : (r.active.any fun a => !(d'.files.get (.traj a)).isFile) = false := by
    rw [hact, List.any_eq_false]
    intro a ha
    obtain ⟨p, hp, rfl⟩ := List.mem_map.1 ha
    have := ((pathOK_iff _ _).1 (hL p hp).1).2.1
    simp [this, FileState.isFile]
  have hall : (r.active.all fun a => (loadPath M d'.files a).isSome) = true := by
    rw [hact, List.all_eq_true]
    intro a ha
    obtain ⟨p, hp, rfl⟩ := List.mem_map.1 ha
    rw [loadPath_of_pathOK M _ p (hL p hp).1 (hL p hp).2]
    rfl
  unfold restartOutcome
  simp only [hr]
  rw [if_neg (fun h => hrf h.1)]
  simp [hany, hall]

theorem outcome_raises_of_torn (M : Manifest) (d' : Disk) (h : d'.restart = .empty ∨ d'.restart = .part) :
    restartOutcome M .restartToml d' = .raises := by
  unfold restartOutcome
  rcases h with h | h <;> simp [h]

theorem rowsOK_iff (df : DataFile) (act : List Nat) :
    rowsOK df act = true ↔ df.torn = false ∧ df.garbled = 0 ∧ df.rows.Nodup ∧ ∀ p ∈ df.rows, p ∉ act := by
  simp [rowsOK, and_assoc]

theorem cleanData_of_rowsOK (df : DataFile) (act : List Nat) (h : rowsOK df act = true) :
    cleanData df act = df := by
  obtain ⟨ht, _, _, hall⟩ := (rowsOK_iff df act).1 h
  obtain ⟨rows, g, t⟩ := df
  subst ht
  simp only [cleanData, DataFile.mk.injEq, and_true]
  exact List.filter_eq_self.2 (fun a ha => by simpa using hall a ha)

/-- the data file of a crash point before the new record: old rows plus some rows of paths that
    are still active — cleaning gives back the old data file -/
theorem cleanData_of_extra (df X : DataFile) (act extra : List Nat) (h : rowsOK df act = true)
    (hr : X.rows = df.rows ++ extra) (hg : X.garbled = df.garbled) (he : ∀ q ∈ extra, q ∈ act) :
    cleanData X act = df := by
  rw [← cleanData_of_rowsOK df act h]
  simp only [cleanData, hr, hg, List.filter_append, DataFile.mk.injEq, and_true]
  have : extra.filter (fun p => !act.contains p) = [] := by
    rw [List.filter_eq_nil_iff]
    intro q hq
    simp [he q hq]
  rw [this, List.append_nil]

end Infretis.Fs
