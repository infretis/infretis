import Infretis.Lemmas.PermSpec
import Infretis.Lemmas.PermGlynn
import Infretis.Lemmas.PermStair
/-!
# `permanent_prob` returns the permanent ratios (C02)

given that the permanent routine it calls returns the permanent of the minors it is asked for
(`permanentProbWith_eq_spec`), which `fast_glynn_perm` does (`permanentProb_eq_spec`).  The row
rescaling and the division by the maximal row sum are exact: all row sums of the un-normalised
matrix equal the permanent of the rescaled matrix.  On a staircase Hall's condition says that no row is zero (`hall_cnt_pos`), so
the rescaling is defined (`maxL_stair_ne_zero`).
-/
namespace Infretis.Perm

theorem mapM_option_all {α β : Type} (l : List α) (p : α → Bool) (g : α → β)
    (h : ∀ x ∈ l, p x = false) :
    l.mapM (fun x => if p x then none else some (g x)) = some (l.map g) := by
  induction l with
  | nil => rfl
  | cons a t ih =>
    rw [List.mapM_cons, h a (List.mem_cons_self), ih (fun x hx => h x (List.mem_cons_of_mem _ hx))]
    rfl

theorem mapM_except_ok {α β : Type} (l : List α) (f : α → Except Err β) (g : α → β)
    (h : ∀ x ∈ l, f x = .ok (g x)) : l.mapM f = .ok (l.map g) := by
  induction l with
  | nil => rfl
  | cons a t ih =>
    rw [List.mapM_cons, h a (List.mem_cons_self), ih (fun x hx => h x (List.mem_cons_of_mem _ hx))]
    rfl

theorem le_maxL (l : List Rat) (x : Rat) (hx : x ∈ l) : x ≤ maxL l := by
  induction l with
  | nil => simp at hx
  | cons a t ih =>
    cases t with
    | nil => simp at hx; simp [maxL, hx]
    | cons b t' =>
      simp only [maxL]
      rcases List.mem_cons.mp hx with h | h
      · subst h
        split
        · exact le_refl _
        · next hlt => exact not_lt.mp hlt
      · have := ih h
        split
        · next hlt => exact le_of_lt (lt_of_le_of_lt this hlt)
        · exact this

theorem maxL_ne_zero_of_pos (l : List Rat) (x : Rat) (hx : x ∈ l) (hpos : 0 < x) : maxL l ≠ 0 :=
  ne_of_gt (lt_of_lt_of_le hpos (le_maxL l x hx))

theorem maxL_const (l : List Rat) (p : Rat) (hl : l ≠ []) (h : ∀ x ∈ l, x = p) : maxL l = p := by
  induction l with
  | nil => exact absurd rfl hl
  | cons a t ih =>
    cases t with
    | nil => simp [maxL, h a]
    | cons b t' =>
      have hb := ih (by simp) (fun x hx => h x (List.mem_cons_of_mem _ hx))
      simp only [maxL] at hb ⊢
      rw [hb, h a (List.mem_cons_self)]
      simp

def rescaled (arr : Mat) : Mat := scaleAll (fun r => 1 / maxL r) arr

theorem scaleRows_eq (arr : Mat) (hmax : ∀ r ∈ arr, maxL r ≠ 0) :
    scaleRows arr = some (rescaled arr) := by
  unfold scaleRows rescaled scaleAll
  have := mapM_option_all arr (fun r => decide (maxL r = 0))
    (fun r => r.map (fun x => x / maxL r)) (fun x hx => by simpa using hmax x hx)
  simp only [decide_eq_true_eq] at this
  rw [this]
  congr 1
  apply List.map_congr_left
  intro r _
  unfold scaleRow
  apply List.map_congr_left
  intro x _
  ring

/-- **`permanent_prob` = permanent ratios**, for every square block with non-zero permanent whose
    rows have a non-zero maximum, provided the permanent routine is right on the minors of the
    rescaled block. -/
theorem permanentProbWith_eq_spec (perm : Mat → Except Err Rat) (arr : Mat)
    (hn : arr ≠ []) (hmax : ∀ r ∈ arr, maxL r ≠ 0) (hW : permC arr ≠ 0)
    (hperm : ∀ i j, i < arr.length → j < arr.length →
      perm (minor (rescaled arr) i j) = .ok (permC (minor (rescaled arr) i j))) :
    permanentProbWith perm arr = .ok (specMat arr) := by
  have hf : ∀ r ∈ arr, (fun r => 1 / maxL r) r ≠ 0 := fun r hr => by
    simpa using hmax r hr
  have hS : permC (rescaled arr) ≠ 0 := by
    have := permC_scaleAll (fun r => 1 / maxL r) [] arr
    rw [List.nil_append, List.nil_append] at this
    rw [rescaled, this]
    refine mul_ne_zero (List.prod_ne_zero ?_) hW
    intro h0
    obtain ⟨r, hr, hr0⟩ := List.mem_map.mp h0
    exact hf r hr hr0
  have hlen : (rescaled arr).length = arr.length := by simp [rescaled, scaleAll]
  have hraw : permProbRaw perm (rescaled arr) = .ok ((List.range arr.length).map (fun i =>
      (List.range arr.length).map (fun j =>
        entry (rescaled arr) i j * permC (minor (rescaled arr) i j)))) := by
    unfold permProbRaw
    rw [hlen]
    apply mapM_except_ok
    intro i hi
    apply mapM_except_ok
    intro j hj
    split
    · next h0 => rw [h0]; simp
    · rw [hperm i j (List.mem_range.mp hi) (List.mem_range.mp hj)]
      simp [mul_comm]
  unfold permanentProbWith
  rw [scaleRows_eq arr hmax]
  simp only [hraw]
  generalize hR : ((List.range arr.length).map (fun i => (List.range arr.length).map (fun j =>
      entry (rescaled arr) i j * permC (minor (rescaled arr) i j)))) = R
  have hsum : ∀ x ∈ R.map List.sum, x = permC (rescaled arr) := by
    intro x hx
    rw [← hR] at hx
    simp only [List.map_map, List.mem_map, List.mem_range, Function.comp] at hx
    obtain ⟨i, hi, rfl⟩ := hx
    have := permC_row (rescaled arr) i (by omega)
    rw [hlen] at this
    exact this.symm
  have hne : R.map List.sum ≠ [] := by
    have : 0 < arr.length := List.length_pos_of_ne_nil hn
    rw [← hR]
    simp; omega
  rw [maxL_const _ _ hne hsum, if_neg hS]
  congr 1
  unfold specMat
  rw [← hR]
  simp only [List.map_map]
  apply List.map_congr_left
  intro i _
  simp only [Function.comp, List.map_map]
  apply List.map_congr_left
  intro j _
  have := pSpec_scaleAll (fun r => 1 / maxL r) [] arr hf i j
  simp only [List.nil_append] at this
  rw [← this]
  rfl

/-- **`permanent_prob` = permanent ratios** on every square block (size ≥ 2) with non-zero permanent whose rows
    have a non-zero maximum; nothing is assumed about the shape or the signs of the block. -/
theorem permanentProb_eq_spec (arr : Mat) (h2 : 2 ≤ arr.length)
    (hsq : ∀ r ∈ arr, r.length = arr.length) (hmax : ∀ r ∈ arr, maxL r ≠ 0)
    (hW : permC arr ≠ 0) : permanentProb arr = .ok (specMat arr) := by
  apply permanentProbWith_eq_spec glynn arr (by intro h; simp [h] at h2) hmax hW
  intro i j hi hj
  have hl : (minor (rescaled arr) i j).length = arr.length - 1 := by
    rw [length_minor _ _ _ (by simpa [rescaled, scaleAll] using hi)]
    simp [rescaled, scaleAll]
  apply glynn_eq_permC
  · rw [hl]; omega
  · intro r hr
    rw [hl]
    simp only [minor, rescaled, scaleAll, List.mem_map] at hr
    obtain ⟨r1, hr1, rfl⟩ := hr
    obtain ⟨r0, hr0, rfl⟩ := List.mem_map.mp (List.mem_of_mem_eraseIdx hr1)
    simp only [scaleRow, List.length_eraseIdx, List.length_map, hsq r0 hr0, if_pos hj]

theorem maxL_stair_ne_zero (cnts : List Nat) (hall : ∀ c, c < cnts.length → 1 ≤ Dnum cnts c) :
    ∀ r ∈ stair cnts, maxL r ≠ 0 := by
  intro r hr
  have hne : cnts ≠ [] := by intro h; simp [h, stair] at hr
  simp only [stair, List.mem_map] at hr
  obtain ⟨k, hk, rfl⟩ := hr
  have hk1 := hall_cnt_pos cnts hne hall k hk
  have hlen : 0 < cnts.length := List.length_pos_of_ne_nil hne
  apply maxL_ne_zero_of_pos _ 1 _ (by norm_num)
  simp only [stairRow, List.mem_map, List.mem_range]
  exact ⟨0, hlen, by simp; omega⟩

end Infretis.Perm
