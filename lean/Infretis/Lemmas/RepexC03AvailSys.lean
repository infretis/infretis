import Infretis.Lemmas.RepexC03Avail
import Infretis.Lemmas.RepexC03Init
/-!
# C03 — engine availability along scheduler-shaped histories, from a fresh start or a restart

`EInvR` extends `InvR` by the engine accounting: occupied cells belong to jobs in flight (until the
scheduler stops submitting), each job occupies at most one cell per engine type, pins are `< workers`.
A restarted process builds its engine table anew (all cells free, nothing in flight) and re-issues the
recorded jobs through the same `prep_md_items` → `assign_engines`, so one counting argument serves both.
`EMid` is the accounting when `prep_md_items` is called: the cells not marked with the pin of the worker served belong to
jobs in flight.  `einvR_kept` holds for histories in which no job completes while the initiation is open (`MainLoop`).
-/
namespace Infretis.Repex

/-- every occupied engine cell is listed by a job in flight with that pin -/
def Owned (y : Sys) : Prop := ∀ k i x, cell y.s.occ k i = some x → x ≠ -1 →
  ∃ j ∈ y.jobs, (j.pin : Int) = x ∧ ∃ p ∈ j.picked, (k, i) ∈ p.engIdx

/-- a job lists at most one instance per engine type -/
def JobUniq (j : Job) : Prop := ∀ p ∈ j.picked, ∀ p' ∈ j.picked, ∀ k i i',
  (k, i) ∈ p.engIdx → (k, i') ∈ p'.engIdx → i = i'

/-- the ensemble slots whose engine list contains type `k` -/
def slotsUsing (ensEng : List (List Nat)) (n k : Nat) : List Nat :=
  (List.range (n - 1)).filter (fun e => (ensEng.getD e []).contains k)

/-- number of ensembles that use engine type `k` (≤ the number of occurrences of `k` in
    `ensemble_engines`, which is what `create_engines` counts) -/
def countK (ensEng : List (List Nat)) (n k : Nat) : Nat := (slotsUsing ensEng n k).length

/-- the engine types a job lists are engine types of the ensemble it lists them for -/
def JobKeys (ensEng : List (List Nat)) (j : Job) : Prop :=
  ∀ p ∈ j.picked, ∀ ki ∈ p.engIdx, ki.1 ∈ ensEng.getD (slotOf p) []

/-- the engine table has `min(count_k, workers)` cells per engine type, every ensemble has an engine
    type, and every type an ensemble lists has a row -/
structure EngShape (s : St) : Prop where
  sized : ∀ (k : Nat) (l : List Int), s.occ[k]? = some l →
    min (countK s.ensEng s.n k) s.workers ≤ l.length
  engOk : ∀ e, e < s.n - 1 → s.ensEng.getD e [] ≠ [] ∧
    ∀ k ∈ s.ensEng.getD e [], ∃ l, s.occ[k]? = some l

theorem EngShape.congr {s s' : St} (h : EngShape s) (hn : s'.n = s.n) (hw : s'.workers = s.workers)
    (he : s'.ensEng = s.ensEng)
    (hrow : ∀ k : Nat, (s'.occ[k]?).map List.length = (s.occ[k]?).map List.length) : EngShape s' := by
  constructor
  · intro k l hl
    rw [hw, he, hn]
    have := hrow k
    rw [hl] at this
    cases hk : s.occ[k]? with
    | none => rw [hk] at this; simp at this
    | some l0 =>
      rw [hk] at this
      simp only [Option.map_some, Option.some.injEq] at this
      rw [this]
      exact h.sized k l0 hk
  · intro e hlt
    rw [he]
    obtain ⟨h1, h2⟩ := h.engOk e (hn ▸ hlt)
    refine ⟨h1, fun k hk => ?_⟩
    obtain ⟨l0, hl0⟩ := h2 k hk
    have := hrow k
    rw [hl0] at this
    cases hs : s'.occ[k]? with
    | none => rw [hs] at this; simp at this
    | some l => exact ⟨l, rfl⟩

structure EInvR (y : Sys) : Prop where
  inv : InvR y
  pinsLt : ∀ j ∈ y.jobs, j.pin < y.s.workers
  uniq : ∀ j ∈ y.jobs, JobUniq j
  keys : ∀ j ∈ y.jobs, JobKeys y.s.ensEng j
  owned : (y.s.toinitiate < 0 ∧ ¬ y.resubmits) ∨ Owned y
  shape : EngShape y.s

/-- what `prep_md_items` does to the engine table: an occupied cell is another pin's as before or one of the new job's;
    the job's cells are one per engine type of its ensembles; the rows keep their lengths -/
structure PrepEngR (s s' : St) (job : Job) : Prop where
  owner : ∀ k i x, cell s'.occ k i = some x → x ≠ -1 →
    (x ≠ (job.pin : Int) ∧ cell s.occ k i = some x) ∨
    (x = (job.pin : Int) ∧ ∃ p ∈ job.picked, (k, i) ∈ p.engIdx)
  uniq : JobUniq job
  keys : JobKeys s.ensEng job
  rowLen : ∀ k : Nat, (s'.occ[k]?).map List.length = (s.occ[k]?).map List.length

theorem prep_spec_engR {s s' : St} (prev : Option Nat) (o : PickOutcome) (saved : Nat)
    (job : Job) (ds : List Draw) (h : prep s prev o saved = .ok (s', job, ds)) : PrepEngR s s' job := by
  obtain ⟨s1, ps, pin, occ', idx, hr, hpin, hass, hmiss, rfl, hjp, hjw, hjk⟩ := prep_parts h
  obtain ⟨_, _, _, _⟩ := job
  simp only at hjp hjw hjk
  subst hjp hjw hjk
  have ha1 := pickPart_touches hr
  obtain ⟨hconv, hsub⟩ := assignEngines_conv hass
  have hkeys : (idx.map Prod.fst).Nodup := hsub.nodup (dedup_nodup _)
  refine ⟨?_, ?_, ?_, ?_⟩
  · intro k i x hx hne
    rcases hconv k i x hx hne with ⟨h1, h2⟩ | ⟨h1, h2⟩
    · left
      rw [← ha1.occ]
      exact ⟨h1, h2⟩
    · right
      refine ⟨h1, ?_⟩
      obtain ⟨p, hp, hkl⟩ := mem_engNames.mp (hsub.subset (List.mem_map.mpr ⟨(k, i), h2, rfl⟩))
      refine ⟨_, List.mem_map.mpr ⟨p, hp, rfl⟩, ?_⟩
      simp only [List.mem_map]
      refine ⟨k, hkl, ?_⟩
      rw [Assoc.lookup_of_mem hkeys h2]
      rfl
  · intro p1 hp1 p2 hp2 k i i' h1 h2
    simp only [List.mem_map] at hp1 hp2
    obtain ⟨q1, _, rfl⟩ := hp1
    obtain ⟨q2, _, rfl⟩ := hp2
    simp only [List.mem_map, Prod.mk.injEq] at h1 h2
    obtain ⟨k1, _, rfl, rfl⟩ := h1
    obtain ⟨k2, _, rfl, rfl⟩ := h2
    rfl
  · intro p1 hp1 ki hki
    simp only [List.mem_map] at hp1
    obtain ⟨q1, _, rfl⟩ := hp1
    simp only [List.mem_map] at hki
    obtain ⟨k1, hk1, rfl⟩ := hki
    rw [← ha1.ensEng]
    exact hk1
  · intro k
    show (occ'[k]?).map List.length = _
    rw [(assignEngines_cell hass).2.2.2 k, ha1.occ]

/-- **`prep_md_items` succeeds once the pick succeeded**, provided every engine type of the picked
    ensembles has a free cell after the worker's own cells are freed -/
theorem prep_total {s s1 : St} (prev : Option Nat) (o : PickOutcome) (saved : Nat) (ps : List Picked)
    (ds : List Draw) (pin : Nat)
    (hpick : pickPart s o saved = .ok (s1, ps, ds))
    (hpin : (if s.toinitiate ≥ 0 then some s.cworker else prev) = some pin)
    (hne : ∃ p ∈ ps, s1.ensEng.getD (p.ens + 1).toNat [] ≠ [])
    (hfree : ∀ k, (∃ p ∈ ps, k ∈ s1.ensEng.getD (p.ens + 1).toNat []) →
      ∃ l, (freeEngines s1.occ pin)[k]? = some l ∧ ∃ x ∈ l, (x == -1) = true) :
    ∃ s' job, prep s prev o saved = .ok (s', job, ds) := by
  unfold pickPart at hpick
  unfold prep
  simp only []
  rw [hpick, hpin]
  simp only []
  have hmem : ∀ k, k ∈ dedup ((ps.map (fun p => s1.ensEng.getD (p.ens + 1).toNat [])).flatten) ↔
      ∃ p ∈ ps, k ∈ s1.ensEng.getD (p.ens + 1).toNat [] := fun k => mem_engNames
  have hnames : dedup ((ps.map (fun p => s1.ensEng.getD (p.ens + 1).toNat [])).flatten) ≠ [] := by
    obtain ⟨p, hp, hpe⟩ := hne
    obtain ⟨k, hk⟩ := List.exists_mem_of_ne_nil _ hpe
    intro h0
    have := (hmem k).mpr ⟨p, hp, hk⟩
    rw [h0] at this
    simp at this
  obtain ⟨occ', idx, hass, hkeys⟩ := assignEngines_total s1.occ _ pin (dedup_nodup _) hnames
    (fun k hk => hfree k ((hmem k).mp hk))
  rw [hass]
  simp only []
  have hmiss : (ps.any (fun p => (s1.ensEng.getD (p.ens + 1).toNat []).any
      (fun k => (idx.lookup k).isNone))) = false := by
    rw [List.any_eq_false]
    intro p hp
    rw [Bool.not_eq_true, List.any_eq_false]
    intro k hk
    have : k ∈ idx.map Prod.fst := by rw [hkeys]; exact (hmem k).mpr ⟨p, hp, hk⟩
    have := Assoc.lookup_isSome_iff.mpr this
    cases hl : idx.lookup k with
    | none => rw [hl] at this; simp at this
    | some _ => simp
  rw [hmiss]
  exact ⟨_, _, rfl⟩

/-- The sampler when `prep_md_items` is called, after `initiate()` said yes or after `treat_output` of a job: the
    worker served, `cworker`, has no job in flight; the engine cells not marked with its pin belong to jobs in flight. -/
structure EMid (y : Sys) : Prop where
  mid : InvMid y
  pinLt : y.s.cworker < y.s.workers
  pinsLt : ∀ j ∈ y.jobs, j.pin < y.s.workers
  uniq : ∀ j ∈ y.jobs, JobUniq j
  keys : ∀ j ∈ y.jobs, JobKeys y.s.ensEng j
  owned : ∀ k i x, cell y.s.occ k i = some x → x ≠ -1 → x ≠ (y.s.cworker : Int) →
    ∃ j ∈ y.jobs, (j.pin : Int) = x ∧ ∃ p ∈ j.picked, (k, i) ∈ p.engIdx
  shape : EngShape y.s

theorem held_slot_unique : ∀ (jobs : List Job), ((held jobs).map Prod.fst).Nodup →
    ∀ j ∈ jobs, ∀ j' ∈ jobs, ∀ p ∈ j.picked, ∀ p' ∈ j'.picked, slotOf p = slotOf p' → j = j' := by
  intro jobs
  induction jobs with
  | nil => intro _ j hj; simp at hj
  | cons j0 js ih =>
    intro hnd j hj j' hj' p hp p' hp' hs
    have hheld : held (j0 :: js) = heldJob j0 ++ held js := by simp [held]
    rw [hheld, List.map_append, List.nodup_append] at hnd
    obtain ⟨_, hnd2, hdis⟩ := hnd
    have hmem0 : ∀ q ∈ j0.picked, slotOf q ∈ (heldJob j0).map Prod.fst := by
      intro q hq
      exact List.mem_map.mpr ⟨(slotOf q, q.pn), List.mem_map.mpr ⟨q, hq, rfl⟩, rfl⟩
    have hmems : ∀ j1 ∈ js, ∀ q ∈ j1.picked, slotOf q ∈ (held js).map Prod.fst := by
      intro j1 hj1 q hq
      refine List.mem_map.mpr ⟨(slotOf q, q.pn), ?_, rfl⟩
      simp only [held, List.mem_flatMap]
      exact ⟨j1, hj1, List.mem_map.mpr ⟨q, hq, rfl⟩⟩
    rcases List.mem_cons.mp hj with h1 | h1
    · rcases List.mem_cons.mp hj' with h2 | h2
      · rw [h1, h2]
      · exfalso
        subst h1
        exact hdis _ (hmem0 p hp) _ (hmems j' h2 p' hp') hs
    · rcases List.mem_cons.mp hj' with h2 | h2
      · exfalso
        subst h2
        exact hdis _ (hmem0 p' hp') _ (hmems j h1 p hp) hs.symm
      · exact ih hnd2 j h1 j' h2 p hp p' hp' hs

/-- **a free cell exists** for an engine type `k` needed by the job being prepared, which holds slot `e0` listing `k`
    (no job in flight holds `e0`): the occupied cells of row `k` count against the slots their owners hold -/
theorem EMid.free_exists {y : Sys} (hm : EMid y) {k e0 : Nat} {l : List Int} (he0 : e0 < y.s.n - 1)
    (hk0 : k ∈ y.s.ensEng.getD e0 [])
    (hslot : ∀ j ∈ y.jobs, ∀ p ∈ j.picked, slotOf p < y.s.n - 1 ∧ slotOf p ≠ e0) (hl : y.s.occ[k]? = some l) :
    ∃ l', (freeEngines y.s.occ y.s.cworker)[k]? = some l' ∧ ∃ x ∈ l', (x == -1) = true := by
  have hown := hm.owned k
  have hpins := hm.mid.inv.pins
  rw [freeEngines_row, hl]
  refine ⟨_, rfl, ?_⟩
  have hcell : ∀ i x, (l.map (fun x => if x = (y.s.cworker : Int) then -1 else x))[i]? = some x → x ≠ -1 →
      x ≠ (y.s.cworker : Int) ∧ cell y.s.occ k i = some x := by
    intro i x hx hne
    rw [List.getElem?_map] at hx
    cases hli : l[i]? with
    | none => rw [hli] at hx; simp at hx
    | some z =>
      rw [hli] at hx
      simp only [Option.map_some, Option.some.injEq] at hx
      by_cases hz : z = (y.s.cworker : Int)
      · rw [if_pos hz] at hx; exact absurd hx.symm hne
      · rw [if_neg hz] at hx
        subst hx
        refine ⟨hz, ?_⟩
        unfold cell
        rw [hl]
        exact hli
  apply row_has_free2 _ y.s.workers y.s.cworker (slotsUsing y.s.ensEng y.s.n k) e0
    (fun x e => ∃ j ∈ y.jobs, (j.pin : Int) = x ∧ ∃ p ∈ j.picked, slotOf p = e) hm.pinLt
    (List.nodup_range.filter _)
    (by
      unfold slotsUsing
      rw [List.mem_filter]
      exact ⟨List.mem_range.mpr he0, by simpa using hk0⟩)
    (by simpa [countK] using hm.shape.sized k l hl)
  · intro i x hx hne
    obtain ⟨h1, h2⟩ := hcell i x hx hne
    obtain ⟨j, hj, hjx, _⟩ := hown i x h2 hne h1
    refine ⟨j.pin, hjx.symm, hm.pinsLt j hj, ?_⟩
    intro heq
    rw [← hjx, heq] at h1
    exact h1 rfl
  · intro i i' x hx hx' hne
    obtain ⟨h1, h2⟩ := hcell i x hx hne
    obtain ⟨_, h2'⟩ := hcell i' x hx' hne
    obtain ⟨j, hj, hjx, p, hp, hki⟩ := hown i x h2 hne h1
    obtain ⟨j', hj', hjx', p', hp', hki'⟩ := hown i' x h2' hne h1
    have : j = j' := List.inj_on_of_nodup_map hpins hj hj' (by
      have : (j.pin : Int) = (j'.pin : Int) := hjx.trans hjx'.symm
      exact_mod_cast this)
    subst this
    exact hm.uniq j hj p hp p' hp' k i i' hki hki'
  · intro x hx hne
    obtain ⟨i, hi, hxi⟩ := List.getElem_of_mem hx
    obtain ⟨h1, h2⟩ := hcell i x (by rw [List.getElem?_eq_getElem hi, hxi]) hne
    obtain ⟨j, hj, hjx, p, hp, hki⟩ := hown i x h2 hne h1
    obtain ⟨hlt0, hne0⟩ := hslot j hj p hp
    refine ⟨slotOf p, ⟨j, hj, hjx, p, hp, rfl⟩, ?_, hne0⟩
    unfold slotsUsing
    rw [List.mem_filter]
    exact ⟨List.mem_range.mpr hlt0, by simpa using hm.keys j hj p hp (k, i) hki⟩
  · rintro x x' e ⟨j, hj, hjx, p, hp, hpe⟩ ⟨j', hj', hjx', p', hp', hpe'⟩
    rw [← hjx, ← hjx', held_slot_unique y.jobs hm.mid.inv.core.nodup j hj j' hj' p hp p' hp' (hpe.trans hpe'.symm)]

/-- `scheduler()` completes no job before the initiation is closed -/
def MainLoop (y : Sys) : Ev → Prop
  | .step _ _ _ _ => y.s.toinitiate < 0 ∨ y.s.tsteps ≤ y.s.cstep
  | _ => True

/-- during initiation: the worker served is the next fresh one -/
theorem EInvR.mid_go {y : Sys} (he : EInvR y) (hgo : (initiate y.s).2 = true) : EMid y.initiated := by
  have hm := he.inv.mid_go hgo
  obtain ⟨_, hge, _, hs1⟩ := initiate_go hgo
  have htole := he.inv.tole
  have hOwned : Owned y := by
    rcases he.owned with ⟨h1, _⟩ | h2
    · omega
    · exact h2
  unfold Sys.initiated at hm ⊢
  rw [hs1] at hm ⊢
  refine ⟨hm, ?_, he.pinsLt, he.uniq, he.keys, fun k i x hx h1 _ => hOwned k i x hx h1,
    ⟨he.shape.sized, he.shape.engOk⟩⟩
  show (↑y.s.workers - y.s.toinitiate).toNat < y.s.workers
  omega

/-- in the main loop: the worker served is the one whose job has just been treated; if the scheduler resubmits, its
    cells are the only ones whose owner is not in flight; if not, it keeps them and nobody asks for one any more -/
theorem EInvR.mid_done {y ym : Sys} (he : EInvR y) {k : Nat} {st : Status} {w : List (List Rat)} {job : Job}
    (hph : y.s.toinitiate < 0 ∨ y.s.tsteps ≤ y.s.cstep) (hc : Completes y k st w job ym) :
    if ym.resubmits then EMid ym else EInvR ym := by
  have hm := he.inv.mid_done hc
  have hq := hc.touches
  have hcw := hc.cworker
  obtain ⟨hlt, hctr⟩ := hc.ctr
  injection hctr with hcs _ _ _
  cases hc with | @mk s2 _ _ _ hj _ =>
  have hphase : y.s.toinitiate < 0 := by omega
  have hrest : ∀ j ∈ y.jobs.eraseIdx k, j ∈ y.jobs := fun j hj => List.mem_of_mem_eraseIdx hj
  have hpl : ∀ j ∈ y.jobs.eraseIdx k, j.pin < s2.workers := by
    rw [hq.workers]; exact fun j hj => he.pinsLt j (hrest j hj)
  have hkeys : ∀ j ∈ y.jobs.eraseIdx k, JobKeys s2.ensEng j := by
    rw [hq.ensEng]; exact fun j hj => he.keys j (hrest j hj)
  have hshape := he.shape.congr hq.n hq.workers hq.ensEng (fun k0 => by rw [hq.occ])
  split
  · rename_i hre
    have hOwned : Owned y := by
      rcases he.owned with ⟨_, h2⟩ | h2
      · exfalso
        have hre' : s2.cstep + s2.workers ≤ s2.tsteps := hre
        rw [hcs, hq.workers, hq.tsteps] at hre'
        omega
      · exact h2
    refine ⟨hm, ?_, hpl, fun j hj => he.uniq j (hrest j hj), hkeys, ?_, hshape⟩
    · show s2.cworker < s2.workers
      rw [hq.workers, hcw]; exact he.pinsLt job (List.mem_of_getElem? hj)
    · intro k0 i x hx hne hxp
      rw [show s2.occ = y.s.occ from hq.occ] at hx
      obtain ⟨j, hj', hjx, hp⟩ := hOwned k0 i x hx hne
      have hjne : j ≠ job := fun heq => hxp (by rw [← hjx, heq]; exact congrArg _ hcw.symm)
      exact ⟨j, (List.mem_cons.mp ((perm_cons_eraseIdx y.jobs k job hj).mem_iff.mp hj')).resolve_left hjne, hjx, hp⟩
  · rename_i hre
    have hto : s2.toinitiate < 0 := by rw [hq.toinitiate]; exact hphase
    refine ⟨hm.inv, hpl, fun j hj => he.uniq j (hrest j hj), hkeys, Or.inl ⟨hto, hre⟩, hshape⟩

theorem EMid.submit {ym y' : Sys} (hm : EMid ym) {o : PickOutcome} {saved : Nat} {jd : Job × List Draw}
    (hs : Submits ym (some ym.s.cworker) o saved jd y') : EInvR y' := by
  have hinv' := (hm.mid.submit hs).1
  have hjp := hs.pin
  cases hs with | mk h =>
  rename_i s' job ds
  replace hjp : job.pin = ym.s.cworker := hjp
  have hk := prep_spec_engR _ o saved job ds h
  have hp := prep_touches h
  refine ⟨hinv', ?_, forall_mem_snoc hm.uniq hk.uniq, ?_, Or.inr ?_,
    hm.shape.congr hp.n hp.workers hp.ensEng hk.rowLen⟩
  · show ∀ j ∈ ym.jobs ++ [job], j.pin < s'.workers
    rw [hp.workers]; exact forall_mem_snoc hm.pinsLt (hjp ▸ hm.pinLt)
  · show ∀ j ∈ ym.jobs ++ [job], JobKeys s'.ensEng j
    rw [hp.ensEng]; exact forall_mem_snoc hm.keys hk.keys
  · intro k i x hx hne
    rcases hk.owner k i x hx hne with ⟨h1, h2⟩ | ⟨h1, h2⟩
    · obtain ⟨j, hj, hjx, hp⟩ := hm.owned k i x h2 hne (hjp ▸ h1)
      exact ⟨j, List.mem_append_left _ hj, hjx, hp⟩
    · exact ⟨job, List.mem_append_right _ (List.mem_singleton.mpr rfl), h1.symm, h2⟩

theorem EInvR.initiated {y : Sys} (he : EInvR y) (hgo : (initiate y.s).2 = false) :
    EInvR y.initiated ∧ (y.initiated.s.toinitiate < 0 ∨ y.initiated.s.tsteps ≤ y.initiated.s.cstep) := by
  have hinv' := initiate_invR he.inv
  unfold Sys.initiated at hinv' ⊢
  rcases initiate_cases y.s with ⟨hin, hc⟩ | ⟨ti, hti, hin⟩
  · rw [hin]
    exact ⟨he, Or.inr hc⟩
  · rw [hin] at hgo hinv' ⊢
    have hlt : ti - 1 < 0 := by simpa using hgo
    refine ⟨⟨hinv', he.pinsLt, he.uniq, he.keys, ?_, ⟨he.shape.sized, he.shape.engOk⟩⟩, Or.inl hlt⟩
    rcases he.owned with ⟨_, h2⟩ | h2
    · exact Or.inl ⟨hlt, h2⟩
    · exact Or.inr h2

theorem einvR_kept : Kept MainLoop EInvR EMid where
  go := EInvR.mid_go
  stop he hgo := (he.initiated hgo).1
  done _ he hg hc := he.mid_done hg hc
  submit hm hs := hm.submit hs

/-- after a successful pick the engine part of `prep_md_items` finds what it needs -/
theorem pick_engine_readyR {y : Sys} (hm : EMid y)
    {o : PickOutcome} {saved : Nat} {s' : St} {ps : List Picked} {ds : List Draw}
    (hpick : pickPart y.s o saved = .ok (s', ps, ds)) :
    (∃ p ∈ ps, s'.ensEng.getD (p.ens + 1).toNat [] ≠ []) ∧
    (∀ k, (∃ p ∈ ps, k ∈ s'.ensEng.getD (p.ens + 1).toNat []) →
      ∃ l, (freeEngines s'.occ y.s.cworker)[k]? = some l ∧ ∃ x ∈ l, (x == -1) = true) := by
  have ha := pickPart_touches hpick
  have hc' := (pickPart_coreR hm.mid.inv.core hpick).core
  have hshape := (pickPart_coreR hm.mid.inv.core hpick).shape
  have hslot : ∀ p ∈ ps, (p.ens + 1).toNat < y.s.n - 1 := by
    intro p hp
    have := (hc'.heldOk (slotOf p) p.pn
      (List.mem_append_left _ (List.mem_map.mpr ⟨p, hp, rfl⟩))).1
    rw [ha.n] at this
    exact this
  have hne : ps ≠ [] := by
    rcases hshape with h1 | h2
    · intro h0; rw [h0] at h1; simp at h1
    · intro h0; rw [h0] at h2; simp at h2
  rw [ha.ensEng, ha.occ]
  constructor
  · obtain ⟨p, hp⟩ := List.exists_mem_of_ne_nil _ hne
    exact ⟨p, hp, (hm.shape.engOk _ (hslot p hp)).1⟩
  · rintro k ⟨p, hp, hk⟩
    obtain ⟨l, hl⟩ := (hm.shape.engOk _ (hslot p hp)).2 k hk
    have hnd := hc'.nodup
    rw [List.map_append, List.nodup_append] at hnd
    refine hm.free_exists (hslot p hp) hk (fun j hj q hq => ?_) hl
    have hmq := mem_held hj hq
    refine ⟨?_, ?_⟩
    · have := (hc'.heldOk (slotOf q) q.pn (List.mem_append_right _ hmq)).1
      rw [ha.n] at this
      exact this
    · intro heq
      refine hnd.2.2 (slotOf p) ?_ (slotOf q) (List.mem_map.mpr ⟨_, hmq, rfl⟩) heq.symm
      exact List.mem_map.mpr ⟨(slotOf p, p.pn), List.mem_map.mpr ⟨p, hp, rfl⟩, rfl⟩

/-- in such a state `prep_md_items` fails only if its pick fails -/
theorem prep_available {y : Sys} (hm : EMid y)
    {o : PickOutcome} {saved : Nat} {s1 : St} {ps : List Picked} {ds : List Draw}
    (hpick : pickPart y.s o saved = .ok (s1, ps, ds)) :
    ∃ s' job, prep y.s (some y.s.cworker) o saved = .ok (s', job, ds) := by
  obtain ⟨hne, hfree⟩ := pick_engine_readyR hm hpick
  exact prep_total _ o saved ps ds _ hpick (ite_self _) hne hfree

/-- **a `start` event fails only if `initiate` says no or the pick fails** -/
theorem start_availableR {y : Sys} (he : EInvR y) (o : PickOutcome) (saved : Nat) (s1 : St)
    (hgo : initiate y.s = (s1, true)) (s1' : St) (ps : List Picked) (ds : List Draw)
    (hpick : pickPart s1 o saved = .ok (s1', ps, ds)) : ∃ y', sysStep y (.start o saved) = .ok y' := by
  have hgo' : (initiate y.s).2 = true := by rw [hgo]
  have hm := he.mid_go hgo'
  have hs1 : y.initiated.s = s1 := by simp [hgo]
  obtain ⟨s', job, hprep⟩ := prep_available hm (hs1 ▸ hpick)
  exact ⟨_, sysStep_ok_iff.mpr ⟨_, .start_served hgo' (.mk hprep)⟩⟩

/-- **a `step` event fails only if `loop` says no, `treat_output` fails or the pick fails** -/
theorem step_availableR {y : Sys} (he : EInvR y) (hph : y.s.toinitiate < 0 ∨ y.s.tsteps ≤ y.s.cstep) (k : Nat) (status : Status)
    (newW : List (List Rat)) (o : PickOutcome) (job : Job) (hj : y.jobs[k]? = some job) (s1 : St)
    (hloop : loop y.s = (s1, true)) (s2 : St) (pns : List Nat) (it : Nat)
    (ht : treatOutput s1 job status newW (sortFuel s1) = .ok (s2, pns, it))
    (hre : s2.cstep + s2.workers ≤ s2.tsteps) (s3 : St) (ps : List Picked) (ds : List Draw)
    (hpick : pickPart s2 o 0 = .ok (s3, ps, ds)) :
    ∃ y', sysStep y (.step k status newW o) = .ok y' := by
  have hs1 : (loop y.s).1 = s1 := by rw [hloop]
  have hc : Completes y k status newW job ⟨s2, y.jobs.eraseIdx k⟩ := .mk (by rw [hloop]) hj (hs1 ▸ ht)
  have hm := he.mid_done hph hc
  rw [if_pos (show Sys.resubmits ⟨s2, _⟩ from hre)] at hm
  obtain ⟨s', job', hprep⟩ := prep_available hm hpick
  exact ⟨_, sysStep_ok_iff.mpr ⟨_, .resubmit_served hc hre (.mk (y := ⟨s2, _⟩) hprep)⟩⟩

def isStart : Ev → Bool
  | .start _ _ => true
  | _ => false

def isStep : Ev → Bool
  | .step _ _ _ _ => true
  | _ => false

/-- the engine side of a fresh start: every cell free, at least `min(count_k, workers)`
    instances of every engine type `k`, every ensemble has at least one engine type and all its types exist -/
structure EngInit (y : Sys) : Prop where
  free : ∀ k i x, cell y.s.occ k i = some x → x = -1
  sized : ∀ (k : Nat) (l : List Int), y.s.occ[k]? = some l →
    min (countK y.s.ensEng y.s.n k) y.s.workers ≤ l.length
  engOk : ∀ e, e < y.s.n - 1 → y.s.ensEng.getD e [] ≠ [] ∧
    ∀ k ∈ y.s.ensEng.getD e [], ∃ l, y.s.occ[k]? = some l

theorem EInvR.ofStart {y : Sys} (h : Start y) (hE : EngInit y) : EInvR y := by
  refine ⟨h.inv, ?_, ?_, ?_, Or.inr ?_, ⟨hE.sized, hE.engOk⟩⟩
  · rw [h.jobs]; simp
  · rw [h.jobs]; simp
  · rw [h.jobs]; simp
  · intro k i x hx hne
    exact absurd (hE.free k i x hx) hne

theorem run_starts_ER (evs : List Ev) {y y' : Sys} (hall : ∀ ev ∈ evs, isStart ev = true) (he : EInvR y)
    (h : run y evs = .ok y') : EInvR y' :=
  einvR_kept.run evs he (along_of_forall (fun ev hev y => by
    cases ev with
    | start => trivial
    | initDone => trivial
    | step => exact absurd (hall _ hev) (by simp [isStart])) y) h

/-- once the initiation is closed it stays closed (and no further `.start` succeeds) -/
theorem sysStep_closed {y y' : Sys} {ev : Ev} (hc : y.s.toinitiate < 0 ∨ y.s.tsteps ≤ y.s.cstep)
    (h : sysStep y ev = .ok y') : y'.s.toinitiate < 0 ∨ y'.s.tsteps ≤ y'.s.cstep := by
  obtain ⟨ht, _, he⟩ := sysStep_effect h
  cases ev with
  | start o saved => obtain ⟨_, _, _, _, _, _⟩ := he; omega
  | initDone =>
    obtain ⟨hcs, _, hcase⟩ := he
    rcases hcase with ⟨_, hs⟩ | ⟨_, hneg, _⟩
    · rw [hs]; exact hc
    · exact Or.inl hneg
  | step k st w o => obtain ⟨_, _, hcs, hto, _⟩ := he; omega

/-- states reached by scheduler-shaped histories from a fresh start OR a restart satisfy the engine accounting -/
theorem einvR_of_shaped {y0 y : Sys} (h0 : Start y0) (hE : EngInit y0) (starts steps : List Ev)
    (hs : ∀ ev ∈ starts, isStart ev = true) (hr : run y0 (starts ++ .initDone :: steps) = .ok y) :
    EInvR y ∧ (y.s.toinitiate < 0 ∨ y.s.tsteps ≤ y.s.cstep) := by
  obtain ⟨y1, hr1, hr2⟩ := run_append_inv starts _ hr
  have he1 := run_starts_ER starts hs (EInvR.ofStart h0 hE) hr1
  obtain ⟨y2, hstep, hr2⟩ := run_cons_ok hr2
  obtain ⟨_, hst⟩ := Step.of_ok hstep
  cases hst with | initDone hgo =>
  refine run_invariant (P := fun y => EInvR y ∧ (y.s.toinitiate < 0 ∨ y.s.tsteps ≤ y.s.cstep))
    (fun ev _ _ hp h => ⟨einvR_kept.sysStep hp.1 ?_ h, sysStep_closed hp.2 h⟩) steps (he1.initiated hgo) hr2
  cases ev with
  | step => exact hp.2
  | start => trivial
  | initDone => trivial

end Infretis.Repex
