import Infretis.Lemmas.RepexCalls
/-
C06: observational equality of sampler states (`ObsR`) and the relation `RelE` it induces on the results of fallible
operations.

`ObsR strict t0 ra rb a b` relates two states that agree on everything the operations read:
  n, W, trajs, locks, locked, locked0, lockedOrd, locked0Ord (the stream ordinals on record), workers, cstep, tsteps,
  trajNum, ensEng, seed, entropy, spawned, mainDraws; `frac` and `wts` as finite maps (same `lookup` for every key — the restored state holds the
  same entries in another order); with `strict` also occ and toinitiate (both equal to the index `t0`; the `*_rel`
  lemmas for `strict` are stated where the initiation is closed, `t0 < 0`, and no operation changes `toinitiate`
  then).  `strict` is `True` for one worker, `False` in `RM` (RepexC06Multi), where the engine tables differ.
NOT compared (differences that remain by design after a restart): cworker, restarted, rgenRestored, and
`rows` (the rows live in the data file, not in the restart image) — for `rows` the relation records that
both sides appended the same rows to their respective bases `ra`, `rb`.
-/
namespace Infretis.Repex

abbrev AL := List (Nat × List Rat)
abbrev Row := Nat × List Rat × List Rat

def FEq (f g : AL) : Prop := ∀ q, f.lookup q = g.lookup q

theorem FEq.refl (f : AL) : FEq f f := fun _ => rfl
theorem FEq.symm {f g : AL} (h : FEq f g) : FEq g f := fun q => (h q).symm
theorem FEq.trans {f g k : AL} (h1 : FEq f g) (h2 : FEq g k) : FEq f k := fun q => (h1 q).trans (h2 q)

structure ObsR (strict : Prop) (t0 : Int) (ra rb : List Row) (a b : St) : Prop where
  n : a.n = b.n
  W : a.W = b.W
  trajs : a.trajs = b.trajs
  locks : a.locks = b.locks
  locked : a.locked = b.locked
  locked0 : a.locked0 = b.locked0
  lockedOrd : a.lockedOrd = b.lockedOrd
  locked0Ord : a.locked0Ord = b.locked0Ord
  workers : a.workers = b.workers
  cstep : a.cstep = b.cstep
  tsteps : a.tsteps = b.tsteps
  trajNum : a.trajNum = b.trajNum
  frac : FEq a.frac b.frac
  wts : FEq a.wts b.wts
  ensEng : a.ensEng = b.ensEng
  seed : a.seed = b.seed
  entropy : a.entropy = b.entropy
  spawned : a.spawned = b.spawned
  mainDraws : a.mainDraws = b.mainDraws
  toinitiate : strict → a.toinitiate = t0 ∧ b.toinitiate = t0
  occ : strict → a.occ = b.occ
  rows : ∃ r, a.rows = ra ++ r ∧ b.rows = rb ++ r

/-- everything `sysStep` reads agrees -/
def ObsEq (a b : St) : Prop := ObsR True a.toinitiate a.rows b.rows a b

theorem ObsR.refl (s : St) : ObsR True s.toinitiate s.rows s.rows s s :=
  ⟨rfl, rfl, rfl, rfl, rfl, rfl, rfl, rfl, rfl, rfl, rfl, rfl, FEq.refl _, FEq.refl _, rfl, rfl, rfl, rfl, rfl,
   fun _ => ⟨rfl, rfl⟩, fun _ => rfl, ⟨[], by simp, by simp⟩⟩

theorem ObsR.rows_nil {p : Prop} {t0 : Int} {ra : List Row} {a b : St} (h : ObsR p t0 ra [] a b) :
    ∃ r, a.rows = ra ++ r ∧ b.rows = r := by
  simpa using h.rows

theorem ObsR.weaken {p : Prop} {t0 : Int} {ra rb : List Row} {a b : St} (h : ObsR True t0 ra rb a b) : ObsR p t0 ra rb a b :=
  { h with toinitiate := fun _ => h.toinitiate trivial, occ := fun _ => h.occ trivial }

theorem ObsR.strengthen {t0 t1 : Int} {ra rb : List Row} {a b : St} (h : ObsR False t0 ra rb a b)
    (ht : a.toinitiate = t1) (ht' : b.toinitiate = t1) (ho : a.occ = b.occ) : ObsR True t1 ra rb a b :=
  { h with toinitiate := fun _ => ⟨ht, ht'⟩, occ := fun _ => ho }

/-- composition of two restart relations: the middle run restarted with an empty row base -/
theorem ObsR.comp {p : Prop} {t t' : Int} {ra rb' rc : List Row} {a b c : St}
    (h1 : ObsR p t ra [] a b) (h2 : ObsR p t' rb' rc b c) : ObsR p t (ra ++ rb') rc a c := by
  obtain ⟨r1, ha1, hb1⟩ := h1.rows
  obtain ⟨r2, hb2, hc2⟩ := h2.rows
  have hr : r1 = rb' ++ r2 := by
    simp only [List.nil_append] at hb1
    rw [← hb1, hb2]
  exact
    { n := h1.n.trans h2.n, W := h1.W.trans h2.W, trajs := h1.trajs.trans h2.trajs, locks := h1.locks.trans h2.locks,
      locked := h1.locked.trans h2.locked, locked0 := h1.locked0.trans h2.locked0,
      lockedOrd := h1.lockedOrd.trans h2.lockedOrd, locked0Ord := h1.locked0Ord.trans h2.locked0Ord,
      workers := h1.workers.trans h2.workers, cstep := h1.cstep.trans h2.cstep, tsteps := h1.tsteps.trans h2.tsteps,
      trajNum := h1.trajNum.trans h2.trajNum, frac := h1.frac.trans h2.frac, wts := h1.wts.trans h2.wts,
      ensEng := h1.ensEng.trans h2.ensEng, seed := h1.seed.trans h2.seed, entropy := h1.entropy.trans h2.entropy,
      spawned := h1.spawned.trans h2.spawned, mainDraws := h1.mainDraws.trans h2.mainDraws,
      toinitiate := fun hp => ⟨(h1.toinitiate hp).1, by
        rw [← (h1.toinitiate hp).2, (h2.toinitiate hp).1]; exact (h2.toinitiate hp).2⟩,
      occ := fun hp => (h1.occ hp).trans (h2.occ hp),
      rows := ⟨r2, by rw [ha1, hr, List.append_assoc], hc2⟩ }

def RelE {α : Type} (R : α → α → Prop) : Except Err α → Except Err α → Prop
  | .ok x, .ok y => R x y
  | .error e, .error e' => e = e'
  | _, _ => False

theorem RelE.ok_left {α : Type} {R : α → α → Prop} {x : α} {rb : Except Err α}
    (h : RelE R (.ok x) rb) : ∃ y, rb = .ok y ∧ R x y := by
  cases rb with
  | ok y => exact ⟨y, rfl, h⟩
  | error e => exact h.elim

theorem RelE.error_left {α : Type} {R : α → α → Prop} {e : Err} {rb : Except Err α}
    (h : RelE R (.error e) rb) : rb = .error e := by
  cases rb with
  | ok y => exact h.elim
  | error e' => cases h; rfl

theorem RelE.cases {α : Type} {R : α → α → Prop} {ra rb : Except Err α} (h : RelE R ra rb) :
    (∃ e, ra = .error e ∧ rb = .error e) ∨ ∃ x y, ra = .ok x ∧ rb = .ok y ∧ R x y := by
  cases ra with
  | error e => exact Or.inl ⟨e, rfl, h.error_left⟩
  | ok x =>
    obtain ⟨y, hy, hr⟩ := h.ok_left
    exact Or.inr ⟨x, y, rfl, hy, hr⟩

/-- a related result, handed to related continuations, gives related results; the continuation may use that both
    calls succeeded (for what a successful call is known to leave alone) -/
theorem RelE.bind_ok {α β : Type} {R : α → α → Prop} {S : β → β → Prop} {x y : Except Err α}
    {f g : α → Except Err β} (h : RelE R x y)
    (hfg : ∀ a b, x = .ok a → y = .ok b → R a b → RelE S (f a) (g b)) : RelE S (x.bind f) (y.bind g) := by
  rcases h.cases with ⟨e, rfl, rfl⟩ | ⟨a, b, rfl, rfl, hr⟩
  · exact rfl
  · exact hfg a b rfl rfl hr

theorem RelE.bind {α β : Type} {R : α → α → Prop} {S : β → β → Prop} {x y : Except Err α}
    {f g : α → Except Err β} (h : RelE R x y) (hfg : ∀ a b, R a b → RelE S (f a) (g b)) :
    RelE S (x.bind f) (y.bind g) :=
  h.bind_ok fun a b _ _ => hfg a b

theorem RelE.map {α β : Type} {R : α → α → Prop} {S : β → β → Prop} {x y : Except Err α}
    {f g : α → β} (h : RelE R x y) (hfg : ∀ a b, R a b → S (f a) (g b)) : RelE S (x.map f) (y.map g) := by
  rcases h.cases with ⟨e, rfl, rfl⟩ | ⟨a, b, rfl, rfl, hr⟩
  · exact rfl
  · exact hfg a b hr

theorem RelE.mono {α : Type} {R S : α → α → Prop} {x y : Except Err α} (h : RelE R x y)
    (hRS : ∀ a b, x = .ok a → y = .ok b → R a b → S a b) : RelE S x y := by
  rcases h.cases with ⟨e, rfl, rfl⟩ | ⟨a, b, rfl, rfl, hr⟩
  · exact rfl
  · exact hRS a b rfl rfl hr

theorem RelE.refl {α : Type} {R : α → α → Prop} (hR : ∀ a, R a a) (x : Except Err α) : RelE R x x := by
  cases x with
  | error e => exact rfl
  | ok a => exact hR a

theorem FEq.append {f g : AL} (h : FEq f g) (k : Nat) (v : List Rat) : FEq (f ++ [(k, v)]) (g ++ [(k, v)]) := by
  intro q; rw [List.lookup_append, List.lookup_append, h q]

theorem FEq.filter {f g : AL} (h : FEq f g) (pn : Nat) : FEq (f.filter (·.1 != pn)) (g.filter (·.1 != pn)) := by
  intro q; rw [Assoc.lookup_filter f (· != pn), Assoc.lookup_filter g (· != pn), h q]

theorem updFrac_rel {f g : AL} (h : FEq f g) (pn : Nat) (row : List Rat) :
    RelE FEq (updFrac f pn row) (updFrac g pn row) := by
  rw [updFrac_eq, updFrac_eq, h pn]
  cases hs : (g.lookup pn).isSome
  · simp [RelE]
  · simp only [if_true, RelE]
    intro q
    rw [lookup_bumped, lookup_bumped, h q]

end Infretis.Repex
