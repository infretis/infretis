import Infretis.Lemmas.RepexCalls
/-!
# The loops of the `REPEX_state` model, round by round

For each loop — the loop of `treat_output` over the picked ensembles, `sort_trajstate`, the re-issue loop of
`pick_lock`, the loop of `mkPicked` — the round it repeats and a description of its successful runs: a
relation that holds exactly of them (`PerEns`, `Sorts`, `Reissue`) or the result in closed form.  A property
of a loop is proved by induction on the run, with one round to look at; what every round keeps, reflexively
and transitively, the loop keeps.  Proofs that compare two calls of a loop use the loop as an equation in bind form.
`treat_output` is the chain of the first two loops; a successful call is taken apart in two steps, at `preSort` (the chain
up to the sort): `treatOutput_ok_iff`, `preSort_ok_iff`.
-/
namespace Infretis.Repex

/-- the `traj_data` entry an accepted move adds for the new path `tn` -/
def newEntry {α : Type} (status : Status) (tn : Nat) (x : α) : List (Nat × α) :=
  if status = .acc then [(tn, x)] else []

/-- the state `add_traj` is called on for one picked ensemble: the job's record popped and, for an
    accepted move, the table entries of the new path added -/
def perEnsPre (status : Status) (s : St) (tn : Nat) (p : Picked) (w : List Rat) : St :=
  { s with locked := popLocked p.pn s.locked.length 0 s.locked,
           lockedOrd := popLockedOrd p.pn s.locked.length 0 s.locked s.lockedOrd,
           frac := s.frac ++ newEntry status tn (List.replicate s.n 0),
           wts := s.wts ++ newEntry status tn w }

theorem perEnsPre_rej (s : St) (tn : Nat) (p : Picked) (w : List Rat) :
    perEnsPre .rej s tn p w = { s with locked := popLocked p.pn s.locked.length 0 s.locked,
                                       lockedOrd := popLockedOrd p.pn s.locked.length 0 s.locked s.lockedOrd } := by
  simp [perEnsPre, newEntry]

/-- the path `add_traj` puts into the slot, its weights, and the counter afterwards: the new path,
    numbered `tn`, with the trial weights (accepted), or the old one with the weights on record -/
inductive PutBack (s : St) (tn : Nat) (p : Picked) (w : List Rat) : Status → Nat → List Rat → Nat → Prop
  | acc : PutBack s tn p w .acc tn w (tn + 1)
  | rej {wOld : List Rat} : s.wts.lookup p.pn = some wOld → PutBack s tn p w .rej p.pn wOld tn

/-- the successful runs of the loop, from state `s` and counter `tn` over the list of (picked ensemble, trial
    weights) to the state, the counter and the path numbers it returns -/
inductive PerEns (status : Status) : St → Nat → List (Picked × List Rat) → St → Nat → List Nat → Prop
  | nil {s : St} {tn : Nat} : PerEns status s tn [] s tn []
  | cons {s : St} {tn : Nat} {p : Picked} {w : List Rat} {rest : List (Picked × List Rat)} {pn : Nat}
      {v : List Rat} {tn1 : Nat} {s3 s' : St} {tn' : Nat} {pns : List Nat} :
      PutBack s tn p w status pn v tn1 → addTraj (perEnsPre status s tn p w) p.ens pn v = .ok s3 →
      PerEns status s3 tn1 rest s' tn' pns → PerEns status s tn ((p, w) :: rest) s' tn' (pn :: pns)

theorem perEns_round {status : Status} {s s3 : St} {tn pn : Nat} {p : Picked} {w v : List Rat}
    (h : addTraj (perEnsPre status s tn p w) p.ens pn v = .ok s3) :
    s.locks[(p.ens + 1).toNat]? = some true ∧ (padValid s p.ens v).getD (p.ens + 1).toNat 0 ≠ 0 ∧
      s3 = { perEnsPre status s tn p w with trajs := s.trajs.set (p.ens + 1).toNat (some pn),
                                            W := s.W.set (p.ens + 1).toNat (padValid s p.ens v),
                                            locks := s.locks.set (p.ens + 1).toNat false } :=
  addTraj_parts h

theorem perEns_cons (status : Status) (s : St) (tn : Nat) (p : Picked) (w : List Rat)
    (rest : List (Picked × List Rat)) :
    treatOutput.perEns status s tn ((p, w) :: rest) =
      match status with
      | .acc => (addTraj (perEnsPre .acc s tn p w) p.ens tn w).bind fun s3 =>
          (treatOutput.perEns .acc s3 (tn + 1) rest).map fun r => (r.1, r.2.1, tn :: r.2.2)
      | .rej => match s.wts.lookup p.pn with
        | none => .error .key
        | some wOld => (addTraj (perEnsPre .rej s tn p w) p.ens p.pn wOld).bind fun s3 =>
          (treatOutput.perEns .rej s3 tn rest).map fun r => (r.1, r.2.1, p.pn :: r.2.2) := by
  cases status
  · rw [treatOutput.perEns]
    simp only [↓reduceIte]
    change (match addTraj (perEnsPre .acc s tn p w) p.ens tn w with | .error er => _ | .ok s3 => _) = _
    cases addTraj (perEnsPre .acc s tn p w) p.ens tn w with
    | error e => rfl
    | ok s3 =>
      simp only [Except.bind]
      cases treatOutput.perEns .acc s3 (tn + 1) rest with
      | error e => rfl
      | ok r => rfl
  · rw [treatOutput.perEns, perEnsPre_rej]
    simp only [reduceCtorEq, ↓reduceIte]
    cases s.wts.lookup p.pn with
    | none => rfl
    | some wOld =>
      simp only []
      generalize addTraj _ p.ens p.pn wOld = r
      cases r with
      | error e => rfl
      | ok s3 =>
        simp only [Except.bind]
        cases treatOutput.perEns .rej s3 tn rest with
        | error e => rfl
        | ok r => rfl

theorem perEns_ok_iff {status : Status} {l : List (Picked × List Rat)} {s s' : St} {tn tn' : Nat}
    {pns : List Nat} :
    treatOutput.perEns status s tn l = .ok (s', tn', pns) ↔ PerEns status s tn l s' tn' pns := by
  constructor
  · intro h
    induction l generalizing s tn pns with
    | nil =>
      cases h
      exact .nil
    | cons pw rest ih =>
      obtain ⟨p, w⟩ := pw
      rw [perEns_cons] at h
      cases status
      · simp only [] at h
        obtain ⟨s3, hadd, h⟩ := bind_ok_iff.mp h
        obtain ⟨r, hrec, h⟩ := map_ok_iff.mp h
        cases h
        exact .cons .acc hadd (ih hrec)
      · simp only [] at h
        split at h
        · cases h
        rename_i wOld hw
        obtain ⟨s3, hadd, h⟩ := bind_ok_iff.mp h
        obtain ⟨r, hrec, h⟩ := map_ok_iff.mp h
        cases h
        exact .cons (.rej hw) hadd (ih hrec)
  · intro h
    induction h with
    | nil => rfl
    | cons hput hadd _ ih =>
      rw [perEns_cons]
      cases hput with
      | acc =>
        simp only [hadd, Except.bind, ih]
        rfl
      | rej hw =>
        simp only [hw, hadd, Except.bind, ih]
        rfl

theorem PerEns.steps {status : Status} {R : St → St → Prop} (hrefl : ∀ s, R s s)
    (htrans : ∀ {a b c}, R a b → R b c → R a c) (hpre : ∀ s tn p w, R s (perEnsPre status s tn p w))
    (hadd : ∀ {s s' ens pn v}, addTraj s ens pn v = .ok s' → R s s')
    {l : List (Picked × List Rat)} {s s' : St} {tn tn' : Nat} {pns : List Nat}
    (h : PerEns status s tn l s' tn' pns) : R s s' := by
  induction h with
  | nil => exact hrefl _
  | cons _ ha _ ih => exact htrans (htrans (hpre _ _ _ _) (hadd ha)) ih

/-- an iteration of `sort_trajstate` that goes on: the initiation is over, a real slot `e` with
    a zero diagonal weight is swapped with a real slot `t` whose path is in no locked slot -/
theorem sortStep_parts {s s' : St} (h : sortStep s = .ok (some s')) :
    ∃ e t, s' = swap s e t ∧ s.toinitiate = -1 ∧ e < s.n - 1 ∧ entryM s.W e e = 0 ∧ t < s.n - 1 ∧
      (lockedPaths s).contains (s.trajs.getD t none) = false := by
  unfold sortStep at h
  simp only [] at h
  split at h
  · cases h
  rename_i hcond
  obtain ⟨hmove, hto⟩ := Classical.not_not.mp hcond
  split at h
  · cases h
  split at h
  · cases h
  rename_i htj
  cases h
  -- the two indices are found, so they point at an entry `true` of their lists
  have he := List.findIdx_lt_length_of_exists (p := (· == true))
    ⟨true, List.contains_iff_mem.mp hmove, rfl⟩
  have hev := List.findIdx_getElem (w := he)
  have ht := Nat.lt_of_not_ge htj
  have htv := List.findIdx_getElem (w := ht)
  simp only [needsToMove, List.length_map, List.length_range] at he ht
  simp only [needsToMove, List.getElem_map, List.getElem_range, Bool.and_eq_true, Bool.not_eq_true',
    beq_iff_eq] at hev htv
  exact ⟨_, _, rfl, hto, he, hev, ht, htv.2⟩

/-- the successful runs of the loop: `k` swapping iterations from `s`, then one that finds nothing to
    move in `s'` -/
inductive Sorts : St → St → Nat → Prop
  | done {s : St} : sortStep s = .ok none → Sorts s s 0
  | step {s s1 s' : St} {k : Nat} : sortStep s = .ok (some s1) → Sorts s1 s' k → Sorts s s' (k + 1)

/-- the fuel only has to exceed the number of iterations -/
theorem sortTrajstate_ok_iff {fuel : Nat} {s s' : St} {k : Nat} :
    sortTrajstate fuel s = .ok (s', k) ↔ k < fuel ∧ Sorts s s' k := by
  induction fuel generalizing s k with
  | zero => exact ⟨(fun h => nomatch h), fun h => absurd h.1 (Nat.not_lt_zero _)⟩
  | succ fuel ih =>
    unfold sortTrajstate
    cases hstep : sortStep s with
    | error e =>
      refine ⟨(fun h => nomatch h), fun h => ?_⟩
      cases h.2 with
      | done h0 => rw [hstep] at h0; cases h0
      | step h1 => rw [hstep] at h1; cases h1
    | ok o =>
      cases o with
      | none =>
        constructor
        · intro h
          cases h
          exact ⟨Nat.succ_pos _, .done hstep⟩
        · rintro ⟨_, h⟩
          cases h with
          | done => rfl
          | step h1 => rw [hstep] at h1; cases h1
      | some s1 =>
        simp only []
        constructor
        · intro h
          split at h
          · cases h
          rename_i s2 k2 hrec
          cases h
          obtain ⟨hk, hs⟩ := ih.mp hrec
          exact ⟨Nat.succ_lt_succ hk, .step hstep hs⟩
        · rintro ⟨hk, h⟩
          cases h with
          | done h0 => rw [hstep] at h0; cases h0
          | step h1 hs =>
            rw [hstep] at h1
            cases h1
            rw [ih.mpr ⟨Nat.lt_of_succ_lt_succ hk, hs⟩]

theorem sortTrajstate_succ (fuel : Nat) (s : St) :
    sortTrajstate (fuel + 1) s = (sortStep s).bind fun
      | none => .ok (s, 0)
      | some s1 => (sortTrajstate fuel s1).bind fun (s', k) => .ok (s', k + 1) := by
  rw [sortTrajstate]
  cases sortStep s with
  | error e => rfl
  | ok o =>
    cases o with
    | none => rfl
    | some s1 =>
      dsimp only [Except.bind]
      cases sortTrajstate fuel s1 with
      | error e => rfl
      | ok r => rfl

theorem Sorts.of_ok {fuel : Nat} {s s' : St} {k : Nat} (h : sortTrajstate fuel s = .ok (s', k)) :
    Sorts s s' k :=
  (sortTrajstate_ok_iff.mp h).2

theorem Sorts.fix {s s' : St} {k : Nat} (h : Sorts s s' k) : sortStep s' = .ok none := by
  induction h with
  | done h0 => exact h0
  | step _ _ ih => exact ih

theorem Sorts.unique {s s1 s2 : St} {k1 k2 : Nat} (h1 : Sorts s s1 k1) (h2 : Sorts s s2 k2) :
    s1 = s2 ∧ k1 = k2 := by
  induction h1 generalizing s2 k2 with
  | done h0 =>
    cases h2 with
    | done => exact ⟨rfl, rfl⟩
    | step h _ => rw [h0] at h; cases h
  | step h _ ih =>
    cases h2 with
    | done h0 => rw [h0] at h; cases h
    | step h' hrest =>
      rw [h] at h'
      cases h'
      obtain ⟨rfl, rfl⟩ := ih hrest
      exact ⟨rfl, rfl⟩

theorem Sorts.steps {R : St → St → Prop} (hrefl : ∀ s, R s s) (htrans : ∀ {a b c}, R a b → R b c → R a c)
    (hstep : ∀ {s s'}, sortStep s = .ok (some s') → R s s') {s s' : St} {k : Nat} (h : Sorts s s' k) :
    R s s' := by
  induction h with
  | done => exact hrefl _
  | step h1 _ ih => exact htrans (hstep h1) ih

theorem sortTrajstate_noop {s s' : St} {k : Nat} (hto : s.toinitiate ≠ -1) (h : Sorts s s' k) : s' = s := by
  cases h with
  | done => rfl
  | step h1 _ =>
    obtain ⟨_, _, _, hto', _⟩ := sortStep_parts h1
    exact absurd hto' hto

/-- the successful runs of the loop over the recorded `(ensemble, path)` pairs: the path is found in
    a live slot `ti`, swapped into the recorded ensemble, which is then locked -/
inductive Reissue : St → List (Nat × Nat) → St → List (Int × Option Nat) → Prop
  | nil {s : St} : Reissue s [] s []
  | cons {s s2 s' : St} {e tr ti : Nat} {rest : List (Nat × Nat)} {ps : List (Int × Option Nat)} :
      findIdx? (livePaths s) (some tr) = some ti → lock (swap s ti e) e = .ok s2 → Reissue s2 rest s' ps →
      Reissue s ((e, tr) :: rest) s' (((e : Int) - (off : Int), s2.trajs.getD e none) :: ps)

theorem reissueGo_ok_iff {l : List (Nat × Nat)} {s s' : St} {pairs : List (Int × Option Nat)} :
    reissue.go s l = .ok (s', pairs) ↔ Reissue s l s' pairs := by
  constructor
  · intro h
    induction l generalizing s pairs with
    | nil =>
      cases h
      exact .nil
    | cons x rest ih =>
      obtain ⟨e, tr⟩ := x
      unfold reissue.go at h
      split at h
      · cases h
      rename_i ti hfi
      simp only [] at h
      split at h
      · cases h
      rename_i s2 hl
      split at h
      · cases h
      rename_i s3 ps hrec
      cases h
      exact .cons hfi hl (ih hrec)
  · intro h
    induction h with
    | nil => rfl
    | cons hfi hl _ ih => simp only [reissue.go, hfi, hl, ih]

theorem Reissue.steps {R : St → St → Prop} (hrefl : ∀ s, R s s) (htrans : ∀ {a b c}, R a b → R b c → R a c)
    (hstep : ∀ {s s2 ti e}, lock (swap s ti e) e = .ok s2 → R s s2)
    {l : List (Nat × Nat)} {s s' : St} {ps : List (Int × Option Nat)} (h : Reissue s l s' ps) : R s s' := by
  induction h with
  | nil => exact hrefl _
  | cons _ hl _ ih => exact htrans (hstep hl) ih

/-- the entry `xi.1` of a job whose child stream is `child`, at index `xi.2`: grandchild `xi.2` for the moves,
    its child 0 for the engine -/
def pickedAt (child : Stream) (xi : (Int × Nat) × Nat) : Picked :=
  { ens := xi.1.1, pn := xi.1.2, rgen := spawnStream child xi.2,
    rgenEng := spawnStream (spawnStream child xi.2) 0, engIdx := [] }

/-- **`mkPicked.go` in closed form**: it succeeds exactly on pairs that all carry a path -/
theorem mkPickedGo_ok_iff {child : Stream} {pairs : List (Int × Option Nat)} {j : Nat} {ps : List Picked} :
    mkPicked.go child j pairs = .ok ps ↔ ∃ L : List (Int × Nat),
      pairs = L.map (fun x => (x.1, some x.2)) ∧ ps = (L.zipIdx j).map (pickedAt child) := by
  induction pairs generalizing j ps with
  | nil =>
    constructor
    · intro h
      cases h
      exact ⟨[], rfl, rfl⟩
    · rintro ⟨L, hL, rfl⟩
      obtain rfl : L = [] := by simpa using hL.symm
      rfl
  | cons x rest ih =>
    obtain ⟨e, opn⟩ := x
    cases opn with
    | none =>
      constructor
      · intro h
        cases h
      · rintro ⟨L, hL, _⟩
        cases L with
        | nil => cases hL
        | cons y L => cases hL
    | some pn =>
      simp only [mkPicked.go]
      constructor
      · intro h
        split at h
        · cases h
        rename_i ps0 h0
        cases h
        obtain ⟨L, rfl, rfl⟩ := ih.mp h0
        exact ⟨(e, pn) :: L, rfl, rfl⟩
      · rintro ⟨L, hL, rfl⟩
        cases L with
        | nil => cases hL
        | cons y L =>
          obtain ⟨e', pn'⟩ := y
          obtain ⟨⟨rfl, rfl⟩, rfl⟩ : (e = e' ∧ pn = pn') ∧ rest = L.map (fun x => (x.1, some x.2)) := by
            simpa using hL
          rw [ih.mpr ⟨L, rfl, rfl⟩]
          rfl

theorem mkPickedGo_some {child : Stream} {L : List (Int × Nat)} {j : Nat} {ps : List Picked} :
    mkPicked.go child j (L.map (fun x => (x.1, some x.2))) = .ok ps ↔ ps = (L.zipIdx j).map (pickedAt child) := by
  rw [mkPickedGo_ok_iff]
  constructor
  · rintro ⟨L', hL, rfl⟩
    have : L = L' := by
      have := congrArg (List.map fun x : Int × Option Nat => (x.1, x.2.getD 0)) hL
      simpa [List.map_map, Function.comp_def] using this
    rw [this]
  · exact fun h => ⟨L, rfl, h⟩

theorem pickedAt_keys (child : Stream) (L : List (Int × Nat)) (j : Nat) :
    ((L.zipIdx j).map (pickedAt child)).map (fun p => (p.ens, p.pn)) = L := by
  rw [List.map_map]
  exact (List.map_congr_left fun _ _ => rfl).trans (List.zipIdx_map_fst j L)

namespace Frac

/-- the weight list `treat_output` runs its loop over; in `Frac`, the namespace of `RepexTreatData`, whose statements
    use it -/
def jobWs (job : Job) (status : Status) (newW : List (List Rat)) : List (List Rat) :=
  if status = .acc then newW else job.picked.map (fun _ => [])

theorem jobWs_length {job : Job} {status : Status} {newW : List (List Rat)}
    (hlen : status = .acc → newW.length = job.picked.length) :
    (jobWs job status newW).length = job.picked.length := by
  unfold jobWs
  split
  · rename_i ha; exact hlen ha
  · simp

end Frac

/-- `treat_output` as a chain: the loop over the picked ensembles, the weight record, the data rows (ACC),
    `sort_trajstate`, then the counters -/
theorem treatOutput_bind (s : St) (job : Job) (status : Status) (newW : List (List Rat)) (fuel : Nat) :
    treatOutput s job status newW fuel =
      if (Frac.jobWs job status newW).length ≠ job.picked.length then .error .index else
      (treatOutput.perEns status s s.trajNum (job.picked.zip (Frac.jobWs job status newW))).bind
        fun (s1, tn, pnNews) =>
      (recordFrac s1).bind fun s2 =>
      (if status = .acc then writeRows s2 job.pnumOld else .ok s2).bind fun s3 =>
      (sortTrajstate fuel s3).bind fun (s4, iters) =>
      .ok ({ s4 with trajNum := tn, cworker := job.pin }, pnNews, iters) := by
  unfold treatOutput Frac.jobWs
  dsimp only
  generalize (if status = .acc then newW else _) = ws
  refine ite_congr rfl (fun _ => rfl) fun _ => ?_
  cases treatOutput.perEns status s s.trajNum _ with
  | error e => rfl
  | ok r1 =>
    obtain ⟨s1, tn, pns⟩ := r1
    dsimp only [Except.bind]
    cases recordFrac s1 with
    | error e => rfl
    | ok s2 =>
      dsimp only
      cases (if status = .acc then writeRows s2 job.pnumOld else .ok s2) with
      | error e => rfl
      | ok s3 =>
        dsimp only
        cases sortTrajstate fuel s3 with
        | error e => rfl
        | ok r4 => rfl

/-- `treat_output` before the re-sorting: per-ensemble loop, "record weights", data rows -/
def preSort (s : St) (job : Job) (status : Status) (newW : List (List Rat)) :
    Except Err (St × Nat × List Nat) :=
  let ws := if status = .acc then newW else job.picked.map (fun _ => [])
  if ws.length ≠ job.picked.length then .error .index else
  match treatOutput.perEns status s s.trajNum (job.picked.zip ws) with
  | .error er => .error er
  | .ok (s1, tn, pnNews) =>
    match recordFrac s1 with
    | .error er => .error er
    | .ok s2 =>
      match (if status = .acc then writeRows s2 job.pnumOld else .ok s2) with
      | .error er => .error er
      | .ok s3 => .ok (s3, tn, pnNews)

theorem treatOutput_eq (s : St) (job : Job) (status : Status) (newW : List (List Rat)) (fuel : Nat) :
    treatOutput s job status newW fuel =
      match preSort s job status newW with
      | .error er => .error er
      | .ok (s3, tn, pnNews) =>
        match sortTrajstate fuel s3 with
        | .error er => .error er
        | .ok (s4, iters) => .ok ({ s4 with trajNum := tn, cworker := job.pin }, pnNews, iters) := by
  unfold treatOutput preSort
  dsimp only
  generalize (if status = .acc then newW else _) = ws
  split
  · rfl
  cases treatOutput.perEns status s s.trajNum (job.picked.zip ws) with
  | error er => rfl
  | ok r1 =>
    obtain ⟨s1, tn, pns⟩ := r1
    dsimp only
    cases recordFrac s1 with
    | error er => rfl
    | ok s2 =>
      dsimp only
      cases (if status = .acc then writeRows s2 job.pnumOld else .ok s2) with
      | error er => rfl
      | ok s3 => rfl

theorem preSort_ok_iff {s s3 : St} {job : Job} {status : Status} {newW : List (List Rat)} {tn : Nat}
    {pns : List Nat} :
    preSort s job status newW = .ok (s3, tn, pns) ↔
      ∃ s1 s2, (Frac.jobWs job status newW).length = job.picked.length ∧
        PerEns status s s.trajNum (job.picked.zip (Frac.jobWs job status newW)) s1 tn pns ∧
        recordFrac s1 = .ok s2 ∧ (if status = .acc then writeRows s2 job.pnumOld else .ok s2) = .ok s3 := by
  simp only [← perEns_ok_iff]
  unfold preSort Frac.jobWs
  dsimp only
  generalize (if status = .acc then newW else _) = ws
  constructor
  · intro hp
    split at hp
    · cases hp
    rename_i hlen
    split at hp
    · cases hp
    rename_i s1 tn1 pnNews hper
    split at hp
    · cases hp
    rename_i s2 hrec
    split at hp
    · cases hp
    rename_i s3' hwr
    cases hp
    exact ⟨s1, s2, Classical.not_not.mp hlen, hper, hrec, hwr⟩
  · rintro ⟨s1, s2, hlen, hper, hrec, hwr⟩
    rw [if_neg (fun h => h hlen), hper]
    simp only [hrec, hwr]

theorem treatOutput_ok_iff {s s' : St} {job : Job} {status : Status} {newW : List (List Rat)} {fuel : Nat}
    {pns : List Nat} {it : Nat} :
    treatOutput s job status newW fuel = .ok (s', pns, it) ↔
      ∃ s3 tn s4, preSort s job status newW = .ok (s3, tn, pns) ∧ sortTrajstate fuel s3 = .ok (s4, it) ∧
        s' = { s4 with trajNum := tn, cworker := job.pin } := by
  rw [treatOutput_eq]
  constructor
  · intro h
    split at h
    · cases h
    rename_i s3 tn pnNews hpre
    split at h
    · cases h
    rename_i s4 iters hsort
    cases h
    exact ⟨s3, tn, s4, hpre, hsort, rfl⟩
  · rintro ⟨s3, tn, s4, hpre, hsort, rfl⟩
    simp only [hpre, hsort]

theorem treatOutput_parts {s s' : St} {job : Job} {status : Status} {newW : List (List Rat)} {fuel : Nat}
    {pns : List Nat} {it : Nat} (h : treatOutput s job status newW fuel = .ok (s', pns, it)) :
    ∃ s1 tn s2 s3 s4, (Frac.jobWs job status newW).length = job.picked.length ∧
      PerEns status s s.trajNum (job.picked.zip (Frac.jobWs job status newW)) s1 tn pns ∧
      recordFrac s1 = .ok s2 ∧
      (if status = .acc then writeRows s2 job.pnumOld else .ok s2) = .ok s3 ∧
      it < fuel ∧ Sorts s3 s4 it ∧ s' = { s4 with trajNum := tn, cworker := job.pin } := by
  obtain ⟨s3, tn, s4, hpre, hsort, rfl⟩ := treatOutput_ok_iff.mp h
  obtain ⟨s1, s2, hlen, hper, hrec, hwr⟩ := preSort_ok_iff.mp hpre
  obtain ⟨hit, hsorts⟩ := sortTrajstate_ok_iff.mp hsort
  exact ⟨s1, tn, s2, s3, s4, hlen, hper, hrec, hwr, hit, hsorts, rfl⟩

end Infretis.Repex
