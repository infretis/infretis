/-
The frame count of the in-process engines' loops `for i in range(n): if i % sub == 0: <offer a frame>`
(`inprocOffered`), so that the engine hypothesis of `swap_members` ("the MD program does not end before the length
limit") is discharged for ASE / TurtleMD.
-/
import Infretis.Model.ZeroSwapAlg

namespace Infretis.ZeroSwap

theorem offered_block (sub m : Nat) (hsub : 0 < sub) :
    (((List.range sub).map (fun x => sub * m + x)).filter (fun i => i % sub == 0)).length = 1 := by
  obtain ⟨k, rfl⟩ : ∃ k, sub = k + 1 := ⟨sub - 1, by omega⟩
  rw [List.filter_map, List.length_map, List.range_succ_eq_map]
  have h0 : ((fun i => i % (k + 1) == 0) ∘ fun x => (k + 1) * m + x) 0 = true := by
    simp [Function.comp, Nat.mul_mod_right]
  rw [List.filter_cons_of_pos h0]
  have hnil : List.filter ((fun i => i % (k + 1) == 0) ∘ fun x => (k + 1) * m + x)
      (List.map Nat.succ (List.range k)) = [] := by
    rw [List.filter_eq_nil_iff]
    intro a ha
    simp only [List.mem_map, List.mem_range] at ha
    obtain ⟨j, hj, rfl⟩ := ha
    simp only [Function.comp, Nat.mul_add_mod, beq_iff_eq]
    rw [Nat.mod_eq_of_lt (by omega)]
    omega
  rw [hnil]; rfl

theorem offeredAt_mul (sub : Nat) (hsub : 0 < sub) : ∀ m, (offeredAt sub (sub * m)).length = m
  | 0 => by simp [offeredAt]
  | m + 1 => by
    have ih := offeredAt_mul sub hsub m
    unfold offeredAt at ih ⊢
    rw [Nat.mul_succ, List.range_add, List.filter_append, List.length_append, ih, offered_block sub m hsub]

/-- ASE offers exactly `maxlen` frames, TurtleMD `maxlen` or `maxlen + 1` (its last one is refused by `append`) -/
theorem inprocOffered_bounds (sub maxlen : Nat) (ase : Bool) (hsub : 0 < sub) :
    maxlen ≤ inprocOffered sub maxlen ase ∧ inprocOffered sub maxlen ase ≤ maxlen + 1 ∧
      (ase = true → inprocOffered sub maxlen ase = maxlen) := by
  unfold inprocOffered
  cases ase with
  | true => simp [offeredAt_mul sub hsub maxlen]
  | false =>
    simp only [Bool.false_eq_true, if_false]
    have h := offeredAt_mul sub hsub maxlen
    unfold offeredAt at h ⊢
    rw [List.range_succ, List.filter_append, List.length_append, h]
    refine ⟨by omega, ?_, by intro h; cases h⟩
    have := List.length_filter_le (fun i => i % sub == 0) [sub * maxlen]
    simp only [List.length_singleton] at this
    omega

/-- the engine hypothesis of the membership theorems ("the MD program does not end before the length limit") -/
theorem inprocSteps_enough (sub maxlen : Nat) (ase : Bool) (hsub : 0 < sub) :
    maxlen + 1 ≤ inprocSteps sub maxlen ase + 2 := by
  have := (inprocOffered_bounds sub maxlen ase hsub).1
  unfold inprocSteps
  omega

end Infretis.ZeroSwap
