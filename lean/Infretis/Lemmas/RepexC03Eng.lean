import Infretis.Lemmas.RepexCalls
import Infretis.Lemmas.ListAux
/-!
# C03 — engine instances: the table `engine_occ` after `assign_engines`, cell by cell

`assign_engines` frees the worker's own cells and claims free ones: `assignEngines_cell` says what every cell holds
afterwards; what other workers keep (`assignEngines_spec`) and who owns an occupied cell (`assignEngines_conv`) are
read off it.
-/
namespace Infretis.Repex

/-- content of cell `i` of engine type `k` in `engine_occ` -/
def cell (occ : List (List Int)) (k i : Nat) : Option Int := (occ[k]?).bind (·[i]?)

theorem cell_freeEngines (occ : List (List Int)) (pin k i : Nat) :
    cell (freeEngines occ pin) k i = (cell occ k i).map (fun x => if x = (pin : Int) then -1 else x) := by
  unfold cell freeEngines
  rw [List.getElem?_map]
  cases occ[k]? with
  | none => rfl
  | some l => simp [List.getElem?_map]

theorem claim_cell {occ occ' : List (List Int)} {k pin i : Nat} (h : claim occ k pin = some (occ', i)) :
    cell occ k i = some (-1) ∧ cell occ' k i = some (pin : Int) ∧
      (∀ k' i', (k', i') ≠ (k, i) → cell occ' k' i' = cell occ k' i') ∧
      ∀ k' : Nat, (occ'[k']?).map List.length = (occ[k']?).map List.length := by
  obtain ⟨l, hl, rfl, hlt, rfl⟩ := claim_parts h
  have hk := getElem?_lt_of_some hl
  unfold cell
  refine ⟨?_, ?_, ?_, ?_⟩
  · rw [hl, Option.bind_some, List.getElem?_eq_getElem hlt]
    simpa using List.findIdx_getElem (w := hlt)
  · simp [List.getElem?_set_self hk, List.getElem?_set_self hlt]
  · intro k' i' hne
    by_cases hkk : k' = k
    · subst hkk
      rw [List.getElem?_set_self hk, hl, Option.bind_some, Option.bind_some,
        List.getElem?_set_ne (fun hii => hne (by rw [hii]))]
    · rw [List.getElem?_set_ne (fun hh => hkk hh.symm)]
  · intro k'
    by_cases hkk : k' = k
    · subst hkk
      simp [List.getElem?_set_self hk, hl]
    · rw [List.getElem?_set_ne (fun hh => hkk hh.symm)]

theorem assignGo_cell (pin : Nat) : ∀ (names : List Nat) (occ occ' : List (List Int))
    (out : List (Nat × Nat)), assignEngines.go pin occ names = (occ', out) →
    (∀ ki ∈ out, cell occ ki.1 ki.2 = some (-1) ∧ cell occ' ki.1 ki.2 = some (pin : Int)) ∧
      (∀ k i, (k, i) ∉ out → cell occ' k i = cell occ k i) ∧ (out.map Prod.fst).Sublist names ∧
      ∀ k : Nat, (occ'[k]?).map List.length = (occ[k]?).map List.length := by
  intro names
  induction names with
  | nil =>
    intro occ occ' out h
    simp only [assignEngines.go, Prod.mk.injEq] at h
    obtain ⟨rfl, rfl⟩ := h
    exact ⟨by simp, fun _ _ _ => rfl, by simp, fun _ => rfl⟩
  | cons k rest ih =>
    intro occ occ' out h
    unfold assignEngines.go at h
    split at h
    · obtain ⟨h1, h2, h3, h4⟩ := ih occ occ' out h
      exact ⟨h1, h2, h3.trans (List.sublist_cons_self _ _), h4⟩
    · rename_i occ1 i hc
      obtain ⟨c1, c2, c3, c4⟩ := claim_cell hc
      generalize hgo : assignEngines.go pin occ1 rest = r at h
      obtain ⟨o2, out2⟩ := r
      simp only [Prod.mk.injEq] at h
      obtain ⟨rfl, rfl⟩ := h
      obtain ⟨h1, h2, h3, h4⟩ := ih occ1 o2 out2 hgo
      -- a cell claimed later is not the one claimed now: that one is no longer free
      have hne : ∀ ki ∈ out2, ki ≠ (k, i) := fun ki hki heq => by
        have := (h1 ki hki).1
        rw [heq, c2] at this
        simp only [Option.some.injEq] at this
        omega
      refine ⟨?_, ?_, by simpa using h3.cons_cons k, fun k' => (h4 k').trans (c4 k')⟩
      · intro ki hki
        rcases List.mem_cons.mp hki with rfl | hki
        · refine ⟨c1, ?_⟩
          by_cases hin : (k, i) ∈ out2
          · exact (h1 _ hin).2
          · rw [h2 k i hin]; exact c2
        · exact ⟨by rw [← c3 ki.1 ki.2 (hne ki hki)]; exact (h1 ki hki).1, (h1 ki hki).2⟩
      · intro k' i' hnot
        rw [List.mem_cons, not_or] at hnot
        rw [h2 k' i' hnot.2, c3 k' i' hnot.1]

/-- **`assign_engines`, cell by cell**: the returned instances were free or the worker's own and now carry its pin;
    its other cells are free; every other cell stays -/
theorem assignEngines_cell {occ occ' : List (List Int)} {names : List Nat} {pin : Nat}
    {idx : List (Nat × Nat)} (h : assignEngines occ names pin = .ok (occ', idx)) :
    (∀ ki ∈ idx, cell occ' ki.1 ki.2 = some (pin : Int) ∧
      (cell occ ki.1 ki.2 = some (-1) ∨ cell occ ki.1 ki.2 = some (pin : Int))) ∧
    (∀ k i, (k, i) ∉ idx →
      cell occ' k i = (cell occ k i).map (fun x => if x = (pin : Int) then -1 else x)) ∧
    (idx.map Prod.fst).Sublist names ∧
    ∀ k : Nat, (occ'[k]?).map List.length = (occ[k]?).map List.length := by
  obtain ⟨h1, h2, h3, h4⟩ := assignGo_cell pin names _ _ _ (assignEngines_parts h).1
  refine ⟨fun ki hki => ⟨(h1 ki hki).2, ?_⟩, fun k i hn => by rw [h2 k i hn, cell_freeEngines], h3, fun k => ?_⟩
  · have := (h1 ki hki).1
    rw [cell_freeEngines] at this
    cases hc : cell occ ki.1 ki.2 with
    | none => rw [hc] at this; simp at this
    | some z =>
      rw [hc] at this
      simp only [Option.map_some, Option.some.injEq] at this
      by_cases hz : z = (pin : Int)
      · exact Or.inr (by rw [hz])
      · rw [if_neg hz] at this; exact Or.inl (by rw [this])
  · rw [h4 k]
    unfold freeEngines
    rw [List.getElem?_map]
    cases occ[k]? with
    | none => rfl
    | some l => simp

theorem assignEngines_spec {occ occ' : List (List Int)} {names : List Nat} {pin : Nat}
    {idx : List (Nat × Nat)} (h : assignEngines occ names pin = .ok (occ', idx)) :
    (∀ k i x, cell occ k i = some x → x ≠ -1 → x ≠ (pin : Int) → cell occ' k i = some x) ∧
      ∀ ki ∈ idx, cell occ' ki.1 ki.2 = some (pin : Int) := by
  obtain ⟨h1, h2, _, _⟩ := assignEngines_cell h
  refine ⟨fun k i x hx hne hpin => ?_, fun ki hki => (h1 ki hki).1⟩
  have hnot : (k, i) ∉ idx := by
    intro hin
    rcases (h1 _ hin).2 with h | h
    · rw [hx] at h; exact hne (Option.some.inj h)
    · rw [hx] at h; exact hpin (Option.some.inj h)
  rw [h2 k i hnot, hx]
  simp [hpin]

theorem assignEngines_conv {occ occ' : List (List Int)} {names : List Nat} {pin : Nat}
    {idx : List (Nat × Nat)} (h : assignEngines occ names pin = .ok (occ', idx)) :
    (∀ k i x, cell occ' k i = some x → x ≠ -1 →
      (x ≠ (pin : Int) ∧ cell occ k i = some x) ∨ (x = (pin : Int) ∧ (k, i) ∈ idx)) ∧
    (idx.map Prod.fst).Sublist names := by
  obtain ⟨h1, h2, h3, _⟩ := assignEngines_cell h
  refine ⟨fun k i x hx hne => ?_, h3⟩
  by_cases hin : (k, i) ∈ idx
  · rw [(h1 _ hin).1] at hx
    exact Or.inr ⟨(Option.some.inj hx).symm, hin⟩
  · rw [h2 k i hin] at hx
    cases hc : cell occ k i with
    | none => rw [hc] at hx; simp at hx
    | some z =>
      rw [hc] at hx
      simp only [Option.map_some, Option.some.injEq] at hx
      by_cases hz : z = (pin : Int)
      · rw [if_pos hz] at hx; exact absurd hx.symm hne
      · rw [if_neg hz] at hx; subst hx; exact Or.inl ⟨hz, rfl⟩

end Infretis.Repex
