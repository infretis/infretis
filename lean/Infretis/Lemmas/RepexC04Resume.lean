import Infretis.Lemmas.RepexC04DiskG
import Infretis.Lemmas.RepexC04Start
/-!
# C04 — stop inside `treat_output`, restart from the two files, go on: the good disk states are closed under it

For a good disk state (`Good`: all sampler invariants + `DiskInvG`, which contains the law on the files):
`clean_data_file` changes nothing on its disk; a stop inside the next completed step leaves, after the restart's
clean-up, the disk of the state before resp. after the step (`stop_restartG`); and if the restart file records no
job in flight, `restartSys` (= `clean_data_file` + `__init__` + `load_paths`) yields a good disk state again
(`restart_good`).  With `dStep_good` this closes the set of good states under events, stops and restarts:
`Reachable`, the disk states reached that way, are good (`reachable_good`); `stop_restart_law` is what the restart
finds after a stop, `dRun_fresh` the case of one history from a fresh start.
-/
namespace Infretis.Repex.Data
open Infretis.Repex.Frac

theorem Good.lineKeys_nodup {Z : DSys} (hg : Good Z) : (lineKeys Z.d.lines).Nodup := by
  obtain ⟨pre, ls, hl1, hl2, _, hnd⟩ := hg.d.lines
  rw [hl2, lineKeys_append]
  have : lineKeys ls = Z.y.s.rows.map (·.1) := (fmtRows_rows _ _ hl1).1
  rw [this]; exact hnd

theorem good_disk_facts {Z : DSys} (hg : Good Z) (im : Image) (him : Z.d.img = some im) :
    (∀ l ∈ Z.d.lines, l.hash = true ∨
      (l.term = true ∧ ∀ k, l.key = some k → k < im.trajNum ∧ k ∉ activeKeys im)) ∧
    (lineKeys Z.d.lines).Nodup ∧
    (∀ c, c < Z.y.s.n - 1 → diskTotal Z.d.lines im c = (Z.cnt.getD c 0 : Rat)) := by
  obtain ⟨pre, ls, hl1, hl2, hpre, _⟩ := hg.d.lines
  have ig := hg.d.img im him
  refine ⟨?_, hg.lineKeys_nodup, ?_⟩
  · intro l hl
    rw [hl2] at hl
    rcases List.mem_append.mp hl with hl | hl
    · rcases hpre l hl with h1 | ⟨h1, h2⟩
      · exact Or.inl h1
      · right
        refine ⟨h1, fun k hk => ?_⟩
        obtain ⟨a1, a2⟩ := h2 k hk
        exact ⟨by rw [ig.tn]; exact a1, fun hact => a2 (ig.act.mem_iff.mp hact)⟩
    · right
      obtain ⟨i, hi⟩ := List.mem_iff_getElem?.mp hl
      obtain ⟨r, fc, wc, hri, _, rfl⟩ := (fmtRows_rows _ _ hl1).2.2.2 i l hi
      refine ⟨rfl, ?_⟩
      intro k hk
      simp only [Option.some.injEq] at hk
      subst hk
      have hm : r.1 ∈ Z.y.s.rows.map (·.1) := List.mem_map_of_mem (List.mem_of_getElem? hri)
      exact ⟨by rw [ig.tn]; exact hg.r4.rinv.rowsBound r.1 hm,
        fun hact => hg.r4.rinv.rowsFrac r.1 hm (ig.act.mem_iff.mp hact)⟩
  · intro c hc
    unfold diskTotal
    rw [ig.tot c]
    exact hg.d.law c hc

theorem clean_noopG {Z : DSys} (hg : Good Z) (im : Image) (him : Z.d.img = some im) :
    cleanLines (activeKeys im) Z.d.lines = Z.d.lines := by
  obtain ⟨h1, _, _⟩ := good_disk_facts hg im him
  apply cleanLines_keep_all
  intro l hl
  rcases h1 l hl with h | ⟨h, h'⟩
  · exact Or.inl h
  · exact Or.inr ⟨h, fun k hk => (h' k hk).2⟩

theorem Good.no_active_row {Z : DSys} (hg : Good Z) (im : Image) (him : Z.d.img = some im) :
    ∀ pn ∈ lineKeys Z.d.lines, pn ∉ activeKeys im := by
  intro pn hpn hact
  obtain ⟨f1, _, _⟩ := good_disk_facts hg im him
  obtain ⟨l, hl, hh, _, hk⟩ := mem_lineKeys.mp hpn
  rcases f1 l hl with h' | ⟨_, h'⟩
  · rw [hh] at h'; exact absurd h' (by simp)
  · exact (h' pn hk).2 hact

theorem stop_restartG {z z' : DSys} {k : Nat} {status : Status} {newW : List (List Rat)} {o : PickOutcome}
    (hg : Good z) (hev : EvOk z.y (.step k status newW o))
    (h : dStep z (.step k status newW o) = .ok z') (p : Stop) :
    ∃ s2 ls', z'.d = { lines := z.d.lines ++ ls', img := some (persistD s2) } ∧
      (p.renamed = true →
        restartClean (stopDisk z.d ls' (persistD s2) p) = some (z'.d.lines, persistD s2)) ∧
      (p.renamed = false → ∀ im, z.d.img = some im →
        restartClean (stopDisk z.d ls' (persistD s2) p) = some (z.d.lines, im)) := by
  have hs := dStep_sys h
  have hr := hg.r4
  obtain ⟨job, s2, sf⟩ := step_facts hr hs
  obtain ⟨ls', hls, hd, _⟩ := dStep_step h sf.htp
  obtain ⟨hg', _, _⟩ := dStep_good _ hg hev h
  refine ⟨s2, ls', hd, ?_, ?_⟩
  · intro hren
    unfold stopDisk restartClean
    rw [if_pos hren]
    simp only [Option.map_some]
    have himg : z'.d.img = some (persistD s2) := by rw [hd]
    have := clean_noopG hg' (persistD s2) himg
    rw [hd] at this ⊢
    simp only at this ⊢
    rw [this]
  · intro hren im him
    unfold stopDisk restartClean
    rw [if_neg (by simp [hren]), him]
    simp only [Option.map_some, Option.some.injEq, Prod.mk.injEq, and_true]
    have ig := hg.d.img im him
    obtain ⟨news, _, hn2, hn3⟩ := sf.rows
    rw [cleanLines_append, cleanLines_append, clean_noopG hg im him]
    have h2 : cleanLines (activeKeys im) (ls'.take p.j) = [] := by
      apply cleanLines_drop_all
      intro l hl
      have hl' : l ∈ ls' := List.mem_of_mem_take hl
      obtain ⟨i, hi⟩ := List.mem_iff_getElem?.mp hl'
      obtain ⟨r, fc, wc, hri, _, rfl⟩ := (fmtRows_rows _ _ hls).2.2.2 i l hi
      refine ⟨rfl, r.1, rfl, ?_⟩
      rw [hn2] at hri
      exact ig.act.mem_iff.mpr (hn3 r (List.mem_of_getElem? hri))
    rw [h2]
    cases p.torn with
    | none => simp [cleanLines]
    | some k => simp [cleanLines_torn]

/-- **what the restart finds after such a stop**: the restart file of the state after the step resp. before it,
    with that state's step counter; data file + live weights = the counts, plus this step's idle recordings if the
    restart file is the new one; every path at most one row, none of an active path -/
theorem stop_restart_law {z z' : DSys} {k : Nat} {status : Status} {newW : List (List Rat)} {o : PickOutcome}
    (hg : Good z) (hev : EvOk z.y (.step k status newW o))
    (h : dStep z (.step k status newW o) = .ok z') (p : Stop)
    (himg : p.renamed = false → ∃ im, z.d.img = some im) :
    ∃ lines im, (∃ ls' s2, restartClean (stopDisk z.d ls' (persistD s2) p) = some (lines, im) ∧
        z'.d = { lines := z.d.lines ++ ls', img := some (persistD s2) }) ∧
      im.cstep = (if p.renamed then z.y.s.cstep + 1 else z.y.s.cstep) ∧
      (∀ c, c < z.y.s.n - 1 → diskTotal lines im c
          = (z.cnt.getD c 0 : Rat) + (if p.renamed then (idleAt z.y (.step k status newW o) c : Rat) else 0)) ∧
      (lineKeys lines).Nodup ∧ (∀ pn ∈ lineKeys lines, pn ∉ activeKeys im) := by
  obtain ⟨hg', hc, _⟩ := dStep_good _ hg hev h
  obtain ⟨s2, ls', hd, hA, hB⟩ := stop_restartG hg hev h p
  -- of the mid-state only the counters are used (`sf.cstep`, `sf.n`), not that it is `s2`
  obtain ⟨job, s2x, sf⟩ := step_facts hg.r4 (dStep_sys h)
  cases hren : p.renamed with
  | true =>
    have himg' : z'.d.img = some (persistD s2) := by rw [hd]
    obtain ⟨_, f2, f3⟩ := good_disk_facts hg' _ himg'
    refine ⟨z'.d.lines, persistD s2, ⟨ls', s2, hA hren, hd⟩, ?_, ?_, f2, Good.no_active_row hg' _ himg'⟩
    · rw [(hg'.d.img _ himg').cstep, sf.keep.cstep, sf.cstep]; rfl
    · intro c hcn
      rw [f3 c (by rw [sf.keep.n, sf.n]; exact hcn), hc c, if_pos rfl]
      push_cast; rfl
  | false =>
    obtain ⟨im, him⟩ := himg hren
    obtain ⟨_, f2, f3⟩ := good_disk_facts hg im him
    refine ⟨z.d.lines, im, ⟨ls', s2, hB hren im him, hd⟩, (hg.d.img im him).cstep, ?_, f2,
      Good.no_active_row hg im him⟩
    intro c hcn
    rw [f3 c hcn, if_neg (by simp), add_zero]

/-- **`restartSys` on the cleaned disk of a good state gives a good state again**: `Z` good with restart file
    `im` (nothing recorded as in flight), `d` any disk that `clean_data_file` turns into `Z`'s (what a stop left),
    the stored paths carrying the weights on record.  The restored system is good, its disk is `Z`'s, its counts
    are `Z`'s, nothing is in flight. -/
theorem restart_good {Z : DSys} (hg : Good Z) {im : Image} (him : Z.d.img = some im) (hq : im.locked = [])
    {d : Disk} (hclean : restartClean d = some (Z.d.lines, im)) {workers tsteps : Nat}
    {occ : List (List Int)} {ensEng : List (List Nat)} {zr : DSys}
    (h : restartSys d Z.cnt Z.y.s.n workers tsteps occ ensEng
      (fun pn => (Z.y.s.wts.lookup pn).getD []) = .ok zr) :
    Good zr ∧ zr.d = { lines := Z.d.lines, img := some im } ∧ zr.cnt = Z.cnt ∧ zr.y.jobs = [] ∧
      zr.y.s.n = Z.y.s.n ∧ zr.y.s.cstep = im.cstep ∧ zr.y.s.workers = workers := by
  unfold restartSys at h
  rw [hclean] at h
  simp only [] at h
  split at h
  · exact absurd h (by simp)
  rename_i sR hres
  simp only [Except.ok.injEq] at h
  subst h
  have ig := hg.d.img im him
  obtain ⟨sP, jP, e1, hrP, enP, ewP⟩ := ig.src
  obtain ⟨f1, f2, f3⟩ := good_disk_facts hg im him
  -- the restore of the file is the restore of the image of `sP` with `sP`'s weights
  have hres' : restore (persist sP) sP.n workers tsteps occ ensEng (fun pn => (sP.wts.lookup pn).getD []) = .ok sR := by
    rw [← restore_persistD, ← e1, enP,
      restore_congr im Z.y.s.n workers tsteps occ ensEng (fun pn => (sP.wts.lookup pn).getD [])
        (fun pn => (Z.y.s.wts.lookup pn).getD []) (fun pn hp => by simp only [ewP pn hp])]
    exact hres
  have hlk : sP.locked = [] := by
    rw [e1] at hq
    have : (persist sP).locked = [] := hq
    unfold persist at this
    simpa using this
  obtain ⟨b1, b2, _, _, b5, b6⟩ := restore_reach4 (y1 := ⟨sP, jP⟩) hrP hlk hres'
  obtain ⟨c1, _, c3, _, _, c6⟩ := restore_image hres
  have hcs := restore_cstep hres
  have hn : sR.n = Z.y.s.n := b6.trans enP
  refine ⟨⟨b1, b2, ⟨⟨Z.d.lines, [], ?_, by simp, ?_, ?_⟩, ?_, ?_, ?_⟩⟩, rfl, rfl, rfl, hn, hcs,
    restore_workers hres⟩
  · show fmtRows sR.n sR.rows = .ok []
    rw [b5]; rfl
  · intro l hl
    rcases f1 l hl with h1 | ⟨h1, h2⟩
    · exact Or.inl h1
    · right
      refine ⟨h1, fun k hk => ?_⟩
      obtain ⟨a1, a2⟩ := h2 k hk
      exact ⟨by show k < sR.trajNum; rw [c6]; exact a1, fun hin => a2 (c1.mem_iff.mp hin)⟩
  · show (lineKeys Z.d.lines ++ sR.rows.map (·.1)).Nodup
    rw [b5]; simpa using f2
  · intro im' him'
    simp only [Option.some.injEq] at him'
    subst him'
    refine ⟨c1.symm, fun c => (c3 c).symm, hcs.symm, c6.symm, ⟨sP, jP, e1, hrP, b6.symm, ?_⟩⟩
    intro pn hp
    show sP.wts.lookup pn = sR.wts.lookup pn
    rw [restore_wts_lookup hres pn hp]
    -- an active path has a weight record in `sP`
    have hact := activeKeys_persistD hrP.hinv.inv.core.coreR hrP.tidy.tidy hrP.hinv.fw.keys hrP.rinv.liveNodup
    have hpk : pn ∈ sP.frac.map Prod.fst := by
      rw [e1] at hp
      exact hact.mem_iff.mp hp
    have hpw : pn ∈ sP.wts.map Prod.fst := by rw [← hrP.tidy.tidy.sameKeys]; exact hpk
    obtain ⟨w, hw⟩ := Assoc.exists_lookup hpw
    rw [← ewP pn hp, hw]
    rfl
  · show Z.cnt.length = sR.n
    rw [hn]; exact hg.d.cntLen
  · intro c hc
    show lineTotal Z.d.lines c + colTotal sR.frac c = _
    have hc' : c < Z.y.s.n - 1 := by
      have : (⟨⟨sR, []⟩, ⟨Z.d.lines, some im⟩, Z.cnt⟩ : DSys).y.s.n = sR.n := rfl
      rw [this, hn] at hc
      exact hc
    rw [c3 c]
    exact f3 c hc'

/-- **The disk states of the sampler.**  `one = true`: one worker throughout, step counter 0 at the fresh start.
    * `fresh`: a fresh start (`DiskStart`) on a fresh disk;
    * `event`: one scheduler event (outcome in the weight family) with its disk effects (`dStep`);
    * `restart`: the next completed step is stopped anywhere inside its two weight-relevant disk effects (`p`),
      the restart file the restart finds records no job in flight (`hq`; with one worker: always), and
      `restartSys` (`clean_data_file`, `__init__`, `load_paths`; the stored paths carry the weights on record; any
      worker count / step target / engine table) rebuilds the sampler; the counts go on from the number of
      recordings the restart file accounts for. -/
inductive Reachable (one : Bool) : DSys → Prop
  | fresh {y0 : Sys} (h0 : DiskStart y0) (h1 : one = true → y0.s.workers = 1 ∧ y0.s.cstep = 0) :
      Reachable one (freshSys y0)
  | event {z z' : DSys} {ev : Ev} (hz : Reachable one z) (hev : EvOk z.y ev) (h : dStep z ev = .ok z') :
      Reachable one z'
  | restart {z z' zr : DSys} {k : Nat} {status : Status} {newW : List (List Rat)} {o : PickOutcome} {p : Stop}
      {s2 : St} {ls' lines : List DLine} {im : Image} {workers tsteps : Nat} {occ : List (List Int)}
      {ensEng : List (List Nat)}
      (hz : Reachable one z) (hev : EvOk z.y (.step k status newW o))
      (h : dStep z (.step k status newW o) = .ok z')
      (hd : z'.d = { lines := z.d.lines ++ ls', img := some (persistD s2) })
      (hclean : restartClean (stopDisk z.d ls' (persistD s2) p) = some (lines, im))
      (hq : im.locked = []) (h1 : one = true → workers = 1)
      (hr : restartSys (stopDisk z.d ls' (persistD s2) p) (if p.renamed then z'.cnt else z.cnt) z.y.s.n
        workers tsteps occ ensEng
        (fun pn => ((if p.renamed then z'.y else z.y).s.wts.lookup pn).getD []) = .ok zr) :
      Reachable one zr

def OneOk (one : Bool) (z : DSys) : Prop :=
  one = true → z.y.s.workers = 1 ∧ ∀ c, c < z.y.s.n - 1 → z.cnt.getD c 0 = z.y.s.cstep

/-- an event keeps what the one-worker flag adds: the count of every ensemble column goes up with the step counter -/
theorem OneOk.event {one : Bool} {z z' : DSys} {ev : Ev} (ho : OneOk one z) (hg : Good z) (hev : EvOk z.y ev)
    (h : dStep z ev = .ok z') : OneOk one z' := by
  intro h1
  obtain ⟨w1, c1⟩ := ho h1
  obtain ⟨_, hc, _⟩ := dStep_good _ hg hev h
  obtain ⟨_, _, _, hn, hw, hone⟩ :=
    sysStep_total _ hg.r4.hinv hg.j (dStep_sys h) (matchableAt_of_inv5 hg.r4.inv5 hev)
  refine ⟨hw.trans w1, fun c hcn => ?_⟩
  rw [hn] at hcn
  rw [hc c, c1 c hcn, hone w1 c hcn]

/-- the restart of a good disk state whose counts are its step counter: the counts go on from the step counter of
    the restart file, which is that state's -/
theorem restart_oneOk {one : Bool} {Z : DSys} (hg : Good Z) (ho : OneOk one Z) {im : Image}
    (him : Z.d.img = some im) (hq : im.locked = []) {d : Disk} (hclean : restartClean d = some (Z.d.lines, im))
    {workers tsteps : Nat} {occ : List (List Int)} {ensEng : List (List Nat)} {zr : DSys}
    (h1 : one = true → workers = 1)
    (h : restartSys d Z.cnt Z.y.s.n workers tsteps occ ensEng (fun pn => (Z.y.s.wts.lookup pn).getD []) = .ok zr) :
    Good zr ∧ OneOk one zr := by
  obtain ⟨g, _, gc, _, gn, gcs, gw⟩ := restart_good hg him hq hclean h
  refine ⟨g, fun hone => ⟨gw.trans (h1 hone), fun c hcn => ?_⟩⟩
  rw [gn] at hcn
  rw [gc, gcs, (hg.d.img im him).cstep, (ho hone).2 c hcn]

theorem reachable_good {one : Bool} {z : DSys} (hz : Reachable one z) : Good z ∧ OneOk one z := by
  induction hz with
  | @fresh y0 h0 h1 =>
    refine ⟨freshSys_good h0, fun ho => ?_⟩
    obtain ⟨a1, a2⟩ := h1 ho
    refine ⟨a1, fun c _ => ?_⟩
    show (List.replicate _ 0).getD c 0 = y0.s.cstep
    rw [getD_replicate_self, a2]
  | event hz hev h ih => exact ⟨(dStep_good _ ih.1 hev h).1, ih.2.event ih.1 hev h⟩
  | @restart z z' zr k status newW o p s2 ls' lines im workers tsteps occ ensEng hz hev h hd hclean hq h1 hr ih =>
    obtain ⟨hg, ho1⟩ := ih
    obtain ⟨s2', ls'', hd', hA, hB⟩ := stop_restartG hg hev h p
    -- the two descriptions of `z'.d` agree
    have hdd := hd.symm.trans hd'
    simp only [Disk.mk.injEq, List.append_cancel_left_eq, Option.some.injEq] at hdd
    obtain ⟨e1, e2⟩ := hdd
    subst e1
    rw [e2] at hclean hr
    cases hren : p.renamed with
    | true =>
      -- the restart sees the state after the step
      rw [hA hren] at hclean
      simp only [Option.some.injEq, Prod.mk.injEq] at hclean
      obtain ⟨_, ei⟩ := hclean
      subst ei
      simp only [hren, if_true] at hr
      have hn' : z'.y.s.n = z.y.s.n :=
        (sysStep_total _ hg.r4.hinv hg.j (dStep_sys h) (matchableAt_of_inv5 hg.r4.inv5 hev)).2.2.2.1
      rw [← hn'] at hr
      exact restart_oneOk (dStep_good _ hg hev h).1 (ho1.event hg hev h) (by rw [hd']) hq (hA hren) h1 hr
    | false =>
      -- the restart sees the state before the step; a restart file must have been there
      have hex : ∃ im0, z.d.img = some im0 := by
        unfold restartClean stopDisk at hclean
        rw [if_neg (by simp [hren])] at hclean
        simp only at hclean
        cases hi : z.d.img with
        | none => rw [hi] at hclean; simp at hclean
        | some im0 => exact ⟨im0, rfl⟩
      obtain ⟨im0, him0⟩ := hex
      rw [hB hren im0 him0] at hclean
      simp only [Option.some.injEq, Prod.mk.injEq] at hclean
      obtain ⟨_, ei⟩ := hclean
      subst ei
      simp only [hren, Bool.false_eq_true, if_false] at hr
      exact restart_oneOk hg ho1 him0 hq (hB hren im0 him0) h1 hr

theorem reachable_one_worker {z : DSys} (hz : Reachable true z) (im : Image) (him : z.d.img = some im)
    (c : Nat) (hc : c < z.y.s.n - 1) : diskTotal z.d.lines im c = (im.cstep : Rat) := by
  obtain ⟨hg, ho⟩ := reachable_good hz
  rw [(good_disk_facts hg im him).2.2 c hc, (ho rfl).2 c hc, (hg.d.img im him).cstep]

theorem reachable_of_dRun {one : Bool} : ∀ (evs : List Ev) {z z' : DSys}, Reachable one z → HistOk z.y evs →
    dRun z evs = .ok z' → Reachable one z' := by
  intro evs
  induction evs with
  | nil =>
    intro z z' hz _ h
    simp only [dRun, Except.ok.injEq] at h
    subst h; exact hz
  | cons ev rest ih =>
    intro z z' hz hh h
    unfold dRun at h
    split at h
    · exact absurd h (by simp)
    rename_i z1 h1
    exact ih (Reachable.event hz hh.1 h1) (hh.2 z1.y (dStep_sys h1)) h

/-- **a history from a fresh start on a fresh disk**: the disk state is good, its sampler part is `run`, the counts
    are the idle recordings, and the rows the data file shows are exactly the model's row list -/
theorem dRun_fresh {y0 : Sys} {evs : List Ev} {z : DSys} (h0 : DiskStart y0) (hh : HistOk y0 evs)
    (hr : dRun (freshSys y0) evs = .ok z) :
    Good z ∧ run y0 evs = .ok z.y ∧ (∀ c, z.cnt.getD c 0 = idleSteps y0 evs c) ∧
      lineKeys z.d.lines = z.y.s.rows.map (·.1) := by
  obtain ⟨hg, hrun, hc, hl⟩ := dRun_good_lines evs (freshSys_good h0) hh hr
  refine ⟨hg, hrun, fun c => ?_, ?_⟩
  · have := hc c
    simp only [freshSys, getD_replicate_self, Nat.zero_add] at this
    exact this
  · obtain ⟨ls, hl1, hl2⟩ := hl headerLines ⟨[], by show fmtRows y0.s.n y0.s.rows = _; rw [h0.ri.fi.rows]; rfl, rfl⟩
    rw [hl2, lineKeys_append]
    show (dataRows headerLines).map (·.1) ++ _ = _
    rw [dataRows_header]
    exact (fmtRows_rows _ _ hl1).1

end Infretis.Repex.Data
