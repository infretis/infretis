import Infretis.Lemmas.RepexC03Init
import Infretis.Lemmas.RepexLoad
/-!
# C03 — what `load_paths` leaves behind on a freshly constructed `REPEX_state`; `Init` on a fresh start
-/
namespace Infretis.Repex

theorem loadPaths_specG {n : Nat} {s0 s : St} (hb : Fresh n s0)
    (paths : List (Nat × List Rat × List Rat)) (hn : 2 ≤ n) (hlen : paths.length = n - 1)
    (h : loadPaths s0 paths = .ok s) :
    s.n = n ∧ s.W.length = n ∧ s.trajs.length = n ∧
      s.locks = List.replicate (n - 1) false ++ [true] ∧
      (∀ e pn, e < n - 1 → (paths.map (·.1))[e]? = some pn → s.trajs[e]? = some (some pn)) ∧
      (∀ e, e < n - 1 → entryM s.W e e ≠ 0) := by
  obtain ⟨_, hok, rfl⟩ := loadPaths_ok_iff.mp h
  have hlenT : s0.trajs.length = n := by rw [hb.trajs, List.length_replicate]
  obtain ⟨_, _, hlk⟩ := loadedSt_square (paths := paths) hb.lenW hlenT hb.locks (by omega)
  refine ⟨hb.hn, (length_fillL ..).trans hb.lenW, (length_fillL ..).trans hlenT, hlk, ?_, ?_⟩
  · intro e pn he hpn
    rw [List.getElem?_map] at hpn
    obtain ⟨p, hp, rfl⟩ := Option.map_eq_some_iff.mp hpn
    rw [loadedSt_trajs, hp, List.getElem?_eq_getElem (by rw [hlenT]; omega)]
    rfl
  · intro e he
    obtain ⟨p, hp⟩ : ∃ p, paths[e]? = some p := ⟨_, List.getElem?_eq_getElem (by omega)⟩
    have hW := loadedSt_W s0 paths e
    rw [hp, List.getElem?_eq_getElem (l := s0.W) (by rw [hb.lenW]; omega)] at hW
    simpa [entryM, List.getD_eq_getElem?_getD, hW] using (hok e p hp).diag

/-- **`Init` is what `load_paths` leaves behind**: `n − 1` initial paths with pairwise distinct
    numbers below `trajNum`, loaded into a blank `REPEX_state` of `n ≥ 2` slots without restart
    jobs, give an `Init` state (whatever the weights, workers, engine table). -/
theorem FreshLoad.init {n : Nat} {paths : List (Nat × List Rat × List Rat)} {s : St} (hf : FreshLoad n paths s) :
    Init { s := s, jobs := [] } := by
  obtain ⟨workers, tsteps, cstep, trajNum, seed, occ, ensEng, restarted, hn, hlen, hnd, hlt, h⟩ := hf
  obtain ⟨h1, h2, h3, h4, h5, _⟩ :=
    loadPaths_specG (fresh_blank n workers tsteps cstep trajNum seed occ ensEng restarted []) paths hn hlen h
  have t := loadPaths_touches h
  -- slot `e` holds the `e`-th of the loaded path numbers
  have hget : ∀ e, e < n - 1 → ∃ pn, (paths.map (·.1))[e]? = some pn ∧ s.trajs[e]? = some (some pn) := by
    intro e he
    have hl : e < (paths.map (·.1)).length := by simp; omega
    exact ⟨_, List.getElem?_eq_getElem hl, h5 e _ he (List.getElem?_eq_getElem hl)⟩
  refine ⟨rfl, ?_, ?_, ?_, ?_, ?_, ?_, t.locked0, ?_⟩
  · show 2 ≤ s.n
    rw [h1]; exact hn
  · show s.W.length = s.n
    rw [h1]; exact h2
  · show s.trajs.length = s.n
    rw [h1]; exact h3
  · show s.locks = List.replicate (s.n - 1) false ++ [true]
    rw [h1]; exact h4
  · show ∀ e, e < s.n - 1 → ∃ pn, s.trajs[e]? = some (some pn) ∧ pn < s.trajNum
    rw [h1, t.trajNum]
    intro e he
    obtain ⟨pn, hp, ht⟩ := hget e he
    obtain ⟨p, hpm, rfl⟩ := List.mem_map.mp (List.mem_of_getElem? hp)
    exact ⟨_, ht, hlt p hpm⟩
  · show ∀ a b pn, a < s.n - 1 → b < s.n - 1 → s.trajs[a]? = some (some pn) →
      s.trajs[b]? = some (some pn) → a = b
    rw [h1]
    intro a b pn ha hb h1a h1b
    obtain ⟨pa, hpa, hta⟩ := hget a ha
    obtain ⟨pb, hpb, htb⟩ := hget b hb
    rw [hta] at h1a
    rw [htb] at h1b
    simp only [Option.some.injEq] at h1a h1b
    subst h1a h1b
    exact (List.getElem?_inj (getElem?_lt_of_some hpa) hnd).mp (hpa.trans hpb.symm)
  · show s.toinitiate = (s.workers : Int)
    rw [t.toinitiate, t.workers]; rfl

end Infretis.Repex
