import Infretis.Lemmas.WFSeg
import Infretis.Lemmas.WFCv
/-! `Infretis.WFExt` read through `Infretis.WF`: the trace ends in the scan's state, the range copy is a slice,
    `calc_cv_vector` for a plus path is `WF.cvVector` over wire-fencing flags (`calcCvVector_plus`). -/
namespace Infretis.WFExt
open Infretis.WF

theorem applyBranch_eq_step (l r : Int) (s : Scan) (i : Nat) (a b : Int) :
    applyBranch (branchOf l r s a b) s i = step l r s i a b := by
  -- the same `if` chain on both sides: push `applyBranch` into its arms
  unfold branchOf step
  simp only [apply_ite (fun br => applyBranch br s i)]
  rfl

theorem traceFrom_length (l r : Int) : ∀ (t : List Int) (s : Scan) (i : Nat),
    (traceFrom l r s i t).length = t.length - 1 := by
  intro t
  induction t with
  | nil => intro s i; simp [traceFrom]
  | cons a t ih =>
    intro s i
    cases t with
    | nil => simp [traceFrom]
    | cons b t =>
      simp only [traceFrom, List.length_cons]
      rw [ih]
      simp

theorem traceFrom_last (l r : Int) : ∀ (t : List Int) (s : Scan) (i : Nat),
    (match (traceFrom l r s i t).getLast? with | some (_, s') => s' | none => s) = scanFrom l r s i t := by
  intro t
  induction t with
  | nil => intro s i; simp [traceFrom, scanFrom]
  | cons a t ih =>
    intro s i
    cases t with
    | nil => simp [traceFrom, scanFrom]
    | cons b t =>
      simp only [traceFrom, scanFrom]
      rw [← applyBranch_eq_step, ← ih (applyBranch (branchOf l r s a b) s i) (i + 1)]
      cases h : traceFrom l r (applyBranch (branchOf l r s a b) s i) (i + 1) (b :: t) with
      | nil => simp
      | cons x xs =>
        rw [List.getLast?_cons_cons]
        cases hl : (x :: xs).getLast? with
        | none => simp at hl
        | some y => rfl

theorem rangeCopy_eq_slice (maxlen : Option Nat) (ops : List Int) :
    ∀ (n j : Nat) (acc : List Int), j + n ≤ ops.length →
      (∀ m, maxlen = some m → acc.length + n ≤ m) →
      rangeCopy maxlen ops j n acc = .ok (acc ++ (ops.drop j).take n) := by
  intro n
  induction n with
  | zero => intro j acc _ _; simp [rangeCopy]
  | succ n ih =>
    intro j acc hj hm
    have hlt : j < ops.length := by omega
    simp only [rangeCopy, List.getElem?_eq_getElem hlt]
    have happ : appendMax maxlen acc ops[j] = acc ++ [ops[j]] := by
      unfold appendMax
      cases maxlen with
      | none => rfl
      | some m =>
        have := hm m rfl
        simp only []
        rw [if_pos (by omega)]
    rw [happ, ih (j + 1) (acc ++ [ops[j]]) (by omega)
      (by intro m h; have := hm m h; simp; omega)]
    congr 1
    rw [List.append_assoc]
    congr 1
    rw [List.drop_eq_getElem_cons hlt, List.take_succ_cons]
    rfl

/-- a copy that starts empty, from a path whose own `maxlen` admits its length, refuses no frame -/
theorem rangeCopy_nil (maxlen : Option Nat) (ops : List Int) (hmax : ∀ m, maxlen = some m → ops.length ≤ m)
    (n j : Nat) (hj : j + n ≤ ops.length) :
    rangeCopy maxlen ops j n [] = .ok ((ops.drop j).take n) := by
  rw [rangeCopy_eq_slice maxlen ops n j [] hj (fun m hm => by have := hmax m hm; simp only [List.length_nil]; omega)]
  rfl

theorem list_ends (L : List Int) (h : 2 ≤ L.length) : ∃ p mid q, L = p :: (mid ++ [q]) := by
  cases L with
  | nil => simp at h
  | cons p t =>
    rcases List.eq_nil_or_concat t with ht | ⟨mid, q, ht⟩
    · subst ht; simp at h
    · exact ⟨p, mid, q, by rw [ht]; simp⟩

theorem validSeg_slice (l r : Int) (ops : List Int) (a b c : Nat) (h : ValidSeg l r ops (a, b, c)) :
    b + 1 - a = c + 2 ∧ a + (c + 2) ≤ ops.length ∧
    ∃ p mid q, (ops.drop a).take (c + 2) = p :: (mid ++ [q]) ∧ mid.length = c ∧
      (∀ x ∈ mid, inside l r x = true) ∧ inside l r p = false ∧ inside l r q = false ∧ ¬ (p ≥ r ∧ q ≥ r) := by
  obtain ⟨h1, h2, h3, h4, ⟨p, q, hp, hq, hpi, hqi, hpq⟩, hmid⟩ := h
  simp only at h1 h2 h3 h4 hp hq hmid
  refine ⟨by omega, by omega, ?_⟩
  have hlen : ((ops.drop a).take (c + 2)).length = c + 2 := by
    simp; omega
  obtain ⟨p', mid, q', hL⟩ := list_ends _ (by omega : 2 ≤ ((ops.drop a).take (c + 2)).length)
  have hmidlen : mid.length = c := by
    have := congrArg List.length hL
    simp [hlen] at this
    omega
  have hget : ∀ k, k < c + 2 → ((ops.drop a).take (c + 2))[k]? = ops[a + k]? := by
    intro k hk
    rw [List.getElem?_take_of_lt hk, List.getElem?_drop]
  have hp' : p' = p := by
    have := hget 0 (by omega)
    rw [hL] at this
    simp [hp] at this
    exact this
  have hq' : q' = q := by
    have := hget (c + 1) (by omega)
    rw [hL] at this
    have e : a + (c + 1) = b := by omega
    rw [e, hq] at this
    have h2 : (p' :: (mid ++ [q']))[c + 1]? = some q' := by
      simp [hmidlen]
    rw [h2] at this
    exact Option.some.inj this
  subst hp' hq'
  refine ⟨p', mid, q', hL, hmidlen, ?_, hpi, hqi, hpq⟩
  intro x hx
  obtain ⟨k, hk, hxk⟩ := List.getElem_of_mem hx
  have := hget (k + 1) (by omega)
  rw [hL] at this
  have h2 : (p' :: (mid ++ [q']))[k + 1]? = some x := by
    simp [List.getElem?_append_left hk]
    rw [List.getElem?_eq_getElem hk, hxk]
  rw [h2] at this
  obtain ⟨y, hy, hyi⟩ := hmid (a + (k + 1)) (by omega) (by omega)
  rw [hy] at this
  have : x = y := Option.some.inj this
  rw [this]; exact hyi

/-- **`wirefence_weight_and_pick(…, return_seg=True, ens_set)` hands back the frames `a .. b` of the picked sub-path**, for a
    path whose own `maxlen` admits its length: the copy stays in range because the sub-path is a valid one -/
theorem wfWeightAndPick_some {maxlen : Option Nat} {l r : Int} {ops : List Int} {xi : Rat} {a b c : Nat}
    (hmax : ∀ m, maxlen = some m → ops.length ≤ m) (hp : pick l r ops xi = some (a, b, c)) :
    wfWeightAndPick maxlen l r ops true (some xi) = .ok
      { nFrames := weight l r ops,
        seg := { frames := (ops.drop a).take (b + 1 - a), first := a, maxlen := maxlen, copied := true }, draws := 1 } := by
  obtain ⟨hw, hmem⟩ := pick_mem hp
  obtain ⟨hcnt, hfit, _⟩ := validSeg_slice l r ops a b c (specSegs_valid l r ops _ (scan_arr_eq_specSegs l r ops ▸ hmem))
  have hn : sumLens (scan l r ops).arr ≠ 0 := Nat.ne_of_gt hw
  unfold pick at hp
  simp only [hn, if_false] at hp
  unfold wfWeightAndPick weight
  simp [hn, hp, rangeCopy_nil maxlen ops hmax (b + 1 - a) a (by omega)]

theorem computeWeightM_wf (ops : List Int) (i0 i1 i2 : Int) :
    computeWeightM ops i0 i1 i2 .wf = computeWeight ops i0 i1 i2 true := by
  unfold computeWeightM computeWeight
  cases ops.head? <;> cases ops.getLast? <;> simp

theorem cvLoop_eq (ops : List Int) (i0 c pmax : Int) : ∀ (is : List Int) (ms : List Move),
    cvLoop ops i0 c pmax is ms = cvVectorGo ops i0 c pmax is (ms.map fun m => decide (m = .wf)) := by
  intro is
  induction is with
  | nil => intro ms; simp [cvLoop, cvVectorGo]
  | cons a is ih =>
    intro ms
    cases ms with
    | nil => simp [cvLoop, cvVectorGo]
    | cons m ms =>
      simp only [List.map_cons, cvLoop, cvVectorGo, ih ms]
      by_cases hm : m = .wf
      · simp only [hm, decide_true, if_true, computeWeightM_wf]
        cases computeWeight ops i0 a c true with
        | error e => rfl
        | ok w => cases cvVectorGo ops i0 c pmax is (ms.map fun m => decide (m = .wf)) <;> rfl
      · simp only [hm, decide_false, Bool.false_eq_true, if_false]
        cases cvVectorGo ops i0 c pmax is (ms.map fun m => decide (m = .wf)) <;> rfl

/-- **`calc_cv_vector` for a plus path is `WF.cvVector`** over the flags "this move is wire fencing" of `moves[1:]` -/
theorem calcCvVector_plus (ops : List Int) (a : CvArgs) (hmin : a.minus = false) (hne : a.interfaces ≠ []) :
    calcCvVector ops a =
      cvVector ops a.interfaces ((a.moves.drop 1).map fun m => decide (m = .wf)) a.cap := by
  unfold calcCvVector cvVector
  cases maxOf ops with
  | none => rfl
  | some pmax =>
    obtain ⟨i0, hi0⟩ : ∃ i0, a.interfaces.head? = some i0 := ⟨_, List.head?_eq_some_head hne⟩
    simp only [hmin, Bool.false_eq_true, if_false, hi0, List.getLast?_eq_some_getLast hne, cvLoop_eq]
    cases a.cap with
    | none =>
      simp only [Option.getD]
      cases cvVectorGo ops i0 (a.interfaces.getLast hne) pmax a.interfaces.dropLast _ <;> rfl
    | some cp =>
      simp only [Option.getD]
      cases cvVectorGo ops i0 cp pmax a.interfaces.dropLast _ <;> rfl

/-- a plus vector entry by entry: entry `k` is what the arm for `moves[k+1]` computes on interface `k` -/
theorem calcCvVector_plus_inv {ops : List Int} {a : CvArgs} {ws : List Nat} {i0 ilast : Int}
    (h : calcCvVector ops a = .ok ws) (hmin : a.minus = false)
    (h0 : a.interfaces.head? = some i0) (hl : a.interfaces.getLast? = some ilast) :
    ∃ pmax, maxOf ops = some pmax ∧ ws.length = a.interfaces.length ∧ ws.getLast? = some 0 ∧
      ∀ k (_ : k + 1 < a.interfaces.length) (_ : k < ws.length), ∃ mv, a.moves[k + 1]? = some mv ∧
        (if mv = .wf then computeWeightM ops i0 a.interfaces[k] (a.cap.getD ilast) .wf
         else .ok (if a.interfaces[k] ≤ pmax then 1 else 0)) = .ok ws[k] := by
  rw [calcCvVector_plus ops a hmin (List.ne_nil_of_mem (List.mem_of_mem_head? h0))] at h
  obtain ⟨pmax, i0', ilast', hm, h0', hl', hlen, hlast, hget⟩ := cvVector_get h
  cases h0.symm.trans h0'
  cases hl.symm.trans hl'
  refine ⟨pmax, hm, hlen, hlast, fun k hk hw => ?_⟩
  obtain ⟨f, w, hf, hwk, he⟩ := hget k _ hk (List.getElem?_eq_getElem (by omega))
  rw [List.getElem?_map, Option.map_eq_some_iff, List.getElem?_drop, Nat.add_comm] at hf
  obtain ⟨mv, hmv, rfl⟩ := hf
  rw [List.getElem?_eq_getElem hw, Option.some.injEq] at hwk
  subst hwk
  refine ⟨mv, hmv, ?_⟩
  by_cases hmw : mv = .wf
  · rw [if_pos hmw, computeWeightM_wf]
    simpa [hmw] using he
  · rw [if_neg hmw]
    simpa [hmw] using he

end Infretis.WFExt
