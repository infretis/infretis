import Infretis.Lemmas.GeomFlow
import Infretis.Model.GeomFrames
/-! Frames the library really makes (no arrays / empty arrays), periodic parameters without a box, and a `Path.reverse`
    that raises on its first new frame (`pathReverseL_raises`). -/
namespace Infretis.Geom

theorem periodicFlag_eq (op : OP) : op.periodicFlag = op.periodic := by cases op <;> rfl

theorem nonPeriodic_periodic (op : OP) : op.nonPeriodic.periodic = false := by cases op <;> rfl

theorem nonPeriodic_relative (op : OP) : op.nonPeriodic.relative = op.relative := by cases op <;> rfl

theorem nonPeriodic_velocityDependent (op : OP) : op.nonPeriodic.velocityDependent = op.velocityDependent := by
  cases op <;> rfl

theorem applyBox_none (p sl : Bool) (d : V3) : applyBox p none sl d = .ok ⟨d, false⟩ := by
  unfold applyBox; cases p <;> rfl

theorem value_nobox (var : Variant) (op : OP) (s : Sys) (h : s.box = none) :
    value var op s = value var op.nonPeriodic s := by
  cases op with
  | distance i0 i1 p => simp only [value, OP.nonPeriodic, distanceSq, h, applyBox_none]
  | distancevel i0 i1 p => simp only [value, OP.nonPeriodic, distancevelNum, h, applyBox_none]
  | position i d => rfl
  | velocity i d => rfl
  | dihedral i0 i1 i2 i3 p => simp only [value, OP.nonPeriodic, dihedral, h, applyBox_none]
  | puckering i0 i1 i2 i3 i4 i5 p =>
    simp only [value, OP.nonPeriodic, puckering, h, Option.isSome_none, Bool.and_false, Bool.false_eq_true, if_false]

theorem getAtom_nil (i : Int) : getAtom ([] : List V3) i = .error .index := by
  unfold getAtom
  cases pyIdx ([] : List V3).length i with
  | none => rfl
  | some j => simp

theorem value_empty (var : Variant) (op : OP) (box : Option (List ℚ)) :
    value var op ⟨[], [], box⟩ = .error .index := by
  cases op <;>
    simp [value, distanceSq, distancevelNum, position, velocity, dihedral, puckering, getAtom_nil, bind, Except.bind,
      Except.map]

theorem posAccess_empty (op : OP) (hp : op.periodicFlag = true) : posAccess op [] = .error .index := by
  cases op <;> simp [OP.periodicFlag] at hp <;> simp [posAccess, getAtom_nil, bind, Except.bind]

theorem valueB_empty (var : Variant) (op : OP) (box : BoxVal) : valueB var op [] [] box = .error .index := by
  cases box with
  | none => simp [valueB, value_empty, liftX, Err.toX]
  | flat l => simp [valueB, value_empty, liftX, Err.toX]
  | mat m =>
    unfold valueB
    by_cases hp : op.periodicFlag = true
    · simp [hp, posAccess_empty op hp, Err.toX]
    · simp [hp, value_empty, liftX, Err.toX]

theorem calcFrame_noArrays (var : Variant) (op : OP) (f : LFrame) (h : f.arrays = none) :
    calcFrame var op f = .error .typeError := by
  unfold calcFrame; rw [h]

theorem calcFrame_empty (var : Variant) (op : OP) (f : LFrame) (h : f.arrays = some ([], [])) :
    calcFrame var op f = .error .index := by
  unfold calcFrame; rw [h]; exact valueB_empty var op f.box

theorem recomputeLFrame_noArrays (var : Variant) (op : OP) (f : LFrame) (h : f.arrays = none) :
    recomputeLFrame var op f = .error .typeError := by
  unfold recomputeLFrame; rw [calcFrame_noArrays var op f h]

theorem recomputeLFrame_empty (var : Variant) (op : OP) (f : LFrame) (h : f.arrays = some ([], [])) :
    recomputeLFrame var op f = .error .index := by
  unfold recomputeLFrame; rw [calcFrame_empty var op f h]

theorem recomputeLFrame_ok_arrays (var : Variant) (op : OP) (f g : LFrame) (h : recomputeLFrame var op f = .ok g) :
    f.arrays.isSome = true := by
  cases ha : f.arrays with
  | none => rw [recomputeLFrame_noArrays var op f ha] at h; cases h
  | some x => rfl

/-- the mirrored, flag-toggled, `maxlen`-cut list `Path.reverse` builds before any recomputation -/
def mirroredL (revV : Bool) (maxlen : Option Nat) (frames : List LFrame) : List LFrame :=
  appendAllL maxlen (frames.reverse.map (fun f => if revV then { f with velRev := !f.velRev } else f))

theorem mirroredL_ne_nil (revV : Bool) (maxlen : Option Nat) (frames : List LFrame) (hne : frames ≠ [])
    (hm : maxlen ≠ some 0) : mirroredL revV maxlen frames ≠ [] := by
  unfold mirroredL appendAllL
  cases maxlen with
  | none => simpa using hne
  | some m =>
    have : m ≠ 0 := fun h => hm (h ▸ rfl)
    simp [List.take_eq_nil_iff, this, hne]

theorem mirroredL_arrays (revV : Bool) (maxlen : Option Nat) (frames : List LFrame) (a : Option (List V3 × List V3))
    (h : ∀ f ∈ frames, f.arrays = a) : ∀ g ∈ mirroredL revV maxlen frames, g.arrays = a := by
  intro g hg
  unfold mirroredL appendAllL at hg
  have hg' : g ∈ frames.reverse.map (fun f => if revV then { f with velRev := !f.velRev } else f) := by
    cases maxlen with
    | none => exact hg
    | some m => exact List.mem_of_mem_take hg
  rcases List.mem_map.mp hg' with ⟨f, hf, rfl⟩
  have := h f (List.mem_reverse.mp hf)
  cases revV <;> simpa using this

theorem pathReverseL_raises (var : Variant) (op : OP) (a : Option (List V3 × List V3)) (e : ErrX)
    (he : ∀ g : LFrame, g.arrays = a → recomputeLFrame var op g = .error e)
    (maxlen : Option Nat) (frames : List LFrame) (hne : frames ≠ []) (hm : maxlen ≠ some 0)
    (hall : ∀ f ∈ frames, f.arrays = a) :
    pathReverseL var (some (op, true)) true maxlen frames = .error e := by
  unfold pathReverseL
  simp only [Bool.and_self, if_true]
  exact mapM_all_error _ _ _ (mirroredL_ne_nil true maxlen frames hne hm)
    (fun g hg => he g (mirroredL_arrays true maxlen frames a hall g hg))

end Infretis.Geom
