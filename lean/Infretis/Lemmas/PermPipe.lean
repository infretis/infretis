import Infretis.Lemmas.PermSort
import Infretis.Lemmas.PermReach
import Infretis.Lemmas.PermSpec
/-!
# The glue of `inf_retis` around the per-branch computations (C02)

drop locked → sort → [branches] → un-sort → the two `allclose` asserts → re-insert zeros.
If the branches return the permanent ratios of the *sorted* idle block, the rest of `inf_retis`
(`finishOf`) returns `probMatrix W locks`.
-/
namespace Infretis.Perm

/-- un-sorting the permanent ratios of the sorted block gives those of the idle block -/
theorem unsort_specMat (N : Mat) (idx : List Nat) (hp : idx.Perm (List.range N.length)) :
    (List.range N.length).map (fun i =>
        (specMat (idx.map (fun i => N.getD i []))).getD (idx.idxOf i) [])
      = specMat N := by
  have hlen : idx.length = N.length := by simpa using hp.length_eq
  have hsorted : (idx.map (fun i => N.getD i [])).Perm N := perm_map_getD N idx [] hp
  unfold specMat
  apply List.map_congr_left
  intro i hi
  have hiN : i < N.length := List.mem_range.mp hi
  have himem : i ∈ idx := hp.mem_iff.mpr hi
  have hk : idx.idxOf i < idx.length := List.idxOf_lt_length_of_mem himem
  have hget : idx[idx.idxOf i] = i := List.getElem_idxOf hk
  have hk' : idx.idxOf i < (idx.map (fun i => N.getD i [])).length := by simpa using hk
  have := specMat_getD (idx.map (fun i => N.getD i [])) (idx.idxOf i) hk'
  unfold specMat at this
  rw [this, List.length_map, hlen]
  apply List.map_congr_left
  intro b _
  apply spec_row_perm N _ hsorted _ _ _ hk' hiN
  simp [List.getD_eq_getElem?_getD, List.getElem?_map, List.getElem?_eq_getElem hk, hget]

theorem allOnes_of (xs : List Rat) (h : ∀ x ∈ xs, x = 1) : allOnes xs = true := by
  simp only [allOnes, List.all_eq_true, beq_iff_eq]
  exact h

theorem rowSums_specMat (N : Mat) (hP : permC N ≠ 0) : allOnes ((specMat N).map List.sum) = true := by
  apply allOnes_of
  intro x hx
  simp only [specMat, List.map_map, List.mem_map, List.mem_range, Function.comp] at hx
  obtain ⟨i, hi, rfl⟩ := hx
  exact spec_row_sum _ i hi hP

theorem colSums_specMat (N : Mat) (hP : permC N ≠ 0) :
    allOnes ((List.range N.length).map (fun j => (colOf (specMat N) j).sum)) = true := by
  apply allOnes_of
  intro x hx
  simp only [List.mem_map, List.mem_range] at hx
  obtain ⟨j, hj, rfl⟩ := hx
  rw [colOf_specMat _ j hj]
  exact spec_col_sum _ j hj hP

/-- **Glue.** If `s` holds the rows of the idle block `N` in the order `s.sortIdx` and the branch phase returns
    the permanent ratios of that sorted block, the rest of `inf_retis` — un-sorting, the two `allclose` asserts,
    re-insertion of zeros — returns the embedded specification. -/
theorem finishOf_of_sortedOut (locks : List Bool) (N : Mat) (s : Sorted) (hm : s.m = N.length)
    (hperm : s.sortIdx.Perm (List.range N.length))
    (hs : s.sorted = s.sortIdx.map (fun i => N.getD i []))
    (hne : N ≠ []) (hP : permC N ≠ 0) (hout : sortedOut s = goodAcc s.sorted) :
    finishOf locks s = .ok (embed locks (specMat N)) := by
  have hm0 : s.m ≠ 0 := by
    rw [hm]; exact fun h => hne (List.eq_nil_of_length_eq_zero h)
  unfold finishOf
  simp only [hout, goodAcc, if_neg hm0]
  rw [hs, hm, unsort_specMat N s.sortIdx hperm]
  simp [rowSums_specMat N hP, colSums_specMat N hP]

end Infretis.Perm
