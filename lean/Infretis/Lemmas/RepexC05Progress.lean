import Infretis.Lemmas.RepexC05Sys
/-!
# C05 — progress of the per-ensemble loop of `treat_output`

The step theorems of `Props/C05.lean` are stated for steps that return (`sysStep … = .ok`, `preSort … = .ok`).  This file
proves the part of "it returns" that the property names: **the assertions of `add_traj` (`valid[ens] != 0`) and of
`unlock` hold for every picked ensemble**, for every reachable state, every job in flight and every outcome whose new
weight vectors are non-zero in their own ensemble — the per-ensemble loop of `treat_output` returns.
What stays conditional: the `traj_data` look-ups of "record weights" and `write_to_pathens` (KeyError-freedom; C04's tables).
-/
namespace Infretis.Repex

/-- what the loop needs of one entry `(picked, new weights)` -/
def Ready (status : Status) (s : St) (pw : Picked × List Rat) : Prop :=
  s.locks[(pw.1.ens + 1).toNat]? = some true ∧ (pw.1.ens + 1).toNat < s.trajs.length ∧
  (status = .acc → (padN s.n pw.1.ens pw.2).getD (pw.1.ens + 1).toNat 0 ≠ 0 ∧
      (padN s.n pw.1.ens pw.2).length = s.n) ∧
  (status = .rej → ∃ wOld, s.wts.lookup pw.1.pn = some wOld ∧
      (padN s.n pw.1.ens wOld).getD (pw.1.ens + 1).toNat 0 ≠ 0 ∧ (padN s.n pw.1.ens wOld).length = s.n)

/-- an entry stays ready when `add_traj` fills another slot (from a state `s2` that agrees with `s`
    on what `Ready` reads) -/
theorem Ready.after_addTraj {status : Status} {s s2 s3 : St} {pw : Picked × List Rat} {ens : Int}
    {pn : Nat} {v : List Rat} (h : Ready status s pw) (hadd : addTraj s2 ens pn v = .ok s3)
    (hn : s2.n = s.n) (hT : s2.trajs = s.trajs) (hL : s2.locks = s.locks)
    (hw : status = .rej → s2.wts = s.wts) (hne : (pw.1.ens + 1).toNat ≠ (ens + 1).toNat) :
    Ready status s3 pw := by
  obtain ⟨_, _, rfl⟩ := addTraj_parts hadd
  obtain ⟨h1, h2, h3, h4⟩ := h
  refine ⟨?_, ?_, fun ha => ?_, fun hr => ?_⟩
  · show (s2.locks.set _ false)[_]? = some true
    rw [List.getElem?_set_ne hne.symm, hL]; exact h1
  · show _ < (s2.trajs.set _ _).length
    rw [List.length_set, hT]; exact h2
  · show _ ∧ (padN s2.n _ _).length = s2.n
    rw [hn]; exact h3 ha
  · show ∃ wOld, s2.wts.lookup _ = _ ∧ _ ∧ (padN s2.n _ _).length = s2.n
    rw [hn, hw hr]; exact h4 hr

theorem perEns_returns (status : Status) : ∀ (l : List (Picked × List Rat)) (s : St) (tn : Nat),
    (∀ pw ∈ l, Ready status s pw) → (l.map (fun pw => (pw.1.ens + 1).toNat)).Nodup →
    ∃ r, treatOutput.perEns status s tn l = .ok r := by
  intro l
  induction l with
  | nil => intro s tn _ _; exact ⟨_, rfl⟩
  | cons pw rest ih =>
    intro s tn hall hnd
    obtain ⟨p, w⟩ := pw
    obtain ⟨hl, he, hacc, hrej⟩ := hall (p, w) (List.mem_cons_self ..)
    simp only [List.map_cons, List.nodup_cons] at hnd
    obtain ⟨hnotin, hnd'⟩ := hnd
    -- the path that goes back has weights `add_traj` accepts
    obtain ⟨pn, v, tn1, hput, hx, hlen⟩ : ∃ pn v tn1, PutBack s tn p w status pn v tn1 ∧
        (padN s.n p.ens v).getD (p.ens + 1).toNat 0 ≠ 0 ∧ (padN s.n p.ens v).length = s.n := by
      cases status with
      | acc => exact ⟨_, _, _, .acc, hacc rfl⟩
      | rej =>
        obtain ⟨wOld, hlook, h⟩ := hrej rfl
        exact ⟨_, _, _, .rej hlook, h⟩
    obtain ⟨s3, hadd⟩ : ∃ s3, addTraj (perEnsPre status s tn p w) p.ens pn v = .ok s3 :=
      ⟨_, addTraj_ok_iff.mpr ⟨hl, he, hlen, hx, rfl⟩⟩
    obtain ⟨⟨s4, tn', pns⟩, hr⟩ := ih s3 tn1 (fun pw' hm =>
      (hall pw' (List.mem_cons_of_mem _ hm)).after_addTraj hadd rfl rfl rfl
        (by rintro rfl; exact perEnsPre_rej s tn p w ▸ rfl)
        (fun heq => hnotin (List.mem_map.mpr ⟨pw', hm, heq⟩))) hnd'
    exact ⟨_, perEns_ok_iff.mpr (.cons hput hadd (perEns_ok_iff.mp hr))⟩

theorem perEns_returns_inv {s : St} {H : List (Nat × Nat)} (job : Job) (status : Status) (newW : List (List Rat))
    (hc : CoreR s (heldJob job ++ H) s.trajNum) (hf : Fam s s.trajNum)
    (hge : ∀ p ∈ job.picked, -1 ≤ p.ens)
    (hlen : status = .acc → newW.length = job.picked.length)
    (hvec : status = .acc → ∀ pw ∈ job.picked.zip newW, VecOk s.n pw.1.ens pw.2)
    (hown : status = .acc → ∀ pw ∈ job.picked.zip newW,
      ∃ x, (padN s.n pw.1.ens pw.2)[(pw.1.ens + 1).toNat]? = some x ∧ x ≠ 0) :
    ∃ r, treatOutput.perEns status s s.trajNum (job.picked.zip (Frac.jobWs job status newW)) = .ok r := by
  apply perEns_returns
  · intro pw hm
    have hp : pw.1 ∈ job.picked := (List.of_mem_zip hm).1
    have hmem : (slotOf pw.1, pw.1.pn) ∈ heldJob job ++ H :=
      List.mem_append_left _ (List.mem_map.mpr ⟨pw.1, hp, rfl⟩)
    obtain ⟨hlt, htr, hd⟩ := hc.heldOk _ _ hmem
    have hlock : s.locks[slotOf pw.1]? = some true :=
      (hc.busy _ hlt).mpr (List.mem_map.mpr ⟨_, hmem, rfl⟩)
    refine ⟨hlock, by rw [hc.lenT]; show slotOf pw.1 < s.n; omega, ?_, ?_⟩
    · intro ha
      rw [Frac.jobWs, if_pos ha] at hm
      obtain ⟨x, hx, hx0⟩ := hown ha pw hm
      exact ⟨by rw [List.getD_eq_getElem?_getD, hx]; exact hx0, (hvec ha pw hm).length⟩
    · intro hrj
      obtain ⟨wOld, hlook, hpad⟩ := hf.wts _ _ hlt htr
      have hens : ((slotOf pw.1 : Nat) : Int) - 1 = pw.1.ens := by
        have := hge _ hp
        unfold slotOf; omega
      rw [hens, padValid_eq_padN] at hpad
      exact ⟨wOld, hlook, by rw [hpad]; exact hd, by rw [hpad]; exact (hf.rows _ hlt).length⟩
  · have hnd := hc.nodup
    rw [List.map_append, List.nodup_append] at hnd
    have h1 : (job.picked.zip (Frac.jobWs job status newW)).map (fun pw => (pw.1.ens + 1).toNat)
        = job.picked.map slotOf := map_fst_of_zip slotOf (Frac.jobWs_length hlen)
    rw [h1]
    have h2 : (heldJob job).map Prod.fst = job.picked.map slotOf := by
      unfold heldJob; rw [List.map_map]; rfl
    rw [← h2]
    exact hnd.1

end Infretis.Repex
