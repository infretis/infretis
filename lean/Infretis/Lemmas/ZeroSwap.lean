/-
The engine loop as the zero swaps use it: `Engine.feed` is the `repaired` leg of `Lemmas/Moves.lean`; `Crosses` is its
"outside `[l, r]`" (`feed_crossed`).  Every paste of the zero-swap model (Model/ZeroSwap.lean) is a truncated
concatenation (`appendAll2_eq`).
-/
import Infretis.Lemmas.Moves

namespace Infretis.ZeroSwap
open Infretis.Engine

/-- the frame is outside `[l, r]`: `add_to_path` reports a crossing -/
def Crosses (l r x : Int) : Prop := x < l ∨ x > r

instance (l r x : Int) : Decidable (Crosses l r x) := by unfold Crosses; infer_instance

theorem not_crosses {l r x : Int} : ¬ Crosses l r x ↔ l ≤ x ∧ x ≤ r := by unfold Crosses; omega

theorem feed_crossed {l r : Int} {m : Nat} : ∀ (pre ops : List Int) (k : Nat) (x : Int) (post : List Int),
    (∀ y ∈ pre, ¬ Crosses l r y) → Crosses l r x → ops.length + pre.length + 1 ≤ m →
    feed l r (some m) ops (pre ++ x :: post) k = some (ops ++ pre ++ [x], true, k + pre.length + 1) :=
  fun pre ops k x post hpre hc hlen => (Moves.feed_iff (by simp; omega)).2
    ⟨_, .crossed pre x post (fun y hy => not_crosses.1 (hpre y hy)) hc (by simp; omega) (by simp [Moves.isRep]),
      by simp, by simp [Nat.add_assoc]⟩

theorem appendMax_eq (p : List Frame) (m : Nat) (f : Frame) :
    appendMax p m f = if p.length < m then p ++ [f] else p := by
  unfold appendMax pathAppend
  by_cases h : p.length < m <;> simp [h]

theorem appendAll_eq : ∀ (xs p : List Frame) (m : Nat), p.length ≤ m →
    appendAll p m xs = p ++ xs.take (m - p.length) := by
  intro xs
  induction xs with
  | nil => intro p m _; simp [appendAll]
  | cons x t ih =>
    intro p m h
    have hstep : appendAll p m (x :: t) = appendAll (appendMax p m x) m t := by simp [appendAll]
    rw [hstep, appendMax_eq]
    by_cases hlt : p.length < m
    · simp only [hlt, if_true]
      rw [ih (p ++ [x]) m (by simp; omega)]
      have : m - p.length = (m - (p ++ [x]).length) + 1 := by simp; omega
      rw [this, List.take_succ_cons]
      simp
    · simp only [hlt, if_false]
      rw [ih p m h]
      have : m - p.length = 0 := by omega
      simp [this]

theorem appendAll_nil (xs : List Frame) (m : Nat) : appendAll [] m xs = xs.take m := by
  simpa using appendAll_eq xs [] m (by simp)

/-- the two nested append loops of `paste_paths`: truncation of the concatenation -/
theorem appendAll2_eq (a b : List Frame) (m : Nat) :
    appendAll (appendAll [] m a) m b = (a ++ b).take m := by
  rw [appendAll_nil, appendAll_eq b (a.take m) m (List.length_take_le m a), List.take_append, List.length_take]
  congr 2
  omega

theorem appendMax_appendAll (xs : List Frame) (m : Nat) (x : Frame) :
    appendMax (appendAll [] m xs) m x = (xs ++ [x]).take m := appendAll2_eq xs [x] m

theorem appendAll_appendMax (x : Frame) (m : Nat) (xs : List Frame) :
    appendAll (appendMax [] m x) m xs = (x :: xs).take m := appendAll2_eq [x] xs m

theorem ops_take (p : List Frame) (n : Nat) : ops (p.take n) = (ops p).take n := by
  simp [ops, List.map_take]

theorem ops_length (p : List Frame) : (ops p).length = p.length := by simp [ops]

theorem propagate_zero (l r : Int) (sys : Frame) (rev : Bool) (scr : Script) :
    propagate 0 l r sys rev scr = none := by
  simp [propagate, streamOf, ops, feed, addToPath, pathAppend]

/-- a `propagate` call returns the frames of a leg over the order values of its stream -/
theorem propagate_spec {m : Nat} {l r : Int} {sys : Frame} {rev : Bool} {scr : Script}
    {tmp : List Frame} {s : Bool} (h : propagate m l r sys rev scr = some (tmp, s)) :
    0 < m ∧ tmp = (streamOf sys rev scr).take tmp.length ∧
      Moves.Leg .repaired l r (some m) 0 (ops (streamOf sys rev scr)) (ops tmp) s := by
  have hm : 0 < m := by
    rcases Nat.eq_zero_or_pos m with h0 | h0
    · subst h0; rw [propagate_zero] at h; cases h
    · exact h0
  refine ⟨hm, ?_⟩
  unfold propagate at h
  simp only at h
  cases hf : feed l r (some m) [] (ops (streamOf sys rev scr)) 0 with
  | none => simp [hf] at h
  | some res =>
    obtain ⟨ops', s', k'⟩ := res
    simp only [hf, Option.some.injEq, Prod.mk.injEq] at h
    obtain ⟨rfl, rfl⟩ := h
    obtain ⟨_, hq, rfl, -⟩ := (Moves.feed_iff (by simpa using hm)).1 hf
    -- `tmp` is the same prefix of the frames
    have hle := hq.prefix.length_le
    rw [ops_length] at hle
    have hlen : (List.take ops'.length (streamOf sys rev scr)).length = ops'.length := by
      rw [List.length_take]; omega
    refine ⟨by rw [hlen], ?_⟩
    rwa [ops_take, ← List.prefix_iff_eq_take.1 hq.prefix]

theorem propagate_length_le {m : Nat} {l r : Int} {sys : Frame} {rev : Bool} {scr : Script}
    {tmp : List Frame} {s : Bool} (h : propagate m l r sys rev scr = some (tmp, s)) : tmp.length ≤ m := by
  simpa [ops_length] using (propagate_spec h).2.2.length_le rfl

theorem propagate_head {m : Nat} {l r : Int} {sys : Frame} {rev : Bool} {scr : Script}
    {tmp : List Frame} {s : Bool} (h : propagate m l r sys rev scr = some (tmp, s))
    (h1 : 1 ≤ tmp.length) :
    ∃ t, tmp = { op := sys.op, cfg := startCfg sys rev, vr := rev, vpot := scr.v0 } :: t := by
  obtain ⟨_, htake, _⟩ := propagate_spec h
  cases hn : tmp.length with
  | zero => omega
  | succ k =>
    rw [hn] at htake
    simp only [streamOf, List.take_succ_cons] at htake
    exact ⟨_, htake⟩

theorem streamOf_length (sys : Frame) (rev : Bool) (scr : Script) :
    (streamOf sys rev scr).length = scr.rest.length + 1 := by simp [streamOf]

theorem propagate_crossed {m : Nat} {l r : Int} {sys : Frame} {rev : Bool} {scr : Script}
    {tmp : List Frame} {s : Bool} (h : propagate m l r sys rev scr = some (tmp, s))
    (hlt : tmp.length < m) (hlong : m ≤ scr.rest.length + 1) :
    ∃ tpre tx post, tmp = tpre ++ [tx] ∧ streamOf sys rev scr = tpre ++ tx :: post ∧
      (∀ g ∈ tpre, ¬ Crosses l r g.op) ∧ Crosses l r tx.op := by
  obtain ⟨_, htake, hout⟩ := propagate_spec h
  obtain ⟨pre, x, post, hx, ho, hpre, hc⟩ := hout.of_short rfl (by simpa [ops_length] using hlt)
    (by simpa [ops_length, streamOf_length] using hlong)
  -- the stream splits where its order values do
  obtain ⟨tpre, rest, hst, rfl, hrest⟩ := List.map_eq_append_iff.mp hx
  obtain ⟨tx, tpost, rfl, rfl, _⟩ := List.map_eq_cons_iff.mp hrest
  have hlen' : tmp.length = tpre.length + 1 := by
    have := congrArg List.length ho
    simpa [ops_length, ops] using this
  refine ⟨tpre, tx, tpost, ?_, hst, fun g hg => not_crosses.2 (hpre _ (List.mem_map_of_mem hg)), hc⟩
  rw [htake, hst, hlen']
  simp [List.take_append, List.take_of_length_le]

/-! ### ensemble membership, as the code's checks define it -/

/-- a [0-] path: starts outside (right of λ0 = `i2`, or left of λ₋₁ = `i0` if 'L' is an allowed start),
    the interior is not outside `[i0, i2]`, it ends at or right of λ0; length within the limit -/
def ValidMinus (e0 : Ens) (p : List Frame) : Prop :=
  ∃ f mid l, p = f :: mid ++ [l] ∧ mid ≠ [] ∧ (f.op > e0.i2 ∨ (e0.scL = true ∧ f.op < e0.i0)) ∧
    (∀ g ∈ mid, ¬ Crosses e0.i0 e0.i2 g.op) ∧ l.op ≥ e0.i2 ∧ p.length ≤ e0.maxlen

/-- a [0+] path: starts at or left of λ0 = `i0`, the interior is not outside `[i0, i2]`, the last
    frame is outside; length within the limit -/
def ValidPlus (e1 : Ens) (p : List Frame) : Prop :=
  ∃ f mid l, p = f :: mid ++ [l] ∧ mid ≠ [] ∧ f.op ≤ e1.i0 ∧
    (∀ g ∈ mid, ¬ Crosses e1.i0 e1.i2 g.op) ∧ Crosses e1.i0 e1.i2 l.op ∧ p.length ≤ e1.maxlen

/-- first frame, interior and last frame of a path, computed: what `ValidMinus` and `ValidPlus` quantify over, so that
    both are decided by evaluation on concrete paths -/
def splitEnds : List Frame → Option (Frame × List Frame × Frame)
  | f :: t => t.getLast?.map fun l => (f, t.dropLast, l)
  | [] => none

theorem exists_ends_iff {p : List Frame} {Q : Frame → List Frame → Frame → Prop} :
    (∃ f mid l, p = f :: mid ++ [l] ∧ Q f mid l) ↔ ∃ x ∈ splitEnds p, Q x.1 x.2.1 x.2.2 := by
  constructor
  · rintro ⟨f, mid, l, rfl, hq⟩
    exact ⟨(f, mid, l), by simp [splitEnds], hq⟩
  · rintro ⟨⟨f, mid, l⟩, hx, hq⟩
    refine ⟨f, mid, l, ?_, hq⟩
    cases p with
    | nil => cases hx
    | cons f' t =>
      obtain ⟨l', hl, he⟩ := Option.map_eq_some_iff.1 hx
      cases he
      obtain ⟨ys, rfl⟩ := List.getLast?_eq_some_iff.1 hl
      simp

instance (e0 : Ens) (p : List Frame) : Decidable (ValidMinus e0 p) := decidable_of_iff _ exists_ends_iff.symm
instance (e1 : Ens) (p : List Frame) : Decidable (ValidPlus e1 p) := decidable_of_iff _ exists_ends_iff.symm

theorem second_mem_mid {c d f l : Frame} {post mid : List Frame}
    (h : c :: d :: post = f :: mid ++ [l]) (hne : mid ≠ []) : d ∈ mid := by
  cases mid with
  | nil => exact absurd rfl hne
  | cons m0 mid' =>
    simp at h
    rw [h.2.1]; simp

theorem secondlast_split {a b f l : Frame} {pre mid : List Frame}
    (h : pre ++ [a, b] = f :: mid ++ [l]) : pre ++ [a] = f :: mid ∧ b = l := by
  have h' : (pre ++ [a]) ++ [b] = (f :: mid) ++ [l] := by simpa using h
  have hh := List.append_inj' h' rfl
  exact ⟨hh.1, by simpa using hh.2⟩

theorem secondlast_mem_mid {a b f l : Frame} {pre mid : List Frame}
    (h : pre ++ [a, b] = f :: mid ++ [l]) (hne : mid ≠ []) : a ∈ mid := by
  obtain ⟨h1, _⟩ := secondlast_split h
  obtain ⟨mid', z, rfl⟩ := (List.eq_nil_or_concat mid).resolve_left hne
  have := List.append_inj' (show pre ++ [a] = (f :: mid') ++ [z] by simpa using h1) rfl
  simp [show a = z by simpa using this.2]

theorem lo_eq {e0 : Ens} (hord : e0.i0 ≤ e0.i1 ∧ e0.i0 ≤ e0.i2) : e0.lo = e0.i0 := by
  unfold Ens.lo; omega

/-- a backward piece that stopped at a frame outside `[λ₋₁, λ0]`, reversed and closed by a frame at or right of
    λ0, is a [0-] path (`hL`: what the '0-L' check of the status has established) -/
theorem validMinus_of_backward {e0 : Ens} {m : Nat} {sys d : Frame} {scr : Script} {back : List Frame} {s : Bool}
    (h : propagate m e0.i0 e0.i2 sys true scr = some (back, s)) (hlt : back.length < m)
    (hlong : m ≤ scr.rest.length + 1) (h2 : 2 ≤ back.length) (hd : d.op ≥ e0.i2)
    (hord : e0.i0 ≤ e0.i1 ∧ e0.i0 ≤ e0.i2)
    (hL : e0.scL = false → startIsL e0.lo (back.reverse ++ [d]) = false)
    (hlen : back.length + 1 ≤ e0.maxlen) : ValidMinus e0 (back.reverse ++ [d]) := by
  obtain ⟨tpre, tx, _, rfl, _, hnc, hcx⟩ := propagate_crossed h hlt hlong
  have hne : tpre ≠ [] := by intro e; rw [e] at h2; simp at h2
  refine ⟨tx, tpre.reverse, d, by simp, by simpa using hne, ?_, fun g hg => hnc g (by simpa using hg), hd,
    by simp at hlen ⊢; omega⟩
  rcases hcx with hl | hr
  · right
    refine ⟨?_, hl⟩
    cases hsc : e0.scL with
    | true => rfl
    | false =>
      have := hL hsc
      simp [startIsL, lo_eq hord] at this
      omega
  · exact .inl hr

/-- a forward piece that stopped at a frame outside `[λ0, λN]`, put behind a frame at or left of λ0, is a [0+]
    path; frame 0 of the piece may be replaced by any frame with the order value of the start -/
theorem validPlus_of_forward {e1 : Ens} {m : Nat} {sys a h0 : Frame} {scr : Script} {forw : List Frame} {s : Bool}
    (h : propagate m e1.i0 e1.i2 sys false scr = some (forw, s)) (hlt : forw.length < m)
    (hlong : m ≤ scr.rest.length + 1) (h2 : 2 ≤ forw.length) (ha : a.op ≤ e1.i0) (hh : h0.op = sys.op)
    (hlen : forw.length + 1 ≤ e1.maxlen) : ValidPlus e1 (a :: h0 :: forw.tail) := by
  obtain ⟨fpre, fx, _, rfl, _, hnc, hcx⟩ := propagate_crossed h hlt hlong
  obtain ⟨ft, hft⟩ := propagate_head h (by omega)
  cases fpre with
  | nil => simp at h2
  | cons fh fpre' =>
    have hfh : fh.op = sys.op := by
      simp only [List.cons_append, List.cons.injEq] at hft
      rw [hft.1]
    refine ⟨a, h0 :: fpre', fx, by simp, by simp, ha, ?_, hcx, by simp at hlen ⊢; omega⟩
    intro g hg
    rcases List.mem_cons.mp hg with rfl | hg'
    · rw [hh, ← hfh]; exact hnc fh (by simp)
    · exact hnc g (by simp [hg'])

theorem status0_acc {e0 : Ens} {p : List Frame} (h : status0 e0 p = .ACC) :
    p.length ≠ e0.maxlen ∧ 3 ≤ p.length ∧
      (e0.scL = false → startIsL e0.lo p = false ∧ endIsL e0.lo p = false) := by
  unfold status0 at h
  by_cases h1 : p.length = e0.maxlen
  · simp [h1] at h
  · by_cases h2 : p.length < 3
    · simp [h1, h2] at h
    · by_cases h3 : (!e0.scL && (startIsL e0.lo p || endIsL e0.lo p)) = true
      · simp [h1, h2, h3] at h
      · refine ⟨h1, by omega, ?_⟩
        intro hsc
        simp [hsc] at h3
        exact h3

theorem status1_acc {e1 : Ens} {p : List Frame} (h : status1 e1 p = .ACC) :
    p.length < e1.maxlen ∧ 3 ≤ p.length := by
  unfold status1 at h
  by_cases h1 : p.length ≥ e1.maxlen
  · simp [h1] at h
  · by_cases h2 : p.length < 3
    · simp [h1, h2] at h
    · omega

theorem buildPath0_acc {e0 e1 : Ens} {allowed : Bool} {old1 : List Frame} {bw : Script}
    {path0 : List Frame} {rq : List Req}
    (h : buildPath0 e0 e1 allowed old1 bw = .ok (path0, rq)) (hs : status0 e0 path0 = .ACC) :
    ∃ first1 second1 rest tmp s, old1 = first1 :: second1 :: rest ∧ allowed = true ∧
      propagate (e1.maxlen - 1) e0.i0 e0.i2 first1 true bw = some (tmp, s) ∧
      path0 = tmp.reverse ++ [second1] ∧ 2 ≤ tmp.length ∧ tmp.length + 1 < e0.maxlen ∧
      rq = [propReq 0 (e1.maxlen - 1) e0.i0 e0.i2 first1 true, Req.dump 1 1 second1.cfg true] := by
  obtain ⟨hne, h3, _⟩ := status0_acc hs
  unfold buildPath0 at h
  cases old1 with
  | nil => cases h
  | cons first1 rest1 =>
    simp only at h
    split at h
    · cases h
    · rename_i tmp s hX
      cases rest1 with
      | nil => cases h
      | cons second1 rest =>
        simp only [appendMax_appendAll, Except.ok.injEq, Prod.mk.injEq] at h
        obtain ⟨rfl, rfl⟩ := h
        -- the status is not 'BTX': nothing was cut at the limit
        have hlt : ((tmp.reverse ++ [second1]).take e0.maxlen).length < e0.maxlen := by
          have := List.length_take_le e0.maxlen (tmp.reverse ++ [second1]); omega
        rw [take_of_short _ _ hlt] at h3 ⊢
        rw [List.length_take] at hlt
        simp only [List.length_append, List.length_reverse, List.length_cons, List.length_nil] at h3 hlt
        cases allowed with
        | false =>
          -- without a propagation the piece is the one frame `first1`: too short
          obtain ⟨rfl, _⟩ : appendMax [] (e1.maxlen - 1) first1 = tmp ∧ _ := by simpa using hX
          rw [appendMax_eq] at h3
          split at h3 <;> simp at h3
        | true => exact ⟨first1, second1, rest, tmp, s, rfl, rfl, hX, rfl, by omega, by omega, rfl⟩

theorem buildPath1_acc {e1 : Ens} {allowed : Bool} {old0 : List Frame} {last0 : Frame} {fw : Script}
    {path1 : List Frame} {rq : List Req}
    (h : buildPath1 e1 allowed old0 last0 fw = .ok (path1, rq)) (hs : status1 e1 path1 = .ACC) :
    ∃ pre secondLast last tmp s, old0 = pre ++ [secondLast, last] ∧ allowed = true ∧
      propagate (e1.maxlen - 1) e1.i0 e1.i2 last0 false fw = some (tmp, s) ∧
      path1 = secondLast :: tmp ∧ 2 ≤ tmp.length ∧ tmp.length + 1 < e1.maxlen ∧
      rq = [propReq 1 (e1.maxlen - 1) e1.i0 e1.i2 last0 false, Req.dump 0 0 secondLast.cfg true] := by
  obtain ⟨hlt, h3⟩ := status1_acc hs
  unfold buildPath1 at h
  split at h
  · rename_i hall
    split at h
    · cases h
    · rename_i tmp s hp
      split at h
      · rename_i last secondLast pre' hr
        simp only [appendAll_appendMax, Except.ok.injEq, Prod.mk.injEq] at h
        obtain ⟨rfl, rfl⟩ := h
        rw [take_of_short _ _ hlt] at h3 ⊢
        rw [List.length_take] at hlt
        simp only [List.length_cons] at h3 hlt
        exact ⟨pre'.reverse, secondLast, last, tmp, s, by simpa using congrArg List.reverse hr, hall, hp, rfl,
          by omega, by omega, rfl⟩
      · cases h
  · -- without a propagation the path is the one frame `last0`: too short
    obtain ⟨rfl, _⟩ := Prod.mk.inj (Except.ok.inj h)
    rw [appendMax_eq] at h3
    split at h3 <;> simp at h3

theorem buildPath0_fresh {e0 e1 : Ens} {allowed : Bool} {old1 : List Frame} {bw : Script}
    {p : List Frame} {rq : List Req} (h : buildPath0 e0 e1 allowed old1 bw = .ok (p, rq)) :
    ∀ q ∈ rq, q.fresh = true := by
  unfold buildPath0 at h
  repeat' split at h
  all_goals cases h
  all_goals simp [propReq, Req.fresh]

theorem buildPath1_fresh {e1 : Ens} {allowed : Bool} {old0 : List Frame} {last0 : Frame} {fw : Script}
    {p : List Frame} {rq : List Req} (h : buildPath1 e1 allowed old0 last0 fw = .ok (p, rq)) :
    ∀ q ∈ rq, q.fresh = true := by
  unfold buildPath1 at h
  repeat' split at h
  all_goals cases h
  all_goals simp [propReq, Req.fresh]

theorem cw_ok {p : List Frame} {e : Ens} {w : Nat} (h : cw p e = .ok w) :
    WF.computeWeight (ops p) e.i0 e.i1 e.w2 e.wf = .ok w := by
  unfold cw at h
  split at h
  · cases h
  · split at h
    · rename_i hw
      simp only [Except.ok.injEq] at h
      rw [hw, h]
    · cases h

theorem retis_ok {e0 e1 : Ens} {old0 old1 : List Frame} {bw fw : Script} {xi : Rat} {r : Result}
    (h : retisSwapZero e0 e1 old0 old1 bw fw xi = .ok r) :
    e0.i0 ≤ e0.i2 ∧ ∃ last0, old0.getLast? = some last0 ∧
      ((earlyLeft e0 last0 = true ∧ r = rejected0L old0 old1) ∨
       (earlyLeft e0 last0 = false ∧ ∃ path0 rq0 path1 rq1,
          buildPath0 e0 e1 (allowedOf e0 last0) old1 bw = .ok (path0, rq0) ∧
          buildPath1 e1 (allowedOf e0 last0) old0 last0 fw = .ok (path1, rq1) ∧
          finish e0 e1 old1 path0 path1 (rq0 ++ rq1) xi = .ok r)) := by
  unfold retisSwapZero at h
  split at h
  · cases h
  · rename_i hi
    split at h
    · cases h
    · rename_i last0 hl
      refine ⟨Decidable.not_not.mp hi, last0, hl, ?_⟩
      split at h
      · rename_i he
        exact .inl ⟨he, (Except.ok.inj h).symm⟩
      · rename_i he
        refine .inr ⟨by simpa using he, ?_⟩
        split at h
        · cases h
        · rename_i path0 rq0 h0
          split at h
          · cases h
          · rename_i path1 rq1 h1
            exact ⟨path0, rq0, path1, rq1, h0, h1, h⟩

end Infretis.ZeroSwap
