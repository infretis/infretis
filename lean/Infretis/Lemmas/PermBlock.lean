import Infretis.Lemmas.PermSpec
/-!
# Block-triangular factorisation of the list permanent and of `pSpec` (C02)

`W = top ++ bottom`, the `a` rows of `top` vanish on the columns `a … a+b-1`
(`[[A, 0], [C, D]]`): `permC W = permC A * permC D`, and the permanent ratios of `W` are those
of `A` and `D` on the diagonal blocks and zero elsewhere — this is what justifies `find_blocks`.
-/
namespace Infretis.Perm

theorem getD_drop (y : Row) (a b : Nat) : (y.drop a).getD b 0 = y.getD (a + b) 0 := by
  simp [List.getD_eq_getElem?_getD, List.getElem?_drop]

theorem sumPick_eq_zero {α : Type} (f : α → List α → Rat) (l : List α)
    (h : ∀ x xs, (x :: xs).Perm l → f x xs = 0) : sumPick f l = 0 :=
  (sumPick_congr' f (fun _ _ => 0) l h).trans (sumPick_zero l)

theorem permN_block (a b : Nat) (top bottom : Mat) (hb : bottom.length = b)
    (hz : ∀ r ∈ top, ∀ c, a ≤ c → c < a + b → r.getD c 0 = 0) :
    permN (a + b) (top ++ bottom) = permN a top * permN b (bottom.map (List.drop a)) := by
  induction b generalizing bottom with
  | zero =>
    have : bottom = [] := List.eq_nil_of_length_eq_zero hb
    subst this
    simp [permN]
  | succ b ih =>
    show permN (a + b + 1) (top ++ bottom) = _
    rw [permN, sumPick_append]
    have h1 : sumPick (fun x xs => x.getD (a + b) 0 * permN (a + b) (xs ++ bottom)) top = 0 := by
      apply sumPick_eq_zero
      intro x xs hx
      have hm : x ∈ top := hx.subset (List.mem_cons_self)
      rw [hz x hm (a + b) (by omega) (by omega)]; ring
    have h2 : sumPick (fun y ys => y.getD (a + b) 0 * permN (a + b) (top ++ ys)) bottom
        = sumPick (fun y ys => permN a top * (y.getD (a + b) 0 * permN b (ys.map (List.drop a)))) bottom := by
      apply sumPick_congr'
      intro y ys hy
      have hl : ys.length = b := by
        have := hy.length_eq
        simp only [List.length_cons] at this
        omega
      rw [ih ys hl (fun r hr c h1 h2 => hz r hr c h1 (by omega))]
      ring
    rw [h1, h2, sumPick_mul_left, permN, sumPick_map]
    simp only [getD_drop, zero_add]

/-- more rows than columns they live on: `a+1` rows supported on the first `a` columns -/
theorem permN_narrow_zero (a b : Nat) (top bottom : Mat) (hb : bottom.length = b)
    (hz : ∀ r ∈ top, ∀ c, a ≤ c → c < a + 1 + b → r.getD c 0 = 0) :
    permN (a + 1 + b) (top ++ bottom) = 0 := by
  have h0 : permN (a + 1) top = 0 := by
    rw [permN]
    apply sumPick_eq_zero
    intro x xs hx
    rw [hz x (hx.subset List.mem_cons_self) a (le_refl a) (by omega), zero_mul]
  rw [permN_block (a + 1) b top bottom hb (fun r hr c h1 h2 => hz r hr c (by omega) h2), h0, zero_mul]

theorem permC_block (a b : Nat) (top bottom : Mat) (ht : top.length = a) (hb : bottom.length = b)
    (hz : ∀ r ∈ top, ∀ c, a ≤ c → c < a + b → r.getD c 0 = 0) :
    permC (top ++ bottom) = permC top * permC (bottom.map (List.drop a)) := by
  unfold permC
  rw [List.length_append, List.length_map, ht, hb]
  exact permN_block a b top bottom hb hz

theorem drop_eraseIdx_lt (y : Row) (j a : Nat) (hj : j < a + 1) :
    (y.eraseIdx j).drop a = y.drop (a + 1) := by
  apply List.ext_getElem?
  intro n
  simp only [List.getElem?_drop, List.getElem?_eraseIdx]
  rw [if_neg (by omega)]
  congr 1
  omega

theorem drop_eraseIdx_ge (y : Row) (j a : Nat) :
    (y.eraseIdx (a + j)).drop a = (y.drop a).eraseIdx j := by
  apply List.ext_getElem?
  intro n
  simp only [List.getElem?_drop, List.getElem?_eraseIdx]
  by_cases h : n < j
  · rw [if_pos (by omega), if_pos h]
  · rw [if_neg (by omega), if_neg h]
    congr 1

section blocks
variable (a b : Nat) (top bottom : Mat) (ht : top.length = a) (hb : bottom.length = b)
  (hz : ∀ r ∈ top, ∀ c, a ≤ c → c < a + b → r.getD c 0 = 0)
include ht hb hz

theorem permC_block_ne (hW : permC (top ++ bottom) ≠ 0) :
    permC top ≠ 0 ∧ permC (bottom.map (List.drop a)) ≠ 0 := by
  rw [permC_block a b top bottom ht hb hz] at hW
  exact ⟨left_ne_zero_of_mul hW, right_ne_zero_of_mul hW⟩

theorem pSpec_block_top (hW : permC (top ++ bottom) ≠ 0) (i j : Nat) (hi : i < a) (hj : j < a) :
    pSpec (top ++ bottom) i j = pSpec top i j := by
  obtain ⟨a', rfl⟩ : ∃ a', a = a' + 1 := ⟨a - 1, by omega⟩
  have hne := permC_block_ne (a' + 1) b top bottom ht hb hz hW
  have hi' : i < top.length := by omega
  have hm : permC (minor (top ++ bottom) i j)
      = permC (minor top i j) * permC (bottom.map (List.drop (a' + 1))) := by
    rw [minor_eq, List.eraseIdx_append_of_lt_length hi', dropCol_append]
    have hl : (dropCol j (top.eraseIdx i)).length = a' := by
      simp [dropCol, List.length_eraseIdx, ht, hi]
    have hl2 : (dropCol j bottom).length = b := by simp [dropCol, hb]
    rw [permC_block a' b _ _ hl hl2, minor_eq]
    · congr 2
      simp only [dropCol, List.map_map]
      apply List.map_congr_left
      intro y _
      exact drop_eraseIdx_lt y j a' hj
    · intro r hr c h1 h2
      simp only [dropCol, List.mem_map] at hr
      obtain ⟨r0, hr0, rfl⟩ := hr
      rw [getD_eraseIdx, if_neg (by omega)]
      exact hz r0 (List.mem_of_mem_eraseIdx hr0) (c + 1) (by omega) (by omega)
  have he : entry (top ++ bottom) i j = entry top i j := by
    simp [entry, List.getD_eq_getElem?_getD, List.getElem?_append_left hi']
  unfold pSpec
  rw [hm, he, permC_block (a' + 1) b top bottom ht hb hz]
  have := hne.2
  field_simp

theorem pSpec_block_bottom (hW : permC (top ++ bottom) ≠ 0) (i j : Nat) (hi : i < b) :
    pSpec (top ++ bottom) (a + i) (a + j) = pSpec (bottom.map (List.drop a)) i j := by
  obtain ⟨b', rfl⟩ : ∃ b', b = b' + 1 := ⟨b - 1, by omega⟩
  have hne := permC_block_ne a (b' + 1) top bottom ht hb hz hW
  have hm : permC (minor (top ++ bottom) (a + i) (a + j))
      = permC top * permC (minor (bottom.map (List.drop a)) i j) := by
    rw [minor_eq, List.eraseIdx_append_of_length_le (by omega), dropCol_append]
    have hl : (dropCol (a + j) top).length = a := by simp [dropCol, ht]
    have hl2 : (dropCol (a + j) (bottom.eraseIdx (a + i - top.length))).length = b' := by
      simp [dropCol, List.length_eraseIdx, ht, hb, hi]
    rw [permC_block a b' _ _ hl hl2]
    · congr 1
      · unfold permC
        rw [hl, ht]
        apply permN_map_congr
        intro r c hc
        rw [getD_eraseIdx, if_pos (by omega)]
      · rw [minor_eq]
        simp only [dropCol, List.map_map, ht, Nat.add_sub_cancel_left, ← List.eraseIdx_map]
        congr 1
        simp only [List.eraseIdx_map]
        apply List.map_congr_left
        intro y _
        exact drop_eraseIdx_ge y j a
    · intro r hr c h1 h2
      simp only [dropCol, List.mem_map] at hr
      obtain ⟨r0, hr0, rfl⟩ := hr
      rw [getD_eraseIdx]
      split
      · exact hz r0 hr0 c h1 (by omega)
      · exact hz r0 hr0 (c + 1) (by omega) (by omega)
  have he : entry (top ++ bottom) (a + i) (a + j) = entry (bottom.map (List.drop a)) i j := by
    simp only [entry, List.getD_eq_getElem?_getD]
    rw [List.getElem?_append_right (by omega), ht, Nat.add_sub_cancel_left, List.getElem?_map]
    cases bottom[i]? with
    | none => simp
    | some y => simp [List.getElem?_drop]
  unfold pSpec
  rw [hm, he, permC_block a (b' + 1) top bottom ht hb hz]
  have := hne.1
  field_simp

omit hb in
theorem pSpec_block_upper (i j : Nat) (hi : i < a) (hj1 : a ≤ j) (hj2 : j < a + b) :
    pSpec (top ++ bottom) i j = 0 := by
  apply spec_zero_of_zero
  have hi' : i < top.length := by omega
  simp only [entry, List.getD_eq_getElem?_getD, List.getElem?_append_left hi']
  rw [List.getElem?_eq_getElem hi']
  simp only [Option.getD_some]
  have := hz top[i] (List.getElem_mem hi') j hj1 hj2
  simpa [List.getD_eq_getElem?_getD] using this

/-- lower-left block: positive weight but no perfect matching uses it -/
theorem pSpec_block_lower (i j : Nat) (hi : i < b) (hj : j < a) :
    pSpec (top ++ bottom) (a + i) j = 0 := by
  obtain ⟨a', rfl⟩ : ∃ a', a = a' + 1 := ⟨a - 1, by omega⟩
  obtain ⟨b', rfl⟩ : ∃ b', b = b' + 1 := ⟨b - 1, by omega⟩
  have hm : permC (minor (top ++ bottom) (a' + 1 + i) j) = 0 := by
    rw [minor_eq, List.eraseIdx_append_of_length_le (by omega), dropCol_append]
    have hl2 : (dropCol j (bottom.eraseIdx (a' + 1 + i - top.length))).length = b' := by
      simp [dropCol, List.length_eraseIdx, ht, hb, hi]
    unfold permC
    have hlen : (dropCol j top ++ dropCol j (bottom.eraseIdx (a' + 1 + i - top.length))).length
        = a' + 1 + b' := by
      rw [List.length_append, hl2]; simp [dropCol, ht]
    rw [hlen]
    apply permN_narrow_zero a' b' _ _ hl2
    intro r hr c h1 h2
    simp only [dropCol, List.mem_map] at hr
    obtain ⟨r0, hr0, rfl⟩ := hr
    rw [getD_eraseIdx, if_neg (by omega)]
    exact hz r0 hr0 (c + 1) (by omega) (by omega)
  unfold pSpec
  rw [hm]; simp

end blocks

theorem pSpec_split (W : Mat) (a : Nat) (ha : a ≤ W.length)
    (hz : ∀ r ∈ W.take a, ∀ c, a ≤ c → c < W.length → r.getD c 0 = 0) (hW : permC W ≠ 0) :
    permC ((W.drop a).map (List.drop a)) ≠ 0 ∧
    (∀ i j, i < a → j < a → pSpec W i j = pSpec (W.take a) i j) ∧
    (∀ i j, i < W.length - a → pSpec W (a + i) (a + j) = pSpec ((W.drop a).map (List.drop a)) i j) ∧
    (∀ i j, i < a → a ≤ j → j < W.length → pSpec W i j = 0) ∧
    (∀ i j, i < W.length - a → j < a → pSpec W (a + i) j = 0) := by
  have ht : (W.take a).length = a := by simp [ha]
  have hb : (W.drop a).length = W.length - a := by simp
  have hz' : ∀ r ∈ W.take a, ∀ c, a ≤ c → c < a + (W.length - a) → r.getD c 0 = 0 :=
    fun r hr c h1 h2 => hz r hr c h1 (by omega)
  have e := List.take_append_drop a W
  have hW' : permC (W.take a ++ W.drop a) ≠ 0 := by rwa [e]
  have h1 := pSpec_block_top a _ _ _ ht hb hz' hW'
  have h2 := pSpec_block_bottom a _ _ _ ht hb hz' hW'
  have h3 := pSpec_block_upper a (W.length - a) _ (W.drop a) ht hz'
  have h4 := pSpec_block_lower a _ _ _ ht hb hz'
  rw [e] at h1 h2 h3 h4
  exact ⟨(permC_block_ne a _ _ _ ht hb hz' hW').2, h1, h2,
    fun i j hi hj1 hj2 => h3 i j hi hj1 (by omega), h4⟩

end Infretis.Perm
