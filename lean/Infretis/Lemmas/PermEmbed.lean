import Infretis.Lemmas.PermSpec
/-!
# Dropping and re-inserting the busy slots; `probMatrix` entry by entry (C02)

`keep` and `reinsert` are each described by one equation on `getElem?` at the `rank` of an idle slot; `idle` and
`probMatrix` are then known entry by entry (`entry_idle`, `entry_probMatrix`), for every pair of indices, also
outside the matrix.  Everything the other packages use of `probMatrix` follows from `entry_probMatrix`.
-/
namespace Infretis.Perm

/-- position of slot `i` inside the idle block: number of idle slots before it -/
def rank (locks : List Bool) (i : Nat) : Nat := ((locks.take i).filter (fun b => !b)).length

def nIdle (locks : List Bool) : Nat := (locks.filter (fun b => !b)).length

theorem rank_zero (locks : List Bool) : rank locks 0 = 0 := by simp [rank]

theorem rank_cons_succ (l : Bool) (ls : List Bool) (i : Nat) :
    rank (l :: ls) (i + 1) = (if l then 0 else 1) + rank ls i := by
  cases l <;> simp [rank, Nat.add_comm]

theorem nIdle_cons (l : Bool) (ls : List Bool) :
    nIdle (l :: ls) = (if l then 0 else 1) + nIdle ls := by
  cases l <;> simp [nIdle, Nat.add_comm]

theorem keep_length {α : Type} (locks : List Bool) (xs : List α) (h : xs.length = locks.length) :
    (keep locks xs).length = nIdle locks := by
  induction locks generalizing xs with
  | nil => cases xs <;> simp [keep, nIdle]
  | cons l ls ih =>
    cases xs with
    | nil => simp at h
    | cons x xs =>
      simp only [List.length_cons, Nat.add_right_cancel_iff] at h
      cases l <;> simp [keep, nIdle, ih xs h]

theorem keep_nil {α : Type} (locks : List Bool) : keep locks ([] : List α) = [] := by
  cases locks <;> rfl

theorem keep_getElem?_rank {α : Type} (locks : List Bool) (xs : List α) (i : Nat)
    (h : locks[i]? = some false) : (keep locks xs)[rank locks i]? = xs[i]? := by
  induction locks generalizing xs i with
  | nil => simp at h
  | cons l ls ih =>
    cases xs with
    | nil => rw [keep_nil]; rfl
    | cons y ys =>
      cases i with
      | zero =>
        rw [List.getElem?_cons_zero, Option.some.injEq] at h
        subst h
        rfl
      | succ i =>
        rw [List.getElem?_cons_succ] at h
        rw [rank_cons_succ]
        cases l with
        | true => simpa [keep] using ih ys i h
        | false => simpa [keep, Nat.add_comm 1] using ih ys i h

theorem keep_getD_rank {α : Type} (d : α) (locks : List Bool) (xs : List α) (i : Nat)
    (h : locks[i]? = some false) : (keep locks xs).getD (rank locks i) d = xs.getD i d := by
  rw [List.getD_eq_getElem?_getD, keep_getElem?_rank locks xs i h, List.getD_eq_getElem?_getD]

theorem mem_keep {α : Type} (locks : List Bool) (xs : List α) (x : α) (h : x ∈ keep locks xs) :
    ∃ i : Nat, locks[i]? = some false ∧ xs[i]? = some x := by
  induction locks generalizing xs with
  | nil => simp [keep] at h
  | cons l ls ih =>
    cases xs with
    | nil => simp [keep] at h
    | cons y ys =>
      cases l with
      | true =>
        simp only [keep, if_true] at h
        obtain ⟨i, h1, h2⟩ := ih ys h
        exact ⟨i + 1, by simpa using h1, by simpa using h2⟩
      | false =>
        simp only [keep, Bool.false_eq_true, if_false, List.mem_cons] at h
        rcases h with h | h
        · exact ⟨0, by simp, by simp [h]⟩
        · obtain ⟨i, h1, h2⟩ := ih ys h
          exact ⟨i + 1, by simpa using h1, by simpa using h2⟩

/-- `np.insert` slot by slot: a busy slot holds `z`, an idle slot the entry of its rank, and there is nothing
    beyond the last slot -/
theorem reinsert_getElem? {α : Type} (z : α) (locks : List Bool) (xs : List α)
    (hlen : xs.length = nIdle locks) (i : Nat) :
    (reinsert z locks xs)[i]? = (locks[i]?).bind (fun l => if l then some z else xs[rank locks i]?) := by
  induction locks generalizing xs i with
  | nil =>
    have : xs = [] := List.eq_nil_of_length_eq_zero (by simpa [nIdle] using hlen)
    subst this; simp [reinsert]
  | cons l ls ih =>
    cases l with
    | true =>
      have hl : xs.length = nIdle ls := by simpa [nIdle] using hlen
      cases i with
      | zero => simp [reinsert]
      | succ i => simpa [reinsert, rank] using ih xs hl i
    | false =>
      cases xs with
      | nil => simp [nIdle] at hlen
      | cons x xs =>
        have hl : xs.length = nIdle ls := by simpa [nIdle] using hlen
        cases i with
        | zero => simp [reinsert, rank]
        | succ i => simpa [reinsert, rank] using ih xs hl i

theorem rank_lt (locks : List Bool) (i : Nat) (h : locks[i]? = some false) :
    rank locks i < nIdle locks := by
  induction locks generalizing i with
  | nil => simp at h
  | cons l ls ih =>
    cases i with
    | zero =>
      simp only [List.getElem?_cons_zero, Option.some.injEq] at h
      subst h; simp [rank, nIdle]
    | succ i =>
      simp only [List.getElem?_cons_succ] at h
      have := ih i h
      cases l <;> simp [rank, nIdle] at this ⊢ <;> omega

theorem rank_succ (locks : List Bool) (i : Nat) :
    rank locks (i + 1) = rank locks i + (if locks[i]? = some false then 1 else 0) := by
  unfold rank
  rw [List.take_add_one, List.filter_append, List.length_append]
  cases h : locks[i]? with
  | none => simp
  | some b => cases b <;> simp

theorem rank_succ_le (locks : List Bool) (i : Nat) :
    rank locks i ≤ rank locks (i + 1) ∧ rank locks (i + 1) ≤ rank locks i + 1 := by
  rw [rank_succ]; split <;> omega

theorem rank_mono (locks : List Bool) {i j : Nat} (h : i ≤ j) : rank locks i ≤ rank locks j :=
  ((List.take_sublist_take_left h).filter _).length_le

theorem rank_le_nIdle (locks : List Bool) (i : Nat) : rank locks i ≤ nIdle locks :=
  ((List.take_sublist i locks).filter _).length_le

theorem rank_succ_of_idle (locks : List Bool) (i : Nat) (h : locks[i]? = some false) :
    rank locks (i + 1) = rank locks i + 1 := by
  rw [rank_succ, if_pos h]

theorem rank_lt_of_idle_lt (locks : List Bool) {i j : Nat} (hi : locks[i]? = some false)
    (h : i < j) : rank locks i < rank locks j := by
  have h1 := rank_succ_of_idle locks i hi
  have h2 := rank_mono locks (i := i + 1) (j := j) h
  omega

theorem exists_idle_of_lt_nIdle (locks : List Bool) (i : Nat) (h : i < nIdle locks) :
    ∃ j, locks[j]? = some false ∧ rank locks j = i := by
  induction locks generalizing i with
  | nil => simp [nIdle] at h
  | cons l ls ih =>
    cases l with
    | true =>
      have h' : i < nIdle ls := by simpa [nIdle] using h
      obtain ⟨j, hj, hr⟩ := ih i h'
      exact ⟨j + 1, by simpa using hj, by rw [rank_cons_succ]; simpa using hr⟩
    | false =>
      cases i with
      | zero => exact ⟨0, by simp, rank_zero _⟩
      | succ i =>
        have h' : i < nIdle ls := by
          have := h; rw [nIdle_cons] at this; simp at this; omega
        obtain ⟨j, hj, hr⟩ := ih i h'
        refine ⟨j + 1, by simpa using hj, ?_⟩
        rw [rank_cons_succ]; simp; omega

theorem reinsert_length {α : Type} (z : α) (locks : List Bool) (xs : List α)
    (hlen : xs.length = nIdle locks) : (reinsert z locks xs).length = locks.length := by
  apply Nat.le_antisymm
  · apply List.getElem?_eq_none_iff.mp
    simp [reinsert_getElem? z locks xs hlen]
  · apply Nat.le_of_not_lt
    intro h
    -- slot `(reinsert …).length` would exist in `locks` but hold nothing
    have hn := reinsert_getElem? z locks xs hlen (reinsert z locks xs).length
    rw [List.getElem?_eq_none (Nat.le_refl _), List.getElem?_eq_getElem h] at hn
    cases hl : locks[(reinsert z locks xs).length] with
    | true => simp [hl] at hn
    | false =>
      have := rank_lt locks _ ((List.getElem?_eq_getElem h).trans (congrArg some hl))
      simp [hl] at hn
      omega

theorem idle_length (W : Mat) (locks : List Bool) (h : W.length = locks.length) :
    (idle W locks).length = nIdle locks := by
  simp [idle, keep_length locks W h]

theorem idle_getD_rank (W : Mat) (locks : List Bool) (s : Nat) (hs : locks[s]? = some false) :
    (idle W locks).getD (rank locks s) [] = keep locks (W.getD s []) := by
  simp only [idle, List.getD_eq_getElem?_getD, List.getElem?_map, keep_getElem?_rank locks W s hs]
  cases W[s]? <;> simp [keep_nil]

theorem entry_idle (W : Mat) (locks : List Bool) (t e : Nat)
    (ht : locks[t]? = some false) (he : locks[e]? = some false) :
    entry (idle W locks) (rank locks t) (rank locks e) = entry W t e := by
  unfold entry
  rw [idle_getD_rank W locks t ht, keep_getD_rank 0 locks _ e he]

theorem specMat_idle_row_length (W : Mat) (locks : List Bool) (hW : W.length = locks.length)
    (r : Row) (hr : r ∈ specMat (idle W locks)) : r.length = nIdle locks := by
  rw [specMat_row_length _ r hr, idle_length W locks hW]

theorem entry_embed (locks : List Bool) (P : Mat) (hP : P.length = nIdle locks)
    (hrow : ∀ r ∈ P, r.length = nIdle locks) (i j : Nat) :
    entry (embed locks P) i j
      = if locks[i]? = some false ∧ locks[j]? = some false then entry P (rank locks i) (rank locks j)
        else 0 := by
  unfold embed entry
  simp only [List.getD_eq_getElem?_getD]
  rw [reinsert_getElem? _ locks _ (by simpa using hP)]
  cases hi : locks[i]? with
  | none => simp
  | some bi =>
    cases bi with
    | true => simp [List.getElem?_replicate]; split <;> rfl
    | false =>
      simp only [Option.bind_some, Bool.false_eq_true, if_false, List.getElem?_map, true_and]
      cases hr : P[rank locks i]? with
      | none => simp
      | some r =>
        simp only [Option.map_some, Option.getD_some]
        rw [reinsert_getElem? _ locks r (hrow r (List.mem_of_getElem? hr))]
        cases hj : locks[j]? with
        | none => simp
        | some bj => cases bj <;> simp

theorem specMat_rows (W : Mat) (locks : List Bool) (hW : W.length = locks.length) :
    (specMat (idle W locks)).length = nIdle locks ∧ ∀ r ∈ specMat (idle W locks), r.length = nIdle locks :=
  ⟨by rw [specMat_length, idle_length W locks hW], specMat_idle_row_length W locks hW⟩

/-- **`probMatrix` entry by entry**, for every pair of indices: the permanent ratio of the idle block at the ranks
    of two idle slots, zero everywhere else (busy row, busy column, outside the matrix) -/
theorem entry_probMatrix (W : Mat) (locks : List Bool) (hW : W.length = locks.length) (i j : Nat) :
    entry (probMatrix W locks) i j
      = if locks[i]? = some false ∧ locks[j]? = some false
        then pSpec (idle W locks) (rank locks i) (rank locks j) else 0 := by
  have hl := idle_length W locks hW
  unfold probMatrix
  rw [entry_embed locks _ (specMat_rows W locks hW).1 (specMat_rows W locks hW).2]
  split
  · next h =>
    simp [entry, specMat, List.getD_eq_getElem?_getD, List.getElem?_range (hl ▸ rank_lt locks i h.1),
      List.getElem?_range (hl ▸ rank_lt locks j h.2)]
  · rfl

theorem probMatrix_idle (W : Mat) (locks : List Bool) (hW : W.length = locks.length) (i j : Nat)
    (hi : locks[i]? = some false) (hj : locks[j]? = some false) :
    entry (probMatrix W locks) i j = pSpec (idle W locks) (rank locks i) (rank locks j) := by
  rw [entry_probMatrix W locks hW, if_pos ⟨hi, hj⟩]

theorem probMatrix_zero_of_not_idle (W : Mat) (locks : List Bool) (hW : W.length = locks.length)
    (i c : Nat) (h : locks[i]? ≠ some false ∨ locks[c]? ≠ some false) :
    entry (probMatrix W locks) i c = 0 := by
  rw [entry_probMatrix W locks hW, if_neg]
  rintro ⟨h1, h2⟩
  rcases h with h | h
  · exact h h1
  · exact h h2

theorem probMatrix_zero_of_weight_zero (W : Mat) (locks : List Bool) (hW : W.length = locks.length)
    (i c : Nat) (h : entry W i c = 0) : entry (probMatrix W locks) i c = 0 := by
  rw [entry_probMatrix W locks hW]
  split
  · next hi => exact spec_zero_of_zero _ _ _ (by rw [entry_idle W locks i c hi.1 hi.2]; exact h)
  · rfl

theorem probMatrix_ne_zero (W : Mat) (locks : List Bool) (hW : W.length = locks.length)
    (t e : Nat) (hne : entry (probMatrix W locks) t e ≠ 0) :
    locks[t]? = some false ∧ locks[e]? = some false ∧ entry W t e ≠ 0 := by
  have hi : locks[t]? = some false ∧ locks[e]? = some false := by
    by_contra h
    exact hne (by rw [entry_probMatrix W locks hW, if_neg h])
  exact ⟨hi.1, hi.2, fun h0 => hne (probMatrix_zero_of_weight_zero W locks hW t e h0)⟩

theorem probMatrix_length (W : Mat) (locks : List Bool) (hW : W.length = locks.length) :
    (probMatrix W locks).length = locks.length := by
  unfold probMatrix embed
  apply reinsert_length
  simp [specMat, idle_length W locks hW]

theorem mem_reinsert {α : Type} (z : α) (locks : List Bool) (xs : List α) (r : α)
    (h : r ∈ reinsert z locks xs) : r = z ∨ r ∈ xs := by
  induction locks generalizing xs with
  | nil => exact Or.inr (by simpa [reinsert] using h)
  | cons l ls ih =>
    cases l with
    | true =>
      simp only [reinsert, List.mem_cons] at h
      rcases h with h | h
      · exact Or.inl h
      · exact ih xs h
    | false =>
      cases xs with
      | nil => simp only [reinsert] at h; exact ih [] h
      | cons x xs =>
        simp only [reinsert, List.mem_cons] at h
        rcases h with h | h
        · exact Or.inr (by simp [h])
        · rcases ih xs h with h' | h'
          · exact Or.inl h'
          · exact Or.inr (by simp [h'])

theorem probMatrix_row_length (W : Mat) (locks : List Bool) (hW : W.length = locks.length)
    (r : Row) (hr : r ∈ probMatrix W locks) : r.length = locks.length := by
  unfold probMatrix embed at hr
  rcases mem_reinsert _ _ _ _ hr with h | h
  · subst h; simp
  · simp only [List.mem_map] at h
    obtain ⟨r0, hr0, rfl⟩ := h
    exact reinsert_length 0 locks r0 (specMat_idle_row_length W locks hW r0 hr0)

end Infretis.Perm
