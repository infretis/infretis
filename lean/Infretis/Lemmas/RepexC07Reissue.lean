import Infretis.Lemmas.RepexC07Issue
import Infretis.Lemmas.RepexC03RLocked
import Infretis.Lemmas.RepexReissue
/-!
# C07 — the re-issue phase after a restart

After a restart the recorded in-flight jobs wait in `locked0` (with their ordinals in `locked0Ord`).
The scheduler's initiation loop first re-issues them, one `pick_lock()` each.  `reissue_phase` says what that
phase does from any state, in closed form (the single calls are `prep_reissue_parts`, RepexReissue), C07's
invariants not being needed; `recsOf`, `pkFull_of_streams`: the record of the jobs in flight and a job's streams
read off it.
-/
namespace Infretis.Repex

/-- **the re-issue phase** (any state): as many `.start` events as records wait with their ordinals.  The calls of
    the re-issue loop add up to one call on all recorded pairs; every job handed out is the recorded one with the
    streams of the recorded ordinal and goes back on record under it; nothing is drawn, the spawn counter stays;
    besides the slots only the two records, the engine table, the worker and the initiation counter change. -/
theorem reissue_phase : ∀ (recs : List ((List Nat × List Nat) × Nat)) (starts : List (PickOutcome × Nat)) {y y' : Sys}
    {rest : List (List Nat × List Nat)} {ordRest : List (Option Nat)},
    starts.length = recs.length → y.s.locked0 = recs.map (·.1) ++ rest →
    y.s.locked0Ord = recs.map (fun r => some r.2) ++ ordRest →
    run y (starts.map fun x => Ev.start x.1 x.2) = .ok y' →
    ∃ jobs s1 pairs occ' cw, y'.jobs = y.jobs ++ jobs ∧
      jobs.map (fun j => (j.picked.map pkFull, j.pnumOld)) =
        recs.map (fun r => (recJobFull y.s.entropy r.2 r.1, (recPairs r.1).map (·.2))) ∧
      Reissue y.s (recs.flatMap fun r => recPairs r.1) s1 pairs ∧
      y'.s = { y.s with W := s1.W, trajs := s1.trajs, locks := s1.locks,
                        locked := y.s.locked ++ recs.map (fun r => recEntry r.1),
                        lockedOrd := y.s.lockedOrd ++ recs.map (·.2), locked0 := rest, locked0Ord := ordRest,
                        occ := occ', cworker := cw, toinitiate := y.s.toinitiate - (recs.length : Int) } ∧
      ghost y (starts.map fun x => Ev.start x.1 x.2) =
        (recs.zip jobs).map fun rj => { ord := rj.1.2, fresh := false, job := rj.2, draws := [] } := by
  intro recs
  induction recs with
  | nil =>
    intro starts y y' rest ordRest hl h0 h0o hrun
    obtain rfl : starts = [] := List.eq_nil_of_length_eq_zero hl
    cases hrun
    refine ⟨[], y.s, [], y.s.occ, y.s.cworker, by simp, rfl, .nil, ?_, rfl⟩
    simp only [List.map_nil, List.nil_append] at h0 h0o
    simp [← h0, ← h0o]
  | cons r recs ih =>
    intro starts y y' rest ordRest hl h0 h0o hrun
    obtain ⟨⟨es, ts⟩, ord⟩ := r
    cases starts with
    | nil => cases hl
    | cons st starts =>
      obtain ⟨y1, oj, hj, hrun1⟩ := run_cons hrun
      cases sysStepJ_ok_iff.mp hj with | @start _ _ _ jd hgo hs =>
      obtain ⟨job, ds⟩ := jd
      obtain ⟨hprep, hjobs⟩ := hs.ok
      obtain ⟨_, hpos, _, hI⟩ := initiate_go hgo
      rw [Sys.initiated, hI] at hprep
      obtain ⟨sA, pA, occA, hRA, hsA, hjk, hpn, rfl⟩ := prep_reissue_parts hprep (by show 0 ≤ y.s.toinitiate - 1; omega)
        (by simpa using h0) (by simpa using h0o)
      obtain ⟨jobs, sB, pB, occ', cw, k1, k2, kR, kS, kG⟩ := ih starts (Nat.succ.inj hl)
        (by rw [hsA]) (by rw [hsA]) hrun1
      have hRB := kR.congr (t := { y.s with W := sA.W, trajs := sA.trajs, locks := sA.locks }) (by rw [hsA])
        (by rw [hsA]) (by rw [hsA])
      have hen : y1.s.entropy = y.s.entropy := by rw [hsA]
      have hR : Reissue y.s (recPairs (es, ts) ++ recs.flatMap fun r => recPairs r.1) _ _ :=
        (hRA.congr (t := y.s) rfl rfl rfl).append hRB
      refine ⟨job :: jobs, _, _, occ', cw, by rw [k1, hjobs, List.append_assoc]; rfl, ?_, hR, ?_, ?_⟩
      · rw [List.map_cons, List.map_cons, k2, hen, hjk, hpn]
      · rw [kS, hsA]
        simp only [List.map_cons, List.append_assoc, List.singleton_append, List.length_cons, Nat.cast_add,
          Nat.cast_one, Int.sub_sub]
        rw [Int.add_comm 1]
      · have htag : tagOf y.s y1.s = (ord, false) := by
          unfold tagOf
          rw [hsA]
          simp
        simp only [List.map_cons, ghost, hj, Option.toList_some, List.map_nil, List.singleton_append, htag,
          List.zip_cons_cons, kG]
/-! ### what `load_paths` rebuilds -/

/-- what a state looks like on the slots `lo ≤ e < hi` that have been loaded with the path numbers
    `f e`, and that nothing else changed -/
structure LoadedRange (s0 s : St) (lo hi : Nat) (f : Nat → Nat) : Prop where
  n : s.n = s0.n
  trajNum : s.trajNum = s0.trajNum
  lenW : s.W.length = s0.W.length
  lenT : s.trajs.length = s0.trajs.length
  lenL : s.locks.length = s0.locks.length
  inside : ∀ e, lo ≤ e → e < hi → e < s0.trajs.length ∧ s.trajs[e]? = some (some (f e)) ∧
    s.locks[e]? = some false ∧ entryM s.W e e ≠ 0
  outside : ∀ e, (e < lo ∨ hi ≤ e) → s.trajs[e]? = s0.trajs[e]? ∧ s.locks[e]? = s0.locks[e]? ∧
    s.W[e]? = s0.W[e]?

/-- the record the restart file keeps of a job in flight: slots and path numbers -/
def jobRec0 (j : Job) : List Nat × List Nat := (j.picked.map slotOf, j.picked.map (·.pn))

/-- the record of the jobs in flight as the restart file holds it: (slots, paths) with the stream ordinal -/
def recsOf (jobs : List Job) (ords : List Nat) : List ((List Nat × List Nat) × Nat) := (jobs.map jobRec0).zip ords

theorem recPairs_jobRec0 (j : Job) : recPairs (jobRec0 j) = heldJob j := by
  unfold recPairs jobRec0 heldJob
  simp only [List.zip_map']

theorem recEntry_jobRec0 (j : Job) (h : ∀ p ∈ j.picked, -1 ≤ p.ens) : recEntry (jobRec0 j) = jobRec j := by
  unfold recEntry jobRec0 jobRec
  simp only [List.map_map, Prod.mk.injEq, and_true]
  apply List.map_congr_left
  intro p hp
  have := h p hp
  simp only [Function.comp_apply, slotOf]
  omega

theorem recsOf_fst {jobs : List Job} {ords : List Nat} (h : ords.length = jobs.length) :
    (recsOf jobs ords).map (·.1) = jobs.map jobRec0 := by
  unfold recsOf
  rw [List.map_fst_zip]
  simp [h]

theorem recsOf_snd {jobs : List Job} {ords : List Nat} (h : ords.length = jobs.length) :
    (recsOf jobs ords).map (·.2) = ords := by
  unfold recsOf
  rw [List.map_snd_zip]
  simp [h]

theorem recsOf_pairs {jobs : List Job} {ords : List Nat} (h : ords.length = jobs.length) :
    (recsOf jobs ords).flatMap (fun r => recPairs r.1) = held jobs := by
  have h1 : (recsOf jobs ords).flatMap (fun r => recPairs r.1) = ((recsOf jobs ords).map (·.1)).flatMap recPairs := by
    rw [List.flatMap_map]
  rw [h1, recsOf_fst h, List.flatMap_map]
  unfold held
  congr 1
  funext j
  exact recPairs_jobRec0 j

/-- a job that carries the streams of ordinal `o` is its record, written out under `o` -/
theorem pkFull_of_streams {ent o : Nat} {j : Job} (hs : StreamsAt ent o j.picked) (hge : ∀ p ∈ j.picked, -1 ≤ p.ens) :
    j.picked.map pkFull = recJobFull ent o (jobRec0 j) := by
  rw [recJobFull, recPairs_jobRec0]
  unfold heldJob
  apply List.ext_getElem?
  intro i
  simp only [List.getElem?_map, List.getElem?_zipIdx, List.zipIdx_map]
  cases hp : j.picked[i]? with
  | none => simp
  | some p =>
    obtain ⟨h1, h2⟩ := hs i p hp
    have hg := hge p (List.mem_of_getElem? hp)
    simp only [Option.map_some, Option.some.injEq, pkFull, Prod.mk.injEq, Prod.map, id]
    refine ⟨?_, trivial, ?_, ?_⟩
    · simp only [slotOf]; omega
    · rw [h1]; simp [moveStream]
    · rw [h2]; simp [engStream]

theorem streamsAt_of_pkFull {ent o : Nat} {r : List Nat × List Nat} {ps : List Picked}
    (h : ps.map pkFull = recJobFull ent o r) : StreamsAt ent o ps := by
  intro j p hp
  have := congrArg (·[j]?) h
  simp only [recJobFull, List.getElem?_map, hp, List.getElem?_zipIdx, Option.map_some] at this
  cases hx : (recPairs r)[j]? with
  | none => rw [hx] at this; cases this
  | some x =>
    rw [hx] at this
    simp only [Option.map_some, Option.some.injEq, pkFull, Prod.mk.injEq, Nat.zero_add] at this
    exact ⟨this.2.2.1, this.2.2.2⟩

end Infretis.Repex
