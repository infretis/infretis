import Infretis.Lemmas.PermSorted
import Infretis.Lemmas.PermBranches
/-!
# The pipeline theorem: `inf_retis` returns the embedded permanent ratios (C02)

for every tie order of its two argsorts (`finishOf_eq_probMatrix`); `infRetis` itself is the instance at the model's
stable `argsort`.  Beside it the block-size threshold: the Monte-Carlo routine is only ever used for blocks of more
than 12 rows (`sortedOut_mc`, `finishOf_mc_dims`).
-/
namespace Infretis.Perm

/-- a 1×1 sorted idle block always passes the equal-weights test -/
theorem equalTest_of_length_one (o : Nat) (S : Mat) (cnts : List Nat) (hS : SortedReach o S cnts)
    (h1 : S.length = 1) :
    (rowConstAt (o - 1) (S.take o) && (if S.length ≤ o then true else rowConstAt o (S.drop o))) = true := by
  have hlen := hS.hlen
  match S, h1 with
  | [r], _ =>
    obtain rfl | rfl : o = 0 ∨ o = 1 := by have := hS.ho; omega
    · have hrl : r.length = 1 := by simpa using (hS.plus 0 (by simp at hlen; omega)).1
      match r, hrl with
      | [x], _ => simp [rowConstAt]
    · have hrl : r.length = 1 := by simpa using (hS.minus rfl).1
      match r, hrl with
      | [x], _ => simp [rowConstAt]

/-- **The branch phase on the sorted reachable family**: the equal-weights branch, or the loop over the blocks of
    `find_blocks` when none of them is sent to `random_prob`, returns the permanent ratios of the sorted block. -/
theorem sortedOut_eq_goodAcc (s : Sorted) (cnts : List Nat) (hS : SortedReach s.offset s.sorted cnts)
    (hm : s.m = s.sorted.length) (hpos : 0 < s.sorted.length)
    (heq : s.equal = (rowConstAt (s.offset - 1) (s.sorted.take s.offset)
      && (if s.m ≤ s.offset then true else rowConstAt s.offset (s.sorted.drop s.offset))))
    (hsmall : s.equal = false → ∀ bs, findBlocks s.sorted s.offset = .list bs →
      ∀ b ∈ bs, branchOf (subBlock s.sorted b.1 b.2.1 b.2.2) ≠ .random) :
    sortedOut s = goodAcc s.sorted := by
  cases he : s.equal with
  | true =>
    have he' := he
    rw [heq, Bool.and_eq_true] at he'
    apply sortedOut_equal s cnts hS hm he
    by_cases hle : s.m ≤ s.offset
    · exact Or.inl hle
    · exact Or.inr (by simpa [if_neg hle] using he'.2)
  | false =>
    have h2 : 2 ≤ s.sorted.length := by
      by_contra hlt
      have h1 : s.sorted.length = 1 := by omega
      have := equalTest_of_length_one s.offset s.sorted cnts hS h1
      rw [← hm, ← heq, he] at this
      exact Bool.false_ne_true this
    exact sortedOut_blocks s cnts hS hm h2 he (hsmall he)

/-- **The pipeline theorem for any tie order.**  Whatever permutations the two `np.argsort` calls return — as long
    as each sorts its keys — `inf_retis` returns the embedded permanent ratios on the reachable family, provided
    the equal-weights test succeeds or no block is sent to the Monte-Carlo routine. -/
theorem finishOf_eq_probMatrix (off : Nat) (W : Mat) (locks : List Bool) (cnts : List Nat) (a b : List Nat)
    (ha : Sorts (keysMinus off W locks) a) (hb : Sorts (keysPlus off W locks) b)
    (hne : idle W locks ≠ [])
    (hR : Reach (offsetOf off locks) (idle W locks) cnts)
    (hP : permC (idle W locks) ≠ 0)
    (hsmall : (prepareGiven off W locks a b).equal = false →
      ∀ bs, findBlocks (prepareGiven off W locks a b).sorted (offsetOf off locks) = .list bs →
      ∀ bl ∈ bs, branchOf (subBlock (prepareGiven off W locks a b).sorted bl.1 bl.2.1 bl.2.2) ≠ .random) :
    finishOf locks (prepareGiven off W locks a b) = .ok (probMatrix W locks) := by
  obtain ⟨cnts', hS⟩ := prepareGiven_sortedReach off W locks cnts a b ha hb hR hP
  have hl := prepareGiven_sorted_length off W locks a b ha hb
  apply finishOf_of_sortedOut locks (idle W locks) _ rfl
    (prepareGiven_sortIdx_perm off W locks a b ha hb) rfl hne hP
  apply sortedOut_eq_goodAcc _ cnts' hS hl.symm _ (prepareGiven_equal off W locks a b) hsmall
  rw [hl]
  exact List.length_pos_of_ne_nil hne

theorem branchOf_random_length (sub : Mat) (h : branchOf sub = .random) : 12 < sub.length := by
  unfold branchOf at h
  split at h
  · cases h
  · split at h
    · cases h
    · split at h
      · cases h
      · omega

/-- the same without the Monte-Carlo proviso when at most 12 ensembles are idle -/
theorem finishOf_eq_probMatrix_small (off : Nat) (W : Mat) (locks : List Bool) (cnts : List Nat) (a b : List Nat)
    (ha : Sorts (keysMinus off W locks) a) (hb : Sorts (keysPlus off W locks) b)
    (hne : idle W locks ≠ [])
    (hR : Reach (offsetOf off locks) (idle W locks) cnts)
    (hP : permC (idle W locks) ≠ 0) (h12 : (idle W locks).length ≤ 12) :
    finishOf locks (prepareGiven off W locks a b) = .ok (probMatrix W locks) := by
  apply finishOf_eq_probMatrix off W locks cnts a b ha hb hne hR hP
  intro _ bs _ bl _ hr
  have h1 := branchOf_random_length _ hr
  have h2 := subBlock_length_le (prepareGiven off W locks a b).sorted bl.1 bl.2.1 bl.2.2
  have h3 := prepareGiven_sorted_length off W locks a b ha hb
  omega

theorem blockLoop_mc (sorted : Mat) (m : Nat) (bs : List (Nat × Nat × Int)) (acc : BlockAcc)
    (h : ∀ d ∈ acc.mc, 12 < d) : ∀ d ∈ (blockLoop sorted m bs acc).mc, 12 < d := by
  induction bs generalizing acc with
  | nil => simpa [blockLoop] using h
  | cons b bs ih =>
    obtain ⟨start, stop, dir⟩ := b
    simp only [blockLoop]
    split
    · exact ih _ h
    · exact ih _ h
    · split
      · exact ih _ h
      · exact ih _ h
      · exact h
    · next hb =>
      apply ih
      intro d hd
      simp only [List.mem_append, List.mem_singleton] at hd
      rcases hd with hd | hd
      · exact h d hd
      · subst hd; exact branchOf_random_length _ hb

theorem sortedOut_mc (s : Sorted) : ∀ d ∈ (sortedOut s).mc, 12 < d := by
  unfold sortedOut
  split
  · simp
  · split
    · simp
    · simp only
      exact blockLoop_mc _ _ _ _ (by simp)

/-- whatever the input and whatever the two argsorts returned: if `inf_retis` goes to the Monte-Carlo routine,
    every block it sends there has more than 12 rows -/
theorem finishOf_mc_dims (locks : List Bool) (s : Sorted) (dims : List Nat)
    (h : finishOf locks s = .monteCarlo dims) : ∀ d ∈ dims, 12 < d := by
  unfold finishOf at h
  simp only at h
  split at h
  · cases h
  · split at h
    · cases h
    · split at h
      · cases h
      · split at h
        · cases h
          exact sortedOut_mc _
        · split at h <;> cases h

end Infretis.Perm
