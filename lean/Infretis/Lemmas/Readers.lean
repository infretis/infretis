import Infretis.Model.ReadersObj
import Infretis.Lemmas.Lines
/-!
Strict prefixes of a text of complete lines, the loop over lines (`resRun`, of which `xyzRun` and `lmpRun` are
instances), and the first bounds on the spec functions `sumLens`, `completeCount` (monotonicity and resumption are in
`ReadersSpec`).  (`readline`, `lines`, `IsLine`: `Lemmas/Lines.lean`.)
-/
namespace Infretis.Readers

theorem take_flatten_lines (fl : List Line) (h : ∀ l ∈ fl, IsLine l) (n : Nat)
    (hn : n < fl.flatten.length) :
    ∃ k p, k < fl.length ∧ '\n' ∉ p ∧ fl.flatten.take n = (fl.take k).flatten ++ p
      ∧ (∃ l, fl[k]? = some l ∧ ∃ j, j < l.length ∧ p = l.take j) := by
  induction fl generalizing n with
  | nil => simp at hn
  | cons l fl ih =>
    have hl := h l (by simp)
    have hfl : ∀ x ∈ fl, IsLine x := fun x hx => h x (by simp [hx])
    by_cases hlt : n < l.length
    · refine ⟨0, l.take n, by simp, ?_, ?_, ⟨l, by simp, n, hlt, rfl⟩⟩
      · obtain ⟨b, rfl, hb⟩ := hl
        have : n ≤ b.length := by simp at hlt; omega
        rw [List.take_append_of_le_length this]
        intro hm
        exact hb (List.mem_of_mem_take hm)
      · simp only [List.flatten_cons, List.take_zero, List.flatten_nil, List.nil_append]
        rw [List.take_append_of_le_length (by omega)]
    · have hge : l.length ≤ n := by omega
      simp only [List.flatten_cons, List.length_append] at hn
      obtain ⟨k, p, hk, hp, he, l', hl', j, hj, hpj⟩ := ih hfl (n - l.length) (by omega)
      refine ⟨k + 1, p, by simp; omega, hp, ?_, ⟨l', by simpa using hl', j, hj, hpj⟩⟩
      simp only [List.flatten_cons, List.take_succ_cons, List.append_assoc]
      rw [List.take_append, List.take_of_length_le hge, he]

theorem lines_take_flatten (fl : List Line) (h : ∀ l ∈ fl, IsLine l) (n : Nat)
    (hn : n < fl.flatten.length) :
    ∃ k p, k < fl.length ∧ '\n' ∉ p ∧ fl.flatten.take n = (fl.take k).flatten ++ p
      ∧ lines (fl.flatten.take n) = fl.take k ++ (if p = [] then [] else [p])
      ∧ (∃ l, fl[k]? = some l ∧ ∃ j, j < l.length ∧ p = l.take j) := by
  obtain ⟨k, p, hk, hp, he, hl⟩ := take_flatten_lines fl h n hn
  refine ⟨k, p, hk, hp, he, ?_, hl⟩
  rw [he, lines_flatten_append _ (fun l hl => h l (List.mem_of_mem_take hl))]
  by_cases hp0 : p = []
  · simp [hp0, lines]
  · simp [hp0, lines_noNl p hp hp0]

/-- bytes ≥ 0x80 (all lead and continuation bytes of UTF-8 multi-byte characters) are neither the
    newline nor a blank: non-ASCII text is inert for `readline` and `split` -/
theorem nonascii_not_structural (c : Char) (h : 128 ≤ c.toNat) : c ≠ '\n' ∧ isBlank c = false := by
  have hne : ∀ d : Char, d.toNat < 128 → (c == d) = false := by
    intro d hd
    simp only [beq_eq_false_iff_ne, ne_eq]
    rintro rfl
    omega
  refine ⟨?_, ?_⟩
  · rintro rfl
    exact absurd h (by decide)
  · simp only [isBlank, hne ' ' (by decide), hne '\n' (by decide), hne '\t' (by decide), hne '\r' (by decide),
      hne '\x0b' (by decide), hne '\x0c' (by decide), hne '\x1c' (by decide), hne '\x1d' (by decide),
      hne '\x1e' (by decide), hne '\x1f' (by decide), Bool.or_self]

theorem resRun_append {σ ρ : Type} (step : σ → Line → Res σ ρ) (a b : List Line) (st : σ) :
    resRun step (a ++ b) st = match resRun step a st with
      | .cont s => resRun step b s
      | .ret r => .ret r
      | .err e => .err e := by
  induction a generalizing st with
  | nil => simp [resRun]
  | cons l a ih =>
    simp only [List.cons_append, resRun]
    cases h : step st l with
    | cont s => simp [ih]
    | ret r => simp
    | err e => simp

theorem xyzRun_eq_resRun (v : Variant) (ls : List Line) (st : XSt) : xyzRun v ls st = resRun (xyzStep v) ls st := by
  induction ls generalizing st with
  | nil => rfl
  | cons l ls ih =>
    simp only [xyzRun, resRun]
    cases xyzStep v st l with
    | cont s => exact ih s
    | ret r => rfl
    | err e => rfl

theorem lmpRun_eq_resRun (v : Variant) (ls : List Line) (st : LSt) : lmpRun v ls st = resRun (lmpStep v) ls st := by
  induction ls generalizing st with
  | nil => rfl
  | cons l ls ih =>
    simp only [lmpRun, resRun]
    cases lmpStep v st l with
    | cont s => exact ih s
    | ret r => rfl
    | err e => rfl

theorem pyMod_nat (a B : Nat) (h : 0 < B) : pyMod a (B : Int) = ((a % B : Nat) : Int) := by
  unfold pyMod
  rw [Int.fmod_eq_emod_of_nonneg _ (by omega)]; omega

theorem add_mod_of_mod_zero (i0 r B : Nat) (h0 : i0 % B = 0) (hr : r < B) : (i0 + r) % B = r := by
  rw [Nat.add_mod, h0, Nat.zero_add, Nat.mod_mod, Nat.mod_eq_of_lt hr]

theorem sumLens_append (a b : List Nat) : sumLens (a ++ b) = sumLens a + sumLens b := by
  induction a with
  | nil => simp [sumLens]
  | cons x a ih => simp [sumLens, ih]; omega

theorem sumLens_take_add (l : List Nat) (a b : Nat) :
    sumLens (l.take (a + b)) = sumLens (l.take a) + sumLens ((l.drop a).take b) := by
  rw [List.take_add, sumLens_append]

theorem sumLens_take_succ (l : List Nat) (k : Nat) (h : k < l.length) :
    sumLens (l.take (k + 1)) = sumLens (l.take k) + l[k] := by
  rw [List.take_succ_eq_append_getElem h, sumLens_append]
  simp [sumLens]

theorem completeCount_le (lens : List Nat) (n : Nat) : completeCount lens n ≤ lens.length := by
  induction lens generalizing n with
  | nil => simp [completeCount]
  | cons l ls ih =>
    simp only [completeCount]
    split
    · have := ih (n - l); simp; omega
    · simp

theorem completeCount_sum_le (lens : List Nat) (n : Nat) :
    sumLens (lens.take (completeCount lens n)) ≤ n := by
  induction lens generalizing n with
  | nil => simp [completeCount, sumLens]
  | cons l ls ih =>
    simp only [completeCount]
    split
    · have := ih (n - l); simp [sumLens]; omega
    · simp [sumLens]

end Infretis.Readers
