import Infretis.Lemmas.RepexC05Sys
import Infretis.Lemmas.RepexC04Hist
/-!
# C04 × C05 — the matchability hypothesis of the conservation theorems is discharged

C05's invariant `Inv5` (`Fam`: family rows + positive permanent of the idle block) holds in every
state reachable from an `Init5` start through a history whose accepted outcomes are in C02's weight
family (`HistOk`).  `perEns_fam` carries `Fam` to the *recording state* inside `treat_output`
(after the per-ensemble loop, before "record weights"), which is exactly where C04 needs
`Matchable`.  Hence `HistOk` implies `MatchableAlong`.
-/
namespace Infretis.Repex.Frac

theorem zip_fst_prefix {α β : Type} : ∀ (ps : List α) (ws : List β),
    ∃ rest, ps = (ps.zip ws).map Prod.fst ++ rest := by
  intro ps
  induction ps with
  | nil => intro ws; exact ⟨[], by simp⟩
  | cons p t ih =>
    intro ws
    cases ws with
    | nil => exact ⟨p :: t, by simp⟩
    | cons w ws =>
      obtain ⟨rest, hr⟩ := ih ws
      exact ⟨rest, by simp only [List.zip_cons_cons, List.map_cons, List.cons_append]; rw [← hr]⟩

theorem recState_fam {y : Sys} {k : Nat} {status : Status} {newW : List (List Rat)} {o : PickOutcome}
    (hi : Inv5 y) (hev : EvOk y (.step k status newW o)) {job : Job} {s1 : St} {tn : Nat}
    {pns : List Nat} (hjob : y.jobs[k]? = some job)
    (hrec : recState (loop y.s).1 job status newW = .ok (s1, tn, pns)) : Fam s1 tn := by
  obtain ⟨hc1, hf1, _⟩ := hi.atJob hjob
  have hjm : job ∈ y.jobs := List.mem_of_getElem? hjob
  unfold recState at hrec
  obtain ⟨rest, hrest⟩ := zip_fst_prefix job.picked (jobWs job status newW)
  have h0 : CoreR (loop y.s).1 (heldPicked ((job.picked.zip (jobWs job status newW)).map Prod.fst)
      ++ (heldPicked rest ++ held (y.jobs.eraseIdx k))) (loop y.s).1.trajNum := by
    have : heldJob job = heldPicked ((job.picked.zip (jobWs job status newW)).map Prod.fst)
        ++ heldPicked rest := by
      show heldPicked job.picked = _
      conv_lhs => rw [hrest]
      simp [heldPicked]
    rw [← List.append_assoc, ← this]
    exact hc1
  refine (perEns_fam h0 hf1 ?_ ?_ (perEns_ok_iff.mp hrec)).1
  · intro pw hpw
    exact (hi.inv.jobs job hjm).ensGe pw.1 (List.of_mem_zip (a := pw.1) (b := pw.2) hpw).1
  · intro hacc pw hpw
    have hn : (loop y.s).1.n = y.s.n := (loop_touches y.s).n
    rw [hn]
    have hw : jobWs job status newW = newW := by unfold jobWs; rw [if_pos hacc]
    rw [hw] at hpw
    exact hev hacc job hjob pw hpw

theorem matchableAt_of_inv5 {y : Sys} {ev : Ev} (hi : Inv5 y) (hev : EvOk y ev) : matchableAt y ev := by
  cases ev with
  | start o saved => trivial
  | initDone => trivial
  | step k status newW o =>
    intro job s1 tn pns hjob hrec
    exact ne_of_gt (recState_fam hi hev hjob hrec).perm

theorem matchableAlong_of_histOk : ∀ (evs : List Ev) (y : Sys), Inv5 y → HistOk y evs →
    MatchableAlong y evs := by
  intro evs
  induction evs with
  | nil => intro y _ _; trivial
  | cons ev rest ih =>
    intro y hi hh
    unfold MatchableAlong
    refine ⟨matchableAt_of_inv5 hi hh.1, ?_⟩
    split
    · rename_i y' hs
      exact ih y' (sysStep_preserves5 ev hi hh.1 hs).1 (hh.2 y' hs)
    · trivial

theorem step_record {y y' : Sys} {k : Nat} {status : Status} {newW : List (List Rat)} {o : PickOutcome}
    (hi : HInv y) (h5 : Inv5 y) (hev : EvOk y (.step k status newW o))
    (h : sysStep y (.step k status newW o) = .ok y') :
    ∃ job sR tn pns s2, y.jobs[k]? = some job ∧
      recState (loop y.s).1 job status newW = .ok (sR, tn, pns) ∧ recordFrac sR = .ok s2 ∧
      SlotWF sR ∧ Matchable sR ∧ (sR.frac.map Prod.fst).Nodup ∧ (∀ kv ∈ sR.frac, kv.2.length = sR.n) ∧
      sR.n = y.s.n ∧ (∀ c, colTotal sR.frac c = colTotal y.s.frac c) ∧ sR.rows = y.s.rows ∧
      (∀ c, total y'.s c = total y.s c + (if sR.locks[c]? = some false then 1 else 0)) := by
  obtain ⟨job, ym, hc, _⟩ := Completes.of_step h
  obtain ⟨_, hjob, _, pns, it, htreat⟩ := hc.ok
  have hld := loop_touches y.s
  obtain ⟨sR, tn, sRec, _, d⟩ := treatOutput_data htreat
  have hrec := d.recSt
  obtain ⟨p1, p2, _⟩ := recState_data d.len hrec
  obtain ⟨k1, k2, _, hcol⟩ := hi.fw.loop.recState d.len hrec
  have hcR : Core sR (held (y.jobs.eraseIdx k)) tn := recState_core (step_core hi.inv hjob) d.len hrec
  refine ⟨job, sR, tn, pns, sRec, hjob, hrec, d.recorded, slotWF_of_core hcR,
    ne_of_gt (recState_fam h5 hev hjob hrec).perm, k1, k2, p2.trans hld.n,
    fun c => (hcol c).trans (by rw [hld.frac]), p1.trans hld.rows, ?_⟩
  · intro c
    have ht := (sysStep_totals _ hi.inv.invR hi.fw h (matchableAt_of_inv5 h5 hev)).1 c
    rw [ht]
    congr 1
    simp only [idleAt, hjob, hrec]
    split <;> simp

end Infretis.Repex.Frac
