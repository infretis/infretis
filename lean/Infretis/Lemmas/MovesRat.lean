import Infretis.Lemmas.MovesShoot
import Mathlib.Algebra.Order.Field.Rat
/-! Rational arithmetic for the drawn length limit of `shoot` (Mathlib's ordered field on ℚ). -/
namespace Infretis.Moves

theorem drawMaxlen_xi (i : ShootIn) (hld : i.genLd = false) (ham : i.allowMax = false) (hxi : 0 < i.xi) :
    drawMaxlen i = .ok (min (((((i.old.length : Int) - 2 : Int) : Rat) / i.xi).floor.toNat + 2) i.maxlength,
      [.random]) :=
  (drawMaxlen_ok_iff i _ _).2 (Or.inr ⟨by simp [hld, ham], not_lt.mpr hxi.le, hxi.ne', rfl, rfl⟩)

theorem le_floor_toNat_iff (a : Int) (xi : Rat) (n : Nat) (ha : 0 ≤ a) (hxi : 0 < xi) :
    n ≤ (((a : Int) : Rat) / xi).floor.toNat ↔ xi * (n : Rat) ≤ (a : Rat) := by
  have hnn : (0 : Int) ≤ (((a : Int) : Rat) / xi).floor := by
    rw [Rat.le_floor_iff]
    have : (0 : Rat) ≤ (a : Rat) := by exact_mod_cast ha
    simpa using div_nonneg this (le_of_lt hxi)
  have h1 : n ≤ (((a : Int) : Rat) / xi).floor.toNat ↔ (n : Int) ≤ (((a : Int) : Rat) / xi).floor := by omega
  rw [h1, Rat.le_floor_iff, le_div_iff₀ hxi]
  simp [mul_comm]

end Infretis.Moves
