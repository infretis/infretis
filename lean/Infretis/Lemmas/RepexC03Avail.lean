import Infretis.Lemmas.RepexCalls
import Mathlib.Data.List.Nodup
/-!
# C03 — a free engine instance is always found (`assign_engines` never comes back empty-handed)

Counting argument: after a worker's own cells are freed, every occupied cell of an engine type
belongs to a *different* worker with a job in flight, each such worker occupies at most one cell per
type, and there are at most `workers − 1` of them — so with at least `workers` instances of the
type one cell is free.
-/
namespace Infretis.Repex

theorem nodup_of_getElem?_inj {α : Type} (l : List α)
    (h : ∀ i j, i < l.length → j < l.length → l[i]? = l[j]? → i = j) : l.Nodup := by
  rw [List.nodup_iff_injective_getElem]
  intro a b hab
  apply Fin.ext
  apply h a.1 b.1 a.2 b.2
  rw [List.getElem?_eq_getElem a.2, List.getElem?_eq_getElem b.2]
  exact congrArg some hab

theorem length_le_of_inj_rel {α β : Type} [DecidableEq β] (G : α → β → Prop) :
    ∀ (l : List α) (S : List β), l.Nodup → (∀ x ∈ l, ∃ e ∈ S, G x e) →
      (∀ x ∈ l, ∀ x' ∈ l, ∀ e, G x e → G x' e → x = x') → l.length ≤ S.length
  | [], _, _, _, _ => Nat.zero_le _
  | x :: t, S, hnd, hex, hinj => by
    obtain ⟨e, heS, hxe⟩ := hex x (List.mem_cons_self ..)
    have hx : x ∉ t := (List.nodup_cons.mp hnd).1
    have := length_le_of_inj_rel G t (S.erase e) (List.nodup_cons.mp hnd).2
      (fun x' hx' => by
        obtain ⟨e', he'S, hx'e'⟩ := hex x' (List.mem_cons_of_mem _ hx')
        refine ⟨e', (List.mem_erase_of_ne fun h => hx ?_).mpr he'S, hx'e'⟩
        rw [hinj x (List.mem_cons_self ..) x' (List.mem_cons_of_mem _ hx') e hxe (h ▸ hx'e')]
        exact hx')
      (fun a ha b hb => hinj a (List.mem_cons_of_mem _ ha) b (List.mem_cons_of_mem _ hb))
    rw [List.length_erase_of_mem heS] at this
    have := List.length_pos_of_mem heS
    simp only [List.length_cons]; omega

theorem row_full {l : List Int}
    (hinj : ∀ (i j : Nat) (x : Int), l[i]? = some x → l[j]? = some x → x ≠ -1 → i = j)
    (hno : ¬ ∃ x ∈ l, (x == -1) = true) : (∀ x ∈ l, x ≠ -1) ∧ l.Nodup := by
  have hall : ∀ x ∈ l, x ≠ -1 := fun x hx h1 => hno ⟨x, hx, by simp [h1]⟩
  refine ⟨hall, nodup_of_getElem?_inj l fun i j hi hj hij => ?_⟩
  have hx : l[i]? = some l[i] := List.getElem?_eq_getElem hi
  exact hinj i j l[i] hx (by rw [← hij]; exact hx) (hall _ (List.getElem_mem hi))

theorem row_has_free (l : List Int) (W pin : Nat) (hpin : pin < W) (hlen : W ≤ l.length)
    (hown : ∀ (i : Nat) (x : Int), l[i]? = some x → x ≠ -1 → ∃ m : Nat, x = (m : Int) ∧ m < W ∧ m ≠ pin)
    (hinj : ∀ (i j : Nat) (x : Int), l[i]? = some x → l[j]? = some x → x ≠ -1 → i = j) :
    ∃ x ∈ l, (x == -1) = true := by
  by_contra hno
  obtain ⟨hall, hnd⟩ := row_full hinj hno
  -- the cells are pins other than `pin`, each at most once
  have hle := length_le_of_inj_rel (fun (x : Int) (m : Nat) => x = (m : Int)) l ((List.range W).erase pin) hnd
    (fun x hx => by
      obtain ⟨i, hi, hxi⟩ := List.getElem_of_mem hx
      obtain ⟨m, hm, hmW, hmp⟩ := hown i x (by rw [List.getElem?_eq_getElem hi, hxi]) (hall x hx)
      exact ⟨m, List.nodup_range.mem_erase_iff.mpr ⟨hmp, List.mem_range.mpr hmW⟩, hm⟩)
    (fun x _ x' _ m h h' => h.trans h'.symm)
  rw [List.length_erase_of_mem (List.mem_range.mpr hpin), List.length_range] at hle
  omega

theorem row_has_free2 (l : List Int) (W pin : Nat) (S : List Nat) (e0 : Nat) (G : Int → Nat → Prop)
    (hpin : pin < W) (hS : S.Nodup) (he0 : e0 ∈ S) (hlen : min S.length W ≤ l.length)
    (hown : ∀ (i : Nat) (x : Int), l[i]? = some x → x ≠ -1 → ∃ m : Nat, x = (m : Int) ∧ m < W ∧ m ≠ pin)
    (hinj : ∀ (i j : Nat) (x : Int), l[i]? = some x → l[j]? = some x → x ≠ -1 → i = j)
    (hg : ∀ x ∈ l, x ≠ -1 → ∃ e, G x e ∧ e ∈ S ∧ e ≠ e0)
    (hginj : ∀ x x' e, G x e → G x' e → x = x') :
    ∃ x ∈ l, (x == -1) = true := by
  -- with `W` cells the pins alone decide; otherwise count the ensembles listing the type
  by_cases hW : W ≤ l.length
  · exact row_has_free l W pin hpin hW hown hinj
  by_contra hno
  obtain ⟨hall, hnd⟩ := row_full hinj hno
  have hle := length_le_of_inj_rel G l (S.erase e0) hnd
    (fun x hx => by
      obtain ⟨e, hge, heS, hne⟩ := hg x hx (hall x hx)
      exact ⟨e, hS.mem_erase_iff.mpr ⟨hne, heS⟩, hge⟩)
    (fun x _ x' _ => hginj x x')
  rw [List.length_erase_of_mem he0] at hle
  have hSpos : 1 ≤ S.length := List.length_pos_of_mem he0
  omega

theorem mem_dedup (l : List Nat) (x : Nat) : x ∈ dedup l ↔ x ∈ l := by
  induction l with
  | nil => simp [dedup]
  | cons a t ih =>
    unfold dedup
    split
    · rename_i hc
      have hat : a ∈ t := by simpa using hc
      rw [ih]
      constructor
      · exact fun h => List.mem_cons_of_mem _ h
      · intro h
        rcases List.mem_cons.mp h with h | h
        · rw [h]; exact hat
        · exact h
    · simp [ih]

theorem dedup_nodup (l : List Nat) : (dedup l).Nodup := by
  induction l with
  | nil => simp [dedup]
  | cons a t ih =>
    unfold dedup
    split
    · exact ih
    · rename_i hc
      have hat : a ∉ t := by simpa using hc
      rw [List.nodup_cons]
      exact ⟨fun h => hat ((mem_dedup t a).mp h), ih⟩

theorem mem_engNames {s1 : St} {ps : List Picked} {k : Nat} :
    k ∈ engNames s1 ps ↔ ∃ p ∈ ps, k ∈ s1.ensEng.getD (p.ens + 1).toNat [] := by
  unfold engNames
  rw [mem_dedup, List.mem_flatten]
  constructor
  · rintro ⟨l, hl, hk⟩
    obtain ⟨p, hp, rfl⟩ := List.mem_map.mp hl
    exact ⟨p, hp, hk⟩
  · rintro ⟨p, hp, hk⟩
    exact ⟨_, List.mem_map.mpr ⟨p, hp, rfl⟩, hk⟩

theorem claim_row_ne {occ occ' : List (List Int)} {k pin i : Nat} (h : claim occ k pin = some (occ', i))
    (k' : Nat) (hk : k' ≠ k) : occ'[k']? = occ[k']? := by
  obtain ⟨l, _, _, _, rfl⟩ := claim_parts h
  exact List.getElem?_set_ne (fun h => hk h.symm)

theorem claim_total (occ : List (List Int)) (k pin : Nat) (l : List Int) (hl : occ[k]? = some l)
    (hfree : ∃ x ∈ l, (x == -1) = true) : ∃ occ' i, claim occ k pin = some (occ', i) := by
  unfold claim
  rw [hl]
  simp only []
  rw [if_pos (List.findIdx_lt_length_of_exists hfree)]
  exact ⟨_, _, rfl⟩

theorem assignGo_complete (pin : Nat) : ∀ (names : List Nat) (occ occ' : List (List Int))
    (out : List (Nat × Nat)), names.Nodup →
    (∀ k ∈ names, ∃ l, occ[k]? = some l ∧ ∃ x ∈ l, (x == -1) = true) →
    assignEngines.go pin occ names = (occ', out) → out.map Prod.fst = names := by
  intro names
  induction names with
  | nil =>
    intro occ occ' out _ _ h
    simp only [assignEngines.go, Prod.mk.injEq] at h
    obtain ⟨_, rfl⟩ := h
    rfl
  | cons k rest ih =>
    intro occ occ' out hnd hfree h
    rw [List.nodup_cons] at hnd
    obtain ⟨l, hl, hf⟩ := hfree k (List.mem_cons_self ..)
    obtain ⟨occ1, i, hc⟩ := claim_total occ k pin l hl hf
    unfold assignEngines.go at h
    rw [hc] at h
    simp only [] at h
    generalize hgo : assignEngines.go pin occ1 rest = r at h
    obtain ⟨o2, out2⟩ := r
    simp only [Prod.mk.injEq] at h
    obtain ⟨_, rfl⟩ := h
    have := ih occ1 o2 out2 hnd.2
      (fun k' hk' => by
        have hne : k' ≠ k := fun h => hnd.1 (h ▸ hk')
        rw [claim_row_ne hc k' hne]
        exact hfree k' (List.mem_cons_of_mem _ hk'))
      hgo
    simp [this]

/-- **`assign_engines` succeeds and serves every requested type** when, after freeing the worker's
    own cells, every requested type has a free cell. -/
theorem assignEngines_total (occ : List (List Int)) (names : List Nat) (pin : Nat)
    (hnd : names.Nodup) (hne : names ≠ [])
    (hfree : ∀ k ∈ names, ∃ l, (freeEngines occ pin)[k]? = some l ∧ ∃ x ∈ l, (x == -1) = true) :
    ∃ occ' idx, assignEngines occ names pin = .ok (occ', idx) ∧ idx.map Prod.fst = names := by
  unfold assignEngines
  simp only []
  generalize hgo : assignEngines.go pin (freeEngines occ pin) names = r
  obtain ⟨o1, out⟩ := r
  have hkeys := assignGo_complete pin names _ _ _ hnd hfree hgo
  simp only []
  have : out.isEmpty = false := by
    cases out with
    | nil => simp at hkeys; exact absurd hkeys hne
    | cons _ _ => rfl
  rw [this]
  exact ⟨o1, out, rfl, hkeys⟩

theorem freeEngines_row (occ : List (List Int)) (pin k : Nat) :
    (freeEngines occ pin)[k]? = (occ[k]?).map (fun l => l.map (fun x => if x = (pin : Int) then -1 else x)) := by
  simp [freeEngines, List.getElem?_map]

end Infretis.Repex
