import Infretis.Model.Config
import Infretis.Lemmas.Assoc
import Infretis.Lemmas.InsSort
/-!
For C18 (`Infretis/Props/C18.lean`): the sequencing combinators and `ConfigOnly` (a test raises nothing but
TOMLConfigError), the Python built-ins `sorted` / `set` on lists, and the loops behind the tests in closed form: strictly
increasing interfaces, wire-fencing room, unique engines, the gromacs loops.
-/
namespace Infretis.Config

theorem seq_ok_iff (a b : Except Err Unit) : seq a b = .ok () ↔ a = .ok () ∧ b = .ok () := by
  cases a with
  | error e => simp [seq]
  | ok u => cases u; simp [seq]

theorem seq_error_iff (a b : Except Err Unit) (e : Err) :
    seq a b = .error e ↔ a = .error e ∨ (a = .ok () ∧ b = .error e) := by
  cases a with
  | error e' => simp [seq]
  | ok u => cases u; simp [seq]

theorem rejectIf_ok_iff (b : Bool) : rejectIf b = .ok () ↔ b = false := by
  cases b <;> simp [rejectIf]

/-- whatever the test raises is a TOMLConfigError -/
def ConfigOnly (a : Except Err Unit) : Prop := ∀ e, a = .error e → e = .config

theorem ConfigOnly.ok : ConfigOnly (.ok ()) := nofun

theorem ConfigOnly.config : ConfigOnly (.error .config) := fun _ h => by cases h; rfl

theorem ConfigOnly.rejectIf (b : Bool) : ConfigOnly (rejectIf b) := by
  cases b
  · exact .ok
  · exact .config

/-- the second test runs only after the first has passed -/
theorem ConfigOnly.seq {a b : Except Err Unit} (ha : ConfigOnly a) (hb : a = .ok () → ConfigOnly b) :
    ConfigOnly (seq a b) := by
  intro e h
  rcases (seq_error_iff a b e).1 h with h | ⟨h1, h⟩
  · exact ha e h
  · exact hb h1 e h

theorem ConfigOnly.eq_error {a : Except Err Unit} (ha : ConfigOnly a) (hn : a ≠ .ok ()) : a = .error .config := by
  cases a with
  | error e => rw [ha e rfl]
  | ok u => exact absurd rfl hn

theorem isort_is : IsInsSort id (· ≤ ·) insertSorted isort :=
  ⟨fun _ => rfl, fun _ _ _ => rfl, rfl, fun _ _ => rfl⟩

/-- `sorted(intf) != intf` is false exactly for non-decreasing lists -/
theorem isort_eq_self_iff (l : List Int) : isort l = l ↔ l.Pairwise (· ≤ ·) :=
  ⟨fun h => h ▸ isort_is.pairwise Int.le_trans (fun h => by omega) l, isort_is.of_pairwise l⟩

/-! ### len(set(intf)) == len(intf) -/

theorem distinct_length_le : ∀ l : List Int, (distinct l).length ≤ l.length := by
  intro l
  induction l with
  | nil => simp [distinct]
  | cons a t ih =>
    simp only [distinct]
    split <;> simp <;> omega

theorem distinct_length_eq_iff : ∀ l : List Int, (distinct l).length = l.length ↔ l.Nodup := by
  intro l
  induction l with
  | nil => simp [distinct]
  | cons a t ih =>
    simp only [distinct, List.nodup_cons]
    split
    · rename_i h
      have := distinct_length_le t
      simp only [List.length_cons]
      constructor
      · intro he; omega
      · intro hn; exact absurd h hn.1
    · rename_i h
      simp only [List.length_cons, Nat.add_right_cancel_iff, ih]
      exact ⟨fun hn => ⟨h, hn⟩, fun hn => hn.2⟩

theorem pairwise_lt_iff : ∀ l : List Int,
    l.Pairwise (· < ·) ↔ l.Pairwise (· ≤ ·) ∧ l.Nodup := by
  intro l
  induction l with
  | nil => simp
  | cons a t ih =>
    simp only [List.pairwise_cons, List.nodup_cons, ih]
    constructor
    · rintro ⟨h1, h2, h3⟩
      refine ⟨⟨fun x hx => Int.le_of_lt (h1 x hx), h2⟩, ?_, h3⟩
      intro ha
      have := h1 a ha
      omega
    · rintro ⟨⟨h1, h2⟩, h3, h4⟩
      refine ⟨?_, h2, h4⟩
      intro x hx
      have := h1 x hx
      have hne : x ≠ a := fun h => h3 (h ▸ hx)
      omega

theorem strictIncr_iff : ∀ l : List Int, strictIncr l = true ↔ l.Pairwise (· < ·) := by
  intro l
  induction l with
  | nil => simp [strictIncr]
  | cons a t ih =>
    cases t with
    | nil => simp [strictIncr]
    | cons b t' =>
      simp only [strictIncr, Bool.and_eq_true, decide_eq_true_eq, ih]
      constructor
      · rintro ⟨hab, hp⟩
        refine List.pairwise_cons.2 ⟨?_, hp⟩
        intro x hx
        rcases List.mem_cons.1 hx with rfl | hx
        · exact hab
        · exact Int.lt_trans hab ((List.pairwise_cons.1 hp).1 x hx)
      · intro hp
        exact ⟨(List.pairwise_cons.1 hp).1 b (by simp), (List.pairwise_cons.1 hp).2⟩

/-- the loop of `check_config` over the moves of all ensembles but the last decides what `roomGo` states
    (an index error cannot occur: the slice is shorter than the interface list) -/
theorem roomLoop_take (x : Int) : ∀ (intf : List Int) (ms : List Bool),
    roomLoop x intf (ms.take (intf.length - 1)) = if roomGo x intf ms then .ok () else .error .config
  | [], _ => by simp [roomLoop, roomGo]
  | [_], _ => by simp [roomLoop, roomGo]
  | _ :: _ :: _, [] => by simp [roomLoop, roomGo]
  | a :: b :: t, m :: ms => by
    have ih := roomLoop_take x (b :: t) ms
    simp only [List.length_cons, Nat.add_sub_cancel] at ih ⊢
    rw [List.take_succ_cons, roomLoop, ih, roomGo]
    cases m <;> by_cases h : x ≤ a <;> simp [h, Int.not_lt.2, Int.not_le.1]

theorem roomGo_iff (x : Int) : ∀ (intf : List Int) (ms : List Bool),
    roomGo x intf ms = true ↔
      ∀ (k : Nat) l, k + 1 < intf.length → ms[k]? = some true → intf[k]? = some l → l < x
  | [], _ => by simp [roomGo]
  | [_], _ => by simp [roomGo]
  | _ :: _ :: _, [] => by simp [roomGo]
  | a :: b :: t, m :: ms => by
    rw [roomGo, Bool.and_eq_true, roomGo_iff x (b :: t) ms]
    constructor
    · rintro ⟨h0, ht⟩ k l hk hm hl
      cases k with
      | zero => cases hm; cases hl; simpa using h0
      | succ k => exact ht k l (by simpa using hk) hm hl
    · intro h
      refine ⟨?_, fun k l hk hm hl => h (k + 1) l (by simpa using hk) hm hl⟩
      cases m
      · rfl
      · simpa using h 0 a (by simp) rfl rfl

theorem uniqueGo_mem (e : String) : ∀ (l acc : List String),
    e ∈ uniqueGo acc l ↔ e ∈ acc ∨ e ∈ l := by
  intro l
  induction l with
  | nil => intro acc; simp [uniqueGo]
  | cons x t ih =>
    intro acc
    simp only [uniqueGo]
    split
    · rename_i hx
      rw [ih]
      simp only [List.mem_cons]
      constructor
      · rintro (h | h)
        · exact Or.inl h
        · exact Or.inr (Or.inr h)
      · rintro (h | h | h)
        · exact Or.inl h
        · exact Or.inl (h ▸ hx)
        · exact Or.inr h
    · rw [ih]
      simp only [List.mem_append, List.mem_cons, List.not_mem_nil, or_false]
      constructor
      · rintro ((h | h) | h)
        · exact Or.inl h
        · exact Or.inr (Or.inl h)
        · exact Or.inr (Or.inr h)
      · rintro (h | h | h)
        · exact Or.inl (Or.inl h)
        · exact Or.inl (Or.inr h)
        · exact Or.inr h

theorem uniqueEngines_mem (e : String) (ee : List (List String)) :
    e ∈ uniqueEngines ee ↔ ∃ names ∈ ee, e ∈ names := by
  unfold uniqueEngines
  rw [uniqueGo_mem]
  simp [List.mem_flatten]

theorem lookupAll_mem {tbl : List (String × Engine)} {names : List String} {e : Engine} :
    e ∈ lookupAll tbl names ↔ ∃ k ∈ names, tbl.lookup k = some e := by
  simp [lookupAll, List.mem_filterMap]

/-- the tables the gromacs loops run over: those of the names some ensemble refers to -/
theorem mem_lookupAll_unique {tbl : List (String × Engine)} {ee : List (List String)} {e : Engine} :
    e ∈ lookupAll tbl (uniqueEngines ee) ↔ ∃ k, (∃ names ∈ ee, k ∈ names) ∧ tbl.lookup k = some e := by
  simp only [lookupAll_mem, uniqueEngines_mem]

theorem lookupAll_forall {tbl : List (String × Engine)} {names : List String} {Q : Engine → Prop}
    (h : ∀ p ∈ tbl, Q p.2) : ∀ e ∈ lookupAll tbl names, Q e := fun e he => by
  obtain ⟨k, _, hl⟩ := lookupAll_mem.1 he
  exact h (k, e) (Assoc.mem_of_lookup hl)

/-- two tables differ as dicts once `input_path` is popped -/
def differ (e1 e2 : Engine) : Prop := e1.cls ≠ e2.cls ∨ e1.other ≠ e2.other

instance (e1 e2 : Engine) : Decidable (differ e1 e2) := by unfold differ; infer_instance

theorem gmxInner_ok_iff (e1 : Engine) (p1 : Nat) : ∀ l,
    gmxInner e1 p1 l = .ok () ↔ ∀ e2 ∈ l, ∃ p2, e2.inputPath = some p2 ∧ ¬ (differ e1 e2 ∧ p1 = p2) := by
  intro l
  induction l with
  | nil => simp [gmxInner]
  | cons e2 t ih =>
    simp only [gmxInner, List.forall_mem_cons]
    cases hp : e2.inputPath with
    | none => simp
    | some p2 =>
      simp only [Option.some.injEq, exists_eq_left']
      split
      · rename_i h
        simp only [reduceCtorEq, false_iff]
        intro hh
        exact hh.1 h
      · rename_i h
        rw [ih]
        exact ⟨fun ht => ⟨h, ht⟩, fun ht => ht.2⟩

theorem gmxInner_configOnly (e1 : Engine) (p1 : Nat) : ∀ l,
    (∀ e2 ∈ l, e2.inputPath ≠ none) → ConfigOnly (gmxInner e1 p1 l) := by
  intro l
  induction l with
  | nil => intro _; exact .ok
  | cons e2 t ih =>
    intro hall
    simp only [gmxInner]
    cases hp : e2.inputPath with
    | none => exact absurd hp (hall e2 (by simp))
    | some p2 =>
      simp only
      split
      · exact .config
      · exact ih (fun x hx => hall x (List.mem_cons_of_mem _ hx))

theorem gmxOuter_ok_iff (all : List Engine) : ∀ l,
    gmxOuter all l = .ok () ↔
      ∀ e1 ∈ l, e1.cls = 0 → ∃ p1, e1.inputPath = some p1 ∧ gmxInner e1 p1 all = .ok () := by
  intro l
  induction l with
  | nil => simp [gmxOuter]
  | cons e1 t ih =>
    simp only [gmxOuter, List.forall_mem_cons]
    split
    · rename_i hc
      cases hp : e1.inputPath with
      | none => simp [hc]
      | some p1 =>
        simp only [seq_ok_iff, ih, Option.some.injEq, exists_eq_left', hc, true_imp_iff]
    · rename_i hc
      rw [ih]
      exact ⟨fun ht => ⟨fun h => absurd h hc, ht⟩, fun ht => ht.2⟩

theorem gmxOuter_configOnly (all : List Engine) (hall : ∀ e2 ∈ all, e2.inputPath ≠ none) : ∀ l,
    (∀ e1 ∈ l, e1.inputPath ≠ none) → ConfigOnly (gmxOuter all l) := by
  intro l
  induction l with
  | nil => intro _; exact .ok
  | cons e1 t ih =>
    intro hl
    have ht := ih (fun x hx => hl x (List.mem_cons_of_mem _ hx))
    simp only [gmxOuter]
    split
    · cases hp : e1.inputPath with
      | none => exact absurd hp (hl e1 (by simp))
      | some p1 => exact (gmxInner_configOnly e1 p1 all hall).seq fun _ => ht
    · exact ht

/-- without a gromacs engine the gromacs check does nothing -/
theorem gmxOuter_no_gromacs (all : List Engine) : ∀ l, (∀ e1 ∈ l, e1.cls ≠ 0) → gmxOuter all l = .ok () := by
  intro l h
  rw [gmxOuter_ok_iff]
  intro e1 h1 hc
  exact absurd hc (h e1 h1)

end Infretis.Config
