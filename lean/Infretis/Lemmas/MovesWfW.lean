import Infretis.Lemmas.MovesWfB
/-! The path an accepted wire-fencing move returns has non-zero wire-fencing weight in its own
    ensemble — provided no frame lies exactly ON the cap interface (a frame equal to the cap is "inside" for
    `add_to_path`, which tests `> right`, and "outside" for the weight scan, which tests `>= right`).

    Route: the returned path is `A ++ seg ++ B` or its reverse, `seg = xB :: reverse preB ++ kick :: preF ++ [xF]` the
    trial of the last accepted sub-ensemble shoot with the interior inside `[m, cap]`, one end below `m`
    (`wf_acc_shape`); so the shooting point is a valid frame in the sense of `WF.weight_pos_iff`. -/
namespace Infretis.Moves

open Infretis.WF in
theorem firstOutside_run (l r : Int) (ins : List Int) (x : Int) (rest : List Int)
    (hin : ∀ y ∈ ins, inside l r y = true) (hx : inside l r x = false) :
    firstOutside l r (ins ++ x :: rest) = some x := by
  induction ins with
  | nil => simp [firstOutside, hx]
  | cons a t ih =>
    have ha := hin a (by simp)
    simp only [List.cons_append, firstOutside, ha, if_true]
    exact ih (fun y hy => hin y (by simp [hy]))

open Infretis.WF in
theorem weight_pos_of_block (l r : Int) (A B insL insR : List Int) (a b x : Int)
    (hL : ∀ y ∈ insL, inside l r y = true) (hR : ∀ y ∈ insR, inside l r y = true)
    (hx : inside l r x = true) (ha : inside l r a = false) (hb : inside l r b = false)
    (hab : ¬ (a ≥ r ∧ b ≥ r)) :
    0 < weight l r (A ++ a :: (insL.reverse ++ x :: (insR ++ b :: B))) := by
  refine (weight_pos_iff l r _).2 ⟨A ++ a :: insL.reverse, x, insR ++ b :: B, by simp, ?_⟩
  have e : (A ++ a :: insL.reverse).reverse = insL ++ a :: A.reverse := by simp
  rw [e]
  unfold validAt
  rw [firstOutside_run l r insL a _ hL ha, firstOutside_run l r insR b _ hR hb, hx]
  simp only [closes, Bool.true_and, Bool.not_eq_true', Bool.and_eq_false_iff, decide_eq_false_iff_not]
  by_cases h1 : a ≥ r
  · right; intro h2; exact hab ⟨h1, h2⟩
  · left; exact h1

open Infretis.WF in
theorem wf_acc_weight_pos_aux (v : Variant) (i : WfIn) (o : WfOut) (h : wireFencing v i = .ok o) (hs : o.status = .ACC)
    (hsc : ¬ (i.scEns.hasL = true ∧ i.scEns.hasR = true))
    (hgen : ∀ y ∈ o.path, y ≠ capOf i) :
    0 < weight i.m (capOf i) o.path ∧ i.l ≤ capOf i ∧ o.path ≠ [] := by
  obtain ⟨kick, preB, preF, xB, xF, A, B, S⟩ := wf_acc_shape v i o h hs
  obtain ⟨_, first, hfirst, _⟩ := S.start
  have hne : o.path ≠ [] := fun e => by rw [e] at hfirst; cases hfirst
  refine ⟨?_, S.lcap, hne⟩
  have hft : fullTrial kick preB xB preF xF = xB :: (preB.reverse ++ kick :: (preF ++ [xF])) := by simp [fullTrial]
  have hin := S.inside
  have hk1 : i.m ≤ kick := (hin kick (by simp)).1
  have hk2 := S.kick_lt
  -- no frame of the last accepted trial lies on the cap, so "inside `[m, cap]`" is "inside `[m, cap)`"
  have hsegmem : ∀ y ∈ fullTrial kick preB xB preF xF, y ≠ capOf i := fun y hy =>
    hgen y (by rcases S.path with e | e <;> rw [e] <;> simp [hy])
  rw [hft] at hsegmem
  have hinsB : ∀ y ∈ preB, inside i.m (capOf i) y = true := by
    intro y hy
    have h1 := hin y (by simp [hy])
    have h2 := hsegmem y (by simp [hy])
    rw [inside_iff]; omega
  have hinsF : ∀ y ∈ preF, inside i.m (capOf i) y = true := by
    intro y hy
    have h1 := hin y (by simp [hy])
    have h2 := hsegmem y (by simp [hy])
    rw [inside_iff]; omega
  have hkin : inside i.m (capOf i) kick = true := by rw [inside_iff]; omega
  have hxBo : inside i.m (capOf i) xB = false := by rw [inside_false_iff]; have := S.outB; omega
  have hxFo : inside i.m (capOf i) xF = false := by rw [inside_false_iff]; have := S.outF; omega
  have hab : ¬ (xB ≥ capOf i ∧ xF ≥ capOf i) := by
    rcases S.cross with hc | ⟨y, hy, hym⟩
    · exact absurd hc hsc
    · simp only [hft, List.mem_cons, List.mem_append, List.mem_reverse, List.not_mem_nil, or_false] at hy
      rcases hy with e | e | e | e | e
      · subst e; omega
      · have := hin y (by simp [e]); omega
      · subst e; omega
      · have := hin y (by simp [e]); omega
      · subst e; omega
  rcases S.path with e | e
  · rw [e, hft]
    have := weight_pos_of_block i.m (capOf i) A.reverse B preB preF xB xF kick hinsB hinsF hkin hxBo hxFo hab
    simpa using this
  · rw [e, hft]
    have := weight_pos_of_block i.m (capOf i) B.reverse A preF preB xF xB kick hinsF hinsB hkin hxFo hxBo
      (fun hh => hab ⟨hh.2, hh.1⟩)
    simpa using this

/-- the boundary witness: sub-path `1, 6, 3, 6, 1` with two frames exactly on the cap (= `r` = 6) -/
def wfCapEx : WfIn where
  old := [-1, 1, 3, 1, -1]
  oldTimeOrigin := 0
  l := 0
  m := 2
  r := 6
  cap := none
  maxlength := 12
  nJumps := 1
  sc := ⟨true, false⟩
  scEns := ⟨true, false⟩
  xiSeg := 1 / 2
  jumps := [{ idx := 1, kick := 3, back := [6, 1], forw := [6, 1] }]
  extBack := [-1, 0, 0, 0, 0, 0, 0, 0, 0, 0, 0, 0]
  extForw := [-1, 0, 0, 0, 0, 0, 0, 0, 0, 0, 0, 0]

theorem wfCapEx_eval : (wireFencing .repaired wfCapEx).toOption = some
    { accept := true, status := .ACC, path := [-1, 1, 6, 3, 6, 1, -1], returnedOld := false, oldRewritten := false,
      genSucc := 1, genLen := 7, timeOrigin := -2, draws := [.random, .integers 1 2] } := by decide +kernel

end Infretis.Moves
