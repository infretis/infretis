import Infretis.Lemmas.RepexC05Inv
import Infretis.Lemmas.RepexC03Treat
/-!
# C05 — `sort_trajstate` terminates (any number of workers) and leaves a non-zero diagonal

One iteration of the loop, from a state satisfying `Core` and `Fam`:
the first slot `e` with a zero diagonal is idle and holds a plus row with `cnt < e` positive
weights; the column the code looks at is `z = cnt + 1 ≤ e`; by Frobenius–König (`no_gap`) an idle
slot `t < z` whose row reaches `z` exists, so neither `.index` call fails and the slot `tj` the
code picks satisfies `tj < z`; after `swap(e, tj)` slot `tj` is good and slot `e` holds a row
with strictly more positive weights.  The measure `mu = Σ_slots (slot − #positive weights of its
row)` (truncated subtraction) strictly decreases and is at most `n²`.
-/
namespace Infretis.Repex
open Infretis.Perm Infretis.Perm.C05

def wsum {α : Type} (g : Nat → α → Nat) : Nat → List α → Nat
  | _, [] => 0
  | k, x :: xs => g k x + wsum g (k + 1) xs

theorem wsum_set {α : Type} (g : Nat → α → Nat) : ∀ (l : List α) (k i : Nat) (x : α) (hi : i < l.length),
    wsum g k (l.set i x) + g (k + i) l[i] = wsum g k l + g (k + i) x := by
  intro l
  induction l with
  | nil => intro k i x hi; simp at hi
  | cons a t ih =>
    intro k i x hi
    cases i with
    | zero => simp only [List.set_cons_zero, wsum, Nat.add_zero, List.getElem_cons_zero]; omega
    | succ i =>
      simp only [List.length_cons, Nat.add_lt_add_iff_right] at hi
      have := ih (k + 1) i x hi
      simp only [List.set_cons_succ, wsum, List.getElem_cons_succ]
      rw [show k + (i + 1) = k + 1 + i from by omega]
      omega

theorem wsum_swap {α : Type} (g : Nat → α → Nat) (l : List α) (i j : Nat) (hi : i < l.length)
    (hj : j < l.length) (hij : i ≠ j) :
    wsum g 0 (swapList l i j) + g i l[i] + g j l[j] = wsum g 0 l + g i l[j] + g j l[i] := by
  rw [Infretis.Repex.swapList_eq_of_lt l i j hi hj]
  have h1 := wsum_set g l 0 i l[j] hi
  have hj' : j < (l.set i l[j]).length := by rw [List.length_set]; exact hj
  have h2 := wsum_set g (l.set i l[j]) 0 j l[i] hj'
  have h3 : (l.set i l[j])[j] = l[j] := by
    rw [List.getElem_set_ne hij]
  rw [h3] at h2
  simp only [Nat.zero_add] at h1 h2
  omega

theorem wsum_le {α : Type} (g : Nat → α → Nat) (hg : ∀ i x, g i x ≤ i) : ∀ (l : List α) (k : Nat),
    wsum g k l ≤ l.length * (k + l.length) := by
  intro l
  induction l with
  | nil => intro k; simp [wsum]
  | cons a t ih =>
    intro k
    have := ih (k + 1)
    have hga := hg k a
    simp only [wsum, List.length_cons]
    calc g k a + wsum g (k + 1) t ≤ k + t.length * (k + 1 + t.length) := by omega
      _ ≤ (t.length + 1) * (k + (t.length + 1)) := by
        rw [Nat.add_mul, Nat.one_mul]
        have : k + 1 + t.length = k + (t.length + 1) := by omega
        rw [this]
        omega

/-- position of the first zero after column 0 = number of positive weights of a plus row -/
def lastOf (r : Row) : Nat := (r.drop 1).findIdx (· == 0)

theorem getD_eq_getElem {r : Row} {c : Nat} (hc : c < r.length) : r.getD c 0 = r[c] := by
  rw [List.getD_eq_getElem?_getD, List.getElem?_eq_getElem hc]; rfl

theorem lastOf_plus {n cnt : Nat} {r : Row} (h : IsPlusRow 1 n cnt r) (hc : 1 + cnt ≤ n - 1) :
    lastOf r = cnt := by
  obtain ⟨hlen, _, _, hp, hz⟩ := h
  unfold lastOf
  have hl : cnt < (r.drop 1).length := by rw [List.length_drop]; omega
  rw [List.findIdx_eq hl]
  constructor
  · rw [List.getElem_drop]
    have := hz (1 + cnt) (Nat.le_refl _) (by omega)
    rw [getD_eq_getElem (by omega)] at this
    simp [this]
  · intro j hj
    rw [List.getElem_drop]
    have := hp (1 + j) (by omega) (by omega)
    rw [getD_eq_getElem (by omega)] at this
    simp only [beq_eq_false_iff_ne, ne_eq]
    exact ne_of_gt this

/-- what the code computes: the first zero among the columns `1 … n-2` -/
theorem mid_findIdx_plus {n cnt : Nat} {r : Row} (h : IsPlusRow 1 n cnt r) (hc : cnt < n - 2) :
    ((r.drop 1).dropLast).findIdx (· == 0) = cnt ∧ cnt < ((r.drop 1).dropLast).length := by
  have hl : cnt < ((r.drop 1).dropLast).length := by
    rw [List.length_dropLast, List.length_drop, h.1]; omega
  have hlast : (r.drop 1).findIdx (· == 0) = cnt := lastOf_plus h (by omega)
  refine ⟨?_, hl⟩
  rw [List.length_dropLast] at hl
  rw [List.dropLast_eq_take, List.findIdx_take, hlast]
  omega

/-- the termination measure of `sort_trajstate` -/
def mu (s : St) : Nat := wsum (fun i r => i - lastOf r) 0 s.W

theorem mu_le (s : St) (hlen : s.W.length = s.n) : mu s ≤ s.n * s.n := by
  unfold mu
  have := wsum_le (fun i (r : Row) => i - lastOf r) (fun i x => Nat.sub_le _ _) s.W 0
  rw [hlen] at this
  simpa using this

theorem rowOk_entry_zero_vanish {n i : Nat} {r : Row} (h : RowOk n i r) (z : Nat) (hz1 : 1 ≤ z)
    (hzero : r.getD z 0 = 0) : ∀ c, z ≤ c → r.getD c 0 = 0 := by
  intro c hc
  rcases Nat.eq_zero_or_pos i with hi | hi
  · obtain ⟨hlen, _, hz⟩ := h.1 hi
    rcases Nat.lt_or_ge c n with hcn | hcn
    · exact hz c (by omega) hcn
    · rw [List.getD_eq_getElem?_getD, List.getElem?_eq_none (by omega)]; rfl
  · obtain ⟨cnt, ⟨hlen, _, _, hp, hz'⟩, _⟩ := h.2 hi
    have hzc : 1 + cnt ≤ z := by
      by_contra hlt
      have := hp z hz1 (by omega)
      rw [hzero] at this
      exact lt_irrefl _ this
    rcases Nat.lt_or_ge c n with hcn | hcn
    · exact hz' c (by omega) hcn
    · rw [List.getD_eq_getElem?_getD, List.getElem?_eq_none (by omega)]; rfl

theorem idle_not_lockedPath {s : St} {H : List (Nat × Nat)} {tn : Nat} (hc : CoreR s H tn) (t : Nat)
    (ht : s.locks[t]? = some false) : s.trajs.getD t none ∉ lockedPaths s := by
  intro hm
  obtain ⟨j, hj, _, hjt, hjl⟩ := mem_lockedPaths_iff.mp hm
  have ht' := hc.unlocked_lt t ht
  rw [hc.lenT] at hj
  obtain ⟨pn, hpn, _⟩ := hc.live t ht'
  rw [List.getD_eq_getElem?_getD, hpn] at hjt
  simp only [Option.getD_some] at hjt
  have := hc.inj j t pn hj ht' hjt hpn
  subst this
  rw [ht] at hjl
  exact absurd hjl (by simp)

theorem sortStep_none_of_not {s : St} (h : ¬((needsToMove s).contains true ∧ s.toinitiate = -1)) :
    sortStep s = .ok none := by
  unfold sortStep
  simp only []
  rw [if_pos h]

theorem needsToMove_first {s : St} (h : (needsToMove s).contains true = true) :
    ∃ e, (needsToMove s).findIdx (· == true) = e ∧ e < s.n - 1 ∧ entryM s.W e e = 0 := by
  have hex : ∃ x, x ∈ needsToMove s ∧ (x == true) = true :=
    ⟨true, List.contains_iff_mem.mp h, rfl⟩
  have h1 := List.findIdx_lt_length_of_exists hex
  have h1v := List.findIdx_getElem (w := h1)
  have hlen : (needsToMove s).length = s.n - 1 := by simp [needsToMove]
  refine ⟨_, rfl, by rw [← hlen]; exact h1, ?_⟩
  simpa only [needsToMove, List.getElem_map, List.getElem_range, beq_iff_eq] using h1v

/-- the slot `tj` the code swaps with: the first real slot, not a locked path, whose row is non-zero
    in column `z`; an idle slot `t` with such a row bounds it -/
theorem avail_first {s : St} {H : List (Nat × Nat)} {tn : Nat} (hc : CoreR s H tn) (z t : Nat)
    (htI : s.locks[t]? = some false) (htw : entryM s.W t z ≠ 0) :
    ∃ tj, ((List.range (s.n - 1)).map (fun i =>
        (entryM s.W i z != 0) && !((lockedPaths s).contains (s.trajs.getD i none)))).findIdx (· == true) = tj ∧
      tj ≤ t ∧ s.locks[tj]? = some false ∧ entryM s.W tj z ≠ 0 := by
  have ht := hc.unlocked_lt t htI
  generalize hav : ((List.range (s.n - 1)).map (fun i =>
    (entryM s.W i z != 0) && !((lockedPaths s).contains (s.trajs.getD i none)))) = avail
  have hlen : avail.length = s.n - 1 := by rw [← hav]; simp
  have havt : avail[t]'(by omega) = true := by
    subst hav
    simp only [List.getElem_map, List.getElem_range, Bool.and_eq_true, bne_iff_ne, ne_eq,
      Bool.not_eq_true']
    refine ⟨htw, ?_⟩
    have := idle_not_lockedPath hc t htI
    rw [← List.contains_iff_mem] at this
    simpa using this
  have hle : avail.findIdx (· == true) ≤ t := by
    by_contra hgt
    have := List.not_of_lt_findIdx (p := (· == true)) (xs := avail) (i := t) (by omega)
    rw [havt] at this
    exact absurd this (by simp)
  have hv := List.findIdx_getElem (p := (· == true)) (xs := avail) (w := by omega)
  subst hav
  simp only [List.getElem_map, List.getElem_range, Bool.and_eq_true, bne_iff_ne, ne_eq,
    Bool.not_eq_true', beq_iff_eq] at hv
  exact ⟨_, rfl, hle, idle_of_not_lockedPath hc (by omega) hv.2, hv.1⟩

theorem short_row {s : St} {tn : Nat} (hf : Fam s tn) {e : Nat} (he : e < s.n - 1)
    (hz : entryM s.W e e = 0) :
    ∃ cnt, IsPlusRow 1 s.n cnt (s.W.getD e []) ∧ 1 + cnt ≤ e := by
  have hrow := hf.rows e he
  have hz' : (s.W.getD e []).getD e 0 = 0 := hz
  have he1 : 1 ≤ e := by
    by_contra h0
    obtain rfl : e = 0 := by omega
    obtain ⟨_, hpos, _⟩ := hrow.1 rfl
    rw [hz'] at hpos
    exact lt_irrefl _ hpos
  obtain ⟨cnt, hplus, _⟩ := hrow.2 he1
  refine ⟨cnt, hplus, ?_⟩
  by_contra hlt
  have := hplus.2.2.2.1 e he1 (by omega)
  rw [hz'] at this
  exact lt_irrefl _ this

theorem long_row {s : St} {tn : Nat} (hf : Fam s tn) {t z : Nat} (ht : t < s.n - 1) (hz1 : 1 ≤ z)
    (hzn : z < s.n) (hw : entryM s.W t z ≠ 0) :
    1 ≤ t ∧ ∃ cnt, IsPlusRow 1 s.n cnt (s.W.getD t []) ∧ 1 + cnt ≤ s.n - 1 ∧ z < 1 + cnt := by
  have hrow := hf.rows t ht
  have ht1 : 1 ≤ t := by
    by_contra h0
    obtain rfl : t = 0 := by omega
    obtain ⟨_, _, hz0⟩ := hrow.1 rfl
    exact hw (hz0 z hz1 hzn)
  obtain ⟨cnt, hplus, hcnt⟩ := hrow.2 ht1
  refine ⟨ht1, cnt, hplus, hcnt, ?_⟩
  by_contra hge
  exact hw (hplus.2.2.2.2 z (by omega) hzn)

/-- Frobenius–König for the loop: below the first zero column `cnt + 1` of the row in slot `e` some
    idle slot holds a row reaching that column -/
theorem exists_reaching {s : St} {H : List (Nat × Nat)} {tn tn' : Nat} (hc : CoreR s H tn')
    (hf : Fam s tn) {e cnt : Nat} (heI : s.locks[e]? = some false)
    (hplus : IsPlusRow 1 s.n cnt (s.W.getD e [])) (hcnt : 1 + cnt ≤ e) :
    ∃ t, t < cnt + 1 ∧ s.locks[t]? = some false ∧ entryM s.W t (cnt + 1) ≠ 0 := by
  have hWL : s.W.length = s.locks.length := by rw [hc.lenW, hc.lenL]
  have he := hc.unlocked_lt e heI
  have hvan_e := rowOk_entry_zero_vanish (hf.rows e he) (cnt + 1) (by omega)
    (hplus.2.2.2.2 (cnt + 1) (by omega) (by omega))
  by_contra hno
  apply no_gap s.W s.locks hWL (ne_of_gt hf.perm) e (cnt + 1) heI (by omega) hvan_e
  intro t ht htI
  have hzero : (s.W.getD t []).getD (cnt + 1) 0 = 0 := by
    by_contra hne
    exact hno ⟨t, ht, htI, hne⟩
  exact rowOk_entry_zero_vanish (hf.rows t (hc.unlocked_lt t htI)) (cnt + 1) (by omega) hzero

/-- moving a short row down and a longer row up pays: slot `e` gets the row with more positive
    weights, and the slot `tj ≤ cnt` it came from is satisfied by either row -/
theorem mu_swap_lt {s : St} {e tj cnt cntT : Nat} (heW : e < s.W.length) (htW : tj < s.W.length)
    (hle : lastOf (s.W.getD e []) = cnt) (hlt : lastOf (s.W.getD tj []) = cntT)
    (h1 : 1 + cnt ≤ e) (h2 : tj ≤ cnt) (h3 : cnt < cntT) : mu (swap s e tj) < mu s := by
  have hsw := wsum_swap (fun i (r : Row) => i - lastOf r) s.W e tj heW htW (by omega)
  have hge : s.W[e] = s.W.getD e [] := by
    rw [List.getD_eq_getElem?_getD, List.getElem?_eq_getElem heW]; rfl
  have hgt : s.W[tj] = s.W.getD tj [] := by
    rw [List.getD_eq_getElem?_getD, List.getElem?_eq_getElem htW]; rfl
  simp only [hge, hgt, hle, hlt] at hsw
  show wsum (fun i (r : Row) => i - lastOf r) 0 (swapList s.W e tj) < wsum _ 0 s.W
  omega

theorem sortStep_progress {s : St} {H : List (Nat × Nat)} {tn tn' : Nat} (hc : CoreR s H tn')
    (hf : Fam s tn) :
    sortStep s = .ok none ∨
      ∃ s', sortStep s = .ok (some s') ∧ CoreR s' H tn' ∧ Fam s' tn ∧ mu s' < mu s := by
  by_cases hcond : (needsToMove s).contains true ∧ s.toinitiate = -1
  swap
  · exact Or.inl (sortStep_none_of_not hcond)
  right
  -- the first slot `e` with a zero diagonal is idle and holds a row with `cnt < e` positive weights
  obtain ⟨e, he, he', hz⟩ := needsToMove_first hcond.1
  have heI := idle_of_diag_zero hc he' hz
  obtain ⟨cnt, hplus, hcnte⟩ := short_row hf he' hz
  obtain ⟨hzi, hzilt⟩ := mid_findIdx_plus hplus (by omega)
  -- an idle slot below column `cnt + 1` reaches it, so the slot `tj` the code picks does too
  obtain ⟨t, htz, htI, htw⟩ := exists_reaching hc hf heI hplus hcnte
  obtain ⟨tj, htjdef, htjt, htjI, htjw⟩ := avail_first hc (cnt + 1) t htI htw
  have htj' := hc.unlocked_lt tj htjI
  obtain ⟨htj1, cntT, hplusT, hcntT, hreachT⟩ := long_row hf htj' (by omega) (by omega) htjw
  have hstep : sortStep s = .ok (some (swap s e tj)) := by
    unfold sortStep
    simp only []
    rw [if_neg (not_not.mpr hcond), he, hzi, if_neg (by omega), htjdef,
      if_neg (by rw [List.length_map, List.length_range]; omega)]
  have hWL : s.W.length = s.locks.length := by rw [hc.lenW, hc.lenL]
  refine ⟨swap s e tj, hstep, swap_coreR hc e tj heI htjI (Or.inl (by rw [hcond.2]; decide)), ?_, ?_⟩
  · obtain ⟨hr, hwt⟩ := swap_rows_wts hf hc.lenW hc.lenT e tj he' htj' (by omega)
    refine ⟨hr, ?_, hwt, hf.wkeys, hf.fkeys, hf.rkeys⟩
    show 0 < permC (idle (swapList s.W e tj) s.locks)
    rw [permC_perm (idle_swap_perm s.W s.locks e tj heI htjI)]
    exact hf.perm
  · exact mu_swap_lt (by rw [hc.lenW]; omega) (by rw [hc.lenW]; omega)
      (lastOf_plus hplus (by omega)) (lastOf_plus hplusT hcntT) hcnte (by omega) (by omega)

/-- **the sort runs to its end, whatever the fuel**: from a state satisfying the invariants there is a run of
    `sort_trajstate`; it keeps the invariants and is no longer than the measure it uses up -/
theorem sorts_exists {s : St} {H : List (Nat × Nat)} {tn tn' : Nat} (hc : CoreR s H tn') (hf : Fam s tn) :
    ∃ s' k, Sorts s s' k ∧ CoreR s' H tn' ∧ Fam s' tn ∧ k + mu s' ≤ mu s := by
  induction hm : mu s using Nat.strong_induction_on generalizing s with
  | _ m ih =>
    rcases sortStep_progress hc hf with hnone | ⟨s1, hsome, hc1, hf1, hlt⟩
    · exact ⟨s, 0, .done hnone, hc, hf, by omega⟩
    · obtain ⟨s', k, hs, hc', hf', hle⟩ := ih (mu s1) (hm ▸ hlt) hc1 hf1 rfl
      exact ⟨s', k + 1, .step hsome hs, hc', hf', by omega⟩

theorem sortTrajstate_inv {s s' : St} {H : List (Nat × Nat)} {tn tn' k : Nat}
    (hc : CoreR s H tn') (hf : Fam s tn) (h : Sorts s s' k) :
    CoreR s' H tn' ∧ Fam s' tn ∧ sortStep s' = .ok none ∧ k + mu s' ≤ mu s := by
  obtain ⟨s2, k2, hs, hc2, hf2, hle⟩ := sorts_exists hc hf
  obtain ⟨rfl, rfl⟩ := h.unique hs
  exact ⟨hc2, hf2, hs.fix, hle⟩

theorem sortTrajstate_stall_of_two_cycle {s s' : St} (h : sortStep s = .ok (some s'))
    (h' : sortStep s' = .ok (some s)) (fuel : Nat) :
    sortTrajstate fuel s = .error .stall ∧ sortTrajstate fuel s' = .error .stall := by
  induction fuel with
  | zero => exact ⟨rfl, rfl⟩
  | succ fuel ih => exact ⟨by simp only [sortTrajstate, h, ih.2], by simp only [sortTrajstate, h', ih.1]⟩

theorem diag_of_sortStep_none {s : St} (h : sortStep s = .ok none) (hto : s.toinitiate = -1) :
    ∀ i, i < s.n - 1 → entryM s.W i i ≠ 0 := by
  unfold sortStep at h
  simp only [] at h
  split at h
  · rename_i hcond
    intro i hi hzero
    apply hcond
    refine ⟨?_, hto⟩
    rw [List.contains_iff_mem]
    unfold needsToMove
    rw [List.mem_map]
    exact ⟨i, List.mem_range.mpr hi, by simp [hzero]⟩
  · split at h
    · exact absurd h (by simp)
    · split at h
      · exact absurd h (by simp)
      · simp at h

theorem sorts_lockedSlots {s s' : St} {H : List (Nat × Nat)} {tn k : Nat}
    (hc : CoreR s H tn) (h : Sorts s s' k) :
    ∀ i : Nat, s.locks[i]? = some true → s'.W[i]? = s.W[i]? ∧ s'.trajs[i]? = s.trajs[i]? := by
  induction h with
  | done => exact fun _ _ => ⟨rfl, rfl⟩
  | @step s _ _ _ h1 _ ih =>
    have hc1 := sortStep_coreR hc h1
    obtain ⟨e, t, rfl, _, heI, htI⟩ := sortStep_idle hc h1
    have h4 := ih hc1
    have he' := hc.unlocked_lt e heI
    have ht' := hc.unlocked_lt t htI
    intro i hi
    have hie : i ≠ e := by intro hh; rw [hh, heI] at hi; exact absurd hi (by simp)
    have hit : i ≠ t := by intro hh; rw [hh, htI] at hi; exact absurd hi (by simp)
    obtain ⟨h41, h42⟩ := h4 i hi
    refine ⟨h41.trans ?_, h42.trans ?_⟩
    · show (swapList s.W e t)[i]? = _
      rw [swapList_get _ _ _ _ (by rw [hc.lenW]; omega) (by rw [hc.lenW]; omega), swapIdx_of_ne hie hit]
    · show (swapList s.trajs e t)[i]? = _
      rw [swapList_get _ _ _ _ (by rw [hc.lenT]; omega) (by rw [hc.lenT]; omega), swapIdx_of_ne hie hit]

end Infretis.Repex
