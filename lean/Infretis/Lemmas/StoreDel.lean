import Infretis.Model.Store
import Infretis.Lemmas.Assoc
import Infretis.Lemmas.ListAux
/-!
C14, part B: the delete_old block and the pn_olds FIFO.  Deleting the queue head raises or pops, and touches only what
belongs to the head (`Wipes`); the delete block is a relation on what it reads and writes (`DelBlock`), with the facts
that do not depend on which way it went (`DelBlock.keeps`, `.keeps_dir`, `.keys_sub`).  In between, the model's dicts
as `Assoc` lists (`lookup_eq`, `dictSet_eq`), which the delete block and every later file read them through.
-/
namespace Infretis.Store

def keys {α : Type} (l : List (Nat × α)) : List Nat := l.map (·.1)

theorem removeAll_spec : ∀ (fs d : List DFile),
    ∃ k, (removeAll fs d).1 = d.filter (fun g => decide (g ∉ fs.take k)) ∧
      ((removeAll fs d).2 = none → fs.take k = fs) ∧
      (fs.Nodup → (∀ f ∈ fs, f ∈ d) → (removeAll fs d).2 = none) := by
  have stop : ∀ (fs d : List DFile), d = d.filter (fun g => decide (g ∉ fs.take 0)) := fun fs d =>
    (List.filter_eq_self.mpr (fun _ _ => by simp)).symm
  intro fs
  induction fs with
  | nil => exact fun d => ⟨0, stop [] d, fun _ => rfl, fun _ _ => rfl⟩
  | cons f fs ih =>
    intro d
    unfold removeAll
    split
    · obtain ⟨k, h1, h2, h3⟩ := ih (d.filter (· ≠ f))
      refine ⟨k + 1, ?_, fun h => by rw [List.take_succ_cons, h2 h], fun hnd hin => ?_⟩
      · rw [h1, List.filter_filter]
        refine List.filter_congr (fun g _ => ?_)
        simp only [List.take_succ_cons, List.mem_cons, not_or, ne_eq, Bool.decide_and, Bool.and_comm]
      · rw [List.nodup_cons] at hnd
        refine h3 hnd.2 (fun g hg => List.mem_filter.mpr ⟨hin g (List.mem_cons_of_mem _ hg), ?_⟩)
        simpa using fun e : g = f => hnd.1 (e ▸ hg)
    · rename_i hf
      exact ⟨0, stop _ d, nofun, fun _ hin => absurd (hin f List.mem_cons_self) hf⟩

theorem removeAll_sub (fs d : List DFile) (g : DFile) (h : g ∈ (removeAll fs d).1) : g ∈ d := by
  obtain ⟨k, h1, _⟩ := removeAll_spec fs d
  rw [h1] at h
  exact (List.mem_filter.mp h).1

theorem removeAll_keeps (fs d : List DFile) (g : DFile) (h : g ∈ d) (hn : g ∉ fs) : g ∈ (removeAll fs d).1 := by
  obtain ⟨k, h1, _⟩ := removeAll_spec fs d
  rw [h1]
  exact List.mem_filter.mpr ⟨h, by simpa using fun hm => hn (List.mem_of_mem_take hm)⟩

theorem removeAll_gone (fs d : List DFile) (hok : (removeAll fs d).2 = none) (g : DFile) (hg : g ∈ fs) :
    g ∉ (removeAll fs d).1 := by
  obtain ⟨k, h1, h2, _⟩ := removeAll_spec fs d
  rw [h1, h2 hok]
  simp [hg]

theorem removeAll_ok (fs d : List DFile) (hnd : fs.Nodup) (hin : ∀ f ∈ fs, f ∈ d) : (removeAll fs d).2 = none := by
  obtain ⟨_, _, _, h3⟩ := removeAll_spec fs d
  exact h3 hnd hin

theorem mem_removeTxts (pn : Nat) (d : List DFile) (g : DFile) :
    g ∈ removeTxts pn d ↔ g ∈ d ∧ g ≠ .txt pn 0 ∧ g ≠ .txt pn 1 ∧ g ≠ .txt pn 2 := by
  simp [removeTxts, List.mem_filter]

theorem sideFiles_pn (pd : Nat) (adr keep : List String) (g : DFile) (h : g ∈ sideFiles pd adr keep) : g.pn = pd := by
  simp only [sideFiles, List.mem_flatMap, List.mem_map] at h
  obtain ⟨a, _, e, _, rfl⟩ := h
  rfl

theorem mem_removeLeftovers (pd : Nat) (d : List DFile) (g : DFile) :
    g ∈ removeLeftovers pd d ↔ g ∈ d ∧ isAccOf pd g = false := by
  simp [removeLeftovers, List.mem_filter]

theorem isAccOf_pn (pd : Nat) (g : DFile) (h : isAccOf pd g = true) : g.pn = pd := by
  cases g with
  | txt p k => simp [isAccOf] at h
  | acc p nm => simpa [isAccOf, DFile.pn] using h

theorem mem_cleanDir (c : DelCfg) (pd : Nat) (adr : List String) (d : List DFile) (g : DFile) :
    g ∈ cleanDir c pd adr d ↔ g ∈ d ∧ (g ≠ .txt pd 0 ∧ g ≠ .txt pd 1 ∧ g ≠ .txt pd 2) ∧
      (c.variant = .repaired → g ∉ sideFiles pd adr c.keep ∧ isAccOf pd g = false) := by
  unfold cleanDir
  cases hv : c.variant
  · simp [mem_removeTxts]
  · simp [mem_removeTxts, mem_removeLeftovers, removeSides, List.mem_filter, and_assoc, and_left_comm]

/-- the delete_old_all branch removes files of `load/pd` only -/
theorem cleanDir_keeps (c : DelCfg) (pd : Nat) (adr : List String) (d : List DFile) (g : DFile)
    (hg : g ∈ d) (hne : g.pn ≠ pd) : g ∈ cleanDir c pd adr d :=
  (mem_cleanDir c pd adr d g).mpr ⟨hg, ⟨fun e => hne (e ▸ rfl), fun e => hne (e ▸ rfl), fun e => hne (e ▸ rfl)⟩,
    fun _ => ⟨fun hs => hne (sideFiles_pn _ _ _ _ hs), by
      cases hacc : isAccOf pd g with
      | false => rfl
      | true => exact absurd (isAccOf_pn pd g hacc) hne⟩⟩

/-- what deleting the head `hd` of the queue may do to files and directories: nothing new appears, and whatever
    does not belong to the head stays -/
structure Wipes (hd : Option Nat) (disk disk' : List DFile) (dirs dirs' : List DDir) : Prop where
  sub : ∀ g ∈ disk', g ∈ disk
  files : ∀ g ∈ disk, hd ≠ some g.pn → g ∈ disk'
  dirs : ∀ d ∈ dirs, (∀ pd, hd = some pd → d ≠ .accepted pd ∧ d ≠ .path pd) → d ∈ dirs'

theorem Wipes.refl (hd : Option Nat) (disk : List DFile) (dirs : List DDir) : Wipes hd disk disk dirs dirs :=
  ⟨fun _ h => h, fun _ h _ => h, fun _ h _ => h⟩

theorem rmdirs_keeps (pd : Nat) (disk : List DFile) (dirs : List DDir) (d : DDir) (hd : d ∈ dirs)
    (hne : d ≠ .accepted pd ∧ d ≠ .path pd) : d ∈ (rmdirs pd disk dirs).1 := by
  have m1 : d ∈ dirs.filter (· ≠ .accepted pd) := List.mem_filter.mpr ⟨hd, by simpa using hne.1⟩
  have m2 : d ∈ (dirs.filter (· ≠ .accepted pd)).filter (· ≠ .path pd) :=
    List.mem_filter.mpr ⟨m1, by simpa using hne.2⟩
  unfold rmdirs
  split
  · exact hd
  · split
    · exact hd
    · dsimp only
      split
      · exact m1
      · split
        · exact m1
        · exact m2

/-- **the body of the delete block**: it raises and leaves the queue alone, or it pops the head, whose `adress`
    files are gone then; either way only what belongs to the head is touched -/
theorem delHeadCore_cases (c : DelCfg) (olds : List (Nat × List String)) (disk : List DFile) (dirs : List DDir) :
    ∃ disk' dirs', Wipes (keys olds).head? disk disk' dirs dirs' ∧
      ((∃ e, delHeadCore c olds disk dirs = (olds, disk', dirs', some e)) ∨
       (∃ pd adr rest, olds = (pd, adr) :: rest ∧ (∀ a ∈ adr, DFile.acc pd a ∉ disk') ∧
          delHeadCore c olds disk dirs = (rest, disk', dirs', none))) := by
  cases olds with
  | nil => exact ⟨disk, dirs, .refl _ _ _, .inl ⟨_, rfl⟩⟩
  | cons x rest =>
    obtain ⟨pd, adr⟩ := x
    -- the two stages: the `adress` files, then (delete_old_all) the rest of the directory
    have w1 : Wipes (some pd) disk (removeAll (adr.map (DFile.acc pd)) disk).1 dirs dirs :=
      ⟨removeAll_sub _ _, fun g hg hn => removeAll_keeps _ _ g hg (fun hm => by
        obtain ⟨a, _, rfl⟩ := List.mem_map.mp hm; exact hn rfl), fun _ h _ => h⟩
    have w2 : Wipes (some pd) disk (cleanDir c pd adr (removeAll (adr.map (DFile.acc pd)) disk).1) dirs
        (rmdirs pd (cleanDir c pd adr (removeAll (adr.map (DFile.acc pd)) disk).1) dirs).1 :=
      ⟨fun g hg => w1.sub g ((mem_cleanDir ..).mp hg).1,
       fun g hg hn => cleanDir_keeps c pd adr _ g (w1.files g hg hn) (fun e => hn (e ▸ rfl)),
       fun d hd hn => rmdirs_keeps pd _ dirs d hd (hn pd rfl)⟩
    unfold delHeadCore
    dsimp only
    split
    · exact ⟨_, _, w1, .inl ⟨_, rfl⟩⟩
    · rename_i hr
      split
      · split
        · exact ⟨_, _, w2, .inl ⟨_, rfl⟩⟩
        · exact ⟨_, _, w2, .inr ⟨pd, adr, rest, rfl,
            fun a ha hin => removeAll_gone _ _ hr _ (List.mem_map_of_mem ha) ((mem_cleanDir ..).mp hin).1, rfl⟩⟩
      · exact ⟨_, _, w1, .inr ⟨pd, adr, rest, rfl, fun a ha => removeAll_gone _ _ hr _ (List.mem_map_of_mem ha), rfl⟩⟩

/-! ### the dicts: `lookup`, `dictSet`, `erase` are `List.lookup`, `Assoc.set`, a `filter` on the key -/

theorem lookup_eq {α : Type} (k : Nat) (l : List (Nat × α)) : lookup k l = l.lookup k := by
  induction l with
  | nil => rfl
  | cons e t ih =>
    obtain ⟨k', v⟩ := e
    rw [lookup, List.lookup_cons, ih]
    by_cases h : k' = k
    · simp [h]
    · have : (k == k') = false := by simpa using fun e : k = k' => h e.symm
      simp [h, this]

theorem dictSet_eq {α : Type} (k : Nat) (v : α) (l : List (Nat × α)) : dictSet k v l = Assoc.set k v l := by
  induction l with
  | nil => rfl
  | cons e t ih => simp [dictSet, Assoc.set, ih]

theorem keys_length {α : Type} (l : List (Nat × α)) : (keys l).length = l.length := by simp [keys]

theorem keys_dictSet {α : Type} (k : Nat) (v : α) (l : List (Nat × α)) :
    keys (dictSet k v l) = if k ∈ keys l then keys l else keys l ++ [k] :=
  dictSet_eq k v l ▸ Assoc.keys_set k v l

theorem mem_keys_dictSet {α : Type} (k : Nat) (v : α) (l : List (Nat × α)) (q : Nat) :
    q ∈ keys (dictSet k v l) ↔ q = k ∨ q ∈ keys l := by
  rw [keys_dictSet]
  split
  · rename_i hk
    exact ⟨.inr, fun h => h.elim (fun e => e ▸ hk) id⟩
  · simp only [List.mem_append, List.mem_singleton]
    exact Or.comm

theorem mem_dictSet {α : Type} (k : Nat) (v : α) (l : List (Nat × α)) (e : Nat × α) (h : e ∈ dictSet k v l) :
    e ∈ l ∨ e = (k, v) :=
  Assoc.mem_set (dictSet_eq k v l ▸ h)

theorem length_dictSet {α : Type} (k : Nat) (v : α) (l : List (Nat × α)) :
    (dictSet k v l).length = if k ∈ keys l then l.length else l.length + 1 :=
  dictSet_eq k v l ▸ Assoc.length_set k v l

theorem lookup_cons_ne {α : Type} (k k' : Nat) (v : α) (l : List (Nat × α)) (h : k' ≠ k) :
    lookup k ((k', v) :: l) = lookup k l := by
  simp [lookup, h]

theorem lookup_mem {α : Type} (k : Nat) (l : List (Nat × α)) (v : α) (h : lookup k l = some v) : (k, v) ∈ l :=
  Assoc.mem_of_lookup (lookup_eq k l ▸ h)

theorem lookup_keys {α : Type} (k : Nat) (l : List (Nat × α)) (v : α) (h : lookup k l = some v) : k ∈ keys l :=
  Assoc.mem_keys_of_lookup (lookup_eq k l ▸ h)

theorem lookup_erase_ne {α : Type} (k k' : Nat) (h : k' ≠ k) (l : List (Nat × α)) :
    lookup k (erase k' l) = lookup k l := by
  rw [lookup_eq, lookup_eq, erase, Assoc.lookup_filter l (fun a => decide (a ≠ k')) k, if_pos (by simpa using h.symm)]

/-- the delete block run for the replacement of `pnOld` pops the queue head `pd`: the replaced path
    qualifies and the queue is full -/
def Pops (s : St) (pnOld pd : Nat) : Prop :=
  qualifies s pnOld = true ∧ ((s.pnOlds.length : Int) > (s.n : Int) - 2) ∧ (keys s.pnOlds).head? = some pd

theorem Pops.mem_keys {s : St} {pnOld pd : Nat} (h : Pops s pnOld pd) : pd ∈ keys s.pnOlds :=
  List.mem_of_mem_head? (h.2.2 ▸ rfl)

theorem Pops.idxOf {s : St} {pnOld pd : Nat} (h : Pops s pnOld pd) : (keys s.pnOlds).idxOf pd = 0 := by
  have h3 := h.2.2
  cases hk : keys s.pnOlds with
  | nil => rw [hk] at h3; cases h3
  | cons a t =>
    rw [hk] at h3
    cases h3
    exact List.idxOf_cons_self

/-- **The delete block as a relation** on what it reads (`q`: the replaced path qualifies; `n`; the queue, the files
    and the directories before) and writes (the same three after, and the exception): the four ways through
    `delBlock`.  `skip`: the replaced path does not qualify; `push`: room in the queue; `raise`: the queue is full
    and deleting its head raises; `pop`: the head `pd` is deleted — its `adress` files are gone — and `pnOld` is
    queued if the rest leaves room (it does, and `pnOld` comes last, under the invariants: `replace_queue` in
    `StoreLag`). -/
inductive DelBlock (c : DelCfg) (q : Bool) (n pnOld : Nat) (adr : List String) (olds₀ : List (Nat × List String))
    (disk₀ : List DFile) (dirs₀ : List DDir) :
    List (Nat × List String) → List DFile → List DDir → Option Err → Prop
  | skip (hq : q = false) : DelBlock c q n pnOld adr olds₀ disk₀ dirs₀ olds₀ disk₀ dirs₀ none
  | push (hq : q = true) (hl : ¬ ((olds₀.length : Int) > (n : Int) - 2)) :
      DelBlock c q n pnOld adr olds₀ disk₀ dirs₀ (dictSet pnOld adr olds₀) disk₀ dirs₀ none
  | raise (e : Err) (disk : List DFile) (dirs : List DDir) (hq : q = true)
      (hl : (olds₀.length : Int) > (n : Int) - 2) (hw : Wipes (keys olds₀).head? disk₀ disk dirs₀ dirs)
      (hr : (delHeadCore c olds₀ disk₀ dirs₀).2.2.2 = some e) :
      DelBlock c q n pnOld adr olds₀ disk₀ dirs₀ olds₀ disk dirs (some e)
  | pop (pd : Nat) (adrd : List String) (rest : List (Nat × List String)) (disk : List DFile) (dirs : List DDir)
      (hq : q = true) (hl : (olds₀.length : Int) > (n : Int) - 2)
      (ho : olds₀ = (pd, adrd) :: rest) (hw : Wipes (some pd) disk₀ disk dirs₀ dirs)
      (hgone : ∀ a ∈ adrd, DFile.acc pd a ∉ disk) :
      DelBlock c q n pnOld adr olds₀ disk₀ dirs₀
        (if ((rest.length : Int) ≤ (n : Int) - 2) then dictSet pnOld adr rest else rest) disk dirs none

theorem delBlock_rel (s : St) (pnOld : Nat) (adr : List String) :
    ∃ olds disk dirs e, DelBlock s.delCfg (qualifies s pnOld) s.n pnOld adr s.pnOlds s.disk s.dirs olds disk dirs e ∧
      delBlock s pnOld adr = ({ s with pnOlds := olds, disk := disk, dirs := dirs }, e) := by
  unfold delBlock
  by_cases hq : qualifies s pnOld = true
  · by_cases hl : ((s.pnOlds.length : Int) > (s.n : Int) - 2)
    · simp only [hq, hl, if_true, delHead]
      obtain ⟨disk, dirs, hw, ⟨e, he⟩ | ⟨pd, adrd, rest, ho, hgone, he⟩⟩ :=
        delHeadCore_cases s.delCfg s.pnOlds s.disk s.dirs
      · exact ⟨_, _, _, _, .raise e disk dirs rfl hl hw (by rw [he]), by rw [he]⟩
      · refine ⟨_, _, _, _, .pop pd adrd rest disk dirs rfl hl ho (by rw [ho] at hw; exact hw) hgone, ?_⟩
        rw [he]
        dsimp only
        split <;> rfl
    · have : (s.pnOlds.length : Int) ≤ (s.n : Int) - 2 := by omega
      exact ⟨_, _, _, _, .push hq hl, by simp only [hq, hl, if_true, if_false, this]⟩
  · have hq : qualifies s pnOld = false := by simpa using hq
    exact ⟨_, _, _, _, .skip hq, by simp [hq]⟩

namespace DelBlock
variable {c : DelCfg} {q : Bool} {n pnOld : Nat} {adr : List String} {olds₀ olds : List (Nat × List String)}
  {disk₀ disk : List DFile} {dirs₀ dirs : List DDir} {e : Option Err}

theorem sub (h : DelBlock c q n pnOld adr olds₀ disk₀ dirs₀ olds disk dirs e) : ∀ g ∈ disk, g ∈ disk₀ := by
  cases h with
  | skip _ | push _ _ => exact fun _ h => h
  | raise _ _ _ _ _ hw _ | pop _ _ _ _ _ _ _ _ hw _ => exact hw.sub

/-- only the head of a full queue loses files (the condition is `Pops`) -/
theorem keeps (h : DelBlock c q n pnOld adr olds₀ disk₀ dirs₀ olds disk dirs e) (g : DFile) (hg : g ∈ disk₀)
    (hn : ¬ (q = true ∧ ((olds₀.length : Int) > (n : Int) - 2) ∧ (keys olds₀).head? = some g.pn)) : g ∈ disk := by
  cases h with
  | skip _ | push _ _ => exact hg
  | raise _ _ _ hq hl hw _ => exact hw.files g hg (fun hd => hn ⟨hq, hl, hd⟩)
  | pop _ _ _ _ _ hq hl ho hw _ => exact hw.files g hg (fun hd => hn ⟨hq, hl, by rw [ho]; exact hd⟩)

theorem keeps_dir (h : DelBlock c q n pnOld adr olds₀ disk₀ dirs₀ olds disk dirs e) (d : DDir) (hd : d ∈ dirs₀)
    (hn : ∀ pd, q = true ∧ ((olds₀.length : Int) > (n : Int) - 2) ∧ (keys olds₀).head? = some pd →
      d ≠ .accepted pd ∧ d ≠ .path pd) : d ∈ dirs := by
  cases h with
  | skip _ | push _ _ => exact hd
  | raise _ _ _ hq hl hw _ => exact hw.dirs d hd (fun pd hp => hn pd ⟨hq, hl, hp⟩)
  | pop _ _ _ _ _ hq hl ho hw _ => exact hw.dirs d hd (fun pd hp => hn pd ⟨hq, hl, by rw [ho]; exact hp⟩)

theorem keys_sub (h : DelBlock c q n pnOld adr olds₀ disk₀ dirs₀ olds disk dirs e) (k : Nat) (hk : k ∈ keys olds) :
    k ∈ keys olds₀ ∨ (k = pnOld ∧ q = true ∧ e = none) := by
  have push : ∀ l : List (Nat × List String), (∀ k ∈ keys l, k ∈ keys olds₀) → q = true →
      k ∈ keys (dictSet pnOld adr l) → k ∈ keys olds₀ ∨ (k = pnOld ∧ q = true ∧ (none : Option Err) = none) :=
    fun l hl hq h => ((mem_keys_dictSet pnOld adr l k).mp h).elim (fun h => .inr ⟨h, hq, rfl⟩) (fun h => .inl (hl k h))
  cases h with
  | skip _ | raise _ _ _ _ _ _ _ => exact .inl hk
  | push hq _ => exact push _ (fun _ h => h) hq hk
  | pop pd adrd rest _ _ hq _ ho _ _ =>
    have hr : ∀ k ∈ keys rest, k ∈ keys olds₀ := fun k h => by rw [ho]; exact List.mem_cons_of_mem _ h
    split at hk
    · exact push _ hr hq hk
    · exact .inl (hr k hk)

end DelBlock

end Infretis.Store
