import Infretis.Model.RunnerSys
import Infretis.Lemmas.Runner
/-!
C17, the runner half, for the fine-grained system `Model/RunnerSys.lean`.  `FStep` is one step of the system as a relation
(the only place where `fstep` is unfolded); the simulation relation `Rel` links the system of the runner's own code to the
abstract protocol `Model/Runner.lean` and every step keeps it (`sim_step`); `stop()` has a variant.
-/
namespace Infretis.RunnerSys
open Infretis.Runner

theorem set_ne_some {l : List WPc} {w : Nat} {a p : WPc} (ha : a ≠ p) (h : ∀ w' : Nat, l[w']? ≠ some p)
    (w' : Nat) : (l.set w a)[w']? ≠ some p := by
  rw [List.getElem?_set]
  split
  · split
    · exact fun e => ha (Option.some.inj e)
    · exact fun e => nomatch e
  · exact h w'

theorem lookup_none_of_not_any {l : List (Nat × Outcome)} {u : Nat}
    (h : l.any (fun p => p.1 == u) = false) : l.lookup u = none :=
  Option.not_isSome_iff_eq_none.mp (by rw [← Assoc.any_key, h]; exact Bool.false_ne_true)

/-- well-formedness of a `future_list` in the middle of an `as_completed()` call: the part of the
    snapshot still to be looked at is a non-empty suffix of the list -/
def FLWf (fl : FL) : Prop := ∀ l, fl.scan = some l → l ≠ [] ∧ l <:+ fl.futs

theorem flWf_idle {fl : FL} (h : fl.scan = none) : FLWf fl := by
  intro l hl; rw [h] at hl; simp at hl

theorem flWhile_spec (fl : FL) :
    (flWhile fl).1.futs = fl.futs ∧ FLWf (flWhile fl).1 ∧
    ((flWhile fl).2 = .retNone ↔ fl.futs = []) ∧ ((flWhile fl).2 = .going ∨ (flWhile fl).2 = .retNone) ∧
    ((flWhile fl).2 = .retNone → (flWhile fl).1.scan = none) := by
  unfold flWhile
  cases hf : fl.futs with
  | nil => simp [FLWf]
  | cons a t =>
    refine ⟨by simp, ?_, by simp, by simp, by simp⟩
    intro l hl
    simp at hl
    subst hl
    simp

theorem flWhile_ne_ret (fl : FL) (u : Nat) : (flWhile fl).2 ≠ .ret u := by
  rcases (flWhile_spec fl).2.2.2.1 with h | h <;> rw [h] <;> exact nofun

theorem flNext_of_scan {fl : FL} {f : Nat} {rest : List Nat} (h : fl.scan = some (f :: rest)) :
    flNext fl = some f := by
  simp [flNext, h]

theorem flNext_some {fl : FL} {f : Nat} (h : flNext fl = some f) : ∃ rest, fl.scan = some (f :: rest) := by
  unfold flNext at h
  split at h
  · rename_i g rest hs
    simp only [Option.some.injEq] at h
    subst h
    exact ⟨rest, hs⟩
  · simp at h

/-- **one `done()` call.**  If the call returns future `u`: the answer was True, `u` is the future
    that was asked, it was in the list, exactly its first occurrence is removed and the call is over. -/
theorem flCheck_ret {fl fl' : FL} {ans : Bool} {u : Nat} (hw : FLWf fl)
    (h : flCheck fl ans = some (fl', .ret u)) :
    ans = true ∧ flNext fl = some u ∧ u ∈ fl.futs ∧ fl'.futs = fl.futs.erase u ∧ fl'.scan = none := by
  unfold flCheck at h
  split at h
  · simp at h
  · exact absurd (congrArg Prod.snd (Option.some.inj h)) (flWhile_ne_ret fl u)
  · rename_i f rest hs
    split at h
    · rename_i ha
      cases h
      have := (hw _ hs).2
      exact ⟨ha, flNext_of_scan hs, this.subset (by simp), rfl, rfl⟩
    · split at h
      · exact absurd (congrArg Prod.snd (Option.some.inj h)) (flWhile_ne_ret fl u)
      · simp at h

theorem flCheck_other {fl fl' : FL} {ans : Bool} {r : AcStep} (hw : FLWf fl)
    (h : flCheck fl ans = some (fl', r)) (hr : ∀ u, r ≠ .ret u) :
    fl'.futs = fl.futs ∧ FLWf fl' ∧ (r = .retNone → fl.futs = [] ∧ fl'.scan = none) := by
  -- the `for` loop is exhausted: back to the `while` test
  have hwhile : flWhile fl = (fl', r) →
      fl'.futs = fl.futs ∧ FLWf fl' ∧ (r = .retNone → fl.futs = [] ∧ fl'.scan = none) := fun e => by
    have := flWhile_spec fl
    rw [e] at this
    exact ⟨this.1, this.2.1, fun hh => ⟨this.2.2.1.1 hh, this.2.2.2.2 hh⟩⟩
  unfold flCheck at h
  split at h
  · simp at h
  · exact hwhile (Option.some.inj h)
  · rename_i f rest hs
    split at h
    · simp only [Option.some.injEq, Prod.mk.injEq] at h
      exact absurd h.2.symm (hr f)
    · split at h
      · exact hwhile (Option.some.inj h)
      · rename_i a t
        cases h
        refine ⟨rfl, ?_, by simp⟩
        intro l hl
        simp at hl
        subst hl
        have := (hw _ hs).2
        exact ⟨by simp, (List.suffix_cons f (a :: t)).trans this⟩

theorem flCallGo_spec : ∀ (fuel : Nat) (fl : FL) (as : List Bool) (n : Nat) (asked : List Nat), FLWf fl →
    ∀ fl' r n' asked', flCallGo fuel fl as n asked = (fl', r, n', asked') →
      (∀ u, r = some (.ret u) → u ∈ fl.futs ∧ fl'.futs = fl.futs.erase u ∧ fl'.scan = none ∧ asked'.getLast? = some u) ∧
      ((∀ u, r ≠ some (.ret u)) → fl'.futs = fl.futs) ∧ (r = some .retNone → fl.futs = []) ∧ r ≠ some .going
  | 0, fl, as, n, asked, hw, fl', r, n', asked', h => by
    simp only [flCallGo] at h
    cases h
    simp
  | fuel + 1, fl, [], n, asked, hw, fl', r, n', asked', h => by
    simp only [flCallGo] at h
    cases h
    simp
  | fuel + 1, fl, a :: as, n, asked, hw, fl', r, n', asked', h => by
    simp only [flCallGo] at h
    split at h
    · rename_i f fl1 hn hck
      have ho := flCheck_other hw hck (by simp)
      have ih := flCallGo_spec fuel fl1 as (n + 1) (asked ++ [f]) ho.2.1 fl' r n' asked' h
      rw [ho.1] at ih
      exact ih
    · rename_i f fl1 r1 hnot hn hck
      cases h
      refine ⟨?_, ?_, ?_, ?_⟩
      · intro u hu
        simp only [Option.some.injEq] at hu
        subst hu
        obtain ⟨_, b, c, d, e⟩ := flCheck_ret hw hck
        rw [hn] at b
        simp only [Option.some.injEq] at b
        subst b
        exact ⟨c, d, e, by simp⟩
      · intro hr
        exact (flCheck_other hw hck (fun u hu => hr u (by rw [hu]))).1
      · intro hr
        simp only [Option.some.injEq] at hr
        exact ((flCheck_other hw hck (by intro u hu; rw [hr] at hu; simp at hu)).2.2 hr).1
      · intro hr
        simp only [Option.some.injEq] at hr
        exact hnot hr
    · cases h
      simp

theorem flApply_eq (s : Sys) (r : FL × AcStep) : ∃ k, flApply s r = ({ s with fl := r.1, noneReturns := k }, []) := by
  unfold flApply; split
  · exact ⟨_, rfl⟩
  · exact ⟨s.noneReturns, rfl⟩

theorem flApply_snd (s : Sys) (r : FL × AcStep) : (flApply s r).2 = [] := by
  obtain ⟨k, e⟩ := flApply_eq s r
  rw [e]

/-- **`fstep` as a relation**: one constructor per way through `fstep` — what the step presupposes, the state it
    leaves and the protocol events it emits. -/
inductive FStep (s : Sys) : FEv → Sys → List Event → Prop
  | submit (u : Nat) (hm : s.main = .idle) (hsc : s.fl.scan = none) (hu : u ∉ s.created) (hw : s.pcs ≠ []) :
      FStep s (.submit u)
        { s with created := s.created ++ [u], queue := s.queue ++ [u], fl := flAdd s.fl u } [.submit u]
  /-- an idle worker goes through the head of its loop -/
  | wake (w : Nat) (o : Outcome) (hx : s.pcs[w]? = some .idle) :
      FStep s (.resume w o)
        { s with pcs := s.pcs.set w (loopHead w s.stopSet s.queue).1, queue := (loopHead w s.stopSet s.queue).2.1 }
        (loopHead w s.stopSet s.queue).2.2
  /-- `set_result` on a future that is already done: the task dies -/
  | crash (w : Nat) (o : Outcome) (u : Nat) (hx : s.pcs[w]? = some (.awaiting u))
      (hd : s.done.any (fun p => p.1 == u) = true) :
      FStep s (.resume w o) { s with pcs := s.pcs.set w .crashed } []
  | finish (w : Nat) (o : Outcome) (u : Nat) (hx : s.pcs[w]? = some (.awaiting u))
      (hd : s.done.any (fun p => p.1 == u) = false) :
      FStep s (.resume w o)
        { s with pcs := s.pcs.set w (loopHead w s.stopSet s.queue).1, queue := (loopHead w s.stopSet s.queue).2.1,
                 done := (u, o) :: s.done, taskDone := s.taskDone + 1 }
        (.finish w u o :: (loopHead w s.stopSet s.queue).2.2)
  | acEnter (hm : s.main = .idle) (hsc : s.fl.scan = none) : FStep s .acEnter (flApply s (flEnter s.fl)).1 []
  /-- a `done()` call answered False, or the re-test of the `while` -/
  | acMiss (r : FL × AcStep) (hn : ∀ f, flNext s.fl = some f → s.done.lookup f = none)
      (hck : flCheck s.fl false = some r) : FStep s .acCheck (flApply s r).1 []
  /-- a `done()` call answered True: the future is removed and handed to the consumer -/
  | acHit (f : Nat) (rest : List Nat) (o : Outcome) (hs : s.fl.scan = some (f :: rest))
      (ho : s.done.lookup f = some o) :
      FStep s .acCheck
        { s with fl := { futs := s.fl.futs.erase f, scan := none }, delivered := s.delivered ++ [(f, o)] }
        [.collect f o]
  | stopEnter (hm : s.main = .idle) (hsc : s.fl.scan = none) : FStep s .stopEnter { s with main := .stopQ } []
  | pollQ (hm : s.main = .stopQ) (hq : s.queue = []) :
      FStep s .stopPollQ { s with stopSet := true, main := .stopT } [.stop]
  | waitQ (hm : s.main = .stopQ) (hq : s.queue ≠ []) : FStep s .stopPollQ s []
  | pollT (hm : s.main = .stopT) (ha : s.pcs.all taskEnded = true) : FStep s .stopPollT { s with main := .finished } []
  | waitT (hm : s.main = .stopT) (ha : s.pcs.all taskEnded = false) : FStep s .stopPollT s []

theorem FStep.of_fstep {s s' : Sys} {e : FEv} {out : List Event} (h : fstep s e = some (s', out)) :
    FStep s e s' out := by
  have miss : ∀ {r}, (∀ f, flNext s.fl = some f → s.done.lookup f = none) →
      (flCheck s.fl false).map (flApply s) = some r → FStep s .acCheck r.1 r.2 := fun hn hm => by
    obtain ⟨r', hr', rfl⟩ := Option.map_eq_some_iff.1 hm
    rw [flApply_snd]; exact .acMiss r' hn hr'
  cases e with
  | submit u =>
    simp only [fstep, stepSubmit] at h
    split at h
    · rename_i hg; cases h
      exact .submit u hg.1 hg.2.1 (by simpa using hg.2.2.1) hg.2.2.2
    · cases h
  | resume w o =>
    simp only [fstep, stepResume] at h
    split at h
    · cases h
    · cases h
    · cases h
    · rename_i hx; cases h; exact .wake w o hx
    · rename_i u hx
      split at h
      · rename_i hd; cases h; exact .crash w o u hx hd
      · rename_i hd; cases h; exact .finish w o u hx (Bool.eq_false_iff.2 hd)
  | acEnter =>
    simp only [fstep, stepAcEnter] at h
    split at h
    · rename_i hg
      have h := Option.some.inj h
      have h2 := (congrArg Prod.snd h).symm.trans (flApply_snd _ _)
      obtain rfl : s' = _ := (congrArg Prod.fst h).symm
      obtain rfl : out = [] := h2
      exact .acEnter hg.1 hg.2
    · cases h
  | acCheck =>
    simp only [fstep, stepAcCheck] at h
    split at h
    · rename_i hn; exact miss (fun f hf => by rw [hn] at hf; cases hf) h
    · rename_i f hf
      split at h
      · rename_i o ho
        obtain ⟨rest, hs⟩ := flNext_some hf
        simp only [flCheck, hs, if_true] at h
        cases h
        exact .acHit f rest o hs ho
      · rename_i ho; exact miss (fun f' hf' => by rw [hf] at hf'; cases hf'; exact ho) h
  | stopEnter =>
    simp only [fstep, stepStopEnter] at h
    split at h
    · rename_i hg; cases h; exact .stopEnter hg.1 hg.2
    · cases h
  | stopPollQ =>
    simp only [fstep, stepPollQ] at h
    split at h
    · rename_i hm
      split at h
      · rename_i hq; cases h; exact .pollQ hm (by simpa using hq)
      · rename_i hq; cases h; exact .waitQ hm (by simpa using hq)
    · cases h
  | stopPollT =>
    simp only [fstep, stepPollT] at h
    split at h
    · rename_i hm
      split at h
      · rename_i ha; cases h; exact .pollT hm ha
      · rename_i ha; cases h; exact .waitT hm (by simpa using ha)
    · cases h

theorem FStep.fstep {s s' : Sys} {e : FEv} {out : List Event} (h : FStep s e s' out) :
    fstep s e = some (s', out) := by
  cases h with
  | submit u hm hsc hu hw => simp [RunnerSys.fstep, stepSubmit, hm, hsc, hu, hw]
  | wake w o hx => simp [RunnerSys.fstep, stepResume, hx]
  | crash w o u hx hd => simp [RunnerSys.fstep, stepResume, hx, hd]
  | finish w o u hx hd => simp [RunnerSys.fstep, stepResume, hx, hd]
  | acEnter hm hsc => simp [RunnerSys.fstep, stepAcEnter, hm, hsc, ← flApply_snd s (flEnter s.fl)]
  | acMiss r hn hck =>
    have : stepAcCheck s = (flCheck s.fl false).map (flApply s) := by
      unfold stepAcCheck
      split
      · rfl
      · rename_i f hf; rw [hn f hf]
    simp [RunnerSys.fstep, this, hck, ← flApply_snd s r]
  | acHit f rest o hs ho => simp [RunnerSys.fstep, stepAcCheck, flNext, flCheck, hs, ho]
  | stopEnter hm hsc => simp [RunnerSys.fstep, stepStopEnter, hm, hsc]
  | pollQ hm hq => simp [RunnerSys.fstep, stepPollQ, hm, hq]
  | waitQ hm hq => simp [RunnerSys.fstep, stepPollQ, hm, hq]
  | pollT hm ha => simp [RunnerSys.fstep, stepPollT, hm, ha]
  | waitT hm ha => simp [RunnerSys.fstep, stepPollT, hm, ha]

/-- The protocol state `c` is the system state `s` without its program counters: the shared fields agree (`nw` … `stopped`,
    `col`); a worker holds `u` iff its task awaits `u` (`running`), and no task has died or left its loop before the stop
    event (`nocrash`, `noexit`); the main thread's place fixes the rest (`phase`: the stop event is set from `stopT` on,
    `busy`: a scan of `as_completed()` is open only in `idle`, `fin`: at `finished` every task has ended); the `future_list`
    holds the created futures not yet delivered, once each (`fl_*`, `deliv_done`, `scan_wf`). -/
structure Rel (s : Sys) (c : State) : Prop where
  nw : s.pcs.length = c.nw
  queue : c.queue = s.queue
  sub : c.submitted = s.created
  done : c.done = s.done
  stopped : c.stopped = s.stopSet
  running : ∀ w u : Nat, (w, u) ∈ c.running ↔ s.pcs[w]? = some (WPc.awaiting u)
  nocrash : ∀ w : Nat, s.pcs[w]? ≠ some WPc.crashed
  noexit : s.stopSet = false → ∀ w : Nat, s.pcs[w]? ≠ some WPc.exited
  phase : s.stopSet = true ↔ (s.main = .stopT ∨ s.main = .finished)
  busy : s.main ≠ .idle → s.fl.scan = none
  col : c.collected = (s.delivered.map (·.1)).reverse
  deliv_done : ∀ p, p ∈ s.delivered → p ∈ s.done
  fl_nodup : s.fl.futs.Nodup
  fl_part : ∀ u, u ∈ s.created ↔ (u ∈ s.fl.futs ∨ u ∈ s.delivered.map (·.1))
  fl_disj : ∀ u, u ∈ s.fl.futs → u ∉ s.delivered.map (·.1)
  scan_wf : FLWf s.fl
  fin : s.main = .finished → ∀ (w : Nat) (x : WPc), s.pcs[w]? = some x → taskEnded x = true

theorem rel_init (nw : Nat) : Rel (RunnerSys.init nw) (Runner.init nw) := by
  constructor <;> simp [RunnerSys.init, Runner.init, flEmpty, FLWf, List.getElem?_replicate]

theorem running_set {pcs : List WPc} {w : Nat} {x p : WPc} (hx : pcs[w]? = some x) {run run' : List (Nat × Nat)}
    (hrun : ∀ w' u, (w', u) ∈ run ↔ pcs[w']? = some (.awaiting u))
    (hw : ∀ u, (w, u) ∈ run' ↔ p = .awaiting u)
    (ho : ∀ w' u, w' ≠ w → ((w', u) ∈ run' ↔ (w', u) ∈ run)) (w' u : Nat) :
    (w', u) ∈ run' ↔ (pcs.set w p)[w']? = some (.awaiting u) := by
  by_cases hww : w = w'
  · subst hww; rw [List.getElem?_set_self (getElem?_lt_of_some hx), Option.some.injEq]; exact hw u
  · rw [List.getElem?_set_ne hww, ho w' u (Ne.symm hww)]; exact hrun w' u

theorem not_running_of_idle {s : Sys} {c : State} (hR : Rel s c) {w : Nat} (hx : s.pcs[w]? = some .idle) (u : Nat) :
    (w, u) ∉ c.running := fun h => by
  have := (hR.running w u).1 h
  rw [hx] at this; cases this

theorem rel_setpc {s : Sys} {c : State} (hR : Rel s c) {w : Nat} {pc : WPc} (hx : s.pcs[w]? = some .idle)
    (hpa : ∀ u, pc ≠ .awaiting u) (hpc : pc ≠ .crashed)
    (hpe : pc = .exited → s.stopSet = true) :
    Rel { s with pcs := s.pcs.set w pc } c := by
  refine { hR with nw := by simpa using hR.nw, running := ?_, nocrash := ?_, noexit := ?_, fin := ?_ }
  rotate_right
  · intro hm w' y hy
    have hxe := hR.fin hm w _ hx
    simp [taskEnded] at hxe
  · exact running_set hx hR.running
      (fun u => ⟨fun h => absurd h (not_running_of_idle hR hx u), fun h => absurd h (hpa u)⟩) (fun _ _ _ => Iff.rfl)
  · exact set_ne_some hpc hR.nocrash
  · intro hs
    exact set_ne_some (fun he => absurd ((hpe he).symm.trans hs) (by decide)) (hR.noexit hs)

/-- the head of the worker's `while` loop, from a worker that holds no unit -/
theorem sim_head {s : Sys} {c : State} (hR : Rel s c) {w : Nat} (hx : s.pcs[w]? = some .idle) :
    ∃ c', run c (loopHead w s.stopSet s.queue).2.2 = some c' ∧
      Rel { s with pcs := s.pcs.set w (loopHead w s.stopSet s.queue).1,
                   queue := (loopHead w s.stopSet s.queue).2.1 } c' := by
  rcases s with ⟨pcs, queue, created, done, fl, stopSet, main, delivered, noneReturns, taskDone⟩
  simp only at hx ⊢
  cases stopSet with
  | true =>
    simp only [loopHead, if_true, run]
    exact ⟨c, rfl, rel_setpc hR hx (by simp) (by simp) (fun _ => rfl)⟩
  | false =>
    cases queue with
    | nil =>
      simp only [loopHead, Bool.false_eq_true, if_false, run]
      exact ⟨c, rfl, rel_setpc hR (pc := .idle) hx (by simp) (by simp) (by simp)⟩
    | cons h t =>
      simp only [loopHead, Bool.false_eq_true, if_false]
      have hw : w < c.nw := by rw [← hR.nw]; exact getElem?_lt_of_some hx
      have hidle := not_running_of_idle hR hx
      have hnb : workerBusy c w = false := by
        simp only [workerBusy, List.any_eq_false, beq_iff_eq, Prod.forall]
        rintro a b hab rfl
        exact hidle b hab
      have hst : c.stopped = false := hR.stopped
      have hcq : c.queue = h :: t := hR.queue
      refine ⟨{ c with queue := t, running := (w, h) :: c.running }, ?_, ?_⟩
      · simp [run, step, hst, hw, hnb, hcq]
      · refine { hR with nw := by simpa using hR.nw, queue := rfl, running := ?_, nocrash := ?_, noexit := ?_,
                         fin := fun hm => absurd (hR.fin hm w _ hx) (by simp [taskEnded]) }
        · exact running_set hx hR.running
            (fun u => ⟨fun h1 => (List.mem_cons.1 h1).elim (fun e => by rw [(Prod.mk.inj e).2])
              (fun h2 => absurd h2 (hidle u)), fun e => by rw [← WPc.awaiting.inj e]; exact List.mem_cons_self⟩)
            (fun w' u hne => List.mem_cons.trans (or_iff_right fun e => hne (Prod.mk.inj e).1))
        · exact set_ne_some (by simp) hR.nocrash
        · exact fun _ => set_ne_some (by simp) (hR.noexit rfl)

/-- `future.set_result / set_exception` by the worker that awaits unit `u`: the future is still
    pending (no `InvalidStateError`), and the abstract protocol does `finish w u o` -/
theorem sim_finish {s : Sys} {c : State} {pre : List Event} {nw : Nat}
    (hc : run (Runner.init nw) pre = some c) (hR : Rel s c) {w u : Nat} (o : Outcome)
    (hx : s.pcs[w]? = some (.awaiting u)) :
    s.done.any (fun p => p.1 == u) = false ∧
    ∃ c1, step c (.finish w u o) = some c1 ∧
      Rel { s with pcs := s.pcs.set w .idle, done := (u, o) :: s.done, taskDone := s.taskDone + 1 } c1 := by
  have hI := inv_run hc
  have hrun : (w, u) ∈ c.running := (hR.running w u).2 hx
  have hnd' : isDone c u = false := by
    rw [Bool.eq_false_iff, ne_eq, isDone_iff, inv_done hI, doneOf_keys, List.mem_reverse]
    exact hI.run_notdone w u hrun
  have hany : s.done.any (fun p => p.1 == u) = false := hR.done ▸ hnd'
  refine ⟨hany, { c with running := c.running.erase (w, u), done := (u, o) :: c.done }, ?_, ?_⟩
  · simp [step, hrun, hnd']
  · have hnodup : c.running.Nodup := hI.workers_nodup.of_map _
    refine { hR with nw := by simpa using hR.nw, done := by simp [hR.done], running := ?_, nocrash := ?_,
                     noexit := ?_, deliv_done := ?_,
                     fin := fun hm => absurd (hR.fin hm w _ hx) (by simp [taskEnded]) }
    · exact running_set hx hR.running
        (fun u' => ⟨fun h1 => by
          -- `w` held `u` and nothing else
          obtain ⟨hne, hm⟩ := hnodup.mem_erase_iff.1 h1
          have := (hR.running w u').1 hm
          rw [hx] at this; cases this
          exact absurd rfl hne, fun e => by cases e⟩)
        (fun w' u' hne => hnodup.mem_erase_iff.trans (and_iff_right fun e => hne (Prod.mk.inj e).1))
    · exact set_ne_some (by simp) hR.nocrash
    · exact fun hs2 => set_ne_some (by simp) (hR.noexit hs2)
    · intro p hp
      exact List.mem_cons_of_mem _ (hR.deliv_done p hp)

theorem rel_fl {s : Sys} {c : State} (hR : Rel s c) (fl' : FL) (k : Nat) (hf : fl'.futs = s.fl.futs)
    (hw : FLWf fl') (hb : s.main ≠ .idle → fl'.scan = none) :
    Rel { s with fl := fl', noneReturns := k } c := by
  refine { hR with busy := hb, fl_nodup := ?_, fl_part := ?_, fl_disj := ?_, scan_wf := hw }
  · simp only [hf]; exact hR.fl_nodup
  · simp only [hf]; exact hR.fl_part
  · simp only [hf]; exact hR.fl_disj

theorem rel_flApply {s : Sys} {c : State} (hR : Rel s c) (r : FL × AcStep) (hf : r.1.futs = s.fl.futs)
    (hw : FLWf r.1) (hb : s.main ≠ .idle → r.1.scan = none) :
    (flApply s r).2 = [] ∧ Rel (flApply s r).1 c := by
  obtain ⟨k, e⟩ := flApply_eq s r
  rw [e]
  exact ⟨rfl, rel_fl hR r.1 k hf hw hb⟩

/-- the stop event is set only from the second phase of `stop()` on -/
theorem not_stopped {s : Sys} {c : State} (hR : Rel s c) (hm : s.main = .idle ∨ s.main = .stopQ) :
    s.stopSet = false := by
  cases h : s.stopSet with
  | false => rfl
  | true =>
    have := hR.phase.1 h
    rcases hm with hm | hm <;> (rw [hm] at this; simp at this)

/-- **Simulation.**  Every step of the system of the runner's code is matched by the protocol
    events it emits, and the relation is kept. -/
theorem sim_step {s s' : Sys} {c : State} {pre out : List Event} {nw : Nat} {e : FEv}
    (hc : run (Runner.init nw) pre = some c) (hR : Rel s c) (h : fstep s e = some (s', out)) :
    ∃ c', run c out = some c' ∧ Rel s' c' := by
  -- a step of `as_completed()` that hands nothing out: only the list object's scan position changes
  have quiet : ∀ r : FL × AcStep, r.1.futs = s.fl.futs → FLWf r.1 → (s.main ≠ .idle → r.1.scan = none) →
      ∃ c', run c [] = some c' ∧ Rel (flApply s r).1 c' := fun r h1 h2 h3 => ⟨c, rfl, (rel_flApply hR r h1 h2 h3).2⟩
  cases FStep.of_fstep h with
  | submit u hm hsc hu _ =>
    have hst : c.stopped = false := by rw [hR.stopped]; exact not_stopped hR (Or.inl hm)
    have hufl : u ∉ s.fl.futs := fun hh => hu ((hR.fl_part u).2 (Or.inl hh))
    have hud : u ∉ s.delivered.map (·.1) := fun hh => hu ((hR.fl_part u).2 (Or.inr hh))
    refine ⟨{ c with submitted := c.submitted ++ [u], queue := c.queue ++ [u] }, ?_, ?_⟩
    · have hnm : u ∉ c.submitted := by rw [hR.sub]; exact hu
      simp [run, step, hst, hnm]
    · refine { hR with queue := by simp [hR.queue], sub := by simp [hR.sub], busy := fun _ => hsc, fl_nodup := ?_,
                       fl_part := ?_, fl_disj := ?_, scan_wf := flWf_idle (by simpa [flAdd] using hsc) }
      · exact nodup_snoc hR.fl_nodup hufl
      · intro u'
        simp only [flAdd, List.mem_append, List.mem_singleton, hR.fl_part u']
        exact or_right_comm
      · intro u'
        simp only [flAdd, List.mem_append, List.mem_singleton]
        rintro (h1 | h1)
        · exact hR.fl_disj u' h1
        · subst h1; exact hud
  | wake w o hx => exact sim_head hR hx
  | crash w o u hx hd => rw [(sim_finish hc hR o hx).1] at hd; cases hd
  | finish w o u hx _ =>
    obtain ⟨_, c1, hs1, hR1⟩ := sim_finish hc hR o hx
    obtain ⟨c', hr, hR'⟩ := sim_head (w := w) hR1 (List.getElem?_set_self (getElem?_lt_of_some hx))
    exact ⟨c', by simp only [run, hs1]; exact hr, by simpa [List.set_set] using hR'⟩
  | acEnter hm _ =>
    have hsp := flWhile_spec s.fl
    exact quiet (flEnter s.fl) hsp.1 hsp.2.1 (fun hh => absurd hm hh)
  | acMiss r _ hck =>
    have hnr : ∀ u, r.2 ≠ .ret u := fun u hu => by
      have := (flCheck_ret hR.scan_wf (hck.trans (by rw [← hu]))).1
      cases this
    obtain ⟨h1, h2, _⟩ := flCheck_other hR.scan_wf (r := r.2) hck hnr
    exact quiet r h1 h2 fun hm => by
      have := hR.busy hm
      simp [flCheck, this] at hck
  | acHit f rest o hs ho =>
    have hfm : f ∈ s.fl.futs := (hR.scan_wf _ hs).2.subset (by simp)
    have hdone : (f, o) ∈ c.done := by rw [hR.done]; exact Assoc.mem_of_lookup ho
    have hncol : f ∉ c.collected := by
      rw [hR.col]; simp only [List.mem_reverse]; exact hR.fl_disj f hfm
    refine ⟨{ c with collected := f :: c.collected }, ?_, ?_⟩
    · simp [run, step, hdone, hncol]
    · refine { hR with busy := fun _ => rfl, col := by simp [hR.col], deliv_done := ?_, fl_nodup := ?_,
                       fl_part := ?_, fl_disj := ?_, scan_wf := flWf_idle rfl }
      · intro p hp
        simp only [List.mem_append, List.mem_singleton] at hp
        rcases hp with hp | hp
        · exact hR.deliv_done p hp
        · subst hp; exact Assoc.mem_of_lookup ho
      · exact hR.fl_nodup.erase f
      · intro u
        simp only [hR.fl_nodup.mem_erase_iff, List.map_append, List.map_cons, List.map_nil, List.mem_append,
          List.mem_singleton, hR.fl_part u]
        by_cases huf : u = f
        · -- the future returned moves from the list to the delivered ones
          subst huf; exact ⟨fun _ => Or.inr (Or.inr rfl), fun _ => Or.inl hfm⟩
        · simp only [huf, ne_eq, not_false_eq_true, true_and, or_false]
      · intro u
        simp only [hR.fl_nodup.mem_erase_iff, List.map_append, List.map_cons, List.map_nil, List.mem_append,
          List.mem_singleton, not_or]
        rintro ⟨h1, h2⟩
        exact ⟨hR.fl_disj u h2, h1⟩
  | stopEnter hm hsc =>
    have hns := not_stopped hR (Or.inl hm)
    refine ⟨c, rfl, { hR with phase := ?_, busy := fun _ => hsc, fin := by intro hh; simp at hh }⟩
    simp only [hns, Bool.false_eq_true, reduceCtorEq, or_self]
  | pollQ hm hq =>
    have hst : c.stopped = false := by rw [hR.stopped]; exact not_stopped hR (Or.inr hm)
    have hcq : c.queue = [] := by rw [hR.queue]; exact hq
    refine ⟨{ c with stopped := true }, by simp [run, step, hst, hcq], ?_⟩
    refine { hR with stopped := rfl, noexit := ?_, phase := ?_, busy := ?_, fin := by intro hh; simp at hh }
    · intro hh; simp at hh
    · simp
    · intro _; exact hR.busy (by rw [hm]; simp)
  | waitQ _ _ => exact ⟨c, rfl, hR⟩
  | pollT hm ha =>
    have hst : s.stopSet = true := hR.phase.2 (Or.inl hm)
    refine ⟨c, rfl, { hR with phase := ?_, busy := ?_, fin := ?_ }⟩
    · simp [hst]
    · intro _; exact hR.busy (by rw [hm]; simp)
    · intro _ w x hx
      exact (List.all_eq_true.1 ha) x (List.mem_of_getElem? hx)
  | waitT _ _ => exact ⟨c, rfl, hR⟩

theorem sim_run : ∀ (evs : List FEv) {s s' : Sys} {c : State} {pre out : List Event} {nw : Nat},
    run (Runner.init nw) pre = some c → Rel s c → frun s evs = some (s', out) →
    ∃ c', run c out = some c' ∧ Rel s' c'
  | [], s, s', c, pre, out, nw, hc, hR, h => by
    cases h
    exact ⟨c, rfl, hR⟩
  | e :: es, s, s', c, pre, out, nw, hc, hR, h => by
    simp only [frun] at h
    split at h
    · cases h
    · rename_i s1 o1 h1
      split at h
      · cases h
      · rename_i s2 o2 h2
        cases h
        obtain ⟨c1, hr1, hR1⟩ := sim_step hc hR h1
        have hc1 : run (Runner.init nw) (pre ++ o1) = some c1 := by
          rw [run_append, hc]; exact hr1
        obtain ⟨c2, hr2, hR2⟩ := sim_run es hc1 hR1 h2
        refine ⟨c2, ?_, hR2⟩
        rw [run_append, hr1]; exact hr2

/-- every reachable state of the system: the protocol events emitted so far are a run of the protocol, to a state
    related to the system's and linked to those events by the history invariant -/
theorem sim_reachable {nw : Nat} {evs : List FEv} {s : Sys} {out : List Event}
    (h : frun (RunnerSys.init nw) evs = some (s, out)) :
    ∃ c, run (Runner.init nw) out = some c ∧ Rel s c ∧ Inv c out := by
  obtain ⟨c, hr, hR⟩ := sim_run evs (pre := []) (nw := nw) rfl (rel_init nw) h
  exact ⟨c, hr, hR, inv_run hr⟩

theorem weightSum_set : ∀ (l : List WPc) (w : Nat) (x p : WPc), l[w]? = some x →
    weightSum (l.set w p) + pcWeight x = weightSum l + pcWeight p
  | [], w, x, p, h => by simp at h
  | a :: t, 0, x, p, h => by
    simp only [List.getElem?_cons_zero, Option.some.injEq] at h
    subst h
    simp only [List.set_cons_zero, weightSum]; omega
  | a :: t, w + 1, x, p, h => by
    simp only [List.getElem?_cons_succ] at h
    have := weightSum_set t w x p h
    simp only [List.set_cons_succ, weightSum]; omega

/-- the head of the worker's loop, counted in the variant (`2·|queue| + weight of the new pc`): at most one more
    than `2·|queue|`, and that much only when it finds the queue empty before the stop event is set -/
theorem loopHead_weight (w : Nat) (stopSet : Bool) (queue : List Nat) :
    2 * (loopHead w stopSet queue).2.1.length + pcWeight (loopHead w stopSet queue).1 ≤ 2 * queue.length + 1 ∧
    (2 * (loopHead w stopSet queue).2.1.length + pcWeight (loopHead w stopSet queue).1 = 2 * queue.length + 1 →
      stopSet = false ∧ queue = []) := by
  cases stopSet with
  | true => simp only [loopHead, if_true, pcWeight]; omega
  | false =>
    cases queue with
    | nil => exact ⟨Nat.le_refl _, fun _ => ⟨rfl, rfl⟩⟩
    | cons a t => simp only [loopHead, Bool.false_eq_true, if_false, pcWeight, List.length_cons]; omega

/-- a worker resume either strictly decreases the variant, or it is the poll of an idle worker
    that finds the queue empty while the stop event is not set (nothing changes) -/
theorem resume_variant {s s' : Sys} {out : List Event} {w : Nat} {o : Outcome}
    (h : FStep s (.resume w o) s' out) : variant s' < variant s ∨ (s' = s ∧ s.stopSet = false ∧ s.queue = []) := by
  rcases s with ⟨pcs, queue, created, done, fl, stopSet, main, delivered, noneReturns, taskDone⟩
  obtain ⟨hle, heq⟩ := loopHead_weight w stopSet queue
  cases h with
  | wake _ _ hx =>
    have hw : _ + 1 = _ := weightSum_set pcs w .idle (loopHead w stopSet queue).1 hx
    rcases Nat.lt_or_eq_of_le hle with hlt | he
    · left; simp only [variant]; omega
    · obtain ⟨rfl, rfl⟩ := heq he
      right
      simp only [loopHead, Bool.false_eq_true, if_false, set_getElem?_self hx]
      exact ⟨trivial, trivial, trivial⟩
  | crash _ _ u hx =>
    have := weightSum_set pcs w (.awaiting u) .crashed hx
    left; simp only [variant, pcWeight] at this ⊢; omega
  | finish _ _ u hx =>
    have hw : _ + 2 = _ := weightSum_set pcs w (.awaiting u) (loopHead w stopSet queue).1 hx
    left; simp only [variant]; omega

/-- inside `stop()` every step either changes nothing (a poll that fails, the resume above) or strictly
    decreases the variant -/
theorem stop_variant_step {s s' : Sys} {out : List Event} {e : FEv}
    (hm : s.main = .stopQ ∨ s.main = .stopT) (hsc : s.fl.scan = none)
    (h : fstep s e = some (s', out)) : s' = s ∨ variant s' < variant s := by
  -- the scheduler's other calls need the main thread outside `stop()`
  have hni : s.main ≠ .idle := by rcases hm with hm | hm <;> rw [hm] <;> decide
  cases FStep.of_fstep h with
  | submit _ hm' | acEnter hm' | stopEnter hm' => exact absurd hm' hni
  | acMiss r _ hck => simp [flCheck, hsc] at hck
  | acHit f rest o hs => rw [hsc] at hs; cases hs
  | waitQ | waitT => exact .inl rfl
  | pollQ hq | pollT hq => right; simp only [variant, hq, phaseWeight]; omega
  | wake w o hx => exact (resume_variant (.wake w o hx)).symm.imp (·.1) id
  | crash w o u hx hd => exact (resume_variant (.crash w o u hx hd)).symm.imp (·.1) id
  | finish w o u hx hd => exact (resume_variant (.finish w o u hx hd)).symm.imp (·.1) id

theorem resume_progress {s : Sys} {w : Nat} {x : WPc} (hx : s.pcs[w]? = some x) (hne : taskEnded x = false)
    (hb : s.stopSet = true ∨ s.queue ≠ []) :
    ∃ e s' out, fstep s e = some (s', out) ∧ variant s' < variant s := by
  obtain ⟨s', out, hF⟩ : ∃ s' out, FStep s (.resume w (.ok 0)) s' out := by
    cases x with
    | idle => exact ⟨_, _, .wake w _ hx⟩
    | awaiting u =>
      cases hd : s.done.any (fun p => p.1 == u) with
      | true => exact ⟨_, _, .crash w _ u hx hd⟩
      | false => exact ⟨_, _, .finish w _ u hx hd⟩
    | exited | crashed => cases hne
  refine ⟨_, s', out, hF.fstep, (resume_variant hF).resolve_right fun h1 => ?_⟩
  rcases hb with hb | hb
  · rw [h1.2.1] at hb; cases hb
  · exact hb h1.2.2

/-- **`stop()` cannot get stuck.**  In every reachable state inside `stop()` some step strictly
    decreases the variant (given at least one worker task). -/
theorem stop_progress_step {s : Sys} {c : State} (hR : Rel s c) (hnw : s.pcs ≠ [])
    (hm : s.main = .stopQ ∨ s.main = .stopT) :
    ∃ e s' out, fstep s e = some (s', out) ∧ variant s' < variant s := by
  rcases hm with hm | hm
  · cases hq : s.queue with
    | nil =>
      refine ⟨_, _, _, (FStep.pollQ hm hq).fstep, ?_⟩
      simp only [variant, hm, phaseWeight]; omega
    | cons a t =>
      have hns := not_stopped hR (Or.inr hm)
      cases hp : s.pcs with
      | nil => exact absurd hp hnw
      | cons x rest =>
        have hx : s.pcs[0]? = some x := by rw [hp]; rfl
        have hne : taskEnded x = false := by
          cases x with
          | idle | awaiting u => rfl
          | exited => exact absurd hx (hR.noexit hns 0)
          | crashed => exact absurd hx (hR.nocrash 0)
        exact resume_progress hx hne (Or.inr (by rw [hq]; exact List.cons_ne_nil a t))
  · have hst : s.stopSet = true := hR.phase.2 (Or.inl hm)
    by_cases hall : s.pcs.all taskEnded = true
    · refine ⟨_, _, _, (FStep.pollT hm hall).fstep, ?_⟩
      simp only [variant, hm, phaseWeight]; omega
    · simp only [List.all_eq_true, not_forall] at hall
      obtain ⟨x, hxm, hxe⟩ := hall
      obtain ⟨w, hw⟩ := List.getElem?_of_mem hxm
      exact resume_progress hw (by simpa using hxe) (Or.inl hst)

end Infretis.RunnerSys
