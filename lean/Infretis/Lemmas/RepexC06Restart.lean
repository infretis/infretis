import Infretis.Lemmas.RepexC06Step
/-
C06: the restart step.  What the scheduler does after a restart (initiate → prep through
`pick_lock` with nothing recorded → one-time restore of the stream position → `pick`, then the closing
`initiate`) issues the same job, from the same stream position, with the same spawn ordinal, as the
uninterrupted run does when it continues after `treat_output` (prep through `pick`).
-/
namespace Infretis.Repex

theorem stepTreat_ctr {y : Sys} {k : Nat} {st : Status} {w : List (List Rat)} {r : St × Job × List Job}
    (h : stepTreat y k st w = .ok r) :
    r.1.cstep = y.s.cstep + 1 ∧ r.1.workers = y.s.workers ∧ r.1.tsteps = y.s.tsteps ∧
      r.1.toinitiate = y.s.toinitiate := by
  injection (stepTreat_completes h).ctr.2 with c1 c2 c3 c4
  exact ⟨c1, c3, c2, c4⟩

/-- what `restore (persist s)` guarantees about the rebuilt state `s'` (proved in RepexC06RestoreFull): everything
    observable agrees except, by design, `toinitiate` (a full initiation is due), `mainDraws` (the stream
    position is restored at the first pick), the engine table (fresh), `restarted`, and `rows` (on disk) -/
structure RestoreRel (occ : List (List Int)) (s s' : St) : Prop where
  obs : ObsR False 0 s.rows [] s { s' with mainDraws := s.mainDraws }
  toinitiate : s'.toinitiate = (s'.workers : Int)
  restarted : s'.restarted = true
  rgenRestored : s'.rgenRestored = false
  occ : s'.occ = occ

theorem assignEngines_free (occ1 occ2 : List (List Int)) (names : List Nat) (pin : Nat)
    (h : freeEngines occ1 pin = freeEngines occ2 pin) :
    assignEngines occ1 names pin = assignEngines occ2 names pin := by
  unfold assignEngines
  simp only []
  rw [h]

/-- fields no pick touches -/
structure Frame (s s' : St) : Prop where
  cstep : s'.cstep = s.cstep
  tsteps : s'.tsteps = s.tsteps
  workers : s'.workers = s.workers
  toinitiate : s'.toinitiate = s.toinitiate
  occ : s'.occ = s.occ

theorem restart_step {occ : List (List Int)} {s2 s' : St} (job : Job) (rest : List Job) (o : PickOutcome)
    (hR : RestoreRel occ s2 s') (hw : s2.workers = 1) (hti : s2.toinitiate = -1) (hpin : job.pin = 0)
    (hl0 : s2.locked0 = [])
    (hlt : s2.cstep < s2.tsteps) (hocc : freeEngines s2.occ 0 = freeEngines occ 0)
    {yU : Sys} (hU : stepPrep (s2, job, rest) o = .ok yU) :
    ∃ y1 yR, sysStep { s := s', jobs := rest } (.start o s2.mainDraws) = .ok y1 ∧ sysStep y1 .initDone = .ok yR ∧
      RY (-1) s2.rows [] yU yR := by
  have hw' : s'.workers = 1 := by have := hR.obs.workers; simp only [] at this; omega
  have hcs : s'.cstep = s2.cstep := by have := hR.obs.cstep; simp only [] at this; omega
  have hts : s'.tsteps = s2.tsteps := by have := hR.obs.tsteps; simp only [] at this; omega
  have hl0' : s'.locked0 = [] := by have := hR.obs.locked0; simp only [] at this; rw [← this]; exact hl0
  -- the uninterrupted side
  have hle : s2.cstep + s2.workers ≤ s2.tsteps := by omega
  have hneg : ¬ s2.toinitiate ≥ 0 := by omega
  rw [stepPrep_eq, if_pos hle, prep_eq] at hU
  obtain ⟨⟨a3, jobU, dsU⟩, hU, hyU⟩ := bind_ok_iff.mp hU
  obtain ⟨⟨a1, ps, ds⟩, ha, ha3⟩ := bind_ok_iff.mp hU
  cases hyU
  simp only [pickPart, hneg, if_false, hpin] at ha ha3
  -- the restarted side: initiate
  have hinit : initiate s' = ({ s' with cworker := 0, toinitiate := 0 }, true) := by
    unfold initiate
    have h1 : s'.cstep < s'.tsteps := by omega
    simp only [h1, not_true_eq_false, if_false, hR.toinitiate, hw']
    have h3 : ¬ s'.tsteps ≤ s'.cstep := by omega
    simp [h3]
  -- its first pick: nothing recorded, the stream position is restored once, then `pick`
  have hpl := pickLock_restored (s := { s' with cworker := 0, toinitiate := 0 }) hl0' hR.restarted hR.rgenRestored o
    s2.mainDraws
  have hb0 : ObsR False 0 s2.rows [] s2
      { s' with cworker := 0, toinitiate := 0, mainDraws := s2.mainDraws, rgenRestored := true } :=
    { hR.obs with toinitiate := fun f => f.elim, occ := fun f => f.elim }
  have h1 := pick_rel hb0 o
  rw [ha] at h1
  obtain ⟨⟨b1, ps', ds'⟩, hb, h2, h2'⟩ := h1.ok_left
  simp only [Prod.mk.injEq] at h2'
  obtain ⟨rfl, rfl⟩ := h2'
  simp only [] at h2
  have hoa : a1.occ = s2.occ := (pick_touches ha).occ
  have hob : b1.occ = occ := (pick_touches hb).occ.trans hR.occ
  have h3 := prepTail_rel h2 ps ds (some 0) (fun pin hp names => by
    simp only [Option.some.injEq] at hp
    subst hp
    apply assignEngines_free
    rw [hoa, hob, hocc])
  rw [ha3] at h3
  obtain ⟨⟨b3, jobR, dsR⟩, hb3, h4, ho4, hta, htb, _, _, hj⟩ := h3.ok_left
  simp only [Prod.mk.injEq] at hj
  obtain ⟨rfl, rfl⟩ := hj
  simp only [] at h4 ho4 hta htb
  have fa := pick_touches ha
  have fb := pick_touches hb
  have fa3 := prepTail_touches ha3
  have fb3 := prepTail_touches hb3
  have hb3c : b3.cstep = s2.cstep := by rw [fb3.cstep, fb.cstep]; exact hcs
  have hb3t : b3.tsteps = s2.tsteps := by rw [fb3.tsteps, fb.tsteps]; exact hts
  have hb3w : b3.workers = 1 := by rw [fb3.workers, fb.workers]; exact hw'
  have hb3i : b3.toinitiate = 0 := by rw [fb3.toinitiate, fb.toinitiate]
  have ha3i : a3.toinitiate = -1 := by rw [fa3.toinitiate, fa.toinitiate]; exact hti
  refine ⟨{ s := b3, jobs := rest ++ [jobU] },
          { s := { b3 with cworker := 1, toinitiate := -1 }, jobs := rest ++ [jobU] }, ?_, ?_, ?_⟩
  · simp only [sysStep, hinit, not_true_eq_false, if_false]
    rw [prep_eq]
    simp only [pickPart, ge_iff_le, Int.le_refl, if_true, hpl, hb, Except.bind, hb3]
  · simp only [sysStep]
    have hinit2 : initiate b3 = ({ b3 with cworker := 1, toinitiate := -1 }, false) := by
      unfold initiate
      have h1 : b3.cstep < b3.tsteps := by omega
      simp only [h1, not_true_eq_false, if_false, hb3i, hb3w]
      simp
    rw [hinit2]
    simp
  · refine ⟨?_, rfl⟩
    exact { h4 with toinitiate := fun _ => ⟨ha3i, rfl⟩, occ := fun _ => ho4 }


theorem restart_run {occ : List (List Int)} {y : Sys} {s' : St} (k : Nat) (st : Status) (w : List (List Rat))
    (o : PickOutcome) (rest : List Ev) (r : St × Job × List Job)
    (hT : stepTreat y k st w = .ok r) (hR : RestoreRel occ r.1 s') (hw : r.1.workers = 1)
    (hti : r.1.toinitiate = -1) (hpin : r.2.1.pin = 0) (hl0 : r.1.locked0 = [])
    (hlt : r.1.cstep < r.1.tsteps) (hocc : freeEngines r.1.occ 0 = freeEngines occ 0)
    (hsteps : StepsOnly rest) {yN : Sys} (hrun : run y (.step k st w o :: rest) = .ok yN) :
    ∃ yN', run { s := s', jobs := r.2.2 } (.start o r.1.mainDraws :: .initDone :: rest) = .ok yN' ∧
      RY (-1) r.1.rows [] yN yN' := by
  obtain ⟨s2, job, restJobs⟩ := r
  simp only [] at hR hw hti hpin hl0 hlt hocc ⊢
  obtain ⟨yU, hU, hrun⟩ := run_cons_ok hrun
  rw [sysStep_step_eq, hT] at hU
  obtain ⟨y1, yR, h1, h2, h3⟩ := restart_step job restJobs o hR hw hti hpin hl0 hlt hocc hU
  have h4 := run_steps_rel rest hsteps h3 (by omega)
  rw [hrun] at h4
  obtain ⟨yN', h5, h6⟩ := h4.ok_left
  refine ⟨yN', ?_, h6⟩
  simp only [run_cons_eq, h1, h2, Except.bind]
  exact h5

end Infretis.Repex
