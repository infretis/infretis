import Infretis.Lemmas.RepexC03Treat
import Infretis.Lemmas.RepexTreatData
import Infretis.Lemmas.RepexC04Rec
import Infretis.Lemmas.RepexCalls
/-!
# C04 — conservation of the fractional weights across one `treat_output`

What a completed `treat_output` does to the tables and the data file is `treatOutput_data` (RepexTreatData).  Here the
table invariant `FracWF` is carried to the recording state (`FracWF.recState`) and the balance is read off
(`treatOutput_total`): the recording adds one unit per idle column, and what is written leaves the table with its
weight (`total_filter_keys`).  First `writeRows` (`write_to_pathens`) by itself: the vectors of the listed paths move
from `traj_data` to the data file, total unchanged.
-/
namespace Infretis.Repex.Frac

theorem filter_ne_of_not_mem (l : List (Nat × List Rat)) (pn : Nat) (h : pn ∉ l.map Prod.fst) :
    l.filter (fun kv => kv.1 != pn) = l := by
  rw [List.filter_eq_self]
  intro kv hkv
  simp only [bne_iff_ne, ne_eq]
  intro e
  exact h (e ▸ List.mem_map_of_mem (f := Prod.fst) hkv)

theorem lookup_filter_ne (l : List (Nat × List Rat)) (pn k : Nat) :
    (l.filter (fun kv => kv.1 != pn)).lookup k = if k = pn then none else l.lookup k := by
  rw [Assoc.lookup_filter l (fun a => a != pn) k]
  by_cases h : k = pn <;> simp [h]

theorem colTotal_filter_ne (l : List (Nat × List Rat)) (pn : Nat) (f : List Rat)
    (hnd : (l.map Prod.fst).Nodup) (hl : l.lookup pn = some f) (c : Nat) :
    colTotal (l.filter (fun kv => kv.1 != pn)) c + f.getD c 0 = colTotal l c := by
  induction l with
  | nil => simp at hl
  | cons kv t ih =>
    obtain ⟨a, v⟩ := kv
    simp only [List.map_cons, List.nodup_cons] at hnd
    simp only [List.lookup_cons] at hl
    by_cases hap : a = pn
    · subst hap
      simp only [beq_self_eq_true, Option.some.injEq] at hl
      subst hl
      rw [List.filter_cons_of_neg (by simp), filter_ne_of_not_mem t a hnd.1]
      simp only [colTotal_cons]
      ring
    · have : (pn == a) = false := by simpa using fun e => hap e.symm
      simp only [this] at hl
      rw [List.filter_cons_of_pos (by simpa using hap)]
      simp only [colTotal_cons]
      rw [← ih hnd.2 hl]
      ring

theorem filter_filter_contains (l : List (Nat × List Rat)) (pn : Nat) (rest : List Nat) :
    (l.filter (fun kv => kv.1 != pn)).filter (fun kv => !rest.contains kv.1)
      = l.filter (fun kv => !(pn :: rest).contains kv.1) := by
  rw [List.filter_filter]
  apply List.filter_congr
  intro kv _
  simp only [List.contains_cons, Bool.not_or, bne, Bool.and_comm]

theorem total_filter_keys : ∀ (news : List (Nat × List Rat × List Rat)) (frac : List (Nat × List Rat)),
    (frac.map Prod.fst).Nodup → (news.map (·.1)).Nodup → (∀ r ∈ news, frac.lookup r.1 = some r.2.1) → ∀ c,
    rowsTotal news c + colTotal (frac.filter (fun kv => !(news.map (·.1)).contains kv.1)) c
      = colTotal frac c := by
  intro news
  induction news with
  | nil => intro frac _ _ _ c; simp [rowsTotal, List.filter_eq_self.mpr]
  | cons r rest ih =>
    intro frac hnd hk hl c
    simp only [List.map_cons, List.nodup_cons] at hk
    have h1 := ih (frac.filter (fun kv => kv.1 != r.1)) (Assoc.nodup_keys_filter hnd _) hk.2 (by
      intro x hx
      have hne : x.1 ≠ r.1 := fun e => hk.1 (List.mem_map.mpr ⟨x, hx, e⟩)
      rw [lookup_filter_ne, if_neg hne]
      exact hl x (List.mem_cons_of_mem _ hx)) c
    rw [filter_filter_contains] at h1
    rw [← colTotal_filter_ne frac r.1 r.2.1 hnd (hl r List.mem_cons_self) c, ← h1]
    simp only [rowsTotal, List.map_cons, List.sum_cons]
    ring

theorem writeRows_spec (l : List Nat) (s s' : St) (hk : (s.frac.map Prod.fst).Nodup)
    (h : writeRows s l = .ok s') :
    (∃ news : List (Nat × List Rat × List Rat), s'.rows = s.rows ++ news ∧ news.map (·.1) = l ∧
        ∀ r ∈ news, s.frac.lookup r.1 = some r.2.1 ∧ s.wts.lookup r.1 = some r.2.2) ∧
    s'.frac = s.frac.filter (fun kv => !l.contains kv.1) ∧
    s'.wts = s.wts.filter (fun kv => !l.contains kv.1) ∧
    s' = { s with rows := s'.rows, frac := s'.frac, wts := s'.wts } ∧
    l.Nodup ∧
    (∀ c, rowsTotal s'.rows c + colTotal s'.frac c = rowsTotal s.rows c + colTotal s.frac c) := by
  obtain ⟨hnd, news, rfl, hlook, rfl⟩ := writeRows_ok h
  refine ⟨⟨news, rfl, rfl, hlook⟩, rfl, rfl, rfl, hnd, fun c => ?_⟩
  show rowsTotal (s.rows ++ news) c + _ = _
  rw [rowsTotal_append, add_assoc, total_filter_keys news s.frac hk hnd (fun r hr => (hlook r hr).1) c]

/-- the fields the weight accounting reads that most operations leave alone -/
structure DataEq (s s' : St) : Prop where
  frac : s'.frac = s.frac
  wts : s'.wts = s.wts
  rows : s'.rows = s.rows
  n : s'.n = s.n
  trajNum : s'.trajNum = s.trajNum

theorem lock_dataEq {s s' : St} {e : Nat} (h : lock s e = .ok s') : DataEq s s' :=
  have t := lock_touches h
  ⟨t.frac, t.wts, t.rows, t.n, t.trajNum⟩

theorem colTotal_zeroFracs (n tn k c : Nat) : colTotal (zeroFracs n tn k) c = 0 := by
  unfold zeroFracs colTotal
  rw [List.map_map]
  have : ∀ t ∈ List.range' tn k,
      ((fun kv : Nat × List Rat => kv.2.getD c 0) ∘ fun t => (t, List.replicate n (0 : Rat))) t
        = (fun _ => (0 : Rat)) t := by
    intro t _
    simp only [Function.comp_def]
    exact getD_replicate_self n c 0
  rw [List.map_congr_left this]
  simp

theorem treatOutput_jobWs_length {s s' : St} {job : Job} {status : Status} {newW : List (List Rat)}
    {fuel : Nat} {pns : List Nat} {it : Nat}
    (h : treatOutput s job status newW fuel = .ok (s', pns, it)) :
    (jobWs job status newW).length = job.picked.length := by
  obtain ⟨_, _, _, _, _, hl, _⟩ := treatOutput_parts h
  exact hl

theorem recState_coreR {s sR : St} {job : Job} {status : Status} {newW : List (List Rat)} {tn : Nat}
    {pns : List Nat} {H : List (Nat × Nat)} (hc : CoreR s (heldJob job ++ H) s.trajNum)
    (hlen : (jobWs job status newW).length = job.picked.length)
    (hrec : recState s job status newW = .ok (sR, tn, pns)) : CoreR sR H tn := by
  rw [← heldPicked_zip hlen] at hc
  exact perEns_coreR hc (perEns_ok_iff.mp hrec)

theorem recState_core {s sR : St} {job : Job} {status : Status} {newW : List (List Rat)} {tn : Nat}
    {pns : List Nat} {H : List (Nat × Nat)} (hc : Core s (heldJob job ++ H) s.trajNum)
    (hlen : (jobWs job status newW).length = job.picked.length)
    (hrec : recState s job status newW = .ok (sR, tn, pns)) : Core sR H tn := by
  rw [← heldPicked_zip hlen] at hc
  exact perEns_core hc (perEns_ok_iff.mp hrec)

/-- the fraction table is well formed: distinct keys, vectors of length `n`, keys are path
    numbers already handed out -/
structure FracWF (s : St) : Prop where
  keys : (s.frac.map Prod.fst).Nodup
  flen : ∀ kv ∈ s.frac, kv.2.length = s.n
  bound : ∀ k ∈ s.frac.map Prod.fst, k < s.trajNum

theorem fracWF_append_zero {s : St} (fw : FracWF s) (k : Nat) :
    ((s.frac ++ zeroFracs s.n s.trajNum k).map Prod.fst).Nodup ∧
    (∀ kv ∈ s.frac ++ zeroFracs s.n s.trajNum k, kv.2.length = s.n) ∧
    (∀ x ∈ (s.frac ++ zeroFracs s.n s.trajNum k).map Prod.fst, x < s.trajNum + k) := by
  refine ⟨?_, ?_, ?_⟩
  · rw [List.map_append, zeroFracs_keys, List.nodup_append]
    refine ⟨fw.keys, List.nodup_range', ?_⟩
    intro a ha b hb
    have := fw.bound a ha
    have := (List.mem_range'_1.mp hb).1
    omega
  · intro kv hkv
    rcases List.mem_append.mp hkv with h | h
    · exact fw.flen kv h
    · simp only [zeroFracs, List.mem_map] at h
      obtain ⟨t, _, rfl⟩ := h
      simp
  · intro x hx
    rw [List.map_append, zeroFracs_keys] at hx
    rcases List.mem_append.mp hx with h | h
    · have := fw.bound x h; omega
    · have := (List.mem_range'_1.mp h).2; omega

theorem FracWF.recState {s sR : St} {job : Job} {status : Status} {newW : List (List Rat)} {tn : Nat}
    {pns : List Nat} (fw : FracWF s) (hlen : (jobWs job status newW).length = job.picked.length)
    (h : recState s job status newW = .ok (sR, tn, pns)) :
    (sR.frac.map Prod.fst).Nodup ∧ (∀ kv ∈ sR.frac, kv.2.length = sR.n) ∧
    (∀ x ∈ sR.frac.map Prod.fst, x < tn) ∧ ∀ c, colTotal sR.frac c = colTotal s.frac c := by
  obtain ⟨_, p2, p4, p5, _, _⟩ := recState_data hlen h
  rw [p5, p2, p4]
  obtain ⟨k1, k2, k3⟩ := fracWF_append_zero fw (fresh job status)
  exact ⟨k1, k2, k3, fun c => by rw [colTotal_append, colTotal_zeroFracs, add_zero]⟩

theorem treatOutput_total {s s' : St} {job : Job} {status : Status} {newW : List (List Rat)}
    {fuel : Nat} {pns : List Nat} {it : Nat} (fw : FracWF s)
    (h : treatOutput s job status newW fuel = .ok (s', pns, it)) :
    ∃ s1 tn, recState s job status newW = .ok (s1, tn, pns) ∧
      s1.locks = unlockAll s.locks (job.picked.map (fun p => (p.ens + 1).toNat)) ∧
      s'.locks = s1.locks ∧ s'.n = s.n ∧ s'.trajNum = tn ∧
      tn = s.trajNum + (if status = .acc then job.picked.length else 0) ∧
      (SlotWF s1 →
        FracWF s' ∧
        (Matchable s1 → ∀ c, rowsTotal s'.rows c + colTotal s'.frac c
          = rowsTotal s.rows c + colTotal s.frac c + (if s'.locks[c]? = some false then 1 else 0))) := by
  obtain ⟨sR, tn, s2, news, d⟩ := treatOutput_data h
  obtain ⟨p1, p2, p4, _, _, p7⟩ := recState_data d.len d.recSt
  refine ⟨sR, tn, d.recSt, p7, d.locks, d.n.trans p2, d.trajNum, p4, fun wf => ?_⟩
  obtain ⟨k1, k2, k3, hcol⟩ := fw.recState d.len d.recSt
  obtain ⟨_, r2, r3, _, _, _⟩ := recordFrac_spec wf k1 k2 d.recorded
  have hsub : ∀ x ∈ s'.frac.map Prod.fst, x ∈ sR.frac.map Prod.fst := by
    intro x hx
    rw [d.frac] at hx
    exact r2 ▸ Assoc.keys_filter_subset hx
  refine ⟨⟨?_, ?_, fun x hx => d.trajNum ▸ k3 x (hsub x hx)⟩, fun hM c => ?_⟩
  · rw [d.frac]
    exact Assoc.nodup_keys_filter (r2 ▸ k1) _
  · intro kv hkv
    rw [d.frac] at hkv
    rw [d.n]
    exact r3 kv (List.mem_of_mem_filter hkv)
  · -- what is written leaves the table with its weight; the recording adds one unit per idle column
    rw [d.rows, d.frac, rowsTotal_append, add_assoc, ← d.keys,
      total_filter_keys news s2.frac (r2 ▸ k1) (d.keys ▸ d.nodup) (fun r hr => (d.look r hr).1) c,
      recordFrac_col wf hM k1 k2 d.recorded c, hcol c, p1, d.locks, add_assoc]

/-! ### what the weight accounting reads and `pick`, `pick_lock`, `prep_md_items` leave alone

The footprints (`prep_touches`, `prep_permutes`, …) give every field of `Keep`. -/

structure Keep (s s' : St) : Prop where
  frac : s'.frac = s.frac
  wts : s'.wts = s.wts
  rows : s'.rows = s.rows
  n : s'.n = s.n
  trajNum : s'.trajNum = s.trajNum
  cstep : s'.cstep = s.cstep
  tsteps : s'.tsteps = s.tsteps
  workers : s'.workers = s.workers
  toinitiate : s'.toinitiate = s.toinitiate
  trajsPerm : s'.trajs.Perm s.trajs

end Infretis.Repex.Frac
