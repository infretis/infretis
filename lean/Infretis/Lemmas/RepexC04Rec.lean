import Infretis.Lemmas.RepexCalls
import Infretis.Lemmas.PermEmbed
import Mathlib.Tactic.Ring
/-!
# C04 — the weight-recording step `recordFrac`

One recording adds the rows of `probMatrix` of the idle live paths.  A column of `probMatrix` sums to 1 over all
rows if the column is idle (and the idle block has a non-zero permanent), to 0 otherwise (`probMatrix_col_sum`).
-/
namespace Infretis.Repex.Frac
open Infretis.Perm

def colTotal (l : List (Nat × List Rat)) (c : Nat) : Rat := (l.map (fun kv => kv.2.getD c 0)).sum

/-- column total of the `frac` part of the data-file rows -/
def rowsTotal (rows : List (Nat × List Rat × List Rat)) (c : Nat) : Rat :=
  (rows.map (fun r => r.2.1.getD c 0)).sum

def fracAt (l : List (Nat × List Rat)) (k c : Nat) : Rat := ((l.lookup k).getD []).getD c 0

@[simp] theorem colTotal_nil (c : Nat) : colTotal [] c = 0 := rfl

@[simp] theorem colTotal_cons (kv : Nat × List Rat) (l : List (Nat × List Rat)) (c : Nat) :
    colTotal (kv :: l) c = kv.2.getD c 0 + colTotal l c := by
  simp [colTotal]

@[simp] theorem colTotal_append (l₁ l₂ : List (Nat × List Rat)) (c : Nat) :
    colTotal (l₁ ++ l₂) c = colTotal l₁ c + colTotal l₂ c := by
  simp [colTotal]

@[simp] theorem rowsTotal_nil (c : Nat) : rowsTotal [] c = 0 := rfl

@[simp] theorem rowsTotal_append (l₁ l₂ : List (Nat × List Rat × List Rat)) (c : Nat) :
    rowsTotal (l₁ ++ l₂) c = rowsTotal l₁ c + rowsTotal l₂ c := by
  simp [rowsTotal]

/-- a restarted run begins with an empty row list and the table totals the run before ended with: the rows of both
    runs and what is left in the table add up -/
theorem total_across_restart {rows1 rows2 rows3 : List (Nat × List Rat × List Rat)} {f1 f2 f3 : List (Nat × List Rat)}
    {a b : Rat} {c : Nat} (h1 : rowsTotal rows1 c + colTotal f1 c = a) (hcol : colTotal f2 c = colTotal f1 c)
    (hrows : rows2 = []) (h2 : rowsTotal rows3 c + colTotal f3 c = rowsTotal rows2 c + colTotal f2 c + b) :
    rowsTotal rows1 c + (rowsTotal rows3 c + colTotal f3 c) = a + b := by
  rw [h2, hcol, ← h1, hrows, rowsTotal_nil]
  ring

theorem length_addVec (a b : List Rat) (h : a.length = b.length) : (addVec a b).length = a.length := by
  simp [addVec, h]

theorem getD_addVec (a b : List Rat) (h : a.length = b.length) (c : Nat) :
    (addVec a b).getD c 0 = a.getD c 0 + b.getD c 0 := by
  simp only [addVec, List.getD_eq_getElem?_getD, List.getElem?_zipWith]
  rcases Nat.lt_or_ge c a.length with hc | hc
  · rw [List.getElem?_eq_getElem hc, List.getElem?_eq_getElem (h ▸ hc)]
    rfl
  · rw [List.getElem?_eq_none hc, List.getElem?_eq_none (h ▸ hc)]
    simp

theorem bumped_of_not_mem (pn : Nat) (row : List Rat) (l : List (Nat × List Rat))
    (h : pn ∉ l.map Prod.fst) : bumped pn row l = l := by
  conv_rhs => rw [← List.map_id l]
  unfold bumped
  refine List.map_congr_left fun kv hkv => ?_
  have : kv.1 ≠ pn := fun e => h (e ▸ List.mem_map_of_mem (f := Prod.fst) hkv)
  simp [bump, this]

theorem bumped_len (pn n : Nat) (row : List Rat) (l : List (Nat × List Rat)) (hr : row.length = n)
    (hl : ∀ kv ∈ l, kv.2.length = n) : ∀ kv ∈ bumped pn row l, kv.2.length = n := by
  intro kv hkv
  unfold bumped at hkv
  obtain ⟨kv0, h0, rfl⟩ := List.mem_map.mp hkv
  unfold bump
  split
  · rw [length_addVec _ _ (by rw [hl kv0 h0, hr])]
    exact hl kv0 h0
  · exact hl kv0 h0

theorem colTotal_bumped (pn n : Nat) (row : List Rat) (l : List (Nat × List Rat)) (c : Nat)
    (hr : row.length = n) (hl : ∀ kv ∈ l, kv.2.length = n) (hnd : (l.map Prod.fst).Nodup)
    (hm : pn ∈ l.map Prod.fst) : colTotal (bumped pn row l) c = colTotal l c + row.getD c 0 := by
  induction l with
  | nil => simp at hm
  | cons kv t ih =>
    simp only [List.map_cons, List.nodup_cons] at hnd
    rw [show bumped pn row (kv :: t) = (kv.1, bump pn row kv.1 kv.2) :: bumped pn row t from rfl]
    simp only [colTotal_cons]
    by_cases hk : kv.1 = pn
    · have hnot : pn ∉ t.map Prod.fst := hk ▸ hnd.1
      rw [bumped_of_not_mem pn row t hnot]
      have : bump pn row kv.1 kv.2 = addVec kv.2 row := by simp [bump, hk]
      rw [this, getD_addVec _ _ (by rw [hl kv List.mem_cons_self, hr])]
      ring
    · have hm' : pn ∈ t.map Prod.fst := by
        simp only [List.map_cons, List.mem_cons] at hm
        exact hm.resolve_left fun e => hk e.symm
      rw [ih (fun kv h => hl kv (List.mem_cons_of_mem _ h)) hnd.2 hm']
      have : bump pn row kv.1 kv.2 = kv.2 := by simp [bump, hk]
      rw [this]
      ring

theorem fracAt_bumped (pn n : Nat) (row : List Rat) (l : List (Nat × List Rat)) (k c : Nat)
    (hr : row.length = n) (hl : ∀ kv ∈ l, kv.2.length = n) :
    fracAt (bumped pn row l) k c
      = fracAt l k c + (if k = pn ∧ k ∈ l.map Prod.fst then row.getD c 0 else 0) := by
  unfold fracAt
  rw [lookup_bumped]
  cases hlk : l.lookup k with
  | none => simp [Assoc.lookup_eq_none_iff.mp hlk]
  | some v =>
    simp only [Option.map_some, Option.getD_some, Assoc.mem_keys_of_lookup hlk, and_true, bump, beq_iff_eq]
    split
    · rw [getD_addVec _ _ (by rw [hl _ (Assoc.mem_of_lookup hlk), hr])]
    · ring

theorem sum_idle_rank (locks : List Bool) (g : Nat → Rat) :
    ((List.range locks.length).map
        (fun i => if locks[i]? = some false then g (rank locks i) else 0)).sum
      = ((List.range (nIdle locks)).map g).sum := by
  induction locks generalizing g with
  | nil => simp [nIdle]
  | cons l ls ih =>
    rw [List.length_cons, List.range_succ_eq_map, List.map_cons, List.sum_cons, List.map_map]
    cases l with
    | true =>
      have h1 : ((fun i => if (true :: ls)[i]? = some false then g (rank (true :: ls) i) else 0) ∘ Nat.succ)
          = (fun i => if ls[i]? = some false then g (rank ls i) else 0) := by
        funext i
        simp [rank_cons_succ]
      rw [h1, ih g]
      simp [nIdle_cons]
    | false =>
      have h1 : ((fun i => if (false :: ls)[i]? = some false then g (rank (false :: ls) i) else 0) ∘ Nat.succ)
          = (fun i => if ls[i]? = some false then (fun a => g (a + 1)) (rank ls i) else 0) := by
        funext i
        simp [rank_cons_succ, Nat.add_comm]
      rw [h1, ih (fun a => g (a + 1))]
      have h2 : nIdle (false :: ls) = nIdle ls + 1 := by simp [nIdle_cons, Nat.add_comm]
      rw [h2, List.range_succ_eq_map, List.map_cons, List.sum_cons, List.map_map]
      simp [rank, Function.comp_def]

theorem probMatrix_getD_row (W : Mat) (locks : List Bool) (hW : W.length = locks.length) (i : Nat) :
    (i < locks.length ∧ ((probMatrix W locks).getD i []).length = locks.length) ∨
      (locks.length ≤ i ∧ (probMatrix W locks).getD i [] = []) := by
  rcases Nat.lt_or_ge i locks.length with h | h
  · left
    refine ⟨h, ?_⟩
    have hl : i < (probMatrix W locks).length := by rw [probMatrix_length W locks hW]; exact h
    rw [List.getD_eq_getElem?_getD, List.getElem?_eq_getElem hl]
    exact probMatrix_row_length W locks hW _ (List.getElem_mem hl)
  · right
    refine ⟨h, ?_⟩
    rw [List.getD_eq_getElem?_getD, List.getElem?_eq_none (by rw [probMatrix_length W locks hW]; exact h)]
    rfl

theorem probMatrix_col_sum (W : Mat) (locks : List Bool) (hW : W.length = locks.length)
    (hM : permC (idle W locks) ≠ 0) (c : Nat) :
    ((List.range locks.length).map (fun i => entry (probMatrix W locks) i c)).sum
      = if locks[c]? = some false then 1 else 0 := by
  by_cases hc : locks[c]? = some false
  · rw [if_pos hc]
    have hterm : ∀ i ∈ List.range locks.length, entry (probMatrix W locks) i c
        = (if locks[i]? = some false
            then (fun a => pSpec (idle W locks) a (rank locks c)) (rank locks i) else 0) := by
      intro i _
      by_cases hi : locks[i]? = some false
      · rw [if_pos hi, probMatrix_idle W locks hW i c hi hc]
      · rw [if_neg hi, probMatrix_zero_of_not_idle W locks hW i c (Or.inl hi)]
    rw [List.map_congr_left hterm, sum_idle_rank locks (fun a => pSpec (idle W locks) a (rank locks c)),
      ← idle_length W locks hW]
    exact spec_col_sum (idle W locks) (rank locks c)
      (by rw [idle_length W locks hW]; exact rank_lt locks c hc) hM
  · rw [if_neg hc]
    have hterm : ∀ i ∈ List.range locks.length, entry (probMatrix W locks) i c = (fun _ => (0 : Rat)) i :=
      fun i _ => probMatrix_zero_of_not_idle W locks hW i c (Or.inr hc)
    rw [List.map_congr_left hterm]
    simp

/-- what the loop of "record weights" adds to column `c` in total -/
def recContrib (lockedPs : List (Option Nat)) (P : Mat) (c : Nat) (L : List (Nat × Option Nat)) : Rat :=
  (L.map (fun il => if lockedPs.contains il.2 then 0 else entry P il.1 c)).sum

/-- what it adds to entry `c` of the vector of path `k` -/
def recContribAt (lockedPs : List (Option Nat)) (P : Mat) (k c : Nat) (L : List (Nat × Option Nat)) : Rat :=
  (L.map (fun il => if lockedPs.contains il.2 then 0
                    else if il.2 = some k then entry P il.1 c else 0)).sum

theorem go_spec (lockedPs : List (Option Nat)) (P : Mat) (n : Nat) :
    ∀ (L : List (Nat × Option Nat)) (frac f' : List (Nat × List Rat)),
      (frac.map Prod.fst).Nodup → (∀ kv ∈ frac, kv.2.length = n) →
      (∀ il ∈ L, (P.getD il.1 []).length = n) →
      recordFrac.go lockedPs P frac L = .ok f' →
      f'.map Prod.fst = frac.map Prod.fst ∧ (∀ kv ∈ f', kv.2.length = n) ∧
      (∀ c, colTotal f' c = colTotal frac c + recContrib lockedPs P c L) ∧
      (∀ k c, fracAt f' k c = fracAt frac k c + recContribAt lockedPs P k c L) ∧
      (∀ k, (∀ il ∈ L, lockedPs.contains il.2 = false → il.2 ≠ some k) →
        f'.lookup k = frac.lookup k) := by
  intro L
  induction L with
  | nil =>
    intro frac f' hnd hl _ h
    simp only [recordFrac.go, Except.ok.injEq] at h
    subst h
    exact ⟨rfl, hl, fun c => by simp [recContrib], fun k c => by simp [recContribAt], fun _ _ => rfl⟩
  | cons il rest ih =>
    intro frac f' hnd hl hP h
    obtain ⟨idx, live⟩ := il
    have hPr : ∀ il ∈ rest, (P.getD il.1 []).length = n :=
      fun il h => hP il (List.mem_cons_of_mem _ h)
    unfold recordFrac.go at h
    by_cases hc : lockedPs.contains live = true
    · rw [if_pos hc] at h
      obtain ⟨h1, h2, h3, h4, h5⟩ := ih frac f' hnd hl hPr h
      refine ⟨h1, h2, ?_, ?_, ?_⟩
      · intro c; rw [h3 c]; simp only [recContrib, List.map_cons, List.sum_cons, hc, if_true, zero_add]
      · intro k c; rw [h4 k c]; simp only [recContribAt, List.map_cons, List.sum_cons, hc, if_true, zero_add]
      · intro k hk; exact h5 k (fun il h => hk il (List.mem_cons_of_mem _ h))
    · rw [if_neg hc] at h
      cases live with
      | none => exact absurd h (by simp)
      | some pn =>
        simp only at h
        split at h
        · exact absurd h (by simp)
        rename_i f1 hupd
        obtain ⟨hmem, rfl⟩ := updFrac_ok hupd
        have hrow : (P.getD idx []).length = n := hP (idx, some pn) List.mem_cons_self
        have hnd1 : ((bumped pn (P.getD idx []) frac).map Prod.fst).Nodup := by
          rw [keys_bumped]; exact hnd
        have hl1 := bumped_len pn n _ frac hrow hl
        obtain ⟨h1, h2, h3, h4, h5⟩ := ih _ f' hnd1 hl1 hPr h
        have hcf : lockedPs.contains (some pn) = false := by simpa using hc
        refine ⟨by rw [h1, keys_bumped], h2, ?_, ?_, ?_⟩
        · intro c
          rw [h3 c, colTotal_bumped pn n _ frac c hrow hl hnd hmem]
          simp only [recContrib, List.map_cons, List.sum_cons, hcf, entry]
          simp only [Bool.false_eq_true, if_false]
          ring
        · intro k c
          rw [h4 k c, fracAt_bumped pn n _ frac k c hrow hl]
          simp only [recContribAt, List.map_cons, List.sum_cons, hcf, entry]
          simp only [Bool.false_eq_true, if_false]
          by_cases hkp : k = pn
          · subst hkp
            simp [hmem]
            ring
          · have : ¬ (some pn = some k) := by simpa using fun e => hkp e.symm
            simp [hkp, this]
        · intro k hk
          have hkp : k ≠ pn := by
            intro e
            exact hk (idx, some pn) List.mem_cons_self hcf (by rw [e])
          rw [h5 k (fun il h => hk il (List.mem_cons_of_mem _ h)), lookup_bumped]
          cases frac.lookup k <;> simp [bump, hkp]

/-- slot/lock well-formedness at recording time (all of it follows from C03's invariant `Core`) -/
structure SlotWF (s : St) : Prop where
  lenW : s.W.length = s.n
  lenT : s.trajs.length = s.n
  lenL : s.locks.length = s.n
  ghost : s.locks[s.n - 1]? = some true
  live : ∀ i, i < s.n - 1 → s.locks[i]? = some false → ∃ pn, s.trajs[i]? = some (some pn)
  inj : ∀ a b pn, a < s.n - 1 → b < s.n - 1 →
    s.trajs[a]? = some (some pn) → s.trajs[b]? = some (some pn) → a = b

/-- the idle block admits a perfect matching with non-zero weights (its permanent is non-zero);
    invariant of the sampler by C05 -/
def Matchable (s : St) : Prop := permC (idle s.W s.locks) ≠ 0

theorem SlotWF.npos {s : St} (wf : SlotWF s) : s.n - 1 + 1 = s.n := by
  have h := wf.ghost
  have : s.n - 1 < s.locks.length := by
    rcases Nat.lt_or_ge (s.n - 1) s.locks.length with h' | h'
    · exact h'
    · rw [List.getElem?_eq_none h'] at h; exact absurd h (by simp)
  rw [wf.lenL] at this
  omega

theorem range_zip_eq_map {α : Type} (l : List α) (d : α) :
    (List.range l.length).zip l = (List.range l.length).map (fun i => (i, l.getD i d)) := by
  apply List.ext_getElem
  · simp
  · intro i h1 h2
    have hi : i < l.length := by simpa using h1
    simp [List.getD_eq_getElem?_getD, List.getElem?_eq_getElem hi]

theorem livePaths_getD {s : St} (wf : SlotWF s) (i : Nat) (hi : i < s.n - 1) :
    (livePaths s).getD i none = s.trajs.getD i none := by
  unfold livePaths
  rw [List.getD_eq_getElem?_getD, List.getD_eq_getElem?_getD, List.getElem?_dropLast,
    if_pos (by rw [wf.lenT]; exact hi)]

theorem not_locked_of_idle {s : St} (wf : SlotWF s) (i : Nat) (hi : i < s.n - 1)
    (hl : s.locks[i]? = some false) : (lockedPaths s).contains (s.trajs.getD i none) = false := by
  obtain ⟨pn, hpn⟩ := wf.live i hi hl
  rw [List.getD_eq_getElem?_getD, hpn]
  simp only [Option.getD_some]
  rw [Bool.eq_false_iff]
  intro hc
  rw [List.contains_iff_mem] at hc
  obtain ⟨j, hj1, _, hj3, hj4⟩ := mem_lockedPaths_iff.mp hc
  rw [wf.lenT] at hj1
  have := wf.inj j i pn hj1 hi hj3 hpn
  subst this
  rw [hl] at hj4
  exact absurd hj4 (by simp)

theorem prob_row_length {s : St} (wf : SlotWF s) (i : Nat) (hi : i < s.n - 1) :
    ((prob s).getD i []).length = s.n := by
  unfold prob
  rcases probMatrix_getD_row s.W s.locks (by rw [wf.lenW, wf.lenL]) i with ⟨_, h⟩ | ⟨h, _⟩
  · rw [h, wf.lenL]
  · rw [wf.lenL] at h; omega

theorem recList_eq {s : St} (wf : SlotWF s) :
    (List.range (livePaths s).length).zip (livePaths s)
      = (List.range (s.n - 1)).map (fun i => (i, (livePaths s).getD i none)) := by
  rw [range_zip_eq_map _ none]
  have : (livePaths s).length = s.n - 1 := by simp [livePaths, wf.lenT]
  rw [this]

theorem recContrib_eq {s : St} (wf : SlotWF s) (c : Nat) :
    recContrib (lockedPaths s) (prob s) c
        ((List.range (s.n - 1)).map (fun i => (i, (livePaths s).getD i none)))
      = ((List.range s.locks.length).map (fun i => entry (prob s) i c)).sum := by
  have hW : s.W.length = s.locks.length := by rw [wf.lenW, wf.lenL]
  unfold recContrib
  rw [List.map_map, wf.lenL, ← wf.npos, List.range_succ, List.map_append, List.sum_append]
  have hlast : entry (prob s) (s.n - 1) c = 0 :=
    probMatrix_zero_of_not_idle s.W s.locks hW _ _ (Or.inl (by rw [wf.ghost]; simp))
  simp only [List.map_cons, List.map_nil, List.sum_cons, List.sum_nil, hlast, add_zero]
  congr 1
  apply List.map_congr_left
  intro i hi
  have hi : i < s.n - 1 := List.mem_range.mp hi
  simp only [Function.comp_def]
  rw [livePaths_getD wf i hi]
  by_cases hl : s.locks[i]? = some false
  · rw [not_locked_of_idle wf i hi hl]
    simp
  · rw [show entry (prob s) i c = 0 from probMatrix_zero_of_not_idle s.W s.locks hW _ _ (Or.inl hl)]
    simp

theorem sum_range_single (m i : Nat) (f : Nat → Rat) (hi : i < m)
    (h : ∀ j, j < m → j ≠ i → f j = 0) : ((List.range m).map f).sum = f i := by
  induction m with
  | zero => omega
  | succ m ih =>
    rw [List.range_succ, List.map_append, List.sum_append]
    simp only [List.map_cons, List.map_nil, List.sum_cons, List.sum_nil, add_zero]
    by_cases him : i = m
    · subst him
      have hz : ∀ j ∈ List.range i, f j = (fun _ => (0 : Rat)) j := by
        intro j hj
        have := List.mem_range.mp hj
        exact h j (by omega) (by omega)
      rw [List.map_congr_left hz]
      simp
    · rw [ih (by omega) (fun j hj hne => h j (by omega) hne), h m (by omega) (fun e => him e.symm)]
      ring

theorem getD_eq_some_iff {l : List (Option Nat)} {j pn : Nat} :
    l.getD j none = some pn ↔ l[j]? = some (some pn) := by
  rw [List.getD_eq_getElem?_getD]
  cases l[j]? with
  | none => simp
  | some x => simp

theorem recordFrac_spec {s s' : St} (wf : SlotWF s) (hk : (s.frac.map Prod.fst).Nodup)
    (hl : ∀ kv ∈ s.frac, kv.2.length = s.n) (h : recordFrac s = .ok s') :
    s' = { s with frac := s'.frac } ∧ s'.frac.map Prod.fst = s.frac.map Prod.fst ∧
    (∀ kv ∈ s'.frac, kv.2.length = s.n) ∧
    (∀ c, colTotal s'.frac c = colTotal s.frac c
        + ((List.range s.locks.length).map (fun i => entry (prob s) i c)).sum) ∧
    (∀ i pn, i < s.n - 1 → s.locks[i]? = some false → s.trajs[i]? = some (some pn) →
        ∀ c, fracAt s'.frac pn c = fracAt s.frac pn c + entry (prob s) i c) ∧
    (∀ k, (∀ i, i < s.n - 1 → s.locks[i]? = some false → s.trajs[i]? ≠ some (some k)) →
        s'.frac.lookup k = s.frac.lookup k) := by
  obtain ⟨f, hgo, rfl⟩ := recordFrac_ok h
  rw [recList_eq wf] at hgo
  have hP : ∀ il ∈ (List.range (s.n - 1)).map (fun i => (i, (livePaths s).getD i none)),
      ((prob s).getD il.1 []).length = s.n := by
    intro il hil
    simp only [List.mem_map, List.mem_range] at hil
    obtain ⟨i, hi, rfl⟩ := hil
    exact prob_row_length wf i hi
  obtain ⟨h1, h2, h3, h4, h5⟩ := go_spec (lockedPaths s) (prob s) s.n _ s.frac f hk hl hP hgo
  refine ⟨rfl, h1, h2, ?_, ?_, ?_⟩
  · intro c
    rw [h3 c, recContrib_eq wf c]
  · intro i pn hi hli htr c
    rw [h4 pn c]
    congr 1
    unfold recContribAt
    rw [List.map_map]
    rw [sum_range_single (s.n - 1) i _ hi]
    · simp only [Function.comp_def]
      rw [livePaths_getD wf i hi, not_locked_of_idle wf i hi hli]
      rw [if_neg (by simp), if_pos (getD_eq_some_iff.mpr htr)]
    · intro j hj hne
      simp only [Function.comp_def]
      rw [livePaths_getD wf j hj]
      split
      · rfl
      · rw [if_neg]
        intro he
        exact hne (wf.inj j i pn hj hi (getD_eq_some_iff.mp he) htr)
  · intro k hkk
    apply h5 k
    intro il hil hnc
    simp only [List.mem_map, List.mem_range] at hil
    obtain ⟨j, hj, rfl⟩ := hil
    simp only at hnc ⊢
    rw [livePaths_getD wf j hj] at hnc ⊢
    intro he
    have htr := getD_eq_some_iff.mp he
    have hlj : s.locks[j]? = some true := by
      have hjl : j < s.locks.length := by rw [wf.lenL]; omega
      rw [List.getElem?_eq_getElem hjl]
      cases hb : s.locks[j] with
      | true => rfl
      | false => exact absurd htr (hkk j hj (by rw [List.getElem?_eq_getElem hjl, hb]))
    have := mem_lockedPaths_of_locked (by rw [wf.lenT]; exact hj) (by rw [wf.lenL]; exact hj) hlj
    rw [← List.contains_iff_mem, hnc] at this
    exact absurd this (by simp)

theorem recordFrac_col {s s' : St} (wf : SlotWF s) (hM : Matchable s)
    (hk : (s.frac.map Prod.fst).Nodup) (hl : ∀ kv ∈ s.frac, kv.2.length = s.n)
    (h : recordFrac s = .ok s') (c : Nat) :
    colTotal s'.frac c = colTotal s.frac c + (if s.locks[c]? = some false then 1 else 0) := by
  obtain ⟨_, _, _, h4, _, _⟩ := recordFrac_spec wf hk hl h
  rw [h4 c]
  unfold prob
  rw [probMatrix_col_sum s.W s.locks (by rw [wf.lenW, wf.lenL]) hM c]

end Infretis.Repex.Frac
