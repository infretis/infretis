import Infretis.Lemmas.RepexC03Treat
import Infretis.Lemmas.RepexC03Eng
import Infretis.Lemmas.RepexRun
/-!
# C03 — the scheduler invariant and its preservation by every event of `sysStep`

`InvR y` = `CoreR` for the held list of the jobs in flight + job shape + distinct pins (with the
bookkeeping of `initiate`: `toinitiate ≤ workers`, and while it counts down the pins in flight are below
`workers - toinitiate`) + engine cells (`cell` of `RepexC03Eng`) owned by the holder's pin; `Inv y` is the same over `Core`
(fresh start: nothing to re-issue).  Each part of an event (`RepexRun`) keeps `InvR`; `InvMid` is the invariant
when `prep_md_items` is called, for a worker without a job in flight.
-/
namespace Infretis.Repex

structure JobOk (j : Job) : Prop where
  shape : j.picked.length = 1 ∨ j.picked.map (·.ens) = [-1, 0]
  ensGe : ∀ p ∈ j.picked, -1 ≤ p.ens
  wf : j.wfolder = j.pin

theorem JobOk.ne_nil {j : Job} (h : JobOk j) : j.picked ≠ [] := by
  rcases h.shape with h1 | h1
  · intro h0; rw [h0] at h1; simp at h1
  · intro h0; rw [h0] at h1; simp at h1

theorem heldJob_fst_of_zero_swap (j : Job) (h : j.picked.map (·.ens) = [-1, 0]) :
    (heldJob j).map Prod.fst = [0, 1] := by
  unfold heldJob
  rw [List.map_map]
  generalize j.picked = ps at h
  match ps, h with
  | [], h => simp at h
  | [_], h => simp at h
  | _ :: _ :: _ :: _, h => simp at h
  | [p, q], h =>
    simp only [List.map_cons, List.map_nil, List.cons.injEq, and_true] at h
    simp [slotOf, h.1, h.2]

structure Inv (y : Sys) : Prop where
  core : Core y.s (held y.jobs) y.s.trajNum
  jobs : ∀ j ∈ y.jobs, JobOk j
  pins : (y.jobs.map (·.pin)).Nodup
  tole : y.s.toinitiate ≤ (y.s.workers : Int)
  pinBound : 0 ≤ y.s.toinitiate → ∀ j ∈ y.jobs, (j.pin : Int) < (y.s.workers : Int) - y.s.toinitiate
  eng : ∀ j ∈ y.jobs, ∀ p ∈ j.picked, ∀ ki ∈ p.engIdx, cell y.s.occ ki.1 ki.2 = some (j.pin : Int)

structure InvR (y : Sys) : Prop where
  core : CoreR y.s (held y.jobs) y.s.trajNum
  jobs : ∀ j ∈ y.jobs, JobOk j
  pins : (y.jobs.map (·.pin)).Nodup
  tole : y.s.toinitiate ≤ (y.s.workers : Int)
  pinBound : 0 ≤ y.s.toinitiate → ∀ j ∈ y.jobs, (j.pin : Int) < (y.s.workers : Int) - y.s.toinitiate
  eng : ∀ j ∈ y.jobs, ∀ p ∈ j.picked, ∀ ki ∈ p.engIdx, cell y.s.occ ki.1 ki.2 = some (j.pin : Int)

theorem Inv.invR {y : Sys} (hi : Inv y) : InvR y :=
  ⟨hi.core.coreR, hi.jobs, hi.pins, hi.tole, hi.pinBound, hi.eng⟩

theorem InvR.inv {y : Sys} (hi : InvR y) (h0 : y.s.locked0 = []) : Inv y :=
  ⟨hi.core.core h0, hi.jobs, hi.pins, hi.tole, hi.pinBound, hi.eng⟩

theorem heldPicked_map_engIdx (ps : List Picked) (f : Picked → List (Nat × Nat)) :
    heldPicked (ps.map (fun p => { p with engIdx := f p })) = heldPicked ps := by
  simp [heldPicked, slotOf, List.map_map, Function.comp_def]

theorem pickShape_map_engIdx (locks : List Bool) (ps : List Picked) (f : Picked → List (Nat × Nat)) :
    PickShape locks (ps.map (fun p => { p with engIdx := f p })) ↔ PickShape locks ps := by
  unfold PickShape
  simp [List.map_map, Function.comp_def]

theorem pickPart_coreR {s s' : St} {H : List (Nat × Nat)} {tn : Nat} (h : CoreR s H tn) {o : PickOutcome}
    {saved : Nat} {ps : List Picked} {ds : List Draw} (hp : pickPart s o saved = .ok (s', ps, ds)) :
    PickSpecR s s' H tn ps := by
  unfold pickPart at hp
  split at hp
  · rename_i hge0
    exact pickLock_coreR h hge0 o saved ps ds hp
  · rename_i hlt0
    exact pick_coreR h o ps ds hp (Or.inl (by omega))

/-- what a successful `prep_md_items` establishes: the job's slots are locked and held, the job is well formed, carries
    the worker's pin and goes on record; the engine cells of other pins stay, the job's own cells carry its pin; at most
    the first record waiting to be re-issued is consumed -/
structure PrepSpecR (s s' : St) (H : List (Nat × Nat)) (prev : Option Nat) (job : Job) : Prop where
  core : CoreR s' (heldJob job ++ H) s'.trajNum
  jobOk : JobOk job
  shape : PickShape s.locks job.picked
  pin : some job.pin = (if s.toinitiate ≥ 0 then some s.cworker else prev)
  occKept : ∀ k i x, cell s.occ k i = some x → x ≠ -1 → x ≠ (job.pin : Int) → cell s'.occ k i = some x
  occOwn : ∀ p ∈ job.picked, ∀ ki ∈ p.engIdx, cell s'.occ ki.1 ki.2 = some (job.pin : Int)
  locked : s'.locked = s.locked ++ [(job.picked.map (·.ens), job.picked.map (·.pn))]
  locked0 : s'.locked0 = s.locked0 ∨ ∃ hd, s.locked0 = hd :: s'.locked0

theorem prep_specR {s s' : St} {H : List (Nat × Nat)} (prev : Option Nat) (o : PickOutcome) (saved : Nat)
    (job : Job) (ds : List Draw) (hc : CoreR s H s.trajNum)
    (h : prep s prev o saved = .ok (s', job, ds)) : PrepSpecR s s' H prev job := by
  obtain ⟨s1, ps, pin, occ', idx, hr, hpin, hass, hmiss, rfl, hjp, hjw, hjk⟩ := prep_parts h
  obtain ⟨_, _, _, _⟩ := job
  simp only at hjp hjw hjk
  subst hjp hjw hjk
  have ha1 := pickPart_touches hr
  have hk := pickPart_coreR hc hr
  obtain ⟨he1, he2⟩ := assignEngines_spec hass
  have hshape' := (pickShape_map_engIdx s.locks ps
    (fun p => (s1.ensEng.getD (p.ens + 1).toNat []).map (fun k => (k, (idx.lookup k).getD 0)))).mpr hk.shape
  refine ⟨?_, ⟨?_, ?_, rfl⟩, hshape', hpin.symm, ?_, ?_, ?_, (pickPart_locked0 hr :)⟩
  · show CoreR _ (heldPicked (ps.map _) ++ H) _
    rw [heldPicked_map_engIdx]
    have := hk.core.congrTo (s' := { s1 with occ := occ' }) rfl rfl rfl rfl rfl id
    rw [← ha1.trajNum] at this
    exact this
  · rcases hshape' with h1 | h2
    · exact Or.inl h1
    · exact Or.inr h2.1
  · intro p' hp'
    simp only [List.mem_map] at hp'
    obtain ⟨p, hp, rfl⟩ := hp'
    exact hk.ensGe p hp
  · intro k i x hx hne hpn
    rw [← ha1.occ] at hx
    exact he1 k i x hx hne hpn
  · intro p' hp' ki hki
    simp only [List.mem_map] at hp'
    obtain ⟨p, hp, rfl⟩ := hp'
    simp only [List.mem_map] at hki
    obtain ⟨k, hk, rfl⟩ := hki
    have hsome : (idx.lookup k).isNone = false := by
      have := List.any_eq_false.mp hmiss p hp
      rw [Bool.not_eq_true, List.any_eq_false] at this
      simpa using this k hk
    cases hl : idx.lookup k with
    | none => rw [hl] at hsome; exact absurd hsome (by simp)
    | some i =>
      simp only [Option.getD_some]
      exact he2 (k, i) (Assoc.mem_of_lookup hl)
  · show s1.locked = _
    rw [hk.locked]
    simp [List.map_map, Function.comp_def]

/-- on a fresh start nothing to re-issue appears -/
theorem prep_spec {s s' : St} {H : List (Nat × Nat)} (prev : Option Nat) (o : PickOutcome) (saved : Nat)
    (job : Job) (ds : List Draw) (hc : Core s H s.trajNum)
    (h : prep s prev o saved = .ok (s', job, ds)) : Core s' (heldJob job ++ H) s'.trajNum := by
  have hk := prep_specR prev o saved job ds hc.coreR h
  refine hk.core.core ?_
  rcases hk.locked0 with h0 | ⟨hd, h0⟩
  · exact h0.trans hc.l0
  · rw [hc.l0] at h0; cases h0

theorem perm_cons_eraseIdx {α : Type} : ∀ (l : List α) (k : Nat) (a : α), l[k]? = some a →
    l.Perm (a :: l.eraseIdx k) := by
  intro l k a h
  obtain ⟨hk, rfl⟩ := List.getElem?_eq_some_iff.mp h
  exact (List.getElem_cons_eraseIdx_perm hk).symm

theorem held_perm_erase (jobs : List Job) (k : Nat) (job : Job) (h : jobs[k]? = some job) :
    (held jobs).Perm (heldJob job ++ held (jobs.eraseIdx k)) := by
  have := (perm_cons_eraseIdx jobs k job h).flatMap_right heldJob
  simpa [held, List.flatMap_cons] using this

theorem held_append_perm (jobs : List Job) (job : Job) :
    (heldJob job ++ held jobs).Perm (held (jobs ++ [job])) := by
  unfold held
  rw [List.flatMap_append]
  simp only [List.flatMap_cons, List.flatMap_nil, List.append_nil]
  exact List.perm_append_comm

/-- `initiate()` does not reopen the initiation -/
theorem initiate_nonneg (s : St) : 0 ≤ (initiate s).1.toinitiate → 0 ≤ s.toinitiate := by
  rcases initiate_cases s with ⟨hin, _⟩ | ⟨ti, hti, hin⟩ <;> rw [hin]
  · exact id
  · show 0 ≤ ti - 1 → _
    omega

theorem CoreR.initiated {s : St} {H : List (Nat × Nat)} {tn : Nat} (h : CoreR s H tn) : CoreR (initiate s).1 H tn :=
  have t := initiate_touches s
  h.congrTo t.n t.W t.trajs t.locks t.locked0 (initiate_nonneg s)

theorem initiate_invR {y : Sys} (hi : InvR y) : InvR y.initiated := by
  have hc := (initiate_touches y.s).trajNum ▸ hi.core.initiated
  unfold Sys.initiated
  rcases initiate_cases y.s with ⟨hin, _⟩ | ⟨ti, hti, hin⟩
  · rw [hin]; exact hi
  · rw [hin] at hc ⊢
    have htole := hi.tole
    refine ⟨hc, hi.jobs, hi.pins, ?_, ?_, hi.eng⟩
    · show ti - 1 ≤ (y.s.workers : Int)
      omega
    · show 0 ≤ ti - 1 → ∀ j ∈ y.jobs, (j.pin : Int) < (y.s.workers : Int) - (ti - 1)
      intro h0 j hj
      have := hi.pinBound (by omega) j hj
      omega

/-- the state `treat_output` runs on when the `k`-th job completes, with what the others hold -/
theorem InvR.core_completion {y : Sys} (hi : InvR y) {k : Nat} {job : Job}
    (hj : y.jobs[k]? = some job) :
    CoreR (loop y.s).1 (heldJob job ++ held (y.jobs.eraseIdx k)) (loop y.s).1.trajNum := by
  rw [(loop_touches y.s).trajNum]
  exact (hi.core.frame (loop_touches y.s)).perm (held_perm_erase y.jobs k job hj)

/-- `InvR` when `prep_md_items` is called: the worker served, `cworker`, has no job in flight -/
structure InvMid (y : Sys) : Prop where
  inv : InvR y
  free : ∀ j ∈ y.jobs, j.pin ≠ y.s.cworker
  bound : 0 ≤ y.s.toinitiate → (y.s.cworker : Int) < (y.s.workers : Int) - y.s.toinitiate

/-- during initiation the worker served is the next fresh one -/
theorem InvR.mid_go {y : Sys} (hi : InvR y) (hgo : (initiate y.s).2 = true) : InvMid y.initiated := by
  have hi1 := initiate_invR hi
  obtain ⟨_, hge, _, hs1⟩ := initiate_go hgo
  have htole := hi.tole
  unfold Sys.initiated at hi1 ⊢
  rw [hs1] at hi1 ⊢
  refine ⟨hi1, fun j hj => ?_, fun _ => ?_⟩
  · have := hi.pinBound (by omega) j hj
    show j.pin ≠ ((y.s.workers : Int) - y.s.toinitiate).toNat
    omega
  · show ((((y.s.workers : Int) - y.s.toinitiate).toNat : Nat) : Int) < (y.s.workers : Int) - (y.s.toinitiate - 1)
    omega

/-- `loop()` and `treat_output` of the `k`-th job in flight: the job is gone, its slots are released, its engine cells
    stay marked with its pin (until the worker's next `prep_md_items`), and its worker is the one served next -/
theorem InvR.mid_done {y ym : Sys} (hi : InvR y) {k : Nat} {st : Status} {w : List (List Rat)} {job : Job}
    (hc : Completes y k st w job ym) : InvMid ym := by
  have hq := hc.touches
  have hcw := hc.cworker
  cases hc with | mk hgo hj ht =>
  rename_i s2 _ _
  have hc2 := treatOutput_coreR job st w _ _ _ (hi.core_completion hj) ht
  have hrest : ∀ j ∈ y.jobs.eraseIdx k, j ∈ y.jobs := fun j hj => List.mem_of_mem_eraseIdx hj
  have hpins : (job.pin :: (y.jobs.eraseIdx k).map (·.pin)).Nodup := by
    simpa using ((perm_cons_eraseIdx y.jobs k job hj).map (·.pin)).nodup_iff.mp hi.pins
  rw [List.nodup_cons] at hpins
  refine ⟨⟨hc2, fun j hj => hi.jobs j (hrest j hj), hpins.2, ?_, ?_, ?_⟩, ?_, ?_⟩
  · show s2.toinitiate ≤ (s2.workers : Int)
    rw [hq.toinitiate, hq.workers]; exact hi.tole
  · show 0 ≤ s2.toinitiate → ∀ j ∈ y.jobs.eraseIdx k, (j.pin : Int) < (s2.workers : Int) - s2.toinitiate
    rw [hq.toinitiate, hq.workers]
    exact fun h0 j hj => hi.pinBound h0 j (hrest j hj)
  · intro j hj p hp ki hki
    show cell s2.occ ki.1 ki.2 = _
    rw [hq.occ]
    exact hi.eng j (hrest j hj) p hp ki hki
  · intro j hj heq
    exact hpins.1 (List.mem_map.mpr ⟨j, hj, heq.trans hcw⟩)
  · show 0 ≤ s2.toinitiate → (s2.cworker : Int) < (s2.workers : Int) - s2.toinitiate
    rw [hq.toinitiate, hq.workers, hcw]
    exact fun h0 => hi.pinBound h0 job (List.mem_of_getElem? hj)

theorem InvMid.submit {ym y' : Sys} (hm : InvMid ym) {o : PickOutcome} {saved : Nat} {jd : Job × List Draw}
    (hs : Submits ym (some ym.s.cworker) o saved jd y') : InvR y' ∧ (ym.s.locked0 = [] → y'.s.locked0 = []) := by
  have hjp := hs.pin
  cases hs with | mk h =>
  rename_i s' job ds
  replace hjp : job.pin = ym.s.cworker := hjp
  have hi := hm.inv
  have hk := prep_specR _ o saved job ds hi.core h
  have hto := (prep_touches h).toinitiate
  have hwo := (prep_touches h).workers
  refine ⟨⟨hk.core.perm (held_append_perm ym.jobs job), forall_mem_snoc hi.jobs hk.jobOk, ?_, ?_, ?_, ?_⟩, ?_⟩
  · rw [List.map_append, List.nodup_append]
    refine ⟨hi.pins, by simp, ?_⟩
    intro a ha b hb
    obtain ⟨j, hj, rfl⟩ := List.mem_map.mp ha
    rw [List.mem_singleton.mp hb]
    exact fun heq => hm.free j hj (heq.trans hjp)
  · show s'.toinitiate ≤ (s'.workers : Int)
    rw [hto, hwo]; exact hi.tole
  · show 0 ≤ s'.toinitiate → ∀ j ∈ ym.jobs ++ [job], (j.pin : Int) < (s'.workers : Int) - s'.toinitiate
    rw [hto, hwo]
    exact fun h0 => forall_mem_snoc (hi.pinBound h0) (hjp ▸ hm.bound h0)
  · refine forall_mem_snoc ?_ hk.occOwn
    intro j hj p hp ki hki
    have := hm.free j hj
    exact hk.occKept ki.1 ki.2 _ (hi.eng j hj p hp ki hki) (by omega) (by omega)
  · intro h0
    rcases hk.locked0 with hl0 | ⟨hd, hl0⟩
    · exact hl0.trans h0
    · rw [h0] at hl0; cases hl0

theorem invR_kept : Kept (fun _ _ => True) InvR InvMid where
  go := InvR.mid_go
  stop h _ := initiate_invR h
  done _ h _ hc := by
    have := h.mid_done hc
    split
    · exact this
    · exact this.inv
  submit hm hs := (hm.submit hs).1

theorem inv_kept : Kept (fun _ _ => True) (fun y => InvR y ∧ y.s.locked0 = []) (fun y => InvMid y ∧ y.s.locked0 = []) :=
  invR_kept.and (fun _ h0 _ => (initiate_touches _).locked0.trans h0) (fun _ h0 _ => (initiate_touches _).locked0.trans h0)
    (fun _ h h0 _ hc => by have := hc.touches.locked0.trans h0; split <;> exact this)
    (fun hm h0 hs => (hm.submit hs).2 h0)

theorem sysStep_preservesR {y y' : Sys} (ev : Ev) (hi : InvR y) (h : sysStep y ev = .ok y') : InvR y' :=
  invR_kept.sysStep hi trivial h

theorem sysStep_preserves {y y' : Sys} (ev : Ev) (hi : Inv y) (h : sysStep y ev = .ok y') : Inv y' :=
  have h' := inv_kept.sysStep ⟨hi.invR, hi.core.l0⟩ trivial h
  h'.1.inv h'.2

theorem run_preservesR : ∀ (evs : List Ev) {y y' : Sys}, InvR y → run y evs = .ok y' → InvR y' :=
  run_invariant (fun ev => sysStep_preservesR ev)

theorem run_preserves : ∀ (evs : List Ev) {y y' : Sys}, Inv y → run y evs = .ok y' → Inv y' :=
  run_invariant (fun ev => sysStep_preserves ev)

end Infretis.Repex
