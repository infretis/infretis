import Infretis.Model.VelExtra
import Infretis.Lemmas.InsSort
import Mathlib.Algebra.Order.Field.Rat
/-!
C16, LAMMPS `get_atom_masses` (`Model/VelExtra.lean`): the result does not depend on the order of the `Masses` and
`Atoms` rows, and the loop gives every atom the mass selected for its type.
-/
namespace Infretis.VelExtra
open Infretis.Vel

theorem pickSingle_eq_ok {l : List Rat} {m : Rat} : pickSingle l = .ok m ↔ l = [m] := by
  match l with
  | [] => simp [pickSingle]
  | [a] => simp [pickSingle]
  | a :: b :: t => simp [pickSingle]

theorem pickSingle_perm {l l' : List Rat} (h : l.Perm l') : pickSingle l = pickSingle l' := by
  match l, h with
  | [], h => have : l' = [] := List.Perm.nil_eq h |>.symm; subst this; rfl
  | [a], h =>
    have : l' = [a] := List.perm_singleton.mp h.symm
    subst this; rfl
  | a :: b :: t, h =>
    have hl : l'.length = t.length + 2 := by simpa using h.length_eq.symm
    match l', hl with
    | x :: y :: t', _ => rfl

theorem selMass_perm {mr mr' : List (Rat × Rat)} (h : mr.Perm mr') (t : Nat) :
    selMass .repaired mr t = selMass .repaired mr' t := by
  unfold selMass
  exact pickSingle_perm ((h.filter _).map _)

theorem assignLoop_perm {mr mr' : List (Rat × Rat)} (h : mr.Perm mr') (tyCol : List (Option Rat)) :
    ∀ (ts : List Nat) (masses : List Rat),
      assignLoop .repaired mr tyCol ts masses = assignLoop .repaired mr' tyCol ts masses := by
  intro ts
  induction ts with
  | nil => intro _; rfl
  | cons t ts ih =>
    intro masses
    simp only [assignLoop, selMass_perm h t]
    cases selMass .repaired mr' t with
    | error e => rfl
    | ok m => exact ih _

theorem sortById_is : IsInsSort rowId (· ≤ ·) insertById sortById :=
  ⟨fun _ => rfl, fun _ _ _ => rfl, rfl, fun _ _ => rfl⟩

theorem sortById_length (l : List (List Rat)) : (sortById l).length = l.length := (sortById_is.perm l).length_eq

theorem sortById_perm_eq {rows rows' : List (List Rat)} (h : rows.Perm rows')
    (hid : ∀ a ∈ rows, ∀ b ∈ rows, rowId a = rowId b → a = b) :
    sortById rows = sortById rows' :=
  sortById_is.perm_eq le_trans (fun h => le_of_lt (not_le.mp h)) h
    fun a ha b hb hab hba => hid a ha b hb (le_antisymm hab hba)

theorem assignLoop_length (v : Variant) (mr : List (Rat × Rat)) (tyCol : List (Option Rat)) :
    ∀ (ts : List Nat) (masses out : List Rat), tyCol.length = masses.length →
      assignLoop v mr tyCol ts masses = .ok out → out.length = masses.length := by
  intro ts
  induction ts with
  | nil => intro masses out _ h; simp only [assignLoop, Except.ok.injEq] at h; rw [← h]
  | cons t ts ih =>
    intro masses out hl h
    simp only [assignLoop] at h
    split at h
    · cases h
    · rename_i m _
      have := ih _ out (by simp [List.length_zipWith, hl]) h
      simpa [List.length_zipWith, hl] using this

theorem assignStep_getElem? (tyCol : List (Option Rat)) (masses : List Rat) (t : Nat) (m : Rat) (p : Nat)
    (ty : Option Rat) (hp : tyCol[p]? = some ty) :
    (List.zipWith (fun ty old => if ty = some (t : Rat) then m else old) tyCol masses)[p]?
      = (masses[p]?).map (fun old => if ty = some (t : Rat) then m else old) := by
  rw [List.getElem?_zipWith, hp]
  cases masses[p]? <;> rfl

theorem assignLoop_keeps (v : Variant) (mr : List (Rat × Rat)) (tyCol : List (Option Rat)) (p : Nat)
    (ty : Option Rat) (hp : tyCol[p]? = some ty) :
    ∀ (ts : List Nat) (masses out : List Rat), assignLoop v mr tyCol ts masses = .ok out →
      (∀ t ∈ ts, ty ≠ some (t : Rat)) → out[p]? = masses[p]?
  | [], masses, out, h, _ => by cases h; rfl
  | t :: ts, masses, out, h, hty => by
    simp only [assignLoop] at h
    split at h
    · cases h
    · rw [assignLoop_keeps v mr tyCol p ty hp ts _ out h fun t' ht' => hty t' (by simp [ht']),
        assignStep_getElem? _ _ _ _ _ _ hp]
      simp [hty t (by simp)]

theorem assignLoop_sets (v : Variant) (mr : List (Rat × Rat)) (tyCol : List (Option Rat)) (p t : Nat) (m : Rat)
    (hp : tyCol[p]? = some (some (t : Rat))) (hm : selMass v mr t = .ok m) :
    ∀ (ts : List Nat) (masses out : List Rat), assignLoop v mr tyCol ts masses = .ok out →
      p < masses.length → t ∈ ts → out[p]? = some m
  | t0 :: ts, masses, out, h, hlt, ht => by
    simp only [assignLoop] at h
    split at h
    · cases h
    · rename_i m0 hm0
      by_cases hin : t ∈ ts
      · refine assignLoop_sets v mr tyCol p t m hp hm ts _ out h ?_ hin
        have := (List.getElem?_eq_some_iff.mp hp).1
        simp only [List.length_zipWith]
        omega
      · -- the last pass for type `t`: it writes `m`, and the rest of the loop leaves the position alone
        obtain rfl : t = t0 := by simpa [hin] using ht
        rw [hm] at hm0
        cases hm0
        rw [assignLoop_keeps v mr tyCol p _ hp ts _ out h fun t' ht' heq =>
          hin (by rw [Nat.cast_inj.mp (Option.some.inj heq)]; exact ht'),
          assignStep_getElem? tyCol masses t m p _ hp, List.getElem?_eq_getElem hlt]
        simp

theorem assignLoop_ok_sel (v : Variant) (mr : List (Rat × Rat)) (tyCol : List (Option Rat)) :
    ∀ (ts : List Nat) (masses out : List Rat), assignLoop v mr tyCol ts masses = .ok out →
      ∀ t ∈ ts, ∃ m, selMass v mr t = .ok m := by
  intro ts
  induction ts with
  | nil => intro _ _ _ t ht; simp at ht
  | cons t0 ts ih =>
    intro masses out h t ht
    simp only [assignLoop] at h
    split at h
    · cases h
    · rename_i m hm
      rcases List.mem_cons.mp ht with rfl | hin
      · exact ⟨m, hm⟩
      · exact ih _ out h t hin

theorem selMass_repaired_of_mem (mr : List (Rat × Rat)) (t : Nat) (m m' : Rat)
    (hsel : selMass .repaired mr t = .ok m') (hmem : ((t : Rat), m) ∈ mr) : m' = m := by
  have hin : m ∈ (mr.filter (fun r => decide (r.1 = (t : Rat)))).map (·.2) :=
    List.mem_map.mpr ⟨((t : Rat), m), List.mem_filter.mpr ⟨hmem, by simp⟩, rfl⟩
  rw [pickSingle_eq_ok.mp hsel] at hin
  exact (List.mem_singleton.mp hin).symm

/-- what a successful `get_atom_masses` went through: a supported style, both sections present, no more rows than
    announced atoms, and the loop over the types `1 … n_atom_types` on the id-sorted rows -/
theorem getAtomMasses_ok {v : Variant} {style : AtomStyle} {d : LammpsData} {ms : List Rat}
    (h : getAtomMasses v style d = .ok ms) :
    ∃ c rows mr, typeCol style = some c ∧ d.atoms = some rows ∧ d.massRows = some mr
      ∧ rows.length ≤ d.nAtoms
      ∧ assignLoop v mr ((List.range d.nAtoms).map fun p => ((sortById rows)[p]?).bind (fun r => r[c]?))
          (List.range' 1 d.nTypes) (List.replicate d.nAtoms 0) = .ok ms := by
  unfold getAtomMasses at h
  split at h
  · cases h
  · rename_i c hc
    split at h
    · cases h
    · split at h
      · cases h
      · rename_i rows hrows
        split at h
        · cases h
        · rename_i hlen
          split at h
          · cases h
          · split at h
            · cases h
            · rename_i mr hmr
              exact ⟨c, rows, mr, hc, hrows, hmr, by omega, h⟩

end Infretis.VelExtra
