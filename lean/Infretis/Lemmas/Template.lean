import Infretis.Model.Template
import Infretis.Lemmas.Lex
import Infretis.Lemmas.Lines
import Infretis.Lemmas.Assoc
/-!
The line-based template editors of `Infretis/Model/Template.lean`: their line iteration `linesKeep` is `Readers.lines`
(`Lemmas/Lines.lean`) and their dict read `List.lookup`; the mdp editor `_modify_input` line by line (`editWith`: the
lookup left open) and its idempotence on whole lines; the inner loop of `write_for_run` with the replacement left open
(`substWith`): that loop and the dict lookup see only the variables that are words of the line.
-/
namespace Infretis.Template

/-- a piece of text that is exactly one complete line: no '\n' except the final character (`Readers.IsLine` of
    `Lemmas/Lines.lean` under the editors' name; `LineLike` of `TemplateNow` lets the final '\n' be missing) -/
def Proper (l : Str) : Prop := ∃ body, l = body ++ ['\n'] ∧ '\n' ∉ body

def EndsNL (t : Str) : Prop := t = [] ∨ t.getLast? = some '\n'

instance (t : Str) : Decidable (EndsNL t) := by unfold EndsNL; exact inferInstance

/-- the accumulator form is the iteration `Readers.lines` of C13 (`cur`: the piece being collected, reversed) -/
theorem linesKeepGo_eq_lines (t cur : Str) (h : '\n' ∉ cur) : linesKeepGo cur t = Readers.lines (cur.reverse ++ t) := by
  induction t generalizing cur with
  | nil =>
    cases cur with
    | nil => rfl
    | cons a cur =>
      rw [List.append_nil, Readers.lines_noNl _ (by simpa [and_comm] using h) (by simp)]
      simp [linesKeepGo]
  | cons c t ih =>
    by_cases hc : c = '\n'
    · subst hc
      rw [Readers.lines_body_nl _ (by simpa using h), linesKeepGo, if_pos rfl, ih [] (by simp)]
      simp
    · rw [linesKeepGo, if_neg hc, ih (c :: cur) (by simpa [Ne.symm hc] using h)]
      simp

theorem linesKeep_eq_lines (t : Str) : linesKeep t = Readers.lines t := linesKeepGo_eq_lines t [] (by simp)

theorem linesKeep_flatten (ls : List Str) (h : ∀ l ∈ ls, Proper l) : linesKeep ls.flatten = ls := by
  simpa [linesKeep_eq_lines, Readers.lines] using Readers.lines_flatten_append ls h []

theorem linesKeep_join (t : Str) : (linesKeep t).flatten = t := by
  rw [linesKeep_eq_lines, Readers.lines_join]

theorem linesKeep_proper (t : Str) (h : EndsNL t) : ∀ l ∈ linesKeep t, Proper l := by
  rw [linesKeep_eq_lines]
  induction t with
  | nil => simp [Readers.lines]
  | cons c t ih =>
    -- the rest of the text ends with the same newline
    have ht : EndsNL t := by
      cases t with
      | nil => exact Or.inl rfl
      | cons b t' => exact Or.inr (by simpa [EndsNL, List.getLast?_cons_cons] using h)
    intro l hl
    by_cases hc : c = '\n'
    · simp only [Readers.lines, hc, if_true, List.mem_cons] at hl
      rcases hl with rfl | hl
      · exact ⟨[], rfl, by simp⟩
      · exact ih ht l hl
    · simp only [Readers.lines, hc, if_false] at hl
      cases hls : Readers.lines t with
      | nil =>
        have : t = [] := by rw [← Readers.lines_join t, hls]; rfl
        subst this
        simp [EndsNL, hc] at h
      | cons l0 ls =>
        rw [hls] at hl ih
        rcases List.mem_cons.1 hl with rfl | hl
        · obtain ⟨b, rfl, hb⟩ := ih ht l0 List.mem_cons_self
          exact ⟨c :: b, rfl, by simpa [Ne.symm hc] using hb⟩
        · exact ih ht l (List.mem_cons_of_mem _ hl)

theorem matchKey_some {l kw : Str} (h : matchKey l = some kw) :
    ∃ rest, l = kw ++ '=' :: rest ∧ '=' ∉ kw ∧ '\n' ∉ kw := by
  induction l generalizing kw with
  | nil => simp [matchKey] at h
  | cons c t ih =>
    simp only [matchKey] at h
    by_cases h1 : c = '='
    · simp only [h1, if_true, Option.some.injEq] at h
      subst h; exact ⟨t, by simp [h1], by simp, by simp⟩
    · by_cases h2 : c = '\n'
      · simp [h2] at h
      · simp only [h1, h2, if_false, Option.map_eq_some_iff] at h
        obtain ⟨kw', hk, rfl⟩ := h
        obtain ⟨rest, e, a, b⟩ := ih hk
        refine ⟨rest, by simp [e], ?_, ?_⟩
        · intro m; rcases List.mem_cons.1 m with m | m
          · exact h1 m.symm
          · exact a m
        · intro m; rcases List.mem_cons.1 m with m | m
          · exact h2 m.symm
          · exact b m

theorem matchKey_append (kw rest : Str) (h1 : '=' ∉ kw) (h2 : '\n' ∉ kw) :
    matchKey (kw ++ '=' :: rest) = some kw := by
  induction kw with
  | nil => simp [matchKey]
  | cons c t ih =>
    have a : c ≠ '=' := by intro e; apply h1; simp [e]
    have b : c ≠ '\n' := by intro e; apply h2; simp [e]
    have := ih (by intro m; apply h1; simp [m]) (by intro m; apply h2; simp [m])
    simp [matchKey, a, b, this]

theorem matchKey_setLine {l kw : Str} (h : matchKey l = some kw) (v : Str) :
    matchKey (setLine kw v) = some kw := by
  obtain ⟨_, _, a, b⟩ := matchKey_some h
  have e : setLine kw v = kw ++ '=' :: (' ' :: v ++ ['\n']) := by simp [setLine]
  rw [e]
  exact matchKey_append kw _ a b

theorem lstrip_eq : ∀ (s : Str), lstrip s = Lex.lstrip isSpace s
  | [] => rfl
  | c :: t => by
    rw [lstrip, Lex.lstrip, List.dropWhile_cons, lstrip_eq t]
    rfl

theorem strip_eq (s : Str) : strip s = Lex.rstrip isSpace (Lex.lstrip isSpace s) := by
  rw [strip, rstrip, lstrip_eq, lstrip_eq]
  rfl

/-- a key without outer white space is found again in the line `key = value` -/
theorem strip_snoc_space (k : Str) (h : strip k = k) : strip (k ++ [' ']) = k := by
  rw [strip_eq] at h ⊢
  rw [Lex.lstrip, List.dropWhile_append]
  split
  · -- `k` is all white space, so it is empty
    rename_i he
    have hk : k = [] := by rw [← h, Lex.lstrip, List.isEmpty_iff.1 he]; rfl
    subst hk
    rfl
  · rw [Lex.rstrip_blank (by decide)]
    exact h

/-- `settings[k]`: the model's dict read is `List.lookup` (`Lemmas/Assoc.lean`) -/
theorem lookup_eq (s : Settings) (k : Str) : lookup s k = s.lookup k := by
  induction s with
  | nil => rfl
  | cons kv t ih =>
    rw [lookup, List.lookup_cons, ih]
    by_cases h : kv.1 = k
    · simp [h]
    · simp [h, beq_false_of_ne (Ne.symm h)]

theorem lookup_of_mem {s : Settings} (hnd : (keys s).Nodup) {k v : Str} (h : (k, v) ∈ s) : lookup s k = some v :=
  lookup_eq s k ▸ Assoc.lookup_of_mem hnd h

theorem lookup_some_mem {s : Settings} {k v : Str} (h : lookup s k = some v) : (k, v) ∈ s :=
  Assoc.mem_of_lookup (lookup_eq s k ▸ h)

theorem lookup_none_iff {s : Settings} {k : Str} : lookup s k = none ↔ k ∉ keys s :=
  lookup_eq s k ▸ Assoc.lookup_eq_none_iff

theorem lookup_nonl {s : Settings} (hv : ∀ kv ∈ s, '\n' ∉ kv.2) : ∀ k v, lookup s k = some v → '\n' ∉ v :=
  fun _ _ h => hv _ (lookup_some_mem h)

theorem mem_keys_cons (k var v : Str) (t : Settings) : k ∈ keys ((var, v) :: t) ↔ k = var ∨ k ∈ keys t :=
  List.mem_cons

/-- well-formed settings for the mdp editor: a Python dict (distinct keys) whose keys could be
    keywords of a line (no '=', no newline, no outer white space) and whose values fit on a line -/
structure WFSettings (s : Settings) : Prop where
  nodup : (keys s).Nodup
  key_noeq : ∀ kv ∈ s, '=' ∉ kv.1
  key_nonl : ∀ kv ∈ s, '\n' ∉ kv.1
  key_strip : ∀ kv ∈ s, strip kv.1 = kv.1
  val_nonl : ∀ kv ∈ s, '\n' ∉ kv.2

theorem setLine_proper {kw v : Str} (h1 : '\n' ∉ kw) (h2 : '\n' ∉ v) : Proper (setLine kw v) := by
  refine ⟨kw ++ '=' :: ' ' :: v, by simp [setLine], ?_⟩
  simp [h1, h2]

theorem newLine_proper {k v : Str} (h1 : '\n' ∉ k) (h2 : '\n' ∉ v) : Proper (newLine k v) := by
  refine ⟨k ++ ' ' :: '=' :: ' ' :: v, by simp [newLine], ?_⟩
  simp [h1, h2]

theorem editOut_requested (s : Settings) (l kw v : Str)
    (hm : matchKey l = some kw) (hv : lookup s (strip kw) = some v) :
    editOut s l = setLine kw v := by
  simp [editOut, editLine, hm, hv]

/-- one line of `_modify_input` with the dict lookup left open: `lookup s` for the code as it is, `lookupN s`
    (`Model/TemplateRepaired.lean`) for the variant that compares names up to `-`/`_` -/
def editWith (look : Str → Option Str) (line : Str) : Str :=
  match matchKey line with
  | none => line
  | some kw =>
    match look (strip kw) with
    | some v => setLine kw v
    | none => line

theorem editWith_cases (look : Str → Option Str) (l : Str) :
    editWith look l = l ∨
      ∃ kw v, matchKey l = some kw ∧ look (strip kw) = some v ∧ editWith look l = setLine kw v := by
  unfold editWith
  cases hm : matchKey l with
  | none => exact Or.inl rfl
  | some kw =>
    simp only []
    cases hv : look (strip kw) with
    | none => exact Or.inl rfl
    | some v => exact Or.inr ⟨kw, v, rfl, hv, rfl⟩

theorem editOut_eq (s : Settings) : editOut s = editWith (lookup s) := by
  funext l
  unfold editOut editLine editWith
  cases matchKey l with
  | none => rfl
  | some kw => simp only []; cases lookup s (strip kw) <;> rfl

theorem editWith_proper (look : Str → Option Str) (hv : ∀ k v, look k = some v → '\n' ∉ v) (l : Str)
    (hl : Proper l) : Proper (editWith look l) := by
  rcases editWith_cases look l with e | ⟨kw, v, hm, hv', e⟩
  · rw [e]; exact hl
  · obtain ⟨_, _, _, b⟩ := matchKey_some hm
    rw [e]; exact setLine_proper b (hv _ _ hv')

theorem editOut_proper (s : Settings) (hv : ∀ kv ∈ s, '\n' ∉ kv.2) (l : Str) (hl : Proper l) :
    Proper (editOut s l) := by
  rw [editOut_eq]
  exact editWith_proper _ (lookup_nonl hv) l hl

theorem matchKey_editOut (s : Settings) (l : Str) : matchKey (editOut s l) = matchKey l := by
  rw [editOut_eq]
  rcases editWith_cases (lookup s) l with e | ⟨kw, v, hm, -, e⟩
  · rw [e]
  · rw [e, hm]; exact matchKey_setLine hm v

theorem editOut_idem (s : Settings) (l : Str) : editOut s (editOut s l) = editOut s l := by
  rw [editOut_eq]
  rcases editWith_cases (lookup s) l with e | ⟨kw, v, hm, hv, e⟩
  · rw [e, e]
  · rw [e, ← editOut_eq]; exact editOut_requested s _ kw v (matchKey_setLine hm v) hv

theorem writtenKeys_map_editOut (s : Settings) (ls : List Str) :
    writtenKeys (ls.map (editOut s)) = writtenKeys ls := by
  induction ls with
  | nil => rfl
  | cons l t ih =>
    simp only [writtenKeys, List.map_cons, List.filterMap_cons, matchKey_editOut] at ih ⊢
    rw [ih]

theorem writtenKeys_append (a b : List Str) : writtenKeys (a ++ b) = writtenKeys a ++ writtenKeys b := by
  simp [writtenKeys]

theorem matchKey_newLine {k : Str} (h1 : '=' ∉ k) (h2 : '\n' ∉ k) (v : Str) :
    matchKey (newLine k v) = some (k ++ [' ']) := by
  have : newLine k v = (k ++ [' ']) ++ '=' :: (' ' :: v ++ ['\n']) := by simp [newLine]
  rw [this]
  exact matchKey_append _ _ (by simp [h1]) (by simp [h2])

/-- an appended line is found (and left as it is) by a second pass -/
theorem editOut_newLine {s : Settings} (hs : WFSettings s) {k v : Str} (h : (k, v) ∈ s) :
    editOut s (newLine k v) = newLine k v := by
  have hm := matchKey_newLine (hs.key_noeq _ h) (hs.key_nonl _ h) v
  have hk := strip_snoc_space k (hs.key_strip _ h)
  have hv : lookup s (strip (k ++ [' '])) = some v := by rw [hk]; exact lookup_of_mem hs.nodup h
  rw [editOut_requested s _ _ v hm hv]
  simp [setLine, newLine]

theorem appended_mem {s : Settings} {w : List Str} {l : Str} (h : l ∈ appended s w) :
    ∃ k v, (k, v) ∈ s ∧ k ∉ w ∧ l = newLine k v := by
  simp only [appended, List.mem_filterMap] at h
  obtain ⟨⟨k, v⟩, hm, he⟩ := h
  by_cases hw : k ∈ w
  · simp [hw] at he
  · simp only [hw, if_false, Option.some.injEq] at he
    exact ⟨k, v, hm, hw, he.symm⟩

theorem appended_nil_of_subset {s : Settings} {w : List Str} (h : ∀ k ∈ keys s, k ∈ w) :
    appended s w = [] := by
  simp only [appended, List.filterMap_eq_nil_iff]
  intro kv hkv
  have : kv.1 ∈ w := h _ (List.mem_map.2 ⟨kv, hkv, rfl⟩)
  simp [this]

theorem writtenKeys_appended {s : Settings} (hs : WFSettings s) (w : List Str) :
    ∀ k ∈ keys s, k ∉ w → k ∈ writtenKeys (appended s w) := by
  intro k hk hw
  obtain ⟨⟨k', v⟩, hkv, rfl⟩ := List.mem_map.1 hk
  simp only [writtenKeys, List.mem_filterMap]
  refine ⟨newLine k' v, ?_, ?_⟩
  · simp only [appended, List.mem_filterMap]
    exact ⟨(k', v), hkv, by simp [hw]⟩
  · rw [matchKey_newLine (hs.key_noeq _ hkv) (hs.key_nonl _ hkv)]
    simp [strip_snoc_space k' (hs.key_strip _ hkv)]

theorem modifyLinesAsIs_proper {s : Settings} (hk : ∀ kv ∈ s, '\n' ∉ kv.1) (hv : ∀ kv ∈ s, '\n' ∉ kv.2)
    (ls : List Str) (h : ∀ l ∈ ls, Proper l) : ∀ l ∈ modifyLinesAsIs s ls, Proper l := by
  intro l hl
  simp only [modifyLinesAsIs, List.mem_append, List.mem_map] at hl
  rcases hl with ⟨l0, h0, rfl⟩ | hl
  · exact editOut_proper s hv l0 (h l0 h0)
  · obtain ⟨k, v, hm, _, rfl⟩ := appended_mem hl
    exact newLine_proper (hk _ hm) (hv _ hm)

/-! what a second pass meets: edited lines stay, appended lines stay, and every requested key has been written -/

theorem map_editOut_idem (s : Settings) (ls : List Str) : (ls.map (editOut s)).map (editOut s) = ls.map (editOut s) := by
  rw [List.map_map]
  exact List.map_congr_left fun l _ => editOut_idem s l

theorem map_editOut_appended {s : Settings} (hs : WFSettings s) (w : List Str) :
    (appended s w).map (editOut s) = appended s w := by
  conv => rhs; rw [← List.map_id (appended s w)]
  apply List.map_congr_left
  intro l hl
  obtain ⟨k, v, hm, _, rfl⟩ := appended_mem hl
  simpa using editOut_newLine hs hm

theorem keys_written {s : Settings} (hs : WFSettings s) (ls : List Str) :
    ∀ k ∈ keys s, k ∈ writtenKeys ls ++ writtenKeys (appended s (writtenKeys ls)) := by
  intro k hk
  by_cases h : k ∈ writtenKeys ls
  · exact List.mem_append_left _ h
  · exact List.mem_append_right _ (writtenKeys_appended hs _ k hk h)

theorem modifyLinesAsIs_idem {s : Settings} (hs : WFSettings s) (ls : List Str) :
    modifyLinesAsIs s (modifyLinesAsIs s ls) = modifyLinesAsIs s ls := by
  have hw : ∀ k ∈ keys s, k ∈ writtenKeys (modifyLinesAsIs s ls) := by
    simpa only [modifyLinesAsIs, writtenKeys_append, writtenKeys_map_editOut] using keys_written hs ls
  have e : modifyLinesAsIs s (modifyLinesAsIs s ls) =
      (modifyLinesAsIs s ls).map (editOut s) ++ appended s (writtenKeys (modifyLinesAsIs s ls)) := rfl
  rw [e, appended_nil_of_subset hw]
  simp only [modifyLinesAsIs, List.map_append, map_editOut_idem, map_editOut_appended hs, List.append_nil]

/-- The inner loop of `write_for_run` on one line with the replacement `rep var val line` left open: `substLine` is
    the instance `replaceAll` (`str.replace`), `substLineW` the instance `reSubWord` (whole-word `re.sub`).  What does
    not depend on how a variable is replaced is proved once, about `substWith`, `varsWith` and `linesWith`. -/
def substWith (rep : Str → Str → Str → Str) (spl : List Str) : Settings → Str → Str
  | [], line => line
  | (var, val) :: rest, line =>
    if var ∈ spl then substWith rep spl rest (rep var val line) else substWith rep spl rest line

theorem substLine_eq (spl : List Str) (s : Settings) (line : Str) :
    substLine spl s line = substWith replaceAll spl s line := by
  induction s generalizing line with
  | nil => rfl
  | cons kv t ih => simp only [substLine, substWith, ih]

theorem substLineW_eq (spl : List Str) (s : Settings) (line : Str) :
    substLineW spl s line = substWith reSubWord spl s line := by
  induction s generalizing line with
  | nil => rfl
  | cons kv t ih => simp only [substLineW, substWith, ih]

theorem substWith_untouched (rep : Str → Str → Str → Str) (spl : List Str) (s : Settings) (line : Str)
    (h : ∀ k ∈ keys s, k ∉ spl) : substWith rep spl s line = line := by
  induction s with
  | nil => rfl
  | cons kv t ih =>
    have hk : kv.1 ∉ spl := h kv.1 (by simp [keys])
    simp only [substWith, hk, if_false]
    exact ih (fun k hk' => h k (by simp only [keys, List.map_cons, List.mem_cons]; exact Or.inr hk'))

theorem substLineW_untouched (spl : List Str) (s : Settings) (line : Str)
    (h : ∀ k ∈ keys s, k ∉ spl) : substLineW spl s line = line := by
  rw [substLineW_eq, substWith_untouched _ _ _ _ h]

/-- what `write_for_run` makes of one line when nothing raises -/
def substOf (s : Settings) (l : Str) : Str := substLine (splitWS l) s l

theorem occ_cons (k l : Str) (t : List Str) :
    occ k (l :: t) = (if k ∈ splitWS l then 1 else 0) + occ k t := by
  unfold occ
  by_cases h : k ∈ splitWS l
  · simp [h]; omega
  · simp [h]

theorem substLine_filter (spl : List Str) : ∀ (s : Settings) (l : Str),
    substLine spl s l = substLine spl (s.filter (fun kv => decide (kv.1 ∈ spl))) l := by
  intro s
  induction s with
  | nil => intro l; rfl
  | cons kv r ih =>
    intro l
    obtain ⟨k, v⟩ := kv
    by_cases h : k ∈ spl
    · simp only [substLine, h, if_true, List.filter, decide_true]
      exact ih _
    · simp only [substLine, h, if_false, List.filter, decide_false]
      exact ih _

theorem lookup_filter (spl : List Str) (t : Str) (ht : t ∈ spl) (s : Settings) :
    lookup (s.filter (fun kv => decide (kv.1 ∈ spl))) t = lookup s t := by
  rw [lookup_eq, lookup_eq, Assoc.lookup_filter s (fun k => decide (k ∈ spl)), if_pos (decide_eq_true ht)]

end Infretis.Template
