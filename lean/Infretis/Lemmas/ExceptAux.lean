/-!
# `Except`: when a chain of calls returns

Every model function that can raise is a chain of `Except.bind`; a successful chain is taken apart link by link with
`bind_ok_iff` (also where the chain is written `>>=`, which unfolds to `Except.bind`) and `map_ok_iff`.
A concrete run is evaluated in the form `x.toOption = some a`; `eq_ok_of_toOption` reads that as `x = .ok a`.
-/
namespace Infretis
variable {ε α β : Type}

theorem bind_ok_iff {x : Except ε α} {f : α → Except ε β} {b : β} :
    x.bind f = .ok b ↔ ∃ a, x = .ok a ∧ f a = .ok b := by
  cases x with
  | error e => simp [Except.bind]
  | ok a => simp [Except.bind]

theorem map_ok_iff {x : Except ε α} {f : α → β} {b : β} :
    x.map f = .ok b ↔ ∃ a, x = .ok a ∧ f a = b := by
  cases x with
  | error e => simp [Except.map]
  | ok a => simp [Except.map]

theorem map_eq_map_ok {γ : Type} {x : Except ε α} {y : Except ε β} {f : α → γ} {g : β → γ}
    (e : x.map f = y.map g) {a : α} (h : x = .ok a) : ∃ b, y = .ok b ∧ f a = g b := by
  subst h
  cases y with
  | error z => cases e
  | ok b => exact ⟨b, rfl, Except.ok.inj e⟩

theorem map_eq_map_error {γ : Type} {x : Except ε α} {y : Except ε β} {f : α → γ} {g : β → γ}
    (e : x.map f = y.map g) {z : ε} (h : x = .error z) : y = .error z := by
  subst h
  cases y with
  | error z' => exact congrArg Except.error (Except.error.inj e).symm
  | ok b => cases e

theorem eq_ok_of_toOption {x : Except ε α} {a : α} (h : x.toOption = some a) : x = .ok a := by
  cases x with
  | error e => cases h
  | ok b => cases h; rfl

end Infretis
