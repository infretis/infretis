import Infretis.Lemmas.RepexC06Tidy
import Infretis.Lemmas.RepexC06Multi
import Infretis.Lemmas.RepexC05Load
import Infretis.Lemmas.RepexC06RestoreFull
import Infretis.Lemmas.RepexC07Reissue
import Infretis.Lemmas.RepexC07Count
/-
C06: the stop states derived for reachable states, from the invariants of the other packages.  `AtStop` is what they
give at the instant `treat_output` has written the restart file; the one-worker `StopState` is the case of nothing in
flight.
  C03  InvR / CoreR      live paths distinct and < trajNum, locks ⇔ held, shapes
  C05  Inv5 / Fam        weight table = slot rows, rows of full length; non-zero diagonal after a step (`Inv5.done`)
  C07  NInv / midState   `locked`, `lockedOrd` are the jobs in flight; spawned = cstep + |locked|
  C06  TidyY (Tidy file) ghost slot empty/zero, tables keyed by the live paths
  here One, Ent          one-worker bookkeeping (at most one job in flight, every pin 0); entropy = seed, no record
`ReachM` bundles `Inv5` (which carries C03's invariant), `TidyY`, `NInv` and `Ent`, for any number of workers; `Reach1`
adds `One`.  At the end one restart of a one-worker run (`restart_reachable`) and the relation `Restarts` of runs with
restarts.
-/
namespace Infretis.Repex

structure One (y : Sys) : Prop where
  w1 : y.s.workers = 1
  pins : ∀ j ∈ y.jobs, j.pin = 0
  le : y.jobs.length ≤ 1
  init : 0 ≤ y.s.toinitiate → (y.jobs.length : Int) + y.s.toinitiate ≤ 1
  cw : y.jobs ≠ [] → y.s.toinitiate < 1

/-- one worker, when `prep_md_items` is called: nothing in flight, worker 0 is served, and the initiation is over
    or at its one iteration -/
structure OneMid (y : Sys) : Prop where
  w1 : y.s.workers = 1
  none : y.jobs = []
  cw : y.s.cworker = 0
  ti : y.s.toinitiate ≤ 0

theorem one_kept : Kept (fun _ _ => True) (fun y => InvR y ∧ One y) (fun y => InvMid y ∧ OneMid y) :=
  invR_kept.and
    (fun {y} _ h1 hgo => by
      obtain ⟨_, hpos, _, hs1⟩ := initiate_go hgo
      have := h1.init (by omega)
      have hw := h1.w1
      have hl : y.jobs.length = 0 := by omega
      unfold Sys.initiated
      rw [hs1]
      exact ⟨hw, List.eq_nil_of_length_eq_zero hl, by show ((y.s.workers : Int) - y.s.toinitiate).toNat = 0; omega,
        by show y.s.toinitiate - 1 ≤ 0; omega⟩)
    (fun {y} _ h1 _ => by
      unfold Sys.initiated
      rcases initiate_cases y.s with ⟨hin, _⟩ | ⟨ti, hti, hin⟩ <;> rw [hin]
      · exact h1
      · refine ⟨h1.w1, h1.pins, h1.le, fun (h0 : 0 ≤ ti - 1) => ?_, fun hne => ?_⟩
        · show (y.jobs.length : Int) + (ti - 1) ≤ 1
          have := h1.init (by omega); omega
        · show ti - 1 < 1
          have := h1.cw hne; omega)
    (fun {y ym k _ _ _} _ hi h1 _ hc => by
      have hq := hc.touches
      have hcw := hc.cworker
      cases hc with | @mk s2 _ _ _ hjob _ =>
      have hklt : k < y.jobs.length := getElem?_lt_of_some hjob
      have herase : y.jobs.eraseIdx k = [] := by
        apply List.eq_nil_of_length_eq_zero
        have := h1.le
        rw [List.length_eraseIdx_of_lt hklt]; omega
      have hne : y.jobs ≠ [] := by intro hc; rw [hc] at hklt; simp at hklt
      have hw : s2.workers = 1 := hq.workers.trans h1.w1
      have hti : s2.toinitiate < 1 := by rw [hq.toinitiate]; exact h1.cw hne
      split
      · exact ⟨hw, herase, hcw.trans (h1.pins _ (List.mem_of_getElem? hjob)), by show s2.toinitiate ≤ 0; omega⟩
      · exact ⟨hw, by rw [herase]; simp, by rw [herase]; simp,
          fun _ => by rw [herase]; show ((0 : Nat) : Int) + s2.toinitiate ≤ 1; omega, fun hc => absurd herase hc⟩)
    (fun {ym y'} _ _ _ _ hm hs => by
      have hpin := hs.pin
      have c3 := hs.touches.workers
      have c4 := hs.touches.toinitiate
      cases hs with | @mk s' job _ _ =>
      replace c3 : s'.workers = ym.s.workers := c3
      replace c4 : s'.toinitiate = ym.s.toinitiate := c4
      have hti := hm.ti
      rw [hm.none]
      refine ⟨c3.trans hm.w1, fun j hj => ?_, by simp, fun _ => ?_, fun _ => ?_⟩
      · simp only [List.nil_append, List.mem_singleton] at hj
        subst hj; exact hpin.trans hm.cw
      · show (([] ++ [job]).length : Int) + s'.toinitiate ≤ 1
        simp only [List.nil_append, List.length_singleton]; omega
      · show s'.toinitiate < 1
        omega)

theorem sysStep_one {y y' : Sys} (ev : Ev) (hi : InvR y) (h1 : One y) (h : sysStep y ev = .ok y') : One y' :=
  (one_kept.sysStep ⟨hi, h1⟩ trivial h).2

/-! ### entropy = seed, nothing recorded -/

structure Ent (s : St) : Prop where
  ent : s.entropy = s.seed
  l0 : s.locked0 = []
  l0o : s.locked0Ord = []

theorem prep_ent {s s' : St} {prev : Option Nat} {o : PickOutcome} {sv : Nat} {job : Job} {ds : List Draw}
    (he : Ent s) (h : prep s prev o sv = .ok (s', job, ds)) : Ent s' := by
  obtain ⟨hi, h0, _⟩ := prep_fresh h he.l0
  refine ⟨by rw [hi.entropy, hi.seed]; exact he.ent, h0, ?_⟩
  rcases hi.kind with ⟨_, _, _, hk⟩ | ⟨hf, _⟩
  · rcases hk with hk | hk
    · rw [hk, he.l0o]
    · rw [hk, he.l0o]
      rfl
  · cases hf

theorem Ent.frame {s s' : St} {fs : List Fld} (he : Ent s) (t : Touches fs s s')
    (hd : ∀ f ∈ [Fld.entropy, .seed, .locked0, .locked0Ord], f ∉ fs := by decide) : Ent s' :=
  have k := t.keeps hd
  ⟨by rw [k.entropy, k.seed]; exact he.ent, by rw [k.locked0]; exact he.l0, by rw [k.locked0Ord]; exact he.l0o⟩

theorem ent_kept : KeptSt (fun _ _ => True) (fun _ => True) Ent where
  init he := he.frame (initiate_touches _)
  done _ _ he _ hc := he.frame hc.touches
  prep := prep_ent

structure ReachM (y : Sys) : Prop where
  inv5 : Inv5 y
  tidy : TidyY y
  ninv : NInv y
  ent : Ent y.s

theorem sysStep_reachM {y y' : Sys} (ev : Ev) (hr : ReachM y) (hev : EvOk y ev) (h : sysStep y ev = .ok y') :
    ReachM y' := by
  obtain ⟨oj, hj⟩ := sysStepJ_of_sys h
  exact ⟨(sysStep_preserves5 ev hr.inv5 hev h).1, sysStep_tidy ev hr.inv5.inv hr.tidy h, sysStepJ_ninv hr.ninv hj,
    ent_kept.sysStep trivial hr.ent trivial h⟩

theorem run_reachM (evs : List Ev) {y y' : Sys} (hr : ReachM y) (hh : HistOk y evs) (h : run y evs = .ok y') :
    ReachM y' :=
  run_guarded (fun ev _ _ => sysStep_reachM ev) evs hr ((histOk_iff_along evs y).mp hh) h

structure Reach1 (y : Sys) : Prop extends ReachM y where
  one : One y

theorem sysStep_reach1 {y y' : Sys} (ev : Ev) (hr : Reach1 y) (hev : EvOk y ev) (h : sysStep y ev = .ok y') :
    Reach1 y' :=
  ⟨sysStep_reachM ev hr.toReachM hev h, sysStep_one ev hr.inv5.inv hr.one h⟩

theorem run_reach1 (evs : List Ev) {y y' : Sys} (hr : Reach1 y) (hh : HistOk y evs) (h : run y evs = .ok y') :
    Reach1 y' :=
  run_guarded (fun ev _ _ => sysStep_reach1 ev) evs hr ((histOk_iff_along evs y).mp hh) h

/-- a start state with any number of workers, fresh (`Init5`) or rebuilt from a restart image without record -/
structure StartM (y : Sys) : Prop where
  s5 : Start5 y
  tidy : Tidy y.s
  locked : y.s.locked = []
  lockedOrd : y.s.lockedOrd = []
  ent : Ent y.s
  sp : y.s.spawned = y.s.cstep

theorem StartM.init {y : Sys} (h : StartM y) : Init y := by
  rcases h.s5 with h5 | h5
  · exact h5.init
  · have hi := h5.init
    exact ⟨hi.jobs, hi.n2, hi.lenW, hi.lenT, hi.locks, hi.live, hi.inj, h.ent.l0, hi.toinit⟩

theorem StartM.reach {y : Sys} (h : StartM y) : ReachM y := by
  have hi := h.init
  exact ⟨h.s5.inv5, ⟨h.tidy, by rw [hi.jobs]; intro j hj; simp at hj⟩,
    ninv_of_init hi h.locked h.lockedOrd h.sp, h.ent⟩

/-- a one-worker start state, fresh (`Init5`) or rebuilt from a restart image (`Init5R`) -/
structure Start1 (y : Sys) : Prop where
  s5 : Start5 y
  tidy : Tidy y.s
  w1 : y.s.workers = 1
  locked : y.s.locked = []
  lockedOrd : y.s.lockedOrd = []
  ent : Ent y.s
  sp : y.s.spawned = y.s.cstep

theorem Start1.toStartM {y : Sys} (h : Start1 y) : StartM y := ⟨h.s5, h.tidy, h.locked, h.lockedOrd, h.ent, h.sp⟩

theorem Start1.init {y : Sys} (h : Start1 y) : Init y := h.toStartM.init

theorem Start1.reach {y : Sys} (h : Start1 y) : Reach1 y := by
  have hi := h.init
  refine ⟨h.toStartM.reach, h.w1, by rw [hi.jobs]; intro j hj; simp at hj, by rw [hi.jobs]; simp, ?_,
    fun hne => absurd hi.jobs hne⟩
  intro _
  rw [hi.jobs, hi.toinit, h.w1]; simp

/-- **what `REPEX_state.__init__` + `load_paths` leave on a fresh start** with weight vectors of C05's family and
    nothing recorded (`cstep = 0`, or a restarted state without jobs in flight: `hsp`) **is a start state**, for
    any number of workers -/
theorem FreshLoad.startM {n : Nat} {paths : List (Nat × List Rat × List Rat)} {s : St} (hf : FreshLoad n paths s)
    (hfam : ∀ (i : Nat) (hi : i < paths.length), VecOk n ((i : Int) - 1) (paths[i]).2.1)
    (hsp : s.spawned = s.cstep) : StartM { s := s, jobs := [] } := by
  have h5 := hf.init5 hfam
  have ht := hf.tidy
  obtain ⟨workers, tsteps, cstep, trajNum, seed, occ, ensEng, restarted, hn, hlen, hnd, hlt, h⟩ := hf
  have t := loadPaths_touches h
  exact ⟨Or.inl h5, ht, t.locked, t.lockedOrd, ⟨t.entropy.trans t.seed.symm, t.locked0, t.locked0Ord⟩, hsp⟩

theorem StartM.start1 {y : Sys} (h : StartM y) (hw : y.s.workers = 1) : Start1 y :=
  ⟨h.s5, h.tidy, hw, h.locked, h.lockedOrd, h.ent, h.sp⟩

/-- the split point of the restart theorems is C07's `midState` -/
theorem stepTreat_midState {y : Sys} {k : Nat} {st : Status} {w : List (List Rat)} {r : St × Job × List Job}
    (h : stepTreat y k st w = .ok r) : midState y k st w = .ok r.1 ∧ r.2.2 = y.jobs.eraseIdx k := by
  have hc := stepTreat_completes h
  exact ⟨hc.midState.2, hc.ok.2.2.1⟩

/-- the slots and tables of a state right after `treat_output`, whatever is in flight: C03 (`CoreR`) gives the slot
    structure, C05 (`Fam`, the non-zero diagonal `hd`) the weight table = slot rows, `Tidy` the ghost slot and the keys -/
theorem stop_tables {s : St} {H : List (Nat × Nat)} (hc : CoreR s H s.trajNum) (hf : Fam s s.trajNum) (t : Tidy s)
    (hd : ∀ i, i < s.n - 1 → entryM s.W i i ≠ 0) :
    (∀ (e pn : Nat), (livePns s)[e]? = some pn → s.trajs[e]? = some (some pn) ∧
      ∃ w, s.wts.lookup pn = some w ∧ s.W[e]? = some (padValid s ((e : Int) - 1) w) ∧
        (padValid s ((e : Int) - 1) w).length = s.n ∧ (padValid s ((e : Int) - 1) w).getD e 0 ≠ 0 ∧
        ∃ f, s.frac.lookup pn = some f) ∧
      s.trajs[s.n - 1]? = some none ∧ s.W[s.n - 1]? = some (List.replicate s.n 0) ∧
      (∀ q ∈ s.frac.map (·.1), q ∈ livePns s) ∧ (∀ q ∈ s.wts.map (·.1), q ∈ livePns s) := by
  have hghost := ghost_none_of hc t.hasNone
  have hkeys : ∀ q, some q ∈ s.trajs → q ∈ livePns s := by
    intro q hq
    obtain ⟨i, hi⟩ := List.mem_iff_getElem?.mp hq
    exact livePns_mem (slot_lt_of_some hc t.hasNone hi) hi
  refine ⟨?_, hghost, ?_, ?_, ?_⟩
  · intro e pn hp
    obtain ⟨he, htr⟩ := hc.allLive.livePns_get.mp hp
    obtain ⟨w', hw1', hw2⟩ := hf.wts e pn he htr
    have hWe : s.W[e]? = some (s.W.getD e []) := by
      have hlt : e < s.W.length := by rw [hc.lenW]; omega
      rw [List.getD_eq_getElem?_getD, List.getElem?_eq_getElem hlt]; rfl
    have hrow := hf.rows e he
    have hlen : (s.W.getD e []).length = s.n := by
      rcases Nat.eq_zero_or_pos e with h0 | h0
      · exact (hrow.1 h0).1
      · obtain ⟨cnt, hplus, _⟩ := hrow.2 h0
        exact hplus.1
    have hkey : pn ∈ s.frac.map Prod.fst := by
      rw [t.sameKeys, t.keysLive pn]
      exact List.mem_iff_getElem?.mpr ⟨e, htr⟩
    refine ⟨htr, w', hw1', by rw [hw2]; exact hWe, by rw [hw2]; exact hlen, ?_, Assoc.exists_lookup hkey⟩
    rw [hw2]
    exact hd e he
  · -- the zero row is the ghost row
    obtain ⟨i, hi⟩ := List.mem_iff_getElem?.mp t.hasZero
    have hil : i < s.W.length := getElem?_lt_of_some hi
    rw [hc.lenW] at hil
    by_cases hi1 : i < s.n - 1
    · exfalso
      apply hd i hi1
      unfold entryM
      simp only [List.getD_eq_getElem?_getD, hi, Option.getD_some, List.getElem?_replicate]
      split <;> rfl
    · have : i = s.n - 1 := by omega
      rw [← this]; exact hi
  · intro q hq
    rw [t.sameKeys, t.keysLive q] at hq
    exact hkeys q hq
  · intro q hq
    rw [t.keysLive q] at hq
    exact hkeys q hq

theorem jobKey_of_streams (ent o : Nat) (j : Job) (hs : StreamsAt ent o j.picked) (hge : ∀ p ∈ j.picked, -1 ≤ p.ens)
    (hpn : j.pnumOld = j.picked.map (·.pn)) :
    jobKey j = (recJobFull ent o (jobRec0 j), (recPairs (jobRec0 j)).map (·.2)) := by
  refine Prod.ext (pkFull_of_streams hs hge) ?_
  show j.pnumOld = _
  rw [hpn, recPairs_jobRec0, heldJob, List.map_map]
  rfl

theorem onRecord_of (ent : Nat) : ∀ (jobs : List Job) (ords : List Nat), ords.length = jobs.length →
    (∀ jo ∈ jobs.zip ords, StreamsAt ent jo.2 jo.1.picked) →
    (∀ j ∈ jobs, (∀ p ∈ j.picked, -1 ≤ p.ens) ∧ j.pnumOld = j.picked.map (·.pn)) →
    jobs.map jobKey = (recsOf jobs ords).map (fun r => (recJobFull ent r.2 r.1, (recPairs r.1).map (·.2))) := by
  intro jobs
  induction jobs with
  | nil => intro ords _ _ _; rfl
  | cons j js ih =>
    intro ords hl hs hj
    cases ords with
    | nil => simp at hl
    | cons o os =>
      have h1 := jobKey_of_streams ent o j (hs (j, o) (by simp)) (hj j (by simp)).1 (hj j (by simp)).2
      have h2 := ih os (by simpa using hl)
        (fun jo hjo => hs jo (by simp only [List.zip_cons_cons, List.mem_cons]; exact Or.inr hjo))
        (fun j' hj' => hj j' (List.mem_cons_of_mem _ hj'))
      simp only [recsOf, List.map_cons, List.zip_cons_cons] at h2 ⊢
      rw [h1, h2]

theorem stopM_of_midInv {s2 : St} {jobs : List Job} (hm : MidInv s2 jobs) (hti : s2.toinitiate = -1)
    (hl0o : s2.locked0Ord = []) (hp : PnumOk jobs) : StopM (recsOf jobs s2.lockedOrd) s2 jobs := by
  have hc := hm.core
  have hl := hm.ordLen
  refine ⟨?_, ?_, hc.l0, hl0o, hti, ?_, ?_, ?_⟩
  · -- locked
    have : (recsOf jobs s2.lockedOrd).map (fun r => recEntry r.1) = ((recsOf jobs s2.lockedOrd).map (·.1)).map recEntry := by
      rw [List.map_map]; rfl
    rw [this, recsOf_fst hl, hm.recd, List.map_map]
    apply List.map_congr_left
    intro j hj
    exact (recEntry_jobRec0 j (hm.shape j hj).ensGe).symm
  · exact (recsOf_snd hl).symm
  · intro x hx
    rw [recsOf_pairs hl] at hx
    obtain ⟨h1, h2, _⟩ := hc.heldOk x.1 x.2 hx
    refine ⟨h2, ?_⟩
    rw [hc.lenT]
    omega
  · intro i j q hi hj
    have hlen : s2.trajs.dropLast.length = s2.n - 1 := by simp [hc.lenT]
    have hi' : i < s2.n - 1 := by rw [← hlen]; exact getElem?_lt_of_some hi
    have hj' : j < s2.n - 1 := by rw [← hlen]; exact getElem?_lt_of_some hj
    rw [List.getElem?_dropLast, if_pos (by rw [hc.lenT]; exact hi')] at hi
    rw [List.getElem?_dropLast, if_pos (by rw [hc.lenT]; exact hj')] at hj
    exact hc.inj i j q hi' hj' hi hj
  · exact onRecord_of s2.entropy jobs s2.lockedOrd hl hm.ordStreams
      (fun j hj => ⟨(hm.shape j hj).ensGe, hp j hj⟩)

theorem lockAll_get : ∀ (l : List (Nat × Nat)) (lk : List Bool) (e : Nat),
    (lockAll l lk)[e]? = if e ∈ l.map Prod.fst ∧ e < lk.length then some true else lk[e]? := by
  intro l
  induction l with
  | nil => intro lk e; simp [lockAll]
  | cons x rest ih =>
    intro lk e
    have hcons : lockAll (x :: rest) lk = lockAll rest (lk.set x.1 true) := rfl
    rw [hcons, ih]
    simp only [List.length_set, List.map_cons, List.mem_cons]
    by_cases hlt : e < lk.length
    · by_cases hr : e ∈ rest.map Prod.fst
      · simp [hr, hlt]
      · by_cases hx : e = x.1
        · subst hx
          simp [hr, hlt]
        · simp only [hr, hx, false_and, or_self, if_false]
          rw [List.getElem?_set_ne (Ne.symm hx)]
    · simp only [hlt, and_false, if_false]
      rw [List.getElem?_set]
      split
      · rename_i hxe
        subst hxe
        simp [hlt]
      · rfl

theorem lockAll_length (l : List (Nat × Nat)) (lk : List Bool) : (lockAll l lk).length = lk.length := by
  induction l generalizing lk with
  | nil => rfl
  | cons x rest ih =>
    have hcons : lockAll (x :: rest) lk = lockAll rest (lk.set x.1 true) := rfl
    rw [hcons, ih]; simp

theorem locks_of_core {s : St} {H : List (Nat × Nat)} {tn : Nat} (hc : CoreR s H tn) :
    lockAll H (List.replicate (s.n - 1) false ++ [true]) = s.locks := by
  have hn2 := hc.n2
  have hfl : (List.replicate (s.n - 1) false ++ [true]).length = s.n := by
    simp only [List.length_append, List.length_replicate, List.length_cons, List.length_nil]; omega
  apply List.ext_getElem?
  intro e
  rw [lockAll_get, hfl]
  by_cases he : e < s.n
  · by_cases he1 : e < s.n - 1
    · have hb := hc.busy e he1
      have hlt : e < s.locks.length := by rw [hc.lenL]; exact he
      by_cases hm : e ∈ H.map Prod.fst
      · rw [if_pos ⟨hm, he⟩, hb.mpr hm]
      · rw [if_neg (fun hh => hm hh.1)]
        rw [List.getElem?_append_left (by simpa using he1), List.getElem?_replicate, if_pos he1]
        cases hv : s.locks[e] with
        | true =>
          have : s.locks[e]? = some true := by rw [List.getElem?_eq_getElem hlt, hv]
          exact absurd (hb.mp this) hm
        | false => rw [List.getElem?_eq_getElem hlt, hv]
    · have hen : e = s.n - 1 := by omega
      subst hen
      have hg : (List.replicate (s.n - 1) false ++ [true])[s.n - 1]? = some true := by
        rw [List.getElem?_append_right (by simp)]; simp
      rw [hc.ghost]
      split
      · rfl
      · exact hg
  · rw [if_neg (fun hh => he hh.2), List.getElem?_eq_none (by rw [hfl]; omega),
        List.getElem?_eq_none (by rw [hc.lenL]; omega)]

/-- what is known of the state `treat_output` leaves at a `.step` of a history that carries `ReachM`, with the jobs
    still in flight: the invariants of C03, C05, C07 and of this package at the instant the restart file is written -/
structure AtStop (r : St × Job × List Job) : Prop where
  core : CoreR r.1 (held r.2.2) r.1.trajNum
  fam : Fam r.1 r.1.trajNum
  tidy : Tidy r.1
  ent : Ent r.1
  mid : MidInv r.1 r.2.2
  closed : r.1.toinitiate = -1
  pnum : PnumOk r.2.2
  diag : ∀ i, i < r.1.n - 1 → entryM r.1.W i i ≠ 0

theorem ReachM.atStop {y : Sys} (hr : ReachM y) (hti : y.s.toinitiate = -1)
    (k : Nat) (st : Status) (w : List (List Rat)) (o : PickOutcome) (hev : EvOk y (.step k st w o))
    {r : St × Job × List Job} (hT : stepTreat y k st w = .ok r) : AtStop r := by
  obtain ⟨h5, _, _, hdiag, _, _⟩ := hr.inv5.done o hev (stepTreat_completes hT)
  obtain ⟨t2, _, hrest⟩ := stepTreat_tidy hr.inv5.inv hr.tidy hT
  obtain ⟨hmid, _⟩ := stepTreat_midState hT
  have ht := midState_touches hmid
  exact ⟨h5.inv.core, h5.fam, t2, hr.ent.frame ht, hrest ▸ (midState_inv hr.ninv hmid).1, ht.toinitiate.trans hti,
    hrest ▸ PnumOk.eraseIdx hr.tidy.pnum k, hdiag hti⟩

theorem AtStop.stopM {r : St × Job × List Job} (a : AtStop r) : StopM (recsOf r.2.2 r.1.lockedOrd) r.1 r.2.2 :=
  stopM_of_midInv a.mid a.closed a.ent.l0o a.pnum

theorem AtStop.stopStateM {r : St × Job × List Job} (a : AtStop r) :
    StopStateM r.1 (livePns r.1) (recsOf r.2.2 r.1.lockedOrd) := by
  have hc := a.core
  obtain ⟨hslot, hghost, hghostW, hfk, hwk⟩ := stop_tables hc a.fam a.tidy a.diag
  refine ⟨hc.n2, hc.lenW, hc.lenT, hc.lenL, by simp [livePns], hslot, hghost, hghostW, hfk, hwk, a.stopM.locked,
    a.stopM.lockedOrd, ?_, a.ent.l0, a.ent.l0o, a.ent.ent⟩
  rw [recsOf_pairs a.mid.ordLen]
  exact locks_of_core hc

theorem stopStateM_of_reach {y : Sys} (hr : ReachM y) (hti : y.s.toinitiate = -1)
    (k : Nat) (st : Status) (w : List (List Rat)) (o : PickOutcome) (hev : EvOk y (.step k st w o))
    {r : St × Job × List Job} (hT : stepTreat y k st w = .ok r) :
    StopStateM r.1 (livePns r.1) (recsOf r.2.2 r.1.lockedOrd) ∧ StopM (recsOf r.2.2 r.1.lockedOrd) r.1 r.2.2 :=
  have a := hr.atStop hti k st w o hev hT
  ⟨a.stopStateM, a.stopM⟩

/-- with one worker nothing is in flight at a stop: the stop state is the one with an empty record -/
theorem stopState_of_reach {y : Sys} (hr : Reach1 y) (hti : y.s.toinitiate = -1)
    (k : Nat) (st : Status) (w : List (List Rat)) (o : PickOutcome) (hev : EvOk y (.step k st w o))
    {r : St × Job × List Job} (hT : stepTreat y k st w = .ok r) :
    StopState r.1 (livePns r.1) ∧ r.1.workers = 1 ∧ r.1.toinitiate = -1 ∧ r.2.1.pin = 0 ∧ r.2.2 = [] ∧
      CoreR r.1 [] r.1.trajNum ∧ Fam r.1 r.1.trajNum ∧ Tidy r.1 ∧ Ent r.1 := by
  have a := hr.toReachM.atStop hti k st w o hev hT
  obtain ⟨_, hjob, (hrest : r.2.2 = _), _⟩ := (stepTreat_completes hT).ok
  have herase : r.2.2 = [] := by
    rw [hrest]
    apply List.eq_nil_of_length_eq_zero
    have := hr.one.le
    rw [List.length_eraseIdx_of_lt (getElem?_lt_of_some hjob)]
    omega
  have hSS := a.stopStateM
  have hc := a.core
  have hsp := a.mid.count
  rw [herase] at hSS hc
  rw [hSS.locked] at hsp
  exact ⟨hSS.to1 hsp, (stepTreat_completes hT).touches.workers.trans hr.one.w1, a.closed,
    hr.one.pins _ (List.mem_of_getElem? hjob), herase, hc, a.fam, a.tidy, a.ent⟩

theorem sysStep_step_ctr {y y' : Sys} {k : Nat} {st : Status} {w : List (List Rat)} {o : PickOutcome}
    (h : sysStep y (.step k st w o) = .ok y') :
    y'.s.cstep = y.s.cstep + 1 ∧ y'.s.workers = y.s.workers ∧ y'.s.tsteps = y.s.tsteps ∧
      y'.s.toinitiate = y.s.toinitiate := by
  obtain ⟨a, b, _, _, c, d, _⟩ := sysStep_effect h
  exact ⟨c, b, a, d⟩

theorem run_steps_ctr : ∀ (evs : List Ev) {a b : Sys}, StepsOnly evs → run a evs = .ok b →
    b.s.cstep = a.s.cstep + evs.length ∧ b.s.workers = a.s.workers ∧ b.s.tsteps = a.s.tsteps ∧
      b.s.toinitiate = a.s.toinitiate := by
  intro evs
  induction evs with
  | nil => intro a b _ h; simp only [run, Except.ok.injEq] at h; subst h; exact ⟨rfl, rfl, rfl, rfl⟩
  | cons ev rest ih =>
    intro a b hs h
    cases ev with
    | start o sv => exact hs.elim
    | initDone => exact hs.elim
    | step k st w o =>
      obtain ⟨a', hy, h⟩ := run_cons_ok h
      obtain ⟨d1, d2, d3, d4⟩ := sysStep_step_ctr hy
      obtain ⟨e1, e2, e3, e4⟩ := ih hs h
      exact ⟨by rw [e1, d1, List.length_cons]; omega, by rw [e2, d2], by rw [e3, d3], by rw [e4, d4]⟩

theorem startup_facts {y ya : Sys} {o : PickOutcome} {sv : Nat} (hw : y.s.workers = 1) (hti : y.s.toinitiate = 1)
    (h : run y [.start o sv, .initDone] = .ok ya) :
    ya.s.toinitiate = -1 ∧ ya.s.workers = 1 ∧ ya.s.cstep = y.s.cstep ∧ ya.s.tsteps = y.s.tsteps := by
  obtain ⟨y1, h1, h2⟩ := run_cons_ok h
  obtain ⟨y2, h3, h4⟩ := run_cons_ok h2
  cases h4
  obtain ⟨a1, a2, hlt, _, _, a3, a4, _⟩ := sysStep_effect h1
  obtain ⟨b1, b2, b3, _, hcase⟩ := sysStep_effect h3
  rcases hcase with ⟨hge, _⟩ | ⟨_, _, _, hm, _⟩
  · omega
  · exact ⟨hm (by omega), by omega, by omega, by omega⟩

theorem closed_after_init {y0 y1 : Sys} (h0 : Start1 y0) {o : PickOutcome} {sv : Nat}
    (h : run y0 [.start o sv, .initDone] = .ok y1) : y1.s.toinitiate = -1 :=
  (startup_facts h0.w1 (by rw [h0.init.toinit, h0.w1]; rfl) h).1

theorem freeEngines_idem (occ : List (List Int)) (pin : Nat) :
    freeEngines (freeEngines occ pin) pin = freeEngines occ pin := by
  unfold freeEngines
  rw [List.map_map]
  apply List.map_congr_left
  intro l _
  simp only [Function.comp, List.map_map]
  apply List.map_congr_left
  intro x _
  simp only [Function.comp]
  split
  · simp
  · simp

theorem evOk_transfer {t0 : Int} {ra rb : List Row} {x y : Sys} (h : RY t0 ra rb x y) (ev : Ev)
    (hx : EvOk x ev) : EvOk y ev := by
  cases ev with
  | start _ _ => trivial
  | initDone => trivial
  | step k st w o =>
    unfold EvOk at hx ⊢
    rw [← h.2, ← h.1.n]
    exact hx

theorem histOk_transfer {t0 : Int} {ra rb : List Row} (ht : t0 < 0) : ∀ (evs : List Ev) {x y : Sys}, StepsOnly evs →
    RY t0 ra rb x y → HistOk x evs → HistOk y evs := by
  intro evs
  induction evs with
  | nil => intro x y _ _ _; trivial
  | cons ev rest ih =>
    intro x y hs h hh
    cases ev with
    | start _ _ => exact hs.elim
    | initDone => exact hs.elim
    | step k st w o =>
      refine ⟨evOk_transfer h _ hh.1, ?_⟩
      intro y' hy'
      have hrel := sysStep_step_rel h ht k st w o
      rw [hy'] at hrel
      cases hx : sysStep x (.step k st w o) with
      | error e => rw [hx] at hrel; exact hrel.elim
      | ok x' =>
        rw [hx] at hrel
        exact ih hs hrel (hh.2 x' hx)

/-- the outcomes handed to the restarted run are well formed: at `.start` and `.initDone` nothing is asked, and from
    there on the restarted run is observationally the uninterrupted one -/
theorem restart_histOk {occ : List (List Int)} {y : Sys} {s' : St} (k : Nat) (st : Status) (w : List (List Rat))
    (o : PickOutcome) (rest : List Ev) (r : St × Job × List Job)
    (hT : stepTreat y k st w = .ok r) (hR : RestoreRel occ r.1 s') (hw : r.1.workers = 1)
    (hti : r.1.toinitiate = -1) (hpin : r.2.1.pin = 0) (hl0 : r.1.locked0 = [])
    (hlt : r.1.cstep < r.1.tsteps) (hocc : freeEngines r.1.occ 0 = freeEngines occ 0)
    (hsteps : StepsOnly rest) {yN : Sys} (hrun : run y (.step k st w o :: rest) = .ok yN)
    (hh : HistOk y (.step k st w o :: rest)) :
    HistOk { s := s', jobs := r.2.2 } (.start o r.1.mainDraws :: .initDone :: rest) := by
  obtain ⟨yU, hstep, _⟩ := run_cons_ok hrun
  have hhU := hh.2 yU hstep
  rw [sysStep_step_eq, hT] at hstep
  obtain ⟨y1, yR, e1, e2, hRY⟩ := restart_step r.2.1 r.2.2 o hR hw hti hpin hl0 hlt hocc hstep
  refine ⟨trivial, fun ya hya => ⟨trivial, fun yb hyb => ?_⟩⟩
  rw [e1] at hya
  cases hya
  rw [e2] at hyb
  cases hyb
  exact histOk_transfer (by omega) rest hsteps hRY hhU

theorem restart_reachable {y0 yN : Sys} (h0 : Start1 y0) (o0 : PickOutcome) (sv0 : Nat) (steps1 : List Ev)
    (k : Nat) (st : Status) (w : List (List Rat)) (o : PickOutcome) (rest : List Ev)
    (hs1 : StepsOnly steps1) (hs2 : StepsOnly rest) (hne : rest ≠ [])
    (hh : HistOk y0 ((.start o0 sv0 :: .initDone :: steps1) ++ (.step k st w o :: rest)))
    (hrun : run y0 ((.start o0 sv0 :: .initDone :: steps1) ++ (.step k st w o :: rest)) = .ok yN) :
    ∃ y r s' yN', run y0 (.start o0 sv0 :: .initDone :: steps1) = .ok y ∧ stepTreat y k st w = .ok r ∧
      StopState r.1 (livePns r.1) ∧ r.1.cstep < r.1.tsteps ∧ CoreR r.1 [] r.1.trajNum ∧ Fam r.1 r.1.trajNum ∧
      Tidy r.1 ∧ r.1.workers = 1 ∧
      restore (persist r.1) r.1.n r.1.workers r.1.tsteps (freeEngines r.1.occ 0) r.1.ensEng
        (fun pn => (r.1.wts.lookup pn).getD []) = .ok s' ∧ RestoreRel (freeEngines r.1.occ 0) r.1 s' ∧
      HistOk { s := s', jobs := [] } (.start o (persist r.1).rngDraws :: .initDone :: rest) ∧
      run { s := s', jobs := [] } (.start o (persist r.1).rngDraws :: .initDone :: rest) = .ok yN' ∧
      ObsR True (-1) r.1.rows [] yN.s yN'.s ∧ yN.jobs = yN'.jobs ∧
      ∃ rws, yN.s.rows = r.1.rows ++ rws ∧ yN'.s.rows = rws := by
  obtain ⟨y, hy, hyN⟩ := run_append_inv _ _ hrun
  have hr : Reach1 y := run_reach1 _ h0.reach (histOk_prefix _ _ hh) hy
  have hhy : HistOk y (.step k st w o :: rest) := histOk_rest _ _ hh hy
  -- the initiation is closed
  have hti : y.s.toinitiate = -1 := by
    have : (.start o0 sv0 :: .initDone :: steps1 : List Ev) = [.start o0 sv0, .initDone] ++ steps1 := rfl
    rw [this] at hy
    obtain ⟨y1, hy1, hy2⟩ := run_append_inv _ _ hy
    rw [(run_steps_ctr _ hs1 hy2).2.2.2]
    exact closed_after_init h0 hy1
  obtain ⟨y', hstep, hyN'⟩ := run_cons_ok hyN
  obtain ⟨r, hT, hhalf⟩ := sysStep_step_inv hstep
  obtain ⟨hS, hw1, hti2, hpin, hrestj, hc, hf, ht, hent⟩ := stopState_of_reach hr hti k st w o hhy.1 hT
  -- not the last step
  have hlt : r.1.cstep < r.1.tsteps := by
    obtain ⟨c1, _, c2, _⟩ := stepTreat_ctr hT
    obtain ⟨d1, _, d2, _⟩ := sysStep_step_ctr hstep
    cases rest with
    | nil => exact absurd rfl hne
    | cons ev2 rest2 =>
      cases ev2 with
      | start _ _ => exact hs2.elim
      | initDone => exact hs2.elim
      | step k2 st2 w2 o2 =>
        obtain ⟨y2, h2, _⟩ := run_cons_ok hyN'
        have := (sysStep_effect h2).2.2.1
        omega
  obtain ⟨s', hres, hR⟩ := restore_persist_full hS (freeEngines r.1.occ 0)
  obtain ⟨yN', hrunR, hobs⟩ := restart_run k st w o rest r hT hR hw1 hti2 hpin hS.locked0 hlt
    (freeEngines_idem r.1.occ 0).symm hs2 hyN
  have hhR := restart_histOk k st w o rest r hT hR hw1 hti2 hpin hS.locked0 hlt (freeEngines_idem r.1.occ 0).symm hs2 hyN hhy
  rw [hrestj] at hrunR hhR
  exact ⟨y, r, s', yN', hy, hT, hS, hlt, hc, hf, ht, hw1, hres, hR, hhR, hrunR, hobs.1, hobs.2, hobs.1.rows_nil⟩

/-- a run with restarts: either the events are run as they are, or the run is stopped right after the
    `treat_output` of some `.step` that is not the last one, the state is rebuilt from the image with a released engine
    table, and the rest of the events is run — with further restarts — from there -/
inductive Restarts : Sys → List Ev → Sys → Prop
  | direct {y0 yN : Sys} {evs : List Ev} : run y0 evs = .ok yN → Restarts y0 evs yN
  | restart {y0 y yN : Sys} {o0 : PickOutcome} {sv0 : Nat} {steps1 : List Ev} {k : Nat} {st : Status}
      {w : List (List Rat)} {o : PickOutcome} {rest : List Ev} {r : St × Job × List Job} {s' : St} :
      StepsOnly steps1 → StepsOnly rest → rest ≠ [] →
      run y0 (.start o0 sv0 :: .initDone :: steps1) = .ok y → stepTreat y k st w = .ok r →
      restore (persist r.1) r.1.n r.1.workers r.1.tsteps (freeEngines r.1.occ 0) r.1.ensEng
        (fun pn => (r.1.wts.lookup pn).getD []) = .ok s' →
      Restarts { s := s', jobs := [] } (.start o (persist r.1).rngDraws :: .initDone :: rest) yN →
      Restarts y0 ((.start o0 sv0 :: .initDone :: steps1) ++ (.step k st w o :: rest)) yN

end Infretis.Repex
