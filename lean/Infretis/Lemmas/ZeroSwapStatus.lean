/-
Both zero swaps, `retis_swap_zero` and `quantis_swap_zero`, outcome by outcome: one table or one inductive case per way
the Python function returns.
-/
import Infretis.Lemmas.ZeroSwap
import Infretis.Model.ZeroSwapAlg

namespace Infretis.ZeroSwap

theorem status0_range (e0 : Ens) (p : List Frame) :
    status0 e0 p = .BTX ∨ status0 e0 p = .BTS ∨ status0 e0 p = .ZL ∨ status0 e0 p = .ACC := by
  unfold status0; repeat' split
  all_goals simp

theorem status1_range (e1 : Ens) (p : List Frame) :
    status1 e1 p = .FTX ∨ status1 e1 p = .FTS ∨ status1 e1 p = .ACC := by
  unfold status1; repeat' split
  all_goals simp

theorem qstatus0_range (e0 : Ens) (m : Nat) (p : List Frame) :
    qstatus0 e0 m p = .BTX ∨ qstatus0 e0 m p = .BTS ∨ qstatus0 e0 m p = .ZL ∨ qstatus0 e0 m p = .ACC := by
  unfold qstatus0; repeat' split
  all_goals simp

theorem qstatus1_range (lam : Int) (m : Nat) (p : List Frame) :
    qstatus1 lam m p = .FTX ∨ qstatus1 lam m p = .FTS ∨ qstatus1 lam m p = .ZR ∨ qstatus1 lam m p = .ACC := by
  unfold qstatus1; repeat' split
  all_goals simp

theorem qstatus0_acc {e0 : Ens} {m : Nat} {p : List Frame} (h : qstatus0 e0 m p = .ACC) :
    p.length < m ∧ 3 ≤ p.length ∧ (e0.scL = false → startIsL e0.lo p = false ∧ endIsL e0.lo p = false) := by
  unfold qstatus0 at h
  by_cases h1 : p.length ≥ m
  · simp [h1] at h
  · by_cases h2 : p.length < 3
    · simp [h1, h2] at h
    · by_cases h3 : (!e0.scL && (startIsL e0.lo p || endIsL e0.lo p)) = true
      · simp [h1, h2, h3] at h
      · refine ⟨by omega, by omega, ?_⟩
        intro hsc
        simp [hsc] at h3
        exact h3

theorem qstatus1_acc {lam : Int} {m : Nat} {p : List Frame} (h : qstatus1 lam m p = .ACC) :
    p.length ≠ m ∧ 3 ≤ p.length ∧ startIsL lam p = true := by
  unfold qstatus1 at h
  by_cases h1 : p.length = m
  · simp [h1] at h
  · by_cases h2 : p.length < 3
    · simp [h1, h2] at h
    · by_cases h3 : startIsL lam p = true
      · exact ⟨h1, by omega, h3⟩
      · simp [h1, h2, h3] at h

theorem qstatus1_zr {lam : Int} {m : Nat} {p : List Frame} (h : qstatus1 lam m p = .ZR) :
    3 ≤ p.length ∧ startIsL lam p = false := by
  unfold qstatus1 at h
  by_cases h1 : p.length = m
  · simp [h1] at h
  · by_cases h2 : p.length < 3
    · simp [h1, h2] at h
    · by_cases h3 : startIsL lam p = true
      · simp [h1, h2, h3] at h
      · exact ⟨by omega, by simpa using h3⟩

theorem retisTable_eq_acc {s0 s1 : Status} {wf a : Bool} (h : retisTable s0 s1 wf a = .ACC) :
    s0 = .ACC ∧ s1 = .ACC := by
  unfold retisTable at h
  by_cases h0 : s0 = .ACC
  · by_cases h1 : s1 = .ACC
    · exact ⟨h0, h1⟩
    · rw [if_neg (by simpa using h0), if_pos h1] at h; exact absurd h h1
  · rw [if_pos h0] at h; exact absurd h h0

/-- the whole final bookkeeping of `retis_swap_zero` (tis.py:976-1010): every field of the result, the statuses
    as a table -/
theorem finish_table {e0 e1 : Ens} {old1 path0 path1 : List Frame} {reqs : List Req} {xi : Rat}
    {r : Result} (h : finish e0 e1 old1 path0 path1 reqs xi = .ok r) :
    ∃ a : Bool,
      (status0 e0 path0 = .ACC → status1 e1 path1 = .ACC → (e0.wf || e1.wf) = true →
        highAcc e0 e1 path1 old1 xi = .ok a) ∧
      r.status = retisTable (status0 e0 path0) (status1 e1 path1) (e0.wf || e1.wf) a ∧
      r.accept = decide (r.status = .ACC) ∧
      r.st0 = r.status ∧ r.st1 = retisField1 (status1 e1 path1) r.status ∧
      r.draws = (if status0 e0 path0 = .ACC ∧ status1 e1 path1 = .ACC ∧ (e0.wf || e1.wf) = true then 1 else 0) ∧
      r.expArg = none ∧ r.path0 = path0 ∧ r.path1 = path1 ∧ r.reqs = reqs ∧
      finalWeight path0 e0 = .ok r.w0 ∧ finalWeight path1 e1 = .ok r.w1 := by
  unfold finish at h
  simp only at h
  cases hw0 : finalWeight path0 e0 with
  | error x => split at h <;> simp [hw0] at h
  | ok w0 =>
    cases hw1 : finalWeight path1 e1 with
    | error x => split at h <;> simp [hw0, hw1] at h
    | ok w1 =>
      by_cases hc : status0 e0 path0 = .ACC ∧ status1 e1 path1 = .ACC ∧ (e0.wf || e1.wf) = true
      · -- both paths fine and wire fencing involved: `high_acc_swap` decides
        obtain ⟨h0, h1, hwf⟩ := hc
        simp only [h0, h1, hwf, decide_true, Bool.and_self, if_true] at h
        cases hh : highAcc e0 e1 path1 old1 xi with
        | error x => simp [hh] at h
        | ok a =>
          simp only [hh, hw0, hw1, Except.ok.injEq] at h
          subst h
          cases a <;> exact ⟨_, fun _ _ _ => rfl, by simp [retisTable, retisField1, h0, h1, hwf]⟩
      · have hc' : (decide (status0 e0 path0 = .ACC) && decide (status1 e1 path1 = .ACC) && (e0.wf || e1.wf)) = false := by
          simpa [-Bool.or_eq_true, Bool.and_assoc] using hc
        simp only [hc', Bool.false_eq_true, if_false, hw0, hw1, Except.ok.injEq] at h
        subst h
        refine ⟨false, fun h0 h1 hwf => absurd ⟨h0, h1, hwf⟩ hc, ?_⟩
        by_cases h0 : status0 e0 path0 = .ACC <;> by_cases h1 : status1 e1 path1 = .ACC <;>
          simp_all [retisTable, retisField1]

theorem accepted_shape {e0 e1 : Ens} {old0 old1 : List Frame} {bw fw : Script} {xi : Rat}
    {r : Result} (h : retisSwapZero e0 e1 old0 old1 bw fw xi = .ok r) (ha : r.accept = true) :
    ∃ pre0 a b c d post1 tmp0 s0 tmp1 s1,
      old0 = pre0 ++ [a, b] ∧ old1 = c :: d :: post1 ∧
      propagate (e1.maxlen - 1) e0.i0 e0.i2 c true bw = some (tmp0, s0) ∧
      propagate (e1.maxlen - 1) e1.i0 e1.i2 b false fw = some (tmp1, s1) ∧
      r.path0 = tmp0.reverse ++ [d] ∧ r.path1 = a :: tmp1 ∧
      2 ≤ tmp0.length ∧ tmp0.length + 1 < e0.maxlen ∧ 2 ≤ tmp1.length ∧ tmp1.length + 1 < e1.maxlen ∧
      status0 e0 r.path0 = .ACC ∧
      r.reqs = [propReq 0 (e1.maxlen - 1) e0.i0 e0.i2 c true, Req.dump 1 1 d.cfg true,
                propReq 1 (e1.maxlen - 1) e1.i0 e1.i2 b false, Req.dump 0 0 a.cfg true] := by
  obtain ⟨_, last0, hlast, hcase⟩ := retis_ok h
  rcases hcase with ⟨_, rfl⟩ | ⟨_, path0, rq0, path1, rq1, hb0, hb1, hf⟩
  · simp [rejected0L] at ha
  · obtain ⟨_, _, hst, hacc, _, _, _, _, hp0, hp1, hrq, _⟩ := finish_table hf
    obtain ⟨hs0, hs1⟩ := retisTable_eq_acc (hst ▸ of_decide_eq_true (hacc ▸ ha))
    obtain ⟨c, d, post1, tmp0, s0, hold1, _, hprop0, hpath0, h20, hl0, hrq0⟩ := buildPath0_acc hb0 hs0
    obtain ⟨pre0, a, b, tmp1, s1, hold0, _, hprop1, hpath1, h21, hl1, hrq1⟩ := buildPath1_acc hb1 hs1
    have hb : last0 = b := by
      rw [hold0] at hlast; simpa using hlast.symm
    subst hb
    refine ⟨pre0, a, last0, c, d, post1, tmp0, s0, tmp1, s1, hold0, hold1, hprop0, hprop1, ?_, ?_, h20, hl0, h21, hl1, ?_, ?_⟩
    · rw [hp0, hpath0]
    · rw [hp1, hpath1]
    · rw [hp0]; exact hs0
    · rw [hrq, hrq0, hrq1]; rfl

/-- a `propagate` call into a path of `maxlen = 2`: the one-step paths of QuanTIS -/
theorem propagate_two (l r : Int) (sys : Frame) (rev : Bool) (scr : Script) :
    ∃ s, propagate 2 l r sys rev scr =
      some ((streamOf sys rev scr).take (if Crosses l r sys.op then 1 else 2), s) := by
  by_cases hc : Crosses l r sys.op
  · have hc' : sys.op < l ∨ r < sys.op := hc
    exact ⟨true, by simp [propagate, streamOf, ops, ← Moves.feedV_repaired, Moves.feedV_cons, Moves.isRep, hc, hc']⟩
  · have hc' : ¬ (sys.op < l ∨ r < sys.op) := hc
    cases hr : scr.rest with
    | nil => exact ⟨false, by simp [propagate, streamOf, ops, ← Moves.feedV_repaired, Moves.feedV_cons, Moves.feedV.eq_1, hc, hc', hr]⟩
    | cons g t =>
      by_cases hg : g.op < l ∨ r < g.op
      · exact ⟨true, by simp [propagate, streamOf, ops, ← Moves.feedV_repaired, Moves.feedV_cons, Moves.isRep, hc, hc', hr, hg]⟩
      · exact ⟨false, by simp [propagate, streamOf, ops, ← Moves.feedV_repaired, Moves.feedV_cons, hc, hc', hr, hg]⟩

/-- frame 0 of a forward trajectory started on `sys` (what the engine reports for the swapped configuration:
    same order value, same phase point, the engine's own energy `v0`) -/
def startFrame (sys : Frame) (scr : Script) : Frame :=
  { op := sys.op, cfg := startCfg sys false, vr := false, vpot := scr.v0 }

def genFrame (g : GenFrame) (rev : Bool) : Frame := { op := g.op, cfg := g.cfg, vr := rev, vpot := g.vpot }

/-- the one-step crossing condition of QuanTIS on the inputs: the shooting point is not left of λ₋₁, the MD
    program produced a next frame, and that frame is strictly right of λ0 (`get_end_point(lambda0) == "R"`) -/
def oneStep (e0 : Ens) (sys : Frame) (scr : Script) : Option GenFrame :=
  if Crosses e0.i0 e0.i2 sys.op then none
  else match scr.rest with
    | g :: _ => if g.op > e0.i2 then some g else none
    | [] => none

theorem oneStep_some {e0 : Ens} {sys : Frame} {scr : Script} {g : GenFrame} (h : oneStep e0 sys scr = some g) :
    g.op > e0.i2 := by
  unfold oneStep at h
  split at h
  · cases h
  · split at h
    · split at h
      · rename_i hg; cases h; exact hg
      · cases h
    · cases h

theorem oneStep_propagate (e0 : Ens) (sys : Frame) (scr : Script) (hl : sys.op < e0.i2) :
    ∃ tmp s, propagate 2 e0.i0 e0.i2 sys false scr = some (tmp, s) ∧
      (match oneStep e0 sys scr with
       | some g => tmp = [startFrame sys scr, genFrame g false] ∧ endIsR e0.i2 tmp = true
       | none => endIsR e0.i2 tmp = false ∧ tmp.head? = some (startFrame sys scr)) := by
  obtain ⟨s, hs⟩ := propagate_two e0.i0 e0.i2 sys false scr
  refine ⟨_, s, hs, ?_⟩
  unfold oneStep
  by_cases hc : Crosses e0.i0 e0.i2 sys.op
  · simp [hc, streamOf, endIsR, startFrame]; omega
  · cases hr : scr.rest with
    | nil => simp [hc, hr, streamOf, endIsR, startFrame]; omega
    | cons g t =>
      by_cases hg : g.op > e0.i2
      · simp [hc, hr, hg, streamOf, endIsR, startFrame, genFrame]; omega
      · simp [hc, hr, hg, streamOf, endIsR, startFrame]

theorem propReq_fresh (k m : Nat) (l r : Int) (sys : Frame) (rev : Bool) :
    (propReq k m l r sys rev).fresh = true := rfl

abbrev CoreOut := Bool × Status × List Frame × List Frame × Status × Status × Nat × List Req

/-- the ways `quantisCompleteCore` returns (tis.py:1237-1324), the two `paste_paths` results written as
    truncated concatenations -/
inductive CoreRun (e0 e1 : Ens) (lam : Int) (m0 m1 : Nat) (tmp1 : List Frame) (scC scD : Script)
    (reqs : List Req) : Bool → List Frame → CoreOut → Prop
  /-- `start_cond1 != "L"` -/
  | qrs {sp0 t0} : CoreRun e0 e1 lam m0 m1 tmp1 scC scD reqs false (sp0 :: t0)
      (false, .QRS, appendMax [] (m0 - 1) sp0, tmp1, .none, .QRS, 0, reqs)
  /-- the completed [0-] path fails -/
  | minus {sp0 t0 back sb new0} (hb : propagate (m0 - 1) e0.i0 e0.i2 sp0 true scC = some (back, sb))
      (hn0 : new0 = (back.reverse ++ t0).take m0) (hs0 : qstatus0 e0 m0 new0 ≠ .ACC) :
      CoreRun e0 e1 lam m0 m1 tmp1 scC scD reqs true (sp0 :: t0)
        (false, qstatus0 e0 m0 new0, new0, tmp1, qstatus0 e0 m0 new0, .none, 0,
          reqs ++ [propReq 0 (m0 - 1) e0.i0 e0.i2 sp0 true])
  /-- `start_cond1 != "R"` -/
  | qlr {sp0 t0 back sb new0 sp1} (hb : propagate (m0 - 1) e0.i0 e0.i2 sp0 true scC = some (back, sb))
      (hn0 : new0 = (back.reverse ++ t0).take m0) (hs0 : qstatus0 e0 m0 new0 = .ACC)
      (hl : tmp1.getLast? = some sp1) (hlt : sp1.op < lam) :
      CoreRun e0 e1 lam m0 m1 tmp1 scC scD reqs true (sp0 :: t0)
        (false, .QLR, new0, appendMax [] (m1 - 1) sp1, .QLR, .QLR, 0,
          reqs ++ [propReq 0 (m0 - 1) e0.i0 e0.i2 sp0 true])
  /-- both completions ran: the status is that of the completed [0+] path -/
  | plus {sp0 t0 back sb new0 sp1 forw sf new1}
      (hb : propagate (m0 - 1) e0.i0 e0.i2 sp0 true scC = some (back, sb))
      (hn0 : new0 = (back.reverse ++ t0).take m0) (hs0 : qstatus0 e0 m0 new0 = .ACC)
      (hl : tmp1.getLast? = some sp1) (hlt : ¬ sp1.op < lam)
      (hf : propagate (m1 - 1) e1.i0 e1.i2 sp1 false scD = some (forw, sf))
      (hn1 : new1 = (tmp1 ++ forw.tail).take m1) :
      CoreRun e0 e1 lam m0 m1 tmp1 scC scD reqs true (sp0 :: t0)
        (decide (qstatus1 lam m1 new1 = .ACC), qstatus1 lam m1 new1, new0, new1, .ACC, qstatus1 lam m1 new1,
          if qstatus1 lam m1 new1 = .ACC then 1 else 0,
          reqs ++ [propReq 0 (m0 - 1) e0.i0 e0.i2 sp0 true, propReq 1 (m1 - 1) e1.i0 e1.i2 sp1 false])

theorem core_cases {e0 e1 : Ens} {lam : Int} {m0 m1 : Nat} {sc1L : Bool}
    {tmp0 tmp1 : List Frame} {scC scD : Script} {reqs : List Req} {out : CoreOut}
    (h : quantisCompleteCore e0 e1 lam m0 m1 sc1L tmp0 tmp1 scC scD reqs = .ok out) :
    CoreRun e0 e1 lam m0 m1 tmp1 scC scD reqs sc1L tmp0 out := by
  unfold quantisCompleteCore at h
  cases tmp0 with
  | nil => cases h
  | cons sp0 t0 =>
    cases sc1L with
    | false => cases h; exact .qrs
    | true =>
      simp only [Bool.not_true, Bool.false_eq_true, if_false, appendAll2_eq, List.reverse_reverse] at h
      cases hb : propagate (m0 - 1) e0.i0 e0.i2 sp0 true scC with
      | none => rw [hb] at h; cases h
      | some bres =>
        obtain ⟨back, sb⟩ := bres
        simp only [hb] at h
        by_cases hs0 : qstatus0 e0 m0 ((back.reverse ++ t0).take m0) = .ACC
        · simp only [hs0, ne_eq, not_true_eq_false, if_false] at h
          cases hl : tmp1.getLast? with
          | none => rw [hl] at h; cases h
          | some sp1 =>
            simp only [hl] at h
            by_cases hlt : sp1.op < lam
            · simp only [hlt, decide_true, if_true] at h
              cases h; exact .qlr hb rfl hs0 hl hlt
            · simp only [hlt, decide_false, Bool.false_eq_true, if_false] at h
              cases hf : propagate (m1 - 1) e1.i0 e1.i2 sp1 false scD with
              | none => rw [hf] at h; cases h
              | some fres =>
                obtain ⟨forw, sf⟩ := fres
                simp only [hf] at h
                have := CoreRun.plus (reqs := reqs) hb rfl hs0 hl hlt hf rfl
                by_cases hs1 : qstatus1 lam m1 ((tmp1 ++ forw.tail).take m1) = .ACC
                · simp only [hs1, not_true_eq_false, if_false] at h
                  cases h
                  simpa only [hs1, decide_true, if_true, List.append_assoc, List.cons_append, List.nil_append] using this
                · simp only [hs1, not_false_eq_true, if_true] at h
                  cases h
                  simpa only [hs1, decide_false, if_false, List.append_assoc, List.cons_append, List.nil_append] using this
        · simp only [hs0, ne_eq, not_false_eq_true, if_true] at h
          cases h; exact .minus hb rfl hs0

/-- status table of the completion: the move is accepted exactly on 'ACC', the status fields of the two returned
    path objects are those of `quantisFields`, the returned status is one of nine, and the engine requests are
    the earlier ones followed by fresh ones -/
theorem core_table {e0 e1 : Ens} {lam : Int} {m0 m1 : Nat} {sc1L : Bool}
    {tmp0 tmp1 : List Frame} {scC scD : Script} {reqs : List Req} {out : CoreOut}
    (h : quantisCompleteCore e0 e1 lam m0 m1 sc1L tmp0 tmp1 scC scD reqs = .ok out) :
    (out.1 = true ↔ out.2.1 = .ACC) ∧ (out.2.2.2.2.1, out.2.2.2.2.2.1) = quantisFields out.2.1 ∧
      (out.2.1 = .QRS ∨ out.2.1 = .BTX ∨ out.2.1 = .BTS ∨ out.2.1 = .ZL ∨ out.2.1 = .QLR ∨
       out.2.1 = .FTX ∨ out.2.1 = .FTS ∨ out.2.1 = .ZR ∨ out.2.1 = .ACC) ∧
      ∃ more, out.2.2.2.2.2.2.2 = reqs ++ more ∧ ∀ q ∈ more, q.fresh = true := by
  cases core_cases h with
  | qrs => exact ⟨by simp, rfl, .inl rfl, [], (List.append_nil _).symm, by simp⟩
  | @minus _ _ _ _ new0 _ _ hs0 =>
    refine ⟨by simp [hs0], ?_, ?_, _, rfl, by simp [propReq_fresh]⟩
    · rcases qstatus0_range e0 m0 new0 with hr | hr | hr | hr <;> simp_all [quantisFields]
    · rcases qstatus0_range e0 m0 new0 with hr | hr | hr | hr <;> simp_all
  | qlr => exact ⟨by simp, rfl, by simp, _, rfl, by simp [propReq_fresh]⟩
  | @plus _ _ _ _ _ _ _ _ new1 =>
    refine ⟨by simp, ?_, ?_, _, rfl, by simp [propReq_fresh]⟩
    · rcases qstatus1_range lam m1 new1 with hr | hr | hr | hr <;> simp [hr, quantisFields]
    · rcases qstatus1_range lam m1 new1 with hr | hr | hr | hr <;> simp [hr]

/-- the pieces of an accepted completion; neither paste was cut at the limit -/
theorem core_acc {e0 e1 : Ens} {lam : Int} {m0 m1 : Nat} {sc1L : Bool}
    {sp0 : Frame} {t0 tmp1 : List Frame} {scC scD : Script} {reqs : List Req} {out : CoreOut}
    (h : quantisCompleteCore e0 e1 lam m0 m1 sc1L (sp0 :: t0) tmp1 scC scD reqs = .ok out)
    (ha : out.1 = true) :
    ∃ back sb sp1 forw sf,
      propagate (m0 - 1) e0.i0 e0.i2 sp0 true scC = some (back, sb) ∧
      out.2.2.1 = back.reverse ++ t0 ∧ qstatus0 e0 m0 out.2.2.1 = .ACC ∧
      tmp1.getLast? = some sp1 ∧ ¬ sp1.op < lam ∧
      propagate (m1 - 1) e1.i0 e1.i2 sp1 false scD = some (forw, sf) ∧
      out.2.2.2.1 = tmp1 ++ forw.tail ∧ qstatus1 lam m1 out.2.2.2.1 = .ACC ∧
      out.2.2.2.2.2.2.2 = reqs ++ [propReq 0 (m0 - 1) e0.i0 e0.i2 sp0 true, propReq 1 (m1 - 1) e1.i0 e1.i2 sp1 false] ∧
      out.2.1 = .ACC := by
  cases core_cases h with
  | qrs => cases ha
  | minus => cases ha
  | qlr => cases ha
  | @plus _ _ back sb new0 sp1 forw sf new1 hb hn0 hs0 hl hlt hf hn1 =>
    have hs1 : qstatus1 lam m1 new1 = .ACC := of_decide_eq_true ha
    have e0' : new0 = back.reverse ++ t0 := by
      rw [hn0]; exact take_of_short _ _ (hn0 ▸ (qstatus0_acc hs0).1)
    have e1' : new1 = tmp1 ++ forw.tail := by
      rw [hn1]
      apply take_of_short
      have := (qstatus1_acc hs1).1
      have hle : ((tmp1 ++ forw.tail).take m1).length ≤ m1 := by rw [List.length_take]; omega
      rw [hn1] at this
      omega
    exact ⟨back, sb, sp1, forw, sf, hb, e0', hs0, hl, hlt, hf, e1', hs1, rfl, hs1⟩

/-- with both one-step paths as `quantisPre` hands them over (two frames each, the [0-] shooting frame at or left
    of λ0, its successor not left of λ0, `start_cond1 == "L"`) the completion never answers 'QR*', 'QLR', '0+R' -/
theorem core_dead {e0 e1 : Ens} {lam : Int} {m0 m1 : Nat} {f0 g0 f1 g1 : Frame} {scC scD : Script}
    {reqs : List Req} {out : CoreOut}
    (h : quantisCompleteCore e0 e1 lam m0 m1 true [f0, g0] [f1, g1] scC scD reqs = .ok out)
    (hf1 : f1.op ≤ lam) (hg1 : ¬ g1.op < lam) :
    out.2.1 ≠ .QRS ∧ out.2.1 ≠ .QLR ∧ out.2.1 ≠ .ZR := by
  cases core_cases h with
  | @minus _ _ _ _ new0 =>
    rcases qstatus0_range e0 m0 new0 with hr | hr | hr | hr <;> simp [hr]
  | qlr _ _ _ hl hlt =>
    obtain rfl : g1 = _ := by simpa using hl
    exact absurd hlt hg1
  | @plus _ _ _ _ _ _ forw _ new1 _ _ _ _ _ _ hn1 =>
    refine ⟨?_, ?_, fun hz => ?_⟩
    · rcases qstatus1_range lam m1 new1 with hr | hr | hr | hr <;> simp [hr]
    · rcases qstatus1_range lam m1 new1 with hr | hr | hr | hr <;> simp [hr]
    · -- the new [0+] path starts with `f1`, at or left of λ0: never '0+R'
      obtain ⟨h3, hs⟩ := qstatus1_zr (show qstatus1 lam m1 new1 = .ZR from hz)
      cases m1 with
      | zero => simp [hn1] at h3
      | succ k => simp [hn1, startIsL, hf1] at hs

/-- both shooting frames carry an energy and lie left of λ0, both one-step paths cross λ0, and both engines report an
    energy for the configuration they were handed: the energy rule is evaluated -/
structure Crossed (e0 : Ens) (sp0 sp1 : Frame) (scA scB : Script) (g0 g1 : GenFrame) (v0r0 v0r1 v1r1 v1r0 : Int) :
    Prop where
  left0 : sp0.op < e0.i2
  left1 : sp1.op < e0.i2
  step0 : oneStep e0 sp0 scA = some g0
  step1 : oneStep e0 sp1 scB = some g1
  v0r0 : sp1.vpot = some v0r0
  v0r1 : scA.v0 = some v0r1
  v1r1 : sp0.vpot = some v1r1
  v1r0 : scB.v0 = some v1r0

/-- **The ways `quantis_swap_zero` returns** (tis.py:1127-1324) on paths that have the two shooting frames — `sp0`, the
    first frame of the old [0+] path, and `sp1`, the second-last of the old [0-] path — along the order of its checks:
    energies, shooting points left of λ0, the two one-step crossings, the energy rule, the completion. -/
inductive QRun (e0 e1 : Ens) (sp0 sp1 : Frame) (scA scB scC scD : Script) (aa : Bool) (b0 b1 xi p : Rat) :
    Result → Prop
  | qne (hn : sp0.vpot = none ∨ sp1.vpot = none) :
      QRun e0 e1 sp0 sp1 scA scB scC scD aa b0 b1 xi p (qres false .QNE [sp0] [sp1] .QNE .QNE 0 [] 0 none)
  | qll (h0 : sp0.vpot ≠ none) (h1 : sp1.vpot ≠ none) (hl : ¬ (sp0.op < e0.i2 ∧ sp1.op < e0.i2)) :
      QRun e0 e1 sp0 sp1 scA scB scC scD aa b0 b1 xi p (qres false .QLL [sp0] [sp1] .QLL .QLL 0 [] 0 none)
  | qs0 (h0 : sp0.vpot ≠ none) (h1 : sp1.vpot ≠ none) (hl0 : sp0.op < e0.i2) (hl1 : sp1.op < e0.i2)
      (ho0 : oneStep e0 sp0 scA = none) {tmp0 : List Frame} (hh : tmp0.head? = some (startFrame sp0 scA)) :
      QRun e0 e1 sp0 sp1 scA scB scC scD aa b0 b1 xi p
        (qres false .QS0 tmp0 [sp1] .QS0 .QS0 0 [propReq 0 2 e0.i0 e0.i2 sp0 false] 0 none)
  | qs1 (h0 : sp0.vpot ≠ none) (h1 : sp1.vpot ≠ none) (hl0 : sp0.op < e0.i2) (hl1 : sp1.op < e0.i2) {g0 : GenFrame}
      (ho0 : oneStep e0 sp0 scA = some g0) (ho1 : oneStep e0 sp1 scB = none) {tmp1 : List Frame}
      (hh : tmp1.head? = some (startFrame sp1 scB)) :
      QRun e0 e1 sp0 sp1 scA scB scC scD aa b0 b1 xi p
        (qres false .QS1 [startFrame sp0 scA, genFrame g0 false] tmp1 .none .QS1 0
          [propReq 0 2 e0.i0 e0.i2 sp0 false, propReq 1 2 e0.i0 e0.i2 sp1 false] 0 none)
  /-- the energy rule says no: `[tmp_path1, tmp_path1]` is returned -/
  | qea {g0 g1 : GenFrame} {v0r0 v0r1 v1r1 v1r0 : Int} (hc : Crossed e0 sp0 sp1 scA scB g0 g1 v0r0 v0r1 v1r1 v1r0)
      (haa : aa = false) (hx : ¬ xi ≤ min 1 p) :
      QRun e0 e1 sp0 sp1 scA scB scC scD aa b0 b1 xi p
        (qres false .QEA [startFrame sp1 scB, genFrame g1 false] [startFrame sp1 scB, genFrame g1 false] .QEA .QEA 0
          [propReq 0 2 e0.i0 e0.i2 sp0 false, propReq 1 2 e0.i0 e0.i2 sp1 false] 1
          (some (expArgOf b0 b1 v0r0 v0r1 v1r1 v1r0)))
  /-- the energy rule says yes (or `accept_all`): the completion decides -/
  | core {g0 g1 : GenFrame} {v0r0 v0r1 v1r1 v1r0 : Int} (hc : Crossed e0 sp0 sp1 scA scB g0 g1 v0r0 v0r1 v1r1 v1r0)
      (hdo : aa = true ∨ xi ≤ min 1 p) (out : CoreOut)
      (hout : quantisCompleteCore e0 e1 e0.i2 e0.maxlen e0.maxlen true [startFrame sp0 scA, genFrame g0 false]
        [startFrame sp1 scB, genFrame g1 false] scC scD
        [propReq 0 2 e0.i0 e0.i2 sp0 false, propReq 1 2 e0.i0 e0.i2 sp1 false] = .ok out) :
      QRun e0 e1 sp0 sp1 scA scB scC scD aa b0 b1 xi p
        (qres out.1 out.2.1 out.2.2.1 out.2.2.2.1 out.2.2.2.2.1 out.2.2.2.2.2.1 out.2.2.2.2.2.2.1 out.2.2.2.2.2.2.2 1
          (some (expArgOf b0 b1 v0r0 v0r1 v1r1 v1r0)))

section run
variable {e0 e1 : Ens} {old0 old1 pre0 rest1 : List Frame} {sp0 sp1 last : Frame} {scA scB scC scD : Script} {aa : Bool}
  {b0 b1 xi p : Rat} {r : Result}

theorem quantis_shooting_frames (h : quantisSwapZero e0 e1 old0 old1 scA scB scC scD aa b0 b1 xi p = .ok r) :
    ∃ pre0 sp1 last sp0 rest1, old0 = pre0 ++ [sp1, last] ∧ old1 = sp0 :: rest1 := by
  unfold quantisSwapZero quantisPre at h
  cases old1 with
  | nil => cases h
  | cons sp0 rest1 =>
    rcases hr : old0.reverse with _ | ⟨last, _ | ⟨sp1, t⟩⟩
    · rw [hr] at h; cases h
    · rw [hr] at h; cases h
    · exact ⟨t.reverse, sp1, last, sp0, rest1, by simpa using congrArg List.reverse hr, rfl⟩

theorem quantis_cases
    (h : quantisSwapZero e0 e1 (pre0 ++ [sp1, last]) (sp0 :: rest1) scA scB scC scD aa b0 b1 xi p = .ok r) :
    QRun e0 e1 sp0 sp1 scA scB scC scD aa b0 b1 xi p r := by
  rw [quantisSwapZero] at h
  generalize hP : quantisPre e0 (pre0 ++ [sp1, last]) (sp0 :: rest1) scA scB b0 b1 = P at h
  -- the two `match`es on the paths, and `appendMax [] 2 f = [f]`
  simp only [quantisPre, List.reverse_append, List.reverse_cons, List.reverse_nil, List.nil_append,
    List.cons_append, appendMax_eq, List.length_nil, Nat.zero_lt_two, if_true] at hP
  by_cases hn : sp0.vpot = none ∨ sp1.vpot = none
  · have : (sp0.vpot.isNone || sp1.vpot.isNone) = true := by
      rcases hn with h | h <;> rw [h] <;> simp only [Option.isNone_none, Bool.true_or, Bool.or_true]
    rw [if_pos this] at hP
    subst hP; cases h
    exact .qne hn
  have h0 : sp0.vpot ≠ none := fun e => hn (.inl e)
  have h1 : sp1.vpot ≠ none := fun e => hn (.inr e)
  have hE : (sp0.vpot.isNone || sp1.vpot.isNone) = false := by
    rw [Option.isNone_eq_false_iff.mpr (Option.isSome_iff_ne_none.mpr h0),
      Option.isNone_eq_false_iff.mpr (Option.isSome_iff_ne_none.mpr h1)]
    rfl
  rw [hE, if_neg Bool.false_ne_true] at hP
  by_cases hl : ¬ (sp0.op < e0.i2 ∧ sp1.op < e0.i2)
  · have hl' : (!decide (sp0.op < e0.i2) || !decide (sp1.op < e0.i2)) = true := by
      simp only [Bool.or_eq_true, Bool.not_eq_true', decide_eq_false_iff_not]; omega
    rw [if_pos hl'] at hP
    subst hP; cases h
    exact .qll h0 h1 hl
  obtain ⟨hl0, hl1⟩ := Decidable.not_not.1 hl
  -- both shooting points left of λ0: the two one-step propagations run
  obtain ⟨tmp0, s0, hp0, hm0⟩ := oneStep_propagate e0 sp0 scA hl0
  obtain ⟨tmp1, s1, hp1, hm1⟩ := oneStep_propagate e0 sp1 scB hl1
  simp only [hl0, hl1, hp0, hp1, decide_true, Bool.not_true, Bool.or_self, Bool.false_eq_true, if_false] at hP
  cases ho0 : oneStep e0 sp0 scA with
  | none =>
    rw [ho0] at hm0
    simp only [hm0.1, Bool.not_false, if_true] at hP
    subst hP; cases h
    exact .qs0 h0 h1 hl0 hl1 ho0 hm0.2
  | some g0 =>
    rw [ho0] at hm0
    obtain ⟨rfl, he0⟩ := hm0
    simp only [he0, Bool.not_true, Bool.false_eq_true, if_false] at hP
    cases ho1 : oneStep e0 sp1 scB with
    | none =>
      rw [ho1] at hm1
      simp only [hm1.1, Bool.not_false, if_true] at hP
      subst hP; cases h
      exact .qs1 h0 h1 hl0 hl1 ho0 ho1 hm1.2
    | some g1 =>
      rw [ho1] at hm1
      obtain ⟨rfl, he1⟩ := hm1
      -- all guards passed: what is left is the `match` on the four energies
      obtain ⟨v0r0, hv1⟩ := Option.ne_none_iff_exists'.mp h1
      obtain ⟨v1r1, hv0⟩ := Option.ne_none_iff_exists'.mp h0
      simp only [he1, Bool.not_true, Bool.false_eq_true, if_false, hv0, hv1, List.head?_cons, Option.bind_some,
        show (startFrame sp0 scA).vpot = scA.v0 from rfl, show (startFrame sp1 scB).vpot = scB.v0 from rfl] at hP
      cases hA : scA.v0 with
      | none => rw [hA] at hP; subst hP; cases h
      | some v0r1 =>
        cases hB : scB.v0 with
        | none => rw [hA, hB] at hP; subst hP; cases h
        | some v1r0 =>
          rw [hA, hB] at hP
          subst hP
          have hc : Crossed e0 sp0 sp1 scA scB g0 g1 v0r0 v0r1 v1r1 v1r0 := ⟨hl0, hl1, ho0, ho1, hv1, hA, hv0, hB⟩
          simp only [Bool.or_eq_true, decide_eq_true_eq] at h
          split at h
          · rename_i hdo
            unfold quantisComplete at h
            split at h
            · cases h
            · rename_i hout
              cases h
              exact .core hc hdo _ hout
          · rename_i hdo
            cases h
            exact .qea hc (by cases aa <;> simp_all) (fun hx => hdo (.inr hx))

/-- a number was drawn only where the energy rule was evaluated: both one-step paths crossed, this is the exponent, and
    the draw comes after exactly these two requests -/
theorem quantis_crossed {e0 e1 : Ens} {pre0 rest1 : List Frame} {sp1 last sp0 : Frame}
    {scA scB scC scD : Script} {aa : Bool} {b0 b1 xi p : Rat} {r : Result}
    (h : quantisSwapZero e0 e1 (pre0 ++ [sp1, last]) (sp0 :: rest1) scA scB scC scD aa b0 b1 xi p = .ok r)
    (hd : r.draws = 1) :
    ∃ g0 g1 v0r0 v0r1 v1r1 v1r0, Crossed e0 sp0 sp1 scA scB g0 g1 v0r0 v0r1 v1r1 v1r0 ∧
      r.expArg = some (expArgOf b0 b1 v0r0 v0r1 v1r1 v1r0) ∧
      r.reqs.take 2 = [propReq 0 2 e0.i0 e0.i2 sp0 false, propReq 1 2 e0.i0 e0.i2 sp1 false] := by
  cases quantis_cases h with
  | qea hc => exact ⟨_, _, _, _, _, _, hc, rfl, rfl⟩
  | core hc hdo out hout =>
    obtain ⟨_, _, _, more, hm, _⟩ := core_table hout
    exact ⟨_, _, _, _, _, _, hc, rfl, by rw [show (qres _ _ _ _ _ _ _ _ _ _).reqs = out.2.2.2.2.2.2.2 from rfl, hm]; rfl⟩
  | _ => cases hd

theorem quantis_accepted_shape {e0 e1 : Ens} {pre0 rest1 : List Frame} {sp1 last sp0 : Frame}
    {scA scB scC scD : Script} {aa : Bool} {b0 b1 xi p : Rat} {r : Result}
    (h : quantisSwapZero e0 e1 (pre0 ++ [sp1, last]) (sp0 :: rest1) scA scB scC scD aa b0 b1 xi p = .ok r)
    (ha : r.accept = true) :
    ∃ g0 g1 back sb forw sf,
      sp0.op < e0.i2 ∧ sp1.op < e0.i2 ∧ oneStep e0 sp0 scA = some g0 ∧ oneStep e0 sp1 scB = some g1 ∧
      propagate (e0.maxlen - 1) e0.i0 e0.i2 (startFrame sp0 scA) true scC = some (back, sb) ∧
      propagate (e0.maxlen - 1) e1.i0 e1.i2 (genFrame g1 false) false scD = some (forw, sf) ∧
      r.path0 = back.reverse ++ [genFrame g0 false] ∧
      r.path1 = [startFrame sp1 scB, genFrame g1 false] ++ forw.tail ∧
      2 ≤ back.length ∧ back.length + 1 < e0.maxlen ∧ 2 ≤ forw.length ∧ forw.length + 1 < e0.maxlen ∧
      (e0.scL = false → startIsL e0.lo r.path0 = false) := by
  cases quantis_cases h with
  | core hc hdo out hout =>
    obtain ⟨back, sb, spl, forw, sf, hpb, hn0, hq0, hlast, _, hpf, hn1, hq1, _, _⟩ := core_acc hout ha
    obtain rfl : genFrame _ false = spl := by simpa using hlast
    -- both statuses are 'ACC': the lengths of the two completions, QuanTIS reading both limits from [0-]
    obtain ⟨hlt0, h30, hL0⟩ := qstatus0_acc hq0
    obtain ⟨hne1, h31, _⟩ := qstatus1_acc hq1
    have hfl := propagate_length_le hpf
    rw [hn0] at hlt0 h30
    rw [hn1] at hne1 h31
    simp only [List.length_append, List.length_reverse, List.length_cons, List.length_nil, List.length_tail]
      at hlt0 h30 hne1 h31
    exact ⟨_, _, back, sb, forw, sf, hc.left0, hc.left1, hc.step0, hc.step1, hpb, hpf, hn0, hn1,
      by omega, by omega, by omega, by omega, fun hsc => (hL0 hsc).1⟩
  | _ => cases ha

end run

/-- the deterministic-engine wrappers (`retisSwapZeroDet`, `retisSwapZeroDetV`) on an accepted swap: both old
    paths have the frame the engine is started on -/
theorem det_cases {S T : Frame → Script} {e0 e1 : Ens} {old0 old1 : List Frame} {xi : Rat} {r : Result}
    (h : (match old1.head?, old0.getLast? with
          | some first1, some last0 => retisSwapZero e0 e1 old0 old1 (S first1) (T last0) xi
          | _, _ => retisSwapZero e0 e1 old0 old1 ⟨none, []⟩ ⟨none, []⟩ xi) = .ok r) (ha : r.accept = true) :
    ∃ first1 last0, old1.head? = some first1 ∧ old0.getLast? = some last0 ∧
      retisSwapZero e0 e1 old0 old1 (S first1) (T last0) xi = .ok r := by
  -- whatever the scripts, an accepted swap had both frames
  have key : ∀ {bw fw}, retisSwapZero e0 e1 old0 old1 bw fw xi = .ok r →
      ∃ c b, old1.head? = some c ∧ old0.getLast? = some b := by
    intro bw fw h'
    obtain ⟨_, _, b, c, _, _, _, _, _, _, hold0, hold1, _⟩ := accepted_shape h' ha
    exact ⟨c, b, by simp [hold1], by simp [hold0]⟩
  split at h
  · rename_i c b h1 h0
    exact ⟨c, b, h1, h0, h⟩
  · rename_i hno
    obtain ⟨c, b, h1, h0⟩ := key h
    exact (hno c b h1 h0).elim

end Infretis.ZeroSwap
