/-
`inf_retis` split at its two `np.argsort` calls: the keys handed to them, the preparation given their results,
and the rest of the routine.  `Infretis.Perm.prepare` / `infRetis` are these pieces composed (by `rfl`:
Lemmas/PermEval.lean); the driver prints the keys next to the model's sort permutation so that the tie can compare
the two argsorts of the code with the model's, and concrete evaluations inside proofs need only the two `argsort`
values (`List.mergeSort` is not kernel-reducible).

No imports outside core Lean and Infretis.Model.Perm.
-/
import Infretis.Model.Perm
namespace Infretis.Perm

def offsetOf (off : Nat) (locks : List Bool) : Nat := off - ((locks.take off).filter (fun b => b)).length

/-- keys of the first `argsort` (minus rows) -/
def keysMinus (off : Nat) (W : Mat) (locks : List Bool) : List Int :=
  ((idle W locks).take (offsetOf off locks)).map (fun r => (firstPos r : Int))

/-- keys of the second `argsort` (plus rows) -/
def keysPlus (off : Nat) (W : Mat) (locks : List Bool) : List Int :=
  ((idle W locks).drop (offsetOf off locks)).map (fun r => -(firstPos r.reverse : Int))

/-- `prepare` with the results of the two `argsort` calls given -/
def prepareGiven (off : Nat) (W : Mat) (locks : List Bool) (minusIdx plusIdx : List Nat) : Sorted :=
  let offset := offsetOf off locks
  let nl := idle W locks
  let m := nl.length
  let posIdx := plusIdx.map (fun i => i + offset)
  let sortIdx := minusIdx ++ posIdx
  let sorted := sortIdx.map (fun i => nl.getD i [])
  let equalMinus := rowConstAt (offset - 1) (sorted.take offset)
  let equalPos := if m ≤ offset then true else rowConstAt offset (sorted.drop offset)
  { offset := offset, m := m, sortIdx := sortIdx, sorted := sorted, equal := equalMinus && equalPos }

/-- everything `inf_retis` does after the preparation -/
def finishOf (locks : List Bool) (s : Sorted) : Res :=
  if s.m = 0 then .error .value else
  let acc := sortedOut s
  match acc.err with
  | some e => .error e
  | none =>
    let out := (List.range s.m).map (fun i => acc.rows.getD (s.sortIdx.idxOf i) [])
    if acc.nan then .error .assert
    else if acc.mc ≠ [] then .monteCarlo acc.mc
    else if !(allOnes (out.map List.sum) && allOnes ((List.range s.m).map (fun j => (colOf out j).sum))) then
      .error .assert
    else .ok (embed locks out)

/-! ### audit pass: `inf_retis` with the results of the two `np.argsort` calls as inputs

numpy's default argsort is not stable, so on ties the code's `sort_idx` is not the model's (`argsort` =
`List.mergeSort`).  `infRetisGiven` is `inf_retis` with the two argsort results handed in; `sortsB` is the only
thing assumed about them (Lemmas/PermSort.lean: `Sorts`). -/

/-- `xs` is non-decreasing -/
def nondecr : List Int → Bool
  | [] => true
  | [_] => true
  | a :: b :: rest => decide (a ≤ b) && nondecr (b :: rest)

/-- `idx` is a possible result of `np.argsort(keys)`: a permutation of the positions that reads the keys in
    non-decreasing order -/
def sortsB (keys : List Int) (idx : List Nat) : Bool :=
  idx.isPerm (List.range keys.length) && nondecr (idx.map (fun i => keys.getD i 0))

/-- `inf_retis` given the results `a`, `b` of its two argsort calls -/
def infRetisGiven (W : Mat) (locks : List Bool) (off : Nat) (a b : List Nat) : Res :=
  finishOf locks (prepareGiven off W locks a b)

/-- `Infretis.Perm.branches` for a given preparation -/
def branchesOfSorted (s : Sorted) : List String :=
  if s.m = 0 then ["empty"]
  else if s.equal then ["equal"]
  else match findBlocks s.sorted s.offset with
    | .single => ["single-tuple"]
    | .list bs => bs.map (fun b =>
        match branchOf (subBlock s.sorted b.1 b.2.1 b.2.2) with
        | .single => "single" | .quick => "quick" | .glynn => "glynn" | .random => "random")

end Infretis.Perm
