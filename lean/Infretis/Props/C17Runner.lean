import Infretis.Lemmas.Runner
/-!
# C17 (runner half) — every submitted unit is executed exactly once, its result or exception is
delivered exactly once whatever the completion order, and the runner shuts down cleanly

Model: `Infretis/Model/Runner.lean`, the protocol of `aiorunner` / `future_list`
(`infretis/asyncrunner.py`) as a transition system `step : State → Event → Option State`.
All statements are for event lists of any length, any number of worker tasks and units, every
interleaving the protocol allows (i.e. all task durations / completion orders, failing tasks
included: `Outcome.exc`).

Not covered by the model: the internals of `asyncio` and of `ProcessPoolExecutor`; that the
real runner only produces traces the model accepts is checked on every run by the tie
(`harness/props/c17_runner.py`, trace validation).
-/
namespace Infretis.C17Runner
open Infretis.Runner

/-- The exactly-once statement about an event list `tr` and the state `s` it leads to. -/
structure ExactlyOnce (tr : List Event) (s : State) : Prop where
  /-- unit ids (futures) are fresh -/
  submit_once : (subSeq tr).Nodup
  /-- a unit is taken at most once … -/
  take_once : (takenSeq tr).Nodup
  /-- … and only after its submission -/
  take_after_submit : ∀ pre w u post, tr = pre ++ .take w u :: post → .submit u ∈ pre
  /-- a unit is finished (its future set) at most once … -/
  finish_once : (finUnits tr).Nodup
  /-- … and only by the worker that took it, after it took it -/
  finish_by_taker : ∀ pre w u o post, tr = pre ++ .finish w u o :: post → .take w u ∈ pre
  /-- the future of `u` is done with outcome `o` exactly when `u`'s own finish event carried `o` -/
  future_own : ∀ u o, futOf s u = some (.done o) ↔ ∃ w, .finish w u o ∈ tr
  /-- the future of `u` is pending exactly when `u` was submitted and never finished -/
  future_pending : ∀ u, futOf s u = some .pending ↔ .submit u ∈ tr ∧ ∀ w o, .finish w u o ∉ tr
  /-- a future is handed to the consumer at most once … -/
  collect_once : (colUnits tr).Nodup
  /-- … only after it is done, and with the outcome it was set to -/
  collect_after_done : ∀ pre u o post, tr = pre ++ .collect u o :: post → ∃ w, .finish w u o ∈ pre
  /-- complete (quiescent) traces: every submitted unit taken exactly once, finished exactly once,
      future done -/
  complete : quiescent s = true → ∀ u, .submit u ∈ tr →
    (takenSeq tr).count u = 1 ∧ (finUnits tr).count u = 1 ∧ ∃ o, futOf s u = some (.done o)

/-- **Exactly once.** For every event list the protocol accepts (any number of workers, any
    interleaving, failing units included). -/
theorem exactly_once (nw : Nat) (tr : List Event) (s : State)
    (h : run (init nw) tr = some s) : ExactlyOnce tr s := by
  have hI := inv_run h
  refine ⟨hI.sub_nodup, takenSeq_nodup hI, ?_, hI.fin_nodup, ?_, futOf_done_iff hI,
    futOf_pending_iff hI, hI.col_nodup, ?_, ?_⟩
  · intro pre w u post htr
    subst htr
    obtain ⟨s1, s2, h1, h2, _⟩ := run_split h
    have hI1 := inv_run h1
    obtain ⟨_, _, _, t, hq, _⟩ := step_take h2
    have : u ∈ subSeq pre := by rw [inv_fifo hI1, hq]; simp
    exact mem_subSeq.1 this
  · intro pre w u o post htr
    subst htr
    obtain ⟨s1, s2, h1, h2, _⟩ := run_split h
    have hI1 := inv_run h1
    exact mem_takes.1 (hI1.run_taken _ _ (step_finish h2).1)
  · intro pre u o post htr
    subst htr
    obtain ⟨s1, s2, h1, h2, _⟩ := run_split h
    have hI1 := inv_run h1
    have := (step_collect h2).1
    rw [inv_done hI1] at this
    exact mem_doneOf.1 this
  · intro hq u hu
    simp only [quiescent, Bool.and_eq_true, List.isEmpty_iff] at hq
    obtain ⟨hq, hr⟩ := hq
    have htaken : u ∈ takenSeq tr := by
      have := mem_subSeq.2 hu
      rw [inv_fifo hI, hq, List.append_nil] at this; exact this
    obtain ⟨w, hw⟩ := mem_takenSeq.1 htaken
    have hfin : ∃ o, (w, u, o) ∈ fins tr := by
      rcases hI.taken_cases _ _ (mem_takes.2 hw) with h1 | h1
      · rw [hr] at h1; simp at h1
      · exact h1
    obtain ⟨o, ho⟩ := hfin
    have hfu : u ∈ finUnits tr := mem_finUnits.2 ⟨w, o, mem_fins.1 ho⟩
    exact ⟨List.count_eq_one_of_mem (takenSeq_nodup hI) htaken,
      List.count_eq_one_of_mem hI.fin_nodup hfu,
      o, (futOf_done_iff hI u o).2 ⟨w, mem_fins.1 ho⟩⟩

theorem exactly_once_accepts (nw : Nat) (tr : List Event) (h : accepts nw tr = true) :
    ∃ s, run (init nw) tr = some s ∧ ExactlyOnce tr s := by
  unfold accepts at h
  cases hr : run (init nw) tr with
  | none => simp [hr] at h
  | some s => exact ⟨s, rfl, exactly_once nw tr s hr⟩

-- two workers, three units, out-of-order completion, one failing unit, then stop: accepted and complete
example : ∃ s, run (init 2) [.submit 1, .submit 2, .take 0 1, .take 1 2, .submit 3,
      .finish 1 2 (.exc 2), .take 1 3, .collect 2 (.exc 2), .finish 1 3 (.ok 3), .finish 0 1 (.ok 1),
      .collect 1 (.ok 1), .collect 3 (.ok 3), .stop] = some s ∧ quiescent s = true ∧ s.stopped = true := by
  refine ⟨_, rfl, ?_, ?_⟩ <;> decide +kernel

-- the protocol rejects: a second take of the same unit, a finish by another worker, a second
-- finish, a collect of a pending future, a collect with a foreign outcome
example : accepts 2 [.submit 1, .take 0 1, .take 1 1] = false
    ∧ accepts 2 [.submit 1, .take 0 1, .finish 1 1 (.ok 1)] = false
    ∧ accepts 2 [.submit 1, .take 0 1, .finish 0 1 (.ok 1), .finish 0 1 (.ok 1)] = false
    ∧ accepts 2 [.submit 1, .take 0 1, .collect 1 (.ok 1)] = false
    ∧ accepts 2 [.submit 1, .take 0 1, .finish 0 1 (.ok 1), .collect 1 (.ok 2)] = false := by decide +kernel

/-- **FIFO.** Units are taken in submission order: the sequence of taken units is a prefix of the
    sequence of submitted units, the rest being exactly the queue. -/
theorem fifo_order (nw : Nat) (tr : List Event) (s : State) (h : run (init nw) tr = some s) :
    subSeq tr = takenSeq tr ++ s.queue ∧ takenSeq tr <+: subSeq tr ∧
      ∀ k, k < (takenSeq tr).length → (takenSeq tr)[k]? = (subSeq tr)[k]? := by
  have hI := inv_run h
  refine ⟨inv_fifo hI, ⟨s.queue, (inv_fifo hI).symm⟩, ?_⟩
  intro k hk
  rw [inv_fifo hI, List.getElem?_append_left hk]

example : accepts 3 [.submit 5, .submit 4, .take 2 5, .take 0 4] = true
    ∧ accepts 3 [.submit 5, .submit 4, .take 2 4] = false := by decide +kernel

/-- **No result lost.** In any reachable state `#submitted = |queue| + #running + #done`; a worker
    task holds at most one unit and there are only `nw` of them; and a done future never reverts
    or changes, whatever happens afterwards. -/
theorem no_result_lost (nw : Nat) (tr : List Event) (s : State) (h : run (init nw) tr = some s) :
    s.submitted.length = s.queue.length + s.running.length + s.done.length
    ∧ (s.running.map (·.1)).Nodup ∧ (∀ w u, (w, u) ∈ s.running → w < nw)
    ∧ ∀ tr' s', run s tr' = some s' → ∀ u o, futOf s u = some (.done o) → futOf s' u = some (.done o) := by
  have hI := inv_run h
  have hnw : s.nw = nw := run_nw tr (init nw) s h
  refine ⟨hI.len, hI.workers_nodup, ?_, ?_⟩
  · intro w u hm; have := hI.workers_lt w u hm; rwa [hnw] at this
  · intro tr' s' h' u o hd
    have h2 : run (init nw) (tr ++ tr') = some s' := by rw [run_append, h]; exact h'
    have hI' := inv_run h2
    obtain ⟨w, hw⟩ := (futOf_done_iff hI u o).1 hd
    exact (futOf_done_iff hI' u o).2 ⟨w, List.mem_append_left _ hw⟩

example : ∃ s, run (init 2) [.submit 1, .submit 2, .submit 3, .take 0 1, .take 1 2, .finish 1 2 (.exc 7)] = some s
    ∧ s.submitted.length = 3 ∧ s.queue.length = 1 ∧ s.running.length = 1 ∧ s.done.length = 1 :=
  ⟨_, rfl, by decide +kernel⟩

/-- **Clean stop.** `stop` only happens with an empty queue; once the stop event is set nothing is
    submitted or taken any more, the queue stays empty and the set of held units only shrinks; and
    from a stopped quiescent state nothing runs, is queued or finishes ever again (the only events
    left are the consumer's `collect`s). -/
theorem stop_clean (nw : Nat) (tr : List Event) (s : State) (h : run (init nw) tr = some s)
    (hst : s.stopped = true) :
    s.queue = [] ∧
    ∀ tr' s', run s tr' = some s' →
      s'.stopped = true ∧ s'.queue = [] ∧ subSeq tr' = [] ∧ takes tr' = []
      ∧ (∀ p, p ∈ s'.running → p ∈ s.running)
      ∧ (quiescent s = true → quiescent s' = true ∧ fins tr' = []) := by
  have hq := (inv_run h).stopped_queue hst
  exact ⟨hq, fun tr' s' h' => run_stopped tr' h' hst hq⟩

-- stop while a unit is still held: accepted, the unit still finishes and is collected; stop with a
-- non-empty queue, and submit / second stop after stop are not part of the protocol
example : accepts 1 [.submit 1, .take 0 1, .stop, .finish 0 1 (.ok 1), .collect 1 (.ok 1)] = true
    ∧ accepts 1 [.submit 1, .stop] = false
    ∧ accepts 1 [.stop, .submit 1] = false
    ∧ accepts 1 [.stop, .stop] = false := by decide +kernel

/-- **The trace-only predicate is implied.** What the driver evaluates on observed traces
    (`exactlyOnceB`, `fifoB`, and `completeB` for quiescent ends) holds of every accepted trace. -/
theorem accepted_satisfies_predicates (nw : Nat) (tr : List Event) (s : State)
    (h : run (init nw) tr = some s) :
    exactlyOnceB tr = true ∧ fifoB tr = true ∧ (quiescent s = true → completeB tr = true) := by
  have hE := exactly_once nw tr s h
  have hF := fifo_order nw tr s h
  refine ⟨?_, ?_, ?_⟩
  · simp only [exactlyOnceB, Bool.and_eq_true, nodupB_iff]
    refine ⟨⟨⟨⟨hE.submit_once, hE.take_once⟩, hE.finish_once⟩, hE.collect_once⟩, ?_⟩
    apply orderOk_of
    intro a e b hab
    cases e with
    | submit u => rfl
    | stop => rfl
    | take w u =>
      simpa [causeOk] using hE.take_after_submit a w u b hab
    | finish w u o =>
      simpa [causeOk] using hE.finish_by_taker a w u o b hab
    | collect u o =>
      obtain ⟨w, hw⟩ := hE.collect_after_done a u o b hab
      simp only [causeOk, List.append_nil, List.any_reverse, List.any_eq_true]
      exact ⟨_, hw, by simp⟩
  · simp only [fifoB, List.isPrefixOf_iff_prefix]
    exact hF.2.1
  · intro hq
    simp only [completeB, List.all_eq_true, Bool.and_eq_true, List.contains_eq_mem, decide_eq_true_eq]
    intro u hu
    obtain ⟨h1, h2, _⟩ := hE.complete hq u (mem_subSeq.1 hu)
    exact ⟨List.count_pos_iff.1 (by omega), List.count_pos_iff.1 (by omega)⟩

example : exactlyOnceB [.submit 1, .take 0 1, .finish 0 1 (.ok 1), .collect 1 (.ok 1)] = true
    ∧ exactlyOnceB [.submit 1, .take 0 1, .take 1 1] = false
    ∧ exactlyOnceB [.take 0 1, .submit 1] = false
    ∧ completeB [.submit 1, .take 0 1] = false := by decide +kernel

end Infretis.C17Runner
