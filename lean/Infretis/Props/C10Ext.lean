import Infretis.Props.C10Core
import Infretis.Lemmas.WFExt
import Infretis.Lemmas.WFAudit
import Mathlib.Tactic.FieldSimp
/-!
# C10 — the weight functions as they are called (model `Infretis/Model/WFExt.lean`)

The scan with its branches, the frames of the segment handed on by the pick, `compute_weight` with the move
string, `calc_cv_vector` with all its arguments, `high_acc_swap`, and the call sites that choose the cap.
Statements whose name ends in `_all` hold for every left/right pair; the ones beside them carry the guard
`left ≤ right` in their statement and follow from them.
-/
namespace Infretis.C10
open Infretis.WF

open Infretis.WFExt

/-- **The traced scan is the scan.**  The branch-by-branch trace the tie compares with the real function's
    state after every loop iteration ends in exactly the state `scan` (and hence `weight`, `pick`) is about, and
    has one entry per consecutive frame pair. -/
theorem trace_final_eq_scan (l r : Int) (ops : List Int) :
    traceFinal l r ops = scan l r ops ∧ (trace l r ops).length = ops.length - 1 := by
  refine ⟨?_, traceFrom_length l r ops Scan.init 0⟩
  unfold traceFinal trace scan
  have := traceFrom_last l r ops Scan.init 0
  rw [← this]
  cases (traceFrom l r Scan.init 0 ops).getLast? with
  | none => rfl
  | some x => rfl

example : (trace 0 2 [-1, 1, 3, 1, 3, -1]).map (·.1) = [.openL, .close, .openR, .abortRR, .jump]
    ∧ (traceFinal 0 2 [-1, 1, 3, 1, 3, -1]).arr = [(0, 2, 1)] := by decide +kernel

/-- `n_frames` is the weight whatever the flags are, and the generator is asked for exactly one number iff
    `return_seg`, a positive weight and an `ens_set` come together (otherwise for none). -/
theorem wfWeightAndPick_weight_and_draws (maxlen : Option Nat) (l r : Int) (ops : List Int) (rs : Bool)
    (xi : Option Rat) (o : PickOut) (h : wfWeightAndPick maxlen l r ops rs xi = .ok o) :
    o.nFrames = weight l r ops ∧
    (o.draws = 1 ↔ (rs = true ∧ weight l r ops ≠ 0 ∧ xi.isSome = true)) ∧
    (o.draws = 0 ∨ o.draws = 1) ∧ (o.draws = 0 → o.seg = Seg.empty maxlen) := by
  unfold wfWeightAndPick at h
  simp only [] at h
  unfold weight
  cases rs <;> cases xi <;> by_cases hn : sumLens (scan l r ops).arr = 0 <;> simp [hn] at h
  all_goals first
    | (subst h; simp [hn, Seg.empty])
    | (split at h
       · split at h
         · simp at h
         · simp at h; subst h; simp [hn]
       · simp at h; subst h; simp [hn])

example : wfWeightAndPick none 0 2 [-1, 1, -1] false (some (1 / 2)) =
    .ok { nFrames := 1, seg := Seg.empty none, draws := 0 } := by decide +kernel

/-- **Segments, every left/right pair** (for `left > right` the scan records none). -/
theorem scan_segments_valid_all (l r : Int) (ops : List Int) :
    ∀ seg ∈ (scan l r ops).arr, ValidSeg l r ops seg := by
  rw [scan_arr_eq_specSegs]
  exact specSegs_valid l r ops

/-- **The segment handed on by the pick is exactly the frames of one valid sub-path.**  For a path whose own
    `maxlen` admits its length (the invariant `Path.append` maintains), every returned non-empty segment consists of
    the frames `a .. b` of a sub-path `(a, b, c)` recorded by the scan — the one `pick` selects for this ξ —: its
    first and last frame lie outside `[l, r)` and are not both on the right, the `c` frames between them all lie
    inside, nothing else is in it, and the weight and the single draw are reported with it. -/
theorem picked_segment_is_the_subpath_all (maxlen : Option Nat) (l r : Int) (ops : List Int) (xi : Rat)
    (hmax : ∀ m, maxlen = some m → ops.length ≤ m) (o : PickOut)
    (h : wfWeightAndPick maxlen l r ops true (some xi) = .ok o) (hc : o.seg.copied = true) :
    ∃ b c, pick l r ops xi = some (o.seg.first, b, c) ∧ (o.seg.first, b, c) ∈ (scan l r ops).arr ∧
      o.seg.frames = (ops.drop o.seg.first).take (b + 1 - o.seg.first) ∧
      ∃ p mid q, o.seg.frames = p :: (mid ++ [q]) ∧ mid.length = c ∧ (∀ x ∈ mid, inside l r x = true) ∧
        inside l r p = false ∧ inside l r q = false ∧ ¬ (p ≥ r ∧ q ≥ r) ∧
        o.nFrames = weight l r ops ∧ 0 < o.nFrames ∧ o.draws = 1 := by
  cases hp : pick l r ops xi with
  | none =>
    unfold pick at hp
    unfold wfWeightAndPick at h
    by_cases hn : sumLens (scan l r ops).arr = 0
    · simp [hn] at h; subst h; cases hc
    · simp [hn] at h hp; simp [hp] at h; subst h; cases hc
  | some seg =>
    obtain ⟨a, b, c⟩ := seg
    cases (wfWeightAndPick_some hmax hp).symm.trans h
    obtain ⟨hw, hmem⟩ := pick_mem hp
    obtain ⟨hcnt, _, p, mid, q, hsl, hml, hin, hpo, hqo, hpq⟩ :=
      validSeg_slice l r ops a b c (scan_segments_valid_all l r ops _ hmem)
    exact ⟨b, c, rfl, hmem, rfl, p, mid, q, (congrArg (fun n => (ops.drop a).take n) hcnt).trans hsl, hml, hin, hpo, hqo,
      hpq, rfl, hw, rfl⟩

theorem picked_segment_is_the_subpath (maxlen : Option Nat) (l r : Int) (hlr : l ≤ r) (ops : List Int) (xi : Rat)
    (hmax : ∀ m, maxlen = some m → ops.length ≤ m) (o : PickOut)
    (h : wfWeightAndPick maxlen l r ops true (some xi) = .ok o) (hc : o.seg.copied = true) :
    ∃ b c, pick l r ops xi = some (o.seg.first, b, c) ∧ (o.seg.first, b, c) ∈ (scan l r ops).arr ∧
      o.seg.frames = (ops.drop o.seg.first).take (b + 1 - o.seg.first) ∧
      ∃ p mid q, o.seg.frames = p :: (mid ++ [q]) ∧ mid.length = c ∧ (∀ x ∈ mid, inside l r x = true) ∧
        inside l r p = false ∧ inside l r q = false ∧ ¬ (p ≥ r ∧ q ≥ r) ∧
        o.nFrames = weight l r ops ∧ 0 < o.nFrames ∧ o.draws = 1 :=
  picked_segment_is_the_subpath_all maxlen l r ops xi hmax o h hc

example : wfWeightAndPick (some 7) 1 3 [0, 1, 2, 4, 2, 1, 0] true (some (1 / 2)) =
    .ok { nFrames := 4, seg := { frames := [0, 1, 2, 4], first := 0, maxlen := some 7, copied := true }, draws := 1 } := by
  decide +kernel

/-- a `maxlen` below the segment's length makes `Path.append` refuse frames: the hypothesis of
    `picked_segment_is_the_subpath` cannot be dropped (such a path is never built by the library) -/
theorem picked_segment_truncated_counterexample :
    wfWeightAndPick (some 3) 1 3 [0, 1, 2, 4, 2, 1, 0] true (some (1 / 2)) =
      .ok { nFrames := 4, seg := { frames := [0, 1, 2], first := 0, maxlen := some 3, copied := true }, draws := 1 } := by
  decide +kernel

/-- `wire_fencing`'s seed, without `λ_i ≤ cap` (a cap below the interface: always "NSG") -/
theorem wfSeed_frames_all (maxlen : Option Nat) (i1 i2 : Int) (cap : Option Int)
    (ops : List Int) (xi : Rat) (hx : xi ≤ 1) (hmax : ∀ m, maxlen = some m → ops.length ≤ m) :
    (weight i1 (cap.getD i2) ops = 0 → wfSeed maxlen i1 i2 cap ops xi = .ok none) ∧
    (0 < weight i1 (cap.getD i2) ops →
      ∃ a b c, pick i1 (cap.getD i2) ops xi = some (a, b, c) ∧
        ValidSeg i1 (cap.getD i2) ops (a, b, c) ∧
        wfSeed maxlen i1 i2 cap ops xi =
          .ok (some ([i1, i1, cap.getD i2],
                     { frames := (ops.drop a).take (b + 1 - a), first := a, maxlen := maxlen, copied := true }))) ∧
    (cap.getD i2 < i1 → wfSeed maxlen i1 i2 cap ops xi = .ok none) := by
  have hzero : weight i1 (cap.getD i2) ops = 0 → wfSeed maxlen i1 i2 cap ops xi = .ok none := by
    intro hw
    unfold weight at hw
    simp [wfSeed, wfCallArgs, wfWeightAndPick, hw]
  refine ⟨hzero, fun hw => ?_, fun h => hzero (weight_of_gt _ _ h ops)⟩
  obtain ⟨⟨a, b, c⟩, hp, hmem⟩ := pick_total i1 (cap.getD i2) ops xi hx hw
  exact ⟨a, b, c, hp, scan_segments_valid_all _ _ ops _ hmem,
    by simp [wfSeed, wfCallArgs, wfWeightAndPick_some hmax hp, Nat.ne_of_gt hw]⟩

/-- **`wire_fencing` seeds its jumps with that segment, in the sub-ensemble `[λ_i, λ_i, cap]`**, and stops
    without any MD exactly when the weight below the cap is 0. -/
theorem wfSeed_frames (maxlen : Option Nat) (i1 i2 : Int) (cap : Option Int) (hc : i1 ≤ cap.getD i2)
    (ops : List Int) (xi : Rat) (hx : xi ≤ 1) (hmax : ∀ m, maxlen = some m → ops.length ≤ m) :
    (weight i1 (cap.getD i2) ops = 0 → wfSeed maxlen i1 i2 cap ops xi = .ok none) ∧
    (0 < weight i1 (cap.getD i2) ops →
      ∃ a b c, pick i1 (cap.getD i2) ops xi = some (a, b, c) ∧
        ValidSeg i1 (cap.getD i2) ops (a, b, c) ∧
        wfSeed maxlen i1 i2 cap ops xi =
          .ok (some ([i1, i1, cap.getD i2],
                     { frames := (ops.drop a).take (b + 1 - a), first := a, maxlen := maxlen, copied := true }))) :=
  have h := wfSeed_frames_all maxlen i1 i2 cap ops xi hx hmax
  ⟨h.1, h.2.1⟩

example : wfSeed (some 100) 1 5 (some 3) [0, 1, 2, 4, 2, 1, 0] (1 / 2) =
    .ok (some ([1, 1, 3], { frames := [0, 1, 2, 4], first := 0, maxlen := some 100, copied := true })) := by
  decide +kernel

/-! ### compute_weight with the move string -/

/-- the move string: "wf" and every non-"ss" string behave like the two cases of `computeWeight`; "ss" gives 1,
    doubled iff start side ≠ end side -/
theorem computeWeightM_moves (ops : List Int) (i0 i1 i2 : Int) :
    computeWeightM ops i0 i1 i2 .wf = computeWeight ops i0 i1 i2 true ∧
    computeWeightM ops i0 i1 i2 .sh = computeWeight ops i0 i1 i2 false ∧
    (∀ first last, i0 ≤ i2 → ops.head? = some first → ops.getLast? = some last →
      computeWeightM ops i0 i1 i2 .ss =
        .ok (if sidesDiffer (startPoint i0 i2 first) (endPoint i0 i2 last) then 2 else 1)) := by
  refine ⟨computeWeightM_wf ops i0 i1 i2, ?_, ?_⟩
  · unfold computeWeightM computeWeight
    cases ops.head? <;> cases ops.getLast? <;> simp
  · intro first last h02 hf hl
    unfold computeWeightM
    simp [h02, hf, hl]
    split <;> simp_all

example : computeWeightM [-1, 1, 5] 0 2 4 .ss = .ok 2 ∧ computeWeightM [-1, 1, -1] 0 2 4 .ss = .ok 1 := by decide +kernel

/-- `compute_weight` for "wf" in the property's words: the number of frames on valid sub-paths of `[i1, i2)`,
    doubled iff the start side differs from the end side -/
theorem computeWeightM_wf_spec_all (ops : List Int) (i0 i1 i2 first last : Int) (h02 : i0 ≤ i2)
    (hf : ops.head? = some first) (hl : ops.getLast? = some last) :
    computeWeightM ops i0 i1 i2 .wf =
      .ok ((if sidesDiffer (startPoint i0 i2 first) (endPoint i0 i2 last) then 2 else 1) * specWeight i1 i2 ops) := by
  rw [(computeWeightM_moves ops i0 i1 i2).1, computeWeight_wf ops i0 i1 i2 first last h02 hf hl,
    scan_weight_eq_spec_all i1 i2]
  split <;> simp

theorem computeWeightM_wf_spec (ops : List Int) (i0 i1 i2 first last : Int) (h02 : i0 ≤ i2) (_ : i1 ≤ i2)
    (hf : ops.head? = some first) (hl : ops.getLast? = some last) :
    computeWeightM ops i0 i1 i2 .wf =
      .ok ((if sidesDiffer (startPoint i0 i2 first) (endPoint i0 i2 last) then 2 else 1) * specWeight i1 i2 ops) :=
  computeWeightM_wf_spec_all ops i0 i1 i2 first last h02 hf hl

/-! ### calc_cv_vector, every ensemble kind -/

/-- with `minus = False`, a non-empty interface list and "wf"/"sh" moves `calcCvVector` is `Infretis.WF.cvVector` -/
theorem calcCvVector_eq_cvVector (ops intfs : List Int) (hne : intfs ≠ []) (m0 : Move) (tail : List Bool)
    (lm1 cap : Option Int) :
    calcCvVector ops { interfaces := intfs, moves := m0 :: tail.map (fun b => if b then Move.wf else Move.sh),
                       lm1 := lm1, cap := cap, minus := false } = cvVector ops intfs tail cap := by
  rw [calcCvVector_plus ops _ rfl hne]
  simp only [List.drop_succ_cons, List.drop_zero, List.map_map]
  congr 1
  exact List.map_id'' (fun b => by cases b <;> rfl) tail

/-- **The weight vector, every ensemble kind, every cap** — `cv_vector_entries` without its guard `λ_k ≤ cap` on the
    wire-fencing entries (for `cap < λ_k` the entry is 0 = the number of frames in the empty region). -/
theorem cv_vector_entries_all (ops : List Int) (a : CvArgs) (ws : List Nat) (h : calcCvVector ops a = .ok ws) :
    ∃ pmax first last, maxOf ops = some pmax ∧ ops.head? = some first ∧ ops.getLast? = some last ∧
    (a.minus = true →
      ∃ bound, (a.lm1 = some bound ∨ (a.lm1 = none ∧ a.interfaces.head? = some bound)) ∧
        ws = [if bound ≤ pmax then 1 else 0]) ∧
    (a.minus = false →
      ws.length = max a.interfaces.length 1 ∧ ws.getLast? = some 0 ∧
      ∀ i0 ilast, a.interfaces.head? = some i0 → a.interfaces.getLast? = some ilast →
        ∀ k (hk : k + 1 < a.interfaces.length) (hw : k < ws.length),
          ∃ mv, a.moves[k + 1]? = some mv ∧
            (mv ≠ .wf → ws[k] = if a.interfaces[k] ≤ pmax then 1 else 0) ∧
            (mv = .wf → i0 ≤ a.cap.getD ilast ∧
              ws[k] = (if sidesDiffer (startPoint i0 (a.cap.getD ilast) first) (endPoint i0 (a.cap.getD ilast) last)
                       then 2 else 1) * specWeight a.interfaces[k] (a.cap.getD ilast) ops)) := by
  have hcv := h
  unfold calcCvVector at h
  cases hm : maxOf ops with
  | none => simp [hm] at h
  | some pmax =>
    have hne : ops ≠ [] := by intro e; simp [e, maxOf] at hm
    have hf : ops.head? = some (ops.head hne) := List.head?_eq_some_head hne
    have hl : ops.getLast? = some (ops.getLast hne) := List.getLast?_eq_some_getLast hne
    refine ⟨pmax, ops.head hne, ops.getLast hne, rfl, hf, hl, ?_, ?_⟩
    · intro hmin
      simp only [hm, hmin, if_true] at h
      cases hlm : a.lm1 with
      | some b => simp [hlm] at h; exact ⟨b, Or.inl rfl, h.symm⟩
      | none =>
        simp only [hlm] at h
        cases hh : a.interfaces.head? with
        | none => simp [hh] at h
        | some i0 => simp [hh] at h; exact ⟨i0, Or.inr ⟨rfl, rfl⟩, h.symm⟩
    · intro hmin
      simp only [hm, hmin, Bool.false_eq_true, if_false] at h
      cases hh : a.interfaces.head? with
      | none =>
        have he : a.interfaces = [] := by simpa using hh
        simp [he] at h
        subst h
        simp [he]
      | some i0 =>
        have hne' : a.interfaces ≠ [] := List.ne_nil_of_mem (List.mem_of_mem_head? hh)
        have hpos : 0 < a.interfaces.length := List.length_pos_iff.mpr hne'
        obtain ⟨pmax', hm', hlen, hlast0, hent⟩ :=
          calcCvVector_plus_inv hcv hmin hh (List.getLast?_eq_some_getLast hne')
        cases hm.symm.trans hm'
        refine ⟨by omega, hlast0, ?_⟩
        intro i0' ilast' h0' hlast' k hk hw
        cases h0'
        cases (List.getLast?_eq_some_getLast hne').symm.trans hlast'
        obtain ⟨mv, hmv, hval⟩ := hent k hk hw
        refine ⟨mv, hmv, ?_, ?_⟩
        · intro hnw
          rw [if_neg hnw] at hval
          exact (Except.ok.inj hval).symm
        · intro hwf
          rw [if_pos hwf] at hval
          have h02 : i0 ≤ a.cap.getD (a.interfaces.getLast hne') := by
            by_contra hcon
            unfold computeWeightM at hval
            simp [hcon] at hval
          rw [computeWeightM_wf_spec_all ops i0 _ _ _ _ h02 hf hl] at hval
          exact ⟨h02, (Except.ok.inj hval).symm⟩

/-- **The weight vector, every ensemble kind in one statement.**  `calc_cv_vector` returns
    * for a [0-] path (`minus`): `(1,)` iff the path's maximum reaches λ₋₁ when one is given (0.0 included), else λ₀;
    * otherwise one entry per interface, the last one 0; entry `k` is, for a shooting move, 1/0 by crossing
      (`λ_k ≤ max`), and for a wire-fencing move (`moves[k+1] = "wf"`, `λ_k ≤ cap`) the number of frames on valid
      sub-paths of `[λ_k, cap)` — `cap` = the configured cap, else the last interface — doubled iff the path starts
      and ends on different sides of `(λ₀, cap)`. -/
theorem cv_vector_entries (ops : List Int) (a : CvArgs) (ws : List Nat) (h : calcCvVector ops a = .ok ws) :
    ∃ pmax first last, maxOf ops = some pmax ∧ ops.head? = some first ∧ ops.getLast? = some last ∧
    (a.minus = true →
      ∃ bound, (a.lm1 = some bound ∨ (a.lm1 = none ∧ a.interfaces.head? = some bound)) ∧
        ws = [if bound ≤ pmax then 1 else 0]) ∧
    (a.minus = false →
      ws.length = max a.interfaces.length 1 ∧ ws.getLast? = some 0 ∧
      ∀ i0 ilast, a.interfaces.head? = some i0 → a.interfaces.getLast? = some ilast →
        ∀ k (hk : k + 1 < a.interfaces.length) (hw : k < ws.length),
          ∃ mv, a.moves[k + 1]? = some mv ∧
            (mv ≠ .wf → ws[k] = if a.interfaces[k] ≤ pmax then 1 else 0) ∧
            (mv = .wf → a.interfaces[k] ≤ a.cap.getD ilast → i0 ≤ a.cap.getD ilast ∧
              ws[k] = (if sidesDiffer (startPoint i0 (a.cap.getD ilast) first) (endPoint i0 (a.cap.getD ilast) last)
                       then 2 else 1) * specWeight a.interfaces[k] (a.cap.getD ilast) ops)) := by
  obtain ⟨pmax, first, last, hm, hf, hl, hminus, hplus⟩ := cv_vector_entries_all ops a ws h
  refine ⟨pmax, first, last, hm, hf, hl, hminus, fun hmin => ?_⟩
  obtain ⟨hlen, hlast, hent⟩ := hplus hmin
  refine ⟨hlen, hlast, fun i0 ilast h0 hlst k hk hw => ?_⟩
  obtain ⟨mv, hmv, hsh, hwf⟩ := hent i0 ilast h0 hlst k hk hw
  exact ⟨mv, hmv, hsh, fun hmvwf _ => hwf hmvwf⟩

example : calcCvVector [-1, 1, 3, 5, 3, -1]
    { interfaces := [0, 2, 4, 6], moves := [.sh, .sh, .wf, .sh], lm1 := none, cap := some 5, minus := false } =
    .ok [1, 2, 1, 0] := by decide +kernel
example : calcCvVector [1, -3, 1] { interfaces := [0, 2], moves := [], lm1 := some (-2), cap := none, minus := true }
    = .ok [1] ∧ calcCvVector [1] { interfaces := [], moves := [], lm1 := none, cap := none, minus := false } = .ok [0] := by
  decide +kernel

/-! ### high_acc_swap -/

/-- **The swap is decided by the ratio of these weights.**  With `c1o, c2o, c1n, c2n` the four `compute_weight`
    values (old: each path in its own ensemble; new: exchanged), `p = 1` if an old weight is 0, else
    `c1n·c2n / (c1o·c2o)`, and the swap is accepted iff `ξ < p`; for positive old weights that is
    `ξ·c1o·c2o < c1n·c2n`. -/
theorem highAccSwap_decision (pa pb : List Int) (a0 a1 a2 b0 b1 b2 : Int) (m0 m1 : Move) (xi : Rat) (o : SwapOut)
    (h : highAccSwap pa pb a0 a1 a2 b0 b1 b2 m0 m1 xi = .ok o) :
    ∃ c1o c2o c1n c2n,
      computeWeightM pa a0 a1 a2 m0 = .ok c1o ∧ computeWeightM pb b0 b1 b2 m1 = .ok c2o ∧
      computeWeightM pb a0 a1 a2 m0 = .ok c1n ∧ computeWeightM pa b0 b1 b2 m1 = .ok c2n ∧
      o.ratio = (if c1o = 0 ∨ c2o = 0 then 1 else ((c1n * c2n : Nat) : Rat) / ((c1o * c2o : Nat) : Rat)) ∧
      (o.accept = true ↔ xi < o.ratio) ∧
      (0 < c1o → 0 < c2o → (o.accept = true ↔ xi * ((c1o * c2o : Nat) : Rat) < ((c1n * c2n : Nat) : Rat))) := by
  unfold highAccSwap at h
  cases h1 : computeWeightM pa a0 a1 a2 m0 with
  | error e => simp [h1] at h
  | ok c1o =>
  cases h2 : computeWeightM pb b0 b1 b2 m1 with
  | error e => simp [h1, h2] at h
  | ok c2o =>
  cases h3 : computeWeightM pb a0 a1 a2 m0 with
  | error e => simp [h1, h2, h3] at h
  | ok c1n =>
  cases h4 : computeWeightM pa b0 b1 b2 m1 with
  | error e => simp [h1, h2, h3, h4] at h
  | ok c2n =>
    simp only [h1, h2, h3, h4] at h
    injection h with h
    subst h
    refine ⟨c1o, c2o, c1n, c2n, rfl, rfl, rfl, rfl, rfl, by simp, ?_⟩
    intro p1 p2
    have hne : ¬ (c1o = 0 ∨ c2o = 0) := by omega
    have hpos : (0 : Rat) < ((c1o * c2o : Nat) : Rat) := by
      exact_mod_cast Nat.mul_pos p1 p2
    simp only [hne, if_false, decide_eq_true_eq]
    rw [lt_div_iff₀ hpos]

/-- **Exchanging old and new inverts the ratio** (the reverse swap has the reciprocal ratio, which is what makes
    `min(1, p)` acceptance satisfy detailed balance), whenever all four weights are positive. -/
theorem highAccSwap_ratio_exchange (pa pb : List Int) (a0 a1 a2 b0 b1 b2 : Int) (m0 m1 : Move) (xi xi' : Rat)
    (o o' : SwapOut) (c1o c2o c1n c2n : Nat)
    (h1 : computeWeightM pa a0 a1 a2 m0 = .ok c1o) (h2 : computeWeightM pb b0 b1 b2 m1 = .ok c2o)
    (h3 : computeWeightM pb a0 a1 a2 m0 = .ok c1n) (h4 : computeWeightM pa b0 b1 b2 m1 = .ok c2n)
    (p1 : 0 < c1o) (p2 : 0 < c2o) (p3 : 0 < c1n) (p4 : 0 < c2n)
    (h : highAccSwap pa pb a0 a1 a2 b0 b1 b2 m0 m1 xi = .ok o)
    (h' : highAccSwap pb pa a0 a1 a2 b0 b1 b2 m0 m1 xi' = .ok o') :
    o.ratio * o'.ratio = 1 := by
  unfold highAccSwap at h h'
  simp only [h1, h2, h3, h4] at h h'
  injection h with h
  injection h' with h'
  subst h h'
  have n1 : ¬ (c1o = 0 ∨ c2o = 0) := by omega
  have n2 : ¬ (c1n = 0 ∨ c2n = 0) := by omega
  simp only [n1, n2, if_false]
  have q1 : ((c1o * c2o : Nat) : Rat) ≠ 0 := by exact_mod_cast Nat.ne_of_gt (Nat.mul_pos p1 p2)
  have q2 : ((c1n * c2n : Nat) : Rat) ≠ 0 := by exact_mod_cast Nat.ne_of_gt (Nat.mul_pos p3 p4)
  field_simp

/-- **Without wire fencing the ratio is 1**: two shooting ensembles always accept (every ξ < 1). -/
theorem highAccSwap_no_wf (pa pb : List Int) (a0 a1 a2 b0 b1 b2 : Int) (xi : Rat) (hxi : xi < 1) (o : SwapOut)
    (h : highAccSwap pa pb a0 a1 a2 b0 b1 b2 .sh .sh xi = .ok o) : o.ratio = 1 ∧ o.accept = true := by
  have hsh : ∀ (p : List Int) (i0 i1 i2 : Int) (w : Nat), computeWeightM p i0 i1 i2 .sh = .ok w → w = 1 := by
    intro p i0 i1 i2 w hw
    unfold computeWeightM at hw
    simp at hw
    split at hw
    · split at hw <;> simp_all
    · simp at hw
  obtain ⟨c1o, c2o, c1n, c2n, e1, e2, e3, e4, hr, hacc, _⟩ := highAccSwap_decision _ _ _ _ _ _ _ _ _ _ _ _ h
  have := hsh _ _ _ _ _ e1; have := hsh _ _ _ _ _ e2; have := hsh _ _ _ _ _ e3; have := hsh _ _ _ _ _ e4
  subst_vars
  have hr1 : o.ratio = 1 := by rw [hr]; simp
  exact ⟨hr1, hacc.2 (by rw [hr1]; exact hxi)⟩

example : highAccSwap [-1, 1, 3, 5] [-1, 3, 3, -1] 0 0 4 0 2 4 .wf .wf (3 / 4) = .ok { accept := false, ratio := 1 / 2 } := by
  decide +kernel

/-! ### the call sites -/

/-- **A path gets the same weight vector whether it is loaded or generated.**  `REPEX_state.load_paths` and
    `run_md` (for a plus ensemble) hand `calc_cv_vector` the same interfaces, moves and cap; λ₋₁ plays no role for a
    plus path.  (Seeded change C10-r4-mut2 — `load_paths` without `cap=` — breaks exactly this.) -/
theorem load_and_run_md_agree (intfs : List Int) (moves : List Move) (lm1 lm1' cap : Option Int) (ens : Int)
    (he : 0 ≤ ens) (ops : List Int) :
    loadPathWeights intfs moves lm1 cap ops = runMdWeights intfs moves lm1' cap ens ops := by
  unfold loadPathWeights runMdWeights calcCvVector
  have : decide (ens < 0) = false := by simp; omega
  simp [this]

/-- the [0-] path is loaded with `(1,)` unconditionally; a generated [0-] path gets 1 iff it reaches λ₋₁ / λ₀ -/
theorem load_paths_minus_weight (intfs : List Int) (moves : List Move) (lm1 cap : Option Int) (p0 : List Int)
    (plus : List (List Int)) (wss : List (List Nat))
    (h : loadPathsWeights intfs moves lm1 cap (p0 :: plus) = .ok wss) :
    wss.head? = some [1] ∧ wss.length = plus.length + 1 := by
  simp only [loadPathsWeights] at h
  cases hws : loadPlus intfs moves lm1 cap plus with
  | error e => simp [hws] at h
  | ok ws =>
    simp only [hws] at h
    injection h with h
    subst h
    exact ⟨rfl, by simp [loadPlus_length hws]⟩

/-- **`subt_acceptance` weighs with the same cap**: for a wire-fencing ensemble `(λ₀, λ_k, λ_N)` the `weight` it
    assigns is entry `k` of the weight vector `load_paths` / `run_md` assign (both use `[λ_k, cap)`, `cap` = the
    configured one, else λ_N). -/
theorem subt_weight_is_vector_entry (intfs : List Int) (moves : List Move) (lm1 cap : Option Int) (ops : List Int)
    (ws : List Nat) (i0 ilast : Int) (k : Nat) (hk : k + 1 < intfs.length) (hw : k < ws.length)
    (h0 : intfs.head? = some i0) (hl : intfs.getLast? = some ilast) (hmv : moves[k + 1]? = some .wf)
    (h : loadPathWeights intfs moves lm1 cap ops = .ok ws) :
    subtWeight i0 intfs[k] ilast cap .wf ops = .ok ws[k] := by
  unfold loadPathWeights at h
  obtain ⟨_, _, _, _, hent⟩ := calcCvVector_plus_inv h rfl h0 hl
  obtain ⟨mv, hmv', hval⟩ := hent k hk hw
  cases hmv'.symm.trans hmv
  rw [if_pos rfl] at hval
  unfold subtWeight
  rw [if_pos rfl]
  exact hval

example : subtWeight 0 2 6 (some 5) .wf [-1, 1, 3, 5, 3, -1] = .ok 2 ∧
    loadPathWeights [0, 2, 4, 6] [.sh, .sh, .wf, .sh] none (some 5) [-1, 1, 3, 5, 3, -1] = .ok [1, 2, 1, 0] := by decide +kernel

end Infretis.C10
