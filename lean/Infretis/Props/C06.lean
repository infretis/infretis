import Infretis.Lemmas.RepexC06Stop
import Infretis.Lemmas.RepexC06MultiChain
import Infretis.Lemmas.RepexC06MultiEnd
import Infretis.Lemmas.RepexC06MultiChainU
import Infretis.Lemmas.RepexC06Now
import Infretis.Lemmas.RepexC06Graceful
import Infretis.Lemmas.RepexC05Dec
import Infretis.Lemmas.RepexC07Chain
/-
C06 — same seed, same run: determinism and restart equivalence (information-preservation argument on the
model; byte identity itself is established by the tie, harness/props/c06.py).

Determinism: `sysStep`/`run` are functions — two runs with the same seed and the same outcomes are equal by
construction; the content is what these functions may read, which is what `ObsR` lists.

`ObsR strict t0 ra rb a b` (Lemmas/RepexC06Obs): a and b agree on n, W, trajs, locks, locked, locked0, lockedOrd,
locked0Ord, workers, cstep, tsteps, trajNum, ensEng, seed, entropy, spawned, mainDraws, on frac and wts as finite
maps, with `strict` on occ and on toinitiate (= t0); both appended the same rows to their bases ra, rb.
By design NOT compared: cworker, restarted, rgenRestored, rows (they live in the data file).
-/
namespace Infretis.C06
open Infretis.Repex

/-- **1. `restore (persist s)` is observationally `s`** (full).  For a stop state `s` — `StopState s pns`: a one-worker
    state right after `treat_output`, `pns` its live paths in slot order; shapes, every real slot idle with a path whose
    padded stored weight vector is its W row with a non-zero diagonal entry (the sorted diagonal, C05) and a fraction
    entry, ghost slot empty/zero/locked, no table entries for dead paths, nothing in flight or on record, entropy = seed,
    spawn counter = steps done — `load_paths` on the image goes through (every assertion passes) and the rebuilt state
    `s'` agrees with `s` on n, W, slot order, locks, locked/locked0 and their ordinals (= []), workers, cstep, tsteps,
    trajNum, ensEng, seed, entropy, spawn counter, and on the fraction and weight tables as finite maps (`RestoreRel`).
    By design different: `toinitiate = workers` (a full initiation is due), `mainDraws = 0` until the first pick restores
    the saved position, fresh engine table, `restarted`, `rows = []` (the rows are in the data file). -/
theorem restore_persist_obs_eq {s : St} {pns : List Nat} (h : StopState s pns) (occ : List (List Int)) :
    ∃ s', restore (persist s) s.n s.workers s.tsteps occ s.ensEng (fun pn => (s.wts.lookup pn).getD []) = .ok s' ∧
      RestoreRel occ s s' :=
  restore_persist_full h occ

/-- the slot-free core of 1, which needs no `StopState`: the scalar part (counters, seed, entropy = seed, spawn
    counter = steps done, nothing locked, full initiation due, stream position to be restored at the first pick, fresh
    engine table, no rows) is derived from `blank`/`load_paths`; that the load goes through (`h`: it needs the sorted
    diagonal, C05) and reproduces the slot contents from the stored paths (`hslots`: W rows = padded `weightOf`, slot
    order, locks, fractions/weights as finite maps) are hypotheses here; 1 discharges both for a `StopState`.
    `exRestoreRel` below discharges `h` and `hslots` on a concrete reachable state by evaluation. -/
theorem restore_persist_obs_eq_partial {s s' : St} (occ : List (List Int)) (weightOf : Nat → List Rat)
    (h : restore (persist s) s.n s.workers s.tsteps occ s.ensEng weightOf = .ok s')
    (hslots : s'.W = s.W ∧ s'.trajs = s.trajs ∧ s'.locks = s.locks ∧ FEq s.frac s'.frac ∧ FEq s.wts s'.wts)
    (hlk : s.locked = []) (hl0 : s.locked0 = []) (hlo : s.lockedOrd = []) (hl0o : s.locked0Ord = [])
    (hent : s.entropy = s.seed) :
    RestoreRel occ s s' := by
  obtain ⟨hW, hT, hL, hF, hWt⟩ := hslots
  -- everything but the slot contents and the tables is as `__init__` builds it from the image
  obtain rfl := restore_ok h
  have hl0' : s.locked0 = (persist s).locked := by
    rw [hl0]
    show [] = s.locked.map _
    rw [hlk]
    rfl
  have hl0o' : s.locked0Ord = s.lockedOrd.map some := by
    rw [hl0o, hlo]
    rfl
  exact ⟨⟨rfl, hW.symm, hT.symm, hL.symm, hlk, hl0', hlo, hl0o', rfl, rfl, rfl, rfl, hF, hWt, rfl, rfl, hent,
    (persist_spawned s).symm, rfl, fun f => f.elim, fun f => f.elim, ⟨[], by simp, rfl⟩⟩, rfl, rfl, rfl, rfl⟩

/-- **2a. `prep_md_items` respects observational equality** once the initiation is closed (`toinitiate = -1`, which is
    the case from the first `loop()` on): same error, or observationally equal states and the *identical* job
    description (ensembles, path numbers, stream identities, engine slots) and draw requests. -/
theorem prep_respects_obs_eq {t0 : Int} {ra rb : List Repex.Row} {a b : St} (h : ObsR True t0 ra rb a b) (ht : t0 < 0)
    (prev : Option Nat) (o : PickOutcome) (sv : Nat) :
    RelE (fun x y => ObsR True t0 ra rb x.1 y.1 ∧ x.2 = y.2) (prep a prev o sv) (prep b prev o sv) :=
  prep_closed_rel h ht prev o sv

/-- **2. one scheduler step respects observational equality**: for observationally equal samplers with the same jobs in
    flight (initiation closed), the same `.step` event (same completing job, status, new weights, pick outcome) gives the
    same error on both sides, or observationally equal samplers, the same jobs in flight, and the same rows appended to
    the data file (`ObsR.rows`). -/
theorem step_respects_obs_eq {t0 : Int} {ra rb : List Repex.Row} {x y : Sys}
    (h : ObsR True t0 ra rb x.s y.s) (hj : x.jobs = y.jobs) (ht : t0 < 0)
    (k : Nat) (status : Status) (newW : List (List Rat)) (o : PickOutcome) :
    RelE (fun x' y' => ObsR True t0 ra rb x'.s y'.s ∧ x'.jobs = y'.jobs)
      (sysStep x (.step k status newW o)) (sysStep y (.step k status newW o)) :=
  sysStep_step_rel ⟨h, hj⟩ ht k status newW o

/-- the same for a whole run of `.step` events -/
theorem run_respects_obs_eq {t0 : Int} {ra rb : List Repex.Row} {x y : Sys} (evs : List Ev) (hs : StepsOnly evs)
    (h : ObsR True t0 ra rb x.s y.s) (hj : x.jobs = y.jobs) (ht : t0 < 0) :
    RelE (fun x' y' => ObsR True t0 ra rb x'.s y'.s ∧ x'.jobs = y'.jobs) (run x evs) (run y evs) :=
  run_steps_rel evs hs ⟨h, hj⟩ ht

/-- **3. restart equivalence, one worker, every split point.**  Let the uninterrupted run be at any scheduler state `y`
    and let it execute `.step k st w o` followed by any `.step` events `rest` (result `yN`).  Split that first step
    where the restart file is written: `stepTreat` (loop + treat_output) leaves `r.1` with steps to go.  If `s'` is the
    state rebuilt from that file (`RestoreRel`, which `restore_persist_obs_eq_partial` provides), then running what the
    scheduler does after a restart — `.start o` with the saved stream position, the closing `.initDone`, then the same
    `rest` — succeeds and ends observationally equal to `yN`: same W, slots, locks, counters, stream position
    (`mainDraws`), spawn ordinal, fractions, the same jobs in flight (hence the same (ensemble, path, stream identity)
    was issued at every step), and the rows appended after the stop are the same (`yN.s.rows = r.1.rows ++ rws`,
    `yN'.s.rows = rws`).  Hypotheses besides `RestoreRel`: one worker, initiation closed, nothing recorded, the
    completed job ran on pin 0, the engine table of the stopped run frees to the fresh one. -/
theorem restart_equivalence_one_worker {occ : List (List Int)} {y : Sys} {s' : St} (k : Nat) (st : Status)
    (w : List (List Rat)) (o : PickOutcome) (rest : List Ev) (r : St × Job × List Job)
    (hT : stepTreat y k st w = .ok r) (hR : RestoreRel occ r.1 s') (hw : r.1.workers = 1)
    (hti : r.1.toinitiate = -1) (hpin : r.2.1.pin = 0) (hl0 : r.1.locked0 = [])
    (hlt : r.1.cstep < r.1.tsteps) (hocc : freeEngines r.1.occ 0 = freeEngines occ 0)
    (hsteps : StepsOnly rest) {yN : Sys} (hrun : run y (.step k st w o :: rest) = .ok yN) :
    ∃ yN', run { s := s', jobs := r.2.2 } (.start o r.1.mainDraws :: .initDone :: rest) = .ok yN' ∧
      ObsR True (-1) r.1.rows [] yN.s yN'.s ∧ yN.jobs = yN'.jobs ∧
      ∃ rws, yN.s.rows = r.1.rows ++ rws ∧ yN'.s.rows = rws := by
  obtain ⟨yN', h1, h2, h3⟩ := restart_run k st w o rest r hT hR hw hti hpin hl0 hlt hocc hsteps hrun
  exact ⟨yN', h1, h2, h3, h2.rows_nil⟩

/-- **3'. restart equivalence from the files alone**: 3 with `RestoreRel` discharged by 1 — the state left by
    `treat_output` is a stop state, the image is `persist` of it, the restart rebuilds from the image. -/
theorem restart_equivalence_from_image {occ : List (List Int)} {y : Sys} {pns : List Nat} (k : Nat) (st : Status)
    (w : List (List Rat)) (o : PickOutcome) (rest : List Ev) (r : St × Job × List Job)
    (hT : stepTreat y k st w = .ok r) (hS : StopState r.1 pns) (hw : r.1.workers = 1)
    (hti : r.1.toinitiate = -1) (hpin : r.2.1.pin = 0)
    (hlt : r.1.cstep < r.1.tsteps) (hocc : freeEngines r.1.occ 0 = freeEngines occ 0)
    (hsteps : StepsOnly rest) {yN : Sys} (hrun : run y (.step k st w o :: rest) = .ok yN) :
    ∃ s' yN', restore (persist r.1) r.1.n r.1.workers r.1.tsteps occ r.1.ensEng
        (fun pn => (r.1.wts.lookup pn).getD []) = .ok s' ∧
      run { s := s', jobs := r.2.2 } (.start o (persist r.1).rngDraws :: .initDone :: rest) = .ok yN' ∧
      ObsR True (-1) r.1.rows [] yN.s yN'.s ∧ yN.jobs = yN'.jobs ∧
      ∃ rws, yN.s.rows = r.1.rows ++ rws ∧ yN'.s.rows = rws := by
  obtain ⟨s', h1, hR⟩ := restore_persist_full hS occ
  obtain ⟨yN', h2, h3, h4, h5⟩ :=
    restart_equivalence_one_worker k st w o rest r hT hR hw hti hpin hS.locked0 hlt hocc hsteps hrun
  exact ⟨s', yN', h1, h2, h3, h4, h5⟩

/-- the heart of 3 in isolation: the job issued right after the restart equals the one the uninterrupted run issues
    after `treat_output` — same `PickOutcome` consumed at the same stream position with the same spawn ordinal. -/
theorem restart_first_job_same {occ : List (List Int)} {s2 s' : St} (job : Job) (rest : List Job) (o : PickOutcome)
    (hR : RestoreRel occ s2 s') (hw : s2.workers = 1) (hti : s2.toinitiate = -1) (hpin : job.pin = 0)
    (hl0 : s2.locked0 = []) (hlt : s2.cstep < s2.tsteps) (hocc : freeEngines s2.occ 0 = freeEngines occ 0)
    {yU : Sys} (hU : stepPrep (s2, job, rest) o = .ok yU) :
    ∃ y1 yR, sysStep { s := s', jobs := rest } (.start o s2.mainDraws) = .ok y1 ∧ sysStep y1 .initDone = .ok yR ∧
      yU.jobs = yR.jobs ∧ yU.s.mainDraws = yR.s.mainDraws ∧ yU.s.spawned = yR.s.spawned ∧
      yU.s.entropy = yR.s.entropy := by
  obtain ⟨y1, yR, h1, h2, h3, h4⟩ := restart_step job rest o hR hw hti hpin hl0 hlt hocc hU
  exact ⟨y1, yR, h1, h2, h4, h3.mainDraws, h3.spawned, h3.entropy⟩

/-- **4. `reissue_exact`, any number of workers.**  From a state with recorded in-flight jobs `recs` = ((slots = ensemble
    + 1, paths), ordinal of the job's child stream) — after a restart `locked0`/`locked0Ord` are exactly what the stop
    recorded — the first `|recs|` iterations of the initiation loop that run
      * hand out exactly the recorded (ensemble, path) pairs, job by job and in recorded order,
      * **with exactly the streams of the recorded ordinals**: entry `j` of the job with ordinal `ord` gets the move
        stream `SeedSequence(entropy, (ord, j))` and the engine stream `SeedSequence(entropy, (ord, j, 0))`
        (`recJobFull`; `entropy` = the seed in every restored state, see `reissue_exact_seed`) — the very streams
        the job had before the stop, so a multi-worker restart re-runs the same jobs with the same random numbers,
      * leave the spawn counter untouched (jobs issued = completed + in flight stays true),
      * consume the record, and put every job on record again (`locked`) **with the same ordinal** (`lockedOrd`),
      * leave every such slot locked with its path (`Held`).
    (Paths pairwise distinct, as C03 proves for recorded jobs.)  How many iterations run is `initiate_bound`. -/
theorem reissue_exact (recs : List ((List Nat × List Nat) × Nat)) (starts : List (PickOutcome × Nat)) (y y' : Sys)
    (rest : List (List Nat × List Nat)) (ordRest : List (Option Nat)) (H : List (Nat × Nat))
    (hlen : starts.length = recs.length) (hl0 : y.s.locked0 = recs.map (·.1) ++ rest)
    (hl0o : y.s.locked0Ord = recs.map (fun r => some r.2) ++ ordRest)
    (hshape : y.s.trajs.length = y.s.locks.length) (hH : Held y.s H)
    (hnd : ((H ++ recs.flatMap (fun r => recPairs r.1)).map (·.2)).Nodup)
    (hrun : run y (starts.map (fun x => Ev.start x.1 x.2)) = .ok y') :
    ∃ jobs, y'.jobs = y.jobs ++ jobs ∧
      jobs.map (fun j => j.picked.map pkFull) = recs.map (fun r => recJobFull y.s.entropy r.2 r.1) ∧
      y'.s.locked0 = rest ∧ y'.s.locked0Ord = ordRest ∧
      y'.s.locked = y.s.locked ++ recs.map (fun r => recEntry r.1) ∧
      y'.s.lockedOrd = y.s.lockedOrd ++ recs.map (·.2) ∧
      y'.s.spawned = y.s.spawned ∧ y'.s.entropy = y.s.entropy ∧
      Held y'.s (H ++ recs.flatMap (fun r => recPairs r.1)) := by
  obtain ⟨jobs, s1, _, _, _, k1, k2, kR, kS, _⟩ := reissue_phase recs starts hlen hl0 hl0o hrun
  have hk := congrArg (List.map Prod.fst) k2
  simp only [List.map_map, Function.comp_def] at hk
  refine ⟨jobs, k1, hk, ?_⟩
  rw [kS]
  exact ⟨rfl, rfl, rfl, rfl, rfl, rfl, kR.held hshape hH hnd⟩

/-- the ensemble/path part and the stream part of `reissue_exact` spelled out for a state whose entropy is the seed
    (every restored state: `blank` sets `entropy := seed`): job `i`, entry `j` is
    (ensemble = slot − 1, recorded path, rgen = ⟨seed, [ord_i, j]⟩, rgenEng = ⟨seed, [ord_i, j, 0]⟩). -/
theorem reissue_exact_seed (recs : List ((List Nat × List Nat) × Nat)) (starts : List (PickOutcome × Nat)) (y y' : Sys)
    (rest : List (List Nat × List Nat)) (ordRest : List (Option Nat)) (H : List (Nat × Nat))
    (hseed : y.s.entropy = y.s.seed)
    (hlen : starts.length = recs.length) (hl0 : y.s.locked0 = recs.map (·.1) ++ rest)
    (hl0o : y.s.locked0Ord = recs.map (fun r => some r.2) ++ ordRest)
    (hshape : y.s.trajs.length = y.s.locks.length) (hH : Held y.s H)
    (hnd : ((H ++ recs.flatMap (fun r => recPairs r.1)).map (·.2)).Nodup)
    (hrun : run y (starts.map (fun x => Ev.start x.1 x.2)) = .ok y') :
    ∃ jobs, y'.jobs = y.jobs ++ jobs ∧
      jobs.map (fun j => j.picked.map (fun p => (p.ens, p.pn, p.rgen, p.rgenEng))) =
        recs.map (fun r => ((r.1.1.zip r.1.2).zipIdx).map (fun xi =>
          ((xi.1.1 : Int) - 1, xi.1.2, ({ entropy := y.s.seed, key := [r.2, xi.2] } : Stream),
           ({ entropy := y.s.seed, key := [r.2, xi.2, 0] } : Stream)))) := by
  obtain ⟨jobs, h1, h2, _⟩ := reissue_exact recs starts y y' rest ordRest H hlen hl0 hl0o hshape hH hnd hrun
  refine ⟨jobs, h1, ?_⟩
  rw [hseed] at h2
  exact h2

/-- the initiation loop runs an iteration only while a worker slot and a step are left, and uses one slot up: at most
    `min(workers, tsteps − cstep)` jobs are started (re-issued) after a restart (`initiate` as of commit 2596063 of the repository). -/
theorem initiate_bound {s : St} (h : (initiate s).2 = true) :
    0 < s.toinitiate ∧ (s.cstep : Int) + ((s.workers : Int) - s.toinitiate) < (s.tsteps : Int) ∧
      (initiate s).1.toinitiate = s.toinitiate - 1 := by
  obtain ⟨_, h1, h2, h3⟩ := initiate_go h
  exact ⟨h1, h2, by rw [h3]⟩

/-- **4b. a second restart records them again, with the same ordinals**: the restart image written after the re-issues
    lists the re-issued jobs again (after whatever was on record before) together with their ordinals, and — the spawn
    counter being untouched — `set_rgen`'s `cstep + |locked|` still counts the jobs issued. -/
theorem reissue_survives_second_restart (recs : List ((List Nat × List Nat) × Nat)) (starts : List (PickOutcome × Nat))
    (y y' : Sys) (rest : List (List Nat × List Nat)) (ordRest : List (Option Nat)) (H : List (Nat × Nat))
    (hlen : starts.length = recs.length) (hl0 : y.s.locked0 = recs.map (·.1) ++ rest)
    (hl0o : y.s.locked0Ord = recs.map (fun r => some r.2) ++ ordRest)
    (hshape : y.s.trajs.length = y.s.locks.length) (hH : Held y.s H)
    (hnd : ((H ++ recs.flatMap (fun r => recPairs r.1)).map (·.2)).Nodup)
    (hrun : run y (starts.map (fun x => Ev.start x.1 x.2)) = .ok y') :
    (persist y'.s).locked = (persist y.s).locked ++ recs.map (·.1) ∧
      (persist y'.s).lockedOrd = (persist y.s).lockedOrd ++ recs.map (·.2) ∧
      y'.s.spawned = y.s.spawned := by
  obtain ⟨jobs, _, _, _, _, h4, h4o, h5, _⟩ :=
    reissue_exact recs starts y y' rest ordRest H hlen hl0 hl0o hshape hH hnd hrun
  refine ⟨?_, ?_, h5⟩
  · simp only [persist, h4, List.map_append]
    congr 1
    have := persist_locked_recEntry (recs.map (·.1))
    simpa [List.map_map] using this
  · simp only [persist, h4o]

/-- **5. `StopState` is derived, not assumed**: for every state `y` reached by a well-formed one-worker history
    (`Reach1`: C03 `InvR`, C05 `Inv5`, C07 `NInv`, this package's `TidyY`/`One`/`Ent`, all of them preserved by every
    event from a one-worker start state `Start1`) with the initiation closed, the state `treat_output` leaves behind at a
    `.step` — the instant the restart file is written — is a stop state: C03 gives shapes, idle slots, distinct live
    paths; C05 the weight table = slot rows and the sorted non-zero diagonal; C07 an empty record and spawn counter =
    steps done; `TidyY` the empty/zero ghost slot and tables keyed exactly by the live paths. -/
theorem stopState_of_reachable {y0 y y' : Sys} (h0 : Start1 y0) (evs : List Ev) (hh : HistOk y0 evs)
    (hy : run y0 evs = .ok y) (hti : y.s.toinitiate = -1)
    (k : Nat) (st : Status) (w : List (List Rat)) (o : PickOutcome) (hev : EvOk y (.step k st w o))
    (h : sysStep y (.step k st w o) = .ok y') {r : St × Job × List Job} (hT : stepTreat y k st w = .ok r) :
    StopState r.1 (livePns r.1) :=
  (stopState_of_reach (run_reach1 evs h0.reach hh hy) hti k st w o hev hT).1

/-- **6. restart equivalence for every one-worker history and every split point — no state hypothesis left.**
    `y0` any one-worker start state (`Start1`: a fresh start `Init5`, or a state rebuilt from an image `Init5R`, tidy
    tables, nothing recorded, entropy = seed, spawn counter = cstep); the history is what the scheduler does: `.start`,
    `.initDone`, then `.step` events, well formed in C05's sense (`HistOk`: accepted moves bring weight vectors of the
    family); the split is at any `.step` that is not the last.  Then the stopped state is a stop state, its image loads
    (the restart's engine table being the stopped one with worker 0's claims released), and the restarted run —
    `.start` with the saved stream position, `.initDone`, the remaining steps — ends observationally equal to the
    uninterrupted one: same W, slots, locks, counters, stream position, spawn ordinal, tables; same jobs in flight;
    the rows appended after the stop are the same. -/
theorem restart_equivalence_reachable {y0 yN : Sys} (h0 : Start1 y0) (o0 : PickOutcome) (sv0 : Nat)
    (steps1 : List Ev) (k : Nat) (st : Status) (w : List (List Rat)) (o : PickOutcome) (rest : List Ev)
    (hs1 : StepsOnly steps1) (hs2 : StepsOnly rest) (hne : rest ≠ [])
    (hh : HistOk y0 ((.start o0 sv0 :: .initDone :: steps1) ++ (.step k st w o :: rest)))
    (hrun : run y0 ((.start o0 sv0 :: .initDone :: steps1) ++ (.step k st w o :: rest)) = .ok yN) :
    ∃ y r s' yN', run y0 (.start o0 sv0 :: .initDone :: steps1) = .ok y ∧ stepTreat y k st w = .ok r ∧
      StopState r.1 (livePns r.1) ∧
      restore (persist r.1) r.1.n r.1.workers r.1.tsteps (freeEngines r.1.occ 0) r.1.ensEng
        (fun pn => (r.1.wts.lookup pn).getD []) = .ok s' ∧
      run { s := s', jobs := [] } (.start o (persist r.1).rngDraws :: .initDone :: rest) = .ok yN' ∧
      ObsR True (-1) r.1.rows [] yN.s yN'.s ∧ yN.jobs = yN'.jobs ∧
      ∃ rws, yN.s.rows = r.1.rows ++ rws ∧ yN'.s.rows = rws := by
  obtain ⟨y, r, s', yN', a1, a2, a3, _, _, _, _, _, a4, _, _, a5, a6, a7, a8⟩ :=
    restart_reachable h0 o0 sv0 steps1 k st w o rest hs1 hs2 hne hh hrun
  exact ⟨y, r, s', yN', a1, a2, a3, a4, a5, a6, a7, a8⟩

/-- the induction step of 7: the state rebuilt from the image of a stop state is again a one-worker start state -/
theorem restart_closed_one_worker {s s' : St} {pns : List Nat} {occ : List (List Int)}
    (hS : StopState s pns) (hc : CoreR s [] s.trajNum) (hf : Fam s s.trajNum) (ht : Tidy s) (hw : s.workers = 1)
    (hres : restore (persist s) s.n s.workers s.tsteps occ s.ensEng (fun pn => (s.wts.lookup pn).getD []) = .ok s')
    (hR : RestoreRel occ s s') : Start1 { s := s', jobs := [] } := by
  have o := hR.obs
  have en : s.n = s'.n := o.n
  have eW : s.W = s'.W := o.W
  have eT : s.trajs = s'.trajs := o.trajs
  have el0 : s.locked0 = s'.locked0 := o.locked0
  have elk : s.locked = s'.locked := o.locked
  have elo : s.lockedOrd = s'.lockedOrd := o.lockedOrd
  have el0o : s.locked0Ord = s'.locked0Ord := o.locked0Ord
  have ewk : s.workers = s'.workers := o.workers
  have ecs : s.cstep = s'.cstep := o.cstep
  have esd : s.seed = s'.seed := o.seed
  have een : s.entropy = s'.entropy := o.entropy
  have esp : s.spawned = s'.spawned := o.spawned
  have hinitR : InitR { s := s', jobs := [] } :=
    restore_initR (jobs := []) hc (fun _ hj => nomatch hj) (by rw [hS.locked]; exact .refl _) hres
  have h5 : Init5R { s := s', jobs := [] } := restore_init5R hc hf s.workers s.tsteps occ s.ensEng hres hinitR
  have hsame : s'.frac.map Prod.fst = s'.wts.map Prod.fst := by
    obtain ⟨hfk, hwk⟩ := restoredSt_keys s s.workers s.tsteps occ s.ensEng (fun pn => (s.wts.lookup pn).getD [])
    rw [((restore_persist_ok_iff hc.allLive).mp hres).2, hfk, hwk]
  have htidy : Tidy s' := by
    refine ⟨by rw [← eT]; exact ht.hasNone, by rw [← en, ← eW]; exact ht.hasZero, hsame, ?_⟩
    intro q
    rw [← Assoc.lookup_isSome_iff, ← eT, ← ht.keysLive q, ← Assoc.lookup_isSome_iff, o.wts q]
  exact ⟨Or.inr h5, htidy, by rw [← ewk]; exact hw, by rw [← elk]; exact hS.locked, by rw [← elo]; exact hS.lockedOrd,
    ⟨by rw [← een, ← esd]; exact hS.entropy, by rw [← el0]; exact hS.locked0, by rw [← el0o]; exact hS.locked0Ord⟩,
    by rw [← esp, ← ecs]; exact hS.spawned⟩

/-- **7. any chain of restarts.**  `Restarts y0 evs yN'`: the history `evs` executed from `y0` with any number of
    restarts (each right after the `treat_output` of a `.step` that is not the last one of what remains; each rebuilt
    state again a start state: `restart_closed_one_worker`).  If `evs` also runs uninterrupted from the one-worker start state
    `y0` to `yN`, then `yN` and `yN'` are observationally equal, hold the same jobs, and the rows `yN'` appended since its
    last restart are a suffix of the rows of `yN`. -/
theorem restart_chain_equivalence {y0 yN yN' : Sys} {evs : List Ev} (hres : Restarts y0 evs yN')
    (h0 : Start1 y0) (hh : HistOk y0 evs) (hrun : run y0 evs = .ok yN) :
    ∃ t ra rb, ObsR True t ra rb yN.s yN'.s ∧ yN.jobs = yN'.jobs ∧ ∃ pre, yN.s.rows = pre ++ yN'.s.rows := by
  induction hres generalizing yN with
  | direct hrun' =>
    rw [hrun'] at hrun
    simp only [Except.ok.injEq] at hrun
    subst hrun
    exact ⟨_, _, _, ObsR.refl _, rfl, [], by simp⟩
  | @restart y0 y yN' o0 sv0 steps1 k st w o rest r s' hs1 hs2 hne hy hT hrestore _ ih =>
    obtain ⟨y2, r2, s2', yN1, hy2, hT2, hS, hlt, hc, hf, htd, hw1, hres2, hR, hhR, hrun1, hobs, hjobs, rws, hra, hrb⟩ :=
      restart_reachable h0 o0 sv0 steps1 k st w o rest hs1 hs2 hne hh hrun
    -- the same intermediate objects (everything is a function)
    rw [hy] at hy2
    cases hy2
    rw [hT] at hT2
    cases hT2
    rw [hrestore] at hres2
    cases hres2
    have hst : Start1 { s := s', jobs := [] } := restart_closed_one_worker hS hc hf htd hw1 hrestore hR
    obtain ⟨t, rb1, rc, hobs2, hjobs2, pre2, hpre2⟩ := ih hst hhR hrun1
    refine ⟨-1, _, rc, hobs.comp hobs2, hjobs.trans hjobs2, r.1.rows ++ pre2, ?_⟩
    rw [hra, ← hrb, hpre2, List.append_assoc]

/-- **8. the spawn counter round-trips through the restart file, for EVERY state** (no hypothesis on `locked` or
    `spawned`): `write_toml` stores `current.spawned` exactly when the counter is not `cstep + len(locked)` — after a
    restart that could not re-issue every recorded job — and `set_rgen` takes the key when present and the formula
    otherwise; so no job picked after a restart gets the stream ordinal of an earlier job. -/
theorem restore_spawned_roundtrip {s s' : St} {n workers tsteps : Nat} {occ : List (List Int)} {ensEng : List (List Nat)}
    {weightOf : Nat → List Rat} (h : restore (persist s) n workers tsteps occ ensEng weightOf = .ok s') :
    s'.spawned = s.spawned := by
  rw [restore_ok h]
  exact persist_spawned s

/-! ### non-vacuity on concrete small systems -/

/-- 3 ensembles + ghost, 2 workers, restarted at cstep 4 of 9 with two recorded jobs -/
def exRestored : St :=
  { n := 4,
    W := [[1, 0, 0, 0], [0, 1, 1, 0], [0, 1, 0, 0], [0, 0, 0, 0]],
    trajs := [some 0, some 5, some 3, none], locks := [false, false, false, true],
    locked := [], locked0 := [([2], [5]), ([1], [3])], locked0Ord := [some 3, some 5],
    toinitiate := 2, workers := 2, cworker := 0,
    cstep := 4, tsteps := 9, trajNum := 6,
    frac := [(5, [0, 0, 0, 0]), (3, [0, 0, 0, 0]), (0, [0, 0, 0, 0])],
    wts := [(5, [1, 1, 0]), (3, [1, 0, 0]), (0, [1])], rows := [], occ := [[-1, -1]],
    ensEng := [[0], [0], [0]], seed := 7, entropy := 7, spawned := 6, mainDraws := 0, restarted := true }

def exStarts : List (PickOutcome × Nat) := [({ t := 0, e := 0 }, 3), ({ t := 0, e := 0 }, 3)]

/-- the two initiation iterations run and re-issue (ens 1, path 5) then (ens 0, path 3); both are on record again -/
example : (match run { s := exRestored, jobs := [] } (exStarts.map (fun x => Ev.start x.1 x.2)) with
    | .ok y' => decide (
        y'.jobs.map (fun j => j.picked.map (fun p => (p.ens, p.pn))) = [[(1, 5)], [(0, 3)]] ∧
        y'.s.locked = [([1], [5]), ([0], [3])] ∧ (persist y'.s).locked = [([2], [5]), ([1], [3])] ∧
        (persist y'.s).lockedOrd = [3, 5] ∧ y'.s.spawned = 6 ∧
        y'.jobs.map (fun j => j.picked.map (fun p => (p.rgen, p.rgenEng))) =
          [[(⟨7, [3, 0]⟩, ⟨7, [3, 0, 0]⟩)], [(⟨7, [5, 0]⟩, ⟨7, [5, 0, 0]⟩)]] ∧
        y'.s.trajs = [some 0, some 3, some 5, none] ∧ y'.s.locks = [false, true, true, true])
    | .error _ => false) = true := by
  decide +kernel

def exRecs : List ((List Nat × List Nat) × Nat) := [(([2], [5]), 3), (([1], [3]), 5)]

/-- the hypotheses of `reissue_exact` hold for it -/
example : exStarts.length = exRecs.length ∧ exRestored.locked0 = exRecs.map (·.1) ++ [] ∧
    exRestored.locked0Ord = exRecs.map (fun r => some r.2) ++ [] ∧ exRestored.entropy = exRestored.seed ∧
    exRestored.trajs.length = exRestored.locks.length ∧
    Held exRestored [] ∧ ((([] : List (Nat × Nat)) ++ exRecs.flatMap (fun r => recPairs r.1)).map (·.2)).Nodup :=
  ⟨rfl, rfl, rfl, rfl, rfl, fun _ h => absurd h (by simp), by decide⟩


/-! a fresh one-worker system with [0-], [0+] (+ ghost), seed 5, 6 steps: started, two steps done, split at the third -/

def exFresh : St :=
  match loadPaths (blank 3 1 6 0 2 5 [[-1]] [[0], [0]] false []) [(0, [1], [0, 0, 0]), (1, [1, 0], [0, 0, 0])] with
  | .ok s => s
  | .error _ => exRestored

def exW : List (List Rat) := [[1, 0]]

def exY : Sys :=
  match run { s := exFresh, jobs := [] }
      [.start { t := 1, e := 1 }, .initDone, .step 0 .acc exW { t := 0, e := 0 }, .step 0 .rej [] { t := 1, e := 1 }] with
  | .ok y => y
  | .error _ => { s := exRestored, jobs := [] }

def exR : St × Job × List Job :=
  match stepTreat exY 0 .acc exW with
  | .ok r => r
  | .error _ => (exRestored, { pin := 0, wfolder := 0, picked := [], pnumOld := [] }, [])

def exWeightOf (pn : Nat) : List Rat := if pn = 0 then [1] else [1, 0]

def exS' : St :=
  match restore (persist exR.1) 3 1 6 [[-1]] [[0], [0]] exWeightOf with
  | .ok s => s
  | .error _ => exRestored

def exRest : List Ev := [.step 0 .rej [] { t := 1, e := 1 }, .step 0 .acc exW { t := 0, e := 0 }]

theorem exRest_steps : StepsOnly exRest := by simp [exRest, StepsOnly]

/-! the same system as a member of the reachable family: fresh one-worker start state, well-formed history -/

def exY0 : Sys := { s := exFresh, jobs := [] }

def exPre : List Ev :=
  [.start { t := 1, e := 1 }, .initDone, .step 0 .acc exW { t := 0, e := 0 }, .step 0 .rej [] { t := 1, e := 1 }]

def exHist : List Ev := exPre ++ (.step 0 .acc exW { t := 1, e := 1 } :: exRest)

def exYN : Sys := match run exY0 exHist with | .ok y => y | .error _ => exY0

theorem exFresh_loaded :
    loadPaths (blank 3 1 6 0 2 5 [[-1]] [[0], [0]] false []) [(0, [1], [0, 0, 0]), (1, [1, 0], [0, 0, 0])] = .ok exFresh :=
  eq_ok_of_isOk (by decide +kernel) fun _ h => by rw [exFresh, h]

theorem exRunPre : run exY0 exPre = .ok exY :=
  eq_ok_of_isOk (by decide +kernel) fun _ h => by unfold exY0 exPre at h; rw [exY, h]

theorem exTreat : stepTreat exY 0 .acc exW = .ok exR := eq_ok_of_isOk (by decide +kernel) fun _ h => by rw [exR, h]

theorem exRuns : run exY0 exHist = .ok exYN := eq_ok_of_isOk (by decide +kernel) fun _ h => by rw [exYN, h]

/-- the split is a real one: three steps done of six, the rebuilt state differs from the stopped one in the by-design
    fields, the fraction table comes back in another order -/
example : exR.1.cstep = 3 ∧ exR.1.tsteps = 6 ∧ exR.1.rows.length = 2 ∧ exS'.rows = [] ∧ exR.1.toinitiate = -1 ∧
    exS'.toinitiate = 1 ∧ exS'.restarted = true ∧ exR.1.mainDraws = 6 ∧ exS'.mainDraws = 0 ∧ exR.1.spawned = 3 ∧
    exS'.spawned = 3 ∧ exR.1.frac ≠ exS'.frac ∧ exR.1.occ = [[0]] ∧ exS'.occ = [[-1]] := by
  decide +kernel

theorem exRestoreRel : RestoreRel [[-1]] exR.1 exS' := by
  apply restore_persist_obs_eq_partial [[-1]] exWeightOf
  · have h : exR.1.n = 3 ∧ exR.1.workers = 1 ∧ exR.1.tsteps = 6 ∧ exR.1.ensEng = [[0], [0]] := by decide +kernel
    rw [h.1, h.2.1, h.2.2.1, h.2.2.2]
    exact eq_ok_of_isOk (by decide +kernel) fun _ h => by rw [exS', h]
  · refine ⟨by decide +kernel, by decide +kernel, by decide +kernel, FEq_of_keys _ _ (by decide +kernel),
            FEq_of_keys _ _ (by decide +kernel)⟩
  · decide +kernel
  · decide +kernel
  · decide +kernel
  · decide +kernel
  · decide +kernel

theorem exStart1 : Start1 exY0 := by
  refine ((FreshLoad.mk 1 6 0 2 5 [[-1]] [[0], [0]] false (by decide) (by decide) (by decide) (by decide)
    exFresh_loaded).startM ?_ (by decide +kernel)).start1 ((loadPaths_touches exFresh_loaded).workers)
  intro i hi
  match i, hi with
  | 0, _ =>
    show VecOk 3 (-1) [1]
    decide +kernel
  | 1, _ =>
    show VecOk 3 0 [1, 0]
    decide +kernel

theorem exHistOk : HistOk exY0 exHist := by decide +kernel

/-- the stopped state of the example is a stop state (live paths 0 and 3 in slot order): the instance of 5 for the
    history `exPre`, split at its next step -/
theorem exStopState : StopState exR.1 [0, 3] := by
  obtain ⟨y', hy', _⟩ := run_cons_ok (run_rest exRuns exRunPre)
  have h := stopState_of_reachable exStart1 exPre (histOk_prefix exPre _ exHistOk) exRunPre (by decide +kernel) 0 .acc exW
    { t := 1, e := 1 } (histOk_rest exPre _ exHistOk exRunPre).1 hy' exTreat
  have hp : livePns exR.1 = [0, 3] := by decide +kernel
  rwa [hp] at h

/-- all hypotheses of `restart_equivalence_one_worker` hold together on this system, and the uninterrupted run succeeds -/
example : stepTreat exY 0 .acc exW = .ok exR ∧ RestoreRel [[-1]] exR.1 exS' ∧ exR.1.workers = 1 ∧
    exR.1.toinitiate = -1 ∧ exR.2.1.pin = 0 ∧ exR.1.locked0 = [] ∧ exR.1.cstep < exR.1.tsteps ∧
    freeEngines exR.1.occ 0 = freeEngines [[-1]] 0 ∧ StepsOnly exRest ∧
    (∃ yN, run exY (.step 0 .acc exW { t := 1, e := 1 } :: exRest) = .ok yN) := by
  refine ⟨exTreat, exRestoreRel, by decide +kernel, by decide +kernel, by decide +kernel,
          by decide +kernel, by decide +kernel, by decide +kernel, exRest_steps, ?_⟩
  exact ⟨exYN, run_rest exRuns exRunPre⟩

/-- … and the full theorem 1 gives the same rebuilt state as the evaluation -/
example : ∃ s', restore (persist exR.1) 3 1 6 [[-1]] [[0], [0]] (fun pn => (exR.1.wts.lookup pn).getD []) = .ok s' ∧
    RestoreRel [[-1]] exR.1 s' := by
  have := restore_persist_obs_eq exStopState [[-1]]
  have h : exR.1.n = 3 ∧ exR.1.workers = 1 ∧ exR.1.tsteps = 6 ∧ exR.1.ensEng = [[0], [0]] := by decide +kernel
  rw [h.1, h.2.1, h.2.2.1, h.2.2.2] at this
  exact this

/-- all hypotheses of `restart_equivalence_reachable` hold on the concrete history (split after the third step) -/
example : Start1 exY0 ∧ StepsOnly (exPre.drop 2) ∧ StepsOnly exRest ∧ exRest ≠ [] ∧ HistOk exY0 exHist ∧
    run exY0 exHist = .ok exYN :=
  ⟨exStart1, by simp [exPre, StepsOnly], exRest_steps, by simp [exRest], exHistOk, exRuns⟩

/-- … and its conclusion, instantiated: the restarted run exists and ends observationally equal -/
example : ∃ y r s' yN', run exY0 exPre = .ok y ∧ stepTreat y 0 .acc exW = .ok r ∧ StopState r.1 (livePns r.1) ∧
    restore (persist r.1) r.1.n r.1.workers r.1.tsteps (freeEngines r.1.occ 0) r.1.ensEng
      (fun pn => (r.1.wts.lookup pn).getD []) = .ok s' ∧
    run { s := s', jobs := [] } (.start { t := 1, e := 1 } (persist r.1).rngDraws :: .initDone :: exRest) = .ok yN' ∧
    ObsR True (-1) r.1.rows [] exYN.s yN'.s ∧ exYN.jobs = yN'.jobs ∧
    ∃ rws, exYN.s.rows = r.1.rows ++ rws ∧ yN'.s.rows = rws :=
  restart_equivalence_reachable exStart1 { t := 1, e := 1 } 0
    [.step 0 .acc exW { t := 0, e := 0 }, .step 0 .rej [] { t := 1, e := 1 }] 0 .acc exW { t := 1, e := 1 } exRest
    (by simp [StepsOnly]) exRest_steps (by simp [exRest]) exHistOk exRuns

/-- a run with one restart exists for the concrete history (so `restart_chain_equivalence` is not vacuous) -/
example : ∃ yN', Restarts exY0 exHist yN' := by
  obtain ⟨y, r, s', yN', a1, a2, _, a4, a5, _⟩ :=
    restart_equivalence_reachable exStart1 { t := 1, e := 1 } 0
      [.step 0 .acc exW { t := 0, e := 0 }, .step 0 .rej [] { t := 1, e := 1 }] 0 .acc exW { t := 1, e := 1 } exRest
      (by simp [StepsOnly]) exRest_steps (by simp [exRest]) exHistOk exRuns
  exact ⟨yN', Restarts.restart (by simp [StepsOnly]) exRest_steps (by simp [exRest]) a1 a2 a4
    (Restarts.direct a5)⟩

/-- a state whose counter is ahead of `cstep + len(locked)` (a record was dropped at an earlier restart): the key is
    written (`some 9`), the image loads, and the rebuilt state has the counter 9 again -/
def exAhead : St := { exR.1 with spawned := 9 }

example : spawnedKey exAhead = some 9 ∧ (persist exAhead).spawnedRec = some 9 ∧
    (match restore (persist exAhead) 3 1 6 [[-1]] [[0], [0]] exWeightOf with
     | .ok s' => decide (s'.spawned = 9 ∧ s'.cstep = 3 ∧ s'.locked0 = [])
     | .error _ => false) = true := by
  decide +kernel

/-! ## several workers (Lemmas/RepexC06Multi, RepexC06MultiRestart, RepexC06MultiChain)

After a restart with W > 1 workers the recorded jobs go to the workers 0, 1, … in recorded order, so worker pins, work
folders, the engine table and `cworker` differ from the uninterrupted run.  `RM ra rb x y` relates two scheduler states
up to that: `ObsR False` on the samplers (everything of `ObsR` except `occ`/`toinitiate`), both initiations closed, and
the jobs in flight equal position by position in `jobKey` = (per picked ensemble: ensemble, path, move-stream and
engine-stream identity; the old path numbers).  Jobs are identified by their position in flight order — equivalently by
their stream ordinal, `jobKey` carries it — and their outcome (`status`, `newW`) is a function of that position in
the event, which is the determinism assumption on engines. -/

/-- **9. one scheduler step respects equality-up-to-pins** (any W): if the left side performs `.step k st w o`, the
    right side performs it too and the results are related again — the only other possibility is that the right side
    has no free engine instance for the worker in `prep_md_items` (`EngFail`; C03's `einvR_of_shaped` excludes it when
    every engine type has enough instances).  Every other error is the same on both sides. -/
theorem step_respects_obs_eq_multi {ra rb : List Repex.Row} {x y x' : Sys} (h : RM ra rb x y) (k : Nat) (st : Status)
    (w : List (List Rat)) (o : PickOutcome) (hx : sysStep x (.step k st w o) = .ok x') :
    (∃ y', sysStep y (.step k st w o) = .ok y' ∧ RM ra rb x' y') ∨ EngFail (sysStep y (.step k st w o)) :=
  sysStep_step_relM h k st w o hx

/-- the same for a whole run of `.step` events that both sides complete -/
theorem run_respects_obs_eq_multi {ra rb : List Repex.Row} {x y xN yN : Sys} (evs : List Ev) (hs : StepsOnly evs)
    (h : RM ra rb x y) (hx : run x evs = .ok xN) (hy : run y evs = .ok yN) : RM ra rb xN yN :=
  run_steps_relM evs hs h hx hy

/-- 9 for a whole run, without assuming that the right side completes: it completes and the ends are related, or
    it stops at some step in the engine assignment (`EngFailRun`: the events before went through, related) — no other
    failure is possible on the right when the left completes. -/
theorem run_respects_obs_eq_multi_total {ra rb : List Repex.Row} {x y xN : Sys} (evs : List Ev) (hs : StepsOnly evs)
    (h : RM ra rb x y) (hx : run x evs = .ok xN) :
    (∃ yN, run y evs = .ok yN ∧ RM ra rb xN yN) ∨ EngFailRun y evs :=
  run_steps_relM_total evs hs h hx

/-- **10. the re-issue chain leaves every path where it was** (any W): when each recorded path sits in its recorded
    slot and no path sits in two slots — the situation after `load_paths` from the restart file of the same run — the
    `|recs|` initiation iterations change of the sampler exactly: the recorded slots get locked (`lockAll`), the record
    moves from `locked0` to `locked` with the same ordinals, engine table / current worker / initiation counter; W,
    the slot order, counters, tables, stream position and spawn counter are untouched.  The jobs handed out carry the
    recorded (ensemble, path) pairs with the streams of the recorded ordinals. -/
theorem reissue_in_place (recs : List ((List Nat × List Nat) × Nat)) (starts : List (PickOutcome × Nat)) (y y' : Sys)
    (rest : List (List Nat × List Nat)) (ordRest : List (Option Nat))
    (hlen : starts.length = recs.length) (hl0 : y.s.locked0 = recs.map (·.1) ++ rest)
    (hl0o : y.s.locked0Ord = recs.map (fun r => some r.2) ++ ordRest)
    (hin : ∀ x ∈ recs.flatMap (fun r => recPairs r.1), y.s.trajs[x.1]? = some (some x.2) ∧ x.1 + 1 < y.s.trajs.length)
    (hu : UniqLive y.s.trajs)
    (hrun : run y (starts.map (fun x => Ev.start x.1 x.2)) = .ok y') :
    ∃ jobs occ' cw, y'.jobs = y.jobs ++ jobs ∧
      jobs.map jobKey = recs.map (fun r => (recJobFull y.s.entropy r.2 r.1, (recPairs r.1).map (·.2))) ∧
      y'.s = reState y.s (recs.flatMap (fun r => recPairs r.1)) (recs.map (fun r => recEntry r.1)) (recs.map (·.2))
               rest ordRest occ' cw (recs.length : Int) :=
  reissue_run_state recs starts y y' rest ordRest hlen hl0 hl0o hin hu hrun

/-- **11. restart equivalence, several workers, every split point at which a fresh job is due.**  The uninterrupted
    run is at `y` and executes `.step k st w o` then the `.step` events `rest`, reaching `yN`.  At the split
    (`stepTreat`: loop + treat_output, the restart file is written) `r = (sampler, completed job, jobs in flight)`.
    `s'` = the state the restart rebuilds (`RestoreRelM occ recs r.1 s'`: slots as they were, unlocked; record to be
    re-issued; full initiation due; fresh engine table), `StopM recs r.1 r.2.2` = the jobs in flight are the record
    `recs` with their ordinals, each recorded path in its recorded slot.  If the restarted run — `|recs|` initiation
    iterations, one more with the saved stream position and the same pick outcome `o`, `.initDone`, the same `rest` (same
    completion positions, same outcomes) — completes, it ends in `yN'` with: the same W, slot order, locks, records and
    ordinals, counters, stream position, spawn ordinal, fraction/weight tables; jobs in flight with the same (ensemble,
    path, stream identities) position by position; and the same data rows appended after the stop. -/
theorem restart_equivalence_multi_worker {occ : List (List Int)} {recs : List ((List Nat × List Nat) × Nat)} {y : Sys}
    {s' : St} (k : Nat) (st : Status) (w : List (List Rat)) (o : PickOutcome) (rest : List Ev) (r : St × Job × List Job)
    (hT : stepTreat y k st w = .ok r) (hR : RestoreRelM occ recs r.1 s') (hS : StopM recs r.1 r.2.2)
    (hmore : r.1.cstep + r.1.workers ≤ r.1.tsteps) (hsteps : StepsOnly rest)
    {yN : Sys} (hrun : run y (.step k st w o :: rest) = .ok yN)
    (starts : List (PickOutcome × Nat)) (hlen : starts.length = recs.length) {yN' : Sys}
    (hrun' : run { s := s', jobs := [] }
      (starts.map (fun x => Ev.start x.1 x.2) ++ (.start o (persist r.1).rngDraws :: .initDone :: rest)) = .ok yN') :
    ObsR False 0 r.1.rows [] yN.s yN'.s ∧ JobsEq yN.jobs yN'.jobs ∧
      ∃ rws, yN.s.rows = r.1.rows ++ rws ∧ yN'.s.rows = rws := by
  have h := restart_run_multi k st w o rest r hT hR hS hmore hsteps hrun starts hlen hrun'
  exact ⟨h.obs, h.jobs, h.obs.rows_nil⟩

/-- the heart of 11 in isolation: right after the restart's initiation the scheduler state equals, up to pins, the one
    the uninterrupted run has after handing the freed worker its next job -/
theorem restart_first_jobs_multi {occ : List (List Int)} {recs : List ((List Nat × List Nat) × Nat)} {s2 s' : St}
    (job : Job) (restJobs : List Job) (o : PickOutcome)
    (hR : RestoreRelM occ recs s2 s') (hS : StopM recs s2 restJobs)
    {yU : Sys} (hU : stepPrep (s2, job, restJobs) o = .ok yU) (hmore : s2.cstep + s2.workers ≤ s2.tsteps)
    (starts : List (PickOutcome × Nat)) (hlen : starts.length = recs.length)
    {y1 y2 yR : Sys} (h1 : run { s := s', jobs := [] } (starts.map (fun x => Ev.start x.1 x.2)) = .ok y1)
    (h2 : sysStep y1 (.start o s2.mainDraws) = .ok y2) (h3 : sysStep y2 .initDone = .ok yR) :
    RM s2.rows [] yU yR :=
  restart_step_multi job restJobs o hR hS hU hmore starts hlen h1 h2 h3

/-- **12. any chain of restarts, several workers** (induction over `RestartsM`: each restart right after the
    `treat_output` of a `.step` with a fresh job due, with `RestoreRelM`/`StopM` at that stop and a continuation that
    also completes without further restarts): the uninterrupted run and the run with restarts end equal up to pins, and
    the rows written since the last restart are the tail of the rows of the uninterrupted run. -/
theorem restart_chain_equivalence_multi {y0 yN yN' : Sys} {evs : List Ev} (hres : RestartsM y0 evs yN')
    (hrun : run y0 evs = .ok yN) :
    ∃ ra rb, ObsR False 0 ra rb yN.s yN'.s ∧ JobsEq yN.jobs yN'.jobs ∧ ∃ pre, yN.s.rows = pre ++ yN'.s.rows := by
  induction hres generalizing yN with
  | @direct y0 yE evs hrun' =>
    rw [hrun'] at hrun
    simp only [Except.ok.injEq] at hrun
    subst hrun
    have h0 := ObsR.refl yE.s
    exact ⟨yE.s.rows, yE.s.rows, { h0 with toinitiate := fun f => f.elim, occ := fun f => f.elim }, rfl, [], by simp⟩
  | @restart y0 y yMid yN' pre k st w o rest r s' occ recs starts hs hy hT hR hS hmore hlen hmid _ ih =>
    obtain ⟨y', hy', hrun2⟩ := run_append_inv _ _ hrun
    rw [hy] at hy'
    simp only [Except.ok.injEq] at hy'
    subst hy'
    have h1 := restart_run_multi k st w o rest r hT hR hS hmore hs hrun2 starts hlen hmid
    obtain ⟨ra', rb', h2, hj2, pre2, hp2⟩ := ih hmid
    obtain ⟨r1, hra, hrb⟩ := h1.obs.rows_nil
    refine ⟨_, _, h1.obs.comp h2, ?_, r.1.rows ++ pre2, ?_⟩
    · unfold JobsEq at hj2 ⊢
      exact h1.jobs.trans hj2
    · rw [hra, List.append_assoc, ← hp2, hrb]

/-- **13. `restore (persist s)` at a stop with jobs in flight** (any W; `restore_persist_obs_eq` is the case of an
    empty record).  `StopStateM s pns recs`: the state right after `treat_output`, `pns` its live paths in slot order —
    shapes, every real slot holding a path whose padded stored weight vector is its W row with a non-zero diagonal
    entry and a fraction entry, empty/zero ghost slot, tables keyed by live paths, entropy = seed — with the jobs in
    flight on record (`locked = recs` with ordinals `lockedOrd`) and exactly their slots locked.  Then the image loads
    (`load_paths` reads neither the record nor the spawn counter: `loadPaths_ok_iff`) and the rebuilt state has the
    slots of `s`, all free — re-locking the record gives the locks of `s` —, the record waiting in `locked0` with its
    ordinals, the counters, seed, entropy, spawn counter and tables of `s` (`RestoreRelM`). -/
theorem restore_persist_obs_eq_multi {s : St} {pns : List Nat} {recs : List ((List Nat × List Nat) × Nat)}
    (h : StopStateM s pns recs) (occ : List (List Int)) :
    ∃ s', restore (persist s) s.n s.workers s.tsteps occ s.ensEng (fun pn => (s.wts.lookup pn).getD []) = .ok s' ∧
      RestoreRelM occ recs s s' :=
  restore_persist_multi h occ

/-- **14. restart equivalence, several workers, from the files alone**: 11 with `RestoreRelM` discharged by 13 — the
    state left by `treat_output` is a stop state with its in-flight jobs on record, the image is `persist` of it, the
    restart rebuilds from the image; whatever initiation outcomes `starts` the re-issue iterations are given (they draw
    nothing), a restarted run that completes ends equal to the uninterrupted one up to who runs what. -/
theorem restart_equivalence_multi_from_image {occ : List (List Int)} {recs : List ((List Nat × List Nat) × Nat)}
    {pns : List Nat} {y : Sys} (k : Nat) (st : Status) (w : List (List Rat)) (o : PickOutcome) (rest : List Ev)
    (r : St × Job × List Job) (hT : stepTreat y k st w = .ok r) (hSS : StopStateM r.1 pns recs)
    (hS : StopM recs r.1 r.2.2) (hmore : r.1.cstep + r.1.workers ≤ r.1.tsteps) (hsteps : StepsOnly rest)
    {yN : Sys} (hrun : run y (.step k st w o :: rest) = .ok yN) :
    ∃ s', restore (persist r.1) r.1.n r.1.workers r.1.tsteps occ r.1.ensEng
        (fun pn => (r.1.wts.lookup pn).getD []) = .ok s' ∧
      ∀ (starts : List (PickOutcome × Nat)) (yN' : Sys), starts.length = recs.length →
        run { s := s', jobs := [] }
          (starts.map (fun x => Ev.start x.1 x.2) ++ (.start o (persist r.1).rngDraws :: .initDone :: rest)) = .ok yN' →
        ObsR False 0 r.1.rows [] yN.s yN'.s ∧ JobsEq yN.jobs yN'.jobs ∧
          ∃ rws, yN.s.rows = r.1.rows ++ rws ∧ yN'.s.rows = rws := by
  obtain ⟨s', h1, hR⟩ := restore_persist_multi hSS occ
  exact ⟨s', h1, fun starts yN' hlen hrun' =>
    restart_equivalence_multi_worker k st w o rest r hT hR hS hmore hsteps hrun starts hlen hrun'⟩

/-- **15. `StopM` is derived, not assumed** (any W): for every state `y` of every chain of runs and restarts
    (`ChainReach`, C07 — whose invariant `NInv` holds C03's slot invariant, `locked = jobs in flight`, one ordinal per
    job, each job carrying the streams of its ordinal), with the initiation closed and nothing left to re-issue, the state
    `treat_output` leaves at a `.step` has its jobs in flight on record (`recsOf`: slots, paths, ordinals — what
    `write_toml` stores), each recorded path in its recorded slot, no path in two slots.  `PnumOk` (every job's
    `pnum_old` lists its picked paths) is preserved by every event: `pnumOk_preserved`. -/
theorem stopM_of_reachable_multi {seed : Nat} {y : Sys} {log : List Entry} (h : ChainReach seed y log)
    (hti : y.s.toinitiate = -1) (hl0 : y.s.locked0Ord = []) (hp : PnumOk y.jobs) {k : Nat} {st : Status}
    {w : List (List Rat)} {r : St × Job × List Job} (hT : stepTreat y k st w = .ok r) :
    StopM (recsOf r.2.2 r.1.lockedOrd) r.1 r.2.2 := by
  obtain ⟨hmid, hjobs⟩ := stepTreat_midState hT
  have hi := h.inv
  obtain ⟨hm, _, _, _⟩ := midState_inv hi.ninv hmid
  have hti2 : r.1.toinitiate = -1 := by rw [(stepTreat_completes hT).touches.toinitiate]; exact hti
  rw [hjobs]
  refine stopM_of_midInv hm hti2 ?_ (hp.eraseIdx k)
  rw [(midState_touches hmid).locked0Ord]
  exact hl0

theorem pnumOk_preserved (evs : List Ev) {y y' : Sys} (hp : PnumOk y.jobs) (h : run y evs = .ok y') : PnumOk y'.jobs :=
  pnumOk_kept.run evs hp (along_true _ _) h

/-- **16. restart equivalence, several workers, reachable states**: 14 with `StopM` discharged by 15.  What remains
    assumed of the stopped state is `StopStateM` (C05's sorted non-zero diagonal and the tidy tables at a stop with jobs
    in flight — 17 derives it for histories from a start state, 18 is the resulting statement) and that the restarted
    run completes (it can only stop in the engine assignment: 9). -/
theorem restart_equivalence_multi_reachable {seed : Nat} {y : Sys} {log : List Entry} (h : ChainReach seed y log)
    (hti : y.s.toinitiate = -1) (hl0 : y.s.locked0Ord = []) (hp : PnumOk y.jobs)
    {occ : List (List Int)} {pns : List Nat} (k : Nat) (st : Status) (w : List (List Rat)) (o : PickOutcome)
    (rest : List Ev) (r : St × Job × List Job) (hT : stepTreat y k st w = .ok r)
    (hSS : StopStateM r.1 pns (recsOf r.2.2 r.1.lockedOrd))
    (hmore : r.1.cstep + r.1.workers ≤ r.1.tsteps) (hsteps : StepsOnly rest)
    {yN : Sys} (hrun : run y (.step k st w o :: rest) = .ok yN) :
    ∃ s', restore (persist r.1) r.1.n r.1.workers r.1.tsteps occ r.1.ensEng
        (fun pn => (r.1.wts.lookup pn).getD []) = .ok s' ∧
      ∀ (starts : List (PickOutcome × Nat)) (yN' : Sys), starts.length = r.2.2.length →
        run { s := s', jobs := [] }
          (starts.map (fun x => Ev.start x.1 x.2) ++ (.start o (persist r.1).rngDraws :: .initDone :: rest)) = .ok yN' →
        ObsR False 0 r.1.rows [] yN.s yN'.s ∧ JobsEq yN.jobs yN'.jobs ∧
          ∃ rws, yN.s.rows = r.1.rows ++ rws ∧ yN'.s.rows = rws := by
  have hS := stopM_of_reachable_multi h hti hl0 hp hT
  obtain ⟨s', h1, h2⟩ := restart_equivalence_multi_from_image (occ := occ) k st w o rest r hT hSS hS hmore hsteps hrun
  exact ⟨s', h1, fun starts yN' hlen hrun' => h2 starts yN' (hlen.trans hS.length_eq.symm) hrun'⟩

/-- **17. `StopStateM` and `StopM` are derived for any number of workers**: `y` reached from a start state `StartM`
    (fresh `Init5` or rebuilt `Init5R`, any W, tidy tables, nothing recorded, entropy = seed, spawn counter = cstep) by a
    well-formed history (`HistOk`), initiation closed: at every `.step` the state `treat_output` leaves behind is a stop
    state with its jobs in flight on record.  (`ReachM` = C03 `InvR` + C05 `Inv5` + C07 `NInv` + `TidyY` (which holds
    `PnumOk`) + `Ent`, each preserved by every event.) -/
theorem stopStateM_of_reachable {y0 y : Sys} (h0 : StartM y0) (evs : List Ev) (hh : HistOk y0 evs)
    (hy : run y0 evs = .ok y) (hti : y.s.toinitiate = -1)
    (k : Nat) (st : Status) (w : List (List Rat)) (o : PickOutcome) (hev : EvOk y (.step k st w o))
    {r : St × Job × List Job} (hT : stepTreat y k st w = .ok r) :
    StopStateM r.1 (livePns r.1) (recsOf r.2.2 r.1.lockedOrd) ∧ StopM (recsOf r.2.2 r.1.lockedOrd) r.1 r.2.2 :=
  stopStateM_of_reach (run_reachM evs h0.reach hh hy) hti k st w o hev hT

/-- **18. restart equivalence for every history with any number of workers and every split point at which a fresh job
    is due — no hypothesis on the states of the restarted run.**  `y0` a start state (`StartM`), the history
    `pre ++ .step k st w o :: rest` well formed (`HistOk`) and running uninterrupted to `yN`; the initiation is closed when the split step begins.  Then
    the split state `r` exists, its image loads to some `s'` (any engine table `occ` for the new process), and every
    restarted run from `s'` — as many initiation iterations as jobs were in flight (whatever outcomes they are handed:
    re-issues draw nothing), one more with the saved stream position and the same outcome `o`, `.initDone`, the same
    `rest` — that completes ends equal to `yN` up to who runs what: same W, slot order, locks, records and ordinals,
    counters, stream position, spawn ordinal, fraction/weight tables; the jobs in flight agree position by position
    in (ensemble, path, stream identities); the data rows appended after the stop are the same.  (That the restarted
    run can only fail to complete in the engine assignment is 9.) -/
theorem restart_equivalence_reachable_multi {y0 y yN : Sys} (h0 : StartM y0) (pre : List Ev) (k : Nat) (st : Status)
    (w : List (List Rat)) (o : PickOutcome) (rest : List Ev) (occ : List (List Int))
    (hh : HistOk y0 (pre ++ (.step k st w o :: rest))) (hy : run y0 pre = .ok y) (hti : y.s.toinitiate = -1)
    (hsteps : StepsOnly rest) (hrun : run y (.step k st w o :: rest) = .ok yN) :
    ∃ r s', stepTreat y k st w = .ok r ∧
      StopStateM r.1 (livePns r.1) (recsOf r.2.2 r.1.lockedOrd) ∧ StopM (recsOf r.2.2 r.1.lockedOrd) r.1 r.2.2 ∧
      restore (persist r.1) r.1.n r.1.workers r.1.tsteps occ r.1.ensEng
        (fun pn => (r.1.wts.lookup pn).getD []) = .ok s' ∧
      RestoreRelM occ (recsOf r.2.2 r.1.lockedOrd) r.1 s' ∧
      (r.1.cstep + r.1.workers ≤ r.1.tsteps →
        ∀ (starts : List (PickOutcome × Nat)) (yN' : Sys), starts.length = r.2.2.length →
          run { s := s', jobs := [] }
            (starts.map (fun x => Ev.start x.1 x.2) ++ (.start o (persist r.1).rngDraws :: .initDone :: rest)) = .ok yN' →
          ObsR False 0 r.1.rows [] yN.s yN'.s ∧ JobsEq yN.jobs yN'.jobs ∧
            ∃ rws, yN.s.rows = r.1.rows ++ rws ∧ yN'.s.rows = rws) := by
  have hev : EvOk y (.step k st w o) := (histOk_rest pre _ hh hy).1
  obtain ⟨y', hstep, _⟩ := run_cons_ok hrun
  obtain ⟨r, hT, _⟩ := sysStep_step_inv hstep
  obtain ⟨hSS, hS⟩ := stopStateM_of_reachable h0 pre (histOk_prefix pre _ hh) hy hti k st w o hev hT
  obtain ⟨s', hres, hR⟩ := restore_persist_obs_eq_multi hSS occ
  refine ⟨r, s', hT, hSS, hS, hres, hR, ?_⟩
  intro hmore starts yN' hlen hrun'
  exact restart_equivalence_multi_worker k st w o rest r hT hR hS hmore hsteps hrun starts
    (hlen.trans hS.length_eq.symm) hrun'

/-- **19. restart equivalence, several workers, a stop in the final phase** (fewer steps left than workers, so the
    worker that completed the step gets no new job; at least one step left).  As 11, but the restarted run is
    `|recs|` re-issues, `.initDone`, the same `rest`; the ends agree up to who runs what and up to the position of the
    scheduler stream (`setMD`), from which nothing is drawn any more — `treat_output` neither reads nor writes it
    (`treatOutput_adj`); the model's `restore` keeps that position at 0 until the first fresh pick, the code's
    `set_rgen` restores it at once.  With 11 this covers every split point 0 < k < N.
    The exact statement, for the restart as the code performs it — `restoreNow` — is 23; chains with final-phase stops
    are 24. -/
theorem restart_equivalence_multi_final_phase {occ : List (List Int)} {recs : List ((List Nat × List Nat) × Nat)}
    {y : Sys} {s' : St} (k : Nat) (st : Status) (w : List (List Rat)) (o : PickOutcome) (rest : List Ev)
    (r : St × Job × List Job) (hT : stepTreat y k st w = .ok r) (hR : RestoreRelM occ recs r.1 s')
    (hS : StopM recs r.1 r.2.2) (hend : ¬ (r.1.cstep + r.1.workers ≤ r.1.tsteps)) (hlt : r.1.cstep < r.1.tsteps)
    (hmW : recs.length ≤ r.1.workers) (hsteps : StepsOnly rest)
    {yN : Sys} (hrun : run y (.step k st w o :: rest) = .ok yN)
    (starts : List (PickOutcome × Nat)) (hlen : starts.length = recs.length) {yN' : Sys}
    (hrun' : run { s := s', jobs := [] } (starts.map (fun x => Ev.start x.1 x.2) ++ (.initDone :: rest)) = .ok yN') :
    ObsR False 0 r.1.rows [] yN.s (setMD yN'.s r.1.mainDraws) ∧ JobsEq yN.jobs yN'.jobs ∧
      ∃ rws, yN.s.rows = r.1.rows ++ rws ∧ yN'.s.rows = rws := by
  have h := restart_run_multi_end k st w o rest r hT hR hS hend hlt hmW hsteps hrun starts hlen hrun'
  exact ⟨h.obs, h.jobs, h.obs.rows_nil⟩

/-- 19 for reachable states: `RestoreRelM` and `StopM` discharged as in 18 -/
theorem restart_equivalence_reachable_multi_final_phase {y0 y yN : Sys} (h0 : StartM y0) (pre : List Ev) (k : Nat)
    (st : Status) (w : List (List Rat)) (o : PickOutcome) (rest : List Ev) (occ : List (List Int))
    (hh : HistOk y0 (pre ++ (.step k st w o :: rest))) (hy : run y0 pre = .ok y) (hti : y.s.toinitiate = -1)
    (hsteps : StepsOnly rest) (hrun : run y (.step k st w o :: rest) = .ok yN) :
    ∃ r s', stepTreat y k st w = .ok r ∧
      restore (persist r.1) r.1.n r.1.workers r.1.tsteps occ r.1.ensEng
        (fun pn => (r.1.wts.lookup pn).getD []) = .ok s' ∧
      (¬ (r.1.cstep + r.1.workers ≤ r.1.tsteps) → r.1.cstep < r.1.tsteps → r.2.2.length ≤ r.1.workers →
        ∀ (starts : List (PickOutcome × Nat)) (yN' : Sys), starts.length = r.2.2.length →
          run { s := s', jobs := [] } (starts.map (fun x => Ev.start x.1 x.2) ++ (.initDone :: rest)) = .ok yN' →
          ObsR False 0 r.1.rows [] yN.s (setMD yN'.s r.1.mainDraws) ∧ JobsEq yN.jobs yN'.jobs ∧
            ∃ rws, yN.s.rows = r.1.rows ++ rws ∧ yN'.s.rows = rws) := by
  obtain ⟨r, s', hT, _, hS, hres, hR, _⟩ := restart_equivalence_reachable_multi h0 pre k st w o rest occ hh hy hti hsteps hrun
  refine ⟨r, s', hT, hres, ?_⟩
  intro hend hlt hmW starts yN' hlen hrun'
  exact restart_equivalence_multi_final_phase k st w o rest r hT hR hS hend hlt (hS.length_eq.trans_le hmW) hsteps hrun
    starts (hlen.trans hS.length_eq.symm) hrun'

/-- **20. any chain of restarts, several workers — no hypothesis on the states of the restarted runs.**  `y0` a start
    state (`StartM`), `pre` the history up to a point where the initiation is closed, `evs` the `.step` events that follow (the whole history
    well formed), running uninterrupted to `yN`.  `ChainM y evs yN'` describes a run with any number of restarts by what
    the processes do and nothing else: run steps; stop right after the `treat_output` of a step at which a fresh job is
    due; `restore` the image (any engine table); as many initiation iterations as jobs were in flight, one more with the
    saved stream position, `.initDone`; go on.  Then `yN` and `yN'` agree on W, slot order, locks, records and ordinals,
    counters, stream position, spawn ordinal, fraction/weight tables; hold the same jobs (ensemble, path, stream
    identities) position by position.  (The row bases `ra`, `rb` are existential here, so nothing is said about the
    data rows; `restart_chain_equivalence_multi` (12) has the row clause.)
    The induction keeps the uninterrupted run on the left: `StopStateM`/`StopM` are proved for its states (17) and
    transfer along `RM` to the states of the restarted runs (`StopStateM.transfer`, `StopM.transfer`), where
    `restore_persist_obs_eq_multi` (13) then applies.
    `ChainM` admits only stops at which a fresh job is due; `restart_chain_from_disk` (24) admits every stop 0 < k < N
    and rebuilds with `restoreNow`. -/
theorem restart_chain_equivalence_multi_unconditional {y0 y yN yN' : Sys} (h0 : StartM y0) (pre evs : List Ev)
    (hh : HistOk y0 (pre ++ evs)) (hy : run y0 pre = .ok y) (hti : y.s.toinitiate = -1) (hs : StepsOnly evs)
    (hrun : run y evs = .ok yN) (hc : ChainM y evs yN') :
    ∃ ra rb, ObsR False 0 ra rb yN.s yN'.s ∧ JobsEq yN.jobs yN'.jobs := by
  obtain ⟨ra, rb, h⟩ := restart_chain_multi_unconditional hc (run_reachM pre h0.reach (histOk_prefix pre _ hh) hy)
    (histOk_rest pre _ hh hy) (RM.refl hti) hs hrun
  exact ⟨ra, rb, h.obs, h.jobs⟩

/-- **21. which engine runs is a function of the configuration**: the `eng_idx` a job carries for a picked ensemble
    lists the ensemble's own engines in the order of `ensemble_engines` (whatever the order in which the names were handed
    to `assign_engines` — the code builds them from a `set`), so the engine `select_shoot` takes first is the first one
    the configuration lists: no dependence on set/dict iteration order, hash seed or process. -/
theorem prep_engines_in_config_order {s s' : St} {prev : Option Nat} {o : PickOutcome} {sv : Nat} {job : Job}
    {ds : List Draw} (h : prep s prev o sv = .ok (s', job, ds)) :
    ∀ p ∈ job.picked, p.engIdx.map (·.1) = s'.ensEng.getD (p.ens + 1).toNat [] := by
  rw [prep_eq] at h
  obtain ⟨_, _, h⟩ := bind_ok_iff.mp h
  obtain ⟨_, _, _, _, _, _, rfl, _, rfl⟩ := prepTail_parts h
  intro p hp
  simp only [List.mem_map] at hp
  obtain ⟨q, _, rfl⟩ := hp
  simp only [List.map_map]
  exact List.map_id'' (fun _ => rfl) _

/-- a state in which [1+] lists two engine types, in the order (1, 0): the job picked for it carries them in that order -/
def exTwoEng : St :=
  { exRestored with locked0 := [], locked0Ord := [], toinitiate := -1, occ := [[-1, -1], [-1, -1]],
                    ensEng := [[0], [0, 1], [1, 0]] }

example : (match prep exTwoEng (some 0) { t := 1, e := 2 } with
    | .ok (_, job, _) => decide (job.picked.map (fun p => p.engIdx.map (·.1)) = [[1, 0]])
    | .error _ => false) = true := by
  decide +kernel

/-! ### non-vacuity, two workers: 3 ensembles + ghost, 8 steps, split at the second step while a job is in flight -/

def mFresh : St :=
  match loadPaths (blank 4 2 8 0 3 5 [[-1, -1]] [[0], [0], [0]] false [])
      [(0, [1], [0, 0, 0, 0]), (1, [1, 0, 0], [0, 0, 0, 0]), (2, [1, 1, 0], [0, 0, 0, 0])] with
  | .ok s => s
  | .error _ => exRestored

def mY : Sys :=
  match run { s := mFresh, jobs := [] }
      [.start { t := 0, e := 0 }, .start { t := 2, e := 2 }, .initDone, .step 0 .rej [] { t := 0, e := 0 }] with
  | .ok y => y
  | .error _ => { s := exRestored, jobs := [] }

def mR : St × Job × List Job :=
  match stepTreat mY 1 .acc [[1]] with
  | .ok r => r
  | .error _ => (exRestored, { pin := 0, wfolder := 0, picked := [], pnumOld := [] }, [])

def mS' : St :=
  match restore (persist mR.1) 4 2 8 [[-1, -1]] [[0], [0], [0]] (fun pn => (mR.1.wts.lookup pn).getD []) with
  | .ok s => s
  | .error _ => exRestored

/-- the record at the stop: the job on [1+] (slot 2) with path 2, stream ordinal 1 -/
def mRecs : List ((List Nat × List Nat) × Nat) := [(([2], [2]), 1)]
def mStarts : List (PickOutcome × Nat) := [({ t := 0, e := 0 }, 0)]
def mO : PickOutcome := { t := 1, e := 1 }
def mRest : List Ev := [.step 0 .rej [] { t := 2, e := 2 }, .step 0 .acc [[1, 0, 0]] { t := 1, e := 1 }]

theorem mRest_steps : StepsOnly mRest := by simp [mRest, StepsOnly]

def mYN : Sys := match run mY (.step 1 .acc [[1]] mO :: mRest) with | .ok y => y | .error _ => mY
def mYN' : Sys :=
  match run { s := mS', jobs := [] }
      (mStarts.map (fun x => Ev.start x.1 x.2) ++ (.start mO (persist mR.1).rngDraws :: .initDone :: mRest)) with
  | .ok y => y
  | .error _ => mY

def mPre : List Ev :=
  [.start { t := 0, e := 0 }, .start { t := 2, e := 2 }, .initDone, .step 0 .rej [] { t := 0, e := 0 }]

theorem mFresh_loaded :
    loadPaths (blank 4 2 8 0 3 5 [[-1, -1]] [[0], [0], [0]] false [])
      [(0, [1], [0, 0, 0, 0]), (1, [1, 0, 0], [0, 0, 0, 0]), (2, [1, 1, 0], [0, 0, 0, 0])] = .ok mFresh :=
  eq_ok_of_isOk (by decide +kernel) fun _ h => by rw [mFresh, h]

theorem mRunPre : run { s := mFresh, jobs := [] }
    [.start { t := 0, e := 0 }, .start { t := 2, e := 2 }, .initDone, .step 0 .rej [] { t := 0, e := 0 }] = .ok mY :=
  eq_ok_of_isOk (by decide +kernel) fun _ h => by rw [mY, h]

theorem mTreat : stepTreat mY 1 .acc [[1]] = .ok mR := eq_ok_of_isOk (by decide +kernel) fun _ h => by rw [mR, h]
theorem mRunU : run mY (.step 1 .acc [[1]] mO :: mRest) = .ok mYN :=
  eq_ok_of_isOk (by decide +kernel) fun _ h => by rw [mYN, h]
theorem mRunR : run { s := mS', jobs := [] }
    (mStarts.map (fun x => Ev.start x.1 x.2) ++ (.start mO (persist mR.1).rngDraws :: .initDone :: mRest)) = .ok mYN' :=
  eq_ok_of_isOk (by decide +kernel) fun _ h => by rw [mYN', h]

theorem mMore : mR.1.cstep + mR.1.workers ≤ mR.1.tsteps := by decide +kernel

theorem mR_config : mR.1.n = 4 ∧ mR.1.workers = 2 ∧ mR.1.tsteps = 8 ∧ mR.1.ensEng = [[0], [0], [0]] := by
  decide +kernel

theorem mRestoreEq : restore (persist mR.1) mR.1.n mR.1.workers mR.1.tsteps [[-1, -1]] mR.1.ensEng
    (fun pn => (mR.1.wts.lookup pn).getD []) = .ok mS' := by
  rw [mR_config.1, mR_config.2.1, mR_config.2.2.1, mR_config.2.2.2]
  exact eq_ok_of_isOk (by decide +kernel) fun _ h => by rw [mS', h]

/-- the split is a real one: a job is in flight and on record with its ordinal; the restart re-issues it to worker 0
    while it ran on worker 1 before, and gives the fresh job to worker 1 (worker 0 in the uninterrupted run): at the end the
    two runs hold the same jobs on exchanged workers -/
example : mR.1.cstep = 2 ∧ mR.1.workers = 2 ∧ (persist mR.1).locked = [([2], [2])] ∧ (persist mR.1).lockedOrd = [1] ∧
    mR.2.2.map (·.pin) = [1] ∧ mS'.locked0 = [([2], [2])] := by
  decide +kernel

example : mS'.locks = [false, false, false, true] ∧ mR.1.locks = [false, false, true, true] ∧
    mYN.jobs.map (·.pin) = [1, 0] ∧ mYN'.jobs.map (·.pin) = [0, 1] ∧
    mYN.jobs.map jobKey = mYN'.jobs.map jobKey ∧ mYN.s.cstep = 4 := by
  decide +kernel

/-- the three start paths of the two-worker examples and their weight vectors, which are of the family -/
def mPaths : List (Nat × List Rat × List Rat) :=
  [(0, [1], [0, 0, 0, 0]), (1, [1, 0, 0], [0, 0, 0, 0]), (2, [1, 1, 0], [0, 0, 0, 0])]

theorem mPaths_fam : ∀ (i : Nat) (hi : i < mPaths.length), VecOk 4 ((i : Int) - 1) (mPaths[i]).2.1 := by decide +kernel

/-- the two-worker example as a member of the family of 17/18: `StartM`, well-formed history -/
theorem mStartM : StartM ({ s := mFresh, jobs := [] } : Sys) :=
  (FreshLoad.mk 2 8 0 3 5 [[-1, -1]] [[0], [0], [0]] false (by decide) (by decide) (by decide) (by decide)
    mFresh_loaded).startM mPaths_fam (by decide +kernel)

theorem mHistOk : HistOk ({ s := mFresh, jobs := [] } : Sys) (mPre ++ (.step 1 .acc [[1]] mO :: mRest)) := by decide +kernel

/-- the stop of the example as the instance of 18 for the history `mPre`, split at its next step: a stop state with
    its job on record (live paths 3, 1, 2 in slot order; slot 2 locked for the recorded job), whose image loads to `mS'` -/
theorem mStop : StopStateM mR.1 [3, 1, 2] mRecs ∧ StopM mRecs mR.1 mR.2.2 ∧ RestoreRelM [[-1, -1]] mRecs mR.1 mS' := by
  obtain ⟨r, s', hT, hSS, hS, hres, hR, _⟩ := restart_equivalence_reachable_multi mStartM mPre 1 .acc [[1]] mO mRest
    [[-1, -1]] mHistOk mRunPre (by decide +kernel) mRest_steps mRunU
  rw [mTreat] at hT
  cases hT
  rw [mRestoreEq] at hres
  cases hres
  have h1 : livePns mR.1 = [3, 1, 2] := by decide +kernel
  have h2 : recsOf mR.2.2 mR.1.lockedOrd = mRecs := by decide +kernel
  rw [h1, h2] at hSS
  rw [h2] at hS hR
  exact ⟨hSS, hS, hR⟩

theorem mStopStateM : StopStateM mR.1 [3, 1, 2] mRecs :=
  mStop.1

theorem mStopM : StopM mRecs mR.1 mR.2.2 :=
  mStop.2.1

theorem mRestoreRelM : RestoreRelM [[-1, -1]] mRecs mR.1 mS' :=
  mStop.2.2

/-- all hypotheses of `restart_equivalence_multi_worker` hold together on this system … -/
example : stepTreat mY 1 .acc [[1]] = .ok mR ∧ RestoreRelM [[-1, -1]] mRecs mR.1 mS' ∧ StopM mRecs mR.1 mR.2.2 ∧
    mR.1.cstep + mR.1.workers ≤ mR.1.tsteps ∧ StepsOnly mRest ∧ mStarts.length = mRecs.length ∧
    run mY (.step 1 .acc [[1]] mO :: mRest) = .ok mYN ∧
    run { s := mS', jobs := [] }
      (mStarts.map (fun x => Ev.start x.1 x.2) ++ (.start mO (persist mR.1).rngDraws :: .initDone :: mRest)) = .ok mYN' :=
  ⟨mTreat, mRestoreRelM, mStopM, mMore, mRest_steps, rfl, mRunU, mRunR⟩

/-- … and its conclusion, instantiated -/
example : ObsR False 0 mR.1.rows [] mYN.s mYN'.s ∧ JobsEq mYN.jobs mYN'.jobs ∧
    ∃ rws, mYN.s.rows = mR.1.rows ++ rws ∧ mYN'.s.rows = rws :=
  restart_equivalence_multi_worker 1 .acc [[1]] mO mRest mR mTreat mRestoreRelM mStopM mMore
    mRest_steps mRunU mStarts rfl mRunR

/-- 13 and 14 on the concrete system: the image loads, and the restarted run of the example ends equal up to pins -/
example : ∃ s', restore (persist mR.1) 4 2 8 [[-1, -1]] [[0], [0], [0]] (fun pn => (mR.1.wts.lookup pn).getD []) = .ok s' ∧
    RestoreRelM [[-1, -1]] mRecs mR.1 s' :=
  ⟨mS', by
    have h := mRestoreEq
    rwa [mR_config.1, mR_config.2.1, mR_config.2.2.1, mR_config.2.2.2] at h, mRestoreRelM⟩

example : ∃ s', restore (persist mR.1) mR.1.n mR.1.workers mR.1.tsteps [[-1, -1]] mR.1.ensEng
      (fun pn => (mR.1.wts.lookup pn).getD []) = .ok s' ∧
    ∀ (starts : List (PickOutcome × Nat)) (yN' : Sys), starts.length = mRecs.length →
      run { s := s', jobs := [] }
        (starts.map (fun x => Ev.start x.1 x.2) ++ (.start mO (persist mR.1).rngDraws :: .initDone :: mRest)) = .ok yN' →
      ObsR False 0 mR.1.rows [] mYN.s yN'.s ∧ JobsEq mYN.jobs yN'.jobs ∧
        ∃ rws, mYN.s.rows = mR.1.rows ++ rws ∧ yN'.s.rows = rws :=
  restart_equivalence_multi_from_image 1 .acc [[1]] mO mRest mR mTreat mStopStateM mStopM mMore
    mRest_steps mRunU

/-- the example's stop is one of a reachable chain: fresh start `ChainReach.fresh`, then `ChainReach.run`; its record
    is `recsOf` of the job in flight, so 15 and 16 apply (hypotheses satisfiable) -/
example : recsOf mR.2.2 mR.1.lockedOrd = mRecs ∧ mY.s.toinitiate = -1 ∧ mY.s.locked0Ord = [] ∧
    mR.2.2.length = mStarts.length := by decide +kernel

example : PnumOk mY.jobs :=
  pnumOk_preserved _ (y := { s := mFresh, jobs := [] }) (fun j hj => absurd hj (by simp)) mRunPre

theorem mInit : Init ({ s := mFresh, jobs := [] } : Sys) := mStartM.init

/-- the example's stop is a stop of a reachable chain (fresh start, then the scheduler's events) -/
theorem mChain : ∃ log, ChainReach 5 mY log :=
  ⟨_, ChainReach.run (ChainReach.fresh mInit (by decide +kernel) (by decide +kernel) (by decide +kernel)
    (by decide +kernel) (by decide +kernel) (by decide +kernel) (by decide +kernel)) mRunPre⟩

/-- 15 on it: `StopM` for the record `recsOf` … which is the record of the example -/
example : StopM (recsOf mR.2.2 mR.1.lockedOrd) mR.1 mR.2.2 := by
  obtain ⟨log, hc⟩ := mChain
  exact stopM_of_reachable_multi hc (by decide +kernel) (by decide +kernel)
    (pnumOk_preserved _ (fun j hj => absurd hj (by simp)) mRunPre) mTreat

/-- all hypotheses of `restart_equivalence_reachable_multi` hold on the two-worker history, a fresh job is due at the
    split, and the restarted run of the example is one of the runs its conclusion speaks about -/
example : StartM ({ s := mFresh, jobs := [] } : Sys) ∧
    HistOk ({ s := mFresh, jobs := [] } : Sys) (mPre ++ (.step 1 .acc [[1]] mO :: mRest)) ∧
    run { s := mFresh, jobs := [] } mPre = .ok mY ∧ mY.s.toinitiate = -1 ∧ StepsOnly mRest ∧
    run mY (.step 1 .acc [[1]] mO :: mRest) = .ok mYN ∧ mR.1.cstep + mR.1.workers ≤ mR.1.tsteps ∧
    mStarts.length = mR.2.2.length :=
  ⟨mStartM, mHistOk, mRunPre, by decide +kernel, mRest_steps, mRunU, mMore, by decide +kernel⟩

/-- the two systems right after the restart's initiation / after the split step: related by `RM`, differing in pins —
    the hypotheses of `run_respects_obs_eq_multi_total` (and of 9) hold for them with the remaining steps -/
def mYU : Sys := match run mY [.step 1 .acc [[1]] mO] with | .ok y => y | .error _ => mY
def mYR : Sys :=
  match run { s := mS', jobs := [] }
      (mStarts.map (fun x => Ev.start x.1 x.2) ++ [.start mO (persist mR.1).rngDraws, .initDone]) with
  | .ok y => y
  | .error _ => mY

theorem mRunU0 : run mY [.step 1 .acc [[1]] mO] = .ok mYU := eq_ok_of_isOk (by decide +kernel) fun _ h => by rw [mYU, h]
theorem mRunR0 : run { s := mS', jobs := [] }
    (mStarts.map (fun x => Ev.start x.1 x.2) ++ [.start mO (persist mR.1).rngDraws, .initDone]) = .ok mYR :=
  eq_ok_of_isOk (by decide +kernel) fun _ h => by rw [mYR, h]

example : RM mR.1.rows [] mYU mYR ∧ StepsOnly mRest ∧ run mYU mRest = .ok mYN ∧
    mYU.jobs.map (·.pin) ≠ mYR.jobs.map (·.pin) :=
  ⟨restart_run_multi 1 .acc [[1]] mO [] mR mTreat mRestoreRelM mStopM mMore trivial mRunU0 mStarts rfl
      mRunR0,
   mRest_steps, run_rest (a := [.step 1 .acc [[1]] mO]) mRunU mRunU0, by decide +kernel⟩

/-! final phase: the same two-worker system with 3 steps in all, split at the second step (one step and one job left) -/

def eFresh : St :=
  match loadPaths (blank 4 2 3 0 3 5 [[-1, -1]] [[0], [0], [0]] false [])
      [(0, [1], [0, 0, 0, 0]), (1, [1, 0, 0], [0, 0, 0, 0]), (2, [1, 1, 0], [0, 0, 0, 0])] with
  | .ok s => s
  | .error _ => exRestored

def eY : Sys := match run { s := eFresh, jobs := [] } mPre with | .ok y => y | .error _ => { s := exRestored, jobs := [] }

def eR : St × Job × List Job :=
  match stepTreat eY 1 .acc [[1]] with
  | .ok r => r
  | .error _ => (exRestored, { pin := 0, wfolder := 0, picked := [], pnumOld := [] }, [])

def eS' : St :=
  match restore (persist eR.1) 4 2 3 [[-1, -1]] [[0], [0], [0]] (fun pn => (eR.1.wts.lookup pn).getD []) with
  | .ok s => s
  | .error _ => exRestored

def eRest : List Ev := [.step 0 .rej [] { t := 0, e := 0 }]

theorem eRest_steps : StepsOnly eRest := by simp [eRest, StepsOnly]
def eYN : Sys := match run eY (.step 1 .acc [[1]] mO :: eRest) with | .ok y => y | .error _ => eY
def eYN' : Sys :=
  match run { s := eS', jobs := [] } (mStarts.map (fun x => Ev.start x.1 x.2) ++ (.initDone :: eRest)) with
  | .ok y => y
  | .error _ => eY

theorem eFresh_loaded :
    loadPaths (blank 4 2 3 0 3 5 [[-1, -1]] [[0], [0], [0]] false [])
      [(0, [1], [0, 0, 0, 0]), (1, [1, 0, 0], [0, 0, 0, 0]), (2, [1, 1, 0], [0, 0, 0, 0])] = .ok eFresh :=
  eq_ok_of_isOk (by decide +kernel) fun _ h => by rw [eFresh, h]

theorem eRunPre : run { s := eFresh, jobs := [] } mPre = .ok eY := eq_ok_of_isOk (by decide +kernel) fun _ h => by rw [eY, h]
theorem eTreat : stepTreat eY 1 .acc [[1]] = .ok eR := eq_ok_of_isOk (by decide +kernel) fun _ h => by rw [eR, h]
theorem eRunU : run eY (.step 1 .acc [[1]] mO :: eRest) = .ok eYN :=
  eq_ok_of_isOk (by decide +kernel) fun _ h => by rw [eYN, h]
theorem eRunR : run { s := eS', jobs := [] } (mStarts.map (fun x => Ev.start x.1 x.2) ++ (.initDone :: eRest)) = .ok eYN' :=
  eq_ok_of_isOk (by decide +kernel) fun _ h => by rw [eYN', h]

theorem eR_config : eR.1.n = 4 ∧ eR.1.workers = 2 ∧ eR.1.tsteps = 3 ∧ eR.1.ensEng = [[0], [0], [0]] := by
  decide +kernel

theorem eRestoreEq : restore (persist eR.1) eR.1.n eR.1.workers eR.1.tsteps [[-1, -1]] eR.1.ensEng
    (fun pn => (eR.1.wts.lookup pn).getD []) = .ok eS' := by
  rw [eR_config.1, eR_config.2.1, eR_config.2.2.1, eR_config.2.2.2]
  exact eq_ok_of_isOk (by decide +kernel) fun _ h => by rw [eS', h]

theorem eStartM : StartM ({ s := eFresh, jobs := [] } : Sys) :=
  (FreshLoad.mk 2 3 0 3 5 [[-1, -1]] [[0], [0], [0]] false (by decide) (by decide) (by decide) (by decide)
    eFresh_loaded).startM mPaths_fam (by decide +kernel)

theorem eHistOk : HistOk ({ s := eFresh, jobs := [] } : Sys) (mPre ++ (.step 1 .acc [[1]] mO :: eRest)) := by decide +kernel

/-- the final-phase stop as the instance of 18 for the three-step history -/
theorem eStop : StopM mRecs eR.1 eR.2.2 ∧ RestoreRelM [[-1, -1]] mRecs eR.1 eS' := by
  obtain ⟨r, s', hT, _, hS, hres, hR, _⟩ := restart_equivalence_reachable_multi eStartM mPre 1 .acc [[1]] mO eRest
    [[-1, -1]] eHistOk eRunPre (by decide +kernel) eRest_steps eRunU
  rw [eTreat] at hT
  cases hT
  rw [eRestoreEq] at hres
  cases hres
  have h2 : recsOf eR.2.2 eR.1.lockedOrd = mRecs := by decide +kernel
  rw [h2] at hS hR
  exact ⟨hS, hR⟩

theorem eRestoreRelM : RestoreRelM [[-1, -1]] mRecs eR.1 eS' :=
  eStop.2

theorem eStopM : StopM mRecs eR.1 eR.2.2 :=
  eStop.1

/-- the hypotheses of 19 hold together: two of three steps done, one job in flight and on record, no fresh job due; the
    uninterrupted run has drawn from the scheduler stream, the restarted one not (the field 19 abstracts from) … -/
example : eR.1.cstep = 2 ∧ eR.1.tsteps = 3 ∧ eR.1.workers = 2 ∧ ¬ (eR.1.cstep + eR.1.workers ≤ eR.1.tsteps) ∧
    eR.1.cstep < eR.1.tsteps ∧ mRecs.length ≤ eR.1.workers ∧ StepsOnly eRest ∧ mStarts.length = mRecs.length ∧
    eYN.s.mainDraws ≠ eYN'.s.mainDraws ∧ eYN'.s.mainDraws = 0 ∧ eYN.s.cstep = 3 ∧ eYN'.s.cstep = 3 := by
  refine ⟨by decide +kernel, by decide +kernel, by decide +kernel, by decide +kernel, by decide +kernel,
    by decide +kernel, eRest_steps, rfl, by decide +kernel⟩

/-- … and its conclusion, instantiated -/
example : ObsR False 0 eR.1.rows [] eYN.s (setMD eYN'.s eR.1.mainDraws) ∧ JobsEq eYN.jobs eYN'.jobs ∧
    ∃ rws, eYN.s.rows = eR.1.rows ++ rws ∧ eYN'.s.rows = rws :=
  restart_equivalence_multi_final_phase 1 .acc [[1]] mO eRest eR eTreat eRestoreRelM eStopM (by decide +kernel)
    (by decide +kernel) (by decide +kernel) eRest_steps eRunU mStarts rfl eRunR

/-! a chain with one restart exists for the two-worker history (20 is not vacuous), built from the files alone -/

theorem mRunRest : run mYR mRest = .ok mYN' :=
  run_rest (a := mStarts.map (fun x => Ev.start x.1 x.2) ++ [.start mO (persist mR.1).rngDraws, .initDone])
    (by simpa using mRunR) mRunR0

example : ChainM mY (([] : List Ev) ++ (.step 1 .acc [[1]] mO :: mRest)) mYN' :=
  ChainM.restart (steps1 := []) rfl mTreat mMore mRestoreEq (by decide +kernel) mRunR0
    (ChainM.done mRunRest)

example : ∃ ra rb, ObsR False 0 ra rb mYN.s mYN'.s ∧ JobsEq mYN.jobs mYN'.jobs :=
  restart_chain_equivalence_multi_unconditional mStartM mPre (.step 1 .acc [[1]] mO :: mRest) mHistOk mRunPre
    (by decide +kernel) mRest_steps mRunU
    (ChainM.restart (steps1 := []) rfl mTreat mMore mRestoreEq (by decide +kernel) mRunR0
      (ChainM.done mRunRest))

/-- the two final states are related by `RM`, so `step_respects_obs_eq_multi` / `run_respects_obs_eq_multi` apply to
    them (hypotheses satisfiable on states that differ in pins and engine table) -/
example : RM mR.1.rows [] mYN mYN' :=
  restart_run_multi 1 .acc [[1]] mO mRest mR mTreat mRestoreRelM mStopM mMore
    mRest_steps mRunU mStarts rfl mRunR

/-- the hypotheses of `reissue_in_place` hold for the rebuilt state, and a run with one restart exists
    (`restart_chain_equivalence_multi` is not vacuous) -/
example : mStarts.length = mRecs.length ∧ mS'.locked0 = mRecs.map (·.1) ++ [] ∧
    mS'.locked0Ord = mRecs.map (fun r => some r.2) ++ [] ∧
    (∀ x ∈ mRecs.flatMap (fun r => recPairs r.1), mS'.trajs[x.1]? = some (some x.2) ∧ x.1 + 1 < mS'.trajs.length) ∧
    UniqLive mS'.trajs :=
  ⟨rfl, by decide +kernel, by decide +kernel, by decide +kernel, UniqLive.of_nodup (by decide +kernel)⟩

example : ∃ yN', RestartsM mY (([] : List Ev) ++ (.step 1 .acc [[1]] mO :: mRest)) yN' :=
  ⟨mYN', RestartsM.restart mRest_steps rfl mTreat mRestoreRelM mStopM mMore rfl mRunR
    (RestartsM.direct mRunR)⟩


/-- observational equality is not equality: the two sides of a restart differ in `cworker`, `restarted`, `rgenRestored` … -/
example : ObsEq exRestored { exRestored with cworker := 1, restarted := false, rgenRestored := true } :=
  { ObsR.refl exRestored with }

/-! ## restarts from the file on disk with the stream position put back at once

`restoreNow` (Model/RepexRestartNow) = `restore` + what `set_rgen()` does to the bit-generator state inside
`REPEX_state.__init__`.  Why it matters: `restart_equivalence_multi_final_phase` (19) could only be stated up to the
stream position, and `restart_chain_equivalence_multi_unconditional` (20) only admits stops at which a fresh job is
due, because the shared model's `restore` keeps the position at 0 until the first fresh pick.  With `restoreNow` both
restrictions go. -/

/-- the reason, on the final-phase example: the run restarted through `restore` ends with stream position 0, so the
    restart file it would write (`persist`) differs from the one of the uninterrupted run in `rng_state` — which the real
    code does NOT do (its `set_rgen` restores the state at once; the tie compares the bytes of restart.toml) -/
theorem restore_final_phase_image_counterexample :
    (persist eYN'.s).rngDraws ≠ (persist eYN.s).rngDraws ∧ (persist eYN'.s).rngDraws = 0 := by
  decide +kernel

/-- **22. `restoreNow (persist s)` at a stop with jobs in flight** (any W): as 13, and the rebuilt state carries the
    stream position of the stopped one. -/
theorem restoreNow_persist_obs_eq_multi {s : St} {pns : List Nat} {recs : List ((List Nat × List Nat) × Nat)}
    (h : StopStateM s pns recs) (occ : List (List Int)) :
    ∃ s', restoreNow (persist s) s.n s.workers s.tsteps occ s.ensEng (fun pn => (s.wts.lookup pn).getD []) = .ok s' ∧
      RestoreRelM occ recs s s' ∧ s'.mainDraws = s.mainDraws := by
  obtain ⟨s0, h0, hR⟩ := restore_persist_multi h occ
  refine ⟨setMD s0 s.mainDraws, ?_, hR.setMD _, rfl⟩
  unfold restoreNow
  rw [h0]
  rfl

/-- observationally equal samplers write the same restart file: every field of the image agrees, the fractions as
    finite maps (`write_toml` sorts them by path number) -/
theorem image_eq_of_obs {p : Prop} {t0 : Int} {ra rb : List Repex.Row} {a b : St} (h : ObsR p t0 ra rb a b) :
    (persist a).active = (persist b).active ∧ (persist a).locked = (persist b).locked ∧
      (persist a).lockedOrd = (persist b).lockedOrd ∧ (persist a).cstep = (persist b).cstep ∧
      (persist a).trajNum = (persist b).trajNum ∧ (persist a).rngDraws = (persist b).rngDraws ∧
      (persist a).seed = (persist b).seed ∧ (persist a).spawnedRec = (persist b).spawnedRec ∧
      FEq (persist a).frac (persist b).frac := by
  refine ⟨?_, ?_, h.lockedOrd, h.cstep, h.trajNum, h.mainDraws, h.seed, ?_, h.frac⟩
  · show livePaths a = livePaths b
    unfold livePaths; rw [h.trajs]
  · show a.locked.map _ = b.locked.map _
    rw [h.locked]
  · show spawnedKey a = spawnedKey b
    unfold spawnedKey; rw [h.spawned, h.cstep, h.locked]

/-- **23. restart equivalence, several workers, a stop in the final phase — exact.**  As 19, for a rebuilt state that
    carries the saved stream position (`hmd`; `restoreNow` provides it: 22): the restarted run — the record re-issued,
    `.initDone`, the same remaining completions — ends equal to the uninterrupted one up to who runs what, the stream
    position INCLUDED; hence (`image_eq_of_obs`) every restart file it writes from then on is the file the uninterrupted
    run writes. -/
theorem restart_equivalence_multi_final_phase_exact {occ : List (List Int)}
    {recs : List ((List Nat × List Nat) × Nat)} {y : Sys} {s' : St} (k : Nat) (st : Status) (w : List (List Rat))
    (o : PickOutcome) (rest : List Ev) (r : St × Job × List Job) (hT : stepTreat y k st w = .ok r)
    (hR : RestoreRelM occ recs r.1 s') (hS : StopM recs r.1 r.2.2) (hmd : s'.mainDraws = r.1.mainDraws)
    (hend : ¬ (r.1.cstep + r.1.workers ≤ r.1.tsteps)) (hlt : r.1.cstep < r.1.tsteps)
    (hmW : recs.length ≤ r.1.workers) (hsteps : StepsOnly rest)
    {yN : Sys} (hrun : run y (.step k st w o :: rest) = .ok yN)
    (starts : List (PickOutcome × Nat)) (hlen : starts.length = recs.length) {yN' : Sys}
    (hrun' : run { s := s', jobs := [] } (starts.map (fun x => Ev.start x.1 x.2) ++ (.initDone :: rest)) = .ok yN') :
    ObsR False 0 r.1.rows [] yN.s yN'.s ∧ JobsEq yN.jobs yN'.jobs ∧
      (persist yN.s).rngDraws = (persist yN'.s).rngDraws ∧
      ∃ rws, yN.s.rows = r.1.rows ++ rws ∧ yN'.s.rows = rws := by
  have h : RM r.1.rows [] yN yN' := by
    have hrm := restart_run_multi_end k st w o rest r hT hR hS hend hlt hmW hsteps hrun starts hlen hrun'
    obtain ⟨y1, h1, h1'⟩ := run_append_inv _ _ hrun'
    obtain ⟨yR, h3, h1'⟩ := run_cons_ok h1'
    obtain ⟨_, e1, e2, e3⟩ := restart_step_multi_end r.2.2 hR hS hlt hmW starts hlen h1 h3
    have hendR : EndPhase yR := by
      unfold EndPhase
      rw [e1, e2, e3]; omega
    have hm1 := reissue_close_mainDraws hR hS starts hlen h1 h3
    have hm2 := run_end_mainDraws rest hsteps hendR h1'
    rw [nm_self (by rw [hm2, hm1, hmd])] at hrm
    exact hrm
  exact ⟨h.obs, h.jobs, h.obs.mainDraws, h.obs.rows_nil⟩

/-- **24. any chain of restarts from the files on disk, several workers, EVERY kind of stop — no hypothesis on the
    states of the restarted runs.**  As 20, with `ChainN` in place of `ChainM`: the processes rebuild with `restoreNow`, and a process may also
    die in the final phase of the run (fewer steps left than workers, at least one left; then the new process re-issues
    the record and closes the initiation without a fresh pick).  `ChainN` stops "right after the `treat_output` of a
    step": that is the file a kill leaves at ANY instant up to the next `treat_output` — the job issued in between is
    not in the file and is lost with the process (C07 `diskAfter`, Model/RepexDisk).  The ends agree on W, slot order, locks,
    records and ordinals, counters, stream position, spawn ordinal, tables, and hold the same jobs. -/
theorem restart_chain_from_disk {y0 y yN yN' : Sys} (h0 : StartM y0) (pre evs : List Ev)
    (hh : HistOk y0 (pre ++ evs)) (hy : run y0 pre = .ok y) (hti : y.s.toinitiate = -1) (hs : StepsOnly evs)
    (hrun : run y evs = .ok yN) (hc : ChainN y evs yN') :
    ∃ ra rb, ObsR False 0 ra rb yN.s yN'.s ∧ JobsEq yN.jobs yN'.jobs := by
  obtain ⟨ra, rb, h⟩ := restart_chain_now hc (run_reachM pre h0.reach (histOk_prefix pre _ hh) hy)
    (histOk_rest pre _ hh hy) (RM.refl hti) hs hrun
  exact ⟨ra, rb, h.obs, h.jobs⟩

/-! non-vacuity: the final-phase example (two workers, 3 steps, stop after the second) rebuilt with `restoreNow` -/

def eS'' : St :=
  match restoreNow (persist eR.1) 4 2 3 [[-1, -1]] [[0], [0], [0]] (fun pn => (eR.1.wts.lookup pn).getD []) with
  | .ok s => s
  | .error _ => exRestored

def eYN'' : Sys :=
  match run { s := eS'', jobs := [] } (mStarts.map (fun x => Ev.start x.1 x.2) ++ (.initDone :: eRest)) with
  | .ok y => y
  | .error _ => eY

theorem eRunR'' : run { s := eS'', jobs := [] } (mStarts.map (fun x => Ev.start x.1 x.2) ++ (.initDone :: eRest)) = .ok eYN'' :=
  eq_ok_of_isOk (by decide +kernel) fun _ h => by rw [eYN'', h]

theorem eRestoreNowEq : restoreNow (persist eR.1) eR.1.n eR.1.workers eR.1.tsteps [[-1, -1]] eR.1.ensEng
    (fun pn => (eR.1.wts.lookup pn).getD []) = .ok eS'' := by
  rw [eR_config.1, eR_config.2.1, eR_config.2.2.1, eR_config.2.2.2]
  exact eq_ok_of_isOk (by decide +kernel) fun _ h => by rw [eS'', h]

theorem eRestoreRelM'' : RestoreRelM [[-1, -1]] mRecs eR.1 eS'' := by
  obtain ⟨s0, h0, hs⟩ := restoreNow_ok eRestoreNowEq
  rw [eRestoreEq] at h0
  cases h0
  rw [hs]
  exact eRestoreRelM.setMD _

/-- the hypotheses of 23 hold together; the restarted run carries the saved position (5 draws) to its end -/
example : eS''.mainDraws = eR.1.mainDraws ∧ eR.1.mainDraws ≠ 0 ∧ ¬ (eR.1.cstep + eR.1.workers ≤ eR.1.tsteps) ∧
    eR.1.cstep < eR.1.tsteps ∧ mRecs.length ≤ eR.1.workers ∧ eYN''.s.mainDraws = eYN.s.mainDraws := by
  decide +kernel

/-- … and its conclusion, instantiated: exact, the image included -/
example : ObsR False 0 eR.1.rows [] eYN.s eYN''.s ∧ JobsEq eYN.jobs eYN''.jobs ∧
    (persist eYN.s).rngDraws = (persist eYN''.s).rngDraws ∧
    ∃ rws, eYN.s.rows = eR.1.rows ++ rws ∧ eYN''.s.rows = rws :=
  restart_equivalence_multi_final_phase_exact 1 .acc [[1]] mO eRest eR eTreat eRestoreRelM'' eStopM (by decide +kernel)
    (by decide +kernel) (by decide +kernel) (by decide +kernel) eRest_steps eRunU mStarts rfl eRunR''

/-- 22 on the two-worker example of 13 -/
example : ∃ s', restoreNow (persist mR.1) mR.1.n mR.1.workers mR.1.tsteps [[-1, -1]] mR.1.ensEng
      (fun pn => (mR.1.wts.lookup pn).getD []) = .ok s' ∧ RestoreRelM [[-1, -1]] mRecs mR.1 s' ∧
    s'.mainDraws = mR.1.mainDraws :=
  restoreNow_persist_obs_eq_multi mStopStateM [[-1, -1]]

/-! 24 is not vacuous: a chain with a final-phase stop on the 3-step system, one with a fresh-job stop on the 8-step one -/

def eYR'' : Sys :=
  match run { s := eS'', jobs := [] } (mStarts.map (fun x => Ev.start x.1 x.2) ++ [.initDone]) with
  | .ok y => y
  | .error _ => eY

theorem eRunR0'' : run { s := eS'', jobs := [] } (mStarts.map (fun x => Ev.start x.1 x.2) ++ [.initDone]) = .ok eYR'' :=
  eq_ok_of_isOk (by decide +kernel) fun _ h => by rw [eYR'', h]

theorem eRunRest'' : run eYR'' eRest = .ok eYN'' :=
  run_rest (a := mStarts.map (fun x => Ev.start x.1 x.2) ++ [.initDone]) (by simpa using eRunR'') eRunR0''

/-- the chain: two of three steps, the process dies (one job in flight and on record, no fresh job due), the new one
    re-issues it and finishes -/
theorem eChainN : ChainN eY (([] : List Ev) ++ (.step 1 .acc [[1]] mO :: eRest)) eYN'' :=
  ChainN.restartEnd (steps1 := []) rfl eTreat (by decide +kernel) (by decide +kernel) (by decide +kernel) eRestoreNowEq
    (by decide +kernel) eRunR0'' (ChainN.done eRunRest'')

example : ∃ ra rb, ObsR False 0 ra rb eYN.s eYN''.s ∧ JobsEq eYN.jobs eYN''.jobs :=
  restart_chain_from_disk eStartM mPre (.step 1 .acc [[1]] mO :: eRest) eHistOk eRunPre (by decide +kernel)
    eRest_steps eRunU eChainN

def mS'' : St :=
  match restoreNow (persist mR.1) 4 2 8 [[-1, -1]] [[0], [0], [0]] (fun pn => (mR.1.wts.lookup pn).getD []) with
  | .ok s => s
  | .error _ => exRestored

theorem mRestoreNowEq : restoreNow (persist mR.1) mR.1.n mR.1.workers mR.1.tsteps [[-1, -1]] mR.1.ensEng
    (fun pn => (mR.1.wts.lookup pn).getD []) = .ok mS'' := by
  rw [mR_config.1, mR_config.2.1, mR_config.2.2.1, mR_config.2.2.2]
  exact eq_ok_of_isOk (by decide +kernel) fun _ h => by rw [mS'', h]

def mYR'' : Sys :=
  match run { s := mS'', jobs := [] }
      (mStarts.map (fun x => Ev.start x.1 x.2) ++ [.start mO (persist mR.1).rngDraws, .initDone]) with
  | .ok y => y
  | .error _ => mY

theorem mRunR0'' : run { s := mS'', jobs := [] }
    (mStarts.map (fun x => Ev.start x.1 x.2) ++ [.start mO (persist mR.1).rngDraws, .initDone]) = .ok mYR'' :=
  eq_ok_of_isOk (by decide +kernel) fun _ h => by rw [mYR'', h]

def mYN'' : Sys := match run mYR'' mRest with | .ok y => y | .error _ => mY

theorem mRunRest'' : run mYR'' mRest = .ok mYN'' := eq_ok_of_isOk (by decide +kernel) fun _ h => by rw [mYN'', h]

/-- a stop at which a fresh job is due, rebuilt with `restoreNow`: the rebuilt state already has the saved position
    (the shared model's `restore` has 0 there), the ends are the same -/
example : ChainN mY (([] : List Ev) ++ (.step 1 .acc [[1]] mO :: mRest)) mYN'' ∧ mS''.mainDraws = mR.1.mainDraws ∧
    mS'.mainDraws = 0 ∧ mR.1.mainDraws ≠ 0 ∧ mYN''.s.mainDraws = mYN.s.mainDraws :=
  ⟨ChainN.restart (steps1 := []) rfl mTreat mMore mRestoreNowEq (by decide +kernel) mRunR0''
    (ChainN.done mRunRest''), by decide +kernel⟩


/-! ## the graceful stop -/

/-- **25. stopping after K steps the repo's own way leaves the file a kill after step K leaves** (one worker).  `y0` a
    one-worker state about to start (`toinitiate = 1`, nothing on record), the long run (`steps = N = y0.s.tsteps`) does
    `.start`, `.initDone`, the steps `steps1` and one more `treat_output`, leaving `r` with `K = r.1.cstep < N`.  Then the
    SHORT run — same state with `steps = K` (`nt K y0`), same outcomes — goes through the same states up to `steps`; its
    K-th `treat_output` leaves `r.1` with `steps = K`; no further job is issued (`cstep + workers ≤ steps` fails); `loop()`
    answers False (and rewrites the file from that state); and the image is `persist r.1` — the split point of
    `restart_equivalence_reachable` (6) and `restart_chain_equivalence` (7), which therefore hold for restarts of
    gracefully stopped runs continued with `steps` raised to N as they do for killed ones. -/
theorem graceful_stop_same_restart_file {y0 y : Sys} (hw : y0.s.workers = 1) (hti : y0.s.toinitiate = 1)
    (hl0 : y0.s.locked0 = []) (o0 : PickOutcome) (sv0 : Nat) (steps1 : List Ev) (hs : StepsOnly steps1)
    (k : Nat) (st : Status) (w : List (List Rat)) {r : St × Job × List Job}
    (h1 : run y0 (.start o0 sv0 :: .initDone :: steps1) = .ok y) (hT : stepTreat y k st w = .ok r)
    (hK : r.1.cstep < r.1.tsteps) :
    run (nt r.1.cstep y0) (.start o0 sv0 :: .initDone :: steps1) = .ok (nt r.1.cstep y) ∧
      stepTreat (nt r.1.cstep y) k st w = .ok (setTS r.1 r.1.cstep, r.2) ∧
      persist (setTS r.1 r.1.cstep) = persist r.1 ∧
      ¬ ((setTS r.1 r.1.cstep).cstep + (setTS r.1 r.1.cstep).workers ≤ (setTS r.1 r.1.cstep).tsteps) ∧
      (loop (setTS r.1 r.1.cstep)).2 = false := by
  have hsplit : (Ev.start o0 sv0 :: Ev.initDone :: steps1) = [Ev.start o0 sv0, Ev.initDone] ++ steps1 := rfl
  rw [hsplit] at h1 ⊢
  obtain ⟨ya, ha, hb⟩ := run_append_inv _ _ h1
  obtain ⟨a1, a2, a3, a4⟩ := startup_facts hw hti ha
  obtain ⟨c1, _, c3, _⟩ := stepTreat_ctr hT
  obtain ⟨g1, g2, g3, g4, g5⟩ := graceful_stop_image a2 a1 steps1 hs k st w hb hT hK
  refine ⟨?_, g2, g3, g4, g5⟩
  obtain ⟨f1, _, f3, _⟩ := run_steps_ctr steps1 hs hb
  have hKgt : y0.s.cstep < r.1.cstep := by rw [c1, f1, a3]; omega
  have hlt0 : y0.s.cstep < y0.s.tsteps := by
    have : r.1.tsteps = y0.s.tsteps := by rw [c3, f3, a4]
    omega
  have hst := startup_nt y0 r.1.cstep o0 sv0 hw hti hl0 hlt0 hKgt
  rw [ha] at hst
  rw [run_append_eq, hst]
  exact g1

/-- with several workers the short run is NOT a prefix of the long one: two workers, `steps = 3` against `steps = 8`
    — after the second completion the long run hands the freed worker a new job, the short one does not -/
theorem graceful_stop_multi_counterexample :
    (match run { s := mFresh, jobs := [] } (mPre ++ [.step 1 .acc [[1]] mO]),
           run (nt 3 { s := mFresh, jobs := [] }) (mPre ++ [.step 1 .acc [[1]] mO]) with
     | .ok a, .ok b => decide (a.jobs.length = 2 ∧ b.jobs.length = 1 ∧ a.s.locked ≠ b.s.locked)
     | _, _ => false) = true := by
  decide +kernel

/-- the hypotheses of 25 hold on the one-worker example (split after the third of six steps) … -/

example : exY0.s.workers = 1 ∧ exY0.s.toinitiate = 1 ∧ exY0.s.locked0 = [] ∧ exR.1.cstep = 3 ∧ exR.1.tsteps = 6 := by
  decide +kernel

/-- … and its conclusion, instantiated: the run with `steps = 3` ends with the restart file of the six-step run's third
    step, and stops -/
example : run (nt 3 exY0) exPre = .ok (nt 3 exY) ∧ stepTreat (nt 3 exY) 0 .acc exW = .ok (setTS exR.1 3, exR.2) ∧
    persist (setTS exR.1 3) = persist exR.1 ∧ (loop (setTS exR.1 3)).2 = false := by
  have h := graceful_stop_same_restart_file (y0 := exY0) (by decide +kernel) (by decide +kernel) (by decide +kernel)
    { t := 1, e := 1 } 0 [.step 0 .acc exW { t := 0, e := 0 }, .step 0 .rej [] { t := 1, e := 1 }]
    (by simp [StepsOnly]) 0 .acc exW exRunPre exTreat (by decide +kernel)
  have hc : exR.1.cstep = 3 := by decide +kernel
  rw [hc] at h
  exact ⟨h.1, h.2.1, h.2.2.1, h.2.2.2.2⟩


end Infretis.C06
