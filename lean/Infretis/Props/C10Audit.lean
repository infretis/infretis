import Infretis.Props.C10Ext
import Infretis.Lemmas.WFAudit
/-!
# C10 — every left/right pair, time reversal, `load_paths` and `run_md` as they loop, `path_arr` exactly

1. Witnesses for `left > right` (a cap below the ensemble's interface is not forbidden by the weight functions: the
   scan then records nothing and the specification counts nothing); the `_all` statements, which hold for every
   left/right pair, stand in `C10Core` (exactness, symmetry, positivity) and `C10Ext` (segments, pick, seed,
   `compute_weight`, weight vector).
2. Time reversal of the weight including the doubling (`compute_weight`) and of the whole weight vector
   (`calc_cv_vector`).
3. `REPEX_state.load_paths` loops over `range(size − 1)` with the state's size, not over the paths it is given
   (`loadPathsWeightsN`); `Infretis.WFExt.loadPathsWeights`, which weighs every given path, agrees with it only
   when the two numbers agree (`load_paths_count_counterexample`).
4. `run_md` weighs every trial of `zip(trials, picked.keys())` with the `minus` flag of its own ensemble number
   (two trials after a zero swap): `runMdAll`.
5. `path_arr` is exactly the list of valid sub-paths, in path order, none twice (`scan_segments_valid_all` alone
   excludes neither a missed nor a doubly recorded sub-path).
-/
namespace Infretis.C10
open Infretis.WF Infretis.WFExt

/-! ## 1. every left/right pair -/

example : weight 2 0 [-1, 1, 3, 1, -1] = 0 ∧ specWeight 2 0 [-1, 1, 3, 1, -1] = 0 ∧
    weight 0 2 [-1, 1, 3, 1, -1] = 2 := by decide +kernel

example : 0 < weight 0 2 [-1, 1, 3] := by decide +kernel

example : (2, 5, 2) ∈ (scan 0 2 [-1, 1, -1, 1, 1, -1]).arr := by decide +kernel

example : ∃ o, wfWeightAndPick (some 7) 1 3 [0, 1, 2, 4, 2, 1, 0] true (some (1 / 2)) = .ok o ∧ o.seg.copied = true :=
  ⟨{ nFrames := 4, seg := { frames := [0, 1, 2, 4], first := 0, maxlen := some 7, copied := true }, draws := 1 },
    by decide +kernel, rfl⟩

example : wfSeed (some 100) 3 5 (some 1) [0, 1, 2, 4, 2, 1, 0] (1 / 2) = .ok none := by decide +kernel

example : computeWeightM [-1, 1, 3, 1, -1] 0 2 1 .wf = .ok 0 := by decide +kernel

-- a cap (1) below the wire-fencing ensemble's interface (2): the entry is 0
example : calcCvVector [-1, 1, 3, 5, 3, -1]
    { interfaces := [0, 2, 4, 6], moves := [.sh, .sh, .wf, .sh], lm1 := none, cap := some 1, minus := false } =
    .ok [1, 0, 1, 0] := by decide +kernel

/-! ## 2. time reversal of the doubled weight and of the weight vector -/

/-- **`compute_weight` is unchanged under time reversal**, doubling included, for every move string, every
    interface triple, errors included. -/
theorem computeWeightM_reverse (ops : List Int) (i0 i1 i2 : Int) (mv : Move) :
    computeWeightM ops.reverse i0 i1 i2 mv = computeWeightM ops i0 i1 i2 mv := by
  unfold computeWeightM
  rw [weight_reverse_all]
  simp only [List.head?_reverse, List.getLast?_reverse]
  cases hh : ops.head? with
  | none =>
    have : ops = [] := by simpa using hh
    subst this
    rfl
  | some first =>
    cases hl : ops.getLast? with
    | none =>
      have : ops = [] := by simpa using hl
      subst this
      simp at hh
    | some last =>
      simp only []
      rw [sidesDiffer_comm, startPoint_eq_endPoint, ← startPoint_eq_endPoint i0 i2 first]

example : computeWeightM [-1, 1, 3, 5].reverse 0 0 4 .wf = .ok 4 ∧ computeWeightM [-1, 1, 3, 5] 0 0 4 .wf = .ok 4 := by
  decide +kernel

theorem cvLoop_reverse (ops : List Int) (i0 c pmax : Int) : ∀ (intfs : List Int) (mvs : List Move),
    cvLoop ops.reverse i0 c pmax intfs mvs = cvLoop ops i0 c pmax intfs mvs := by
  intro intfs
  induction intfs with
  | nil => intro mvs; simp [cvLoop]
  | cons a is ih =>
    intro mvs
    cases mvs with
    | nil => simp [cvLoop]
    | cons m ms => simp only [cvLoop, computeWeightM_reverse, ih]

/-- **The weight vector is unchanged under time reversal**: every argument combination of `calc_cv_vector`
    (minus / plus, any cap, any moves), errors included. -/
theorem calcCvVector_reverse (ops : List Int) (a : CvArgs) :
    calcCvVector ops.reverse a = calcCvVector ops a := by
  unfold calcCvVector
  simp only [maxOf_reverse, cvLoop_reverse]

example : calcCvVector [-1, 1, 3, 5, 3, 7].reverse
    { interfaces := [0, 2, 4, 6], moves := [.sh, .sh, .wf, .sh], lm1 := none, cap := some 5, minus := false } =
    .ok [1, 2, 1, 0] := by decide +kernel

/-! ## 3. load_paths with the state's own size -/

/-- `loadPathsWeights` (every given path weighed) is what `load_paths` does exactly when the number of paths equals
    the state's size -/
theorem loadPathsWeightsN_of_length (intfs : List Int) (moves : List Move) (lm1 cap : Option Int)
    (paths : List (List Int)) :
    loadPathsWeightsN paths.length intfs moves lm1 cap paths =
      (match loadPathsWeights intfs moves lm1 cap paths with
       | .ok wss => .ok (wss.map some)
       | .error e => .error e) := by
  cases paths with
  | nil => simp [loadPathsWeightsN, loadPlusIdx, loadPathsWeights]
  | cons p0 plus =>
    have hidx := loadPlusIdx_eq_loadPlus intfs moves lm1 cap plus [p0]
    simp only [List.singleton_append, List.length_singleton] at hidx
    unfold loadPathsWeightsN loadPathsWeights
    simp only [List.length_cons, Nat.add_sub_cancel, hidx]
    cases h : loadPlus intfs moves lm1 cap plus with
    | error e => rfl
    | ok ws =>
      simp [loadPlus_length h]

/-- `loadPathsWeights` differs from the code when the number of paths is not the state's size: three ensembles,
    two paths — `load_paths` raises IndexError at `paths[2]` (and has already weighed `paths[1]`), `loadPathsWeights`
    returns weights for both paths; four paths — the fourth is never looked at, `loadPathsWeights` weighs it. -/
theorem load_paths_count_counterexample :
    loadPathsWeightsN 3 [0, 2, 4] [.sh, .wf, .sh] none none [[1, -1, 1], [-1, 1, 5]] = .error .index ∧
    loadPathsWeights [0, 2, 4] [.sh, .wf, .sh] none none [[1, -1, 1], [-1, 1, 5]] = .ok [[1], [2, 1, 0]] ∧
    loadPathsWeightsN 3 [0, 2, 4] [.sh, .wf, .sh] none none [[1, -1, 1], [-1, 1, 5], [-1, 3, 5], [-1, 3, -1]] =
      .ok [some [1], some [2, 1, 0], some [2, 1, 0], none] := by
  decide +kernel

/-- **What `load_paths` assigns, for a state of any size.**  When it returns: one entry per given path; the [0-] path
    gets `(1,)`; there are at least `size` paths (for `size ≥ 1`); path `j` with `1 ≤ j < size` gets the weight vector
    of `calc_cv_vector` with the configured interfaces, moves and cap; every path from index `max size 1` on is left
    without weights. -/
theorem load_paths_sized (size : Nat) (intfs : List Int) (moves : List Move) (lm1 cap : Option Int)
    (paths : List (List Int)) (out : List (Option (List Nat)))
    (h : loadPathsWeightsN size intfs moves lm1 cap paths = .ok out) :
    out.length = paths.length ∧ out.head? = some (some [1]) ∧ size ≤ max paths.length 1 ∧
    (∀ j, 1 ≤ j → j < size → ∃ p w, paths[j]? = some p ∧ loadPathWeights intfs moves lm1 cap p = .ok w ∧
        out[j]? = some (some w)) ∧
    (∀ j, max size 1 ≤ j → j < paths.length → out[j]? = some none) := by
  unfold loadPathsWeightsN at h
  cases hw : loadPlusIdx intfs moves lm1 cap paths 1 (size - 1) with
  | error e => simp [hw] at h
  | ok ws =>
    simp only [hw] at h
    cases paths with
    | nil => simp at h
    | cons p0 rest =>
      simp only at h
      injection h with h
      subst h
      obtain ⟨hl, hb, hget⟩ := loadPlusIdx_spec intfs moves lm1 cap (p0 :: rest) _ _ ws hw
      simp only [List.length_cons] at hb
      have hle : ws.length ≤ rest.length := by omega
      refine ⟨by simp; omega, rfl, by simp; omega, ?_, ?_⟩
      · intro j h1 h2
        obtain ⟨p, w, hp, hpw, hwt⟩ := hget (j - 1) (by omega)
        refine ⟨p, w, ?_, hpw, ?_⟩
        · rw [← hp]; congr 1; omega
        · obtain ⟨j', rfl⟩ : ∃ j', j = j' + 1 := ⟨j - 1, by omega⟩
          have hj' : j' < ws.length := by omega
          simp only [Nat.add_sub_cancel] at hwt
          rw [List.getElem?_cons_succ, List.getElem?_append_left (by simpa using hj')]
          simp [hwt]
      · intro j h1 h2
        obtain ⟨j', rfl⟩ : ∃ j', j = j' + 1 := ⟨j - 1, by omega⟩
        simp only [List.length_cons] at h2
        have hj' : ws.length ≤ j' := by omega
        rw [List.getElem?_cons_succ, List.getElem?_append_right (by simpa using hj')]
        simp only [List.length_map]
        rw [List.getElem?_replicate]
        rw [if_pos (by omega)]

example : loadPathsWeightsN 4 [0, 2, 4, 6] [.sh, .sh, .wf, .sh] none (some 5)
    [[1, -1, 1], [-1, 1, 3, 5, 3, -1], [-1, 1, 3, 5, 3, -1], [-1, 7]] =
    .ok [some [1], some [1, 2, 1, 0], some [1, 2, 1, 0], some [1, 0, 1, 0]] := by decide +kernel

/-! ## 4. run_md over all its trials -/

/-- **Every trial of one `run_md` call gets the vector of its own ensemble.**  When `run_md` returns, it has looked
    at `min(#trials, #picked)` trials; for status "ACC" trial `k` carries `calc_cv_vector(…, minus = ens_k < 0)` with
    the λ₋₁ of ITS ensemble and the one cap / interface list / move list of `md_items` (`runMdWeights`, the function
    `load_and_run_md_agree` and `cv_vector_entries` are about); for any other status no trial gets weights. -/
theorem run_md_each_trial (intfs : List Int) (moves : List Move) (cap : Option Int) (acc : Bool)
    (trials : List (List Int)) (keys : List (Int × Option Int)) (out : List (Option (List Nat)))
    (h : runMdAll intfs moves cap acc trials keys = .ok out) :
    out.length = min trials.length keys.length ∧
    ∀ k (hk : k < out.length) (ht : k < trials.length) (hq : k < keys.length),
      (acc = true → ∃ w, out[k] = some w ∧
          runMdWeights intfs moves keys[k].2 cap keys[k].1 trials[k] = .ok w) ∧
      (acc = false → out[k] = none) := by
  obtain ⟨hl, hget⟩ := runMdAll_spec intfs moves cap acc trials keys out h
  refine ⟨hl, ?_⟩
  intro k hk ht hq
  have h1 := hget k hk ht hq
  unfold runMdOne at h1
  split at h1
  · simp at h1
  · split at h1
    · simp at h1
    · constructor
      · intro ha
        simp only [ha, if_true] at h1
        cases hw : runMdWeights intfs moves keys[k].2 cap keys[k].1 trials[k] with
        | error e => simp [hw] at h1
        | ok w =>
          simp only [hw] at h1
          injection h1 with h1
          exact ⟨w, h1.symm, rfl⟩
      · intro ha
        simp only [ha] at h1
        injection h1 with h1
        exact h1.symm

-- a zero swap: the new [0-] path gets (1,) by λ₀ ≤ max, the new [0+] path the full vector
example : runMdAll [0, 2, 4] [.sh, .wf, .sh] none true [[1, -1, 1], [-1, 1, 5]] [(-1, none), (0, none)] =
    .ok [some [1], some [2, 1, 0]] := by decide +kernel

/-! ## 5. `path_arr` is exactly the list of valid sub-paths -/

/-- **The scan's `path_arr` is the scan-free list of valid sub-paths** (`specSegs`: one walk with the nearest outside
    frame and the length of the current inside run; no keys), for every left/right pair and every path. -/
theorem path_arr_eq_valid_subpaths (l r : Int) (ops : List Int) : (scan l r ops).arr = specSegs l r ops :=
  Infretis.WFExt.scan_arr_eq_specSegs l r ops

/-- **Soundness and completeness of `path_arr`.**  `(a, b, c)` is recorded iff frames `a < b` lie outside `[l, r)` and
    are not both on the right, all `c = b − a − 1 ≥ 1` frames between them lie inside. -/
theorem path_arr_mem_iff (l r : Int) (ops : List Int) (seg : Nat × Nat × Nat) :
    seg ∈ (scan l r ops).arr ↔ ValidSeg l r ops seg := by
  rw [path_arr_eq_valid_subpaths]
  exact mem_specSegs_iff l r ops seg

/-- recorded in path order, each sub-path ending no later than the next one starts; hence none twice -/
theorem path_arr_sorted (l r : Int) (ops : List Int) :
    (scan l r ops).arr.Pairwise (fun s u => s.2.1 ≤ u.1) ∧ (scan l r ops).arr.Nodup := by
  rw [path_arr_eq_valid_subpaths]
  exact ⟨(specSegs_sorted l r ops).1, specSegs_nodup l r ops⟩

/-- **Pick law over the valid sub-paths.**  For a draw `0 < ξ`, the segment handed back is the valid sub-path at the
    position whose cumulative frame counts bracket `ξ·n`, `n` = the number of frames on all valid sub-paths. -/
theorem pick_law_valid_subpaths (l r : Int) (ops : List Int) (xi : Rat) (hxi : 0 < xi) (seg : Nat × Nat × Nat) :
    pick l r ops xi = some seg ↔
      0 < specWeight l r ops ∧
      ∃ pre post, specSegs l r ops = pre ++ seg :: post ∧
        ((sumLens pre : Nat) : Rat) < xi * (specWeight l r ops : Rat) ∧
        xi * (specWeight l r ops : Rat) ≤ ((sumLens pre + seg.2.2 : Nat) : Rat) := by
  rw [pick_law l r ops xi hxi seg, scan_weight_eq_spec_all, path_arr_eq_valid_subpaths]

example : specSegs 0 2 [-1, 1, 3, 1, 3, -1, 0, 1, -1] = [(0, 2, 1), (5, 8, 2)] ∧
    (scan 0 2 [-1, 1, 3, 1, 3, -1, 0, 1, -1]).arr = [(0, 2, 1), (5, 8, 2)] := by decide +kernel
example : ValidSeg 0 2 [-1, 1, 3, 1, 3, -1, 0, 1, -1] (5, 8, 2) :=
  (path_arr_mem_iff 0 2 _ _).1 (by decide)

end Infretis.C10
