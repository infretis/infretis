import Infretis.Lemmas.MovesRat
import Infretis.Lemmas.MovesMember
import Infretis.Lemmas.MovesWitness
import Infretis.Lemmas.MovesWfB
import Infretis.Lemmas.MovesTable
import Infretis.Lemmas.MovesWfW
import Infretis.Lemmas.MovesRunMd
import Infretis.Lemmas.MovesTime
import Infretis.Lemmas.MovesTimeLink
import Infretis.Lemmas.ExceptAux
/-!
# C09 — accepted paths belong to their ensemble; rejections change nothing

Model: `Infretis/Model/Moves.lean` (`shoot`, mirrors tis.py `shoot`, `prepare_shooting_point`,
`check_kick`, `shoot_backwards`, `paste_paths`, `check_interfaces`) on top of the shared
`Infretis/Model/AddToPath.lean` (`add_to_path`, `Path.append`).
All statements hold for order sequences, engine streams and limits of any size.

VARIANTS.  `Variant.repaired` is the code as it is since /repo commit f955162 (`add_to_path`: `if
path.length == path.maxlen and not success`); for it the shared model `Engine.addToPath` and
`addToPathV .repaired` coincide (`addToPathV_repaired_eq_shared`) and the property's own threshold
holds: `shoot_threshold : accept ↔ ξ ≤ n_old/n_new`.
`Variant.asIs` is the code BEFORE that commit, kept as the historical record of the finding:
`add_to_path` reported failure whenever `length == maxlen` even if that very frame crossed an
interface, so the rule was `L_new + 1 ≤ maxlen` (`shoot_accept_iff`), not `ξ ≤ n_old/n_new`:
`shoot_threshold_counterexample`, `shoot_threshold_partial`.  A regression to `asIs` is reported by
the tie under the signature `C09:shoot:length-eq-maxlen-rejected`.
The membership / draw / rejection theorems hold for both variants (they are stated for any `v`).
-/
namespace Infretis.C09
open Infretis.Moves Infretis.Engine

/-- the variant model of `add_to_path` is the shared model for `repaired` (= the code) -/
theorem addToPathV_repaired_eq_shared (ops : List Int) (ml : Option Nat) (x l r : Int) :
    addToPathV .repaired ops ml x l r = addToPath ops ml x l r := addToPathV_repaired ops ml x l r

theorem feedV_repaired_eq_shared (l r : Int) (ml : Option Nat) (s ops : List Int) (k : Nat) :
    feedV .repaired l r ml ops s k = feed l r ml ops s k := feedV_repaired l r ml s ops k

example : addToPathV .repaired [1, 2] (some 3) 5 0 4 = addToPath [1, 2] (some 3) 5 0 4
    ∧ (addToPath [1, 2] (some 3) 5 0 4).map (·.2.success) = some true
    ∧ (addToPathV .asIs [1, 2] (some 3) 5 0 4).map (·.2.success) = some false := by decide

/-! ### acceptance is reported exactly with status ACC -/

theorem accept_iff_status_acc (v : Variant) (i : ShootIn) (o : ShootOut) (h : shoot v i = .ok o) :
    o.accept = true ↔ o.status = .ACC := shoot_accept_status v i o h

/-- a concrete accepted move and a concrete rejected one (`exIn`, evaluated in Lemmas/MovesWitness.lean) -/
example : ∃ o, shoot .repaired exIn = .ok o ∧ o.accept = true ∧ o.status = .ACC ∧ o.trial = [-1, 3, 2, 2, 5] := by
  exact ⟨_, eq_ok_of_toOption exIn_eval, rfl, rfl, rfl⟩

example : ∃ o, shoot .repaired { exIn with forw := [2, 2, 2] } = .ok o ∧ o.accept = false ∧ o.status = .FTL := by
  exact ⟨_, eq_ok_of_toOption exIn_reject_eval, rfl, rfl⟩

/-! ### shooting points are never end points -/

/-- every completed call requested exactly `integers(1, L−1)` first (then at most one `random()`),
    and the index it used is an interior index of the old path -/
theorem shooting_point_interior (v : Variant) (i : ShootIn) (o : ShootOut) (h : shoot v i = .ok o) :
    (o.draws = [.integers 1 ((i.old.length : Int) - 1)] ∨
      o.draws = [.integers 1 ((i.old.length : Int) - 1), .random]) ∧
    o.genIdx = i.idx ∧ 1 ≤ o.genIdx ∧ o.genIdx + 2 ≤ i.old.length := by
  have r := (shoot_ok_iff v i o).1 h
  obtain ⟨_, h1, h2⟩ := r.ready
  refine ⟨?_, ?_, ?_⟩
  -- the first request is always `integers(1, L−1)`; a second one can only come from `drawMaxlen`
  · cases r with
    | kob => exact Or.inl rfl
    | backFail B | wrongEnd B => rcases drawMaxlen_draws i _ _ B.draw with rfl | rfl <;> simp
    | forwFail F | final F => rcases drawMaxlen_draws i _ _ F.draw with rfl | rfl <;> simp
  · cases r <;> rfl
  · cases r <;> exact ⟨h1, h2⟩

example : (shoot .repaired exIn).toOption.map (fun o => (o.draws, o.genIdx))
    = some ([.integers 1 3, .random], 2) := by rw [exIn_eval]; rfl

/-! ### accepted paths belong to their ensemble -/

/-- **Membership.** If `shoot` returns `ACC`, the trial path is
    `xB :: reverse(preB) ++ kick :: preF ++ [xF]` where `preB ++ [xB]` / `preF ++ [xF]` are the
    values the engine produced backward / forward (in order: "ordered in time"), and
    * the first frame `xB` is strictly outside on a side the start condition allows,
    * the last frame `xF` is strictly outside,
    * every other frame, the shooting point included, is inside `[l, r]` (the code's "inside":
      not `< l`, not `> r`), the shooting point even in `[l, r)`,
    * if `L` is not allowed, neither end lies at or below the lowest interface,
    * the path crosses the middle interface (`min < m ≤ max`, which is what gives it weight 1 in
      its own ensemble) unless the effective start condition is `{L, R}`,
    * its length is between 3 and `maxlength`,
    * `generated = ("sh", kick, idx, nb)` with `trial[nb] = kick`, `nb` and `idx` interior indices,
    * `time_origin = old.time_origin + idx − nb`,
    and `accept` is `True`. -/
theorem shoot_acc_member (v : Variant) (i : ShootIn) (o : ShootOut) (h : shoot v i = .ok o)
    (hs : o.status = .ACC) :
    ∃ (preB preF restB restF : List Int) (xB xF : Int),
      i.back = preB ++ xB :: restB ∧ i.forw = preF ++ xF :: restF ∧
      o.trial = xB :: (preB.reverse ++ i.kick :: (preF ++ [xF])) ∧
      ((xB < i.l ∧ i.sc.hasL = true) ∨ (i.r < xB ∧ i.sc.hasR = true)) ∧
      (xF < i.l ∨ i.r < xF) ∧
      (∀ y ∈ preB.reverse ++ i.kick :: preF, i.l ≤ y ∧ y ≤ i.r) ∧ i.kick < i.r ∧
      (i.sc.hasL = false → min3 i.l i.m i.r < xB ∧ min3 i.l i.m i.r < xF) ∧
      (((effSc i).hasL = true ∧ (effSc i).hasR = true) ∨
        ((∃ y ∈ o.trial, y < i.m) ∧ ∃ y ∈ o.trial, i.m ≤ y)) ∧
      3 ≤ o.trial.length ∧ o.trial.length ≤ i.maxlength ∧
      o.genNb = preB.length + 1 ∧ o.trial[o.genNb]? = some i.kick ∧ o.genNb + 2 ≤ o.trial.length ∧
      o.genSp = i.kick ∧ o.genIdx = i.idx ∧ 1 ≤ i.idx ∧ i.idx + 2 ≤ i.old.length ∧
      o.timeOrigin = i.oldTimeOrigin + i.idx - o.genNb ∧ o.accept = true := by
  obtain ⟨preB, preF, restB, restF, xB, xF, maxlen, d2, T, hd, hfit, rfl⟩ := (shoot_acc_iff v i o).1 ⟨h, hs⟩
  obtain ⟨hstart, h0L, hcross⟩ := T.facts
  have hML := drawMaxlen_le i maxlen d2 hd
  have htr : fullTrial i.kick preB xB preF xF = xB :: (preB.reverse ++ i.kick :: (preF ++ [xF])) := by simp [fullTrial]
  refine ⟨preB, preF, restB, restF, xB, xF, T.hB.eq, T.hF.eq, htr, hstart, T.hF.outside,
    T.hB.between T.hF ⟨T.hk1, Int.le_of_lt T.hk2⟩, T.hk2, h0L, hcross, by simp [fullTrial]; omega,
    by simp [fullTrial]; omega, rfl, ?_, by simp [fullTrial], rfl, rfl, T.hidx1, T.hidx2, rfl, rfl⟩
  simp only [ShootOut.accepted, htr]
  have : (xB :: (preB.reverse ++ i.kick :: (preF ++ [xF]))) = (xB :: preB.reverse) ++ i.kick :: (preF ++ [xF]) := by
    simp
  rw [this, List.getElem?_append_right (by simp)]
  simp

example : (shoot .repaired exIn).toOption.map (·.status) = some .ACC := by rw [exIn_eval]; rfl

/-- **Weight in the own ensemble.** The `sh` entry of `calc_cv_vector` for the ensemble's own interface
    `m` is `1 if m ≤ ordermax else 0` (`WF.cvVectorGo`); for an accepted path of an ensemble whose
    effective start condition is not `{L, R}` it is 1. -/
theorem shoot_acc_weight_nonzero (v : Variant) (i : ShootIn) (o : ShootOut) (h : shoot v i = .ok o)
    (hs : o.status = .ACC) (hsc : ¬ ((effSc i).hasL = true ∧ (effSc i).hasR = true)) :
    ∃ pmax, WF.maxOf o.trial = some pmax ∧ (if i.m ≤ pmax then 1 else 0) = 1 := by
  obtain ⟨preB, preF, restB, restF, xB, xF, _, _, htr, _, _, _, _, _, hcross, _⟩ := shoot_acc_member v i o h hs
  rcases hcross with hc | ⟨_, hc⟩
  · exact absurd hc hsc
  · rw [htr] at hc ⊢
    refine ⟨_, rfl, ?_⟩
    exact if_pos ((WF.maxOf_ge _ _ i.m rfl).2 hc)

example : ¬ ((effSc exIn).hasL = true ∧ (effSc exIn).hasR = true) := by decide

/-! ### the acceptance rule -/

/-- **Exact characterisation (any way the limit is obtained).** With `maxlen` the limit shoot computed,
    a reaching trial of `L_new = |preB| + |preF| + 3` frames is accepted iff
    `L_new + 1 ≤ maxlen` (as-is) resp. `L_new ≤ maxlen` (repaired). -/
theorem shoot_accept_iff_limit (v : Variant) (i : ShootIn) (maxlen : Nat) (d2 : List Draw)
    (preB preF restB restF : List Int) (xB xF : Int) (T : ReachingTrial i preB preF restB restF xB xF)
    (hd : drawMaxlen i = .ok (maxlen, d2)) :
    Accepts v i ↔ preB.length + preF.length + 3 + slack v ≤ maxlen := by
  constructor
  · rintro ⟨o, ho, hacc⟩
    obtain ⟨preB', preF', _, _, _, _, maxlen', _, T', hd', hfit, _⟩ :=
      (shoot_acc_iff v i o).1 ⟨ho, (shoot_accept_status v i o ho).1 hacc⟩
    -- the same input: the same limit, and the streams leave `[l, r]` at the same frames
    cases hd.symm.trans hd'
    rw [(T.hB.unique T'.hB).1, (T.hF.unique T'.hF).1]
    exact hfit
  · exact fun hc => ⟨_, ((shoot_acc_iff v i _).2 ⟨_, _, _, _, _, _, _, _, T, hd, hc, rfl⟩).1, rfl⟩

/-- **Exact characterisation with the drawn ξ.** `maxlen = min(⌊(L_old−2)/ξ⌋ + 2, maxlength)`, so the
    as-is code accepts iff `L_new + 1 ≤ min(⌊(L_old−2)/ξ⌋ + 2, maxlength)`, the repaired one iff `L_new ≤` that. -/
theorem shoot_accept_iff (v : Variant) (i : ShootIn)
    (preB preF restB restF : List Int) (xB xF : Int) (T : ReachingTrial i preB preF restB restF xB xF)
    (hld : i.genLd = false) (ham : i.allowMax = false) (hxi : 0 < i.xi) :
    Accepts v i ↔ preB.length + preF.length + 3 + slack v
      ≤ min (((((i.old.length : Int) - 2 : Int) : Rat) / i.xi).floor.toNat + 2) i.maxlength :=
  shoot_accept_iff_limit v i _ _ preB preF restB restF xB xF T (drawMaxlen_xi i hld ham hxi)

/-- in terms of ξ: with `n_old = L_old − 2`, `n_new = L_new − 2 = |preB| + |preF| + 1` and the absolute
    limit not binding, the as-is code accepts iff `ξ ≤ n_old / (n_new + 1)`; the repaired one iff
    `ξ ≤ n_old / n_new` -/
theorem shoot_accept_iff_xi (v : Variant) (i : ShootIn)
    (preB preF restB restF : List Int) (xB xF : Int) (T : ReachingTrial i preB preF restB restF xB xF)
    (hld : i.genLd = false) (ham : i.allowMax = false) (hxi : 0 < i.xi)
    (hML : preB.length + preF.length + 3 + slack v ≤ i.maxlength) :
    Accepts v i ↔ i.xi ≤ ((i.old.length : Rat) - 2) / ((preB.length + preF.length + 1 + slack v : Nat) : Rat) := by
  rw [shoot_accept_iff v i preB preF restB restF xB xF T hld ham hxi]
  have hL := T.hL
  have ha : (0 : Int) ≤ (i.old.length : Int) - 2 := by omega
  have h1 : preB.length + preF.length + 3 + slack v
      ≤ min (((((i.old.length : Int) - 2 : Int) : Rat) / i.xi).floor.toNat + 2) i.maxlength ↔
      preB.length + preF.length + 1 + slack v ≤ ((((i.old.length : Int) - 2 : Int) : Rat) / i.xi).floor.toNat := by
    omega
  have hpos : (0 : Rat) < ((preB.length + preF.length + 1 + slack v : Nat) : Rat) := by
    exact_mod_cast Nat.succ_pos _ |>.trans_le (by omega : 1 ≤ preB.length + preF.length + 1 + slack v)
  rw [h1, le_floor_toNat_iff _ _ _ ha hxi, le_div_iff₀ hpos]
  push_cast
  rfl

/-- **The property's threshold — holds for the code as it is (`repaired`).** A shooting trial whose trajectories
    reach the interfaces (and fits the absolute limit) is accepted exactly when the drawn number is at
    most `n_old / n_new`. -/
theorem shoot_threshold (i : ShootIn)
    (preB preF restB restF : List Int) (xB xF : Int) (T : ReachingTrial i preB preF restB restF xB xF)
    (hld : i.genLd = false) (ham : i.allowMax = false) (hxi : 0 < i.xi)
    (hML : preB.length + preF.length + 3 ≤ i.maxlength) :
    Accepts .repaired i ↔ i.xi ≤ ((i.old.length : Rat) - 2) / ((preB.length + preF.length + 1 : Nat) : Rat) := by
  have := shoot_accept_iff_xi .repaired i preB preF restB restF xB xF T hld ham hxi (by simpa [slack] using hML)
  simpa [slack] using this

theorem wit_reaching : ReachingTrial wit [2] [2, 2] [] [] (-1) 5 where
  hL := by decide
  hidx1 := by decide
  hidx2 := by decide
  hk1 := by decide
  hk2 := by decide
  hB := ⟨rfl, by decide, by decide⟩
  hF := ⟨rfl, by decide, by decide⟩
  hside := by decide
  hshape := wit_shape

/-- **Counterexample (the code before /repo f955162, `asIs`).** The trial of `wit` reaches both interfaces,
    `ξ = 0.49 ≤ 2/4 = n_old/n_new`, yet the move is rejected with status `FTL`: the property's threshold was false of
    that code; `repaired` accepts the same trial. -/
theorem shoot_threshold_counterexample :
    ReachingTrial wit [2] [2, 2] [] [] (-1) 5 ∧ wit.genLd = false ∧ wit.allowMax = false ∧ 0 < wit.xi ∧
    [2].length + [2, 2].length + 3 + 1 ≤ wit.maxlength ∧
    wit.xi ≤ ((wit.old.length : Rat) - 2) / (([2].length + [2, 2].length + 1 : Nat) : Rat) ∧
    (∃ o, shoot .asIs wit = .ok o ∧ o.accept = false ∧ o.status = .FTL ∧ o.trial = [-1, 2, 2, 2, 2, 5]) ∧
    ¬ Accepts .asIs wit ∧ Accepts .repaired wit := by
  have hev := eq_ok_of_toOption wit_asIs_eval
  have hrep := eq_ok_of_toOption wit_repaired_eval
  have hle : wit.xi ≤ ((wit.old.length : Rat) - 2) / (([2].length + [2, 2].length + 1 : Nat) : Rat) := by
    have h := wit_xi_le
    have e : ((wit.old.length : Rat) - 2) / (([2].length + [2, 2].length + 1 : Nat) : Rat) = 2 / 4 := by
      simp [wit]; norm_num
    rw [e]; exact h
  refine ⟨wit_reaching, rfl, rfl, wit_xi_pos, by decide, hle, ?_, ?_, ?_⟩
  · exact ⟨_, hev, rfl, rfl, rfl⟩
  · rintro ⟨o, ho, ha⟩
    cases ho.symm.trans hev
    cases ha
  · exact ⟨_, hrep, rfl⟩

/-- **What did hold for the earlier (`asIs`) code.** Under the same hypotheses (absolute limit not binding):
    acceptance implies `ξ ≤ n_old/n_new`, and the trials with `ξ ≤ n_old/n_new` that are nevertheless
    rejected are exactly those with `n_old/(n_new+1) < ξ`, i.e. `⌊n_old/ξ⌋ = n_new`
    (`L_new = maxlen`, the trial fills the drawn limit exactly). -/
theorem shoot_threshold_partial (i : ShootIn)
    (preB preF restB restF : List Int) (xB xF : Int) (T : ReachingTrial i preB preF restB restF xB xF)
    (hld : i.genLd = false) (ham : i.allowMax = false) (hxi : 0 < i.xi)
    (hML : preB.length + preF.length + 3 + 1 ≤ i.maxlength) :
    (Accepts .asIs i → i.xi ≤ ((i.old.length : Rat) - 2) / ((preB.length + preF.length + 1 : Nat) : Rat)) ∧
    ((i.xi ≤ ((i.old.length : Rat) - 2) / ((preB.length + preF.length + 1 : Nat) : Rat) ∧ ¬ Accepts .asIs i) ↔
      (((i.old.length : Rat) - 2) / ((preB.length + preF.length + 1 + 1 : Nat) : Rat) < i.xi ∧
        i.xi ≤ ((i.old.length : Rat) - 2) / ((preB.length + preF.length + 1 : Nat) : Rat))) := by
  have hA := shoot_accept_iff_xi .asIs i preB preF restB restF xB xF T hld ham hxi (by simpa [slack] using hML)
  simp only [slack] at hA
  have hp1 : (0 : Rat) < ((preB.length + preF.length + 1 : Nat) : Rat) := by
    exact_mod_cast Nat.succ_pos _
  have hp2 : (0 : Rat) < ((preB.length + preF.length + 1 + 1 : Nat) : Rat) := by
    exact_mod_cast Nat.succ_pos _
  have hmono : i.xi ≤ ((i.old.length : Rat) - 2) / ((preB.length + preF.length + 1 + 1 : Nat) : Rat) →
      i.xi ≤ ((i.old.length : Rat) - 2) / ((preB.length + preF.length + 1 : Nat) : Rat) := by
    intro h
    have ha : (0 : Rat) ≤ (i.old.length : Rat) - 2 := by
      have := T.hL
      exact sub_nonneg.mpr (by exact_mod_cast (by omega : 2 ≤ i.old.length))
    exact h.trans (div_le_div_of_nonneg_left ha hp1 (by exact_mod_cast Nat.le_succ _))
  refine ⟨fun h => hmono (hA.1 h), ?_⟩
  rw [hA]
  constructor
  · rintro ⟨h1, h2⟩
    exact ⟨lt_of_not_ge h2, h1⟩
  · rintro ⟨h1, h2⟩
    exact ⟨h2, not_le.mpr h1⟩

example : ReachingTrial exIn [3] [2] [7] [7] (-1) 5 ∧ exIn.genLd = false ∧ exIn.allowMax = false ∧ 0 < exIn.xi
    ∧ [3].length + [2].length + 3 + 1 ≤ exIn.maxlength :=
  ⟨⟨by decide, by decide, by decide, by decide, by decide, ⟨rfl, by decide, by decide⟩, ⟨rfl, by decide, by decide⟩,
    by decide, exIn_shape⟩, rfl, rfl, exIn_xi_pos, by decide⟩

/-! ### rejections change nothing -/

/-- **Rejections leave the old path in place.** `run_md` keeps the old path as the live path of the
    ensemble whenever the move is not accepted, with exactly its old frames; it installs the trial
    path exactly on `ACC`.  (In the model the old path is an immutable input of `shoot`: no step of
    `shoot` has write access to it — `prepare_shooting_point` works on a copy, `trial_path +=
    path_back` copies.  That the Python objects behave like this is what the tie's deep snapshot of
    the old path, frame by frame with object identities, checks on every case.) -/
theorem reject_leaves_old_untouched (v : Variant) (i : ShootIn) (o : ShootOut) (h : shoot v i = .ok o) :
    (o.accept = false → runMd v i = .ok
        { status := o.status, live := i.old, replaced := false, trialLen := o.trial.length }) ∧
    (o.accept = true → runMd v i = .ok
        { status := .ACC, live := o.trial, replaced := true, trialLen := o.trial.length }) := by
  have hacc := accept_iff_status_acc v i o h
  unfold runMd
  rw [h]
  constructor
  · intro ha
    have : ¬ o.status = .ACC := by
      intro hs; rw [hacc.2 hs] at ha; cases ha
    simp [this]
  · intro ha
    simp [hacc.1 ha]

example : (runMd .repaired { exIn with forw := [2, 2, 2] }).toOption.map (fun o => (o.live, o.replaced))
    = some ([-1, 2, 2, -1], false) := by
  unfold runMd
  rw [eq_ok_of_toOption exIn_reject_eval]
  rfl

/-! ### wire fencing (model `Moves.wireFencing`: wire_fencing / extender / subt_acceptance) -/

theorem wf_accept_iff_status_acc (v : Variant) (i : WfIn) (o : WfOut) (h : wireFencing v i = .ok o) :
    o.accept = true ↔ o.status = .ACC := by
  cases (wf_ok_iff v i o).1 h <;> simp

/-- **Membership of accepted wire-fencing paths.** Assume the ensemble is sane (`l ≤ m`, `cap ≤ r`) and
    the MD programs of the extender run at least `maxlength` steps (engines run `path.maxlen` steps; the
    extender ignores the engine's success flag, so this is what makes its `length >= maxlength` test
    sufficient).  If `wire_fencing` returns `ACC` then the returned path
    * is a path of the ensemble: first and last frame outside `[l, r)`, every other frame inside `[l, r]`,
    * starts on the side the start condition demands (`set(start_cond) == {start}`: the move's own assert),
    * is strictly shorter than `maxlength`,
    * contains a frame of the wire-fencing region `[m, cap)` (the last accepted shooting point), so it
      crosses the ensemble's interface `m`,
    * is a new object (not the old path), `generated = ("wf", 9000, n, len)` with `n ≥ 1` accepted jumps. -/
theorem wf_acc_member (v : Variant) (i : WfIn) (o : WfOut) (h : wireFencing v i = .ok o) (hs : o.status = .ACC)
    (hlm : i.l ≤ i.m) (hcr : capOf i ≤ i.r)
    (hlb : i.maxlength ≤ i.extBack.length) (hlf : i.maxlength ≤ i.extForw.length) :
    EnsPath i.l i.r o.path ∧
    (∃ first, o.path.head? = some first ∧
      ((first ≤ i.l ∧ i.sc.hasL = true ∧ i.sc.hasR = false) ∨ (i.r ≤ first ∧ i.sc.hasL = false ∧ i.sc.hasR = true))) ∧
    o.path.length < i.maxlength ∧
    (∃ y ∈ o.path, i.m ≤ y ∧ y < capOf i) ∧
    o.returnedOld = false ∧ o.oldRewritten = false ∧ 1 ≤ o.genSucc ∧ o.genLen = o.path.length ∧ o.accept = true := by
  obtain ⟨kick, preB, preF, xB, xF, A, B, S⟩ := wf_acc_shape v i o h hs
  have hk1 : i.m ≤ kick := (S.inside kick (by simp)).1
  have hft : fullTrial kick preB xB preF xF = xB :: ((preB.reverse ++ kick :: preF) ++ [xF]) := by simp [fullTrial]
  -- the extended path is a path of the ensemble, hence so is the path handed back, which is it or its reverse
  have hens : EnsPath i.l i.r (A.reverse ++ fullTrial kick preB xB preF xF ++ B) := by
    rw [hft]
    exact ensPath_of_extension (fun y hy => by have := S.inside y hy; omega) (S.back hlb) (S.forw hlf)
  have hmem : EnsPath i.l i.r o.path ∧ kick ∈ o.path := by
    rcases S.path with e | e
    · rw [e]; exact ⟨hens, by simp [fullTrial]⟩
    · rw [e]; exact ⟨hens.reverse, by simp [fullTrial]⟩
  obtain ⟨_, first, hfirst, hsc⟩ := S.start
  obtain ⟨succ, tor, draws, hsucc, ho⟩ := S.fresh
  refine ⟨hmem.1, ⟨first, hfirst, ?_⟩, S.short, ⟨kick, hmem.2, hk1, S.kick_lt⟩, by rw [ho]; rfl, by rw [ho]; rfl,
    by rw [ho]; exact Nat.pos_of_ne_zero hsucc, by rw [ho]; rfl, by rw [ho]; rfl⟩
  unfold scIs WF.startPoint at hsc
  by_cases c1 : first ≤ i.l
  · left
    simp only [c1, if_true, Bool.and_eq_true, Bool.not_eq_true'] at hsc
    exact ⟨c1, hsc.1, hsc.2⟩
  · by_cases c2 : first ≥ i.r
    · right
      simp only [c1, c2, if_false, if_true, Bool.and_eq_true, Bool.not_eq_true'] at hsc
      exact ⟨c2, hsc.1, hsc.2⟩
    · simp [c1, c2] at hsc

example : ∃ o, wireFencing .repaired wfEx = .ok o ∧ o.status = .ACC ∧ wfEx.l ≤ wfEx.m ∧ capOf wfEx ≤ wfEx.r ∧
    wfEx.maxlength ≤ wfEx.extBack.length ∧ wfEx.maxlength ≤ wfEx.extForw.length ∧ o.path = [-1, 0, 1, 2, 3, 5] := by
  exact ⟨_, eq_ok_of_toOption wfEx_eval, rfl, by decide, by decide, by decide, by decide, rfl⟩

/-- **A rejected wire-fencing move never returns changed frames of the old path**: when the old path
    object itself is returned (status `NSG`) its frames are the old frames; otherwise the returned path is a
    new object.  (Recorded observation, field `oldRewritten`: after jumps without any accepted segment the
    code overwrites `.status` and `.generated` of the old path object — frames and files stay intact.) -/
theorem wf_reject_old_frames (v : Variant) (i : WfIn) (o : WfOut) (h : wireFencing v i = .ok o) :
    (o.returnedOld = true → o.path = i.old ∧ o.status = .NSG ∧ o.accept = false) ∧
    (o.oldRewritten = true → o.returnedOld = true ∧ o.genSucc = 0) := by
  cases (wf_ok_iff v i o).1 h <;> simp

example : (wireFencing .repaired { wfEx with jumps := [{ idx := 2, kick := 7, back := [], forw := [] }] }).toOption.map
    (fun o => (o.returnedOld, o.oldRewritten, o.path, o.status)) = some (true, true, [-1, 1, 2, 1, -1], .NSG) := by
  rw [wfEx_reject_eval]; rfl

/-! ### run_md for two-ensemble moves (zero swaps): commit iff the MOVE status is ACC -/

/-- **`run_md` commits iff the move status is `ACC`.** For any result `r` of a two-ensemble move, both
    `picked[i]["traj"]` are replaced (by the two trial paths) exactly when `r.status = ACC` — whatever the
    trial paths' own `.status` attributes (`r.st0`, `r.st1`) say. -/
theorem run_md_commits_iff_acc (r : ZeroSwap.Result) (old0 old1 : List ZeroSwap.Frame) :
    ((runMdCommit2 r old0 old1).replaced0 = true ↔ r.status = .ACC) ∧
    ((runMdCommit2 r old0 old1).replaced1 = true ↔ r.status = .ACC) ∧
    (r.status = .ACC → (runMdCommit2 r old0 old1).live0 = r.path0 ∧ (runMdCommit2 r old0 old1).live1 = r.path1) ∧
    (runMdCommit2 r old0 old1).status = r.status := by
  unfold runMdCommit2
  refine ⟨by simp, by simp, ?_, rfl⟩
  intro h
  simp [h]

/-- **Rejections change nothing (two-ensemble moves).** After a QuanTIS or plain zero swap whose status is
    not `ACC`, both ensembles hold exactly their old frames and neither path was replaced — in particular
    when the first leg succeeded (`st0 = ACC`) and only the second failed (FTX / FTS / 0+R). -/
theorem run_md_rejection_changes_nothing (e0 e1 : ZeroSwap.Ens) (old0 old1 : List ZeroSwap.Frame)
    (scA scB scC scD : ZeroSwap.Script) (aa : Bool) (beta0 beta1 xi p : Rat) (o : Md2Out) :
    (runMdQuantis e0 e1 old0 old1 scA scB scC scD aa beta0 beta1 xi p = .ok o → o.status ≠ .ACC →
      o.live0 = old0 ∧ o.live1 = old1 ∧ o.replaced0 = false ∧ o.replaced1 = false) ∧
    (runMdRetisSwap e0 e1 old0 old1 scC scD xi = .ok o → o.status ≠ .ACC →
      o.live0 = old0 ∧ o.live1 = old1 ∧ o.replaced0 = false ∧ o.replaced1 = false) := by
  constructor
  · intro h hs
    unfold runMdQuantis at h
    split at h
    · cases h
    · simp only [Except.ok.injEq] at h
      subst h
      simp only [runMdCommit2] at hs ⊢
      simp [hs]
  · intro h hs
    unfold runMdRetisSwap at h
    split at h
    · cases h
    · simp only [Except.ok.injEq] at h
      subst h
      simp only [runMdCommit2] at hs ⊢
      simp [hs]

/-- the seeded scenario: the second leg of a QuanTIS swap fails with FTX while the new [0-] trial carries
    `.status = ACC`; `run_md` keeps both old paths -/
example : (ZeroSwap.quantisSwapZero QEx.e0 QEx.e1 QEx.old0 QEx.old1 QEx.scA QEx.scB QEx.bw QEx.fwLong true 1 1 0 1).toOption.map
      (fun r => (r.status, r.st0)) = some (.FTX, .ACC) ∧
    (runMdQuantis QEx.e0 QEx.e1 QEx.old0 QEx.old1 QEx.scA QEx.scB QEx.bw QEx.fwLong true 1 1 0 1).toOption =
      some { status := .FTX, live0 := QEx.old0, live1 := QEx.old1, replaced0 := false, replaced1 := false } := by
  refine ⟨?_, QEx.md_eval⟩
  have h := QEx.swap_eval
  cases hs : ZeroSwap.quantisSwapZero QEx.e0 QEx.e1 QEx.old0 QEx.old1 QEx.scA QEx.scB QEx.bw QEx.fwLong true 1 1 0 1 with
  | error e => rw [hs] at h; cases h
  | ok r =>
    rw [hs] at h
    simp only [Except.toOption, Option.map_some, Option.some.injEq, Prod.mk.injEq] at h ⊢
    exact ⟨h.2.1, h.2.2.1⟩

/-! ### call history: what a settings dict left with `allowmaxlength = True` does to a later shoot -/

/-- **With `allowmaxlength` set (or a loaded path) the drawn number plays no role.** The limit is `maxlength`, no
    `random()` is requested, and the whole result is independent of ξ.  `wire_fencing` leaves
    `tis_set["allowmaxlength"] = True` behind on the dict it was given (recorded observation), so a later shooting
    move on the same dict falls under this theorem instead of `shoot_threshold`. -/
theorem shoot_allowmax_ignores_xi (v : Variant) (i : ShootIn) (q : Rat) (h : i.allowMax = true ∨ i.genLd = true) :
    drawMaxlen i = .ok (i.maxlength, []) ∧ shoot v { i with xi := q } = shoot v i := by
  have hd : ∀ x : Rat, drawMaxlen { i with xi := x } = .ok (i.maxlength, []) := fun x =>
    (drawMaxlen_ok_iff _ _ _).2 (Or.inl ⟨by rcases h with h | h <;> simp [h], rfl, rfl⟩)
  refine ⟨by simpa using hd i.xi, ?_⟩
  have h1 := hd q
  have h2 : drawMaxlen i = .ok (i.maxlength, []) := by simpa using hd i.xi
  have hf : ∀ t, finalChecks { i with xi := q } t = finalChecks i t := fun _ => rfl
  unfold shoot
  simp only [h1, h2, hf]

example : (shoot .repaired { exIn with allowMax := true, xi := 0 }).toOption.map (fun o => (o.status, o.draws))
    = some (.ACC, [.integers 1 3]) := by
  have h := (shoot_allowmax_ignores_xi .repaired { exIn with allowMax := true } 0 (Or.inl rfl)).2
  have e : ({ ({ exIn with allowMax := true } : ShootIn) with xi := 0 } : ShootIn) = { exIn with allowMax := true, xi := 0 } := rfl
  rw [e] at h
  rw [h]
  exact exIn_allowmax_eval

/-! ## Status tables, dispatcher, `run_md` composed, wire-fencing weight
    (model `Infretis/Model/MovesRun.lean`) -/

/-! ### the status table of `shoot` -/

/-- **Status table (total).** For every input — completed or raising — the status of `shoot` is the table entry
    `statusOf` of the stage the move reached (`shootOutcome`: kick refused / backward failed with its length / wrong
    end / forward failed with the pasted length / the three final path tests); the error kinds coincide. -/
theorem shoot_status_table (v : Variant) (i : ShootIn) :
    (shoot v i).map (·.status) = (shootOutcome v i).map (statusOf i.maxlength) := shoot_status_eq v i

/-- for a completed move: its outcome exists, the status is the table entry, and the move reports acceptance exactly
    when the table entry is `ACC` -/
theorem shoot_status_by_table (v : Variant) (i : ShootIn) (o : ShootOut) (h : shoot v i = .ok o) :
    ∃ oc, shootOutcome v i = .ok oc ∧ o.status = statusOf i.maxlength oc ∧
      (o.accept = true ↔ statusOf i.maxlength oc = .ACC) := by
  obtain ⟨oc, h1, h2⟩ := shoot_table_of_ok v i o h
  exact ⟨oc, h1, h2, by rw [← h2]; exact accept_iff_status_acc v i o h⟩

example : (shootOutcome .repaired exIn).toOption = some (.final false false true) ∧
    (shootOutcome .repaired { exIn with forw := [2, 2, 2] }).toOption = some (.forwFail 6) := by
  constructor <;> decide +kernel

/-- **Every status characterised.** The table read backwards: each status string belongs to exactly one stage (two for
    `ACC`), `NSG` never comes out of a shooting move, and `ACC` requires both propagations to have succeeded, no
    forbidden left end, and a crossing of the middle interface unless the ensemble allows both start sides. -/
theorem status_table_inverse (ML : Nat) (oc : Outcome) :
    (statusOf ML oc = .KOB ↔ oc = .kob) ∧
    (statusOf ML oc = .BTL ↔ ∃ n, oc = .backFail n ∧ n + 1 < ML) ∧
    (statusOf ML oc = .BTX ↔ ∃ n, oc = .backFail n ∧ ML ≤ n + 1) ∧
    (statusOf ML oc = .BWI ↔ oc = .wrongEnd) ∧
    (statusOf ML oc = .FTL ↔ ∃ n, oc = .forwFail n ∧ n ≠ ML) ∧
    (statusOf ML oc = .FTX ↔ oc = .forwFail ML) ∧
    (statusOf ML oc = .ZL ↔ ∃ b c, oc = .final true b c) ∧
    (statusOf ML oc = .NCR ↔ oc = .final false false false) ∧
    (statusOf ML oc = .ACC ↔ ∃ b c, oc = .final false b c ∧ (b = true ∨ c = true)) ∧
    statusOf ML oc ≠ .NSG := by
  cases oc with
  | kob => simp [statusOf]
  | backFail n =>
    simp only [statusOf]
    split <;> simp <;> omega
  | wrongEnd => simp [statusOf]
  | forwFail n =>
    simp only [statusOf]
    split <;> simp [*]
  | final z b c =>
    -- only the clauses about `final` survive; what is left is a table over three booleans
    simp only [statusOf, Outcome.final.injEq, reduceCtorEq, false_and, exists_false, iff_false]
    cases z <;> cases b <;> cases c <;> decide

example : statusOf 10 (.backFail 9) = .BTX ∧ statusOf 10 (.backFail 8) = .BTL ∧ statusOf 10 (.forwFail 10) = .FTX ∧
    statusOf 10 (.final false false true) = .ACC ∧ statusOf 10 (.final false false false) = .NCR := by decide

/-- **Every status of the table is produced by the move**: nine concrete inputs (variants of `exIn`), one per status
    string, evaluated through `shoot` itself. -/
theorem status_table_onto :
    (shoot .repaired exIn).toOption.map (·.status) = some .ACC ∧
    (shoot .repaired { exIn with kick := 4 }).toOption.map (·.status) = some .KOB ∧
    (shoot .repaired { exIn with back := [3, 3, 3, 3, 3, 3, 3, 3, 3, 3, 3, 3] }).toOption.map (·.status) = some .BTL ∧
    (shoot .repaired { exIn with maxlength := 4, back := [3, 3, 3, 3, 3, 3] }).toOption.map (·.status) = some .BTX ∧
    (shoot .repaired { exIn with back := [3, 7] }).toOption.map (·.status) = some .BWI ∧
    (shoot .repaired { exIn with forw := [2, 2, 2] }).toOption.map (·.status) = some .FTL ∧
    (shoot .repaired { exIn with maxlength := 5, forw := [2, 2, 2] }).toOption.map (·.status) = some .FTX ∧
    (shoot .repaired { exIn with sc := ⟨false, true⟩, back := [3, 7], forw := [2, -1] }).toOption.map (·.status) = some .ZL ∧
    (shoot .repaired { exIn with m := 4, forw := [2, -1] }).toOption.map (·.status) = some .NCR := by
  refine ⟨by rw [exIn_eval]; rfl, ?_, ?_, ?_, ?_, by rw [exIn_reject_eval]; rfl, ?_, ?_, ?_⟩ <;> decide +kernel

/-! ### the status table of `wire_fencing` -/

theorem wf_status_table (v : Variant) (i : WfIn) :
    (wireFencing v i).map (·.status) = (wfOutcome v i).map wfStatusOf := wf_status_eq v i

/-- **Exact acceptance rule of wire fencing, every status characterised.** A completed `wire_fencing` call ended at
    exactly one stage of `wfOutcome`; its status is `NSG` iff there was no frame to shoot from or no jump was accepted,
    `FTX` iff the extender's result reached `maxlength`, `BWI` iff neither end of the extended path lies on the start
    side, and it is accepted (`ACC`) iff all of: weight ≠ 0, at least one accepted jump, extended path shorter than
    `maxlength`, `subt_acceptance` found the start side (possibly after reversal), and the move's own start assertion
    holds.  No other status string comes out. -/
theorem wf_status_by_table (v : Variant) (i : WfIn) (o : WfOut) (h : wireFencing v i = .ok o) :
    ∃ oc, wfOutcome v i = .ok oc ∧ o.status = wfStatusOf oc ∧
      (o.status = .NSG ↔ oc = .noFrames ∨ oc = .noSegment) ∧
      (o.status = .FTX ↔ ∃ n, oc = .extTooLong n) ∧
      (o.status = .BWI ↔ oc = .wrongStart) ∧
      (o.accept = true ↔ ∃ s n, oc = .accepted s n) ∧
      (o.status = .NSG ∨ o.status = .FTX ∨ o.status = .BWI ∨ o.status = .ACC) := by
  obtain ⟨oc, h1, h2⟩ := wf_table_of_ok v i o h
  refine ⟨oc, h1, h2, ?_⟩
  rw [wf_accept_iff_status_acc v i o h, h2]
  cases oc <;> simp [wfStatusOf]

/-- what the stage `accepted` means in terms of the parts of the move (the rule the code really applies) -/
theorem wf_accepted_iff (v : Variant) (i : WfIn) (s n : Nat) :
    wfOutcome v i = .ok (.accepted s n) ↔
      WF.weight i.m (capOf i) i.old ≠ 0 ∧
      ∃ seg segTO d st1 t1 to1 st2 t2 to2 first,
        wfJumps v i i.nJumps i.jumps (wfSeg0 i) i.oldTimeOrigin 0 [.random] = .ok (seg, segTO, s, d) ∧ s ≠ 0 ∧
        extender v i seg segTO = .ok (true, st1, t1, to1) ∧
        subtAcceptance i t1 to1 = .ok (true, st2, t2, to2) ∧
        i.l ≤ i.r ∧ t2.head? = some first ∧ scIs i.sc (WF.startPoint i.l i.r first) = true ∧ n = t2.length := by
  rw [wfOutcome_eq]
  constructor
  · intro h
    cases hw : wireFencing v i with
    | error e => rw [hw] at h; cases h
    | ok o =>
      rw [hw] at h
      simp only [Except.map, Except.ok.injEq] at h
      cases (wf_ok_iff v i o).1 hw with
      | accepted J he hsub hlr hfirst hsc =>
        simp only [WfOut.outcome] at h
        obtain ⟨rfl, rfl⟩ := h
        exact ⟨J.weight, _, _, _, _, _, _, _, _, _, _, J.jumps, J.succ, he, hsub, hlr, hfirst, hsc, rfl⟩
      | _ => cases h
  · rintro ⟨hw, seg, segTO, d, st1, t1, to1, st2, t2, to2, first, hj, hs, he, hsub, hlr, hf, hsc, rfl⟩
    obtain rfl := (extender_flag v i _ _ _ _ _ _ he).1.1 rfl
    obtain rfl := (subt_flag i _ _ _ _ _ _ hsub).1.1 rfl
    rw [(wf_ok_iff v i _).2 (.accepted ⟨hw, hj, hs⟩ he hsub hlr hf hsc)]
    rfl

example : (wfOutcome .repaired wfEx).toOption = some (.accepted 1 6) ∧
    (wfOutcome .repaired { wfEx with jumps := [{ idx := 2, kick := 7, back := [], forw := [] }] }).toOption
      = some .noSegment := by
  constructor <;> decide +kernel

/-! ### own-ensemble weight of an accepted wire-fencing path -/

/-- **High-acceptance weight is non-zero.** If `wire_fencing` accepts, the ensemble's start condition is one-sided
    and no frame of the returned path lies exactly ON the cap interface, then the path has positive wire-fencing weight
    for `(m, cap)` — the frames between the bounding frames of the last accepted shooting point count — and
    `compute_weight(path, [l, m, cap], "wf")`, the entry `calc_cv_vector` stores for the own ensemble, is a positive
    number. -/
theorem wf_acc_weight_pos (v : Variant) (i : WfIn) (o : WfOut) (h : wireFencing v i = .ok o) (hs : o.status = .ACC)
    (hsc : ¬ (i.scEns.hasL = true ∧ i.scEns.hasR = true))
    (hgen : ∀ y ∈ o.path, y ≠ capOf i) :
    0 < WF.weight i.m (capOf i) o.path ∧
    ∃ w, WF.computeWeight o.path i.l i.m (capOf i) true = .ok w ∧ 0 < w := by
  obtain ⟨hw, hl, hne⟩ := wf_acc_weight_pos_aux v i o h hs hsc hgen
  exact ⟨hw, _, WF.computeWeight_wf _ _ _ _ _ _ hl (List.head?_eq_some_head hne) (List.getLast?_eq_some_getLast hne),
    by split <;> omega⟩

example : ∃ o, wireFencing .repaired wfEx = .ok o ∧ o.status = .ACC ∧
    ¬ (wfEx.scEns.hasL = true ∧ wfEx.scEns.hasR = true) ∧ (∀ y ∈ o.path, y ≠ capOf wfEx) ∧
    0 < WF.weight wfEx.m (capOf wfEx) o.path := by
  exact ⟨_, eq_ok_of_toOption wfEx_eval, rfl, by decide, by decide, by decide⟩

/-- **Boundary counterexample (why the hypothesis `no frame on the cap` is there).** A frame exactly on the cap is
    "inside" for the engine loop (`add_to_path` stops on `> right`) but "right of the region" for the weight scan
    (`>= right`): the sub-path `1, 6, 3, 6, 1` with `m = 2`, cap `= 6` is accepted by the sub-ensemble shoot (it
    crosses `m`), the move is accepted with the path `-1, 1, 6, 3, 6, 1, -1`, and that path has wire-fencing weight 0
    in its own ensemble.  Measure-zero for real-valued order parameters; recorded as an observation. -/
theorem wf_weight_zero_on_cap_counterexample :
    ∃ o, wireFencing .repaired wfCapEx = .ok o ∧ o.status = .ACC ∧ o.accept = true ∧
      o.path = [-1, 1, 6, 3, 6, 1, -1] ∧ capOf wfCapEx = 6 ∧ (6 : Int) ∈ o.path ∧
      WF.weight wfCapEx.m (capOf wfCapEx) o.path = 0 ∧
      WF.computeWeight o.path wfCapEx.l wfCapEx.m (capOf wfCapEx) true = .ok 0 := by
  exact ⟨_, eq_ok_of_toOption wfCapEx_eval, rfl, rfl, rfl, by decide, by decide, by decide, by decide⟩

/-! ### `select_shoot`: the dispatcher -/

/-- **Routing.** `select_shoot` runs a shooting move exactly for a single picked ensemble whose `mc_move` is "sh",
    wire fencing exactly for a single one with "wf", a zero swap exactly when the number of picked ensembles is not 1
    and the key −1 is present (QuanTIS iff the flag is set); everything else is a `KeyError` before any MD. -/
theorem route_table (n : Nat) (hm : Bool) (mv : MoveKey) (q : Bool) :
    (route n hm mv q = .shoot ↔ n = 1 ∧ mv = .sh) ∧
    (route n hm mv q = .wireFencing ↔ n = 1 ∧ mv = .wf) ∧
    (route n hm mv q = .quantisSwap ↔ n ≠ 1 ∧ hm = true ∧ q = true) ∧
    (route n hm mv q = .retisSwap ↔ n ≠ 1 ∧ hm = true ∧ q = false) ∧
    (route n hm mv q = .keyError ↔ (n = 1 ∧ mv = .other) ∨ (n ≠ 1 ∧ hm = false)) := by
  unfold route
  by_cases h1 : n = 1
  · simp only [h1, if_true]
    cases mv <;> simp
  · simp only [h1, if_false]
    cases hm <;> cases q <;> simp [h1]

example : route 1 false .wf true = .wireFencing ∧ route 2 true .sh false = .retisSwap ∧ route 1 true .other false = .keyError := by
  decide

/-! ### `run_md` for one-ensemble jobs, composed: route → move → bookkeeping → weights → replacement -/

/-- **`run_md` commits exactly on `ACC`** (shooting and wire fencing alike): the live path is replaced, and the trial
    gets a weight vector, iff the move's status is `ACC`; then the live path is the trial path. -/
theorem run_md_one_commits_iff_acc (v : Variant) (cfg : MdCfg) (x : OneIn) (o : MdOneOut)
    (h : runMdOne v cfg x = .ok o) :
    (o.replaced = true ↔ o.status = .ACC) ∧ (o.weights.isSome = true ↔ o.status = .ACC) ∧
    (o.status = .ACC → ∃ trial, runMove v x = .ok (.ACC, trial, false) ∧ o.live = trial ∧ o.trialLen = trial.length) := by
  obtain ⟨st, trial, isOld, mn, mx, hm, _, _, ⟨rfl, w, _, rfl⟩ | ⟨hs, rfl⟩⟩ := runMdOne_ok h
  · obtain rfl := runMove_acc_new hm
    exact ⟨by simp, by simp, fun _ => ⟨_, hm, rfl, rfl⟩⟩
  · simp [hs]

/-- **Rejections change nothing (composed, shooting and wire fencing).** Whenever `run_md` completes with a status
    other than `ACC`, the ensemble still holds its old path with exactly its old frames, nothing was replaced and no
    weight vector was assigned. -/
theorem run_md_one_rejection_changes_nothing (v : Variant) (cfg : MdCfg) (x : OneIn) (o : MdOneOut)
    (h : runMdOne v cfg x = .ok o) (hs : o.status ≠ .ACC) :
    o.live = x.old ∧ o.replaced = false ∧ o.weights = none := by
  obtain ⟨st, trial, isOld, mn, mx, _, _, _, ⟨_, w, _, rfl⟩ | ⟨_, rfl⟩⟩ := runMdOne_ok h
  · exact absurd rfl hs
  · exact ⟨rfl, rfl, rfl⟩

/-- **Accepted wire-fencing jobs, end to end.** If `run_md` completes a wire-fencing job with `ACC` (sane ensemble,
    extender streams at least `maxlength` long), the path now held by the ensemble is a path of the ensemble, starts
    on the side `ens_set["start_cond"]` names, is shorter than `maxlength`, and carries a weight vector. -/
theorem run_md_one_wf_acc_member (v : Variant) (cfg : MdCfg) (i : WfIn) (o : MdOneOut)
    (h : runMdOne v cfg (.wf i) = .ok o) (hs : o.status = .ACC)
    (hlm : i.l ≤ i.m) (hcr : capOf i ≤ i.r)
    (hlb : i.maxlength ≤ i.extBack.length) (hlf : i.maxlength ≤ i.extForw.length) :
    EnsPath i.l i.r o.live ∧ o.live.length < i.maxlength ∧ o.replaced = true ∧ o.weights.isSome = true ∧
    (∃ first, o.live.head? = some first ∧
      ((first ≤ i.l ∧ i.scEns.hasL = true ∧ i.scEns.hasR = false) ∨
       (i.r ≤ first ∧ i.scEns.hasL = false ∧ i.scEns.hasR = true))) ∧
    (∃ y ∈ o.live, i.m ≤ y ∧ y < capOf i) := by
  obtain ⟨h1, h2, h3⟩ := run_md_one_commits_iff_acc v cfg _ o h
  obtain ⟨trial, hm, hl, _⟩ := h3 hs
  obtain ⟨wo, hwo, hst, e2, _⟩ := runMove_wf_ok hm
  obtain ⟨m1, m2, m3, m4, _⟩ := wf_acc_member v _ wo hwo hst hlm hcr hlb hlf
  rw [hl, ← e2]
  exact ⟨m1, m3, h1.2 hs, h2.2 hs, m2, m4⟩

/-- **Accepted shooting jobs, end to end.** If `run_md` completes a shooting job with `ACC`, the path now held by the
    ensemble starts strictly outside on a side `ens_set["start_cond"]` allows, ends strictly outside, stays inside in
    between, contains the kicked shooting point, is at most `maxlength` long and carries a weight vector. -/
theorem run_md_one_sh_acc_member (v : Variant) (cfg : MdCfg) (i : ShootIn) (o : MdOneOut)
    (h : runMdOne v cfg (.sh i) = .ok o) (hs : o.status = .ACC) :
    ∃ sce xB xF mid, i.scEns = some sce ∧ o.live = xB :: (mid ++ [xF]) ∧
      ((xB < i.l ∧ sce.hasL = true) ∨ (i.r < xB ∧ sce.hasR = true)) ∧ (xF < i.l ∨ i.r < xF) ∧
      (∀ y ∈ mid, i.l ≤ y ∧ y ≤ i.r) ∧ i.kick ∈ mid ∧ o.live.length ≤ i.maxlength ∧
      o.replaced = true ∧ o.weights.isSome = true := by
  obtain ⟨h1, h2, h3⟩ := run_md_one_commits_iff_acc v cfg _ o h
  obtain ⟨trial, hm, hl, _⟩ := h3 hs
  obtain ⟨sce, so, hsce, hso, hst, e2, _⟩ := runMove_sh_ok hm
  obtain ⟨preB, preF, restB, restF, xB, xF, _, _, htr, hstart, hxF, hin, _, _, _, _, hlen, _⟩ :=
    shoot_acc_member v _ so hso hst
  refine ⟨sce, xB, xF, preB.reverse ++ i.kick :: preF, hsce, ?_, hstart, hxF, hin, by simp, ?_, h1.2 hs, h2.2 hs⟩
  · rw [hl, ← e2, htr]; simp
  · rw [hl, ← e2]; exact hlen

example : (runMdOne .repaired (mdCfgEx false) (.sh { exIn with scEns := some ⟨true, false⟩ })).toOption.map
      (fun o => (o.status, o.live, o.weights, o.replaced)) = some (.ACC, [-1, 3, 2, 2, 5], some [1, 1, 0], true) := by
  rw [mdEx_eval]; rfl

example : (runMdOne .repaired (mdCfgEx true) (.wf wfEx)).toOption.map
      (fun o => (o.status, o.live, o.weights, o.replaced)) = some (.ACC, [-1, 0, 1, 2, 3, 5], some [1, 6, 0], true) := by
  rw [mdWfEx_eval]; rfl

example : (runMdOne .repaired (mdCfgEx true)
      (.wf { wfEx with jumps := [{ idx := 2, kick := 7, back := [], forw := [] }] })).toOption.map
      (fun o => (o.status, o.live, o.weights, o.replaced)) = some (.NSG, [-1, 1, 2, 1, -1], none, false) := by
  rw [mdWfRejEx_eval]; rfl

/-! ### own-ensemble weight, end to end through `run_md` -/

/-- on `ACC` the weight vector `run_md` stores is `calc_cv_vector` of the trial path, which becomes the live path -/
theorem run_md_one_acc_weights (v : Variant) (cfg : MdCfg) (x : OneIn) (o : MdOneOut)
    (h : runMdOne v cfg x = .ok o) (hs : o.status = .ACC) :
    ∃ trial w, runMove v x = .ok (.ACC, trial, false) ∧ mdWeights cfg trial = .ok w ∧ o.weights = some w ∧
      o.live = trial := by
  obtain ⟨st, trial, isOld, mn, mx, hm, _, _, ⟨rfl, w, hw, rfl⟩ | ⟨hst, rfl⟩⟩ := runMdOne_ok h
  · obtain rfl := runMove_acc_new hm
    exact ⟨trial, w, hm, hw, rfl, rfl⟩
  · exact absurd hs hst

/-- **Own-ensemble weight, shooting job, end to end.** `run_md` completes a shooting job with `ACC`; the ensemble's
    start condition is one-sided; `md_items` is consistent with the ensemble (its middle interface is entry `k = ens_num`
    of the interface list, its move is not wire fencing).  Then entry `k` of the stored weight vector is 1. -/
theorem run_md_one_sh_own_weight (v : Variant) (cfg : MdCfg) (i : ShootIn) (o : MdOneOut)
    (h : runMdOne v cfg (.sh i) = .ok o) (hs : o.status = .ACC)
    (sce : StartCond) (hsce : i.scEns = some sce) (hone : ¬ (sce.hasL = true ∧ sce.hasR = true))
    (k : Nat) (hk : cfg.ensNum = (k : Int)) (hm : cfg.interfaces.dropLast[k]? = some i.m)
    (hf : cfg.movesTail[k]? = some false) :
    ∃ ws, o.weights = some ws ∧ ws[k]? = some 1 := by
  obtain ⟨trial, w, hmv, hw, how, _⟩ := run_md_one_acc_weights v cfg _ o h hs
  obtain ⟨sce', so, hsce', hso, hst, e2, _⟩ := runMove_sh_ok hmv
  obtain rfl : sce = sce' := Option.some.inj (hsce.symm.trans hsce')
  obtain ⟨pmax, hp, h1⟩ := shoot_acc_weight_nonzero v _ so hso hst (by simpa [effSc, hsce] using hone)
  obtain ⟨pmax', i0, ilast, w', hp', _, _, hwk, hval⟩ := mdWeights_get cfg trial w hw k hk i.m false hm hf
  rw [← e2] at hp'
  rw [hp] at hp'
  simp only [Option.some.injEq] at hp'
  subst hp'
  simp only [Bool.false_eq_true, if_false, Except.ok.injEq] at hval
  refine ⟨w, how, ?_⟩
  rw [hwk, ← hval]
  simpa using h1

/-- **Own-ensemble weight, wire-fencing job, end to end.** Same for a wire-fencing ensemble (`mc_moves[k+1] == "wf"`,
    first interface and cap of `md_items` are the ensemble's), no frame of the new path exactly on the cap: entry `k`
    of the stored weight vector is positive. -/
theorem run_md_one_wf_own_weight (v : Variant) (cfg : MdCfg) (i : WfIn) (o : MdOneOut)
    (h : runMdOne v cfg (.wf i) = .ok o) (hs : o.status = .ACC)
    (hone : ¬ (i.scEns.hasL = true ∧ i.scEns.hasR = true)) (hgen : ∀ y ∈ o.live, y ≠ capOf i)
    (k : Nat) (hk : cfg.ensNum = (k : Int)) (hm : cfg.interfaces.dropLast[k]? = some i.m)
    (hf : cfg.movesTail[k]? = some true) (h0 : cfg.interfaces.head? = some i.l)
    (hcap : ∀ ilast, cfg.interfaces.getLast? = some ilast → capOr cfg.cap ilast = capOf i) :
    ∃ ws w, o.weights = some ws ∧ ws[k]? = some w ∧ 0 < w := by
  obtain ⟨trial, w, hmv, hw, how, hl⟩ := run_md_one_acc_weights v cfg _ o h hs
  obtain ⟨wo, hwo, hst, e2, _⟩ := runMove_wf_ok hmv
  have hgen' : ∀ y ∈ wo.path, y ≠ capOf { i with sc := i.scEns } := by
    intro y hy; exact hgen y (by rw [hl, ← e2]; exact hy)
  obtain ⟨_, wv, hcw, hpos⟩ := wf_acc_weight_pos v _ wo hwo hst hone hgen'
  obtain ⟨pmax', i0, ilast, w', _, hh, hlast, hwk, hval⟩ := mdWeights_get cfg trial w hw k hk i.m true hm hf
  rw [h0] at hh
  simp only [Option.some.injEq] at hh
  subst hh
  rw [hcap ilast hlast] at hval
  simp only [if_true] at hval
  rw [← e2] at hval
  have e : capOf { i with sc := i.scEns } = capOf i := rfl
  rw [e] at hcw
  simp only at hcw
  rw [hcw] at hval
  simp only [Except.ok.injEq] at hval
  subst hval
  exact ⟨w, wv, how, hwk, hpos⟩

example : (runMdOne .repaired (mdCfgEx false) (.sh { exIn with scEns := some ⟨true, false⟩ })).toOption.map (·.weights)
      = some (some [1, 1, 0]) ∧ (mdCfgEx false).ensNum = (1 : Nat) ∧ (mdCfgEx false).interfaces.dropLast[1]? = some exIn.m ∧
    (mdCfgEx false).movesTail[1]? = some false := by
  refine ⟨by rw [mdEx_eval]; rfl, rfl, rfl, rfl⟩

example : (runMdOne .repaired (mdCfgEx true) (.wf wfEx)).toOption.map (fun o => (o.weights, o.live))
      = some (some [1, 6, 0], [-1, 0, 1, 2, 3, 5]) ∧ (mdCfgEx true).movesTail[1]? = some true ∧
    (mdCfgEx true).interfaces.head? = some wfEx.l ∧ capOr (mdCfgEx true).cap 4 = capOf wfEx := by
  refine ⟨by rw [mdWfEx_eval]; rfl, rfl, rfl, rfl⟩

/-! ### the acceptance rule outside the scope of `shoot_threshold`: absolute limit, loaded paths, `allowmaxlength` -/

/-- **The absolute limit binds.** A reaching trial longer than `maxlength` is rejected whatever ξ is (drawn limit
    `min(⌊n_old/ξ⌋ + 2, maxlength) ≤ maxlength`): the case `shoot_threshold` excludes by `hML`. -/
theorem shoot_rejects_beyond_maxlength (v : Variant) (i : ShootIn)
    (preB preF restB restF : List Int) (xB xF : Int) (T : ReachingTrial i preB preF restB restF xB xF)
    (maxlen : Nat) (d2 : List Draw) (hd : drawMaxlen i = .ok (maxlen, d2))
    (hbig : i.maxlength < preB.length + preF.length + 3) : ¬ Accepts v i := by
  rw [shoot_accept_iff_limit v i maxlen d2 preB preF restB restF xB xF T hd]
  have := drawMaxlen_le i maxlen d2 hd
  omega

/-- **Loaded paths and `allowmaxlength`.** No ξ is drawn; a reaching trial is accepted iff it fits the absolute limit
    (`L_new ≤ maxlength` for the code as it is). This is the rule every sub-ensemble shoot of wire fencing follows. -/
theorem shoot_accept_iff_allowmax (i : ShootIn)
    (preB preF restB restF : List Int) (xB xF : Int) (T : ReachingTrial i preB preF restB restF xB xF)
    (h : i.allowMax = true ∨ i.genLd = true) :
    Accepts .repaired i ↔ preB.length + preF.length + 3 ≤ i.maxlength := by
  have hd := (shoot_allowmax_ignores_xi .repaired i i.xi h).1
  have := shoot_accept_iff_limit .repaired i _ _ preB preF restB restF xB xF T hd
  simpa [slack] using this

example : ReachingTrial { exIn with allowMax := true, maxlength := 4 } [3] [2] [7] [7] (-1) 5 ∧
    drawMaxlen { exIn with allowMax := true, maxlength := 4 } = .ok (4, []) ∧ (4 : Nat) < [3].length + [2].length + 3 :=
  ⟨⟨by decide, by decide, by decide, by decide, by decide, ⟨rfl, by decide, by decide⟩, ⟨rfl, by decide, by decide⟩,
    by decide, by decide⟩, (shoot_allowmax_ignores_xi .repaired _ 0 (Or.inl rfl)).1, by decide⟩

example : ReachingTrial { exIn with allowMax := true } [3] [2] [7] [7] (-1) 5 ∧
    [3].length + [2].length + 3 ≤ ({ exIn with allowMax := true } : ShootIn).maxlength :=
  ⟨⟨by decide, by decide, by decide, by decide, by decide, ⟨rfl, by decide, by decide⟩, ⟨rfl, by decide, by decide⟩,
    by decide, by decide⟩, by decide⟩

/-! ## "Ordered in time" for accepted paths, frames with `vel_rev`
    (model `Infretis/Model/MovesTime.lean`; lemmas `Lemmas/MovesTime.lean`, `Lemmas/MovesTimeLink.lean`)

    Why frames: the order-value model cannot see whether a wire-fencing path that `subt_acceptance` turned around
    (`Path.reverse`) is still a trajectory — that depends on the `vel_rev` flag of every frame.  On order values alone
    a `reverse_velocities` that sets the flag instead of toggling it (seeded change C09-r5-mut1) is invisible; the
    predicate `TimeOrdered` below tells the two apart.

    Engine contract (assumed, implemented by the scripted engine of the tie): a stored phase point is `(traj, t, v)`, one
    MD step moves `t` by the stored velocity sign `v` (reversible dynamics); `propagate(…, system, reverse = d)` flips the
    stored velocity first iff `system.vel_rev ≠ d` and flags every produced frame `vel_rev = d`. -/

/-- the executable predicate (what the driver prints and the tie evaluates on the frames of the REAL path) is the
    statement `TimeOrdered`: consecutive frames are one MD step in the direction of the path apart -/
theorem time_ordered_iff_exec (fs : List TFrame) : timeOrderedB fs = true ↔ TimeOrdered fs := timeOrderedB_iff fs

example : timeOrderedB revExBefore = true ∧ timeOrderedB revExBefore.reverse = false := ⟨revExBefore_eval.1, revExBefore_eval.2.2.2.1⟩

/-- **`Path.reverse` keeps a path ordered in time** (frame list reversed AND every `vel_rev` toggled): the reversed
    path is the same trajectory walked the other way. -/
theorem reverse_keeps_time_order (fs : List TFrame) (h : TimeOrdered fs) : TimeOrdered (reverseT fs) :=
  timeOrdered_of_lined _ (lined_reverseT fs (lined_of_timeOrdered fs h))

/-- **Counterexample: the toggle is needed.** `revExBefore` (a B→A wire-fencing path: two frames from a backward
    propagation, flagged `vel_rev`, then three from a forward one) is ordered in time, and so is `Path.reverse` of it;
    reversing the frame list alone, or setting every flag to `True` instead of toggling (the seeded change), gives a
    path with the same order values that is NOT ordered in time. -/
theorem reverse_without_toggle_counterexample :
    TimeOrdered revExBefore ∧ TimeOrdered (reverseT revExBefore) ∧
    ¬ TimeOrdered (reverseSetTrue revExBefore) ∧ ¬ TimeOrdered revExBefore.reverse ∧
    (reverseSetTrue revExBefore).map (·.op) = (reverseT revExBefore).map (·.op) := by
  obtain ⟨h1, h2, h3, h4, h5⟩ := revExBefore_eval
  refine ⟨(timeOrderedB_iff _).1 h1, (timeOrderedB_iff _).1 h2, ?_, ?_, h5⟩
  · intro h; rw [← timeOrderedB_iff, h3] at h; cases h
  · intro h; rw [← timeOrderedB_iff, h4] at h; cases h

/-- **Accepted shooting paths are ordered in time, frame by frame.** If `shoot` returns `ACC`, the frames of the trial
    path exist (`shootT`, for whatever kicked point `K` the move started from), carry exactly its order values, and are
    ordered in time: the backward frames (flagged `vel_rev`) reversed, then the forward ones, all on the trajectory of
    the kicked point. -/
theorem shoot_acc_time_ordered (v : Variant) (i : ShootIn) (o : ShootOut) (K : TFrame) (h : shoot v i = .ok o)
    (hs : o.status = .ACC) :
    ∃ fs, shootT v i K = some fs ∧ fs.map (·.op) = o.trial ∧ TimeOrdered fs := by
  obtain ⟨fs, h1, h2, h3⟩ := shootT_of_acc v i o K h ((accept_iff_status_acc v i o h).2 hs)
  exact ⟨fs, h1, h2, timeOrdered_of_lined fs h3⟩

example : shootT .repaired exIn (kickFrame exIn.kick 1 false) = some
    [⟨-1, 1, -2, -1, true⟩, ⟨3, 1, -1, -1, true⟩, ⟨2, 1, 0, -1, true⟩, ⟨2, 1, 1, 1, false⟩, ⟨5, 1, 2, 1, false⟩] := by
  decide +kernel

/-- **Accepted wire-fencing paths are ordered in time** (the clause of the property; `subt_acceptance`'s reversal
    included).  If `wire_fencing` returns `ACC`, the frames of the returned path exist (`wireFencingT`, for whatever
    `vel_rev` flags `krevs` the kicked points carried and whatever frames `seg0T` the old path had), carry exactly the
    order values of the returned path, and are ordered in time. -/
theorem wf_acc_time_ordered (v : Variant) (i : WfIn) (o : WfOut) (krevs : List Bool) (seg0T : List TFrame)
    (h : wireFencing v i = .ok o) (hs : o.status = .ACC) :
    ∃ fs, wireFencingT v i krevs seg0T = some fs ∧ fs.map (·.op) = o.path ∧ TimeOrdered fs := by
  obtain ⟨fs, h1, h2, h3⟩ := wireFencingT_of_acc v i o krevs seg0T h hs
  exact ⟨fs, h1, h2, timeOrdered_of_lined fs h3⟩

/-- non-vacuity on a move that IS turned around: `wfRevEx` is accepted with the path `-1, 0, 1, 3, 5`, generated as
    `5, 3, 1, 0, -1`; its frames after the reversal -/
example : (wireFencing .repaired wfRevEx).toOption.map (fun o => (o.status, o.path, o.timeOrigin))
      = some (.ACC, [-1, 0, 1, 3, 5], 0) ∧
    wireFencingT .repaired wfRevEx [false] [] = some
      [⟨-1, 1, 3, 1, true⟩, ⟨0, 1, 2, 1, true⟩, ⟨1, 1, 1, 1, true⟩, ⟨3, 1, 0, -1, false⟩, ⟨5, 1, -1, -1, false⟩] :=
  ⟨wfRevEx_eval, wfRevEx_frames⟩

/-- **End to end.** The path `run_md` installs after an accepted wire-fencing job is ordered in time. -/
theorem run_md_one_wf_time_ordered (v : Variant) (cfg : MdCfg) (i : WfIn) (o : MdOneOut) (krevs : List Bool)
    (seg0T : List TFrame) (h : runMdOne v cfg (.wf i) = .ok o) (hs : o.status = .ACC) :
    ∃ fs, wireFencingT v { i with sc := i.scEns } krevs seg0T = some fs ∧ fs.map (·.op) = o.live ∧ TimeOrdered fs := by
  obtain ⟨_, _, h3⟩ := run_md_one_commits_iff_acc v cfg _ o h
  obtain ⟨trial, hm, hl, _⟩ := h3 hs
  obtain ⟨wo, hwo, hst, e2, _⟩ := runMove_wf_ok hm
  obtain ⟨fs, f1, f2, f3⟩ := wf_acc_time_ordered v _ wo krevs seg0T hwo hst
  exact ⟨fs, f1, by rw [f2, hl, e2], f3⟩

example : (runMdOne .repaired (mdCfgEx true) (.wf wfEx)).toOption.map (·.status) = some .ACC := by
  rw [mdWfEx_eval]; rfl

/-- **Accepted shooting paths respect the DRAWN length limit** (not only `maxlength`): with `maxlen` the limit the move
    computed (`min(⌊(L_old−2)/ξ⌋ + 2, maxlength)`, or `maxlength` for loaded paths / `allowmaxlength`), an accepted
    trial path has at most `maxlen` frames. -/
theorem shoot_acc_within_drawn_limit (v : Variant) (i : ShootIn) (o : ShootOut) (h : shoot v i = .ok o)
    (hs : o.status = .ACC) :
    ∃ maxlen d2, drawMaxlen i = .ok (maxlen, d2) ∧ o.trial.length ≤ maxlen ∧ maxlen ≤ i.maxlength := by
  obtain ⟨preB, preF, _, _, xB, xF, maxlen, d2, _, hd, hfit, rfl⟩ := (shoot_acc_iff v i o).1 ⟨h, hs⟩
  refine ⟨maxlen, d2, hd, ?_, drawMaxlen_le i maxlen d2 hd⟩
  simp only [ShootOut.accepted, fullTrial, List.length_append, List.length_reverse, List.length_cons, List.length_nil]
  omega

example : ∃ o, shoot .repaired exIn = .ok o ∧ o.status = .ACC ∧ o.trial.length = 5 := by
  exact ⟨_, eq_ok_of_toOption exIn_eval, rfl, rfl⟩

end Infretis.C09
