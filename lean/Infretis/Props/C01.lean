import Infretis.Lemmas.Lattice
import Infretis.Lemmas.LatticeMovesShoot
import Infretis.Lemmas.LatticeMovesRef
import Infretis.Lemmas.LatticeMovesAlg
import Infretis.Lemmas.LatticeLength
import Infretis.Lemmas.MovesRat
import Mathlib.Algebra.Order.Archimedean.Basic
import Mathlib.Tactic.Linarith
/-!
# C01 — sampling is unbiased: exact crossing probabilities are reproduced

Level **other**: the property is a statistical acceptance test on sampled runs of the Python;
no theorem about a model decides it.  What is proved here, for all sizes:

* `crossing_closed_form` — the reference values (k+1)/(k+2) the check compares against are
  theorems about the lattice walk's boundary-value recurrence, for every k (unbounded segment
  length), with existence (`crossing_solution_exists`) and uniqueness.
  **Reading.**  That the solution of the recurrence *is* the hitting probability of the walk is
  the standard first-step-analysis / optional-stopping argument (the walk leaves a finite segment
  almost surely, so the bounded harmonic function evaluated at the exit point has expectation
  u(x)).  That step is **not formalised**.  What is formalised about the walk's own law
  `reachBy` (finite horizon): it is monotone in the horizon, never exceeds the closed form
  (`walk_law_below_closed_form`) and converges to it geometrically (`walk_law_converges`).
* `estimator_algebra` — the estimator the check applies to the data rows is a weighted mean of
  crossing indicators: a ratio of non-negative sums in [0,1], 1 if all contributing paths cross,
  0 if none does, additive over chunks of rows (`num_den_append`), and invariant under exactly the rescalings a
  change of column convention produces (a common factor on every row's column-k weight and/or
  column-k fraction).  It is **not** invariant under rescaling a single row's weight vector —
  the rescaling C02's swap matrix is invariant under — `estimate_row_rescale_counterexample`.
  `estimate_of_stationary_fractions` — with stationary fractions the estimator equals the ratio of
  expectations, the high-acceptance weights cancel.
* `shoot_detailed_balance` — for the shooting kernel on lattice paths (uniform interior index,
  step-by-step generation, acceptance min(1, n_old/n_new) as C09 states it),
  π(o)·K(o,n) = π(n)·K(n,o) for every pair of lengths; for the acceptance the snapshot's code had
  (min(1, n_old/(n_new+1)): `add_to_path` failed a trial whose last admissible frame crossed — C09
  finding, repaired in /repo by f955162) the identity fails:
  `shoot_detailed_balance_asIs_counterexample`.  The statistical tie measured that bias on the
  snapshot (first interface −1.8 %, last +1.2 %, 2·10⁵ steps × 8 runs) and its absence after the repair.
* `swap_step_invariant` — drawing the assignment of paths to ensembles from its conditional
  distribution (what the ∞-swap matrix of C02 encodes) preserves the product distribution.
  `swap_marginal_expect`, `swap_marginal_row_sum`, `swap_rao_blackwell` — the matrix of marginals of a weighted
  set of assignments and the Rao–Blackwell identity over finite sums.
* `shoot_generates`, `shoot_accept_iff`, `shoot_rejects_unfit`, `shoot_length_rule_xi` — the whole shooting move on
  the lattice (model `Infretis.LatticeMoves`, compared draw for draw with the real `tis.shoot` on the real plug-in
  engine by `harness/props/c01_ext.py`) as a function of its draws: which draws give which accepted path, for all
  paths; `shoot_detailed_balance_paths`, `shoot_invariant_finite` — reversibility between any two concrete paths and
  invariance over any finite family; `shoot_matches_generic_model` — `latShoot` is C09's `Moves.shoot` on the
  lattice streams.
* `mean_length_estimate_*` — the length estimator the check applies, as a Lean function compared exactly on every
  run's rows; `exit_time_law_converges`, `hit_time_law_converges` — the finite-horizon laws of the two ingredients
  of the mean length approach their closed forms.

Not proved: the measure-theoretic step draws → probabilities, ergodicity, reversibility of the wire-fencing kernel,
permanent = Σ over permutations.
-/
namespace Infretis.C01
open Infretis.Lattice

theorem harmonic_segment_linear (N : Nat) (hN : 0 < N) (u : Nat → Rat) (h : Harmonic N u)
    (x : Nat) (hx : x ≤ N) : u x = (x : Rat) / (N : Rat) :=
  have hr := ruin_harmonic N hN
  firstStep_unique N _ u (ruin N) h.firstStep hr.firstStep (h.1.trans hr.1.symm) (h.2.1.trans hr.2.1.symm) x hx

/-- **Closed form, every k.**  Any function that vanishes on site 0, is 1 on site k+2 and has the
    mean-value property of the symmetric walk in between takes the value (k+1)/(k+2) on site k+1
    — the conditional probability to reach λ_{k+1} before returning below λ₀ for a path that has
    just reached λ_k. -/
theorem crossing_closed_form (k : Nat) (u : Nat → Rat) (h : Harmonic (k + 2) u) :
    u (k + 1) = ((k : Rat) + 1) / ((k : Rat) + 2) := by
  have := harmonic_segment_linear (k + 2) (by omega) u h (k + 1) (by omega)
  rw [this]; push_cast; ring

/-- such a function exists for every k (so `crossing_closed_form` is never vacuous), and the
    model's reference value `hit k` is its value on site k+1 -/
theorem crossing_solution_exists (k : Nat) :
    Harmonic (k + 2) (ruin (k + 2)) ∧ hit k = ruin (k + 2) (k + 1)
      ∧ hit k = ((k : Rat) + 1) / ((k : Rat) + 2) := by
  refine ⟨ruin_harmonic (k + 2) (by omega), rfl, ?_⟩
  simp only [hit, ruin]; push_cast; ring

example : Harmonic 3 (ruin 3) ∧ ruin 3 2 = 2 / 3 ∧ hit 1 = 2 / 3 := by
  refine ⟨ruin_harmonic 3 (by omega), by decide +kernel, by decide +kernel⟩

example : Harmonic 5 (ruin 5) := ruin_harmonic 5 (by omega)

/-- what is proved about the walk's own finite-horizon law: below the closed form, and
    non-decreasing in the horizon (so its limit exists and is ≤ (k+1)/(k+2); equality is the
    unformalised optional-stopping step) -/
theorem walk_law_below_closed_form (k t : Nat) :
    reachBy (k + 2) t (k + 1) ≤ hit k ∧ reachBy (k + 2) t (k + 1) ≤ reachBy (k + 2) (t + 1) (k + 1) :=
  ⟨(reachBy_gap (k + 2) (by omega) t (k + 1) (by omega)).1, reachBy_mono (k + 2) (by omega) t (k + 1)⟩

example : reachBy 3 4 2 = 5 / 8 ∧ hit 1 = 2 / 3 := by decide +kernel

/-- quantitative: the gap to the closed form after t steps is at most ρ^t·(k+2) with
    ρ = (k+2)²/((k+2)²+4) < 1 -/
theorem walk_law_gap (k t : Nat) :
    hit k - reachBy (k + 2) t (k + 1) ≤ rho (k + 2) ^ t * ((k : Rat) + 2) ∧ rho (k + 2) < 1 := by
  refine ⟨?_, rho_lt_one _⟩
  have := (reachBy_gap (k + 2) (by omega) t (k + 1) (by omega)).2
  have e : (((k + 1 : Nat) : Rat) * (((k + 2 : Nat) : Rat) - ((k + 1 : Nat) : Rat)) + 1) = (k : Rat) + 2 := by
    push_cast; ring
  rw [e] at this
  exact this

/-- **The walk's law converges to the closed form.**  For every k and every ε > 0 there is a
    horizon T beyond which the probability (under the walk's own law, `reachBy`) of being on site
    k+2 before site 0 within t steps, started on site k+1, lies in ((k+1)/(k+2) − ε, (k+1)/(k+2)].
    The only step left unformalised for the probabilistic reading is the measure-theoretic
    identity P(ever) = lim_t P(within t steps). -/
theorem walk_law_converges (k : Nat) (ε : Rat) (hε : 0 < ε) :
    ∃ T, ∀ t, T ≤ t →
      hit k - ε < reachBy (k + 2) t (k + 1) ∧ reachBy (k + 2) t (k + 1) ≤ hit k := by
  have hk : (0 : Rat) < (k : Rat) + 2 := by positivity
  have hρ0 := rho_nonneg (k + 2)
  have hρ1 := rho_lt_one (k + 2)
  obtain ⟨T, hT⟩ := exists_pow_lt_of_lt_one (div_pos hε hk) hρ1
  refine ⟨T, fun t ht => ⟨?_, (walk_law_below_closed_form k t).1⟩⟩
  have hgap := (walk_law_gap k t).1
  have hpow : rho (k + 2) ^ t ≤ rho (k + 2) ^ T := pow_le_pow_of_le_one hρ0 (le_of_lt hρ1) ht
  have : rho (k + 2) ^ t * ((k : Rat) + 2) < ε := by
    calc rho (k + 2) ^ t * ((k : Rat) + 2) ≤ rho (k + 2) ^ T * ((k : Rat) + 2) :=
          mul_le_mul_of_nonneg_right hpow (le_of_lt hk)
      _ < ε / ((k : Rat) + 2) * ((k : Rat) + 2) := mul_lt_mul_of_pos_right hT hk
      _ = ε := div_mul_cancel₀ _ (ne_of_gt hk)
  linarith

example : hit 1 - reachBy 3 20 2 ≤ rho 3 ^ 20 * 3 ∧ hit 1 - reachBy 3 20 2 = 1 / 1572864 := by
  decide +kernel

theorem den_nonneg (k : Nat) (rows : List Row) : 0 ≤ den k rows :=
  sumOver_nonneg _ (term_nonneg k) rows

theorem num_nonneg (k : Nat) (rows : List Row) : 0 ≤ num k rows :=
  sumOver_nonneg _ (fun r => by split; exact term_nonneg k r; exact le_refl _) rows

theorem num_le_den (k : Nat) (rows : List Row) : num k rows ≤ den k rows :=
  sumOver_le _ _ rows (fun r _ => by split; exact le_refl _; exact term_nonneg k r)

theorem estimate_ratio (k : Nat) (rows : List Row) (p : Rat) (h : estimate k rows = some p) :
    p = num k rows / den k rows ∧ 0 ≤ num k rows ∧ num k rows ≤ den k rows ∧ 0 < den k rows := by
  unfold estimate at h
  split at h
  · cases h
  · rename_i hd
    refine ⟨(Option.some.inj h).symm, num_nonneg k rows, num_le_den k rows, ?_⟩
    exact lt_of_le_of_ne (den_nonneg k rows) (Ne.symm hd)

theorem estimate_unit_interval (k : Nat) (rows : List Row) (p : Rat) (h : estimate k rows = some p) :
    0 ≤ p ∧ p ≤ 1 := by
  obtain ⟨hp, hn, hle, hd⟩ := estimate_ratio k rows p h
  subst hp
  exact ⟨div_nonneg hn (le_of_lt hd), (div_le_one hd).2 hle⟩

theorem estimate_all_cross (k : Nat) (rows : List Row) (p : Rat) (h : estimate k rows = some p)
    (hall : ∀ r ∈ rows, term k r ≠ 0 → crossed k r = true) : p = 1 := by
  rw [estimate_eq] at h
  have := ratioEst_bounds 1 1 h fun r hr ht => by simp [hall r hr ht]
  exact le_antisymm this.2 this.1

theorem estimate_none_cross (k : Nat) (rows : List Row) (p : Rat) (h : estimate k rows = some p)
    (hnone : ∀ r ∈ rows, term k r ≠ 0 → crossed k r = false) : p = 0 := by
  rw [estimate_eq] at h
  have := ratioEst_bounds 0 0 h fun r hr ht => by simp [hnone r hr ht]
  exact le_antisymm this.2 this.1

/-- additive over chunks of rows (what lets the data be summed block by block) -/
theorem num_den_append (k : Nat) (a b : List Row) :
    num k (a ++ b) = num k a + num k b ∧ den k (a ++ b) = den k a + den k b :=
  ⟨sumOver_append _ a b, sumOver_append _ a b⟩

/-- **Invariance.**  Multiplying the column-k weight of *every* row by one factor c > 0 and the
    column-k fraction of every row by one factor d > 0 (a change of the column's convention:
    frame counts versus doubled frame counts, steps versus cycles, …) leaves the estimate unchanged. -/
theorem estimate_scale_invariant (k : Nat) (c d : Rat) (hc : 0 < c) (hd : 0 < d) (rows : List Row) :
    estimate k (rows.map (Row.scaleCol k c d)) = estimate k rows := by
  rw [estimate_eq, estimate_eq]
  exact ratioEst_scaleCol k c d hc hd _ (fun _ => rfl) rows

/-- … but rescaling the weight vector of a *single* row (which leaves C02's swap matrix, hence
    the fractions, unchanged) changes the estimate: the weights in the data file are not a free
    convention per path. -/
theorem estimate_row_rescale_counterexample :
    let r1 : Row := { len := 5, maxOp := 5 / 2, frac := [0, 1], w := [0, 1] }
    let r2 : Row := { len := 3, maxOp := 1, frac := [0, 1], w := [0, 1] }
    estimate 1 [r1, r2] = some (1 / 2) ∧ estimate 1 [r1, { r2 with w := [0, 2] }] = some (2 / 3) := by
  decide +kernel

/-- the estimate is a weighted mean of the crossing indicators: the weights
    term/den are non-negative and sum to one -/
theorem estimate_weighted_mean (k : Nat) (rows : List Row) (p : Rat) (h : estimate k rows = some p) :
    p * den k rows = num k rows
      ∧ (∀ r, 0 ≤ term k r / den k rows)
      ∧ den k rows / den k rows = 1 := by
  obtain ⟨hp, _, _, hd⟩ := estimate_ratio k rows p h
  refine ⟨?_, fun r => div_nonneg (term_nonneg k r) (le_of_lt hd), div_self (ne_of_gt hd)⟩
  rw [hp, div_mul_cancel₀ _ (ne_of_gt hd)]

theorem estimator_algebra (k : Nat) (rows : List Row) :
    -- ratio of non-negative sums
    (0 ≤ num k rows ∧ num k rows ≤ den k rows) ∧
    -- defined exactly when some row carries weight; then in [0,1]
    (∀ p, estimate k rows = some p → p = num k rows / den k rows ∧ 0 < den k rows ∧ 0 ≤ p ∧ p ≤ 1) ∧
    -- all cross → 1, none crosses → 0
    (∀ p, estimate k rows = some p → (∀ r ∈ rows, term k r ≠ 0 → crossed k r = true) → p = 1) ∧
    (∀ p, estimate k rows = some p → (∀ r ∈ rows, term k r ≠ 0 → crossed k r = false) → p = 0) ∧
    -- invariant under a common rescaling of the column
    (∀ c d : Rat, 0 < c → 0 < d → estimate k (rows.map (Row.scaleCol k c d)) = estimate k rows) := by
  refine ⟨⟨num_nonneg k rows, num_le_den k rows⟩, ?_, ?_, ?_, ?_⟩
  · intro p h
    obtain ⟨hp, _, _, hd⟩ := estimate_ratio k rows p h
    obtain ⟨h0, h1⟩ := estimate_unit_interval k rows p h
    exact ⟨hp, hd, h0, h1⟩
  · exact fun p h => estimate_all_cross k rows p h
  · exact fun p h => estimate_none_cross k rows p h
  · exact fun c d hc hd => estimate_scale_invariant k c d hc hd rows

example :
    let rows : List Row := [{ len := 5, maxOp := 5 / 2, frac := [0, 1 / 2, 1 / 3], w := [0, 1, 2] },
                            { len := 7, maxOp := 3 / 2, frac := [0, 1 / 4, 2 / 3], w := [0, 1, 1] }]
    estimate 1 rows = some 1 ∧ estimate 2 rows = some (1 / 5) ∧ estimate 0 rows = none
      ∧ estimate 2 (rows.map (Row.scaleCol 2 3 (1 / 7))) = some (1 / 5) := by
  decide +kernel

/-- **Detailed balance (length rule as C09 states it).**  For an old path with `a` and a new
    path with `b` interior frames that share `c` interior (old index, new index) pairs on a common
    site, with step weight `q`:   π(old)·K(old → new) = π(new)·K(new → old). -/
theorem shoot_detailed_balance (q : Rat) (c a b : Nat) (ha : 0 < a) (hb : 0 < b) :
    pathW q a * kernel .stated q c a b = pathW q b * kernel .stated q c b a := by
  have key := min_factor_symm (a : Rat) (b : Rat) (Nat.cast_pos.2 ha) (Nat.cast_pos.2 hb)
  unfold kernel accProb
  -- both sides are c·π(old)·π(new) times the symmetric factor of `min_factor_symm`
  calc pathW q a * ((c : Rat) / (a : Rat) * pathW q b * minR 1 ((a : Rat) / (b : Rat)))
      = (c : Rat) * pathW q a * pathW q b * (1 / (a : Rat) * minR 1 ((a : Rat) / (b : Rat))) := by ring
    _ = (c : Rat) * pathW q a * pathW q b * (1 / (b : Rat) * minR 1 ((b : Rat) / (a : Rat))) := by rw [key]
    _ = pathW q b * ((c : Rat) / (b : Rat) * pathW q a * minR 1 ((b : Rat) / (a : Rat))) := by ring

example : pathW (1 / 2) 2 * kernel .stated (1 / 2) 1 2 4 = pathW (1 / 2) 4 * kernel .stated (1 / 2) 1 4 2
    ∧ pathW (1 / 2) 2 * kernel .stated (1 / 2) 1 2 4 = 1 / 1024 := by
  decide +kernel

/-- with the acceptance the snapshot's code implemented (`Variant.asIs`; a trial whose last
    admissible frame crosses was rejected: min(1, n_old/(n_new+1)); repaired by f955162) the identity fails — an old
    path with 2 interior frames against a new one with 4: the longer path is under-weighted by 4/5 -/
theorem shoot_detailed_balance_asIs_counterexample :
    pathW (1 / 2) 2 * kernel .asIs (1 / 2) 1 2 4 ≠ pathW (1 / 2) 4 * kernel .asIs (1 / 2) 1 4 2
      ∧ pathW (1 / 2) 2 * kernel .asIs (1 / 2) 1 2 4 = 4 / 5 * (pathW (1 / 2) 4 * kernel .asIs (1 / 2) 1 4 2) := by
  decide +kernel

/-- **Swap step (Gibbs resampling) leaves the weights invariant.**  Enumerate the admissible
    assignments σ of paths to ensembles as a list with unnormalised weights
    `ws[σ] = Π_i W[i, σ(i)]` (the product distribution restricted to the current set of paths).
    The ∞-swap step draws the new assignment σ' with probability `ws[σ'] / Z`, whatever the old
    one was.  Then  Σ_σ ws[σ] · K(σ → σ') = ws[σ'] :  the step preserves the product distribution.
    (That the marginals of `ws/Z` are the permanent ratios is C02's statement, not repeated here.) -/
theorem swap_step_invariant (ws : List Rat) (hZ : lsum ws ≠ 0) (j : Nat) (hj : j < ws.length) :
    lsum (ws.map (fun w => w * (ws[j] / lsum ws))) = ws[j] := by
  -- Σ w·c = c·Σ w, with c = ws[j] / Σ w
  rw [lsum_eq, List.map_congr_left fun w _ => mul_comm w _, sum_map_mul_left, List.map_id', ← lsum_eq, mul_comm,
    mul_div_cancel₀ _ hZ]

example : lsum [1, 2, 1] ≠ 0 ∧ lsum ([1, 2, 1].map (fun w => w * (([1, 2, 1] : List Rat)[1] / lsum [1, 2, 1]))) = 2 := by
  decide +kernel

/-! ## the shooting move on concrete lattice paths

`Infretis.LatticeMoves.latShoot` is `tis.shoot` run on the plug-in engine as a function of its draws (index, ξ, two
coin lists); the tie (`harness/props/c01_ext.py`) runs it, C09's generic `Moves.shoot` and the real `tis.shoot` on the
same draws on every run.  Reading of the next four theorems together, for an old path `o` and a new path `n` of an
ensemble [i+]:  the event "the move returns ACC with path n and `generated[3] = s'`" is exactly
  { index s with o[s] = n[s'] } × { backward coins spell n[s'-1], …, n[0] } × { forward coins spell n[s'+1], … }
  × { ξ ≤ (L_o−2)/(L_n−2) },  non-empty only if n crosses λ_i and L_n ≤ maxlength,
so (uniform index, fair coins, uniform ξ — the assumption on numpy's generator) its probability is
  #{s : o[s] = n[s']}/(L_o−2) · 2^{−(L_n−1)} · min(1, (L_o−2)/(L_n−2)), and summed over s' it is `kernelPaths o n`.
The measure-theoretic step from "set of draws" to "probability" is not formalised. -/
section Shooting
open Infretis.LatticeMoves

/-- **The move returns the path its coins spell, for all paths.**  Old path arbitrary (only `old[idx]` is read),
    any shooting index inside, any two segments leaving (0, top) (the backward one on the left), any spare coins,
    any ξ under which the new path fits: the answer is that path, accepted iff it crosses λ_i. -/
theorem shoot_generates (e : Ens) (old : List Int) (ld : Bool) (idx : Nat) (xi : Rat) (x last : Int)
    (pre post : List Int) (eb ef : List Bool)
    (hidx : 1 ≤ idx ∧ idx + 1 < old.length) (hx : old[idx]? = some x)
    (hin : 0 < x ∧ x < e.top) (hxi : ld = true ∨ 0 < xi)
    (hpre : Seg e.top x pre) (hlast : pre.getLast? = some last) (hl0 : last ≤ 0)
    (hpost : Seg e.top x post)
    (hfit : pre.length + 1 + post.length ≤ maxlenOf e old.length ld xi) :
    latShoot e old ld idx xi (coinsOf x pre ++ eb) (coinsOf x post ++ ef) =
      .ok { accept := crossMid e (pre.reverse ++ x :: post),
            status := if crossMid e (pre.reverse ++ x :: post) = true then .ACC else .NCR,
            trial := pre.reverse ++ x :: post, genNb := pre.length,
            maxlen := maxlenOf e old.length ld xi, usedB := pre.length, usedF := post.length } := by
  have hM := maxlenOf_le e old.length ld xi
  have hp2 := seg_length_pos _ _ _ hpost
  have hb := prop_seg e.top pre (maxlenOf e old.length ld xi - 1) x eb hin.1 hin.2 hpre (by omega)
  have hf := prop_seg e.top post (maxlenOf e old.length ld xi - (x :: pre).length + 1) x ef hin.1 hin.2 hpost
    (by simp only [List.length_cons]; omega)
  obtain ⟨hxi1, hxi2⟩ := (xi_usable ld xi).2 hxi
  have hlast' : (x :: pre).getLast? = some last := by rwa [seg_getLast? _ _ _ hpre]
  have hnl : ¬ ¬ last ≤ 0 := not_not.2 hl0
  have hlen : 2 < old.length := by omega
  unfold latShoot
  simp only [hlen, not_true, if_false, hidx, and_self, hx, hin, hxi1, hxi2, hb, hlast', hnl, hf,
    take_paste x pre post e.maxlength (by omega)]
  cases hc : crossMid e (pre.reverse ++ x :: post) <;> simp

example :
    latShoot { mid := 2, top := 3, maxlength := 100 } [0, 1, 2, 1, 0] false 2 (1 / 2)
        (coinsOf 2 [1, 0] ++ [true]) (coinsOf 2 [1, 2, 3] ++ []) =
      .ok { accept := true, status := .ACC, trial := [0, 1, 2, 1, 2, 3], genNb := 2, maxlen := 8, usedB := 2, usedF := 3 }
    ∧ Seg 3 2 [1, 0] ∧ Seg 3 2 [1, 2, 3] := by
  refine ⟨by decide +kernel, by simp [Seg], by simp [Seg]⟩

/-- **Exact characterisation of acceptance** (both directions): the move answers `o` with `accept = true` iff the
    shooting point is inside, both coin lists start with the coins of two segments (backward one ending on the left),
    the pasted path fits the length limit and crosses λ_i, and `o` is that path with its bookkeeping. -/
theorem shoot_accept_iff (e : Ens) (old : List Int) (ld : Bool) (idx : Nat) (xi : Rat) (cb cf : List Bool) (o : Out) :
    (latShoot e old ld idx xi cb cf = .ok o ∧ o.accept = true) ↔
    ∃ x last pre post, old[idx]? = some x ∧ (1 ≤ idx ∧ idx + 1 < old.length) ∧ (0 < x ∧ x < e.top)
      ∧ (ld = true ∨ 0 < xi)
      ∧ Seg e.top x pre ∧ pre.getLast? = some last ∧ last ≤ 0 ∧ Seg e.top x post
      ∧ pre.length + 1 + post.length ≤ maxlenOf e old.length ld xi
      ∧ crossMid e (pre.reverse ++ x :: post) = true
      ∧ cb.take pre.length = coinsOf x pre ∧ cf.take post.length = coinsOf x post
      ∧ o = { accept := true, status := .ACC, trial := pre.reverse ++ x :: post, genNb := pre.length,
              maxlen := maxlenOf e old.length ld xi, usedB := pre.length, usedF := post.length } := by
  constructor
  · rintro ⟨h, hacc⟩
    obtain ⟨x, last, pre, post, hx, hidx, hin, hpre, hlast, hl0, hpost, htr, hfit, hcr, hcb, hcf, hst, hnb, hub, huf,
      hml, hxi⟩ := latShoot_acc_sound e old ld idx xi cb cf o h hacc
    refine ⟨x, last, pre, post, hx, hidx, hin, hxi, hpre, hlast, hl0, hpost, hfit, htr ▸ hcr, hcb, hcf, ?_⟩
    cases o
    dsimp only at hacc htr hst hnb hub huf hml
    rw [hacc, htr, hst, hnb, hub, huf, hml]
  · rintro ⟨x, last, pre, post, hx, hidx, hin, hxi, hpre, hlast, hl0, hpost, hfit, hcr, hcb, hcf, rfl⟩
    have hb : cb = coinsOf x pre ++ cb.drop pre.length := by rw [← hcb, List.take_append_drop]
    have hf : cf = coinsOf x post ++ cf.drop post.length := by rw [← hcf, List.take_append_drop]
    have := shoot_generates e old ld idx xi x last pre post (cb.drop pre.length) (cf.drop post.length)
      hidx hx hin hxi hpre hlast hl0 hpost hfit
    rw [← hb, ← hf, hcr] at this
    exact ⟨by simpa using this, rfl⟩

example : latShoot { mid := 2, top := 3, maxlength := 100 } [0, 1, 2, 1, 0] false 2 (1 / 2) [false, false] [true]
    = .ok { accept := true, status := .ACC, trial := [0, 1, 2, 3], genNb := 2, maxlen := 8, usedB := 2, usedF := 1 } := by
  decide +kernel

/-- **A spelled path that does not fit the length limit is never accepted** — with `shoot_generates` and
    `shoot_length_rule_xi`: for coins that spell a path of the ensemble, accepted ⇔ ξ·(L_new−2) ≤ L_old−2 (and
    L_new ≤ maxlength). -/
theorem shoot_rejects_unfit (e : Ens) (old : List Int) (ld : Bool) (idx : Nat) (xi : Rat) (x : Int)
    (pre post : List Int) (eb ef : List Bool) (hx : old[idx]? = some x)
    (hpre : Seg e.top x pre) (hpost : Seg e.top x post)
    (hunfit : maxlenOf e old.length ld xi < pre.length + 1 + post.length) (o : Out)
    (h : latShoot e old ld idx xi (coinsOf x pre ++ eb) (coinsOf x post ++ ef) = .ok o) : o.accept = false := by
  cases hacc : o.accept with
  | false => rfl
  | true =>
    exfalso
    obtain ⟨x', last, pre', post', hx', _, _, _, hpre', _, _, hpost', hfit, _, hcb, hcf, _⟩ :=
      (shoot_accept_iff e old ld idx xi _ _ o).1 ⟨h, hacc⟩
    rw [hx] at hx'
    cases hx'
    have e1 := seg_coins_unique e.top pre x pre' eb hpre hpre' hcb
    have e2 := seg_coins_unique e.top post x post' ef hpost hpost' hcf
    subst e1 e2
    omega

example : latShoot { mid := 1, top := 3, maxlength := 100 } [0, 1, 2, 1, 0] false 2 (39 / 64)
    (coinsOf 2 [1, 0]) (coinsOf 2 [1, 2, 1, 0]) =
    .ok { accept := false, status := .FTL, trial := [0, 1, 2, 1, 2, 1], genNb := 2, maxlen := 6, usedB := 2, usedF := 3 } := by
  decide +kernel

/-- **The length rule is the Metropolis factor.**  For ξ > 0 a new path with `b` interior frames fits the limit
    `min(int(a/ξ) + 2, maxlength)` drawn from an old path with `a` interior frames iff it fits `maxlength` and
    ξ·b ≤ a — over a uniform ξ that is probability min(1, a/b), the `accProb .stated a b` of `shoot_detailed_balance`. -/
theorem shoot_length_rule_xi (e : Ens) (a b : Nat) (xi : Rat) (hxi : 0 < xi) :
    b + 2 ≤ maxlenOf e (a + 2) false xi ↔ b + 2 ≤ e.maxlength ∧ xi * (b : Rat) ≤ (a : Rat) := by
  unfold maxlenOf
  simp only [Bool.false_eq_true, if_false]
  have hcast : (((((a + 2 : Nat) : Int) - 2 : Int) : Rat)) = (a : Rat) := by push_cast; ring
  rw [hcast]
  have key : b ≤ (((a : Rat) / xi).floor).toNat ↔ xi * (b : Rat) ≤ (a : Rat) := by
    simpa using Moves.le_floor_toNat_iff a xi b (Int.natCast_nonneg a) hxi
  constructor
  · intro h
    have h' := Nat.le_min.1 h
    exact ⟨h'.2, key.1 (by omega)⟩
  · rintro ⟨h1, h2⟩
    exact Nat.le_min.2 ⟨by have := key.2 h2; omega, h1⟩

example : (5 + 2 ≤ maxlenOf { mid := 1, top := 3, maxlength := 100 } (3 + 2) false (3 / 5))
    ∧ ¬ (5 + 2 ≤ maxlenOf { mid := 1, top := 3, maxlength := 100 } (3 + 2) false (39 / 64)) := by
  decide +kernel

/-- **Detailed balance between any two lattice paths.**  With the kernel assembled from the actual paths (match count of
    their interior frames, their lengths), π(o)·K(o→n) = π(n)·K(n→o) for all paths with at least one interior frame. -/
theorem shoot_detailed_balance_paths (o n : List Int) (ho : 2 < o.length) (hn : 2 < n.length) :
    pathWeight o * kernelPaths o n = pathWeight n * kernelPaths n o := by
  unfold pathWeight kernelPaths
  rw [matchCount_symm (interior n) (interior o)]
  exact shoot_detailed_balance (1 / 2) _ (o.length - 2) (n.length - 2) (by omega) (by omega)

example : pathWeight [0, 1, 2, 1, 0] * kernelPaths [0, 1, 2, 1, 0] [0, 1, 2, 1, 2, 1, 0] = 1 / 640
    ∧ matchCount (interior [0, 1, 2, 1, 0]) (interior [0, 1, 2, 1, 2, 1, 0]) = 8 := by decide +kernel

/-- **Invariance over any finite family of paths.**  Σ_{o∈S} π(o)·K(o→n) = π(n)·Σ_{o∈S} K(n→o): the probability
    flowing into `n` from `S` equals π(n) times the probability that the move started in `n` lands in `S`
    (≤ π(n), with equality in the limit S → all paths, rejections included: the path measure of the lattice walk
    restricted to the ensemble is invariant). -/
theorem shoot_invariant_finite (n : List Int) (hn : 2 < n.length) : ∀ S : List (List Int), (∀ o ∈ S, 2 < o.length) →
    rsum (S.map (fun o => pathWeight o * kernelPaths o n)) = pathWeight n * rsum (S.map (fun o => kernelPaths n o))
  | [], _ => by simp [rsum]
  | o :: t, h => by
    simp only [List.map_cons, rsum]
    rw [shoot_invariant_finite n hn t (fun o' ho' => h o' (by simp [ho'])),
      shoot_detailed_balance_paths o n (h o (by simp)) hn]
    ring

example : rsum ([[0, 1, 0], [0, 1, 2, 1, 0]].map (fun o => pathWeight o * kernelPaths o [0, 1, 2, 3]))
    = pathWeight [0, 1, 2, 3] * rsum ([[0, 1, 0], [0, 1, 2, 1, 0]].map (fun o => kernelPaths [0, 1, 2, 3] o)) :=
  shoot_invariant_finite _ (by decide) _ (by decide)

/-- **The lattice move IS the generic shooting model on lattice streams.**  `latShootRef` is C09's `Moves.shoot .repaired`
    (the branch-by-branch model of `tis.shoot`, `shoot_backwards`, `paste_paths`, `check_interfaces`, `add_to_path`) fed
    with the plug-in's streams on doubled coordinates.  Whenever the lattice move returns an answer `o` (any status), the
    generic model returns exactly `refOut o`: same accept flag and status, the same frames doubled, the same
    `generated` entries, time origin, draw requests, and engine counters (coins + 1 where that propagation ran);
    `ValueError` and `ZeroDivisionError` correspond in both directions.  Needs `2 ≤ maxlength` outside the KOB branch —
    exactly: `shoot_generic_model_differs_*` below.  So every theorem of this section about `latShoot` is a theorem about
    C09's model of the real function, not about a sibling. -/
theorem shoot_matches_generic_model (e : Ens) (old : List Int) (ld : Bool) (idx : Nat) (xi : Rat) (cb cf : List Bool)
    (hML : 2 ≤ e.maxlength) :
    (∀ o, latShoot e old ld idx xi cb cf = .ok o → latShootRef e old ld idx xi cb cf = .ok (refOut old ld idx o))
    ∧ (latShoot e old ld idx xi cb cf = .error .value ↔ latShootRef e old ld idx xi cb cf = .error .value)
    ∧ (latShoot e old ld idx xi cb cf = .error .zerodiv ↔ latShootRef e old ld idx xi cb cf = .error .zerodiv) :=
  ⟨fun o h => latShootRef_of_ok' e old ld idx xi cb cf o (fun _ => hML) h,
   latShootRef_value_iff e old ld idx xi cb cf, latShootRef_zerodiv_iff e old ld idx xi cb cf⟩

example :
    latShoot ⟨1, 2, 10⟩ [0, 1, 2] true 1 0 [false] [true] =
      .ok { accept := true, status := .ACC, trial := [0, 1, 2], genNb := 1, maxlen := 10, usedB := 1, usedF := 1 }
    ∧ latShootRef ⟨1, 2, 10⟩ [0, 1, 2] true 1 0 [false] [true] =
      .ok { accept := true, status := .ACC, trial := [0, 2, 4], genSp := 2, genIdx := 1, genNb := 1, timeOrigin := 0,
            draws := [.integers 1 2], usedB := 2, usedF := 2 } := by
  constructor <;> rfl

/-- where the two models differ (both confirmed on the real code: the plug-in's loop `for i in range(path.maxlen)` adds no
    frame at all when `maxlen − 1 = 0`, so the real move answers BTX with an empty path like `latShoot`; the generic
    engine contract "the first frame is always handed to add_to_path" gives IndexError) -/
theorem shoot_generic_model_differs_maxlength_le_1 (e : Ens) (old : List Int) (ld : Bool) (idx : Nat) (xi : Rat)
    (cb cf : List Bool) (o : Out) (hML : e.maxlength ≤ 1) (h : latShoot e old ld idx xi cb cf = .ok o)
    (hne : o.status ≠ .KOB) : latShootRef e old ld idx xi cb cf = .error .index :=
  (h ▸ latShoot_sim e old ld idx xi cb cf).of_short hML hne

example :
    latShoot ⟨1, 2, 1⟩ [0, 1, 0] true 1 0 [] [] =
      .ok { accept := false, status := .BTX, trial := [], genNb := 0, maxlen := 1, usedB := 0, usedF := 0 }
    ∧ latShootRef ⟨1, 2, 1⟩ [0, 1, 0] true 1 0 [] [] = .error .index :=
  latShootRef_counterexample_maxlength1

/-- … and scripted coins that run out (never with a generator): the lattice move refuses the script, the generic
    model's engine loop ends without a stop -/
theorem shoot_generic_model_differs_exhausted_coins :
    latShoot ⟨1, 3, 10⟩ [0, 1, 0] true 1 0 [] [] = .error .badDraw
    ∧ latShootRef ⟨1, 3, 10⟩ [0, 1, 0] true 1 0 [] [] =
      .ok { accept := false, status := .BTL, trial := [2], genSp := 2, genIdx := 1, genNb := 0, timeOrigin := 1,
            draws := [.integers 1 2], usedB := 1, usedF := 0 } := by
  constructor <;> rfl

end Shooting

section Swap
open Infretis.LatticeMoves

/-- **Marginal of the assignment distribution.**  For weighted assignments (σ, w(σ)) (w(σ) = Π_i W[i,σ(i)] in the code's
    case; any weights here) with path indices below M:  Σ_j marginal(i,j)·g(j) = Σ_σ w(σ)·g(σ(i)). -/
theorem swap_marginal_expect (g : Nat → Rat) (i M : Nat) (as : List (List Nat × Rat))
    (h : ∀ a ∈ as, ∀ j ∈ a.1, j < M) :
    rsum ((List.range M).map (fun j => marginalNum as i j * g j)) = rsum (as.map (fun a => a.2 * atEns a.1 i g)) :=
  marginal_expect g i M as h

/-- every row of the marginal matrix sums to the total weight (so P = marginal/total has unit row sums) -/
theorem swap_marginal_row_sum (i M N : Nat) (hi : i < N) (as : List (List Nat × Rat))
    (h : ∀ a ∈ as, a.1.length = N ∧ ∀ j ∈ a.1, j < M) :
    rsum ((List.range M).map (fun j => marginalNum as i j)) = total as := by
  have := marginal_expect (fun _ => 1) i M as (fun a ha => (h a ha).2)
  simp only [mul_one] at this
  rw [this]
  refine congrArg rsum (List.map_congr_left fun a ha => ?_)
  unfold atEns
  have : i < a.1.length := by rw [(h a ha).1]; exact hi
  simp [List.getElem?_eq_getElem this]

/-- **Rao–Blackwell over finite sums.**  Recording, for every ensemble i, the whole row Σ_j marginal(i,j)·f(i,j)
    (what infretis adds to `frac`: the row of the permanent-ratio matrix) has the same total as the expectation, over
    the assignment distribution, of recording only the sampled assignment Σ_i f(i, σ(i)). -/
theorem swap_rao_blackwell (f : Nat → Nat → Rat) (N M : Nat) (as : List (List Nat × Rat))
    (h : ∀ a ∈ as, ∀ j ∈ a.1, j < M) :
    rsum ((List.range N).map (fun i => rsum ((List.range M).map (fun j => marginalNum as i j * f i j))))
      = rsum (as.map (fun a => a.2 * rsum ((List.range N).map (fun i => atEns a.1 i (f i))))) := by
  have h1 : ∀ i ∈ List.range N, rsum ((List.range M).map (fun j => marginalNum as i j * f i j))
      = rsum (as.map (fun a => a.2 * atEns a.1 i (f i))) := fun i _ => marginal_expect (f i) i M as h
  rw [List.map_congr_left h1]
  simp only [rsum_eq]
  rw [sum_map_sum_comm fun i (a : List Nat × Rat) => a.2 * atEns a.1 i (f i)]
  simp only [sum_map_mul_left]

example :
    let as : List (List Nat × Rat) := [([0, 1], 2), ([1, 0], 1)]
    marginalNum as 0 0 = 2 ∧ marginalNum as 0 1 = 1 ∧ total as = 3
      ∧ rsum ((List.range 2).map (fun i => rsum ((List.range 2).map (fun j => marginalNum as i j * ((i : Rat) + 2 * j)))))
        = rsum (as.map (fun a => a.2 * rsum ((List.range 2).map (fun i => atEns a.1 i (fun j => (i : Rat) + 2 * j))))) := by
  decide +kernel

/-- **The swap matrix the code computes, as a matrix of marginals** (instance of the two theorems above for the
    enumerated permutations with weights Π_i W[i,σ(i)] — `assignments W`; the tie compares `margMatrix W` with the real
    `REPEX_state.inf_retis` on every run): every row of the marginals sums to `total (assignments W)` = Σ_σ Π_i W[i,σ(i)]
    (the permanent as a sum over permutations; its equality with C02's `permC` is not proved), and adding the rows of the
    marginal matrix to `frac` has the same total as the expectation of adding the sampled permutation. -/
theorem swap_permutations_rao_blackwell (W : List (List Rat)) (f : Nat → Nat → Rat) :
    (∀ i, i < W.length →
      rsum ((List.range W.length).map (fun j => marginalNum (assignments W) i j)) = total (assignments W)) ∧
    rsum ((List.range W.length).map (fun i =>
        rsum ((List.range W.length).map (fun j => marginalNum (assignments W) i j * f i j))))
      = rsum ((assignments W).map (fun a =>
        a.2 * rsum ((List.range W.length).map (fun i => atEns a.1 i (f i))))) :=
  ⟨fun i hi => swap_marginal_row_sum i W.length W.length hi (assignments W) (assignments_spec W),
   swap_rao_blackwell f W.length W.length (assignments W) (fun a ha => (assignments_spec W a ha).2)⟩

example :
    let W : List (List Rat) := [[1, 0, 0], [0, 2, 1], [0, 1, 1]]
    margMatrix W = some [[1, 0, 0], [0, 2 / 3, 1 / 3], [0, 1 / 3, 2 / 3]] ∧ total (assignments W) = 3
      ∧ (perms 3).length = 6 := by
  decide +kernel

end Swap

section Length
open Infretis.LatticeMoves

/-- **Exit time, every segment.**  Any solution of the first-step equations of the exit time of (0, N) is x·(N−x). -/
theorem exit_time_closed_form (N : Nat) (hN : 0 < N) (t : Nat → Rat) (h : ExitTimeEq N t) (x : Nat) (hx : x ≤ N) :
    t x = (x : Rat) * ((N : Rat) - (x : Rat)) := by
  have he := exitTime_eq N
  exact firstStep_unique N _ t (exitTime N) h.2.2 he.2.2 (h.1.trans he.1.symm) (h.2.1.trans he.2.1.symm) x hx

/-- **Time to the top on the event that the top comes first.**  Any solution of the first-step equations of
    E[steps·1{N before 0}] is x·(N²−x²)/(3N); the equations have a solution (`hitTime N`), as have those of the exit time. -/
theorem hit_time_closed_form (N : Nat) (hN : 0 < N) (m : Nat → Rat) (h : HitTimeEq N m) (x : Nat) (hx : x ≤ N) :
    m x = (x : Rat) * ((N : Rat) * (N : Rat) - (x : Rat) * (x : Rat)) / (3 * (N : Rat)) := by
  have he := hitTime_eq N hN
  exact firstStep_unique N _ m (hitTime N) h.2.2 he.2.2 (h.1.trans he.1.symm) (h.2.1.trans he.2.1.symm) x hx

theorem length_equations_solvable (N : Nat) (hN : 0 < N) : ExitTimeEq N (exitTime N) ∧ HitTimeEq N (hitTime N) :=
  ⟨exitTime_eq N, hitTime_eq N hN⟩

/-- **Mean path length of data column k with n interfaces**: 2 + (k²−1)/3 + k·(n−k) frames.
    Reading: frames on site 0 and site 1, then (strong Markov property, not formalised) the conditional time from
    site 1 to site k given k before 0, then the exit time of (0, n) from site k. -/
theorem mean_length_closed_form (n k : Nat) (hk : 0 < k) :
    meanLen n k = 2 + ((k : Rat) * (k : Rat) - 1) / 3 + (k : Rat) * ((n : Rat) - (k : Rat)) := by
  have hk' : (k : Rat) ≠ 0 := by exact_mod_cast (Nat.pos_iff_ne_zero.1 hk)
  unfold meanLen hitTime exitTime ruin
  push_cast
  field_simp

example : meanLen 4 1 = 5 ∧ meanLen 4 2 = 7 ∧ meanLen 4 3 = 23 / 3 ∧ exitTime 4 2 = 4 ∧ hitTime 3 1 = 8 / 9 := by
  decide +kernel

/-- **The walk's own law of the exit time converges to the closed form.**  `stepsBy N t x` = E[min(τ, t)] under the walk's
    law (finite-horizon recursion, like `reachBy`) lies below x·(N−x) and within ρ^t·(x(N−x)+1) of it, ρ = N²/(N²+4) < 1:
    the exit-time reference is the limit of the walk's own law, not only the solution of first-step equations.
    (The tie compares `meanLen` with an independent enumeration of the path ensemble's measure on every run.) -/
theorem exit_time_law_converges (N : Nat) (hN : 0 < N) (t x : Nat) (hx : x ≤ N) :
    stepsBy N t x ≤ exitTime N x
      ∧ exitTime N x - stepsBy N t x ≤ rho N ^ t * ((x : Rat) * ((N : Rat) - (x : Rat)) + 1) ∧ rho N < 1 := by
  refine and_assoc.mp ⟨?_, rho_lt_one N⟩
  have he := exitTime_eq N
  refine law_gap N _ (exitTime N) (stepsBy N) (fun _ _ => 1) (fun t => rho N ^ t) (fun _ => 0) he.2.2
    (fun t x h1 h2 => by rw [stepsBy_succ, if_neg (by omega), if_neg (by omega)]) (fun t x hx => ?_)
    (fun _ _ _ _ => by simp) (fun x hx => ?_) (fun t => pow_nonneg (rho_nonneg N) t)
    (fun t => by rw [pow_succ]; linarith) t x hx
  · rw [stepsBy_out N _ x (hx.imp_right fun h => Nat.le_of_eq h.symm)]
    rcases hx with rfl | rfl
    · exact he.1.symm
    · exact he.2.1.symm
  · have hxN : (x : Rat) ≤ (N : Rat) := by exact_mod_cast hx
    have : 0 ≤ (x : Rat) * ((N : Rat) - (x : Rat)) := mul_nonneg (by positivity) (by linarith)
    simp only [stepsBy, exitTime, sub_zero, pow_zero, one_mul]
    exact ⟨this, by linarith⟩

example : stepsBy 4 6 2 = 7 / 2 ∧ exitTime 4 2 = 4 ∧ exitTime 4 2 - stepsBy 4 6 2 ≤ rho 4 ^ 6 * (2 * (4 - 2) + 1) := by decide +kernel

/-- **… and so does the law of the time to the top on the event "top first".**  `hitStepsBy N t x` =
    E[τ·1{site N before site 0, τ ≤ t}] under the walk's law lies below `hitTime N x` = x(N²−x²)/(3N) and within
    (t+1)·ρ^t·(x(N−x)+1) of it.  With `reachBy_gap` (the denominator `ruin k 1`) and `exit_time_law_converges`
    every ingredient of `meanLen n k` is the limit of a finite-horizon law of the walk; what stays unformalised is the
    strong Markov property that adds them up. -/
theorem hit_time_law_converges (N : Nat) (hN : 0 < N) (t x : Nat) (hx : x ≤ N) :
    hitStepsBy N t x ≤ hitTime N x
      ∧ hitTime N x - hitStepsBy N t x ≤ ((t : Rat) + 1) * rho N ^ t * ((x : Rat) * ((N : Rat) - (x : Rat)) + 1) := by
  have he := hitTime_eq N hN
  refine law_gap N _ (hitTime N) (hitStepsBy N) (fun t x => reachBy N (t + 1) x) (fun t => ((t : Rat) + 1) * rho N ^ t)
    (fun t => rho N ^ (t + 1)) he.2.2
    (fun t x h1 h2 => by rw [hitStepsBy_succ, if_neg (by omega), if_neg (by omega), add_comm]) (fun t x hx => ?_)
    (fun t x _ h2 => reachBy_gap N hN (t + 1) x (by omega))
    (fun x hx => by simpa [hitStepsBy] using hitTime_le_v N hN x hx)
    (fun t => mul_nonneg (by positivity) (pow_nonneg (rho_nonneg N) t))
    (fun t => by push_cast; rw [pow_succ]; linarith) t x hx
  rw [hitStepsBy_out N _ x (hx.imp_right fun h => Nat.le_of_eq h.symm)]
  rcases hx with rfl | rfl
  · exact he.1.symm
  · exact he.2.1.symm

example : hitStepsBy 3 6 1 = 27 / 32 ∧ hitTime 3 1 = 8 / 9 := by decide +kernel

end Length

/-! ### the second estimator: reweighted mean path length (Lean twin of the check's `length_stats`) -/

/-- the reweighted mean length is a weighted mean: between any two bounds that hold for every contributing row -/
theorem mean_length_estimate_bounds (k : Nat) (rows : List Row) (m : Rat) (a b : Rat)
    (h : meanLenEst k rows = some m)
    (hab : ∀ r ∈ rows, term k r ≠ 0 → a ≤ (r.len : Rat) ∧ (r.len : Rat) ≤ b) :
    m = lenNum k rows / den k rows ∧ 0 < den k rows ∧ a ≤ m ∧ m ≤ b := by
  obtain ⟨hm, hd⟩ := ratioEst_some h
  exact ⟨hm, hd, ratioEst_bounds a b h hab⟩

theorem mean_length_estimate_scale_invariant (k : Nat) (c d : Rat) (hc : 0 < c) (hd : 0 < d) (rows : List Row) :
    meanLenEst k (rows.map (Row.scaleCol k c d)) = meanLenEst k rows :=
  ratioEst_scaleCol k c d hc hd _ (fun _ => rfl) rows

/-- with stationary fractions (term = c·ρ) the estimate is Σ ρ·len / Σ ρ: the weights cancel -/
theorem mean_length_of_stationary_fractions (k : Nat) (rows : List Row) (c : Rat) (ρ : Row → Rat) (hc : 0 < c)
    (hterm : ∀ r ∈ rows, term k r = c * ρ r) (hden : sumOver ρ rows ≠ 0) :
    meanLenEst k rows = some (sumOver (fun r => ρ r * (r.len : Rat)) rows / sumOver ρ rows) :=
  ratioEst_of_stationary k _ rows c ρ hc hterm hden

theorem len_num_append (k : Nat) (a b : List Row) : lenNum k (a ++ b) = lenNum k a + lenNum k b :=
  sumOver_append _ a b

example :
    let rows : List Row := [{ len := 5, maxOp := 5 / 2, frac := [0, 1 / 2, 1 / 3], w := [0, 1, 2] },
                            { len := 7, maxOp := 3 / 2, frac := [0, 1 / 4, 2 / 3], w := [0, 1, 1] }]
    meanLenEst 1 rows = some (17 / 3) ∧ meanLenEst 2 rows = some (33 / 5) ∧ meanLenEst 0 rows = none
      ∧ meanLenEst 2 (rows.map (Row.scaleCol 2 3 (1 / 7))) = some (33 / 5) := by
  decide +kernel

/-- **The estimator's limit is the ratio of expectations.**  If the accumulated fractions are stationary — every
    contributing row has frac_k / w_k = c·ρ(r) for one constant c > 0, which is what invariance of
    π_k(p) ∝ ρ(p)·w_k(p) under the moves gives for the occupation of column k (ergodicity assumed, not proved) — then the
    estimate is exactly Σ ρ·[crossed λ_k] / Σ ρ: the high-acceptance weight w_k cancels, whatever it is. -/
theorem estimate_of_stationary_fractions (k : Nat) (rows : List Row) (c : Rat) (ρ : Row → Rat) (hc : 0 < c)
    (hterm : ∀ r ∈ rows, term k r = c * ρ r) (hden : sumOver ρ rows ≠ 0) :
    estimate k rows = some (sumOver (fun r => if crossed k r then ρ r else 0) rows / sumOver ρ rows) := by
  rw [estimate_eq, ratioEst_of_stationary k _ rows c ρ hc hterm hden,
    sumOver_congr _ (fun r => if crossed k r then ρ r else 0) rows fun r _ => by split <;> simp]

/-- the hypothesis of `estimate_of_stationary_fractions` holds for a row whose column k carries
    frac = c·ρ·w with w > 0 and ρ > 0 -/
theorem term_of_weighted_fraction (k : Nat) (r : Row) (c ρ f w : Rat) (hf : r.frac[k]? = some f) (hw : r.w[k]? = some w)
    (hc : 0 < c) (hρ : 0 < ρ) (hw0 : 0 < w) (hfr : f = c * ρ * w) : term k r = c * ρ := by
  unfold term
  rw [hf, hw]
  have hf0 : 0 < f := by rw [hfr]; positivity
  simp only [hf0, hw0, and_self, if_true]
  rw [hfr, mul_div_assoc, div_self (ne_of_gt hw0), mul_one]

example :
    let rows : List Row := [{ len := 5, maxOp := 5 / 2, frac := [0, 3 * 2 * 4], w := [0, 4] },
                            { len := 7, maxOp := 1 / 2, frac := [0, 3 * 1 * 5], w := [0, 5] }]
    estimate 1 rows = some (2 / 3) ∧ term 1 rows[0] = 3 * 2 ∧ term 1 rows[1] = 3 * 1 := by
  decide +kernel

end Infretis.C01
