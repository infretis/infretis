import Infretis.Lemmas.RepexC04C05
import Infretis.Lemmas.RepexC04Crash
import Infretis.Lemmas.RepexC04Resume
import Infretis.Lemmas.RepexC03RLocked
import Infretis.Lemmas.RepexC04Finish
import Infretis.Lemmas.RepexC04Np
import Infretis.Lemmas.RepexC05Dec
/-!
# C04 — fractional weights are conserved and accounted for exactly once

Property theorems only (helper lemmas: `Infretis/Lemmas/RepexC04*.lean`;
the history theorems use C03's scheduler invariant `Inv` and its restart-aware form `InvR` from
`RepexC03{Core,Treat,Sys,Init,Load}.lean`).
Model: `Infretis/Model/Repex.lean` (`recordFrac` = the "record weights" loop of `treat_output`,
`writeRows` = `write_to_pathens`, `treatOutput`, the scheduler events `sysStep`/`run`, the restart
image `persist`/`restore`) and `Infretis/Model/DataFile.lean` (§9–§12: the written row `fmtCols`, the data file
as lines, `clean_data_file` = `cleanLines`, `write_toml`'s fraction section `persistD`, the disk `DSys`/`dStep`,
stops `stopDisk`, the restart `restartClean` + `restore`); the swap-probability matrix is the specification
`Perm.probMatrix` (C02 ties `inf_retis` to it).

Vocabulary
* `colTotal l c`     = `Σ_key l[key][c]`     column total of a table of fraction vectors
* `rowsTotal rows c` = the same over the `frac` part of the data-file rows
* `fracAt l k c`     = entry `c` of the vector of path `k`
* `SlotWF s`   slot/lock well-formedness at recording time: `W`, `trajs`, `locks` have `n` entries, the
               ghost (last slot) is locked, every idle slot holds a path, distinct slots hold distinct
               paths.  (All of it is part of C03's invariant `Core`.)
* `Matchable s`  the idle block has a non-zero permanent (C05 shows that the sampler keeps it).
* `FracWF s`   the fraction table has pairwise distinct keys `< trajNum` and vectors of length `n`.
Slots: ensemble `ens_num` lives in slot/column `ens_num + 1`; the last slot/column is the ghost.
-/
namespace Infretis.C04
open Infretis.Repex Infretis.Repex.Frac Infretis.Perm Infretis.Repex.Data

/-! ## 1. One recording adds one unit per idle column -/

/-- **One "record weights" pass.**  On a well-formed matchable state, if `recordFrac s = ok s'`:
    1. every idle column gains exactly 1 in total, every other column (busy, ghost, out of range) 0;
    2. nothing but `frac` changes and the set of keys is the same;
    3. only vectors of idle live paths change;
    4. the vector of the path `pn` sitting in the idle slot `i` gains `probMatrix[i][c]` in entry `c`,
       which is the permanent ratio of the idle block when column `c` is idle, `0` when column `c` is
       not idle, `0` when `W[i][c] = 0`, and `≥ 0` when the weights of the idle block are `≥ 0`. -/
theorem recordFrac_adds_one_per_idle_column {s s' : St} (wf : SlotWF s) (hM : Matchable s)
    (hk : (s.frac.map Prod.fst).Nodup) (hl : ∀ kv ∈ s.frac, kv.2.length = s.n)
    (h : recordFrac s = .ok s') :
    (∀ c, colTotal s'.frac c - colTotal s.frac c = if s.locks[c]? = some false then 1 else 0) ∧
    s' = { s with frac := s'.frac } ∧ s'.frac.map Prod.fst = s.frac.map Prod.fst ∧
    (∀ k, (∀ i, i < s.n - 1 → s.locks[i]? = some false → s.trajs[i]? ≠ some (some k)) →
        s'.frac.lookup k = s.frac.lookup k) ∧
    (∀ i pn, i < s.n - 1 → s.locks[i]? = some false → s.trajs[i]? = some (some pn) → ∀ c,
        fracAt s'.frac pn c - fracAt s.frac pn c = entry (prob s) i c ∧
        (s.locks[c]? = some false →
          entry (prob s) i c = pSpec (idle s.W s.locks) (rank s.locks i) (rank s.locks c)) ∧
        (s.locks[c]? ≠ some false → entry (prob s) i c = 0) ∧
        (entry s.W i c = 0 → entry (prob s) i c = 0) ∧
        (C05.NonNegM (idle s.W s.locks) → 0 ≤ entry (prob s) i c)) := by
  have hW : s.W.length = s.locks.length := by rw [wf.lenW, wf.lenL]
  obtain ⟨h1, h2, _, _, h5, h6⟩ := recordFrac_spec wf hk hl h
  refine ⟨?_, h1, h2, h6, ?_⟩
  · intro c
    rw [recordFrac_col wf hM hk hl h c]
    ring
  · intro i pn hi hli htr c
    refine ⟨?_, ?_, ?_, ?_, ?_⟩
    · rw [h5 i pn hi hli htr c]; ring
    · intro hc; exact probMatrix_idle s.W s.locks hW i c hli hc
    · intro hc; exact probMatrix_zero_of_not_idle s.W s.locks hW i c (Or.inr hc)
    · intro hz; exact probMatrix_zero_of_weight_zero s.W s.locks hW i c hz
    · intro hnn; exact C05.probMatrix_nonneg s.W s.locks hW hnn i c

theorem prob_column_sum {s : St} (wf : SlotWF s) (hM : Matchable s) (c : Nat) :
    ((List.range s.n).map (fun i => entry (prob s) i c)).sum
      = if s.locks[c]? = some false then 1 else 0 := by
  have := probMatrix_col_sum s.W s.locks (by rw [wf.lenW, wf.lenL]) hM c
  rw [wf.lenL] at this
  exact this

/-- Example state: 3 ensembles + ghost; `[0-]` (slot 0, path 5) is busy, `[0+]` and `[1+]` idle with
    paths 3 and 4; idle block `[[1,1],[1,2]]`, permanent 3. -/
def exRec : St :=
  { blank 4 2 10 3 6 0 [[-1, -1]] [[0], [0], [0]] false [] with
    W := [[1,0,0,0], [0,1,1,0], [0,1,2,0], [0,0,0,0]],
    trajs := [some 5, some 3, some 4, none],
    locks := [true, false, false, true],
    toinitiate := -1,
    frac := [(3, [0, 1/2, 1/2, 0]), (4, [0, 0, 1, 0]), (5, [1, 0, 0, 0])],
    wts := [(3, [1, 1]), (4, [1, 2]), (5, [1])] }

example : slotOk exRec = true ∧ Matchable exRec ∧ (exRec.frac.map Prod.fst).Nodup ∧
    (∀ kv ∈ exRec.frac, kv.2.length = exRec.n) ∧
    recordFrac exRec = .ok { exRec with
      frac := [(3, [0, 1/2 + 2/3, 1/2 + 1/3, 0]), (4, [0, 1/3, 1 + 2/3, 0]), (5, [1, 0, 0, 0])] } := by
  decide +kernel

/-! ## 2. The data file receives exactly what leaves the table -/

/-- **`write_to_pathens`.**  If `writeRows s l = ok s'` (table keys distinct): the data file grows by
    exactly one row per listed number, in order, each carrying the `frac` (and `weights`) vector the
    path had; exactly the listed keys leave `frac` and `wts`; nothing else changes; the listed
    numbers are pairwise distinct; for every column the total over (data rows + table) is unchanged. -/
theorem writeRows_moves_mass (l : List Nat) (s s' : St) (hk : (s.frac.map Prod.fst).Nodup)
    (h : writeRows s l = .ok s') :
    (∃ news : List (Nat × List Rat × List Rat), s'.rows = s.rows ++ news ∧ news.map (·.1) = l ∧
        ∀ r ∈ news, s.frac.lookup r.1 = some r.2.1 ∧ s.wts.lookup r.1 = some r.2.2) ∧
    s'.frac = s.frac.filter (fun kv => !l.contains kv.1) ∧
    s'.wts = s.wts.filter (fun kv => !l.contains kv.1) ∧
    s' = { s with rows := s'.rows, frac := s'.frac, wts := s'.wts } ∧
    l.Nodup ∧
    (∀ c, rowsTotal s'.rows c + colTotal s'.frac c = rowsTotal s.rows c + colTotal s.frac c) :=
  writeRows_spec l s s' hk h

example : (exRec.frac.map Prod.fst).Nodup ∧
    writeRows exRec [5, 3] = .ok { exRec with
      rows := [(5, [1, 0, 0, 0], [1]), (3, [0, 1/2, 1/2, 0], [1, 1])],
      frac := [(4, [0, 0, 1, 0])], wts := [(4, [1, 2])] } := by
  decide +kernel

/-! ## 3. Conservation across one `treat_output` -/

/-- **One completed move.**  Let `s1` be the recording state (`recState`: the job's ensembles got
    their new/old paths back and are unlocked; new paths entered the table with zero vectors).
    `treatOutput` ends with the locks of `s1`, which are the locks of `s` with the job's slots
    released.  If the table of `s` is well formed and `s1` is slot-well-formed, the table stays well
    formed, and if moreover `s1` is matchable then for every column `c`
    `total(rows) + total(frac)` grows by exactly 1 if `c` is idle after the release, by 0 otherwise. -/
theorem treatOutput_conservation {s s' : St} {job : Job} {status : Status} {newW : List (List Rat)}
    {fuel : Nat} {pns : List Nat} {it : Nat} (fw : FracWF s)
    (h : treatOutput s job status newW fuel = .ok (s', pns, it)) :
    ∃ s1 tn, recState s job status newW = .ok (s1, tn, pns) ∧
      s1.locks = unlockAll s.locks (job.picked.map (fun p => (p.ens + 1).toNat)) ∧
      s'.locks = s1.locks ∧ s'.n = s.n ∧ s'.trajNum = tn ∧
      tn = s.trajNum + (if status = .acc then job.picked.length else 0) ∧
      (SlotWF s1 →
        FracWF s' ∧
        (Matchable s1 → ∀ c, rowsTotal s'.rows c + colTotal s'.frac c
          = rowsTotal s.rows c + colTotal s.frac c + (if s'.locks[c]? = some false then 1 else 0))) :=
  treatOutput_total fw h

/-- the job holding `[0-]` with path 5 in `exRec` -/
def exJob : Job :=
  { pin := 0, wfolder := 0, pnumOld := [5],
    picked := [{ ens := -1, pn := 5, rgen := ⟨0, [0, 0]⟩, rgenEng := ⟨0, [0, 0, 0]⟩, engIdx := [(0, 0)] }] }

def exRecSt : St :=
  match recState exRec exJob .acc [[1]] with
  | .ok (s, _, _) => s
  | .error _ => exRec

def exAfter : St :=
  match treatOutput exRec exJob .acc [[1]] 20 with
  | .ok (s, _, _) => s
  | .error _ => exRec

/-- ACC of the `[0-]` job: path 5 is replaced by the new path 6; all three ensemble columns are idle at
    recording time; the row of path 5 goes to the data file. -/
example : fracOk exRec = true ∧ treatOutput exRec exJob .acc [[1]] 20 = .ok (exAfter, [6], 0) ∧
    recState exRec exJob .acc [[1]] = .ok (exRecSt, 7, [6]) ∧ slotOk exRecSt = true ∧
    Matchable exRecSt ∧ exAfter.locks = [false, false, false, true] ∧
    exAfter.rows = [(5, [1, 0, 0, 0], [1])] ∧
    exAfter.frac = [(3, [0, 1/2 + 2/3, 1/2 + 1/3, 0]), (4, [0, 1/3, 1 + 2/3, 0]), (6, [1, 0, 0, 0])] := by
  decide +kernel

/-! ## 4. Conservation over whole histories

Quantifier: every fresh start `y0` (`FracInit`: C03's `Init` — what `load_paths` leaves — with a
well-formed all-zero fraction table and an empty data file), every event list `evs` (any
interleaving of completions, any accept/reject outcome, any number of workers), every `y` with
`run y0 evs = ok y`.  `idleSteps y0 evs c` counts, by recursion alongside `run`, the completed
steps of the history at whose recording time (`recState`) column `c` was idle.
`MatchableAlong y0 evs` = at each of these recordings the idle block has a non-zero permanent
(C05's invariant; carried as a hypothesis here). -/

/-- **Conservation.**  Data-file rows plus the fractions of the paths still in the table sum, per
    column, to the number of completed steps at which that column was idle. -/
theorem conservation (y0 y : Sys) (evs : List Ev) (h0 : FracInit y0) (hr : run y0 evs = .ok y)
    (hm : MatchableAlong y0 evs) (c : Nat) :
    rowsTotal y.s.rows c + colTotal y.s.frac c = (idleSteps y0 evs c : Rat) := by
  obtain ⟨_, _, ht, _⟩ := run_total evs h0.hinv h0.jinv hr hm
  have := ht c
  rw [h0.total_zero c] at this
  unfold total at this
  rw [this]; ring

theorem conservation_from (y0 y : Sys) (evs : List Ev) (hi : HInv y0) (hj : JInv y0)
    (hr : run y0 evs = .ok y) (hm : MatchableAlong y0 evs) (c : Nat) :
    rowsTotal y.s.rows c + colTotal y.s.frac c
      = rowsTotal y0.s.rows c + colTotal y0.s.frac c + (idleSteps y0 evs c : Rat) ∧ HInv y ∧ JInv y := by
  obtain ⟨h1, h2, ht, _⟩ := run_total evs hi hj hr hm
  exact ⟨ht c, h1, h2⟩

/-- **One worker: every ensemble column total equals the step counter.** -/
theorem conservation_one_worker (y0 y : Sys) (evs : List Ev) (h0 : FracInit y0)
    (hw : y0.s.workers = 1) (hc0 : y0.s.cstep = 0) (hr : run y0 evs = .ok y)
    (hm : MatchableAlong y0 evs) (c : Nat) (hc : c < y.s.n - 1) :
    rowsTotal y.s.rows c + colTotal y.s.frac c = (y.s.cstep : Rat) := by
  obtain ⟨_, _, _, hn, _, hcs⟩ := run_total evs h0.hinv h0.jinv hr hm
  rw [conservation y0 y evs h0 hr hm c, hcs hw c (by rw [← hn]; exact hc), hc0]
  simp

/-- with one worker every completed step is an idle recording for every ensemble column -/
theorem one_worker_all_idle (y0 y : Sys) (evs : List Ev) (h0 : FracInit y0)
    (hw : y0.s.workers = 1) (hr : run y0 evs = .ok y) (hm : MatchableAlong y0 evs) (c : Nat)
    (hc : c < y0.s.n - 1) : y.s.cstep = y0.s.cstep + idleSteps y0 evs c := by
  obtain ⟨_, _, _, _, _, hcs⟩ := run_total evs h0.hinv h0.jinv hr hm
  exact hcs hw c hc

/-! ### fresh starts

`DiskStart y0` = `RowInit` + C05's `Init5` + C06's `Tidy` is the strongest of the start predicates; the examples establish
it once per configuration and read the weaker ones off it. -/

/-- **`RowInit` (hence `FracInit`) is what a fresh start produces**: `REPEX_state.__init__` followed
    by `load_paths` on `n − 1` initial paths with pairwise distinct numbers below `trajNum` and all-zero
    fraction vectors of length `n` (any weights, workers, engine table), `n ≥ 2`, no restart jobs —
    if `load_paths` does not raise, the state with nothing in flight satisfies `RowInit`. -/
theorem fresh_start_is_rowInit (n workers tsteps cstep trajNum seed : Nat) (occ : List (List Int))
    (ensEng : List (List Nat)) (restarted : Bool) (paths : List (Nat × List Rat × List Rat)) (s : St)
    (hn : 2 ≤ n) (hlen : paths.length = n - 1) (hnd : (paths.map (·.1)).Nodup)
    (hlt : ∀ p ∈ paths, p.1 < trajNum) (hz : ∀ p ∈ paths, p.2.2 = List.replicate n 0)
    (h : loadPaths (blank n workers tsteps cstep trajNum seed occ ensEng restarted []) paths = .ok s) :
    RowInit ⟨s, []⟩ :=
  (FreshLoad.mk workers tsteps cstep trajNum seed occ ensEng restarted hn hlen hnd hlt h).rowInit hz

/-- **`DiskStart` is what a fresh start produces** (`load_paths` on `n − 1` initial paths with distinct numbers
    below `traj_num`, zero fractions, weights in C02's family). -/
theorem fresh_start_is_diskStart (n workers tsteps cstep trajNum seed : Nat) (occ : List (List Int))
    (ensEng : List (List Nat)) (restarted : Bool) (paths : List (Nat × List Rat × List Rat)) (s : St)
    (hn : 2 ≤ n) (hlen : paths.length = n - 1) (hnd : (paths.map (·.1)).Nodup)
    (hlt : ∀ p ∈ paths, p.1 < trajNum) (hz : ∀ p ∈ paths, p.2.2 = List.replicate n 0)
    (hfam : ∀ (i : Nat) (hi : i < paths.length), VecOk n ((i : Int) - 1) (paths[i]).2.1)
    (h : loadPaths (blank n workers tsteps cstep trajNum seed occ ensEng restarted []) paths = .ok s) :
    DiskStart ⟨s, []⟩ :=
  (FreshLoad.mk workers tsteps cstep trajNum seed occ ensEng restarted hn hlen hnd hlt h).diskStart hz hfam

/-! ### a two-worker and a one-worker history -/

def exPaths : List (Nat × List Rat × List Rat) :=
  [(0, [1], [0,0,0,0]), (1, [1,1,0], [0,0,0,0]), (2, [1,1,0], [0,0,0,0])]

def exBlank : St := blank 4 2 10 0 3 0 [[-1, -1]] [[0], [0], [0]] false []

def exS0 : St :=
  match loadPaths exBlank exPaths with
  | .ok s => s
  | .error _ => exBlank

def exSys : Sys := { s := exS0, jobs := [] }

/-- worker 0 starts a zero swap (holds `[0-]`, `[0+]`), worker 1 starts `[1+]`, initiation closes,
    the zero swap completes ACCEPTED (`[1+]` busy at the recording) and worker 0 restarts on `[0-]`,
    then worker 1's job completes REJECTED (`[0-]` busy at the recording). -/
def exEvs : List Ev :=
  [ .start { t := 0, e := 0, coin := true, partner := 1 },
    .start { t := 2, e := 2 },
    .initDone,
    .step 0 .acc [[1], [1, 1, 0]] { t := 0, e := 0, coin := false },
    .step 0 .rej [] { t := 2, e := 2 } ]

def exEnd : Sys := match run exSys exEvs with | .ok y => y | .error _ => exSys

theorem exS0_load : loadPaths exBlank exPaths = .ok exS0 := by decide +kernel

theorem exPaths_fam (i : Nat) (hi : i < exPaths.length) : VecOk 4 ((i : Int) - 1) (exPaths[i]).2.1 := by
  have : i = 0 ∨ i = 1 ∨ i = 2 := by
    simp only [exPaths, List.length_cons, List.length_nil] at hi; omega
  rcases this with rfl | rfl | rfl
  · show VecOk 4 (-1) [1]
    decide +kernel
  · show VecOk 4 0 [1, 1, 0]
    decide +kernel
  · show VecOk 4 1 [1, 1, 0]
    decide +kernel

theorem exDiskStart : DiskStart exSys :=
  fresh_start_is_diskStart 4 2 10 0 3 0 [[-1, -1]] [[0], [0], [0]] false exPaths exS0 (by decide) (by decide)
    (by decide) (by decide) (by decide) exPaths_fam exS0_load

theorem ex_rowInit : RowInit exSys := exDiskStart.ri

theorem ex_fracInit : FracInit exSys := exDiskStart.ri.fi

theorem ex_init5 : Init5 exSys := exDiskStart.i5

theorem exEnd_run : run exSys exEvs = .ok exEnd := by decide +kernel

example : FracInit exSys ∧ run exSys exEvs = .ok exEnd ∧ MatchableAlong exSys exEvs ∧
    (List.range 5).map (idleSteps exSys exEvs) = [1, 2, 1, 0, 0] ∧
    exEnd.s.rows = [(0, [0, 0, 0, 0], [1]), (1, [0, 0, 0, 0], [1, 1, 0])] ∧
    exEnd.s.frac = [(2, [0, 1/2, 1/2, 0]), (3, [1, 0, 0, 0]), (4, [0, 3/2, 1/2, 0])] :=
  ⟨ex_fracInit, by decide +kernel⟩

def exBlank1 : St := blank 4 1 10 0 3 0 [[-1]] [[0], [0], [0]] false []

def exS1 : St :=
  match loadPaths exBlank1 exPaths with
  | .ok s => s
  | .error _ => exBlank1

def exSys1 : Sys := { s := exS1, jobs := [] }

/-- one worker: `[1+]` accepted (new weights `[1,2,0]`), `[0-]` rejected, `[0+]` accepted -/
def exEvs1 : List Ev :=
  [ .start { t := 1, e := 2 },
    .initDone,
    .step 0 .acc [[1, 2, 0]] { t := 0, e := 0, coin := false },
    .step 0 .rej [] { t := 2, e := 1 },
    .step 0 .acc [[1, 1, 1]] { t := 2, e := 2 } ]

def exEnd1 : Sys := match run exSys1 exEvs1 with | .ok y => y | .error _ => exSys1

theorem exS1_load : loadPaths exBlank1 exPaths = .ok exS1 := by decide +kernel

theorem exDiskStart1 : DiskStart exSys1 :=
  fresh_start_is_diskStart 4 1 10 0 3 0 [[-1]] [[0], [0], [0]] false exPaths exS1 (by decide) (by decide)
    (by decide) (by decide) (by decide) exPaths_fam exS1_load

theorem ex_rowInit1 : RowInit exSys1 := exDiskStart1.ri

theorem ex_fracInit1 : FracInit exSys1 := exDiskStart1.ri.fi

theorem ex_init5_1 : Init5 exSys1 := exDiskStart1.i5

theorem exEnd1_run : run exSys1 exEvs1 = .ok exEnd1 := by decide +kernel

example : FracInit exSys1 ∧ exSys1.s.workers = 1 ∧ exSys1.s.cstep = 0 ∧
    run exSys1 exEvs1 = .ok exEnd1 ∧ MatchableAlong exSys1 exEvs1 ∧ exEnd1.s.cstep = 3 ∧
    exEnd1.s.n = 4 ∧
    exEnd1.s.rows = [(1, [0, 0, 0, 0], [1, 1, 0]), (3, [0, 2/3, 4/3, 0], [1, 2, 0])] ∧
    exEnd1.s.frac = [(2, [0, 11/6, 7/6, 0]), (0, [3, 0, 0, 0]), (4, [0, 1/2, 1/2, 0])] :=
  ⟨ex_fracInit1, by decide +kernel⟩

/-! ## 5. A path's row is written exactly once, when it is replaced, never while it is live

`RowInit y0` = `FracInit y0` and every path sitting in a slot has a table entry and the path numbers
in the slots are pairwise distinct (what `load_paths` leaves).  `writtenAt y ev` = the old path
numbers of the completing job when `ev` is a `.step` with status ACC, `[]` otherwise;
`writtenAlong y0 evs` = their concatenation along the history.  No matchability needed. -/

/-- **Written once.**  In every reachable state: the path numbers of the data-file rows are pairwise
    distinct; none of them is live (sits in a slot); none of them is still in the fraction table
    (`restart.toml [current.frac]`); the rows are exactly those written by the accepted completions of
    the history, in order; live path numbers are pairwise distinct and, like the written ones, below
    the path counter (so the fresh numbers `trajNum, trajNum+1, …` are new). -/
theorem row_written_once (y0 y : Sys) (evs : List Ev) (h0 : RowInit y0) (hr : run y0 evs = .ok y) :
    (y.s.rows.map (·.1)).Nodup ∧
    (∀ pn ∈ y.s.rows.map (·.1), some pn ∉ y.s.trajs) ∧
    (∀ pn ∈ y.s.rows.map (·.1), pn ∉ y.s.frac.map Prod.fst) ∧
    y.s.rows.map (·.1) = writtenAlong y0 evs ∧
    (y.s.trajs.filterMap id).Nodup ∧
    (∀ pn, some pn ∈ y.s.trajs → pn < y.s.trajNum) ∧
    (∀ pn ∈ y.s.rows.map (·.1), pn < y.s.trajNum) := by
  obtain ⟨hi, r, hrows⟩ := run_rinv evs h0.fi.hinv h0.rinv hr
  refine ⟨r.rowsNodup, ?_, r.rowsFrac, ?_, r.liveNodup, ?_, r.rowsBound⟩
  · intro pn hpn hm
    exact r.rowsFrac pn hpn (r.liveFrac pn hm)
  · rw [hrows, h0.fi.rows]; simp
  · intro pn hm
    exact hi.fw.bound pn (r.liveFrac pn hm)

/-- **Written when replaced.**  One event from a reachable state appends rows exactly for
    `writtenAt y ev`: for a `.step` completing job `job` these are the paths the job held
    (`job.picked`'s path numbers) if the move was accepted and none if it was rejected; every one of
    them was live before the event and is not live after it. -/
theorem row_written_when_replaced (y0 y y' : Sys) (evs : List Ev) (ev : Ev) (h0 : RowInit y0)
    (hr : run y0 evs = .ok y) (hs : sysStep y ev = .ok y') :
    y'.s.rows.map (·.1) = y.s.rows.map (·.1) ++ writtenAt y ev ∧
    (∀ pn ∈ writtenAt y ev, some pn ∈ y.s.trajs ∧ some pn ∉ y'.s.trajs) ∧
    (∀ k status newW o job, ev = .step k status newW o → y.jobs[k]? = some job →
      writtenAt y ev = if status = .acc then job.picked.map (·.pn) else []) := by
  obtain ⟨hi, r, _⟩ := run_rinv evs h0.fi.hinv h0.rinv hr
  obtain ⟨_, h1, h2⟩ := sysStep_rinv ev hi r hs
  refine ⟨h1, h2, ?_⟩
  intro k status newW o job hev hjob
  subst hev
  simp only [writtenAt, hjob, written]
  rw [r.jobsOld job (List.mem_of_getElem? hjob)]

example : RowInit exSys ∧ run exSys exEvs = .ok exEnd ∧ writtenAlong exSys exEvs = [0, 1] ∧
    exEnd.s.trajs = [some 3, some 4, some 2, none] ∧ exEnd.s.frac.map Prod.fst = [2, 3, 4] :=
  ⟨ex_rowInit, exEnd_run, by decide +kernel⟩

/-- the fourth event of the two-worker history (the zero swap completes ACCEPTED) writes paths 0, 1 -/
example : run exSys (exEvs.take 3) = .ok (match run exSys (exEvs.take 3) with | .ok y => y | .error _ => exSys) ∧
    writtenAt (match run exSys (exEvs.take 3) with | .ok y => y | .error _ => exSys)
      (.step 0 .acc [[1], [1, 1, 0]] { t := 0, e := 0, coin := false }) = [0, 1] := by
  decide +kernel

example : RowInit exSys1 ∧ run exSys1 exEvs1 = .ok exEnd1 ∧ writtenAlong exSys1 exEvs1 = [1, 3] :=
  ⟨ex_rowInit1, exEnd1_run, by decide +kernel⟩

/-! ## 6. Restarts

`persist s` is what `write_toml` stores (`[current]`: active paths, `frac`, counters);
`restore im n …` is `REPEX_state.__init__` + `load_paths` on the image (`weightOf pn` = the weight
vector recomputed from the stored path).  The data-file list of the model starts empty in the new
run (the file on disk is appended to), so across a restart the law reads
`rows(before) + rows(after) + table(after) = idle recordings(before) + idle recordings(after)`. -/

/-- **The restart image keeps the fractions.**  After `restore (persist s)`: every live path of `s`
    has exactly the vector it had in `s` (a zero vector if it had none); the restored table holds
    exactly the live paths; the path counter is kept; and if the table of `s` held exactly its live
    paths (distinct keys), every column total of the table is the same. -/
theorem restart_preserves_frac {s s' : St} {n workers tsteps : Nat} {occ : List (List Int)}
    {ensEng : List (List Nat)} {weightOf : Nat → List Rat}
    (h : restore (persist s) n workers tsteps occ ensEng weightOf = .ok s') :
    (∀ pn, some pn ∈ livePaths s →
        s'.frac.lookup pn = some ((s.frac.lookup pn).getD (List.replicate n 0))) ∧
    (∀ pn v, some pn ∈ livePaths s → s.frac.lookup pn = some v → s'.frac.lookup pn = some v) ∧
    (s'.frac.map Prod.fst).Perm ((livePaths s).filterMap id) ∧ s'.rows = [] ∧
    s'.trajNum = s.trajNum ∧
    ((s.frac.map Prod.fst).Nodup → (s.frac.map Prod.fst).Perm ((livePaths s).filterMap id) →
        ∀ c, colTotal s'.frac c = colTotal s.frac c) := by
  obtain ⟨hk, _, hr, _, ht⟩ := restore_frac h
  refine ⟨restore_lookup h, ?_, hk, hr, ht, fun h1 h2 c => restore_colTotal h h1 h2 c⟩
  intro pn v hl hv
  rw [restore_lookup h pn hl, hv]
  rfl

/-- **Conservation across one restart** (chains follow by repeating the argument, since the
    restored state is a start state again — `restore_init`).  A fresh start runs `evs1` to a
    quiescent state `y1` (nothing in flight, nothing recorded as locked, the table holding exactly
    the live paths), its image is restored with any worker count / step target, and the new run
    performs `evs2`.  Then for every column: rows of the first run + rows of the second run + the
    live fractions = idle recordings of the first run + idle recordings of the second run. -/
theorem restart_conservation (y0 y1 y3 : Sys) (evs1 evs2 : List Ev) (h0 : RowInit y0)
    (hr1 : run y0 evs1 = .ok y1) (hm1 : MatchableAlong y0 evs1)
    (hlk : y1.s.locked = [])
    (htab : (y1.s.frac.map Prod.fst).Perm ((livePaths y1.s).filterMap id))
    (workers tsteps : Nat) (occ : List (List Int)) (ensEng : List (List Nat))
    (weightOf : Nat → List Rat) (s2 : St)
    (hrs : restore (persist y1.s) y1.s.n workers tsteps occ ensEng weightOf = .ok s2)
    (hr2 : run ⟨s2, []⟩ evs2 = .ok y3) (hm2 : MatchableAlong ⟨s2, []⟩ evs2) (c : Nat) :
    rowsTotal y1.s.rows c + (rowsTotal y3.s.rows c + colTotal y3.s.frac c)
      = (idleSteps y0 evs1 c : Rat) + (idleSteps ⟨s2, []⟩ evs2 c : Rat) := by
  obtain ⟨hi1, r1, _⟩ := run_rinv evs1 h0.fi.hinv h0.rinv hr1
  have hc1 := conservation y0 y1 evs1 h0.fi hr1 hm1 c
  obtain ⟨hinit2, fw2⟩ := restore_init hi1 r1 hlk hrs
  obtain ⟨hc3, _, _⟩ := conservation_from ⟨s2, []⟩ y3 evs2 ⟨hinit2.inv, fw2⟩ (jinv_of_init hinit2) hr2 hm2 c
  obtain ⟨_, _, hrows2, _, _⟩ := restore_frac hrs
  exact total_across_restart hc1 (restore_colTotal hrs hi1.fw.keys htab c) hrows2 hc3

/-- **A restored quiescent state is a start state again**: it satisfies C03's `Init` (hence all
    scheduler invariants) and the table invariant, so `conservation_from` and `restart_conservation`
    apply again from it — this is the induction step for chains of restarts. -/
theorem restart_is_start_state (y0 y1 : Sys) (evs1 : List Ev) (h0 : RowInit y0)
    (hr1 : run y0 evs1 = .ok y1) (hlk : y1.s.locked = [])
    (workers tsteps : Nat) (occ : List (List Int)) (ensEng : List (List Nat))
    (weightOf : Nat → List Rat) (s2 : St)
    (hrs : restore (persist y1.s) y1.s.n workers tsteps occ ensEng weightOf = .ok s2) :
    Init ⟨s2, []⟩ ∧ HInv ⟨s2, []⟩ ∧ JInv ⟨s2, []⟩ := by
  obtain ⟨hi1, r1, _⟩ := run_rinv evs1 h0.fi.hinv h0.rinv hr1
  obtain ⟨hinit2, fw2⟩ := restore_init hi1 r1 hlk hrs
  exact ⟨hinit2, ⟨hinit2.inv, fw2⟩, jinv_of_init hinit2⟩

/-! ### a one-worker run to its last step, restart with a larger step target, two more steps -/

def exBlankQ : St := blank 4 1 3 0 3 0 [[-1]] [[0], [0], [0]] false []

def exSQ : St := match loadPaths exBlankQ exPaths with | .ok s => s | .error _ => exBlankQ

def exSysQ : Sys := { s := exSQ, jobs := [] }

def exEndQ : Sys := match run exSysQ exEvs1 with | .ok y => y | .error _ => exSysQ

/-- weights recomputed from the stored paths -/
def exW (pn : Nat) : List Rat := (exEndQ.s.wts.lookup pn).getD []

def exS2 : St :=
  match restore (persist exEndQ.s) 4 1 6 [[-1]] [[0], [0], [0]] exW with
  | .ok s => s
  | .error _ => exBlankQ

def exEvs2 : List Ev :=
  [ .start { t := 1, e := 1 }, .initDone,
    .step 0 .acc [[2, 1, 0]] { t := 0, e := 0, coin := false },
    .step 0 .rej [] { t := 2, e := 2 } ]

def exEnd3 : Sys := match run ⟨exS2, []⟩ exEvs2 with | .ok y => y | .error _ => exSysQ

theorem exSQ_load : loadPaths exBlankQ exPaths = .ok exSQ := by decide +kernel

theorem exDiskStartQ : DiskStart exSysQ :=
  fresh_start_is_diskStart 4 1 3 0 3 0 [[-1]] [[0], [0], [0]] false exPaths exSQ (by decide) (by decide)
    (by decide) (by decide) (by decide) exPaths_fam exSQ_load

theorem ex_rowInitQ : RowInit exSysQ := exDiskStartQ.ri

example : restore (persist exEndQ.s) 4 1 6 [[-1]] [[0], [0], [0]] exW = .ok exS2 ∧
    exEndQ.s.frac = [(2, [0, 11/6, 7/6, 0]), (0, [3, 0, 0, 0]), (4, [0, 1/2, 1/2, 0])] ∧
    exS2.frac = [(4, [0, 1/2, 1/2, 0]), (2, [0, 11/6, 7/6, 0]), (0, [3, 0, 0, 0])] ∧
    livePaths exEndQ.s = [some 0, some 4, some 2] := by
  decide +kernel

example : RowInit exSysQ ∧ run exSysQ exEvs1 = .ok exEndQ ∧ MatchableAlong exSysQ exEvs1 ∧
    exEndQ.s.locked = [] ∧
    (exEndQ.s.frac.map Prod.fst).Perm ((livePaths exEndQ.s).filterMap id) ∧
    restore (persist exEndQ.s) exEndQ.s.n 1 6 [[-1]] [[0], [0], [0]] exW = .ok exS2 ∧
    run ⟨exS2, []⟩ exEvs2 = .ok exEnd3 ∧ MatchableAlong ⟨exS2, []⟩ exEvs2 ∧
    (List.range 4).map (idleSteps exSysQ exEvs1) = [3, 3, 3, 0] ∧
    (List.range 4).map (idleSteps ⟨exS2, []⟩ exEvs2) = [2, 2, 2, 0] ∧
    exEnd3.s.rows = [(4, [0, 1/2, 1/2, 0], [1, 1, 1])] ∧
    exEnd3.s.frac = [(2, [0, 5/2, 5/2, 0]), (0, [5, 0, 0, 0]), (5, [0, 4/3, 2/3, 0])] :=
  ⟨ex_rowInitQ, by decide +kernel⟩

/-! ## 7. The same laws without the matchability hypothesis (C05 plugged in)

C05 proves that the family invariant `Inv5` (family rows + positive permanent of the idle block)
holds along every history from an `Init5` start (`load_paths` on paths of C02's weight family,
`fresh_start_is_init5` in C05) whose accepted outcomes are family vectors (`HistOk`, checked along
the run).  `RepexC04C05.lean` carries it to the recording state inside `treat_output`
(`recState_fam`), so `HistOk` replaces `MatchableAlong`. -/

theorem conservation_reachable (y0 y : Sys) (evs : List Ev) (h0 : FracInit y0) (h5 : Init5 y0)
    (hh : HistOk y0 evs) (hr : run y0 evs = .ok y) (c : Nat) :
    rowsTotal y.s.rows c + colTotal y.s.frac c = (idleSteps y0 evs c : Rat) :=
  conservation y0 y evs h0 hr (matchableAlong_of_histOk evs y0 h5.inv5 hh) c

theorem conservation_one_worker_reachable (y0 y : Sys) (evs : List Ev) (h0 : FracInit y0)
    (h5 : Init5 y0) (hh : HistOk y0 evs) (hw : y0.s.workers = 1) (hc0 : y0.s.cstep = 0)
    (hr : run y0 evs = .ok y) (c : Nat) (hc : c < y.s.n - 1) :
    rowsTotal y.s.rows c + colTotal y.s.frac c = (y.s.cstep : Rat) :=
  conservation_one_worker y0 y evs h0 hw hc0 hr (matchableAlong_of_histOk evs y0 h5.inv5 hh) c hc

theorem one_worker_all_idle_reachable (y0 y : Sys) (evs : List Ev) (h0 : FracInit y0) (h5 : Init5 y0)
    (hh : HistOk y0 evs) (hw : y0.s.workers = 1) (hr : run y0 evs = .ok y) (c : Nat)
    (hc : c < y0.s.n - 1) : y.s.cstep = y0.s.cstep + idleSteps y0 evs c :=
  one_worker_all_idle y0 y evs h0 hw hr (matchableAlong_of_histOk evs y0 h5.inv5 hh) c hc

/-- **Each completed step adds exactly one unit per idle column.**  `y` reachable as above, one more
    completed step (any job `k`, any status, outcome in the family) leading to `y'`.  With `sR` the
    recording state (the job's slots released, new paths in the table with zero vectors — so `sR`
    has the data file and the column totals of `y`) and `s2` the state after "record weights":
    every idle column gains exactly 1 and every other column 0; only `frac` changes; only vectors of
    idle live paths change; the path in idle slot `i` gains `probMatrix[i][c]` in entry `c` — the
    permanent ratio of the idle block for idle `c`, `0` for busy `c`, `0` where `W[i][c] = 0`, never
    negative; and over the whole step `rows + frac` grows by exactly that 1 or 0 per column. -/
theorem step_adds_one_per_idle_column_reachable (y0 y y' : Sys) (evs : List Ev) (h0 : FracInit y0)
    (h5 : Init5 y0) (hh : HistOk y0 evs) (hr : run y0 evs = .ok y)
    (k : Nat) (status : Status) (newW : List (List Rat)) (o : PickOutcome)
    (hev : EvOk y (.step k status newW o)) (hs : sysStep y (.step k status newW o) = .ok y') :
    ∃ job sR tn pns s2, y.jobs[k]? = some job ∧
      recState (loop y.s).1 job status newW = .ok (sR, tn, pns) ∧ recordFrac sR = .ok s2 ∧
      sR.n = y.s.n ∧ sR.rows = y.s.rows ∧ (∀ c, colTotal sR.frac c = colTotal y.s.frac c) ∧
      (∀ c, colTotal s2.frac c - colTotal sR.frac c = if sR.locks[c]? = some false then 1 else 0) ∧
      s2 = { sR with frac := s2.frac } ∧ s2.frac.map Prod.fst = sR.frac.map Prod.fst ∧
      (∀ q, (∀ i, i < sR.n - 1 → sR.locks[i]? = some false → sR.trajs[i]? ≠ some (some q)) →
          s2.frac.lookup q = sR.frac.lookup q) ∧
      (∀ i pn, i < sR.n - 1 → sR.locks[i]? = some false → sR.trajs[i]? = some (some pn) → ∀ c,
          fracAt s2.frac pn c - fracAt sR.frac pn c = entry (prob sR) i c ∧
          (sR.locks[c]? = some false →
            entry (prob sR) i c = pSpec (idle sR.W sR.locks) (rank sR.locks i) (rank sR.locks c)) ∧
          (sR.locks[c]? ≠ some false → entry (prob sR) i c = 0) ∧
          (entry sR.W i c = 0 → entry (prob sR) i c = 0) ∧ 0 ≤ entry (prob sR) i c) ∧
      (∀ c, rowsTotal y'.s.rows c + colTotal y'.s.frac c
          = rowsTotal y.s.rows c + colTotal y.s.frac c + (if sR.locks[c]? = some false then 1 else 0)) := by
  have hi := run_invariant (fun ev => sysStep_hinv ev) evs h0.hinv hr
  have hi5 := (run_preserves5 evs h5.inv5 hh hr).1
  obtain ⟨job, sR, tn, pns, s2, hjob, hrec, hrf, wf, hM, hk, hl, hn, hcol, hrows, htot⟩ :=
    step_record hi hi5 hev hs
  obtain ⟨a1, a2, a3, a4, a5⟩ := recordFrac_adds_one_per_idle_column wf hM hk hl hrf
  have hnn := rows_nonneg sR.n sR.W sR.locks wf.lenL wf.ghost (recState_fam hi5 hev hjob hrec).rows
  refine ⟨job, sR, tn, pns, s2, hjob, hrec, hrf, hn, hrows, hcol, a1, a2, a3, a4, ?_, htot⟩
  intro i pn hi' hl' ht c
  obtain ⟨b1, b2, b3, b4, b5⟩ := a5 i pn hi' hl' ht c
  exact ⟨b1, b2, b3, b4, b5 hnn⟩

/-! ### the two example histories satisfy the C05 hypotheses -/

theorem ex_histOk : HistOk exSys exEvs := by decide +kernel

/-- (the last outcome of `exEvs1`, weights `[1,1,1]` for `[1+]`, has a non-zero ghost-column weight and
    is outside C02's family; the family history stops before it) -/
theorem ex_histOk1 : HistOk exSys1 (exEvs1.take 4) := by decide +kernel

def exEnd1b : Sys := match run exSys1 (exEvs1.take 4) with | .ok y => y | .error _ => exSys1

example : FracInit exSys ∧ Init5 exSys ∧ HistOk exSys exEvs ∧ run exSys exEvs = .ok exEnd ∧
    (List.range 5).map (idleSteps exSys exEvs) = [1, 2, 1, 0, 0] ∧
    (List.range 5).map (fun c => rowsTotal exEnd.s.rows c + colTotal exEnd.s.frac c) = [1, 2, 1, 0, 0] :=
  ⟨ex_fracInit, ex_init5, ex_histOk, exEnd_run, by decide +kernel⟩

example : FracInit exSys1 ∧ Init5 exSys1 ∧ HistOk exSys1 (exEvs1.take 4) ∧ exSys1.s.workers = 1 ∧
    exSys1.s.cstep = 0 ∧ run exSys1 (exEvs1.take 4) = .ok exEnd1b ∧ exEnd1b.s.cstep = 2 ∧
    (List.range 3).map (fun c => rowsTotal exEnd1b.s.rows c + colTotal exEnd1b.s.frac c) = [2, 2, 2] :=
  ⟨ex_fracInit1, ex_init5_1, ex_histOk1, by decide +kernel⟩

/-- the state of the two-worker history after the initiation (two jobs in flight) -/
def exMid : Sys := match run exSys (exEvs.take 3) with | .ok y => y | .error _ => exSys

def exMidNext : Sys :=
  match sysStep exMid (.step 0 .acc [[1], [1, 1, 0]] { t := 0, e := 0, coin := false }) with
  | .ok y => y
  | .error _ => exMid

def exMidRec : St :=
  match exMid.jobs[0]? with
  | some job =>
    (match recState (loop exMid.s).1 job .acc [[1], [1, 1, 0]] with
     | .ok (s, _, _) => s
     | .error _ => exMid.s)
  | none => exMid.s

theorem exMid_histOk : HistOk exSys (exEvs.take 3) := by decide +kernel

theorem exMid_run : run exSys (exEvs.take 3) = .ok exMid := by decide +kernel

theorem exMid_evOk : EvOk exMid (.step 0 .acc [[1], [1, 1, 0]] { t := 0, e := 0, coin := false }) := by decide +kernel

theorem exMidNext_step :
    sysStep exMid (.step 0 .acc [[1], [1, 1, 0]] { t := 0, e := 0, coin := false }) = .ok exMidNext := by
  decide +kernel

/-- the zero swap completes ACCEPTED while `[1+]` is busy: columns 0 and 1 gain one unit, column 2 and
    the ghost column nothing -/
example : FracInit exSys ∧ Init5 exSys ∧ HistOk exSys (exEvs.take 3) ∧
    run exSys (exEvs.take 3) = .ok exMid ∧
    EvOk exMid (.step 0 .acc [[1], [1, 1, 0]] { t := 0, e := 0, coin := false }) ∧
    sysStep exMid (.step 0 .acc [[1], [1, 1, 0]] { t := 0, e := 0, coin := false }) = .ok exMidNext ∧
    exMidRec.locks = [false, false, true, true] ∧
    (List.range 4).map (fun c => rowsTotal exMid.s.rows c + colTotal exMid.s.frac c) = [0, 0, 0, 0] ∧
    (List.range 4).map (fun c => rowsTotal exMidNext.s.rows c + colTotal exMidNext.s.frac c)
      = [1, 1, 0, 0] :=
  ⟨ex_fracInit, ex_init5, exMid_histOk, exMid_run, exMid_evOk, exMidNext_step, by decide +kernel⟩

/-! ## 8. A stop inside `treat_output`, then a restart

Weight-relevant disk effects of one `treat_output`, in the code's order: (1) `write_to_pathens`
appends the rows of the replaced paths, (2) `write_toml` replaces `restart.toml` atomically by the
image of the new state.  `crashDisk s0 s' j renamed` is what a stop leaves: before the replace the old
image with any number `j` of whole new rows already in the data file (a torn row is dropped at the
restart), after it the new image with all rows.  `cleanRows` is `clean_data_file` (rows of paths
active in the restart file are dropped), `restore` is `load_paths` on the image.

`_partial`: what the theorem covers is the law on (data file + restart file) right after the
restart's clean-up, for every stop of every completed step of every history.  Not covered, and why:
* the restart file present before the step is taken to be the image of the state the step starts
  from (`persist y.s`); the real file was written at the end of the previous `treat_output`, before
  the next `prep_md_items`, and differs from it in `locked`, slot order and stream position — fields
  the restore of the weights does not read, but a separate disk object is not modelled;
* the continuation after a restart with a job in flight (`locked0 ≠ []`, the re-issue branch of
  `pick_lock`) is outside C03's `Inv` (which assumes `locked0 = []`), so "…and stays conserved to
  step N" follows from this theorem only for quiescent images (`restart_is_start_state`,
  `restart_conservation`);
* the table is assumed to hold exactly the live paths before and after the step (hypotheses
  `htab`, `htab'`; `live ⊆ table` is proved, the converse needs "the ghost slot holds no path");
* path-store / deletion effects carry no weights and are C08's `Fs` model.
The tie evaluates the full statement (continued to N) on the real files for every stop.
(§12 has neither the first nor the third restriction: `crash_restart_conservation` is the statement on the two
files for every reachable state.  §13 continues from quiescent images, §15 from images with jobs in flight.) -/

theorem crash_restart_conservation_partial (y0 y y' : Sys) (evs : List Ev) (h0 : RowInit y0)
    (hr : run y0 evs = .ok y) (hm : MatchableAlong y0 evs)
    (k : Nat) (status : Status) (newW : List (List Rat)) (o : PickOutcome)
    (hs : sysStep y (.step k status newW o) = .ok y') (hmm : matchableAt y (.step k status newW o)) :
    ∃ job s' pns it, y.jobs[k]? = some job ∧
      treatOutput (loop y.s).1 job status newW (sortFuel (loop y.s).1) = .ok (s', pns, it) ∧
      ((y.s.frac.map Prod.fst).Perm ((livePaths y.s).filterMap id) →
       (s'.frac.map Prod.fst).Perm ((livePaths s').filterMap id) →
       ∀ (j : Nat) (renamed : Bool) (n workers tsteps : Nat) (occ : List (List Int))
         (ensEng : List (List Nat)) (weightOf : Nat → List Rat) (sR : St),
         restore (crashDisk y.s s' j renamed).img n workers tsteps occ ensEng weightOf = .ok sR →
         (crashDisk y.s s' j renamed).img.cstep = (if renamed then y.s.cstep + 1 else y.s.cstep) ∧
         ∀ c, rowsTotal (cleanRows (crashDisk y.s s' j renamed).rows
                (crashDisk y.s s' j renamed).img.active) c + colTotal sR.frac c
              = (idleSteps y0 evs c : Rat)
                + (if renamed then (idleAt y (.step k status newW o) c : Rat) else 0)) := by
  obtain ⟨hi, r, _⟩ := run_rinv evs h0.fi.hinv h0.rinv hr
  have hc := conservation y0 y evs h0.fi hr hm
  obtain ⟨job, s', pns, it, hjob, htreat, hmain⟩ := crash_step_total hi r hs hmm
  refine ⟨job, s', pns, it, hjob, htreat, ?_⟩
  intro htab htab' j renamed n workers tsteps occ ensEng weightOf sR hres
  obtain ⟨h1, h2⟩ := hmain htab htab' j renamed n workers tsteps occ ensEng weightOf sR hres
  refine ⟨h1, fun c => ?_⟩
  rw [h2 c]
  unfold total
  rw [hc c]

/-- the state after the `treat_output` of the zero-swap completion in `exMid` -/
def exMidTreated : St :=
  match exMid.jobs[0]? with
  | some job =>
    (match treatOutput (loop exMid.s).1 job .acc [[1], [1, 1, 0]] (sortFuel (loop exMid.s).1) with
     | .ok (s, _, _) => s
     | .error _ => exMid.s)
  | none => exMid.s

def exMidW (pn : Nat) : List Rat := ((exMid.s.wts ++ exMidTreated.wts).lookup pn).getD []

def exCrashRestored (j : Nat) (renamed : Bool) : St :=
  match restore (crashDisk exMid.s exMidTreated j renamed).img 4 2 10 [[-1, -1]] [[0], [0], [0]] exMidW with
  | .ok s => s
  | .error _ => exMid.s

/-- zero swap accepted (two rows, first completed step): a stop after the first row was appended
    (old restart file, step counter 0: the row is dropped at the restart, totals `[0,0,0]`) and a stop
    after the replace of the restart file (step counter 1, both rows kept, totals `[1,1,0]` — `[1+]`
    was busy at the recording) -/
example : exMidTreated.rows.map (·.1) = [0, 1] ∧
    (crashDisk exMid.s exMidTreated 1 false).rows.map (·.1) = [0] ∧
    cleanRows (crashDisk exMid.s exMidTreated 1 false).rows
      (crashDisk exMid.s exMidTreated 1 false).img.active = [] ∧
    restore (crashDisk exMid.s exMidTreated 1 false).img 4 2 10 [[-1, -1]] [[0], [0], [0]] exMidW
      = .ok (exCrashRestored 1 false) ∧
    (List.range 3).map (fun c => colTotal (exCrashRestored 1 false).frac c) = [0, 0, 0] ∧
    (crashDisk exMid.s exMidTreated 1 false).img.cstep = 0 ∧
    restore (crashDisk exMid.s exMidTreated 2 true).img 4 2 10 [[-1, -1]] [[0], [0], [0]] exMidW
      = .ok (exCrashRestored 2 true) ∧
    (List.range 3).map (fun c => rowsTotal (cleanRows (crashDisk exMid.s exMidTreated 2 true).rows
        (crashDisk exMid.s exMidTreated 2 true).img.active) c + colTotal (exCrashRestored 2 true).frac c)
      = [1, 1, 0] ∧
    (crashDisk exMid.s exMidTreated 2 true).img.cstep = 1 := by
  decide +kernel

/-! ## 9. What `write_to_pathens` writes for one path

`fmtCols size frac weights` (Model/DataFile.lean) = the `frac` and `weight` column lists of the row, `Cell.dash` =
`----`.  `shown w c`: a `[0-]` path (one weight) shows column 0 only, every other path the columns `1 … n−2`;
`padW size w` = the weight vector as `add_traj` pads it.  `readCell`: `----` counts as 0. -/

/-- **Masking, all inputs.**  Whatever the table entry looks like: the two column lists have the same length and
    a weight column is `----` exactly where the fraction column is. -/
theorem row_mask_all_inputs (size : Nat) (f w : List Rat) (fc wc : List Cell)
    (h : fmtCols size f w = .ok (fc, wc)) :
    fc.length = wc.length ∧ ∀ c, fc.getD c .dash = .dash ↔ wc.getD c .dash = .dash := by
  rcases fmtCols_cases h with ⟨_, f0, w0, _, _, rfl, rfl⟩ | ⟨_, rfl, rfl⟩
  · refine ⟨by simp only [List.length_cons, List.length_replicate], fun c => ?_⟩
    cases c with
    | zero => simp only [List.getD_cons_zero, cellOf_dash_iff]
    | succ c => simp only [List.getD_cons_succ, getD_replicate_self]
  · refine ⟨by simp only [List.length_cons, List.length_map], fun c => ?_⟩
    cases c with
    | zero => simp only [List.getD_cons_zero]
    | succ c =>
      simp only [List.getD_cons_succ]
      rw [List.getD_eq_getElem?_getD, List.getD_eq_getElem?_getD, List.getElem?_map, List.getElem?_map]
      cases (List.zip w.dropLast (List.drop 1 f).dropLast)[c]? with
      | none => simp only [Option.map_none, Option.getD_none]
      | some wf => simp only [Option.map_some, Option.getD_some, cellOf_dash_iff]

/-- **parse ∘ format = id on the column tokens, all inputs**: the `2·k` tokens after the three leading ones, split
    in the middle as the reader does, are exactly the fraction list and the weight list that were written. -/
theorem row_parse_format (size : Nat) (f w : List Rat) (fc wc : List Cell)
    (h : fmtCols size f w = .ok (fc, wc)) : splitCols (fc ++ wc) = (fc, wc) :=
  splitCols_append fc wc (row_mask_all_inputs size f w fc wc h).1

example : fmtCols 4 [0, 2/3, 4/3, 0] [1, 2, 0] = .ok ([.dash, .num (2/3), .num (4/3)], [.dash, .num 1, .num 2]) ∧
    splitCols [Cell.dash, .num (2/3), .num (4/3), .dash, .num 1, .num 2]
      = ([.dash, .num (2/3), .num (4/3)], [.dash, .num 1, .num 2]) := by
  decide +kernel

/-- **The columns of a row of the sampler's shape** (`n` fractions; one weight or `n − 1` weights, `n ≥ 2`):
    `n − 1` fraction and `n − 1` weight columns; column `c` shows the fraction `f[c]` and the padded weight
    `padW[c]` — the path's weight in ensemble column `c` at the time it is replaced — if the row shows that column
    and the fraction is non-zero, and `----` in both lists otherwise. -/
theorem row_columns (size : Nat) (f w : List Rat) (fc wc : List Cell) (sh : Shape size f w)
    (h : fmtCols size f w = .ok (fc, wc)) :
    fc.length = size - 1 ∧ wc.length = size - 1 ∧
    ∀ c, c < size - 1 →
      fc.getD c .dash = (if shown w c = true ∧ f.getD c 0 ≠ 0 then .num (f.getD c 0) else .dash) ∧
      wc.getD c .dash = (if shown w c = true ∧ f.getD c 0 ≠ 0 then .num ((padW size w).getD c 0) else .dash) :=
  fmtCols_read size f w fc wc sh h

/-- **Reading the row gives the fractions back** in every ensemble column, when the entry carries nothing in a
    column its row does not show (`RowSup`; `support_reachable` below: every reachable entry does). -/
theorem row_reads_back (size : Nat) (f w : List Rat) (fc wc : List Cell) (rs : RowSup size f w)
    (h : fmtCols size f w = .ok (fc, wc)) (c : Nat) (hc : c < size - 1) :
    (fc.map readCell).getD c 0 = f.getD c 0 :=
  fmtCols_readback size f w fc wc rs h c hc

theorem ex_rowSup_plus : RowSup 4 [0, 2/3, 4/3, 0] [1, 2, 0] :=
  ⟨⟨by decide, by decide, by decide⟩, by decide, by decide +kernel⟩

theorem ex_rowSup_minus : RowSup 4 [3, 0, 0, 0] [1] :=
  ⟨⟨by decide, by decide, by decide⟩, by decide, by decide +kernel⟩

example : RowSup 4 [0, 2/3, 4/3, 0] [1, 2, 0] ∧
    fmtCols 4 [0, 2/3, 4/3, 0] [1, 2, 0] = .ok ([.dash, .num (2/3), .num (4/3)], [.dash, .num 1, .num 2]) ∧
    RowSup 4 [3, 0, 0, 0] [1] ∧
    fmtCols 4 [3, 0, 0, 0] [1] = .ok ([.num 3, .dash, .dash], [.num 1, .dash, .dash]) ∧
    -- a plus path that never collected weight in `[2+]`: both columns masked
    fmtCols 4 [0, 1/2, 0, 0] [1, 1, 0] = .ok ([.dash, .num (1/2), .dash], [.dash, .num 1, .dash]) ∧
    -- not a shape the sampler produces (an empty fraction vector): IndexError
    fmtCols 4 [] [1] = .error .index :=
  ⟨ex_rowSup_plus, by decide +kernel, ex_rowSup_minus, by decide +kernel, by decide +kernel, by decide +kernel⟩

/-! ## 10. A path never carries weight in a column its row does not show -/

/-- **Support, every reachable state** (fresh start, outcomes in C02's weight family): for every path with a
    weight record, the fraction vector vanishes in every ensemble column its data row would mask by position
    (`shown w c = false`) and in the ghost column; every row written so far has the sampler's shape and the same
    support.  So the `----` written for position (not for a zero fraction) never hides weight. -/
theorem support_reachable (y0 y : Sys) (evs : List Ev) (h0 : FracInit y0) (h5 : Init5 y0)
    (hh : HistOk y0 evs) (hr : run y0 evs = .ok y) :
    (∀ pn w, y.s.wts.lookup pn = some w →
      (∀ c, c < y.s.n - 1 → shown w c = false → fracAt y.s.frac pn c = 0) ∧ fracAt y.s.frac pn (y.s.n - 1) = 0) ∧
    (∀ r ∈ y.s.rows, RowSup y.s.n r.2.1 r.2.2) :=
  have h := run_sup evs h0.hinv h5.inv5 hh (supInv_of_fracInit h0) hr
  ⟨h.tab, h.rows⟩

example : FracInit exSys ∧ Init5 exSys ∧ HistOk exSys exEvs ∧ run exSys exEvs = .ok exEnd ∧
    exEnd.s.wts = [(2, [1, 1, 0]), (3, [1]), (4, [1, 1, 0])] ∧
    exEnd.s.frac = [(2, [0, 1/2, 1/2, 0]), (3, [1, 0, 0, 0]), (4, [0, 3/2, 1/2, 0])] :=
  ⟨ex_fracInit, ex_init5, ex_histOk, exEnd_run, by decide +kernel⟩

/-! ## 11. The law on the two files, along every history

`DSys` = sampler + jobs in flight + `infretis_data.txt` (lines) + `restart.toml` (image) + the per-column count
`cnt` of completed steps at whose recording the column was idle (`dStep` adds `idleInc` of the locks `treat_output`
leaves: 1 per idle column).  `dStep` performs `treat_output`'s two weight-relevant effects in the code's order
(`treatDisk`: rows appended, then the restart image replaced by `persistD` = `write_toml`); `prep_md_items` and
`initiate` write nothing.  `lineTotal` = column total of the fractions the row lines SHOW (`----` as 0),
`liveTotal im` = column total of `[current.frac]` over the paths in `[current.active]`,
`diskTotal = lineTotal + liveTotal`.  `DiskStart y0` = `RowInit` + C05's `Init5` + C06's `Tidy`. -/

theorem good_no_active_row {Z : DSys} (hg : Good Z) (im : Image) (him : Z.d.img = some im) :
    ∀ pn ∈ lineKeys Z.d.lines, pn ∉ activeKeys im :=
  hg.no_active_row im him

/-- **Conservation on what is written.**  Every history `evs` (any interleaving, any outcomes in the weight
    family, any number of workers) from a fresh start on a fresh disk, leading to `z`:
    1. the sampler part of `z` is `run y0 evs`;
    2. the explicit count is the number of idle recordings: `cnt[c] = idleSteps y0 evs c`;
    3. for every ensemble column, the fractions the data file shows + the fraction table = that count;
    4. once a restart file exists: its step / path counters are the sampler's, and data file + live weights of
       the restart file = that count — the law of the property, on the two files;
    5. the rows of the data file are those of the accepted completions, each path once, none of them active in
       the restart file. -/
theorem files_conservation_reachable (y0 : Sys) (evs : List Ev) (z : DSys) (h0 : DiskStart y0)
    (hh : HistOk y0 evs) (hr : dRun (freshSys y0) evs = .ok z) :
    run y0 evs = .ok z.y ∧
    (∀ c, z.cnt.getD c 0 = idleSteps y0 evs c) ∧
    (∀ c, c < z.y.s.n - 1 → lineTotal z.d.lines c + colTotal z.y.s.frac c = (idleSteps y0 evs c : Rat)) ∧
    (∀ im, z.d.img = some im → im.cstep = z.y.s.cstep ∧ im.trajNum = z.y.s.trajNum ∧
        ∀ c, c < z.y.s.n - 1 → diskTotal z.d.lines im c = (idleSteps y0 evs c : Rat)) ∧
    (dataRows z.d.lines).map (·.1) = writtenAlong y0 evs ∧ ((dataRows z.d.lines).map (·.1)).Nodup ∧
    (∀ im, z.d.img = some im → ∀ pn ∈ (dataRows z.d.lines).map (·.1), pn ∉ activeKeys im) := by
  obtain ⟨hg, a1, a4, hk⟩ := dRun_fresh h0 hh hr
  obtain ⟨_, _, _, w4, _⟩ := row_written_once y0 z.y evs h0.ri a1
  refine ⟨a1, a4, fun c hc => ?_, fun im him => ?_, hk.trans w4, hg.lineKeys_nodup, good_no_active_row hg⟩
  · rw [hg.d.law c hc, a4 c]
  · have ig := hg.d.img im him
    refine ⟨ig.cstep, ig.tn, fun c hc => ?_⟩
    rw [(good_disk_facts hg im him).2.2 c hc, a4 c]

/-- **One worker: data file + live weights of the restart file = the restart file's step counter**, in every
    ensemble column. -/
theorem files_conservation_one_worker (y0 : Sys) (evs : List Ev) (z : DSys) (h0 : DiskStart y0)
    (hh : HistOk y0 evs) (hw : y0.s.workers = 1) (hc0 : y0.s.cstep = 0)
    (hr : dRun (freshSys y0) evs = .ok z) (im : Image) (him : z.d.img = some im) (c : Nat)
    (hc : c < z.y.s.n - 1) : diskTotal z.d.lines im c = (im.cstep : Rat) :=
  reachable_one_worker (reachable_of_dRun evs (Reachable.fresh h0 fun _ => ⟨hw, hc0⟩) hh hr) im him c hc

/-- one worker: `[1+]` accepted (new weights `[1,2,0]`), `[0-]` rejected, `[0+]` accepted (new weights `[1,1,0]`) -/
def exEvsD : List Ev := exEvs1.take 4 ++ [.step 0 .acc [[1, 1, 0]] { t := 2, e := 2 }]

def exZ : DSys := match dRun (freshSys exSys1) exEvsD with | .ok z => z | .error _ => freshSys exSys1

theorem ex_histOkD : HistOk exSys1 exEvsD := by decide +kernel

theorem exZ_dRun : dRun (freshSys exSys1) exEvsD = .ok exZ := by decide +kernel

/-- three completed steps: the data file holds the header, the row of path 1 (replaced before it collected
    anything: all `----`) and the row of path 3; the restart file is the one of step 3 -/
example : DiskStart exSys1 ∧ HistOk exSys1 exEvsD ∧ dRun (freshSys exSys1) exEvsD = .ok exZ ∧
    exZ.d.lines.drop 3 =
      [{ hash := false, term := true, key := some 1, frac := [.dash, .dash, .dash], wts := [.dash, .dash, .dash] },
       { hash := false, term := true, key := some 3, frac := [.dash, .num (2/3), .num (4/3)],
         wts := [.dash, .num 1, .num 2] }] ∧
    exZ.d.img.map (·.active) = some [some 0, some 4, some 2] ∧ exZ.d.img.map (·.cstep) = some 3 ∧
    exZ.d.img.map (·.trajNum) = some 5 ∧
    exZ.d.img.map (·.frac) = some [(0, [3, 0, 0, 0]), (2, [0, 11/6, 7/6, 0]), (4, [0, 1/2, 1/2, 0])] ∧
    exZ.cnt = [3, 3, 3, 0] ∧
    (List.range 3).map (fun c => lineTotal exZ.d.lines c) = [0, 2/3, 4/3] ∧
    (exZ.d.img.map (fun im => (List.range 3).map (fun c => diskTotal exZ.d.lines im c))) = some ([3, 3, 3] : List Rat) :=
  ⟨exDiskStart1, ex_histOkD, exZ_dRun, by decide +kernel⟩

/-- two workers: after the history `exEvs` (zero swap accepted while `[1+]` busy, then `[1+]` rejected while `[0-]`
    busy) the counts are `[1, 2, 1]` -/
def exZ2 : DSys := match dRun (freshSys exSys) exEvs with | .ok z => z | .error _ => freshSys exSys

example : DiskStart exSys ∧ HistOk exSys exEvs ∧ dRun (freshSys exSys) exEvs = .ok exZ2 ∧
    exZ2.cnt = [1, 2, 1, 0] ∧
    exZ2.d.img.map (·.cstep) = some 2 ∧
    (exZ2.d.img.map (fun im => (List.range 3).map (fun c => diskTotal exZ2.d.lines im c)))
      = some ([1, 2, 1] : List Rat) :=
  ⟨exDiskStart, ex_histOk, by decide +kernel⟩

/-! ## 12. A stop anywhere inside `treat_output`, then a restart: the law on the files, in full

Unlike `crash_restart_conservation_partial` (§8): the restart file is a separate object of the
model (`Disk.img`, written by the previous `treat_output`, untouched by `prep_md_items`), the table is shown to
hold exactly the live paths in every reachable state (C06's `Tidy`), and the statement is about what the two
files show.  `Stop`: `renamed = false` — the stop falls before the `os.replace` of `restart.toml`, `j` whole new
rows have reached the data file, possibly followed by a torn piece of the next one (`torn`); `renamed = true` —
after it.  `restartClean` = the restart's `clean_data_file` on that disk, `restore` = `__init__` + `load_paths`. -/

/-- **Crash + restart, every reachable state, every stop.**  `z` reachable on the disk, one more completed step
    to `z'`, stopped at `p` (before the replace a restart file must exist, i.e. at least one step was completed
    before).  The restart finds a restart file and, after `clean_data_file`:
    1. the restart file's step counter is the number of steps it accounts for (`cstep` resp. `cstep + 1`);
    2. in every ensemble column, the fractions the data file shows + the live weights of the restart file
       = the idle recordings of the history, plus this step's if the restart file is the new one — nothing lost,
       nothing counted twice, whichever effect the stop fell between;
    3. every path has at most one row and no row belongs to a path active in the restart file;
    4. `load_paths` on that restart file rebuilds a table holding exactly the active paths whose column totals
       are those live weights, with the restart file's path counter. -/
theorem crash_restart_conservation (y0 : Sys) (evs : List Ev) (z z' : DSys) (h0 : DiskStart y0)
    (hh : HistOk y0 evs) (hr : dRun (freshSys y0) evs = .ok z)
    (k : Nat) (status : Status) (newW : List (List Rat)) (o : PickOutcome)
    (hev : EvOk z.y (.step k status newW o)) (hs : dStep z (.step k status newW o) = .ok z') (p : Stop)
    (himg : p.renamed = false → ∃ im, z.d.img = some im) :
    ∃ lines im, (∃ ls' s2, restartClean (stopDisk z.d ls' (persistD s2) p) = some (lines, im) ∧
        z'.d = { lines := z.d.lines ++ ls', img := some (persistD s2) }) ∧
      im.cstep = (if p.renamed then z.y.s.cstep + 1 else z.y.s.cstep) ∧
      (∀ c, c < z.y.s.n - 1 → diskTotal lines im c
          = (idleSteps y0 evs c : Rat) + (if p.renamed then (idleAt z.y (.step k status newW o) c : Rat) else 0)) ∧
      ((dataRows lines).map (·.1)).Nodup ∧ (∀ pn ∈ (dataRows lines).map (·.1), pn ∉ activeKeys im) ∧
      (∀ (n workers tsteps : Nat) (occ : List (List Int)) (ensEng : List (List Nat)) (weightOf : Nat → List Rat)
        (sR : St), restore im n workers tsteps occ ensEng weightOf = .ok sR →
          (sR.frac.map Prod.fst).Perm (activeKeys im) ∧ (∀ c, colTotal sR.frac c = liveTotal im c) ∧
          sR.trajNum = im.trajNum) := by
  obtain ⟨hg, _, a4, _⟩ := dRun_fresh h0 hh hr
  obtain ⟨lines, im, hx, hcs, htot, hnd, hna⟩ := stop_restart_law hg hev hs p himg
  refine ⟨lines, im, hx, hcs, fun c hc => by rw [htot c hc, a4 c], hnd, hna, ?_⟩
  intro n workers tsteps occ ensEng weightOf sR hres
  obtain ⟨r1, _, r3, _, _, r6⟩ := restore_image hres
  exact ⟨r1, r3, r6⟩

/-- **One worker: after crash + restart, data file + live weights of the restart file = the restart file's step
    counter** in every ensemble column. -/
theorem crash_restart_one_worker (y0 : Sys) (evs : List Ev) (z z' : DSys) (h0 : DiskStart y0)
    (hh : HistOk y0 evs) (hw : y0.s.workers = 1) (hc0 : y0.s.cstep = 0)
    (hr : dRun (freshSys y0) evs = .ok z)
    (k : Nat) (status : Status) (newW : List (List Rat)) (o : PickOutcome)
    (hev : EvOk z.y (.step k status newW o)) (hs : dStep z (.step k status newW o) = .ok z') (p : Stop)
    (himg : p.renamed = false → ∃ im, z.d.img = some im) :
    ∃ lines im, (∃ ls' s2, restartClean (stopDisk z.d ls' (persistD s2) p) = some (lines, im) ∧
        z'.d = { lines := z.d.lines ++ ls', img := some (persistD s2) }) ∧
      ∀ c, c < z.y.s.n - 1 → diskTotal lines im c = (im.cstep : Rat) := by
  have hz : Reachable true z := reachable_of_dRun evs (Reachable.fresh h0 fun _ => ⟨hw, hc0⟩) hh hr
  have hg := (reachable_good hz).1
  obtain ⟨s2, ls', hd, hA, hB⟩ := stop_restartG hg hev hs p
  -- what the restart finds is the disk of the state after resp. before the step
  cases hren : p.renamed with
  | true =>
    have hn' : z'.y.s.n = z.y.s.n :=
      (sysStep_total _ hg.r4.hinv hg.j (dStep_sys hs) (matchableAt_of_inv5 hg.r4.inv5 hev)).2.2.2.1
    exact ⟨z'.d.lines, persistD s2, ⟨ls', s2, hA hren, hd⟩, fun c hc =>
      reachable_one_worker (Reachable.event hz hev hs) _ (by rw [hd]) c (by rw [hn']; exact hc)⟩
  | false =>
    obtain ⟨im, him⟩ := himg hren
    exact ⟨z.d.lines, im, ⟨ls', s2, hB hren im him, hd⟩, reachable_one_worker hz im him⟩

/-- the next completed step of the one-worker history `exEvsD`: `[1+]` (path 2) accepted, new weights `[1,1,0]` -/
def exStepD : Ev := .step 0 .acc [[1, 1, 0]] { t := 1, e := 1 }

def exZn : DSys := match dStep exZ exStepD with | .ok z => z | .error _ => exZ

theorem exZn_evOk : EvOk exZ.y exStepD := by decide +kernel

theorem exZn_dStep : dStep exZ exStepD = .ok exZn := by decide +kernel

/-- what the restart finds for a stop of that step after its row (path 2) was appended, with a torn piece of
    nothing more, before the replace: the old restart file (step 3), the new row dropped, totals `[3,3,3]`;
    and after the replace: the new restart file (step 4), three rows, totals `[4,4,4]` -/
example : DiskStart exSys1 ∧ HistOk exSys1 exEvsD ∧ dRun (freshSys exSys1) exEvsD = .ok exZ ∧
    EvOk exZ.y exStepD ∧ dStep exZ exStepD = .ok exZn ∧
    (dataRows exZn.d.lines).map (·.1) = [1, 3, 2] ∧
    ((restartClean (stopDisk exZ.d (exZn.d.lines.drop 5) ((exZn.d.img).getD (persistD exZ.y.s))
        { j := 1, torn := some none, renamed := false })).map
      (fun li => ((dataRows li.1).map (·.1), li.2.cstep, (List.range 3).map (fun c => diskTotal li.1 li.2 c))))
      = some ([1, 3], 3, ([3, 3, 3] : List Rat)) ∧
    ((restartClean (stopDisk exZ.d (exZn.d.lines.drop 5) ((exZn.d.img).getD (persistD exZ.y.s))
        { j := 1, renamed := true })).map
      (fun li => ((dataRows li.1).map (·.1), li.2.cstep, (List.range 3).map (fun c => diskTotal li.1 li.2 c))))
      = some ([1, 3, 2], 4, ([4, 4, 4] : List Rat)) :=
  ⟨exDiskStart1, ex_histOkD, exZ_dRun, exZn_evOk, exZn_dStep, by decide +kernel⟩

/-! ## 13. Chains of restarts, no matchability hypothesis

`Reach4 y` bundles the invariants of the packages the weight accounting rests on: C03's scheduler invariant with
this package's table invariant (`HInv`), "written once" (`RInv`), C05's family invariant with the positive
permanent of the idle block (`Inv5`), C06's tidy tables (`TidyY`: both tables keyed exactly by the live paths, ghost
slot empty) and the support invariant (`SupInv`).  `JInv`: no more jobs in flight than workers.
Every fresh start satisfies them (`fresh_start_reach4`), every event of a history whose outcomes are in the
weight family keeps them (`conservation_from_reachable`), and the state rebuilt from the restart image of a
quiescent state satisfies them again (`restart_is_start_state_reachable`) — so the conservation law holds over
chains of restarts of any length, without hypotheses on the states in between. -/

theorem fresh_start_reach4 (y0 : Sys) (h0 : DiskStart y0) : Reach4 y0 ∧ JInv y0 :=
  ⟨h0.reach4, h0.ri.fi.jinv⟩

/-- **Conservation from any state satisfying the invariants**: over a history with outcomes in the weight
    family, rows + table grow, per column, by the number of idle recordings; the invariants hold at the end. -/
theorem conservation_from_reachable (y y' : Sys) (evs : List Ev) (hr : Reach4 y) (hj : JInv y)
    (hh : HistOk y evs) (hrun : run y evs = .ok y') :
    Reach4 y' ∧ JInv y' ∧ y'.s.n = y.s.n ∧
    ∀ c, rowsTotal y'.s.rows c + colTotal y'.s.frac c
      = rowsTotal y.s.rows c + colTotal y.s.frac c + (idleSteps y evs c : Rat) := by
  obtain ⟨_, hj', ht, hn, _⟩ := run_total evs hr.hinv hj hrun (matchableAlong_of_histOk evs y hr.inv5 hh)
  exact ⟨run_reach4 evs hr hh hrun, hj', hn, ht⟩

/-- **A quiescent restart is a start state again, for every invariant.**  `y1` any state satisfying the
    invariants with nothing recorded as in flight; its image is restored (any worker count, step target, engine
    table; the stored paths have the weights on record).  The restored state satisfies the invariants again, its
    table has the column totals of `y1`'s, its model row list is empty (the data file on disk goes on). -/
theorem restart_is_start_state_reachable (y1 : Sys) (hr : Reach4 y1) (hlk : y1.s.locked = [])
    (workers tsteps : Nat) (occ : List (List Int)) (ensEng : List (List Nat)) (s2 : St)
    (hrs : restore (persist y1.s) y1.s.n workers tsteps occ ensEng
      (fun pn => (y1.s.wts.lookup pn).getD []) = .ok s2) :
    Reach4 ⟨s2, []⟩ ∧ JInv ⟨s2, []⟩ ∧ (∀ c, colTotal s2.frac c = colTotal y1.s.frac c) ∧ s2.rows = [] ∧
      s2.n = y1.s.n := by
  obtain ⟨a1, a2, _, a4, a5, a6⟩ := restore_reach4 hr hlk hrs
  exact ⟨a1, a2, a4, a5, a6⟩

/-- **Conservation across a restart, no matchability hypothesis** (`restart_conservation` with C05 plugged in and
    the "table = live paths" hypothesis discharged): fresh start, history `evs1` to a quiescent state, restart,
    history `evs2`.  Rows of the first run + rows of the second run + live fractions = idle recordings of both. -/
theorem restart_conservation_reachable (y0 y1 y3 : Sys) (evs1 evs2 : List Ev) (h0 : DiskStart y0)
    (hh1 : HistOk y0 evs1) (hr1 : run y0 evs1 = .ok y1) (hlk : y1.s.locked = [])
    (workers tsteps : Nat) (occ : List (List Int)) (ensEng : List (List Nat)) (s2 : St)
    (hrs : restore (persist y1.s) y1.s.n workers tsteps occ ensEng
      (fun pn => (y1.s.wts.lookup pn).getD []) = .ok s2)
    (hh2 : HistOk ⟨s2, []⟩ evs2) (hr2 : run ⟨s2, []⟩ evs2 = .ok y3) (c : Nat) :
    rowsTotal y1.s.rows c + (rowsTotal y3.s.rows c + colTotal y3.s.frac c)
      = (idleSteps y0 evs1 c : Rat) + (idleSteps ⟨s2, []⟩ evs2 c : Rat) := by
  have r1 := run_reach4 evs1 h0.reach4 hh1 hr1
  obtain ⟨r2, _⟩ := restore_reach4 r1 hlk hrs
  exact restart_conservation y0 y1 y3 evs1 evs2 h0.ri hr1 (matchableAlong_of_histOk evs1 y0 h0.i5.inv5 hh1) hlk
    (activeKeys_persistD r1.hinv.inv.core.coreR r1.tidy.tidy r1.hinv.fw.keys r1.rinv.liveNodup).symm
    workers tsteps occ ensEng _ s2 hrs hr2 (matchableAlong_of_histOk evs2 _ r2.inv5 hh2) c

/-! ### a one-worker run to its step target, restart with a larger target, a second run; a second restart -/

theorem exSysQ_histOkD : HistOk exSysQ exEvsD := by decide +kernel

def exEndQD : Sys := match run exSysQ exEvsD with | .ok y => y | .error _ => exSysQ

def exS2D : St :=
  match restore (persist exEndQD.s) 4 1 6 [[-1]] [[0], [0], [0]] (fun pn => (exEndQD.s.wts.lookup pn).getD []) with
  | .ok s => s
  | .error _ => exBlankQ

def exEnd3D : Sys := match run ⟨exS2D, []⟩ exEvs2 with | .ok y => y | .error _ => exSysQ

example : DiskStart exSysQ ∧ HistOk exSysQ exEvsD ∧ run exSysQ exEvsD = .ok exEndQD ∧ exEndQD.s.locked = [] ∧
    restore (persist exEndQD.s) exEndQD.s.n 1 6 [[-1]] [[0], [0], [0]]
      (fun pn => (exEndQD.s.wts.lookup pn).getD []) = .ok exS2D ∧
    HistOk ⟨exS2D, []⟩ exEvs2 ∧ run ⟨exS2D, []⟩ exEvs2 = .ok exEnd3D ∧
    (List.range 4).map (idleSteps exSysQ exEvsD) = [3, 3, 3, 0] ∧
    (List.range 4).map (idleSteps ⟨exS2D, []⟩ exEvs2) = [2, 2, 2, 0] ∧
    (List.range 3).map (fun c => rowsTotal exEndQD.s.rows c + (rowsTotal exEnd3D.s.rows c + colTotal exEnd3D.s.frac c))
      = [5, 5, 5] :=
  ⟨exDiskStartQ, exSysQ_histOkD, by decide +kernel, by decide +kernel, by decide +kernel,
   by decide +kernel, by decide +kernel⟩

/-! ## 14. Histories with stops and restarts, to any depth: the law on the two files

`Reachable one z` (Lemmas/RepexC04Resume.lean): `z` is a disk state (sampler + data file + restart file + counts)
obtained from a fresh start on a fresh disk by any sequence of
* scheduler events with outcomes in the weight family (`dStep`: any interleaving, any number of workers), and
* restarts: the next completed step is stopped anywhere inside its two weight-relevant disk effects (any number
  of whole new rows, a torn piece, before or after the `os.replace`), the restart file found records no job in
  flight, and `restartSys` = `clean_data_file` + `REPEX_state.__init__` + `load_paths` rebuilds the sampler (any worker
  count, step target, engine table); the counts go on from the recordings the restart file accounts for.
`one = true`: one worker throughout, step counter 0 at the fresh start. -/

/-- **The law on the files, for every reachable disk state.**
    1. in every ensemble column, the fractions the data file SHOWS + the fraction table = the count of completed
       steps at whose recording the column was idle;
    2. once a restart file exists: its step counter is the sampler's and the data file + the live weights of the
       restart file = that count;
    3. every path has at most one row in the data file, and no row belongs to a path active in the restart file;
    4. with one worker the count of every ensemble column is the step counter. -/
theorem files_law_reachable (one : Bool) (z : DSys) (hz : Reachable one z) :
    (∀ c, c < z.y.s.n - 1 → lineTotal z.d.lines c + colTotal z.y.s.frac c = (z.cnt.getD c 0 : Rat)) ∧
    (∀ im, z.d.img = some im → im.cstep = z.y.s.cstep ∧
        ∀ c, c < z.y.s.n - 1 → diskTotal z.d.lines im c = (z.cnt.getD c 0 : Rat)) ∧
    (lineKeys z.d.lines).Nodup ∧
    (∀ im, z.d.img = some im → ∀ pn ∈ lineKeys z.d.lines, pn ∉ activeKeys im) ∧
    (one = true → z.y.s.workers = 1 ∧ ∀ c, c < z.y.s.n - 1 → z.cnt.getD c 0 = z.y.s.cstep) := by
  obtain ⟨hg, h1⟩ := reachable_good hz
  refine ⟨hg.d.law, ?_, hg.lineKeys_nodup, good_no_active_row hg, h1⟩
  intro im him
  obtain ⟨_, _, f3⟩ := good_disk_facts hg im him
  exact ⟨(hg.d.img im him).cstep, f3⟩

/-- **One worker, any number of stops and restarts: data file + live weights of the restart file = the restart
    file's step counter**, in every ensemble column. -/
theorem files_law_one_worker (z : DSys) (hz : Reachable true z) (im : Image) (him : z.d.img = some im)
    (c : Nat) (hc : c < z.y.s.n - 1) : diskTotal z.d.lines im c = (im.cstep : Rat) :=
  reachable_one_worker hz im him c hc

/-! ### three steps, a stop inside the fourth after its row was appended (torn piece following, old restart file),
restart with a larger step target, the restarted run's initiation and one more completed step -/

theorem exReachZ : Reachable true exZ :=
  reachable_of_dRun exEvsD (Reachable.fresh exDiskStart1 (fun _ => by decide +kernel)) ex_histOkD exZ_dRun

def exMidD : St := match treatPart exZ.y 0 .acc [[1, 1, 0]] with | .ok (_, s2) => s2 | .error _ => exZ.y.s

def exStopD : Stop := { j := 1, torn := some none, renamed := false }

def exZr : DSys :=
  match restartSys (stopDisk exZ.d (exZn.d.lines.drop 5) (persistD exMidD) exStopD) exZ.cnt 4 1 8 [[-1]] [[0], [0], [0]]
      (fun pn => (exZ.y.s.wts.lookup pn).getD []) with
  | .ok z => z
  | .error _ => exZ

theorem exReachZr : Reachable true exZr :=
  Reachable.restart (z' := exZn) (k := 0) (status := .acc) (newW := [[1, 1, 0]]) (o := { t := 1, e := 1 }) (p := exStopD) (s2 := exMidD) (ls' := exZn.d.lines.drop 5)
    (lines := exZ.d.lines) (im := (exZ.d.img).getD (persistD exZ.y.s)) (workers := 1) (tsteps := 8)
    (occ := [[-1]]) (ensEng := [[0], [0], [0]])
    exReachZ exZn_evOk exZn_dStep (by decide +kernel) (by decide +kernel)
    (by decide +kernel) (fun _ => rfl) (by decide +kernel)

def exEvsR : List Ev := [.start { t := 1, e := 1 }, .initDone, .step 0 .acc [[1, 1, 0]] { t := 0, e := 0 }]

def exZr2 : DSys := match dRun exZr exEvsR with | .ok z => z | .error _ => exZr

/-- after the restart the run goes on from step 3 (the restart file's): the row of path 2 that the stopped step
    had appended is gone (path 2 is live again); the restarted run makes its own fourth step ([0+], path 4
    replaced); data file + live weights are the step counter again -/
example : Reachable true exZr ∧ exZr.y.s.cstep = 3 ∧ exZr.cnt = [3, 3, 3, 0] ∧ lineKeys exZr.d.lines = [1, 3] ∧
    HistOk exZr.y exEvsR ∧ dRun exZr exEvsR = .ok exZr2 ∧ exZr2.y.s.cstep = 4 ∧ exZr2.cnt = [4, 4, 4, 0] ∧
    lineKeys exZr2.d.lines = [1, 3, 4] ∧
    (exZr2.d.img.map (fun im => (List.range 3).map (fun c => diskTotal exZr2.d.lines im c)))
      = some ([4, 4, 4] : List Rat) :=
  ⟨exReachZr, by decide +kernel, by decide +kernel, by decide +kernel, by decide +kernel,
   by decide +kernel⟩

/-! ## 15. A restart with jobs in flight (several workers, stop in mid-run)

With `W ≥ 2` workers the restart file written by a completed step records the `W − 1` jobs of the other workers
(`[current.locked]`), and the restarted run re-issues them (`pick_lock`, `locked0 ≠ []`) before it draws new
ones.  §6/§13/§14 ask for a restart file without such records.  Here the hypothesis is dropped, on the model's
row list (not on the file lines) and ONE in-flight restart deep: the state rebuilt from the image of ANY state
reached from a fresh start (also through quiescent restarts: any `Reach4` state with an exact `locked` record)
satisfies C03's restart invariant `InitR`, C05's family invariant and the table invariant, has the column totals
it had, and every history from it (outcomes in the weight family) conserves.  Not re-established for the states of
the continued run: the disk invariants of §14, "written once" and C06's `Tidy` (their proofs go through `Init`);
so a SECOND in-flight restart, and the statement on the file lines, stay with the tie.

Not proved, the full statement (`files_law_reachable` without `hq : im.locked = []` in `Reachable.restart`):
  for every `z` obtained from a fresh start on a fresh disk by scheduler events, stops anywhere inside
  `treat_output`'s two disk effects and restarts from whatever restart file is found (any `[current.locked]`,
  any worker count), in every ensemble column `lineTotal z.d.lines c + colTotal z.y.s.frac c = z.cnt[c]`, the
  restart file (if any) has the sampler's step counter and `diskTotal z.d.lines im c = z.cnt[c]`, every path has at
  most one row and none of an active path.  What is missing is `Good` (= `Reach4` + `DiskInvG`) for the restored
  state when `locked0 ≠ []`: `HInv`/`RInv`/`Tidy`/`SupInv` re-proved over `InvR` instead of `Inv`. -/

/-- **The state rebuilt from a restart image with jobs in flight is a start state again.**  `y1` any state with the
    invariants of §13 whose `locked` record lists exactly the jobs in flight (every state reached from a fresh
    start: `reach_recEq`; the mid-state of a completed step, whose image is what `write_toml` stores:
    `mid_reach4`, `RecEq.treat`).  Its image restored with any worker count / step target / engine table and the
    weights on record: C03's `InitR` (all slots idle, the recorded jobs reserved for re-issue), C05's `Inv5`, the
    table invariant, nothing in flight, the column totals of `y1`'s table, an empty model row list. -/
theorem restart_inflight_is_start_state (y1 : Sys) (hr : Reach4 y1) (hrec : RecInv y1)
    (workers tsteps : Nat) (occ : List (List Int)) (ensEng : List (List Nat)) (s2 : St)
    (hrs : restore (persist y1.s) y1.s.n workers tsteps occ ensEng
      (fun pn => (y1.s.wts.lookup pn).getD []) = .ok s2) :
    InitR ⟨s2, []⟩ ∧ Inv5 ⟨s2, []⟩ ∧ FracWF s2 ∧ JInv ⟨s2, []⟩ ∧
      (∀ c, colTotal s2.frac c = colTotal y1.s.frac c) ∧ s2.rows = [] ∧ s2.n = y1.s.n ∧ s2.workers = workers := by
  have hc := hr.hinv.inv.core
  have hinitR : InitR ⟨s2, []⟩ := restore_is_initR (Inv.invR hr.hinv.inv) hrec workers tsteps occ ensEng _ s2 hrs
  have h5 : Init5R ⟨s2, []⟩ := restore_init5R hr.inv5.inv.core hr.inv5.fam workers tsteps occ ensEng hrs hinitR
  have fw2 := restore_fracWF hr.hinv hr.rinv hrs
  obtain ⟨_, _, hrows, hn2, _⟩ := restore_frac hrs
  have htab : (y1.s.frac.map Prod.fst).Perm ((livePaths y1.s).filterMap id) :=
    (activeKeys_persistD hc.coreR hr.tidy.tidy hr.hinv.fw.keys hr.rinv.liveNodup).symm
  have hw : s2.workers = workers := restore_workers hrs
  refine ⟨hinitR, h5.inv5, fw2, ⟨?_, ?_⟩, fun c => restore_colTotal hrs hr.hinv.fw.keys htab c, hrows, hn2, hw⟩
  · show ((([] : List Job).length : Nat) : Int) ≤ (s2.workers : Int)
    simp
  · intro _
    show ((([] : List Job).length : Nat) : Int) + s2.toinitiate ≤ (s2.workers : Int)
    have := hinitR.toinit
    simp only [] at this
    rw [this]; simp

/-- **Conservation from a restored state with recorded jobs**: any history (re-issue of the recorded jobs, new
    picks, completions in any order; outcomes in the weight family) from a state with C03's `InvR`, C05's `Inv5`
    and the table invariant: rows + table grow, per column, by the idle recordings; the invariants hold at the
    end; with one worker the step counter grows by the same number. -/
theorem conservation_from_inflight (y y' : Sys) (evs : List Ev) (h5 : Inv5 y) (fw : FracWF y.s) (hj : JInv y)
    (hh : HistOk y evs) (hrun : run y evs = .ok y') :
    InvR y' ∧ Inv5 y' ∧ FracWF y'.s ∧ JInv y' ∧ y'.s.n = y.s.n ∧
    (∀ c, rowsTotal y'.s.rows c + colTotal y'.s.frac c
      = rowsTotal y.s.rows c + colTotal y.s.frac c + (idleSteps y evs c : Rat)) ∧
    (y.s.workers = 1 → ∀ c, c < y.s.n - 1 → y'.s.cstep = y.s.cstep + idleSteps y evs c) := by
  have hm := matchableAlong_of_histOk evs y h5 hh
  obtain ⟨a1, a2, a3, a4, a5, _, a7⟩ := run_totalR evs h5.inv fw hj hrun hm
  exact ⟨a1, (run_preserves5 evs h5 hh hrun).1, a2, a3, a5, fun c => a4 c, a7⟩

/-- **Conservation across a restart with jobs in flight, no hypothesis on the `locked` record**
    (`restart_conservation_reachable` without `hlk`): fresh start, any history `evs1` to ANY state `y1` (any number
    of workers, jobs in flight), its image restored with any worker count / step target, any history `evs2` of the
    restarted run.  Rows of the first run + rows of the second run + live fractions = idle recordings of both. -/
theorem restart_inflight_conservation (y0 y1 y3 : Sys) (evs1 evs2 : List Ev) (h0 : DiskStart y0)
    (hl0 : y0.s.locked = []) (hh1 : HistOk y0 evs1) (hr1 : run y0 evs1 = .ok y1)
    (workers tsteps : Nat) (occ : List (List Int)) (ensEng : List (List Nat)) (s2 : St)
    (hrs : restore (persist y1.s) y1.s.n workers tsteps occ ensEng
      (fun pn => (y1.s.wts.lookup pn).getD []) = .ok s2)
    (hh2 : HistOk ⟨s2, []⟩ evs2) (hr2 : run ⟨s2, []⟩ evs2 = .ok y3) (c : Nat) :
    rowsTotal y1.s.rows c + (rowsTotal y3.s.rows c + colTotal y3.s.frac c)
      = (idleSteps y0 evs1 c : Rat) + (idleSteps ⟨s2, []⟩ evs2 c : Rat) := by
  have r1 := run_reach4 evs1 h0.reach4 hh1 hr1
  have hrec := (reach_recEq h0.ri.fi.init hl0 hr1).recInv
  obtain ⟨_, b5, bfw, bj, bcol, brows, _, _⟩ :=
    restart_inflight_is_start_state y1 r1 hrec workers tsteps occ ensEng s2 hrs
  obtain ⟨_, _, _, _, _, d, _⟩ := conservation_from_inflight ⟨s2, []⟩ y3 evs2 b5 bfw bj hh2 hr2
  exact total_across_restart (conservation_reachable y0 y1 evs1 h0.ri.fi h0.i5 hh1 hr1 c) (bcol c) brows (d c)

/-- **The same for the restart file as it is on disk**: the image `write_toml` stores at the end of a completed
    step is the one of the mid-state (before the freed worker's next `prep_md_items`).  `y` reached from a fresh
    start, one more completed step (any job `k`, any status, outcome in the family); `sM` = the state
    `treat_output` leaves.  Its image (`persistD`: the fraction section in the order written) restored with any
    worker count — the `locked` record holds the other workers' jobs — and any history of the restarted run:
    rows up to and including this step + rows of the restarted run + live fractions = idle recordings of the
    history + this step's + the restarted run's. -/
theorem midstep_restart_inflight_conservation (y0 y y' y3 : Sys) (evs evs2 : List Ev) (h0 : DiskStart y0)
    (hl0 : y0.s.locked = []) (hh : HistOk y0 evs) (hr : run y0 evs = .ok y)
    (k : Nat) (status : Status) (newW : List (List Rat)) (o : PickOutcome)
    (hev : EvOk y (.step k status newW o)) (hs : sysStep y (.step k status newW o) = .ok y') :
    ∃ job sM pns it, y.jobs[k]? = some job ∧
      treatOutput (loop y.s).1 job status newW (sortFuel (loop y.s).1) = .ok (sM, pns, it) ∧
      ∀ (workers tsteps : Nat) (occ : List (List Int)) (ensEng : List (List Nat)) (sR : St),
        restore (persistD sM) sM.n workers tsteps occ ensEng (fun pn => (sM.wts.lookup pn).getD []) = .ok sR →
        HistOk ⟨sR, []⟩ evs2 → run ⟨sR, []⟩ evs2 = .ok y3 →
        InvR y3 ∧ FracWF y3.s ∧ ∀ c,
          rowsTotal sM.rows c + (rowsTotal y3.s.rows c + colTotal y3.s.frac c)
            = (idleSteps y0 evs c : Rat) + (idleAt y (.step k status newW o) c : Rat)
              + (idleSteps ⟨sR, []⟩ evs2 c : Rat) := by
  obtain ⟨r, hj, _⟩ := conservation_from_reachable y0 y evs h0.reach4 h0.ri.fi.jinv hh hr
  have hrec := reach_recEq h0.ri.fi.init hl0 hr
  obtain ⟨job, sM, pns, it, hjob, htreat, _, rM, hk⟩ := mid_reach4 r hev hs
  have hrecM : RecInv ⟨sM, y.jobs.eraseIdx k⟩ :=
    (hrec.treat (Inv.invR r.hinv.inv) hjob htreat).recInv
  refine ⟨job, sM, pns, it, hjob, htreat, ?_⟩
  intro workers tsteps occ ensEng sR hres hh2 hr2
  rw [restore_persistD] at hres
  obtain ⟨_, b5, bfw, bj, bcol, brows, _, _⟩ :=
    restart_inflight_is_start_state ⟨sM, y.jobs.eraseIdx k⟩ rM hrecM workers tsteps occ ensEng sR hres
  obtain ⟨d1, _, d3, _, _, d, _⟩ := conservation_from_inflight ⟨sR, []⟩ y3 evs2 b5 bfw bj hh2 hr2
  refine ⟨d1, d3, fun c => ?_⟩
  have e1 := conservation_reachable y0 y evs h0.ri.fi h0.i5 hh hr c
  obtain ⟨_, _, hstep, _⟩ := sysStep_total _ r.hinv hj hs (matchableAt_of_inv5 r.inv5 hev)
  have e2 := hstep c
  unfold total at e2
  rw [hk.frac, hk.rows, e1] at e2
  exact total_across_restart e2 (bcol c) brows (d c)

/-! ### two workers: stop after the first completed step of `exEvs` (the other worker's job on record), restart -/

/-- the mid-state of the zero-swap completion in `exMid` is `exMidTreated`; its image records the other worker's job: slot 2 (`[1+]`), path 2 -/
def exInflightS : St :=
  match restore (persistD exMidTreated) 4 2 10 [[-1, -1]] [[0], [0], [0]]
      (fun pn => (exMidTreated.wts.lookup pn).getD []) with
  | .ok s => s
  | .error _ => exMid.s

/-- the restarted run: worker 0 re-issues the recorded `[1+]` job (the outcome is ignored), worker 1 picks `[0+]`,
    initiation closes, the re-issued job completes ACCEPTED -/
def exInflightEvs : List Ev :=
  [ .start { t := 0, e := 0 }, .start { t := 1, e := 1 }, .initDone,
    .step 0 .acc [[1, 1, 0]] { t := 2, e := 2 } ]

def exInflightEnd : Sys := match run ⟨exInflightS, []⟩ exInflightEvs with | .ok y => y | .error _ => exMid

example : DiskStart exSys ∧ exSys.s.locked = [] ∧ HistOk exSys (exEvs.take 3) ∧ run exSys (exEvs.take 3) = .ok exMid ∧
    EvOk exMid (.step 0 .acc [[1], [1, 1, 0]] { t := 0, e := 0, coin := false }) ∧
    sysStep exMid (.step 0 .acc [[1], [1, 1, 0]] { t := 0, e := 0, coin := false }) = .ok exMidNext ∧
    (persistD exMidTreated).locked = [([2], [2])] ∧
    restore (persistD exMidTreated) 4 2 10 [[-1, -1]] [[0], [0], [0]]
      (fun pn => (exMidTreated.wts.lookup pn).getD []) = .ok exInflightS ∧
    exInflightS.locked0 = [([2], [2])] ∧
    HistOk ⟨exInflightS, []⟩ exInflightEvs ∧ run ⟨exInflightS, []⟩ exInflightEvs = .ok exInflightEnd ∧
    exInflightEnd.jobs.map (·.pnumOld) = [[4], [5]] ∧
    (List.range 4).map (idleSteps ⟨exInflightS, []⟩ exInflightEvs) = [1, 0, 1, 0] ∧
    (List.range 3).map (fun c => rowsTotal exMidTreated.rows c
        + (rowsTotal exInflightEnd.s.rows c + colTotal exInflightEnd.s.frac c)) = [2, 1, 1] :=
  ⟨exDiskStart, by decide +kernel, exMid_histOk, exMid_run, exMid_evOk, exMidNext_step, by decide +kernel,
   by decide +kernel, by decide +kernel, by decide +kernel, by decide +kernel⟩

/-! ## 16. The end-of-run `write_toml` and "rewrite only if changed"

`loop()` calls `write_toml` once more when the step target is reached (`finishDisk`); this is the restart file a
user continues a finished run from.  `clean_data_file` rewrites the data file only if it dropped a line
(`cleanRewrites`). -/

/-- **The end-of-run `write_toml` keeps the law, for every reachable disk state.**  `finishDisk` leaves the data
    file alone; below the step target it does nothing, at the step target the restart file becomes the image of the
    current sampler state.  Either way, for the restart file `im` on the resulting disk: its step and path
    counters are the sampler's, data file + live weights of `im` = the count of idle recordings in every ensemble
    column (one worker: = `im.cstep`), no row belongs to a path active in `im`, and a restart's
    `clean_data_file` neither drops a line nor rewrites the file. -/
theorem finishDisk_keeps_law (one : Bool) (z : DSys) (hz : Reachable one z) :
    (finishDisk z.d z.y.s).lines = z.d.lines ∧
    (z.y.s.cstep ≥ z.y.s.tsteps → (finishDisk z.d z.y.s).img = some (persistD z.y.s)) ∧
    (¬ z.y.s.cstep ≥ z.y.s.tsteps → finishDisk z.d z.y.s = z.d) ∧
    ∀ im, (finishDisk z.d z.y.s).img = some im →
      im.cstep = z.y.s.cstep ∧ im.trajNum = z.y.s.trajNum ∧
      (∀ c, c < z.y.s.n - 1 → diskTotal (finishDisk z.d z.y.s).lines im c = (z.cnt.getD c 0 : Rat)) ∧
      (∀ pn ∈ lineKeys (finishDisk z.d z.y.s).lines, pn ∉ activeKeys im) ∧
      cleanLines (activeKeys im) (finishDisk z.d z.y.s).lines = (finishDisk z.d z.y.s).lines ∧
      cleanRewrites (activeKeys im) (finishDisk z.d z.y.s).lines = false ∧
      (one = true → ∀ c, c < z.y.s.n - 1 → diskTotal (finishDisk z.d z.y.s).lines im c = (im.cstep : Rat)) := by
  obtain ⟨hg, h1⟩ := reachable_good hz
  have hF := finish_good hg
  refine ⟨finishDisk_lines _ _, finishDisk_img_of_done _ _, finishDisk_of_not_done _ _, ?_⟩
  intro im him
  have ig := hF.d.img im him
  obtain ⟨_, _, f3⟩ := good_disk_facts hF im him
  have hc := clean_noopG hF im him
  refine ⟨ig.cstep, ig.tn, f3, good_no_active_row hF im him, hc, (cleanRewrites_false_iff _ _).mpr hc, ?_⟩
  intro ho c hcn
  rw [f3 c hcn, (h1 ho).2 c hcn, ig.cstep]

/-- **`clean_data_file` rewrites the data file iff it drops a line** (all inputs), and what it keeps is never
    longer than what it found. -/
theorem clean_rewrites_iff_dropped (active : List Nat) (lines : List DLine) :
    (cleanRewrites active lines = true ↔ cleanLines active lines ≠ lines) ∧
    (cleanRewrites active lines = false ↔ cleanLines active lines = lines) ∧
    (cleanLines active lines).length ≤ lines.length :=
  ⟨cleanRewrites_iff active lines, cleanRewrites_false_iff active lines, List.length_filter_le _ _⟩

/-! ### a one-worker run to its step target 3: the restart file of the finished run -/

def exZQ : DSys := match dRun (freshSys exSysQ) exEvsD with | .ok z => z | .error _ => freshSys exSysQ

theorem exReachZQ : Reachable true exZQ :=
  reachable_of_dRun exEvsD (Reachable.fresh exDiskStartQ (fun _ => by decide +kernel)) exSysQ_histOkD
    (by decide +kernel)

example : Reachable true exZQ ∧ exZQ.y.s.cstep ≥ exZQ.y.s.tsteps ∧
    (finishDisk exZQ.d exZQ.y.s).img.map (·.cstep) = some 3 ∧
    (finishDisk exZQ.d exZQ.y.s).img.map (·.active) = some [some 0, some 4, some 2] ∧
    ((finishDisk exZQ.d exZQ.y.s).img.map (fun im =>
        (List.range 3).map (fun c => diskTotal (finishDisk exZQ.d exZQ.y.s).lines im c))) = some ([3, 3, 3] : List Rat) ∧
    -- below the step target nothing is written
    ¬ exZ.y.s.cstep ≥ exZ.y.s.tsteps ∧ finishDisk exZ.d exZ.y.s = exZ.d ∧
    -- a stop that left a whole new row behind: the restart's clean-up drops it and rewrites the file
    cleanRewrites [0, 4, 2] (exZ.d.lines ++ [{ hash := false, term := true, key := some 2 }]) = true ∧
    cleanLines [0, 4, 2] (exZ.d.lines ++ [{ hash := false, term := true, key := some 2 }]) = exZ.d.lines ∧
    cleanRewrites [0, 4, 2] exZ.d.lines = false :=
  ⟨exReachZQ, by decide +kernel⟩

/-! ## 17. "Record weights" on a malformed fraction table (numpy's shape check)

`Repex.addVec` is `List.zipWith`: on a vector that does not have `n` entries (a hand-edited `[current.frac]`; a
restart file written for another number of interfaces is refused by `check_config` since 971ccbc) it truncates
silently, whereas the code's `traj_data[live]["frac"] += P[idx, :]` raises `ValueError` — after crediting the paths earlier in `live_paths()`,
before anything is written.  The driver runs `treatOutputChecked` (Model/DataFileNp.lean), which mirrors that.
Every theorem above is about `treatOutput`; these theorems say the two are the same wherever the theorems apply. -/

/-- **No raise ⇒ same state.**  Whenever the checked loop goes through, `recordFrac` returns the same state. -/
theorem record_checked_no_raise {s s' : St} (h : recordFracChecked s = (s', none)) : recordFrac s = .ok s' := by
  unfold recordFracChecked at h
  simp only [Prod.mk.injEq] at h
  obtain ⟨h1, h2⟩ := h
  have := recGoChecked_none (lockedPaths s) (prob s) _ s.frac
    (recGoChecked (lockedPaths s) (prob s) s.frac ((List.range (livePaths s).length).zip (livePaths s))).1
    (by rw [← h2])
  unfold recordFrac
  simp only []
  rw [this]
  simp only []
  rw [h1]

/-- **Well-formed table ⇒ same behaviour, error for error.**  Slot-well-formed state, all vectors of length `n`. -/
theorem record_checked_eq_wellformed {s : St} (wf : SlotWF s) (hl : ∀ kv ∈ s.frac, kv.2.length = s.n) :
    (match recordFrac s with
     | .ok s' => recordFracChecked s = (s', none)
     | .error e => (recordFracChecked s).2 = some e) :=
  recordFracChecked_wf wf hl

/-- **`treat_output` with the checked loop = `treatOutput` in every reachable state** (fresh start, any history
    with outcomes in the weight family, any completing job, any status). -/
theorem treat_checked_eq_reachable (y0 y y' : Sys) (evs : List Ev) (h0 : FracInit y0) (h5 : Init5 y0)
    (hh : HistOk y0 evs) (hr : run y0 evs = .ok y)
    (k : Nat) (status : Status) (newW : List (List Rat)) (o : PickOutcome)
    (hev : EvOk y (.step k status newW o)) (hs : sysStep y (.step k status newW o) = .ok y') :
    ∃ job, y.jobs[k]? = some job ∧
      (treatOutputChecked (loop y.s).1 job status newW (sortFuel (loop y.s).1)).toExcept
        = treatOutput (loop y.s).1 job status newW (sortFuel (loop y.s).1) := by
  have hi := run_invariant (fun ev => sysStep_hinv ev) evs h0.hinv hr
  have hi5 := (run_preserves5 evs h5.inv5 hh hr).1
  obtain ⟨job, sR, tn, pns, _, hjob, hrec, _, wf, _, _, hl, _⟩ := step_record hi hi5 hev hs
  refine ⟨job, hjob, treatOutputChecked_eq _ job status newW _ ?_⟩
  intro s1 tn' pns' h1
  rw [hrec] at h1
  simp only [Except.ok.injEq, Prod.mk.injEq] at h1
  obtain ⟨rfl, _, _⟩ := h1
  exact ⟨wf, hl⟩

/-- `exRec` with the vector of path 3 cut to two entries (as a malformed restart file would load it) -/
def exRecBad : St := { exRec with frac := [(3, [0, 1/2]), (4, [0, 0, 1, 0]), (5, [1, 0, 0, 0])] }

/-- the vector of path 4 cut instead: path 3 (earlier in `live_paths()`) is credited before the raise -/
def exRecBad2 : St := { exRec with frac := [(3, [0, 1/2, 1/2, 0]), (4, [0, 0, 1]), (5, [1, 0, 0, 0])] }

/-- the code raises `ValueError` (nothing credited when the first idle path is the malformed one; partial credit
    when it is a later one), the unchecked loop truncates and goes on; on the well-formed `exRec` both agree -/
example : recordFracChecked exRecBad = (exRecBad, some .value) ∧
    recordFrac exRecBad = .ok { exRecBad with
      frac := [(3, [0, 1/2 + 2/3]), (4, [0, 1/3, 1 + 2/3, 0]), (5, [1, 0, 0, 0])] } ∧
    recordFracChecked exRecBad2 = ({ exRecBad2 with
      frac := [(3, [0, 1/2 + 2/3, 1/2 + 1/3, 0]), (4, [0, 0, 1]), (5, [1, 0, 0, 0])] }, some .value) ∧
    recordFracChecked exRec = ({ exRec with
      frac := [(3, [0, 1/2 + 2/3, 1/2 + 1/3, 0]), (4, [0, 1/3, 1 + 2/3, 0]), (5, [1, 0, 0, 0])] }, none) ∧
    slotOk exRec = true ∧ (∀ kv ∈ exRec.frac, kv.2.length = exRec.n) := by
  decide +kernel

example : FracInit exSys ∧ Init5 exSys ∧ HistOk exSys (exEvs.take 3) ∧ run exSys (exEvs.take 3) = .ok exMid ∧
    EvOk exMid (.step 0 .acc [[1], [1, 1, 0]] { t := 0, e := 0, coin := false }) ∧
    sysStep exMid (.step 0 .acc [[1], [1, 1, 0]] { t := 0, e := 0, coin := false }) = .ok exMidNext :=
  ⟨ex_fracInit, ex_init5, exMid_histOk, exMid_run, exMid_evOk, exMidNext_step⟩

end Infretis.C04
