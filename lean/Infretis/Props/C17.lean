import Infretis.Lemmas.SchedStep
import Infretis.Props.C17Runner
import Infretis.Props.C17Sys
import Infretis.Props.C17Sched
import Infretis.Model.SchedDisk
import Infretis.Lemmas.SchedDiskEx
/-!
# C17 — exactly the requested number of moves runs; each result is consumed once

Scheduler half (this file): step arithmetic of `scheduler()` over the replica-exchange state
machine `Infretis.Repex` (model: `Model/Repex.lean`, mirrors scheduler.py + REPEX_state.initiate /
loop incl. the repair 2596063 "initiate() does not start more jobs than there are steps left"), then the same
loop with its restart-file writes and its ways to end (`Model/SchedDisk.lean`).  Restart arithmetic over
several lives: `Props/C17Sched.lean`.
Runner half: `Props/C17Runner.lean` (model `Model/Runner.lean`, the abstract protocol) and
`Props/C17Sys.lean` (model `Model/RunnerSys.lean`, the runner's own code as a transition system, proved
to refine the protocol).

A scheduler history is `starts ++ [.initDone] ++ steps` (the two `while` loops of `scheduler()`);
all random / MD outcomes and the completion order are arbitrary (they are arguments of the events).
-/
namespace Infretis.C17
open Infretis.Repex

/-- number of completed moves (`treat_output` calls) in a history -/
def nSteps : List Ev → Nat
  | [] => 0
  | .step .. :: t => nSteps t + 1
  | _ :: t => nSteps t

def isStart : Ev → Bool | .start .. => true | _ => false
def isStep : Ev → Bool | .step .. => true | _ => false

/-- shape of the event list produced by `scheduler()` -/
def Shaped (evs : List Ev) : Prop :=
  ∃ a b, evs = a ++ [Ev.initDone] ++ b ∧ (∀ e ∈ a, isStart e = true) ∧ (∀ e ∈ b, isStep e = true)

/-- `initiate()` answers True exactly when a step is left for one more worker -/
theorem initiate_go (s : St) :
    (initiate s).2 = true ↔
      (s.cstep < s.tsteps ∧ 1 ≤ s.toinitiate ∧
        (s.cstep : Int) + ((s.workers : Int) - s.toinitiate) < (s.tsteps : Int)) := by
  constructor
  · intro h
    obtain ⟨h1, h2, h3, _⟩ := Repex.initiate_go h
    exact ⟨h1, h2, h3⟩
  · intro h
    cases hgo : (initiate s).2 with
    | true => rfl
    | false =>
      rcases initiate_stop hgo with ⟨h1, _⟩ | ⟨_, _, _, _, h1⟩
      · omega
      · exact absurd h.2 h1

/-- a `.start` event: one more job in flight, counters untouched except the initiation counter,
    and it only happens while `cstep + (jobs already started) < tsteps` -/
theorem start_effect {y y' : Sys} {o : PickOutcome} {k : Nat} (h : sysStep y (.start o k) = .ok y') :
    y'.s.cstep = y.s.cstep ∧ y'.s.tsteps = y.s.tsteps ∧ y'.s.workers = y.s.workers ∧
    y'.jobs.length = y.jobs.length + 1 ∧
    y.s.cstep < y.s.tsteps ∧ 1 ≤ y.s.toinitiate ∧
    (y.s.cstep : Int) + ((y.s.workers : Int) - y.s.toinitiate) < (y.s.tsteps : Int) ∧
    y'.s.toinitiate = y.s.toinitiate - 1 := by
  obtain ⟨e2, e3, g1, g2, g3, e1, e4, e5⟩ := sysStep_effect h
  exact ⟨e1, e2, e3, e5, g1, g2, g3, e4⟩

/-- the closing `initiate()` call: nothing issued; if a step was left and the initiation had not
    closed yet, `toinitiate` becomes −1 -/
theorem initDone_effect {y y' : Sys} (h : sysStep y .initDone = .ok y') :
    y'.s.cstep = y.s.cstep ∧ y'.s.tsteps = y.s.tsteps ∧ y'.s.workers = y.s.workers ∧ y'.jobs = y.jobs ∧
    ¬ (y.s.cstep < y.s.tsteps ∧ 1 ≤ y.s.toinitiate ∧
        (y.s.cstep : Int) + ((y.s.workers : Int) - y.s.toinitiate) < (y.s.tsteps : Int)) ∧
    (y.s.cstep < y.s.tsteps → 0 ≤ y.s.toinitiate → y'.s.toinitiate = -1) ∧
    (y.s.tsteps ≤ y.s.cstep → y'.s = y.s) := by
  obtain ⟨e2, e3, e1, e4, hcase⟩ := sysStep_effect h
  refine ⟨e1, e2, e3, e4, ?_⟩
  rcases hcase with ⟨h1, h2⟩ | ⟨h1, _, _, h2, h3⟩
  · exact ⟨fun hc => by omega, fun hc => by omega, fun _ => h2⟩
  · exact ⟨fun hc => h3 hc.2, fun _ => h2, fun hc => by omega⟩

/-- a `.step` event: the step counter advances by one (and was below the target), one job is
    consumed, and a new one is issued iff `cstep + workers ≤ tsteps` -/
theorem step_effect {y y' : Sys} {k : Nat} {st : Status} {w} {o : PickOutcome}
    (h : sysStep y (.step k st w o) = .ok y') :
    y.s.cstep < y.s.tsteps ∧ y'.s.cstep = y.s.cstep + 1 ∧ y'.s.tsteps = y.s.tsteps ∧
    y'.s.workers = y.s.workers ∧ y'.s.toinitiate = y.s.toinitiate ∧ k < y.jobs.length ∧
    y'.jobs.length = y.jobs.length - 1 + (if y.s.cstep + 1 + y.s.workers ≤ y.s.tsteps then 1 else 0) := by
  obtain ⟨e2, e3, g1, hk, e1, e4, e5⟩ := sysStep_effect h
  exact ⟨g1, e1, e2, e3, e4, hk, e5⟩

theorem nSteps_append (a b : List Ev) : nSteps (a ++ b) = nSteps a + nSteps b := by
  induction a with
  | nil => simp [nSteps]
  | cons e t ih =>
    cases e <;> simp [nSteps, ih]
    omega

theorem nSteps_starts (a : List Ev) (h : ∀ e ∈ a, isStart e = true) : nSteps a = 0 := by
  induction a with
  | nil => rfl
  | cons e t ih =>
    have := h e (by simp)
    cases e <;> simp [isStart] at this
    simp [nSteps]; exact ih (fun e he => h e (by simp [he]))

theorem nSteps_steps (b : List Ev) (h : ∀ e ∈ b, isStep e = true) : nSteps b = b.length := by
  induction b with
  | nil => rfl
  | cons e t ih =>
    have := h e (by simp)
    cases e <;> simp [isStep] at this
    simp [nSteps]; exact ih (fun e he => h e (by simp [he]))

/-- **The step counter counts completed moves** — for every history whatsoever: `tsteps` and
    `workers` never change, `cstep` grows by one per `.step` and never passes the target (or its start value, if that
    is larger). -/
theorem run_counters : ∀ {evs : List Ev} {y y' : Sys}, run y evs = .ok y' →
    y'.s.cstep = y.s.cstep + nSteps evs ∧ y'.s.tsteps = y.s.tsteps ∧ y'.s.workers = y.s.workers ∧
    y'.s.cstep ≤ max y.s.cstep y.s.tsteps
  | [], y, y', h => by cases h; exact ⟨rfl, rfl, rfl, Nat.le_max_left ..⟩
  | e :: t, y, y', h => by
    obtain ⟨y1, h1, h⟩ := run_cons_ok h
    obtain ⟨r1, r2, r3, r4⟩ := run_counters h
    cases e with
    | start o k =>
      obtain ⟨e1, e2, e3, _⟩ := start_effect h1
      rw [e1, e2] at r4; rw [e1] at r1
      exact ⟨r1, r2.trans e2, r3.trans e3, r4⟩
    | initDone =>
      obtain ⟨e1, e2, e3, _⟩ := initDone_effect h1
      rw [e1, e2] at r4; rw [e1] at r1
      exact ⟨r1, r2.trans e2, r3.trans e3, r4⟩
    | step k st w o =>
      obtain ⟨e0, e1, e2, e3, _⟩ := step_effect h1
      rw [e1, e2] at r4; rw [e1] at r1
      exact ⟨by simp only [nSteps]; omega, r2.trans e2, r3.trans e3, by omega⟩

theorem run_preserves {P : Sys → Prop} {q : Ev → Bool}
    (hstep : ∀ {y y' : Sys} {e : Ev}, q e = true → P y → sysStep y e = .ok y' → P y')
    {evs : List Ev} {y y' : Sys} (hq : ∀ e ∈ evs, q e = true) (hP : P y) (h : run y evs = .ok y') : P y' :=
  run_guarded (G := fun _ e => q e = true) (fun _ _ _ hP hq h => hstep hq hP h) evs hP
    (along_of_forall (fun e he _ => hq e he) y) h

/-- invariant of the initiation loop: `workers − toinitiate` jobs are in flight, and there is a
    step left for each of them -/
def IA (y : Sys) : Prop :=
  0 ≤ y.s.toinitiate ∧ (y.jobs.length : Int) = (y.s.workers : Int) - y.s.toinitiate ∧
  y.s.cstep + y.jobs.length ≤ max y.s.cstep y.s.tsteps

theorem IA_start {y y' : Sys} {e : Ev} (he : isStart e = true) (hI : IA y) (h : sysStep y e = .ok y') :
    IA y' := by
  cases e with
  | initDone => cases he
  | step => cases he
  | start o k =>
    obtain ⟨e1, e2, _, e4, _, e6, e7, e8⟩ := start_effect h
    obtain ⟨i1, i2, i3⟩ := hI
    refine ⟨by omega, by omega, ?_⟩
    rw [e1, e2, e4]
    omega

/-- invariant of the main loop: the number of jobs in flight -/
def IB (y : Sys) : Prop := y.jobs.length = min y.s.workers (y.s.tsteps - y.s.cstep)

theorem IB_step {y y' : Sys} {e : Ev} (he : isStep e = true) (hI : IB y) (h : sysStep y e = .ok y') :
    IB y' := by
  cases e with
  | initDone => cases he
  | start => cases he
  | step k st w o =>
    obtain ⟨_, e2, e3, e4, _, e6, e7⟩ := step_effect h
    unfold IB at hI ⊢
    rw [hI] at e6
    rw [e7, e2, e3, e4, hI]
    clear e2 e3 e4 e7 hI h
    -- the job consumed is replaced exactly when more steps than workers are left
    by_cases hre : y.s.cstep + 1 + y.s.workers ≤ y.s.tsteps
    · rw [if_pos hre]; omega
    · rw [if_neg hre]; omega

/-- the closing `initiate()` call turns the first invariant into the second: it answers False
    because the initiation is complete (`toinitiate = 0`) or no step is left for another job -/
theorem IB_of_initDone {y y' : Sys} (hI : IA y) (h : sysStep y .initDone = .ok y') : IB y' := by
  obtain ⟨d1, d2, d3, d4, d5, _⟩ := initDone_effect h
  obtain ⟨i1, i2, i3⟩ := hI
  unfold IB
  rw [d4, d1, d2, d3]
  omega

/-- a fresh scheduler state: nothing in flight, every worker still to be started -/
def Fresh (y : Sys) : Prop := y.jobs = [] ∧ y.s.toinitiate = (y.s.workers : Int)

/-- **Step arithmetic.** For every scheduler history from a fresh state (any outcomes, any
    completion order): the step counter equals the start value plus the number of completed moves,
    never exceeds the target (or its start value, if that is larger), and the number of jobs in flight is
    `min(workers, steps left)`. -/
theorem scheduler_arithmetic {y0 y : Sys} {evs : List Ev} (hf : Fresh y0) (hsh : Shaped evs)
    (hr : run y0 evs = .ok y) :
    y.s.cstep = y0.s.cstep + nSteps evs ∧ y.s.tsteps = y0.s.tsteps ∧ y.s.workers = y0.s.workers ∧
    y.s.cstep ≤ max y0.s.cstep y0.s.tsteps ∧
    y.jobs.length = min y0.s.workers (y0.s.tsteps - y.s.cstep) := by
  obtain ⟨c1, c2, c3, c4⟩ := run_counters hr
  refine ⟨c1, c2, c3, c4, ?_⟩
  obtain ⟨a, b, rfl, ha, hb⟩ := hsh
  obtain ⟨y2, hr1, hr3⟩ := run_append_inv _ _ hr
  obtain ⟨y1, hr1, hr2⟩ := run_append_inv _ _ hr1
  have hIA0 : IA y0 := by
    obtain ⟨f1, f2⟩ := hf
    refine ⟨by omega, by rw [f1, f2]; simp, by rw [f1]; exact Nat.le_max_left ..⟩
  have hIA1 : IA y1 := run_preserves IA_start ha hIA0 hr1
  have hIB2 : IB y2 := by
    obtain ⟨_, h2, hr2⟩ := run_cons_ok hr2
    cases hr2
    exact IB_of_initDone hIA1 h2
  have hIB : IB y := run_preserves IB_step hb hIB2 hr3
  rw [← c2, ← c3]
  exact hIB

/-- **Exactly the requested number of moves; nothing left in flight.** When the main loop has
    ended (`loop()` answers False) after a scheduler history from a fresh state with
    `cstep₀ ≤ steps`: exactly `steps − cstep₀` moves were completed — never more, never fewer — the
    step counter equals `steps`, and no job is in flight. -/
theorem finished_run {y0 y : Sys} {evs : List Ev} (hf : Fresh y0) (hsh : Shaped evs)
    (hr : run y0 evs = .ok y) (hc0 : y0.s.cstep ≤ y0.s.tsteps) (hfin : (loop y.s).2 = false) :
    nSteps evs = y0.s.tsteps - y0.s.cstep ∧ y.s.cstep = y0.s.tsteps ∧ y.jobs = [] := by
  obtain ⟨h1, h2, h3, h4, h5⟩ := scheduler_arithmetic hf hsh hr
  have hl := (loop_stop hfin).1
  have hc : y.s.cstep = y0.s.tsteps := by omega
  refine ⟨by omega, hc, List.length_eq_zero_iff.mp ?_⟩
  rw [h5, hc, Nat.sub_self, Nat.min_zero]

/-- **No deadlock, no surplus.** While steps are left (and there is at least one worker) some job
    is in flight, so `as_completed()` always has a future to return; and never more than `workers`
    jobs or more jobs than steps left are in flight. -/
theorem inflight_bounds {y0 y : Sys} {evs : List Ev} (hf : Fresh y0) (hsh : Shaped evs)
    (hr : run y0 evs = .ok y) :
    y.jobs.length ≤ y0.s.workers ∧ y.jobs.length ≤ y0.s.tsteps - y.s.cstep ∧
    (y.s.cstep < y0.s.tsteps → 1 ≤ y0.s.workers → y.jobs ≠ []) := by
  have h5 := (scheduler_arithmetic hf hsh hr).2.2.2.2
  refine ⟨by omega, by omega, ?_⟩
  intro hc hw he
  rw [he, List.length_nil] at h5
  omega

/-- **One life, any restart point** (also the no-op restart `cstep₀ > steps`).  When the main loop
    has ended after a scheduler history from a fresh state: the step counter is `max cstep₀ steps`,
    exactly `max cstep₀ steps − cstep₀` moves were completed, and with `cstep₀ ≤ steps` no job is in
    flight.  This is what `SchedCtr.life` takes as the effect of a finished `scheduler()` run. -/
theorem life_counters {y0 y : Sys} {evs : List Ev} (hf : Fresh y0) (hsh : Shaped evs)
    (hr : run y0 evs = .ok y) (hfin : (loop y.s).2 = false) :
    y.s.cstep = max y0.s.cstep y0.s.tsteps ∧ nSteps evs = max y0.s.cstep y0.s.tsteps - y0.s.cstep ∧
    (persist y.s).cstep = y0.s.cstep + nSteps evs ∧ (y0.s.cstep ≤ y0.s.tsteps → y.jobs = []) := by
  obtain ⟨h1, h2, _, h4⟩ := run_counters hr
  have hl := (loop_stop hfin).1
  exact ⟨by omega, by omega, h1, fun hc0 => (finished_run hf hsh hr hc0 hfin).2.2⟩

-- the no-op restart (cstep₀ = 5 > steps = 2): hypotheses of `life_counters` hold on a concrete history
example : let y0 : Sys := { s := blank 3 1 2 5 3 0 [] [] true [], jobs := [] }
    Fresh y0 ∧ Shaped [Ev.initDone] ∧ run y0 [Ev.initDone] = .ok y0 ∧ (loop y0.s).2 = false :=
  ⟨⟨rfl, rfl⟩, ⟨[], [], rfl, by simp, by simp⟩, rfl, rfl⟩

/-- the restart file's step counter is the state's `cstep` -/
theorem restart_cstep (s : St) : (persist s).cstep = s.cstep := rfl
-- `restart_cstep` is only about the CONTENT `write_toml` would store for a state; it says
-- nothing about WHEN the file is written.  Between `loop()` (which does `cstep += 1`) and the end of `treat_output`
-- the state's counter is one ahead of the completed moves:
example : let s := blank 3 1 4 0 3 0 [] [] false []
    (persist (loop s).1).cstep = 1 ∧ (loop s).2 = true := by decide +kernel
-- The clause "the step counter in the restart file equals the number of completed moves" is carried by
-- `disk_counts_completed_moves` below (write points and the file on disk are part of `Model/SchedDisk.lean`).

example : Shaped [Ev.start ⟨0, 0, false, 0⟩ 0, Ev.initDone, Ev.step 0 .rej [] ⟨0, 0, false, 0⟩] :=
  ⟨[Ev.start ⟨0, 0, false, 0⟩ 0], [Ev.step 0 .rej [] ⟨0, 0, false, 0⟩], rfl, by simp [isStart], by simp [isStep]⟩

/-! ## scheduler() with its file effects and its ways to end (`Model/SchedDisk.lean`)

`Repex.sysStep` has no write points, no death and no `runner.stop()`.  `SchedDisk.dstep` adds them as the
code has them; `dstep_proj` shows that every step with a counterpart IS that `sysStep` (so the theorems
above carry over), the driver op `sd-ev` runs `dstep` and the tie compares cstep / jobs in flight /
the file really on disk / stop() calls with the real `scheduler()` after every event. -/
section SchedDisk
open Infretis.SchedDisk

theorem dstep_proj {d d' : DSys} {e : DEv} {ev : Ev} (h : dstep d e = .ok d') (he : toEv e = some ev) :
    sysStep d.y ev = .ok d'.y := by
  have h' := (dstep_ok h).2
  cases e with
  | start o k => cases he; obtain ⟨y', hy, rfl⟩ := h'; exact hy
  | initDone => cases he; obtain ⟨y', hy, rfl⟩ := h'; exact hy
  | step k st w o => cases he; obtain ⟨_, _, y', _, hy, rfl⟩ := h'; exact hy
  | stepKilled => cases he
  | unitFails => cases he
  | killedWaiting => cases he
  | finish => cases he

/-- file / memory invariant of a life that began at step counter `c0` with `disk0` on disk, after
    `n` completed moves -/
structure DInv (c0 : Nat) (disk0 : Option Image) (d : DSys) (n : Nat) : Prop where
  mem : d.y.s.cstep = c0 + n + (if d.midStep then 1 else 0)
  file : match d.disk with | some im => im.cstep = c0 + n | none => n = 0
  mid : d.midStep = true → d.phase = .dead
  stops : d.stops = (if d.phase = .stopped then 1 else 0)
  writes : d.writes = n + (if d.phase = .stopped then 1 else 0)
  nowrite : d.writes = 0 → d.disk = disk0
  stopfile : d.phase = .stopped → d.disk ≠ none

section
variable {c0 : Nat} {disk0 : Option Image} {d : DSys} {n : Nat}

/-- what the invariant says while `scheduler()` is inside one of its loops -/
theorem DInv.running (hI : DInv c0 disk0 d n) (hph : d.phase = .running) :
    d.midStep = false ∧ d.y.s.cstep = c0 + n ∧ d.stops = 0 ∧ d.writes = n := by
  have hmid : d.midStep = false := by
    cases hm : d.midStep with
    | false => rfl
    | true => have := hI.mid hm; rw [hph] at this; cases this
  have h1 := hI.mem; have h2 := hI.stops; have h3 := hI.writes
  rw [hmid] at h1; rw [hph] at h2 h3
  exact ⟨hmid, h1, h2, h3⟩

/-! The steps of `dstep` come in four shapes; the invariant is carried over each. -/

/-- only the sampler changes, the step counter does not (`start`, `initDone`) -/
theorem DInv.silent (hI : DInv c0 disk0 d n) {y' : Sys} (hc : y'.s.cstep = d.y.s.cstep) :
    DInv c0 disk0 { d with y := y' } n :=
  ⟨hc.trans hI.mem, hI.file, hI.mid, hI.stops, hI.writes, hI.nowrite, hI.stopfile⟩

/-- a move is completed and `treat_output` writes the file (`step`, `stepKilled`) -/
theorem DInv.wrote (hI : DInv c0 disk0 d n) (hph : d.phase = .running) {y' : Sys} {s2 : St} {ph : Phase}
    (hne : ph ≠ .stopped) (hc : y'.s.cstep = d.y.s.cstep + 1) (h2 : s2.cstep = d.y.s.cstep + 1) :
    DInv c0 disk0 { d with y := y', disk := some (persist s2), writes := d.writes + 1, phase := ph } (n + 1) := by
  obtain ⟨hmid, hmem, hst, hwr⟩ := hI.running hph
  refine ⟨?_, ?_, ?_, ?_, ?_, ?_, fun h => absurd h hne⟩
  · show y'.s.cstep = c0 + (n + 1) + (if d.midStep then 1 else 0); rw [hmid, hc, hmem]; rfl
  · show s2.cstep = c0 + (n + 1); rw [h2, hmem]; rfl
  · intro h; rw [hmid] at h; cases h
  · show d.stops = if ph = .stopped then 1 else 0; rw [if_neg hne, hst]
  · show d.writes + 1 = n + 1 + if ph = .stopped then 1 else 0; rw [if_neg hne, hwr]
  · intro h; cases h

/-- `loop()` has counted a move and `scheduler()` dies before completing it (`unitFails`,
    `killedWaiting`) -/
theorem DInv.died (hI : DInv c0 disk0 d n) (hph : d.phase = .running) {y' : Sys}
    (hc : y'.s.cstep = d.y.s.cstep + 1) :
    DInv c0 disk0 { d with y := y', phase := .dead, midStep := true } n := by
  obtain ⟨hmid, hmem, hst, hwr⟩ := hI.running hph
  exact ⟨by show y'.s.cstep = c0 + n + 1; rw [hc, hmem], hI.file, fun _ => rfl, hst, hwr, hI.nowrite,
    fun h => by cases h⟩

/-- the regular end: `loop()` writes the file, `runner.stop()` (`finish`) -/
theorem DInv.finished (hI : DInv c0 disk0 d n) (hph : d.phase = .running) {s1 : St} (hc : s1.cstep = d.y.s.cstep) :
    DInv c0 disk0 { d with y := { d.y with s := s1 }, disk := some (persist s1), writes := d.writes + 1,
                           stops := d.stops + 1, phase := .stopped } n := by
  obtain ⟨hmid, hmem, hst, hwr⟩ := hI.running hph
  refine ⟨?_, hc.trans hmem, fun h => ?_, ?_, ?_, fun h => (by cases h), fun _ h => (by cases h)⟩
  · show s1.cstep = c0 + n + (if d.midStep then 1 else 0); rw [hmid, hc, hmem]; rfl
  · rw [hmid] at h; cases h
  · show d.stops + 1 = 1; rw [hst]
  · show d.writes + 1 = n + 1; rw [hwr]

theorem dinv_step {d' : DSys} {e : DEv} (hI : DInv c0 disk0 d n) (h : dstep d e = .ok d') :
    DInv c0 disk0 d' (n + nDone [e]) := by
  obtain ⟨hph, h'⟩ := dstep_ok h
  cases e with
  | start o k => obtain ⟨y', hy, rfl⟩ := h'; exact hI.silent (start_effect hy).1
  | initDone => obtain ⟨y', hy, rfl⟩ := h'; exact hI.silent (initDone_effect hy).1
  | step k st w o =>
    obtain ⟨s2, job, y', htp, hy, rfl⟩ := h'
    exact hI.wrote hph (by rw [hph]; decide) (step_effect hy).2.1 (congrArg Ctr.cstep (treatPart_completes htp).ctr.2)
  | stepKilled k st w =>
    obtain ⟨s2, job, htp, rfl⟩ := h'
    exact hI.wrote hph (by decide) (congrArg Ctr.cstep (treatPart_completes htp).ctr.2) (congrArg Ctr.cstep (treatPart_completes htp).ctr.2)
  | unitFails k => obtain ⟨hgo, _, rfl⟩ := h'; exact hI.died hph (by rw [(loop_go hgo).2])
  | killedWaiting => obtain ⟨hgo, rfl⟩ := h'; exact hI.died hph (by rw [(loop_go hgo).2])
  | finish => obtain ⟨hgo, rfl⟩ := h'; exact hI.finished hph (by rw [(loop_stop hgo).2])

theorem nDone_cons (e : DEv) (t : List DEv) : nDone (e :: t) = nDone [e] + nDone t := by
  cases e <;> simp [nDone] <;> omega

theorem dinv_run : ∀ (evs : List DEv) {d d' : DSys} {n : Nat},
    DInv c0 disk0 d n → drun d evs = .ok d' → DInv c0 disk0 d' (n + nDone evs)
  | [], d, d', n, hI, h => by cases h; exact hI
  | e :: t, d, d', n, hI, h => by
    obtain ⟨d1, h1, h⟩ := drun_cons_ok h
    rw [nDone_cons, ← Nat.add_assoc]
    exact dinv_run t (dinv_step hI h1) h

end

theorem dinv_begin (s : St) (disk0 : Option Image) (h0 : ∀ im, disk0 = some im → im.cstep = s.cstep) :
    DInv s.cstep disk0 (begin s disk0) 0 := by
  refine ⟨rfl, ?_, fun h => (by cases h), rfl, rfl, fun _ => rfl, fun h => (by cases h)⟩
  simp only [begin]
  cases disk0 with
  | none => trivial
  | some im => exact h0 im rfl

/-- **The step counter in the restart file equals the number of completed moves — at every point of
    every life, however it ends.**  A life begins at step counter `cstep₀` with `disk0` on disk (no
    file, or the file the state was loaded from).  After ANY history of the scheduler-with-files
    system (any outcomes, any completion order; cut short by a failing unit, a kill while waiting,
    a kill after a move, or finished): the file on disk — if there is one — has
    `cstep = cstep₀ + completed moves`, and there is none only if no move was completed and none was
    there; `write_toml` ran once per completed move (plus once at the regular end); the counter in
    MEMORY is one ahead exactly when `loop()` had counted a move that was never completed. -/
theorem disk_counts_completed_moves (s : St) (disk0 : Option Image) (evs : List DEv) (d : DSys)
    (h0 : ∀ im, disk0 = some im → im.cstep = s.cstep) (hr : drun (begin s disk0) evs = .ok d) :
    (∀ im, d.disk = some im → im.cstep = s.cstep + nDone evs) ∧
    (d.disk = none → nDone evs = 0 ∧ disk0 = none) ∧
    d.writes = nDone evs + (if d.phase = .stopped then 1 else 0) ∧
    d.y.s.cstep = s.cstep + nDone evs + (if d.midStep then 1 else 0) ∧
    (d.midStep = true → d.phase = .dead) := by
  have hI := dinv_run evs (dinv_begin s disk0 h0) hr
  rw [Nat.zero_add] at hI
  have hfile := hI.file
  refine ⟨?_, ?_, hI.writes, hI.mem, hI.mid⟩
  · intro im hd
    rw [hd] at hfile
    exact hfile
  · intro hd
    rw [hd] at hfile
    have hn : nDone evs = 0 := hfile
    -- no file and no completed move: the life has not stopped either, so nothing was written
    have hns : d.phase ≠ .stopped := fun hs => hI.stopfile hs hd
    have hw := hI.writes
    rw [hn, if_neg hns] at hw
    exact ⟨hn, ((hI.nowrite hw).symm.trans hd)⟩

/-- **A unit's exception ends the run — it is neither swallowed nor survived.**  When
    `future.result()` re-raises a unit's exception, `scheduler()` is dead: the step counter in
    memory has counted the move (`+1`) but the file on disk is untouched (it still says the number
    of completed moves), nothing was written, `runner.stop()` was NOT called, and no event of the
    system can follow (no further move is run, recorded or counted). -/
theorem unit_exception_aborts {d d' : DSys} {k : Nat} (h : dstep d (.unitFails k) = .ok d') :
    d'.phase = .dead ∧ d'.midStep = true ∧ d'.disk = d.disk ∧ d'.writes = d.writes ∧ d'.stops = d.stops ∧
    d'.y.s.cstep = d.y.s.cstep + 1 ∧ d'.y.jobs.length + 1 = d.y.jobs.length ∧
    (∀ e, dstep d' e = .error .value) ∧ (∀ evs d'', drun d' evs = .ok d'' → evs = [] ∧ d'' = d') := by
  obtain ⟨_, hgo, hk, hd'⟩ := dstep_ok h
  have hdead : ∀ e, dstep d' e = .error .value := fun e => by
    unfold dstep; exact if_pos (by rw [hd']; intro hh; cases hh)
  subst hd'
  refine ⟨rfl, rfl, rfl, rfl, rfl, by rw [(loop_go hgo).2], ?_, hdead, ?_⟩
  · show (d.y.jobs.eraseIdx k).length + 1 = _
    rw [List.length_eraseIdx, if_pos hk]; omega
  · intro evs d'' hr
    cases evs with
    | nil => cases hr; exact ⟨rfl, rfl⟩
    | cons e t => simp only [drun, hdead e] at hr; cases hr

theorem drun_proj : ∀ (evs : List DEv) {d d' : DSys}, (∀ e ∈ evs, (toEv e).isSome = true) →
    drun d evs = .ok d' → run d.y (evs.filterMap toEv) = .ok d'.y ∧ nSteps (evs.filterMap toEv) = nDone evs := by
  intro evs
  induction evs with
  | nil => intro d d' _ h; cases h; exact ⟨rfl, rfl⟩
  | cons e t ih =>
    intro d d' hp h
    obtain ⟨d1, h1, h⟩ := drun_cons_ok h
    obtain ⟨ev, hev⟩ := Option.isSome_iff_exists.1 (hp e List.mem_cons_self)
    obtain ⟨r1, r2⟩ := ih (fun e he => hp e (List.mem_cons_of_mem _ he)) h
    simp only [List.filterMap_cons, hev, run, dstep_proj h1 hev]
    refine ⟨r1, ?_⟩
    cases e <;> cases hev <;> simp only [nSteps, nDone, r2]

/-- **A finished run: the FILE says `steps`, and `runner.stop()` ran once.**  A life from a fresh
    state with `cstep₀ ≤ steps` whose history is a scheduler history (no early end) followed by the
    regular end: exactly `steps − cstep₀` moves were completed, no job is in flight, the restart
    file on disk has `cstep = steps`, it was written once per move plus once at the end, and
    `runner.stop()` was called exactly once. -/
theorem finished_file (s : St) (disk0 : Option Image) (evs : List DEv) (d : DSys)
    (h0 : ∀ im, disk0 = some im → im.cstep = s.cstep) (hf : s.toinitiate = (s.workers : Int))
    (hp : ∀ e ∈ evs, (toEv e).isSome = true) (hsh : Shaped (evs.filterMap toEv))
    (hc0 : s.cstep ≤ s.tsteps) (hr : drun (begin s disk0) (evs ++ [.finish]) = .ok d) :
    nDone evs = s.tsteps - s.cstep ∧ d.y.jobs = [] ∧ d.y.s.cstep = s.tsteps ∧
    (∃ im, d.disk = some im ∧ im.cstep = s.tsteps) ∧ d.writes = nDone evs + 1 ∧
    d.stops = 1 ∧ d.phase = .stopped := by
  obtain ⟨d1, hr1, hfin⟩ := drun_append_ok hr
  obtain ⟨d2, h2, hfin⟩ := drun_cons_ok hfin
  cases hfin
  obtain ⟨p1, p2⟩ := drun_proj evs hp hr1
  obtain ⟨hph, hgo, rfl⟩ := dstep_ok h2
  obtain ⟨_, _, hst, hwr⟩ := (dinv_run evs (dinv_begin s disk0 h0) hr1).running hph
  obtain ⟨f1, f2, f3⟩ := finished_run (y0 := (begin s disk0).y) ⟨rfl, hf⟩ hsh p1 hc0 hgo
  rw [p2] at f1
  rw [Nat.zero_add] at hwr
  have hc : (loop d1.y.s).1.cstep = s.tsteps := by rw [(loop_stop hgo).2]; exact f2
  exact ⟨f1, f3, hc, ⟨_, rfl, hc⟩, congrArg (· + 1) hwr, congrArg (· + 1) hst, rfl⟩

-- non-vacuity (ensembles [0-] [0+], one worker, 3 steps, fresh directory; `Lemmas/SchedDiskEx.lean`):
-- a unit fails after one completed move — memory says 2, the file says 1, stop() was not called
example : ∃ d d', drun (begin SchedDiskEx.exFresh none) (SchedDiskEx.evsFail.take 3) = .ok d ∧
    dstep d (.unitFails 0) = .ok d' ∧ d.phase = .running ∧ d.y.jobs.length = 1 ∧
    d'.y.s.cstep = 2 ∧ d'.disk.map (·.cstep) = some 1 ∧ d'.stops = 0 := by
  obtain ⟨d, h1, _, hj, _, _, _, hp, _⟩ := SchedDiskEx.okWith_ok SchedDiskEx.exBeforeFail
  obtain ⟨d', h2, c1, _, c3, _, c5, _, _⟩ := SchedDiskEx.okWith_ok SchedDiskEx.exFail
  have : SchedDiskEx.evsFail = SchedDiskEx.evsFail.take 3 ++ [.unitFails 0] := rfl
  rw [this] at h2
  obtain ⟨d1, e1, e2⟩ := drun_append_ok h2
  rw [h1] at e1
  have e1' : d1 = d := by injection e1 with e; exact e.symm
  subst e1'
  obtain ⟨dd, h3, e2⟩ := drun_cons_ok e2
  cases e2
  exact ⟨d1, d', h1, h3, hp, hj, c1, c3, c5⟩

-- the hypotheses of `finished_file` (and of `disk_counts_completed_moves`) hold on a whole run of three moves
example : (∀ im, (none : Option Image) = some im → im.cstep = SchedDiskEx.exFresh.cstep) ∧
    SchedDiskEx.exFresh.toinitiate = (SchedDiskEx.exFresh.workers : Int) ∧
    (∀ e ∈ SchedDiskEx.evsRun, (toEv e).isSome = true) ∧ Shaped (SchedDiskEx.evsRun.filterMap toEv) ∧
    SchedDiskEx.exFresh.cstep ≤ SchedDiskEx.exFresh.tsteps ∧
    (∃ d, drun (begin SchedDiskEx.exFresh none) (SchedDiskEx.evsRun ++ [.finish]) = .ok d) := by
  obtain ⟨c1, c2, c3, c4⟩ := SchedDiskEx.exFresh_counters
  obtain ⟨d, h, _⟩ := SchedDiskEx.okWith_ok SchedDiskEx.exFinished
  refine ⟨fun im him => (by cases him), (by rw [c4, c3]; rfl), ?_, ?_, by omega, d, h⟩
  · intro e he
    simp [SchedDiskEx.evsRun] at he
    rcases he with rfl | rfl | rfl | rfl <;> rfl
  · exact ⟨[Ev.start { t := 1, e := 1 } 0],
      [Ev.step 0 .acc [[1, 0]] { t := 0, e := 0 }, Ev.step 0 .rej [] { t := 1, e := 1 }, Ev.step 0 .rej [] { t := 1, e := 1 }],
      rfl, by simp [isStart], by simp [isStep]⟩

end SchedDisk

end Infretis.C17
