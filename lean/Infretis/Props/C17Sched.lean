import Infretis.Model.SchedCtr
/-!
# C17 (scheduler half, restart arithmetic) — "restarting with a larger step count continues from there"

Model: `Infretis/Model/SchedCtr.lean` (`setupRule` mirrors the restart stop rule of `setup_config`;
`life` / `chain` compose it with what a finished `scheduler()` run does to the step counter, which
is theorem `Infretis.C17.life_counters` about the replica-exchange model).  All statements are for
every step counter, every `restarted_from`, every list of step counts.
-/
namespace Infretis.C17Sched
open Infretis.SchedCtr

/-- **The stop rule.**  `setup_config` refuses a restart exactly when the previous restart made no
    step (`restarted_from = cstep`) and no step is left (`steps ≤ cstep`). -/
theorem setup_refuses_iff (c : Nat) (rf : Option Nat) (t : Nat) :
    setupRule c rf t = .refuse ↔ (rf = some c ∧ t ≤ c) := by
  unfold setupRule
  split
  · rename_i h; simp [h.1, h.2]
  · rename_i h; simp only [reduceCtorEq, false_iff]; intro hh; exact h ⟨hh.1, hh.2⟩

example : setupRule 5 (some 5) 5 = .refuse ∧ setupRule 5 (some 3) 5 = .go 5 ∧ setupRule 5 none 2 = .go 5 := by decide +kernel

/-- **A larger step count always continues** — whatever `restarted_from` says (in particular after a
    no-op restart of a finished run), and `restarted_from` becomes the file's step counter. -/
theorem larger_steps_continue (c : Nat) (rf : Option Nat) (t : Nat) (h : c < t) : setupRule c rf t = .go c :=
  if_neg fun hh => absurd hh.2 (Nat.not_le.2 h)

example : setupRule 5 (some 5) 6 = .go 5 := by decide +kernel

theorem life_of_go {d : Disk} {t : Nat} (h : setupRule d.cstep d.rfrom t = .go d.cstep) :
    life d t = some ({ cstep := max d.cstep t, rfrom := some d.cstep }, max d.cstep t - d.cstep) := by
  unfold life; rw [h]

theorem life_cases (d : Disk) (t : Nat) :
    (setupRule d.cstep d.rfrom t = .refuse ∧ life d t = none) ∨
    life d t = some ({ cstep := max d.cstep t, rfrom := some d.cstep }, max d.cstep t - d.cstep) := by
  by_cases h : d.rfrom = some d.cstep ∧ d.cstep ≥ t
  · have hr : setupRule d.cstep d.rfrom t = .refuse := if_pos h
    exact Or.inl ⟨hr, by unfold life; rw [hr]⟩
  · exact Or.inr (life_of_go (if_neg h))

/-- **One life.**  A life that is not refused ends with the step counter at `max cstep steps`,
    completes exactly that many moves more, and leaves `restarted_from = ` the counter it started
    from; with `steps ≥ cstep` that is `steps` and `steps − cstep` moves — never more, never fewer. -/
theorem life_moves (d d' : Disk) (t m : Nat) (h : life d t = some (d', m)) :
    d'.cstep = max d.cstep t ∧ d.cstep + m = d'.cstep ∧ d'.rfrom = some d.cstep ∧
    (d.cstep ≤ t → d'.cstep = t ∧ m = t - d.cstep) := by
  rcases life_cases d t with ⟨_, hn⟩ | hs
  · rw [hn] at h; cases h
  · rw [hs] at h; cases h
    refine ⟨rfl, Nat.add_sub_of_le (Nat.le_max_left ..), rfl, fun hc => ?_⟩
    dsimp only
    rw [Nat.max_eq_right hc]
    exact ⟨rfl, rfl⟩

example : life { cstep := 3, rfrom := none } 10 = some ({ cstep := 10, rfrom := some 3 }, 7) := by decide +kernel

/-- **A no-op restart runs once, then is refused.**  Restarting a run that has no step left is
    accepted the first time (zero moves, `restarted_from` recorded) and refused from then on —
    until the step count is raised (`larger_steps_continue`). -/
theorem noop_restart_refused_second_time (d d' : Disk) (t m : Nat) (h : life d t = some (d', m))
    (ht : t ≤ d.cstep) : m = 0 ∧ d'.cstep = d.cstep ∧ life d' t = none ∧ ∀ t', d.cstep < t' → (life d' t').isSome := by
  obtain ⟨h1, h2, h3, _⟩ := life_moves d d' t m h
  have hc : d'.cstep = d.cstep := h1.trans (Nat.max_eq_left ht)
  refine ⟨by omega, hc, ?_, fun t' ht' => ?_⟩
  · have : setupRule d'.cstep d'.rfrom t = .refuse := (setup_refuses_iff _ _ _).2 ⟨by rw [h3, hc], hc ▸ ht⟩
    unfold life; rw [this]
  · rw [life_of_go (larger_steps_continue _ _ t' (hc ▸ ht'))]; rfl

example : life { cstep := 4, rfrom := some 2 } 4 = some ({ cstep := 4, rfrom := some 4 }, 0)
    ∧ life { cstep := 4, rfrom := some 4 } 4 = none := by decide +kernel

theorem foldl_max_ge (ts : List Nat) (a : Nat) : a ≤ ts.foldl max a := by
  induction ts generalizing a with
  | nil => simp
  | cons t ts ih => simp only [List.foldl_cons]; exact Nat.le_trans (Nat.le_max_left a t) (ih _)

/-- **Chains of lives** (finish, restart with more steps, restart again, …, any step counts, no-op
    and refused restarts included): the step counter in the restart file ends at the largest step
    count asked for so far (or where it started, if that was larger), and it always equals the start
    value plus the total number of moves completed over all lives. -/
theorem chain_total (ts : List Nat) (d : Disk) :
    (chain d ts).1.cstep = ts.foldl max d.cstep ∧ d.cstep + (chain d ts).2.1 = (chain d ts).1.cstep := by
  induction ts generalizing d with
  | nil => simp [chain]
  | cons t ts ih =>
    simp only [chain, List.foldl_cons]
    rcases life_cases d t with ⟨href, hl⟩ | hl
    · -- a refused life: no step was left, the maximum does not move
      rw [hl, Nat.max_eq_left ((setup_refuses_iff _ _ _).1 href).2]
      exact ih d
    · rw [hl]
      have := ih { cstep := max d.cstep t, rfrom := some d.cstep }
      have hle : d.cstep ≤ max d.cstep t := Nat.le_max_left ..
      exact ⟨this.1, by dsimp only at this ⊢; omega⟩

example : chain { cstep := 0, rfrom := none } [4, 4, 4, 7] = ({ cstep := 7, rfrom := some 4 }, 7, [true, true, false, true]) := by
  decide +kernel

/-- **Finish, then restart with a larger step count**: the second life is not refused, continues
    from where the first ended and completes exactly the difference — also when that is fewer than
    the number of workers (the short restart; no job is then left in flight: `C17.life_counters`). -/
theorem finish_then_larger (d d1 : Disk) (t t' m : Nat) (h : life d t = some (d1, m)) (h1 : d.cstep ≤ t)
    (h2 : t < t') :
    m = t - d.cstep ∧ d1.cstep = t ∧
    ∃ d2, life d1 t' = some (d2, t' - t) ∧ d2.cstep = t' ∧ d2.rfrom = some t := by
  obtain ⟨hc, hm⟩ := (life_moves d d1 t m h).2.2.2 h1
  refine ⟨hm, hc, { cstep := t', rfrom := some t }, ?_, rfl, rfl⟩
  rw [life_of_go (larger_steps_continue d1.cstep d1.rfrom t' (hc ▸ h2)), hc, Nat.max_eq_right (Nat.le_of_lt h2)]

example : life { cstep := 0, rfrom := none } 5 = some ({ cstep := 5, rfrom := some 0 }, 5)
    ∧ life { cstep := 5, rfrom := some 0 } 6 = some ({ cstep := 6, rfrom := some 5 }, 1) := by decide +kernel

/-- **The stop rule does not depend on the number of workers.**  `setup_config` reads
    `runner.workers` nowhere in the rule: whatever the worker count, the decision is the one for the
    same `(cstep, restarted_from, steps)`. -/
theorem setup_rule_ignores_workers (c : RestartCfg) (w : Nat) :
    setupRuleCfg { c with workers := w } = setupRuleCfg c ∧ setupRuleCfg c = setupRule c.cstep c.rfrom c.steps :=
  ⟨rfl, rfl⟩

example : setupRuleCfg { cstep := 5, rfrom := some 5, steps := 6, workers := 3 } = .go 5
    ∧ setupRuleCfg { cstep := 5, rfrom := some 5, steps := 6, workers := 1 } = .go 5 := by decide +kernel

/-- **Raising the step count by fewer than `workers` after a no-op restart still continues.**
    For every worker count `w`, every raise `d ≥ 1` (in particular `d < w`), and whatever
    `restarted_from` says (a finished run started again unchanged leaves `restarted_from = cstep`):
    the restart is not refused, and the life completes exactly `d` moves and ends at `cstep + d`. -/
theorem short_raise_after_noop_continues (c d w : Nat) (rf : Option Nat) (hd : 1 ≤ d) :
    setupRuleCfg { cstep := c, rfrom := rf, steps := c + d, workers := w } = .go c ∧
    life { cstep := c, rfrom := rf } (c + d) = some ({ cstep := c + d, rfrom := some c }, d) := by
  have h := larger_steps_continue c rf (c + d) (by omega)
  refine ⟨h, (life_of_go h).trans ?_⟩
  dsimp only
  rw [Nat.max_eq_right (Nat.le_add_right c d), Nat.add_sub_cancel_left]

example : life { cstep := 4, rfrom := some 4 } 5 = some ({ cstep := 5, rfrom := some 4 }, 1) := by decide +kernel

end Infretis.C17Sched
