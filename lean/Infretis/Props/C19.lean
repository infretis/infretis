import Infretis.Lemmas.Template
import Infretis.Lemmas.TemplateSubst
import Infretis.Lemmas.TemplateNow
import Infretis.Lemmas.TemplateReSub
import Infretis.Lemmas.TemplateRepaired
import Infretis.Lemmas.TemplateCp2kRepaired
import Infretis.Lemmas.TemplateCp2k
import Infretis.Lemmas.TemplateCp2kMany
import Infretis.Lemmas.TemplateCp2kRoundTrip
import Infretis.Lemmas.CodecFixed
import Infretis.Lemmas.CodecUni
import Infretis.Lemmas.CodecLmp
import Infretis.Lemmas.CodecBox
import Infretis.Lemmas.CodecBoxData
import Infretis.Lemmas.StrLit
/-!
# C19 — configuration, trajectory and input-template codecs are lossless

Models:
* `Infretis/Model/Template.lean` — `_modify_input`, `_read_input_settings`, `write_for_run` (the code after the
  repairs eaf64e1 / f746fff / 48a6c1e; the `…AsIs` and `…Sub` definitions are the code before them, kept as record)
* `Infretis/Model/TemplateCp2k.lean` — the CP2K section-tree editor (`update_cp2k_input` and friends)
* `Infretis/Model/Codec.lean` — decimal fixed point, `.g96` and extended-xyz readers/writers (ASCII white space)
* `Infretis/Model/CodecUni.lean` — the same readers with Python's complete white-space set (`str.isspace`, 29 code
  points); the reader theorems of section 4 are about these (its wide-box and zero-atom counterexamples use the ASCII
  readers)
* `Infretis/Model/CodecLmp.lean` — `.lammpstrj` (numbers as opaque numpy tokens) and the TRR byte layout
* `Infretis/Model/CodecBox.lean`, `CodecBoxData.lean` — `box_matrix_to_list` and the CP2K cell reader
* `Infretis/Model/TemplateRepaired.lean`, `TemplateCp2kRepaired.lean` — the two editors with an open finding repaired

All statements are for templates, settings and configurations of any size.
-/
namespace Infretis.C19

section Tmpl
open Infretis.Template

/-! ## 1. the mdp-style editor `_modify_input`

`modifyInput s t` is the content of the output file for template content `t` and settings `s`,
for the code as it is now (after the repair eaf64e1: a newline is written before the first
appended setting when the last piece written lacks one).  `modifyInputAsIs` is the code before
the repair, kept as the record of finding C19:mdp:append-after-missing-final-newline
(`mdp_asIs_…_counterexample`). -/

/-- **edit_exact (mdp), full strength.**  For every template (with or without final newline,
    also empty) the lines of the output are: the template's lines each passed through `editOut`;
    and, if some setting's key is no keyword of the template, the last of these lines completed
    with its newline, followed by one `key = value` line per such setting, in dict order.
    Remaining guards: no newline inside a key or a value (otherwise an edited or appended piece
    is not one line and the statement about lines is false). -/
theorem mdp_edit_exact (s : Settings) (t : Str)
    (hk : ∀ kv ∈ s, '\n' ∉ kv.1) (hv : ∀ kv ∈ s, '\n' ∉ kv.2) :
    linesKeep (modifyInput s t) =
      match appended s (writtenKeys (linesKeep t)) with
      | [] => (linesKeep t).map (editOut s)
      | a :: r => closeLast ((linesKeep t).map (editOut s)) ++ a :: r := by
  rw [modifyInput_lines s t hk hv]; rfl

/-- `closeLast` touches only the last line and only by completing its newline -/
theorem mdp_closeLast_spec (l : Str) (ls : List Str) :
    closeLast (ls ++ [l]) = ls ++ [if l.getLast? = some '\n' then l else l ++ ['\n']] := by
  induction ls with
  | nil => simp [closeLast, closeNL]
  | cons a r ih =>
    cases r with
    | nil => simp [closeLast, closeNL]
    | cons b r' =>
      simp only [List.cons_append] at ih ⊢
      simp only [closeLast]
      rw [ih]

/-- keys that were not requested keep their lines (also lines without '=': comments, blanks) -/
theorem mdp_unrequested_kept (s : Settings) (l : Str)
    (h : ∀ kw, matchKey l = some kw → strip kw ∉ keys s) : editOut s l = l := by
  unfold editOut editLine
  cases hm : matchKey l with
  | none => rfl
  | some kw =>
    have := lookup_none_iff.2 (h kw hm)
    simp [this]

/-- requested keys get the value: the text before '=' is kept verbatim, the rest of the line
    (old value, trailing comment) is replaced by ` value\n` -/
theorem mdp_requested_set (s : Settings) (l kw v : Str)
    (hm : matchKey l = some kw) (hv : lookup s (strip kw) = some v) :
    editOut s l = kw ++ ['='] ++ [' '] ++ v ++ ['\n'] := by
  rw [editOut_requested s l kw v hm hv]; simp [setLine]

/-- exactly the settings whose key is not met in the file are appended, as `key = value\n` -/
theorem mdp_appended_exact (s : Settings) (w : List Str) (l : Str) :
    l ∈ appended s w ↔ ∃ k v, (k, v) ∈ s ∧ k ∉ w ∧ l = k ++ [' ', '=', ' '] ++ v ++ ['\n'] := by
  constructor
  · intro h
    obtain ⟨k, v, a, b, c⟩ := appended_mem h
    exact ⟨k, v, a, b, by simp [c, newLine]⟩
  · rintro ⟨k, v, a, b, rfl⟩
    simp only [appended, List.mem_filterMap]
    exact ⟨(k, v), a, by simp [b, newLine]⟩

example :
    modifyInput [("b".toList, "3".toList), ("d".toList, "q".toList)] "a = 1\n; c\nb=2 ; x".toList
      = "a = 1\n; c\nb= 3\nd = q\n".toList ∧
    modifyInput [("c".toList, "3".toList), ("d".toList, "4".toList)] "a = 1\nb = 2".toList
      = "a = 1\nb = 2\nc = 3\nd = 4\n".toList ∧
    modifyInput [("c".toList, "3".toList)] [] = "c = 3\n".toList := by
  str_lits; decide +kernel

/-- **edit_idempotent (mdp), full strength in the template**: for EVERY template, applying the
    same settings to the output changes nothing.  Remaining guards (`WFSettings`): the settings
    are a dict (distinct keys); keys could be keywords of a line — no '=', no newline, no outer
    white space (a key violating this is never found again and is appended on every pass);
    values contain no newline. -/
theorem mdp_edit_idempotent (s : Settings) (t : Str) (hs : WFSettings s) :
    modifyInput s (modifyInput s t) = modifyInput s t := by
  rw [modifyInput_eq s _ hs.val_nonl, modifyInput_lines s t hs.key_nonl hs.val_nonl,
      outLines_idem hs _ (linesKeep_lines t), modifyInput_eq s t hs.val_nonl]

theorem exC3_wf : WFSettings [("c".toList, "3".toList)] := by
  str_lits
  exact ⟨by decide +kernel, by decide +kernel, by decide +kernel, by decide +kernel, by decide +kernel⟩

example : WFSettings [("c".toList, "3".toList)] ∧
    modifyInput [("c".toList, "3".toList)] (modifyInput [("c".toList, "3".toList)] "a = 1\nb = 2".toList)
      = "a = 1\nb = 2\nc = 3\n".toList :=
  ⟨exC3_wf, by str_lits; decide +kernel⟩

/-- the guards on keys are needed: a key with a trailing blank is appended again on every pass -/
theorem mdp_edit_idempotent_key_guard_counterexample :
    ∃ (s : Settings) (t : Str), modifyInput s (modifyInput s t) ≠ modifyInput s t :=
  ⟨[("c ".toList, "3".toList)], "a = 1\n".toList, by str_lits; decide +kernel⟩

/-- RECORD (code before eaf64e1): without the final newline the untouched line `b = 2` was
    glued to the appended setting (`b = 2c = 3`) -/
theorem mdp_asIs_edit_exact_counterexample :
    ∃ (s : Settings) (t : Str), (∀ kv ∈ s, '\n' ∉ kv.1) ∧ (∀ kv ∈ s, '\n' ∉ kv.2) ∧
      linesKeep (modifyInputAsIs s t)
        ≠ (linesKeep t).map (editOut s) ++ appended s (writtenKeys (linesKeep t)) ∧
      modifyInputAsIs s t = "a = 1\nb = 2c = 3\n".toList :=
  ⟨[("c".toList, "3".toList)], "a = 1\nb = 2".toList, by str_lits; decide +kernel⟩

/-- RECORD (code before eaf64e1): …and a second application appended the setting once more -/
theorem mdp_asIs_edit_idempotent_counterexample :
    ∃ (s : Settings) (t : Str), WFSettings s ∧
      modifyInputAsIs s (modifyInputAsIs s t) ≠ modifyInputAsIs s t := by
  exact ⟨[("c".toList, "3".toList)], "a = 1\nb = 2".toList, exC3_wf, by str_lits; decide +kernel⟩

/-- OPEN finding C19:mdp:dash-underscore-key (known_findings.json; `modifyInput` is the code as it is): the editor compares parameter names
    literally.  GROMACS reads `-` and `_` in a parameter name alike (and the engine itself requests `gen_vel` next to
    `ref-t`): on a template that spells the parameter `gen-vel` the requested `gen_vel` is not edited but appended — the
    output defines the parameter twice and the template's entry keeps its old value.  (The edit is idempotent.) -/
theorem mdp_dash_underscore_counterexample :
    modifyInput [("gen_vel".toList, "no".toList)] "gen-vel = yes\nnsteps = 5\n".toList
      = "gen-vel = yes\nnsteps = 5\ngen_vel = no\n".toList ∧
    readSettings "gen-vel = yes\nnsteps = 5\ngen_vel = no\n".toList
      = [("gen-vel".toList, "yes".toList), ("nsteps".toList, "5".toList), ("gen_vel".toList, "no".toList)] ∧
    modifyInput [("gen_vel".toList, "no".toList)] "gen-vel = yes\nnsteps = 5\ngen_vel = no\n".toList
      = "gen-vel = yes\nnsteps = 5\ngen_vel = no\n".toList := by
  str_lits; decide +kernel

/-- **edit_exact (mdp), the REPAIRED variant** (`modifyInputR`, `Model/TemplateRepaired.lean`: names compared up to
    `-`/`_`, the template's own text before '=' kept) — the full statement that `mdp_dash_underscore_counterexample`
    refutes for the code as it is.  For every template and all settings without newlines: the output's lines are the
    template's lines through `editOutR`, followed (last line completed) by exactly the settings whose NORMALISED name is
    no keyword of the template, in dict order; and a requested parameter that the template has under EITHER spelling is
    among the written names (so it is not appended) and its line becomes `keyword= value` with the requested value. -/
theorem mdp_edit_exact_normalised_repaired (s : Settings) (t : Str)
    (hk : ∀ kv ∈ s, '\n' ∉ kv.1) (hv : ∀ kv ∈ s, '\n' ∉ kv.2) :
    (linesKeep (modifyInputR s t) =
      match appendedR s (writtenKeysR (linesKeep t)) with
      | [] => (linesKeep t).map (editOutR s)
      | a :: r => closeLast ((linesKeep t).map (editOutR s)) ++ a :: r) ∧
    appendedR s (writtenKeysR (linesKeep t)) =
      (s.filter (fun kv => decide (normKey kv.1 ∉ writtenKeysR (linesKeep t)))).map (fun kv => newLine kv.1 kv.2) ∧
    (∀ l ∈ linesKeep t, ∀ kw, matchKey l = some kw → ∀ kv ∈ s, normKey kv.1 = normKey (strip kw) →
      normKey kv.1 ∈ writtenKeysR (linesKeep t) ∧ ∃ v, lookupN s (strip kw) = some v ∧ editOutR s l = setLine kw v) := by
  refine ⟨by rw [modifyInputR_lines s t hk hv]; rfl, appendedR_exact s _, ?_⟩
  intro l hl kw hm kv hkv hn
  refine ⟨by rw [hn]; exact writtenKeysR_of_line hl hm, ?_⟩
  have hs := lookupN_isSome_of_mem kv hkv hn
  cases hv' : lookupN s (strip kw) with
  | none => simp [hv'] at hs
  | some v => exact ⟨v, rfl, editOutR_requested s l kw v hm hv'⟩

/-- the repaired variant on the witness of the finding: the template's `gen-vel` line gets the value, nothing is appended;
    on templates that spell the names as requested the two variants coincide -/
example :
    modifyInputR [("gen_vel".toList, "no".toList), ("nsteps".toList, "7".toList)] "gen-vel = yes\nnsteps = 5\n".toList
      = "gen-vel = no\nnsteps = 7\n".toList ∧
    modifyInputR [("gen_vel".toList, "no".toList)] "gen_vel = yes\nref-t = 1\n".toList
      = modifyInput [("gen_vel".toList, "no".toList)] "gen_vel = yes\nref-t = 1\n".toList ∧
    modifyInputR [("c".toList, "3".toList)] "a = 1\nb = 2".toList = "a = 1\nb = 2\nc = 3\n".toList := by
  str_lits; decide +kernel

/-! ## 2. LAMMPS `write_for_run`

`writeForRun s t` = (pieces written to the output file, how the call ended), for the code as it is now
(after the repairs f746fff: `not_found.pop(var, None)`, and 48a6c1e: a variable is replaced only where it is a
whole word, `re.sub(r"(?<!\S)" + re.escape(var) + r"(?!\S)", value, line)`).  `substOfW s l` is what the inner
loop makes of the line `l`; `wordsLine s l` / `wordsText s t` is the SPECIFICATION "exactly the words that are
requested variables become their values, every other character is kept" (`Model/Template.lean`);
`occ k L` is the number of lines of `L` on which the variable `k` is a white-space separated word.
White space is Python's `str.isspace` (29 code points, ASCII and not).  The records of the code before the
two repairs are in section 2b. -/

/-- **edit_total (LAMMPS), full strength.**  Every template line is written, passed through the per-line
    function `substOfW`; the call never raises KeyError; it ends without error iff every variable is a word
    of at least one line, and with the ValueError iff some variable is a word of no line.  Only guard: the
    settings are a dict (distinct keys). -/
theorem lammps_edit_total (s : Settings) (t : Str) (hnd : (keys s).Nodup) :
    (writeForRun s t).written = (linesKeep t).map (substOfW s) ∧
    ((writeForRun s t).err = none ↔ ∀ k ∈ keys s, 1 ≤ occ k (linesKeep t)) ∧
    ((writeForRun s t).err = some .value ↔ ∃ k ∈ keys s, occ k (linesKeep t) = 0) ∧
    (writeForRun s t).err ≠ some .key := by
  rw [writeForRun, wfrLines_eq, substOfW_eq]
  exact linesWith_total reSubWord s t hnd

example : (keys [("infretis_x".toList, "5".toList)]).Nodup ∧
    writeForRun [("infretis_x".toList, "5".toList)] "variable a equal infretis_x\nrun infretis_x\n".toList
    = { written := ["variable a equal 5\n".toList, "run 5\n".toList], err := none } := by str_lits; decide +kernel

/-- **the per-line function, word by word — no hypothesis at all.**  The line is its leading white space
    followed by (word, white space) pairs (`decomp`); the output keeps every white-space character and replaces
    each word by what the chain of whole-word replacements of the line's variables (`onLine s l`, dict order)
    makes of that word alone.  In particular nothing outside a word changes and words do not interact. -/
theorem lammps_edit_tokenwise (s : Settings) (l : Str) :
    substOfW s l = (decomp l).1 ++ body ((decomp l).2.map (fun tw => (chain (onLine s l) tw.1, tw.2))) :=
  substOfW_tokenwise s l

/-- …and on a single word the replacement is: the value if the word IS the variable, else the word
    (a word that merely contains the variable is kept) -/
theorem lammps_word_replaced_iff_equal (k v t : Str) (hk : k ≠ []) (hkw : ∀ c ∈ k, isSpace c = false)
    (ht : ∀ c ∈ t, isSpace c = false) (hne : t ≠ []) :
    reSubWord k v t = if t = k then v else t :=
  reSubWord_token v hk hkw ht hne

example : reSubWord "infretis_n".toList "7".toList "infretis_name".toList = "infretis_name".toList ∧
    reSubWord "infretis_n".toList "7".toList "infretis_n".toList = "7".toList := by str_lits; decide +kernel

/-- **edit_exact (LAMMPS): the code against the word-level specification.**  Guard (besides "the settings are a
    dict"): on every line, of two variables that are both words of that line, the LATER one in dict order is no
    word of the EARLIER one's value.  Then the written lines are exactly the template lines with the words that
    are requested variables set to their values — every other character (white space, other words, longer words
    containing a variable name, values with blanks or variable names inside longer words) is kept.
    The guard cannot be dropped (`lammps_edit_words_guard_counterexample`): the substitutions of one line are
    applied one after the other to the CURRENT line, so a value inserted earlier is seen by later variables. -/
theorem lammps_edit_words (s : Settings) (t : Str) (hnd : (keys s).Nodup)
    (G : ∀ l ∈ linesKeep t, (onLine s l).Pairwise (fun a b => b.1 ∉ splitWS a.2)) :
    (writeForRun s t).written = (linesKeep t).map (wordsLine s) ∧
    (writeForRun s t).written.flatten = wordsText s t := by
  have h : (writeForRun s t).written = (linesKeep t).map (wordsLine s) := by
    rw [(lammps_edit_total s t hnd).1]
    apply List.map_congr_left
    intro l hl
    exact substOfW_eq_wordsLine s l (G l hl)
  exact ⟨h, by rw [h]; rfl⟩

/-- the guard of `lammps_edit_words` holds, in particular, when no word of any value is a variable -/
theorem lammps_edit_words_guard_of_values (s : Settings) (t : Str)
    (h : ∀ kv ∈ s, ∀ k ∈ keys s, k ∉ splitWS kv.2) :
    ∀ l ∈ linesKeep t, (onLine s l).Pairwise (fun a b => b.1 ∉ splitWS a.2) := by
  intro l _
  apply List.pairwise_of_forall_mem_list
  intro a ha b hb
  exact h a (List.mem_filter.1 ha).1 b.1 (List.mem_map.2 ⟨b, (List.mem_filter.1 hb).1, rfl⟩)

/-- non-vacuity: values with blanks, a value that contains a variable name inside a longer word, a variable
    twice on a line, a longer word containing a variable — guard true, edit = specification -/
example :
    let s : Settings := [("infretis_a".toList, "1.5".toList), ("infretis_b".toList, "/tmp/x y/infretis_a.d".toList)]
    let t : Str := "variable a index infretis_a # infretis_ab\nrun infretis_b\tinfretis_b infretis_a\n".toList
    (keys s).Nodup ∧ (∀ l ∈ linesKeep t, (onLine s l).Pairwise (fun a b => b.1 ∉ splitWS a.2)) ∧
    (writeForRun s t).written =
      ["variable a index 1.5 # infretis_ab\n".toList,
       "run /tmp/x y/infretis_a.d\t/tmp/x y/infretis_a.d 1.5\n".toList] ∧
    (writeForRun s t).written.flatten = wordsText s t := by str_lits; decide +kernel

/-- **the guard of `lammps_edit_words` is needed**: with `x ↦ y`, `y ↦ 1` the line `x y` becomes `1 1` (the `y`
    inserted for `x` is replaced in turn), word by word it is `y 1`; in the other dict order the same edit is
    exact — the order of the keys matters -/
theorem lammps_edit_words_guard_counterexample :
    ∃ (s s' : Settings) (t : Str), (keys s).Nodup ∧ (writeForRun s t).err = none ∧
      (writeForRun s t).written.flatten = "1 1\n".toList ∧ wordsText s t = "y 1\n".toList ∧
      s' = s.reverse ∧ (writeForRun s' t).written.flatten = wordsText s' t ∧ wordsText s' t = "y 1\n".toList :=
  ⟨[("x".toList, "y".toList), ("y".toList, "1".toList)], [("y".toList, "1".toList), ("x".toList, "y".toList)],
   "x y\n".toList, by str_lits; decide +kernel⟩

/-- **finding C19:lammps:substring-on-a-requested-line (repaired by 48a6c1e).**  On
    `log my_infretis_seed.log # infretis_seed` with `infretis_seed ↦ 0` the code before the repair
    (`writeForRunSub`) also rewrote the longer word (`my_0.log`), which the word-level specification forbids;
    the code as it is now equals the specification. -/
theorem lammps_edit_words_same_line_counterexample :
    ∃ (s : Settings) (t : Str), (keys s).Nodup ∧
      (writeForRunSub s t).written.flatten = "log my_0.log # 0\n".toList ∧
      (writeForRunSub s t).written.flatten ≠ wordsText s t ∧
      (writeForRun s t).written.flatten = wordsText s t ∧
      wordsText s t = "log my_infretis_seed.log # 0\n".toList ∧ (writeForRun s t).err = none :=
  ⟨[("infretis_seed".toList, "0".toList)], "log my_infretis_seed.log # infretis_seed\n".toList,
   by str_lits; decide +kernel⟩

theorem lammps_untouched (s : Settings) (l : Str) (h : ∀ k ∈ keys s, k ∉ splitWS l) :
    substOfW s l = l :=
  substLineW_untouched _ s l h

/-- a single requested variable, any line: exactly the words equal to it are replaced -/
theorem lammps_requested_set (k v l : Str) :
    substOfW [(k, v)] l = wordsLine [(k, v)] l := by
  apply substOfW_eq_wordsLine
  have hsub : (onLine [(k, v)] l).Sublist [(k, v)] := List.filter_sublist
  exact List.Pairwise.sublist hsub (List.pairwise_singleton _ _)

example : substOfW [("a".toList, "1 2".toList)] " a ab\ta".toList = " 1 2 ab\t1 2".toList := by str_lits; decide +kernel

/-- **edit_idempotent (LAMMPS), second half: what a further application does.**  On a text in
    which no variable of `s` is a word any more, `write_for_run` copies every byte unchanged
    and then takes its own error branch: ValueError naming the keys of `s` (unless `s` is empty). -/
theorem lammps_apply_without_vars (s : Settings) (t : Str) (hnd : (keys s).Nodup)
    (h0 : ∀ l ∈ linesKeep t, ∀ k ∈ keys s, k ∉ splitWS l) :
    (writeForRun s t).written.flatten = t ∧
    (writeForRun s t).err = if s = [] then none else some .value := by
  rw [writeForRun, wfrLines_eq]
  exact linesWith_without_vars reSubWord s t hnd h0

example : writeForRun [("infretis_x".toList, "5".toList)] "variable a equal 5\nrun 1\n".toList
    = { written := ["variable a equal 5\n".toList, "run 1\n".toList], err := some .value } := by str_lits; decide +kernel

/-! **edit_idempotent (LAMMPS), first half.**  The full statement

    lammps_no_var_remains : ∀ l ∈ (writeForRun s t).written, ∀ k ∈ keys s, k ∉ splitWS l

is still FALSE of the code as it is (also after 48a6c1e): a value may have a variable name among its WORDS, and
that word is replaced only if the variable is also a word of the same template line and comes later in dict order
(`lammps_no_var_remains_counterexample`).  It holds under the single guard
  G1  no value that is substituted on a line has a variable of `s` among its words
(`lammps_no_var_remains_partial`).  Compared with the substring version (section 2b) the guard is weaker twice
over: variable names INSIDE longer words of a value are harmless, and the substring version's guard G2 on the
template (no variable inside a longer template word) is not needed. -/

theorem lammps_no_var_remains_counterexample :
    ∃ (s : Settings) (t : Str), (keys s).Nodup ∧ (writeForRun s t).err = none ∧
      ∃ l ∈ (writeForRun s t).written, ∃ k ∈ keys s, k ∈ splitWS l := by
  refine ⟨[("x".toList, "y".toList), ("y".toList, "1".toList)], "x\ny\n".toList, ?_, ?_,
    "y\n".toList, ?_, "y".toList, ?_, ?_⟩
  all_goals str_lits; decide +kernel

/-- after the edit no variable of `s` is a word of any written line, provided no value substituted on a line has
    a variable among its words (G1).  No condition on the template. -/
theorem lammps_no_var_remains_partial (s : Settings) (t : Str) (hnd : (keys s).Nodup)
    (G1 : ∀ l ∈ linesKeep t, ∀ kv ∈ onLine s l, ∀ k ∈ keys s, k ∉ splitWS kv.2) :
    ∀ l ∈ (writeForRun s t).written, ∀ k ∈ keys s, k ∉ splitWS l := by
  intro l hl
  rw [(lammps_edit_total s t hnd).1] at hl
  obtain ⟨l0, hl0, rfl⟩ := List.mem_map.1 hl
  exact substOfW_no_var s l0 (G1 l0 hl0)

/-- the guard of the substring version (no value CONTAINS a variable) implies G1 -/
theorem lammps_no_var_remains_guard_of_substring_free (s : Settings) (t : Str)
    (h : ∀ kv ∈ s, ∀ k ∈ keys s, ¬ k <:+: kv.2) :
    ∀ l ∈ linesKeep t, ∀ kv ∈ onLine s l, ∀ k ∈ keys s, k ∉ splitWS kv.2 :=
  fun _ _ kv hkv k hk hm => h kv (List.mem_filter.1 hkv).1 k hk (splitWS_mem_infix hm)

/-- G1 is satisfiable together with a successful edit in which a value contains a variable name inside a longer
    word and the template contains a variable inside a longer word (both excluded by the guards of section 2b) -/
example :
    let s : Settings := [("$a".toList, "x$a.d q".toList)]
    let t : Str := "v $a my$a\n".toList
    (keys s).Nodup ∧ (∀ l ∈ linesKeep t, ∀ kv ∈ onLine s l, ∀ k ∈ keys s, k ∉ splitWS kv.2) ∧
    (writeForRun s t) = { written := ["v x$a.d q my$a\n".toList], err := none } := by str_lits; decide +kernel

/-! ## 2b. RECORD — LAMMPS `write_for_run` before 48a6c1e (substring `str.replace`)

Everything in this section is about `writeForRunSub` (the code between f746fff and 48a6c1e: the line is
selected when the variable is one of its words, then `line.replace(var, value)` rewrites every occurrence,
also inside longer words — finding C19:lammps:substring-on-a-requested-line, repaired by 48a6c1e) and
`writeForRunAsIs` (the code before f746fff, finding C19:lammps:variable-on-two-lines).  The theorems say what
those versions did, so that the tie can name a regression by its signature (driver ops `wfrS`, `wfrA`). -/

/-- RECORD (substring version): `lammps_edit_total` with `substOf` (every variable that is a token of the line is
    substring-replaced) as the per-line function -/
theorem lammps_sub_edit_total (s : Settings) (t : Str) (hnd : (keys s).Nodup) :
    (writeForRunSub s t).written = (linesKeep t).map (substOf s) ∧
    ((writeForRunSub s t).err = none ↔ ∀ k ∈ keys s, 1 ≤ occ k (linesKeep t)) ∧
    ((writeForRunSub s t).err = some .value ↔ ∃ k ∈ keys s, occ k (linesKeep t) = 0) ∧
    (writeForRunSub s t).err ≠ some .key := by
  rw [writeForRunSub, wfrLinesSub_eq, substOf_eq]
  exact linesWith_total replaceAll s t hnd

theorem lammps_sub_untouched (s : Settings) (l : Str) (h : ∀ k ∈ keys s, k ∉ splitWS l) :
    substOf s l = l := by
  rw [substOf, substLine_eq, substWith_untouched _ _ _ _ h]

/-- RECORD (substring version): a single requested variable: every occurrence (also inside longer words) on a
    line where it is a token is replaced -/
theorem lammps_sub_requested_set (k v l : Str) (h : k ∈ splitWS l) :
    substOf [(k, v)] l = replaceAll k v l := by
  simp [substOf, substLine, h]

example : (keys [("infretis_x".toList, "5".toList)]).Nodup ∧
    writeForRunSub [("infretis_x".toList, "5".toList)] "variable a equal infretis_x\nrun infretis_x\n".toList
    = { written := ["variable a equal 5\n".toList, "run 5\n".toList], err := none } := by str_lits; decide +kernel

/-- RECORD (code before f746fff): a variable that is a token of two lines made
    `not_found.pop(var)` raise KeyError on the second line, after the first lines had been
    written (signature C19:lammps:variable-on-two-lines) -/
theorem lammps_asIs_edit_total_counterexample :
    ∃ (s : Settings) (t : Str), (keys s).Nodup ∧ (∀ k ∈ keys s, occ k (linesKeep t) ≥ 1) ∧
      writeForRunAsIs s t = { written := ["variable a equal 5\n".toList], err := some .key } :=
  ⟨[("infretis_x".toList, "5".toList)], "variable a equal infretis_x\nrun infretis_x\n".toList,
   by str_lits; decide +kernel⟩

/-- RECORD: the failure modes of the code before f746fff, exactly (success iff every variable
    on exactly one line; KeyError iff some variable on two or more lines) -/
theorem lammps_asIs_outcome (s : Settings) (t : Str) (hnd : (keys s).Nodup) :
    ((writeForRunAsIs s t).err = none ↔ ∀ k ∈ keys s, occ k (linesKeep t) = 1) ∧
    ((writeForRunAsIs s t).err = some .key ↔ ∃ k ∈ keys s, occ k (linesKeep t) ≥ 2) := by
  obtain ⟨_, h1, _, h3⟩ := linesWith_total replaceAll s t hnd
  have q : ∀ k ∈ keys s, quota (keys s) k = 1 := fun k hk => if_pos hk
  unfold writeForRunAsIs
  rw [wfrLinesAsIs_err s hnd (linesKeep t) (keys s) [] hnd (fun _ h => h)]
  by_cases hE : ∃ k ∈ keys s, quota (keys s) k < occ k (linesKeep t)
  · rw [if_pos hE]
    obtain ⟨k, hk, h⟩ := hE
    rw [q k hk] at h
    constructor
    · exact Iff.intro (fun h' => nomatch h') (fun h' => by have := h' k hk; omega)
    · exact Iff.intro (fun _ => ⟨k, hk, h⟩) (fun _ => rfl)
  · rw [if_neg hE, h1]
    have hle : ∀ k ∈ keys s, occ k (linesKeep t) ≤ 1 := fun k hk =>
      Nat.le_of_not_lt (fun h => hE ⟨k, hk, by rw [q k hk]; exact h⟩)
    constructor
    · exact Iff.intro (fun h k hk => Nat.le_antisymm (hle k hk) (h k hk)) (fun h k hk => Nat.le_of_eq (h k hk).symm)
    · exact Iff.intro (fun h => absurd h h3)
        (fun ⟨k, hk, h⟩ => absurd h (Nat.not_le_of_lt (Nat.lt_succ_of_le (hle k hk))))

/-- RECORD (substring version) of `lammps_apply_without_vars` -/
theorem lammps_sub_apply_without_vars (s : Settings) (t : Str) (hnd : (keys s).Nodup)
    (h0 : ∀ l ∈ linesKeep t, ∀ k ∈ keys s, k ∉ splitWS l) :
    (writeForRunSub s t).written.flatten = t ∧
    (writeForRunSub s t).err = if s = [] then none else some .value := by
  rw [writeForRunSub, wfrLinesSub_eq]
  exact linesWith_without_vars replaceAll s t hnd h0

example : writeForRunSub [("infretis_x".toList, "5".toList)] "variable a equal 5\nrun 1\n".toList
    = { written := ["variable a equal 5\n".toList, "run 1\n".toList], err := some .value } := by str_lits; decide +kernel

/-! RECORD (substring version): **edit_idempotent, first half.**  The full statement

    lammps_sub_no_var_remains : ∀ l ∈ (writeForRunSub s t).written, ∀ k ∈ keys s, k ∉ splitWS l

was FALSE of the substring version: a value may itself contain a variable name, and the tokens of a
line are computed once, before the replacements, so such a variable is not substituted
(`lammps_sub_no_var_remains_counterexample`).  It holds under the guards
  G1  no value contains a variable of `s` as a substring,
  G2  a template token that contains a variable as a substring is that variable
(`lammps_sub_no_var_remains_partial`; under these guards `str.replace` does what the whole-word `re.sub` does —
token-boundary theory in `Lemmas/TemplateSubst.lean`, agreement `substOf_eq_substOfW` in `Lemmas/TemplateReSub.lean`). -/

theorem lammps_sub_no_var_remains_counterexample :
    ∃ (s : Settings) (t : Str), (keys s).Nodup ∧ (writeForRunSub s t).err = none ∧
      ∃ l ∈ (writeForRunSub s t).written, ∃ k ∈ keys s, k ∈ splitWS l := by
  refine ⟨[("x".toList, "y".toList), ("y".toList, "1".toList)], "x\ny\n".toList, ?_, ?_,
    "y\n".toList, ?_, "y".toList, ?_, ?_⟩
  all_goals str_lits; decide +kernel

/-- RECORD (substring version): after the edit no variable of `s` is a token of any written line, for values free of variable names (G1) and templates in which variables
    occur only as whole tokens (G2) -/
theorem lammps_sub_no_var_remains_partial (s : Settings) (t : Str) (hnd : (keys s).Nodup)
    (G1 : ∀ kv ∈ s, ∀ k ∈ keys s, ¬ k <:+: kv.2)
    (G2 : ∀ l ∈ linesKeep t, ∀ tok ∈ splitWS l, ∀ k ∈ keys s, k <:+: tok → tok = k) :
    ∀ l ∈ (writeForRunSub s t).written, ∀ k ∈ keys s, k ∉ splitWS l := by
  intro l hl
  rw [(lammps_sub_edit_total s t hnd).1] at hl
  obtain ⟨l0, hl0, rfl⟩ := List.mem_map.1 hl
  exact substOf_no_var s l0 G1 (G2 l0 hl0)

example :
    let s : Settings := [("infretis_a".toList, "1.5".toList), ("infretis_b".toList, "/tmp/x y".toList)]
    let t : Str := "variable a index infretis_a # c\nrun infretis_b infretis_b\n".toList
    (keys s).Nodup ∧ (writeForRunSub s t).written =
      ["variable a index 1.5 # c\n".toList, "run /tmp/x y /tmp/x y\n".toList] := by str_lits; decide +kernel

/-- the guards G1, G2 are satisfiable together with a successful edit -/
example :
    (keys [("$a".toList, "1".toList)]).Nodup ∧
    (∀ kv ∈ [("$a".toList, "1".toList)], ∀ k ∈ keys [("$a".toList, "1".toList)], ¬ k <:+: kv.2) ∧
    (∀ l ∈ linesKeep "v $a\n".toList, ∀ tok ∈ splitWS l, ∀ k ∈ keys [("$a".toList, "1".toList)],
        k <:+: tok → tok = k) := by
  str_lits; decide +kernel

/-- RECORD (substring version): on a line where the variables that are words of the line occur nowhere else on
    that line (G1: not inside the value of such a variable, G2: not inside a longer word) the substring replacement
    equals the word-level specification -/
theorem lammps_sub_edit_words_partial (s : Settings) (l : Str)
    (G1 : ∀ kv ∈ onLine s l, ∀ k ∈ keys (onLine s l), ¬ k <:+: kv.2)
    (G2 : ∀ tok ∈ splitWS l, ∀ k ∈ keys (onLine s l), k <:+: tok → tok = k) :
    substOf s l = wordsLine s l := by
  rw [substOf_eq_substOfW _ s l (fun kv h => ⟨List.mem_map.2 ⟨kv, h, rfl⟩, G1 kv h⟩) G2]
  exact substOfW_eq_wordsLine s l (List.pairwise_of_forall_mem_list fun a ha b hb hm =>
    G1 a ha b.1 (List.mem_map.2 ⟨b, hb, rfl⟩) (splitWS_mem_infix hm))

example : substOf [("a".toList, "1".toList)] "x a # a\n".toList = wordsLine [("a".toList, "1".toList)] "x a # a\n".toList := by
  str_lits; decide +kernel

end Tmpl

/-! ## 3. the CP2K section-tree editor (`update_cp2k_input`)

Model: arena of nodes + roots + `node_ref` (Python dict semantics), children in insertion order;
all comparisons in the tie are on canonical trees (sibling order immaterial).  The model follows
the code after fix 6e4f7f3 (created sections keep their values, `None` values give the bare
key, section parameters are added once, `replace` leaves unrequested parameters alone); the
four findings it repaired are kept as `cp2k_asIs_…` records about `…AsIs` copies of the old
functions.  Three findings are open: two in `set_parents` (`cp2k_third_duplicate_bare`,
`cp2k_duplicate_children_counterexample`), one in `update_node` (`cp2k_keyword_case_counterexample`). -/
section Cp2k
open Infretis.Cp2k

/-- **edit_exact (CP2K), target present.**  Exactly the target node changes: merge law (existing
    keys rewritten in place, new keys appended in dict order, `None` → bare key) or replace law;
    section parameters: untouched when not requested, replaced in replace mode, otherwise the
    requested ones that are not there yet are appended (`newSettings`); every other node, the
    roots and `node_ref` unchanged. -/
theorem cp2k_edit_exact_present (u : Upd) (st : St) (i : Nat) (n : Node)
    (href : dget u.target st.ref = some i) (hn : st.arena[i]? = some n)
    (hmode : u.replace = true ∨ (u.isList = false ∧ ∀ l ∈ n.data, (firstTok l).isSome = true)) :
    ∃ st', updateNode u st = .ok st' ∧ st'.roots = st.roots ∧ st'.ref = st.ref ∧
      st'.arena.length = st.arena.length ∧ (∀ j, j ≠ i → st'.arena[j]? = st.arena[j]?) ∧
      st'.arena[i]? = some { n with
        data := if u.replace then u.data.map (·.1) else mergeSpec u.data n.data,
        settings := newSettings u.settings u.replace n.settings } := by
  have hi := getElem?_lt_of_some hn
  rw [updateNode_present u st i n href hn, nodeStep_eq u n hmode]
  exact ⟨_, rfl, rfl, rfl, by simp, fun j hj => by simp [Ne.symm hj], by simp [hi]⟩

/-- the two loops of `update_node` compute the merge specification -/
theorem cp2k_merge_eq_spec (u : Upd) (old : List Str) (hl : u.isList = false)
    (htok : ∀ l ∈ old, (firstTok l).isSome = true) :
    mergeData u old = .ok (mergeSpec u.data old) :=
  Infretis.Cp2k.mergeData_eq_spec u old hl htok

/-- **edit_exact (CP2K), target absent.**  The new state extends the old one (no existing node
    changes; children lists and roots only grow; keys keep their nodes) and the last node is the
    requested one: requested parameters (or none) and one `KEY value` line (bare `KEY` for a
    `None` value) per requested entry. -/
theorem cp2k_edit_exact_absent (u : Upd) (st : St) (hwf : RefOk st) (habs : dget u.target st.ref = none) :
    ∃ st', updateNode u st = .ok st' ∧ RefOk st' ∧ Ext st st' ∧ st.arena.length < st'.arena.length ∧
      ∃ nn, st'.arena[st'.arena.length - 1]? = some nn ∧ dget u.target st'.ref = some (st'.arena.length - 1) ∧
        (splitArrow u.target).getLast? = some nn.title ∧ nn.settings = u.settings.getD [] ∧
        nn.data = u.data.map fmtEntry ∧ nn.children = [] :=
  Infretis.Cp2k.cp2k_edit_exact_absent u st hwf habs

/-- **edit_idempotent (CP2K), target present — full** (code after fix 6e4f7f3).  A second application of the same
    update entry returns the same state.  Remaining guard: none in replace mode or for list data; in
    merge mode with dict data the keys are distinct non-empty white-space-free tokens (`DataOk`).
    Section parameters may be absent, empty or non-empty (the filter of the second application is empty), and `None`
    values are allowed (the bare key line is found again by its first token and rewritten to the bare key). -/
theorem cp2k_edit_idempotent (u : Upd) (st st1 : St) (i : Nat)
    (href : dget u.target st.ref = some i) (h1 : updateNode u st = .ok st1)
    (hg : u.replace = true ∨ u.isList = true ∨ DataOk u.data) :
    updateNode u st1 = .ok st1 := by
  obtain ⟨n, n1, hn, hs, rfl⟩ := updateNode_present_ok u st st1 i href h1
  exact Settled.fix ⟨i, n1, href, by simp [getElem?_lt_of_some hn], nodeStep_idem u n n1 hg hs⟩

/-- **edit_idempotent (CP2K), target absent** (the second half of finding C19:cp2k:new-section-drops-values, repaired
    by 6e4f7f3).  After the section has been created, applying the same (merge-mode, dict) entry again changes nothing.
    With `replace = true` the second application stores the dict KEYS only ("data is already formatted"), which
    differs from the created `KEY value` lines: hence the guard `replace = false`. -/
theorem cp2k_edit_idempotent_absent (u : Upd) (st st1 : St) (hwf : RefOk st) (habs : dget u.target st.ref = none)
    (hr : u.replace = false) (hl : u.isList = false) (hok : DataOk u.data)
    (h1 : updateNode u st = .ok st1) : updateNode u st1 = .ok st1 :=
  (settle u st st1 hwf (Or.inr ⟨hr, hl, hok⟩) h1).fix

example : ∃ st', updateNode updMerge stMD = .ok st' ∧ st'.arena[1]? = some
    { title := "MD".toList, parent := some 0, settings := ["X".toList, "X".toList],
      data := ["STEPS 20".toList, "TIMESTEP".toList], children := [], level := 1 } := by
  obtain ⟨st', h, -, -, -, -, h5⟩ := cp2k_edit_exact_present updMerge stMD 1
    ⟨"MD".toList, some 0, [], ["STEPS 10".toList], [], 1⟩ updMerge_present rfl
    (Or.inr ⟨rfl, by str_lits; decide +kernel⟩)
  exact ⟨st', h, by rw [h5]; unfold updMerge; str_lits; decide +kernel⟩

/-- idempotence with non-empty settings (even repeated inside the request) and a `None` value -/
example : ∃ st1, updateNode updMerge stMD = .ok st1 ∧ updateNode updMerge st1 = .ok st1 := by
  obtain ⟨st1, h1⟩ : ∃ st1, updateNode updMerge stMD = .ok st1 := ⟨_, rfl⟩
  exact ⟨st1, h1, cp2k_edit_idempotent updMerge stMD st1 1 updMerge_present h1 (Or.inr (Or.inr updMerge_dataOk))⟩

/-- absent → present -/
example : ∃ st1, updateNode updEach stMD = .ok st1 ∧ updateNode updEach st1 = .ok st1 := by
  obtain ⟨st1, h1⟩ : ∃ st1, updateNode updEach stMD = .ok st1 := ⟨_, rfl⟩
  exact ⟨st1, h1, cp2k_edit_idempotent_absent updEach stMD st1 stMD_refOk updEach_absent rfl rfl updEach_dataOk h1⟩

/-- falsy-but-valid values are values: a section that has to be created keeps `BACKUP_COPIES 0`
    and `FILENAME ` (empty string); only Python `None` (`none`) gives the bare flag.  In the model a
    value reaches `fmtEntry` as `Option Str` = `str(value)`, so `some "0"`, `some ""`,
    `some "False"` are all different from `none`. -/
theorem cp2k_created_section_keeps_falsy_values :
    updateInput tplMD [updZero] [] = .ok "&MOTION\n  &MD\n    STEPS 10\n  &END MD\n  &PRINT\n    &RESTART\n      BACKUP_COPIES 0\n    &END RESTART\n  &END PRINT\n&END MOTION\n".toList ∧
    updateInput tplMD [updEmpty] [] = .ok "&MOTION\n  &MD\n    STEPS 10\n  &END MD\n  &PRINT\n    &RESTART\n      FILENAME \n    &END RESTART\n  &END PRINT\n&END MOTION\n".toList := by
  unfold tplMD updZero updEmpty; str_lits; decide +kernel

example : updZero.data.map fmtEntry = ["BACKUP_COPIES 0".toList] ∧ updEmpty.data.map fmtEntry = ["FILENAME ".toList] ∧
    fmtEntry ("K".toList, some "False".toList) = "K False".toList ∧ fmtEntry ("K".toList, none) = "K".toList ∧
    dget updZero.target stMD.ref = none := by
  unfold updZero updEmpty stMD; str_lits; decide +kernel

/-- the code after 6e4f7f3 on the witnesses of the four findings it repaired (`cp2k_asIs_…` below) -/
theorem cp2k_fixed_witnesses :
    (updateInput tplMD [updSettings] [] = .ok "&MOTION\n  &MD X\n    STEPS 10\n  &END MD\n&END MOTION\n".toList ∧
     updateInput "&MOTION\n  &MD X\n    STEPS 10\n  &END MD\n&END MOTION\n".toList [updSettings] [] =
       .ok "&MOTION\n  &MD X\n    STEPS 10\n  &END MD\n&END MOTION\n".toList) ∧
    (updateInput tplMD [updNone] [] = .ok "&MOTION\n  &MD\n    STEPS 10\n    FOO\n  &END MD\n&END MOTION\n".toList ∧
     updateInput "&MOTION\n  &MD\n    STEPS 10\n    FOO\n  &END MD\n&END MOTION\n".toList [updNone] [] =
       .ok "&MOTION\n  &MD\n    STEPS 10\n    FOO\n  &END MD\n&END MOTION\n".toList) ∧
    updateInput tplMD [updEach] [] =
      .ok "&MOTION\n  &MD\n    STEPS 10\n  &END MD\n  &PRINT\n    &EACH\n      MD 5\n    &END EACH\n  &END PRINT\n&END MOTION\n".toList ∧
    updateInput tplKY [updReplace] [] = .ok "&A\n  &K Y\n    W 9\n  &END K\n&END A\n".toList := by
  unfold tplMD tplKY updSettings updNone updEach updReplace; str_lits; decide +kernel

/-- RECORD (code before 6e4f7f3, finding C19:cp2k:settings-appended-twice): `&MD X` → `&MD X X` -/
theorem cp2k_asIs_settings_appended_twice :
    updateInputAsIs tplMD [updSettings] [] = .ok "&MOTION\n  &MD X\n    STEPS 10\n  &END MD\n&END MOTION\n".toList ∧
    updateInputAsIs "&MOTION\n  &MD X\n    STEPS 10\n  &END MD\n&END MOTION\n".toList [updSettings] [] =
      .ok "&MOTION\n  &MD X X\n    STEPS 10\n  &END MD\n&END MOTION\n".toList := by
  unfold tplMD updSettings; str_lits; decide +kernel

/-- RECORD (finding C19:cp2k:none-value-printed-as-None): `FOO`, then `FOO None` -/
theorem cp2k_asIs_none_value :
    updateInputAsIs tplMD [updNone] [] = .ok "&MOTION\n  &MD\n    STEPS 10\n    FOO\n  &END MD\n&END MOTION\n".toList ∧
    updateInputAsIs "&MOTION\n  &MD\n    STEPS 10\n    FOO\n  &END MD\n&END MOTION\n".toList [updNone] [] =
      .ok "&MOTION\n  &MD\n    STEPS 10\n    FOO None\n  &END MD\n&END MOTION\n".toList := by
  unfold tplMD updNone; str_lits; decide +kernel

/-- RECORD (finding C19:cp2k:new-section-drops-values): the requested `MD 5` was printed as `MD` -/
theorem cp2k_asIs_new_section_drops_values :
    updateInputAsIs tplMD [updEach] [] =
      .ok "&MOTION\n  &MD\n    STEPS 10\n  &END MD\n  &PRINT\n    &EACH\n      MD\n    &END EACH\n  &END PRINT\n&END MOTION\n".toList := by
  unfold tplMD updEach; str_lits; decide +kernel

/-- RECORD (finding C19:cp2k:replace-wipes-settings): `&K Y` became `&K` -/
theorem cp2k_asIs_replace_wipes_settings :
    updateInputAsIs tplKY [updReplace] [] = .ok "&A\n  &K\n    W 9\n  &END K\n&END A\n".toList := by
  unfold tplKY updReplace; str_lits; decide +kernel

/-- removal is idempotent (on a `node_ref` with distinct keys, as every Python dict has) -/
theorem cp2k_remove_idempotent (target : Str) (st st' : St) (hn : (st.ref.map (·.1)).Nodup)
    (h : removeNode target st = .ok st') : removeNode target st' = .ok st' := by
  have hr := removeNode_ref target st st' h
  have : dget target st'.ref = none := by rw [hr]; exact dget_dpop_self target st.ref hn
  simp [removeNode, this]

/-- duplicate-title disambiguation, two siblings: both addressable by `path->settings` -/
theorem cp2k_duplicates_pair_partial (arena : List Node) (ref : List (Str × Nat)) (a b : Nat)
    (hp : pathKey arena b = pathKey arena a) (habs : dget (pathKey arena a) ref = none)
    (hs : settingsKey arena a ≠ settingsKey arena b) :
    dget (pathKey arena a ++ arrow ++ settingsKey arena a) (register arena (register arena ref a) b) = some a ∧
    dget (pathKey arena a ++ arrow ++ settingsKey arena b) (register arena (register arena ref a) b) = some b ∧
    dget (pathKey arena a) (register arena (register arena ref a) b) = none := by
  rw [register_fresh arena ref a habs, register_second arena ref a b hp habs]
  refine ⟨?_, ?_, ?_⟩
  · rw [dget_dset_ne _ _ _ _ (suffixed_inj _ _ _ (Ne.symm hs)), dget_dset_self]
  · rw [dget_dset_self]
  · rw [dget_dset_ne _ _ _ _ (suffixed_ne _ _), dget_dset_ne _ _ _ _ (suffixed_ne _ _), habs]

/-- OPEN finding C19:cp2k:third-duplicate-bare-key: a THIRD sibling with the same title is
    registered under the bare path and cannot be addressed by its settings, for any arena: an update addressed to
    `path->settings` of that node does not find it, and `update_node` then creates a new child section instead
    (`cp2k_three_duplicates_counterexample`) -/
theorem cp2k_third_duplicate_bare (arena : List Node) (ref : List (Str × Nat)) (a b c : Nat)
    (hpb : pathKey arena b = pathKey arena a) (hpc : pathKey arena c = pathKey arena a)
    (habs : dget (pathKey arena a) ref = none)
    (habs3 : dget (pathKey arena a ++ arrow ++ settingsKey arena c) ref = none)
    (hca : settingsKey arena c ≠ settingsKey arena a) (hcb : settingsKey arena c ≠ settingsKey arena b) :
    dget (pathKey arena a) (register arena (register arena (register arena ref a) b) c) = some c ∧
    dget (pathKey arena a ++ arrow ++ settingsKey arena c)
      (register arena (register arena (register arena ref a) b) c) = none := by
  rw [register_fresh arena ref a habs, register_second arena ref a b hpb habs]
  have h3abs : dget (pathKey arena c) (dset (pathKey arena a ++ arrow ++ settingsKey arena b) b
        (dset (pathKey arena a ++ arrow ++ settingsKey arena a) a ref)) = none := by
    rw [hpc, dget_dset_ne _ _ _ _ (suffixed_ne _ _), dget_dset_ne _ _ _ _ (suffixed_ne _ _), habs]
  rw [register_fresh arena _ c h3abs, hpc]
  refine ⟨dget_dset_self _ _ _, ?_⟩
  rw [dget_dset_ne _ _ _ _ (Ne.symm (suffixed_ne _ _)), dget_dset_ne _ _ _ _ (suffixed_inj _ _ _ (Ne.symm hcb)),
    dget_dset_ne _ _ _ _ (suffixed_inj _ _ _ (Ne.symm hca)), habs3]

/-- concrete witness: updating `A->K->Z` creates `&Z` inside `&K Z` instead of editing it -/
theorem cp2k_three_duplicates_counterexample :
    (readText tpl3).map (fun rs => rs.toSt.ref) =
      .ok [("A".toList, 0), ("A->K->X".toList, 1), ("A->K->Y".toList, 2), ("A->K".toList, 3)] ∧
    updateInput tpl3 [updZ] [] =
      .ok "&A\n  &K X\n  &END K\n  &K Y\n  &END K\n  &K Z\n    &Z\n      V 9\n    &END Z\n  &END K\n&END A\n".toList := by
  unfold tpl3 updZ; str_lits; decide +kernel

/-- OPEN finding C19:cp2k:duplicate-children-unaddressable: a child of a disambiguated duplicate
    is registered without the suffix, so `A->K->X->NEW` creates a new `&NEW` on every application -/
theorem cp2k_duplicate_children_counterexample :
    updateInput tpl2 [updThrough] [] = .ok "&A\n  &K X\n    &NEW\n    &END NEW\n  &END K\n  &K Y\n  &END K\n&END A\n".toList ∧
    updateInput "&A\n  &K X\n    &NEW\n    &END NEW\n  &END K\n  &K Y\n  &END K\n&END A\n".toList [updThrough] [] =
      .ok "&A\n  &K X\n    &NEW\n    &END NEW\n    &NEW\n    &END NEW\n  &END K\n  &K Y\n  &END K\n&END A\n".toList := by
  unfold tpl2 updThrough; str_lits; decide +kernel

example : dget updMerge.target stMD.ref = some 1 ∧ stMD.arena[1]?.isSome = true ∧ updMerge.isList = false :=
  ⟨updMerge_present, rfl, rfl⟩

/-! ### white space and case

`isWs` of `Model/TemplateCp2k.lean` is Python's complete `str.isspace`: `IsTok`, `DataOk`, `tokOk`, `dataOk` and with
them the guards of `cp2k_edit_idempotent…`, `cp2k_edit_many_idempotent` and `cp2k_print_read_roundtrip` speak about
all 29 white-space code points; `Tree.ok` additionally asks for ASCII section titles (`asciiStr`: Python's
`str.upper()` beyond ASCII is outside the model).  The two theorems below show that guards about the ten ASCII
white-space characters alone would not do: the inputs satisfy them, and the code (and the model) break the
conclusion. -/

/-- `dataOk` with ASCII white space in place of the complete set: first and last character no ASCII white space -/
def dataOkAscii (l : Str) : Bool :=
  match l with
  | [] => false
  | c :: _ => !isWsAscii c && c != '&' && (match l.getLast? with | some z => !isWsAscii z | none => false) &&
              l.all (fun x => x != '\n' && x != '\r')

/-- `cp2k_print_read_roundtrip` needs the complete white-space set in its guard: the data line `STEPS 10<U+00A0>`
    passes the ASCII guard `dataOkAscii`, but `str.strip()` removes the no-break space, so
    print ∘ parse ∘ print ≠ print.  `okTs` rejects the forest. -/
theorem cp2k_roundtrip_ascii_guard_counterexample :
    dataOkAscii "STEPS 10\u00a0".toList = true ∧
    okTs [Tree.node "MD".toList [] ["STEPS 10\u00a0".toList] []] = false ∧
    Infretis.Cp2k.unlines (printForest [Tree.node "MD".toList [] ["STEPS 10\u00a0".toList] []]) = "&MD\n  STEPS 10\u00a0\n&END MD\n".toList ∧
    (readText "&MD\n  STEPS 10\u00a0\n&END MD\n".toList).map (fun rs => printText rs.toSt) = .ok "&MD\n  STEPS 10\n&END MD\n".toList := by
  str_lits; decide +kernel

/-- `cp2k_edit_idempotent` needs the complete white-space set in `DataOk`: the key `A<U+00A0>B` is free of ASCII white
    space, but two words for `line.split()[0]`; it is never found again and is appended on every application.
    `DataOk` rejects the key. -/
theorem cp2k_idempotent_ascii_guard_counterexample :
    (∀ c ∈ "A\u00a0B".toList, isWsAscii c = false) ∧ ¬ DataOk [("A\u00a0B".toList, some "1".toList)] ∧
    updateInput tplMD [⟨"MOTION->MD".toList, none, false, [("A\u00a0B".toList, some "1".toList)], false⟩] [] =
      .ok "&MOTION\n  &MD\n    STEPS 10\n    A\u00a0B 1\n  &END MD\n&END MOTION\n".toList ∧
    updateInput "&MOTION\n  &MD\n    STEPS 10\n    A\u00a0B 1\n  &END MD\n&END MOTION\n".toList
        [⟨"MOTION->MD".toList, none, false, [("A\u00a0B".toList, some "1".toList)], false⟩] [] =
      .ok "&MOTION\n  &MD\n    STEPS 10\n    A\u00a0B 1\n    A\u00a0B 1\n  &END MD\n&END MOTION\n".toList := by
  unfold tplMD; str_lits
  refine ⟨by decide +kernel, ?_, by decide +kernel, by decide +kernel⟩
  intro h
  exact absurd ((h.tok _ List.mem_cons_self).2 '\u00a0' (by decide)) (by decide)

/-- OPEN finding C19:cp2k:wfrvel:keyword-case (known_findings.json; `updateNode` is the code as it is): `update_node` compares keywords literally
    (`line.split()[0] in data`), CP2K reads keywords case-insensitively (and the reader itself upper-cases section
    names).  On a template that spells the keyword `steps` the requested `STEPS 21` is not written over the entry but
    appended: the section then holds `steps 3` AND `STEPS 21`.  (The edit is idempotent.) -/
theorem cp2k_keyword_case_counterexample :
    updateInput "&MOTION\n  &MD\n    steps 3\n  &END MD\n&END MOTION\n".toList
        [⟨"MOTION->MD".toList, none, false, [("STEPS".toList, some "21".toList)], false⟩] [] =
      .ok "&MOTION\n  &MD\n    steps 3\n    STEPS 21\n  &END MD\n&END MOTION\n".toList ∧
    updateInput "&MOTION\n  &MD\n    steps 3\n    STEPS 21\n  &END MD\n&END MOTION\n".toList
        [⟨"MOTION->MD".toList, none, false, [("STEPS".toList, some "21".toList)], false⟩] [] =
      .ok "&MOTION\n  &MD\n    steps 3\n    STEPS 21\n  &END MD\n&END MOTION\n".toList := by
  str_lits; decide +kernel

/-- **edit_exact (CP2K), the REPAIRED variant** (`mergeDataR`, `Model/TemplateCp2kRepaired.lean`: keywords compared up
    to case, the rewritten line carries the requested spelling) — the full statement that
    `cp2k_keyword_case_counterexample` refutes for the code as it is.  For dict data whose keywords are distinct up to
    case and single words, and a section every line of which has a first word: the new data are the old lines through
    `editLineR` followed by the requested entries no line named, in dict order; every requested line is in the section;
    and EVERY line of the section whose first word is a requested keyword in any case IS the requested line. -/
theorem cp2k_edit_exact_keyword_case_repaired (u : Upd) (old nd : List Str) (hl : u.isList = false)
    (htok : ∀ l ∈ old, (firstTok l).isSome = true) (hk : KeysCI u.data) (h : mergeDataR u old = .ok nd) :
    nd = old.map (editLineR u.data) ++ (u.data.filter (fun kv => decide (kv.1 ∉ doneR u.data old))).map fmtEntry ∧
    ∀ kv ∈ u.data, fmtEntry kv ∈ nd ∧
      ∀ l ∈ nd, ∀ key, firstTok l = some key → upper key = upper kv.1 → l = fmtEntry kv := by
  refine ⟨?_, repaired_requested_entry u old nd hl htok hk h⟩
  rw [mergeDataR_eq u old hl htok] at h
  exact (Except.ok.inj h).symm

/-- non-vacuity: the `MOTION->MD` entry of `write_for_run_vel` satisfies `KeysCI` -/
example : KeysCI [("STEPS".toList, some "21".toList), ("TIMESTEP".toList, some "0.5".toList)] :=
  ⟨by decide, by intro kv hkv; simp only [List.mem_cons, List.not_mem_nil, or_false] at hkv
                 rcases hkv with rfl | rfl <;> exact ⟨by decide, by decide⟩⟩

/-- the repaired variant on the witness of the finding: `steps 3` becomes `STEPS 21`, nothing is appended, a second
    application changes nothing; on a template that spells the keyword as requested the two variants coincide -/
theorem cp2k_keyword_case_repaired_witness :
    updateInputR "&MOTION\n  &MD\n    steps 3\n  &END MD\n&END MOTION\n".toList
        [⟨"MOTION->MD".toList, none, false, [("STEPS".toList, some "21".toList)], false⟩] [] =
      .ok "&MOTION\n  &MD\n    STEPS 21\n  &END MD\n&END MOTION\n".toList ∧
    updateInputR "&MOTION\n  &MD\n    STEPS 21\n  &END MD\n&END MOTION\n".toList
        [⟨"MOTION->MD".toList, none, false, [("STEPS".toList, some "21".toList)], false⟩] [] =
      .ok "&MOTION\n  &MD\n    STEPS 21\n  &END MD\n&END MOTION\n".toList ∧
    updateInputR tplMD [updMerge] [] = updateInput tplMD [updMerge] [] := by
  unfold tplMD updMerge; str_lits; decide +kernel

/-! ### the whole update loop of `update_cp2k_input`, and `write_for_run_vel`

`applyUpdates us st` is the loop `for target, value in update.items(): update_node(...)` on the state `st`
(arena of nodes, roots, `node_ref`).  Invariants of a parsed state: `RefOk` (every key names a node of the arena)
and `RefInj` (no two keys name the same node); both are decidable on a concrete state
(`refOk_of_all`, `refInj_of_nodup`) and kept by every `update_node` (`cp2k_edit_many_exact`). -/

/-- **edit_exact (CP2K), the whole loop, any entries.**  `Grow st st' T`: no node of the template is lost or moved
    (title, parent, level kept; children lists and the root list only grow at the end; every key keeps its node;
    keys that are new name nodes that are new), and a node keeps its settings and data unless its index is in
    `T` = the nodes that the targets of the entries name in the template. -/
theorem cp2k_edit_many_exact (us : List Upd) (st st' : St) (hwf : RefOk st) (hinj : RefInj st)
    (h : applyUpdates us st = .ok st') :
    RefOk st' ∧ RefInj st' ∧ Grow st st' (us.filterMap (fun u => dget u.target st.ref)) :=
  Infretis.Cp2k.cp2k_edit_many_exact us st st' hwf hinj h

/-- **edit_idempotent (CP2K), the whole loop.**  Entries with pairwise distinct targets (a dict), each either
    replace-mode with ready lines (list data, or a dict whose values are all `None`) or merge-mode with a dict whose
    keys are distinct single tokens (`Guard`): after the loop every target exists and is a fixed point of its entry
    (`Settled`), whether it existed before or had to be created (with its parents), and a second run of the loop
    returns the very same state. -/
theorem cp2k_edit_many_idempotent (us : List Upd) (st st' : St) (hwf : RefOk st) (hinj : RefInj st)
    (hnd : (us.map (·.target)).Nodup) (hg : ∀ u ∈ us, Guard u) (h : applyUpdates us st = .ok st') :
    (∀ u ∈ us, Settled u st') ∧ applyUpdates us st' = .ok st' := by
  have c := applyUpdates_settles us [] st st' hwf hinj (fun _ h => by cases h) hg hnd
    (fun _ _ _ h => by cases h) h
  have hs : ∀ u ∈ us, Settled u st' := fun u hu => c u (Or.inr hu)
  exact ⟨hs, applyUpdates_fix us st' hs⟩

/-- what "settled" gives: in replace mode the section's data ARE the requested lines; in merge mode every requested
    `KEY value` (bare `KEY` for `None`) is a line of the section -/
theorem cp2k_settled_data (u : Upd) (st : St) (hs : Settled u st) :
    (u.replace = true → ∃ i n, dget u.target st.ref = some i ∧ st.arena[i]? = some n ∧ n.data = u.data.map (·.1)) ∧
    (u.replace = false → u.isList = false → DataOk u.data →
      ∃ i n, dget u.target st.ref = some i ∧ st.arena[i]? = some n ∧ ∀ kv ∈ u.data, fmtEntry kv ∈ n.data) :=
  ⟨fun hr => hs.replace_data hr, fun hr hl hok => hs.merge_data hr hl hok⟩

/-- **`write_for_run_vel`** (the edit the CP2K engine makes before every run; `wfrVelUpdates` mirrors the dict it
    builds, `writeForRunVel` the whole function on file contents).  For every parsed state, project name, step
    numbers, print frequency and every list of velocities: if the loop succeeds, a second run of the loop changes
    nothing; the VELOCITY section holds exactly one line `vx vy vz` per atom, in order; GLOBAL holds exactly the three
    requested lines; MD has the requested STEPS (= nsteps·subcycles) and TIMESTEP lines; every node not addressed
    by one of the nine targets keeps its settings and data.  (Numbers are carried as the text Python prints.) -/
theorem cp2k_wfrvel_loop (name timestep posfile : Str) (nsteps subcycles : Int) (pf : Option Int)
    (vel : List (Str × Str × Str)) (st st' : St) (hwf : RefOk st) (hinj : RefInj st)
    (h : applyUpdates (wfrVelUpdates name timestep posfile nsteps subcycles pf vel) st = .ok st') :
    applyUpdates (wfrVelUpdates name timestep posfile nsteps subcycles pf vel) st' = .ok st' ∧
    (∃ i n, dget "FORCE_EVAL->SUBSYS->VELOCITY".toList st'.ref = some i ∧ st'.arena[i]? = some n ∧
      n.data = vel.map velLine) ∧
    (∃ i n, dget "GLOBAL".toList st'.ref = some i ∧ st'.arena[i]? = some n ∧
      n.data = ["PROJECT ".toList ++ name, "RUN_TYPE MD".toList, "PRINT_LEVEL LOW".toList]) ∧
    (∃ i n, dget "MOTION->MD".toList st'.ref = some i ∧ st'.arena[i]? = some n ∧
      ("STEPS".toList ++ [' '] ++ intStr (nsteps * subcycles)) ∈ n.data ∧ ("TIMESTEP".toList ++ [' '] ++ timestep) ∈ n.data) ∧
    Grow st st' ((wfrVelUpdates name timestep posfile nsteps subcycles pf vel).filterMap (fun u => dget u.target st.ref)) := by
  obtain ⟨hs, hfix⟩ := cp2k_edit_many_idempotent _ st st' hwf hinj
    (wfrVel_nodup name timestep posfile nsteps subcycles pf vel)
    (wfrVel_guard name timestep posfile nsteps subcycles pf vel) h
  obtain ⟨-, -, hgrow⟩ := cp2k_edit_many_exact _ st st' hwf hinj h
  refine ⟨hfix, ?_, ?_, ?_, hgrow⟩
  · -- entry 7 of the dict: VELOCITY
    obtain ⟨i, n, a, b, c⟩ := (hs _ (List.mem_of_getElem? (i := 7) rfl)).replace_data rfl
    exact ⟨i, n, a, b, by rw [c]; exact listData_fst _⟩
  · -- entry 0: GLOBAL
    obtain ⟨i, n, a, b, c⟩ := (hs _ (List.mem_of_getElem? (i := 0) rfl)).replace_data rfl
    exact ⟨i, n, a, b, by rw [c]; exact listData_fst _⟩
  · -- entry 1: MOTION->MD
    obtain ⟨i, n, a, b, c⟩ := (hs _ (List.mem_of_getElem? (i := 1) rfl)).merge_data rfl rfl (wfrVel_md_dataOk _ _)
    exact ⟨i, n, a, b, c _ List.mem_cons_self, c _ (List.mem_cons_of_mem _ List.mem_cons_self)⟩

/-- the entries of `write_for_run_vel` always satisfy the hypotheses of `cp2k_edit_many_idempotent` -/
theorem cp2k_wfrvel_entries_ok (name timestep posfile : Str) (nsteps subcycles : Int) (pf : Option Int)
    (vel : List (Str × Str × Str)) :
    ((wfrVelUpdates name timestep posfile nsteps subcycles pf vel).map (·.target)).Nodup ∧
    ∀ u ∈ wfrVelUpdates name timestep posfile nsteps subcycles pf vel, Guard u :=
  ⟨wfrVel_nodup name timestep posfile nsteps subcycles pf vel, wfrVel_guard name timestep posfile nsteps subcycles pf vel⟩

/-- **print / read round trip over section forests**: parse ∘ print = id and print ∘ parse ∘ print = print.  For EVERY forest of `Tree.ok` trees — any number of root
    sections, any depth, any number of children, parameters and data lines; `ok`: the title is one upper-case ASCII token
    not starting with "END", parameters are tokens, data lines are stripped, non-empty, without line breaks and do not
    start with '&' (token / stripped: with respect to Python's complete white-space set; the trees the reader builds
    from every text without a malformed `& END…` header and without non-ASCII section names; the tie checks this
    on every text it reads, op `cp2kspec`) —
    the text `dfs_print` writes is read back into a state whose forest is the same forest, children in the same
    order, and printing that state gives the same text again. -/
theorem cp2k_print_read_roundtrip (ts : List Tree) (hok : okTs ts = true) :
    ∃ rs, readText (unlines (printForest ts)) = .ok rs ∧ toForest rs.arena rs.roots = ts ∧
      printText rs.toSt = unlines (printForest ts) := by
  refine ⟨⟨flats none 0 0 ts, childIds 0 ts, none⟩, ?_, toForest_flats ts, ?_⟩
  · unfold readText
    rw [splitLines_unlines _ (noBrk_printForest ts hok), readLines_append]
    have := readLines_printForest ts hok [] []
    simp only [List.nil_append, List.length_nil] at this
    simp only [RS.init, this, readLines, readLine_blank]
  · simp only [printText, RS.toSt]
    congr 1
    exact printLines_flats ts _ 0 (seg_refl _) (by rw [flats_length]; exact Nat.le_refl _)

/-- the arena the reader builds from a printed forest, explicitly: the nodes in preorder (`flats`), children lists
    = the indices of the children, levels = depths, roots = the indices of the root sections -/
theorem cp2k_read_printed_arena (ts : List Tree) (hok : okTs ts = true) :
    readLines RS.init (printForest ts) = .ok ⟨flats none 0 0 ts, childIds 0 ts, none⟩ := by
  have := readLines_printForest ts hok [] []
  simpa [RS.init] using this

example : okTs [.node "MOTION".toList [] ["! c".toList] [.node "MD".toList ["X".toList, "OFF".toList] ["STEPS 10".toList, "TIMESTEP [fs] 0.5".toList] [],
                                                          .node "PRINT".toList [] [] [.node "EACH".toList [] ["MD 1".toList] []]],
                .node "GLOBAL".toList [] ["PROJECT a b".toList] []] = true := by
  str_lits; decide +kernel

/-- concrete run (kernel-checked): the template `&MOTION / &MD / STEPS 10`, two atoms — every missing section is
    created, STEPS rewritten in place, TIMESTEP appended -/
theorem cp2k_wfrvel_witness :
    writeForRunVel tplMD "md_step".toList "0.25".toList "conf.xyz".toList 7 3 none velRun = .ok outRun := by
  unfold writeForRunVel wfrVelUpdates wfrVelRemoves tplMD velRun outRun
  str_lits
  decide +kernel

/-- non-vacuity of the hypotheses: the parsed `tplMD` is well formed -/
example : RefOk stMD ∧ RefInj stMD ∧ (readText tplMD).map RS.toSt = .ok stMD :=
  ⟨stMD_inv.1, stMD_inv.2, stMD_read⟩


end Cp2k

/-! ## 4. decimal fixed-point text codecs: `.g96` and extended xyz

A number is a sign-magnitude decimal `Dec` (Python floats have a signed zero and
`-1 * vel` produces `-0.0`, printed `-0.000000000`), so the statements are exact to the byte.

White space.  The readers are `readXyzFramesU`, `readConfigurationU`, `extractFrameU`, `reverseXyzU`, `readG96U`,
`reverseG96U` of `Model/CodecUni.lean`: the real readers with Python's COMPLETE white-space set (`str.split()`,
`str.strip()`, `float()` of a `str` read as utf-8: 29 code points).  The shared `Model/Codec.lean` knows the ten ASCII
ones only, and the same statements about its readers (`Lemmas/CodecFixed.lean`, named below each theorem) are FALSE of
the code on part of their domain: an atom name / title line with a non-ASCII white-space character satisfies `XyzOk`,
`G96Ok` and does not survive the real reader (`xyz_roundtrip_nonascii_space_name_counterexample`,
`g96_roundtrip_nonascii_space_title_counterexample`).  Hence the extra guard `Plain` (= none of the 19 non-ASCII
white-space characters) on the strings the file keeps verbatim.  `Lemmas/CodecUni.lean` proves that on such texts the
complete readers coincide with the ASCII ones and that the writers' images are such texts. -/
section Codec
open Infretis.Codec
open Infretis.CodecUni

/-- reading back a `'{:width.prec f}'` field gives exactly the decimal written — any width,
    any magnitude (also when the field overflows), both zeros -/
theorem parse_fmt_fixed (width prec : Nat) (d : Dec) :
    parseFixed prec (fmtFixed width prec d) = some d :=
  Infretis.Codec.parse_fmt_fixed width prec d

theorem fmtFixed_length (width prec : Nat) (d : Dec) (h : (fmtCore prec d).length ≤ width) :
    (fmtFixed width prec d).length = width :=
  Infretis.Codec.fmtFixed_length width prec d h

example : parseFixed 9 (fmtFixed 15 9 ⟨true, 0⟩) = some ⟨true, 0⟩ ∧
    fmtFixed 15 9 ⟨true, 0⟩ = "   -0.000000000".toList := by str_lits; decide +kernel

/-- **read_write_roundtrip (.g96)** for any atom count under the explicit width guard `G96Ok`
    (24-character labels, every position/velocity component fits its 15 columns, box components
    after the first keep a leading blank, one raw BOX line, 3 or 9 box components) -/
theorem g96_read_write_roundtrip (raw : G96Raw) (xyz vel : List V3) (box : List Dec)
    (h : G96Ok raw xyz vel box) (hp : G96Plain raw) :
    ∃ t, writeG96 raw xyz (some vel) (some box) = .ok t ∧
      readG96U t = .ok ⟨rawAfter raw box, xyz, vel, some box⟩ :=
  ⟨_, writeG96_eq raw xyz vel box h, (readG96U_g96Lines raw xyz vel box h hp).trans (readG96_g96Lines raw xyz vel box h)⟩
/- ASCII reader `Codec.readG96`, without `G96Plain`: `Infretis.Codec.readG96_g96Lines`. -/

/-- the guard `G96Plain` is needed: the title line `<U+00A0>END` passes `G96Ok` (the ASCII `strip` leaves it alone), the
    real reader strips the no-break space, takes the line for an `END` marker and drops it — the title is lost -/
theorem g96_roundtrip_nonascii_space_title_counterexample :
    ∃ (raw : G96Raw) (xyz vel : List V3) (box : List Dec) (t : Text), G96Ok raw xyz vel box ∧
      raw.title = [['\u00a0', 'E', 'N', 'D']] ∧ writeG96 raw xyz (some vel) (some box) = .ok t ∧
      (readG96U t).map (·.raw.title) = .ok [] ∧ (readG96 t).map (·.raw.title) = .ok raw.title := by
  -- `exRaw` with the title replaced: every other field of the guard is that of `exG96_ok`
  have ok := Infretis.Codec.exG96_ok
  exact ⟨{ exRaw with title := [['\u00a0', 'E', 'N', 'D']] }, exXyz, exVel, exBox, _,
    ⟨by simp only [NoBrk, DataLine]; decide +kernel, ok.pos_ok, ok.vel_ok, ok.same_len, ok.xyz_len, ok.vel_len,
     ok.xyz_fit, ok.vel_fit, ok.one_box, ok.box_len, ok.box_fit⟩,
    rfl, rfl, by decide +kernel, by decide +kernel⟩

/-- `|x| < 10^5` (non-negative) / `|x| < 10^4` (negative) fits a 15-column field -/
theorem g96_fit_of_lt (d : Dec) (hp : d.neg = false → d.mag < 10 ^ 14) (hn : d.neg = true → d.mag < 10 ^ 13) :
    Fit d :=
  Infretis.Codec.fit_of_lt d hp hn

example : G96Ok exRaw exXyz exVel exBox ∧ G96Plain exRaw :=
  ⟨Infretis.Codec.exG96_ok, by
    refine ⟨?_, ?_, ?_⟩ <;> decide +kernel⟩

/-- the widest numbers that still fit a 15-column field: 99999.999999999 and -9999.999999999 -/
example : Fit ⟨false, 99999999999999⟩ ∧ Fit ⟨true, 9999999999999⟩ :=
  ⟨Infretis.Codec.fit_of_lt _ (fun _ => by decide) (fun h => by cases h),
   Infretis.Codec.fit_of_lt _ (fun h => by cases h) (fun _ => by decide)⟩

/-- the box guard is necessary: BOX is read by white-space split, so a 15-column box field
    without a leading blank merges with its neighbour → ValueError (positions are read by columns) -/
theorem g96_roundtrip_wide_box_counterexample :
    ∃ t, writeG96 exRaw exXyz (some exVel) (some [⟨false, 7000000000⟩, ⟨true, 1234000000005⟩, ⟨false, 5⟩]) = .ok t ∧
      readG96 t = .error .value := by
  refine ⟨_, rfl, ?_⟩
  rfl

/-- **read_write_roundtrip (xyz)** for any atom count ≥ 1, any ordering, non-empty white-space
    free names, arbitrary 9-decimal numbers (no width guard: the reader splits on white space)
    and an arbitrary or absent 4-decimal box -/
theorem xyz_read_write_roundtrip (c : Conf) (h : XyzOk c) (hn : ∀ nm ∈ c.names, Plain nm) (t : Text)
    (hw : writeXyz (some c.names) c.pos c.vel c.box none = .ok t) :
    readXyzFramesU t = ([snapOf c], none) ∧ convertSnapshot (snapOf c) = .ok c ∧
      readConfigurationU t = .ok c := by
  obtain rfl := writeConf_text h hw
  refine ⟨?_, convert_snapOf c h, ?_⟩
  · rw [readXyzFramesU, normT_frame c hn, ← trajText_single, readXyzFrames_traj [c] (by simpa using h)]; rfl
  · rw [readConfigurationU, normT_frame c hn, readConfiguration_frame c h]
/- ASCII readers, without `hn` (`XyzOk` only excludes ASCII white space from the names):
   `Infretis.Codec.readXyzFrames_traj`, `readConfiguration_frame`. -/

/-- the guard on the names is needed: the atom name `A<U+00A0>B` satisfies `XyzOk`; `write_xyz_trajectory` writes it,
    `line.split()` of the real reader cuts it in two and `float('B')` raises ValueError (the ASCII reader of
    `Model/Codec.lean` returns the configuration) -/
theorem xyz_roundtrip_nonascii_space_name_counterexample :
    ∃ (c : Conf) (t : Text), XyzOk c ∧ c.names = [['A', '\u00a0', 'B']] ∧ writeConf c = .ok t ∧
      readConfigurationU t = .error .value ∧ readConfiguration t = .ok c := by
  -- the one-atom `exConf2` with the name replaced
  have ok := Infretis.Codec.exConf2_ok
  exact ⟨{ exConf2 with names := [['A', '\u00a0', 'B']] }, _,
    ⟨ok.names_len, ok.vel_len, ok.nonempty, by simp only [NoWs]; decide +kernel⟩,
    rfl, rfl, by decide +kernel, by decide +kernel⟩

theorem xyz_write_ok (c : Conf) (h : XyzOk c) :
    writeXyz (some c.names) c.pos c.vel c.box none = .ok (unlines (frameLines c)) :=
  writeConf_eq c h

example : XyzOk exConf ∧ ∀ nm ∈ exConf.names, Plain nm :=
  ⟨Infretis.Codec.exConf_ok, by decide +kernel⟩

/-- zero atoms: the frame is written but `convert_snapshot` raises KeyError('atomname') -/
theorem xyz_roundtrip_zero_atoms_counterexample :
    ∃ t, writeXyz (some []) [] [] none none = .ok t ∧ readConfiguration t = .error .key := by
  refine ⟨_, rfl, ?_⟩
  rfl

/-- **extract_frame_k (xyz).**  Frame `k` of a trajectory of any number of frames is written
    byte for byte as frame `k` alone would be; beyond the end nothing is written. -/
theorem extract_frame_k (cs : List Conf) (h : ∀ c ∈ cs, XyzOk c) (hn : ∀ c ∈ cs, ∀ nm ∈ c.names, Plain nm) (t : Text)
    (ht : writeTraj cs = .ok t) (k : Nat) :
    (∀ hk : k < cs.length, ∃ o, writeConf cs[k] = .ok o ∧ extractFrameU k t = .ok (some o)) ∧
    (cs.length ≤ k → extractFrameU k t = .ok none) := by
  rw [writeTraj_text h ht, extractFrameU, normT_trajText cs hn, extractFrame_traj cs h]
  exact ⟨fun hk => ⟨_, writeConf_eq _ (h _ (List.getElem_mem hk)), by rw [List.getElem?_eq_getElem hk]; rfl⟩,
    fun hk => by rw [List.getElem?_eq_none hk]; rfl⟩
/- ASCII reader `extractFrame`, without `hn`: `Infretis.Codec.extractFrame_traj`. -/

example : (∀ c ∈ [exConf, exConf2, exConf], XyzOk c) ∧ ∀ c ∈ [exConf, exConf2, exConf], ∀ nm ∈ c.names, Plain nm :=
  ⟨Infretis.Codec.exTraj_ok, by decide +kernel⟩

/-- **reverse_only_negates_vel (xyz).**  The reversed file is exactly the file of the same
    configuration with every velocity component sign-flipped (box, positions, names untouched);
    reversing twice restores the original bytes. -/
theorem xyz_reverse_only_negates_vel (c : Conf) (h : XyzOk c) (hn : ∀ nm ∈ c.names, Plain nm) (t : Text)
    (hw : writeConf c = .ok t) :
    (∃ t', reverseXyzU t = .ok t' ∧ writeConf (revConf c) = .ok t' ∧
      readConfigurationU t' = .ok (revConf c)) ∧
    (∃ t', reverseXyzU t = .ok t' ∧ reverseXyzU t' = .ok t) := by
  obtain rfl := writeConf_text h hw
  have h' := revConf_ok c h
  have r : reverseXyzU (unlines (frameLines c)) = .ok (unlines (frameLines (revConf c))) := by
    rw [reverseXyzU, normT_frame c hn, reverseXyz_frame c h]
  refine ⟨⟨_, r, writeConf_eq _ h', ?_⟩, _, r, ?_⟩
  · rw [readConfigurationU, normT_frame (revConf c) hn, readConfiguration_frame _ h']
  · rw [reverseXyzU, normT_frame (revConf c) hn, reverseXyz_frame _ h', revConf_revConf]
/- ASCII reader, without `hn`: `Infretis.Codec.reverseXyz_frame`. -/

/-- **reverse_only_negates_vel (.g96)**, also requiring that the negated velocities fit -/
theorem g96_reverse_only_negates_vel (raw : G96Raw) (xyz vel : List V3) (box : List Dec)
    (h : G96Ok raw xyz vel box) (hp : G96Plain raw) (hn : ∀ v ∈ vel, Fit3 v.negate) (t : Text)
    (hw : writeG96 raw xyz (some vel) (some box) = .ok t) :
    ∃ t', reverseG96U t = .ok t' ∧
      readG96U t' = .ok ⟨rawAfter raw box, xyz, vel.map V3.negate, some box⟩ ∧
      reverseG96U t' = .ok t := by
  obtain rfl := writeG96_text h hw
  have h' := G96Ok_negate h hn
  refine ⟨_, (reverseG96U_g96Lines raw xyz vel box h hp).trans (reverseG96_eq raw xyz vel box h), ?_, ?_⟩
  · rw [readG96U_g96Lines _ _ _ _ h' hp, readG96_g96Lines _ _ _ _ h']
  · rw [reverseG96U_g96Lines _ _ _ _ h' hp, reverseG96_eq _ _ _ _ h', map_negate_negate]
/- ASCII reader, without `G96Plain`: `Infretis.Codec.g96_reverse_only_negates_vel`. -/

/-- **the complete readers ARE the ASCII readers on texts without non-ASCII white space** (so every statement of
    `Lemmas/CodecFixed.lean` about the ASCII model is a statement about the code on such texts): xyz for every text,
    .g96 for every list of lines -/
theorem readers_agree_on_plain_text (t : Text) (ls : List Line) (ht : Plain t) (hl : ∀ l ∈ ls, Plain l) :
    readXyzFramesU t = readXyzFrames t ∧ readConfigurationU t = readConfiguration t ∧
    (∀ k, extractFrameU k t = extractFrame k t) ∧ reverseXyzU t = reverseXyz t ∧
    readG96LinesU ls = readG96Lines ls := by
  have e := normT_plain ht
  exact ⟨by rw [readXyzFramesU, e], by rw [readConfigurationU, e], fun k => by rw [extractFrameU, e],
         by rw [reverseXyzU, e], readG96LinesU_plain ls hl⟩

example : Plain "2\n# Box: 1.0\nAr 1.0 2.0 3.0\n".toList ∧ ¬ Plain "A\u00a0B".toList :=
  ⟨by str_lits; decide +kernel, fun h => absurd (h '\u00a0' (by decide)) (by decide)⟩

end Codec

/-! ## 5. `.lammpstrj` and the TRR byte layout

LAMMPS numbers are numpy `str()` tokens, carried as opaque tokens (`Num`, `negate` toggles the
sign).  TRR: IEEE decoding is outside the model; a decoded real is its field bytes normalised
to big-endian order, so "decodes identically" = "the same field bytes are selected". -/
section Lmp
open Infretis.Lmp

/-- sorting by id is a permutation, sorted, and with distinct ids the unique strictly increasing
    arrangement (independent of the algorithm behind `np.argsort`) -/
theorem lmp_sort_perm_sorted (atoms : List Atom) :
    (sortAtoms atoms).Perm atoms ∧ SortedById (sortAtoms atoms) ∧
    (DistinctIds atoms →
      StrictById (sortAtoms atoms) ∧ ∀ r : List Atom, r.Perm atoms → StrictById r → r = sortAtoms atoms) := by
  refine ⟨sortAtoms_perm atoms, sortAtoms_sorted atoms, fun hd => ?_⟩
  have hs : StrictById (sortAtoms atoms) :=
    strict_of_sorted_distinct _ (sortAtoms_sorted atoms) (DistinctIds.perm (sortAtoms_perm atoms).symm hd)
  exact ⟨hs, fun r pr hr => strict_perm_unique r _ (pr.trans (sortAtoms_perm atoms).symm) hr hs⟩

/-- **read_write_roundtrip (.lammpstrj).**  For any number `n ≥ 2` of atoms in any id ordering, reading what
    `write_lammpstrj` wrote returns the atoms sorted by id, each with its own type, position and velocity tokens, and
    the same box tokens; if the ids were already increasing it is the identity. -/
theorem lmp_read_write_roundtrip (atoms : List Atom) (b : List (List Num))
    (hn : 2 ≤ atoms.length) (hat : AtomsOK atoms) (hb : BoxOK b) (hd : DistinctIds atoms) :
    readFrame (writeFrame { atoms := atoms, box := some b }) 0 atoms.length
        = .ok { atoms := sortAtoms atoms, box := some b }
    ∧ (sortAtoms atoms).Perm atoms
    ∧ SortedById (sortAtoms atoms)
    ∧ (SortedById atoms →
        readFrame (writeFrame { atoms := atoms, box := some b }) 0 atoms.length
          = .ok { atoms := atoms, box := some b }) := by
  have hr := readFrame_single (FrameOK.of_atoms hat hb) hn
  exact ⟨hr, sortAtoms_perm atoms, sortAtoms_sorted atoms, fun hs => by rw [hr, sortConf_of_sorted hs]⟩

example : 2 ≤ exAtoms.length ∧ AtomsOK exAtoms ∧ BoxOK exBox ∧ DistinctIds exAtoms := Infretis.Lmp.exAtoms_ok

/-- the property's own scope: one atom → IndexError; written without box → ValueError -/
theorem lmp_out_of_scope (a : Atom) (t : List Atom) (b : List (List Num)) (ha : AtomsOK (a :: t))
    (hb : BoxOK b) (n : Nat) :
    readFrame (writeFrame { atoms := [a], box := some b }) 0 1 = .error .index ∧
    readFrame (writeFrame { atoms := a :: t, box := none }) 0 n = .error .value :=
  ⟨Infretis.Lmp.lmp_single_atom_index_error a b (ha a (List.mem_cons_self)) hb,
   Infretis.Lmp.lmp_no_box_value_error a t ha n⟩

/-- **extract_frame_k (.lammpstrj).**  In a file made of appended frames of `n ≥ 2` atoms each,
    `read_lammpstrj(file, k, n)` for `k` below the number of frames returns frame `k` (sorted by id), `_extract_frame`
    writes exactly the canonical text of that frame, and re-reading that text gives the frame again. -/
theorem lmp_extract_frame_k (cs : List Conf) (n k : Nat) (hn : 2 ≤ n)
    (hcs : ∀ c ∈ cs, FrameOK n c) (hk : k < cs.length) :
    readFrame (writeFrames cs) (k : Int) n = .ok (sortConf cs[k])
    ∧ extractFrame (writeFrames cs) (k : Int) n = .ok (writeFrame (sortConf cs[k]))
    ∧ readFrame (writeFrame (sortConf cs[k])) 0 n = .ok (sortConf cs[k]) := by
  have hck := hcs _ (List.getElem_mem hk)
  obtain ⟨pre, post, hsplit, hpre⟩ := writeFrames_split cs hcs k hk
  have hread : readFrame (writeFrames cs) (k : Int) n = .ok (sortConf cs[k]) :=
    hsplit ▸ readFrame_at hck hn pre post k hpre
  refine ⟨hread, by simp [extractFrame, hread], ?_⟩
  rw [readFrame_single hck.sort hn, sortConf_of_sorted (sorted_sortConf _)]

/-- **reverse_only_negates_vel (.lammpstrj).**  `_reverse_velocities` on a written frame (`n ≥ 2` atoms) writes the
    frame sorted by id with every velocity token negated and ids, types, positions and box as they were; applying it
    twice gives the canonical (sorted) text of the original frame. -/
theorem lmp_reverse_only_negates_vel (c : Conf) (n : Nat) (hn : 2 ≤ n) (hc : FrameOK n c) :
    reverseVel (writeFrame c) n = .ok (writeFrame (negVel (sortConf c)))
    ∧ (negVel (sortConf c)).box = c.box
    ∧ (negVel (sortConf c)).atoms.map (fun a => (a.id, a.typ, a.pos))
        = (sortAtoms c.atoms).map (fun a => (a.id, a.typ, a.pos))
    ∧ (negVel (sortConf c)).atoms.map (fun a => a.vel) = (sortAtoms c.atoms).map (fun a => a.vel.map Num.negate)
    ∧ (∀ out, reverseVel (writeFrame c) n = .ok out → reverseVel out n = .ok (writeFrame (sortConf c))) := by
  have nv := negVel_only_vel (sortConf c)
  refine ⟨reverseVel_written hc hn, rfl, nv.2.1, nv.2.2.1, fun out hout => ?_⟩
  obtain rfl := Except.ok.inj ((reverseVel_written hc hn).symm.trans hout)
  rw [reverseVel_written hc.sort.neg hn, sortConf_of_sorted (sorted_negVel (sorted_sortConf c)), nv.2.2.2]

end Lmp

section Trr
open Infretis.Trr

/-- **trr_decode_endian_precision.**  For every size-consistent logical frame, both byte orders
    and both precisions, the reader returns exactly the frame's header integers and field bytes
    and stops at the end of the frame; in particular the big- and little-endian files of the
    same frame decode to the same values. -/
theorem trr_decode_endian_precision (e : Endian) (w : Nat) (f : LFrame) (h : LOK w f) (rest : Bytes) :
    decodeFrame (encodeFrame e w f ++ rest) = .ok (expectedHeader e w f, expectedData f, rest) :=
  Infretis.Trr.trr_decode_endian_precision e w f h rest

theorem trr_decode_endian_agree (w : Nat) (f : LFrame) (h : LOK w f) (r₁ r₂ : Bytes) :
    ∃ hb hl d, decodeFrame (encodeFrame .big w f ++ r₁) = .ok (hb, d, r₁)
      ∧ decodeFrame (encodeFrame .little w f ++ r₂) = .ok (hl, d, r₂)
      ∧ hb.sz = hl.sz ∧ hb.time = hl.time ∧ hb.lambda = hl.lambda ∧ hb.double = hl.double
      ∧ hb.endian = .big ∧ hl.endian = .little :=
  ⟨_, _, _, Infretis.Trr.trr_decode_endian_precision .big w f h r₁, Infretis.Trr.trr_decode_endian_precision .little w f h r₂,
    rfl, rfl, rfl, rfl, rfl, rfl⟩

/-- **extract_frame_k (TRR).**  In a file of size-consistent frames, each in its own byte order and precision,
    `read_trr_frame(file, k)` returns exactly frame `k`, and `(None, None)` for `k` beyond the last frame. -/
theorem trr_frame_k (frames : List (Endian × Nat × LFrame)) (hall : ∀ x ∈ frames, LOK x.2.1 x.2.2) (k : Nat) :
    (∀ hk : k < frames.length, readTrrFrame (encodeFrames frames) (k : Int)
        = .ok (some (expectedHeader frames[k].1 frames[k].2.1 frames[k].2.2, expectedData frames[k].2.2)))
    ∧ (frames.length ≤ k → readTrrFrame (encodeFrames frames) (k : Int) = .ok none) := by
  rw [readTrrFrame_frames frames hall k]
  exact ⟨fun hk => by rw [List.getElem?_eq_getElem hk]; rfl, fun hk => by rw [List.getElem?_eq_none hk]; rfl⟩

/-- `swap_integer` relates the two readings of the same four bytes -/
theorem trr_swap_integer_be_le (a b c d : UInt8) :
    swapInteger (be32 [a, b, c, d] : Nat) = le32 [a, b, c, d]
    ∧ swapInteger (le32 [a, b, c, d] : Nat) = be32 [a, b, c, d] :=
  ⟨swap_bytes _ _ _ _ a.toNat_lt b.toNat_lt c.toNat_lt d.toNat_lt,
   swap_bytes _ _ _ _ d.toNat_lt c.toNat_lt b.toNat_lt a.toNat_lt⟩

example : decodeFrame (encodeFrame .little 4 exF ++ [9, 9]) = .ok (expectedHeader .little 4 exF, expectedData exF, [9, 9]) :=
  Infretis.Trr.trr_decode_endian_precision .little 4 exF Infretis.Trr.exF_ok [9, 9]

end Trr

/-! ## 6. box matrices: `box_matrix_to_list` (TRR → g96, CP2K cell vectors)

The nine box numbers follow the .g96 convention `xx yy zz xy xz yx yz zx zy` (first letter =
row of the matrix).  The code offers no inverse; `listToMatrix` is the specification's. -/
section Box
open Infretis.Box

/-- **the fixed order**: with `full=True` (what `_extract_frame` and `_propagate_from` use) the
    nine numbers are `m[0,0] m[1,1] m[2,2] m[0,1] m[0,2] m[1,0] m[1,2] m[2,0] m[2,1]` -/
theorem box_component_order (m : M3) :
    boxMatrixToList m true = [m.xx, m.yy, m.zz, m.xy, m.xz, m.yx, m.yz, m.zx, m.zy] :=
  Infretis.Box.boxMatrixToList_full m

/-- **round trip matrix ↔ list for every box shape** (triclinic included): the matrix is
    recovered from its nine numbers, and every nine numbers are the flattening of one matrix -/
theorem box_list_matrix_roundtrip (m : M3) (l : List Int) (h : l.length = 9) :
    listToMatrix (boxMatrixToList m true) = some m ∧
    ∃ m', listToMatrix l = some m' ∧ boxMatrixToList m' true = l := by
  refine ⟨by rw [Infretis.Box.boxMatrixToList_full]; exact Infretis.Box.listToMatrix_g96Order m, ?_⟩
  obtain ⟨m', a, b⟩ := Infretis.Box.g96Order_listToMatrix l h
  exact ⟨m', a, by rw [Infretis.Box.boxMatrixToList_full]; exact b⟩

/-- without `full`: a rectangular box gives its three lengths, a matrix with more than three
    non-zero entries (every non-degenerate triclinic cell) its nine numbers in the same order -/
theorem box_short_and_long (a b c : Int) (m : M3) (hm : 3 < countNonzero m) :
    boxMatrixToList ⟨a, 0, 0, 0, b, 0, 0, 0, c⟩ false = [a, b, c] ∧
    boxMatrixToList m false = [m.xx, m.yy, m.zz, m.xy, m.xz, m.yx, m.yz, m.zx, m.zy] :=
  ⟨(Infretis.Box.short_diag a b c).1, Infretis.Box.long_of_nonzero m false hm⟩

example : boxMatrixToList ⟨1, 2, 3, 4, 5, 6, 7, 8, 9⟩ true = [1, 5, 9, 2, 3, 4, 6, 7, 8] ∧
    cellABC (10, 0, 0) (2, 11, 0) (3, 4, 12) = [10, 11, 12, 2, 3, 0, 4, 0, 0] ∧
    3 < countNonzero ⟨10, 2, 3, 0, 11, 4, 0, 0, 12⟩ := by decide

end Box

/-! ## 7. the CP2K cell reader: `read_box_data` / `read_cp2k_box`

`readBoxData lines` mirrors `cp2k.read_box_data` on the lines of the `FORCE_EVAL->SUBSYS->CELL` section (a line belongs
to key K iff it starts with `K` and ONE blank; the last line of a key wins; A, B, C are the COLUMNS of the matrix;
`box_matrix_to_list` flattens it); `readCp2kBox` is the whole `read_cp2k_box` from the file content (the CP2K parser
of section 3, `node_ref["FORCE_EVAL->SUBSYS->CELL"]`, the 100 Å fallback).  Numbers are the integer tokens
`[+-]digits[.0*]`; `vecLine K v` prints `K x y z` with decimal integers (the specification's writer). -/
section BoxData
open Infretis.BoxData
open Infretis.Box

/-- a printed integer is read back as itself (so is every list of them, left to right) -/
theorem cp2k_cell_number_roundtrip (i : Int) (v : List Int) :
    classify (intTok i) = .int i ∧ nums (v.map intTok) = .ok v :=
  ⟨classify_intTok i, nums_intToks v⟩

/-- a printed line `K x …` is recognised by its own key and by no other of the six -/
theorem cp2k_cell_line_own_key (k k' : Key) (x : Int) (r : List Int) :
    startsKey k' (vecLine k (x :: r)) = decide (k' = k) :=
  startsKey_vecLine k k' x r

/-- **read ∘ write (CP2K cell vectors).**  Whatever lines come first (read without error), the three lines `A …`,
    `B …`, `C …` make the box the flattening, in the order xx yy zz xy xz yx yz zx zy, of the matrix whose COLUMNS are
    A, B, C; earlier `A`/`B`/`C`/`ABC`/angle lines do not matter (the last line of a key wins, A/B/C take precedence);
    the periodic setting is the one collected from the preceding lines. -/
theorem cp2k_cell_read_write (pre : List Infretis.BoxData.Str) (d : BoxDict) (a b c : Int × Int × Int)
    (hpre : collect pre {} = .ok d) :
    readBoxData (pre ++ [vecLine .A (vec3 a), vecLine .B (vec3 b), vecLine .C (vec3 c)]) =
      .ok (some (cellABC a b c), periodicFlags d.periodic) :=
  readBoxData_cell pre d a b c hpre

example : collect ["PERIODIC xy".toList, "ABC 9 9 9".toList, "A 1 1 1".toList] {} =
    .ok { a := some [1, 1, 1], abc := some [9, 9, 9], periodic := some "xy".toList } ∧
    periodicFlags (some "xy".toList) = (true, true, false) := by str_lits; decide +kernel

/-- **the nine numbers lose nothing**: the matrix with columns A, B, C is recovered from the box that
    `read_box_data` returns — for every cell with more than three non-zero entries (every non-degenerate triclinic
    cell) and every diagonal cell.  (With ≤ 3 non-zero entries off the diagonal `box_matrix_to_list` returns the
    diagonal only: the `count_nonzero` rule of `boxMatrixToList`, `Model/CodecBox.lean`.) -/
theorem cp2k_cell_lossless (a b c : Int × Int × Int)
    (h : 3 < countNonzero (colMatrix a b c) ∨ colMatrix a b c = ⟨a.1, 0, 0, 0, b.2.1, 0, 0, 0, c.2.2⟩) :
    listToMatrix (cellABC a b c) = some (colMatrix a b c) :=
  cell_lossless a b c h

example : 3 < countNonzero (colMatrix (10, 0, 0) (2, 11, 0) (3, 4, 12)) ∧
    colMatrix (10, 0, 0) (2, 11, 0) (3, 4, 12) = ⟨10, 2, 3, 0, 11, 4, 0, 0, 12⟩ := by decide

/-- `ABC` alone gives the numbers as they are (any count ≥ 1); lengths with three right angles give the rectangular
    box `l0, |l1|, |l2|` (for `l1 ≠ 0`; the only rational case of `box_vector_angles`: cos 90° is replaced by 0.0) -/
theorem cp2k_cell_lengths (x : Int) (v : List Int) (l0 l1 l2 : Int) (h1 : l1 ≠ 0) :
    readBoxData [vecLine .ABC (x :: v)] = .ok (some (x :: v), (true, true, true)) ∧
    readBoxData [vecLine .ABC [l0, l1, l2], vecLine .ABG [90, 90, 90]] =
      .ok (some [l0, (l1.natAbs : Int), (l2.natAbs : Int)], (true, true, true)) := by
  unfold readBoxData
  constructor
  · simp only [collect, stepKeys_vecLine .ABC (by decide), setVec, finish]
    rfl
  · simp only [collect, stepKeys_vecLine .ABC (by decide), stepKeys_vecLine .ABG (by decide), setVec, finish]
    simp only [h1, ne_eq, not_false_eq_true, and_self, if_true, (short_diag l0 _ _).1]
    rfl

/-- the rules that are easy to trip over, on concrete lines (kernel-checked): a lower-case key, a tab after the key
    and a key without blank are NOT recognised; a unit in brackets is a ValueError; a vector of two numbers cannot be
    a column; fewer than three angles is an IndexError; `PERIODIC NONE` switches all three directions off -/
theorem cp2k_cell_reader_rules :
    readBoxData ["a 1 2 3".toList, "A\t7 7 7".toList, "ABC".toList] = .ok (none, (true, true, true)) ∧
    readBoxData ["ABC [angstrom] 10 10 10".toList] = .error .value ∧
    readBoxData ["A 1 2".toList, "B 1 2 3".toList, "C 1 2 3".toList] = .error .value ∧
    readBoxData ["ABC 1 2 3".toList, "ALPHA_BETA_GAMMA 90 90".toList] = .error .index ∧
    readBoxData ["PERIODIC NONE".toList] = .ok (none, (false, false, false)) := by
  str_lits
  refine ⟨?_, ?_, ?_, ?_, ?_⟩
  all_goals decide +kernel

/-- `read_cp2k_box` end to end on file contents: the CELL section is found through the section tree (section names
    in any case), its lines are read by `read_box_data`; a file without `FORCE_EVAL->SUBSYS->CELL` gives the fallback -/
theorem cp2k_box_from_file :
    readCp2kBox "&force_eval\n &SUBSYS\n  &CELL\n   A 10 0 0\n   B 2 11 0\n   C 3 4 12\n   PERIODIC XY\n  &END CELL\n &END SUBSYS\n&END\n".toList
      = .ok (.cell (some [10, 11, 12, 2, 3, 0, 4, 0, 0]) (true, true, false)) ∧
    readCp2kBox "&FORCE_EVAL\n &SUBSYS\n &END SUBSYS\n&END\n".toList = .ok .fallback := by
  str_lits; decide +kernel

end BoxData

end Infretis.C19
