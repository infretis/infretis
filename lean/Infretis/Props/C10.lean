import Infretis.Props.C10Core
import Infretis.Props.C10Ext
import Infretis.Props.C10Audit
/-!
# C10 — wire-fencing weights are exact, symmetric and drive segment choice

Imports the three files of property theorems (all in `namespace Infretis.C10`): `C10Core` (the scan against its
scan-free specification, symmetry, positivity, the pick law, the weight vector), `C10Ext` (model `Model/WFExt.lean`:
the weight functions as they are called) and `C10Audit` (every left/right pair, time reversal, `load_paths`,
`run_md`, `path_arr`).
-/
