import Infretis.Lemmas.PathAlg
import Infretis.Lemmas.PathAlgCls
import Infretis.Lemmas.PathAlgRev
import Infretis.Lemmas.PathAlgWF
import Infretis.Lemmas.PathAlgExt
/-!
# C15 — path algebra: paste, reverse, copy and classification are consistent

Model: `Infretis/Model/PathAlg.lean` (mirrors `infretis/classes/path.py`, `system.py`).
Paths of any length, any limit (`maxlen` may be `None`, zero or negative), any heap.

The clause "reversing twice restores the frames" holds exactly under the two guards of `reverse_reverse`:
the path is within its limit (`hfits`; otherwise the first reversal truncates:
`reverse_reverse_overlimit_counterexample`, a state reachable through `load_paths_from_disk` / a lowered
`maxlen`) and, when the order parameter is re-computed, the stored orders are the ones the order function
computes (`hcons`; otherwise `reverse_reverse_stale_order_counterexample`).  `paste_paths` is modelled as the
repaired code (960b399); the behaviour before it is `pasteV .asIs` (`paste_none_limit_asIs_counterexample`).

Vocabulary: `capTake ml xs` = `xs` truncated at the limit `ml` (`None` = no limit, limits ≤ 0 keep
nothing); `capLen ml n` = the corresponding length; `WF h rs` = all references in `rs` point into
the heap `h`; `h.look r` = the object behind reference `r` (`none` if dangling).
-/
namespace Infretis.C15
open Infretis.PathAlg

/-! ## paste_paths -/

/-- the frames offered by `paste_paths`: the backward segment reversed, then the forward segment
    without its first point when the segments overlap -/
def pasteSeq (back forw : Path) (ov : Bool) : List Nat :=
  back.frames.reverse ++ (if ov then forw.frames.drop 1 else forw.frames)

/-- **The limit of the pasted path** as the (repaired, 960b399) code computes it, for EVERY pair of
    limits: the explicit `maxlen` if given, else the common limit, else — when exactly one of the two
    is `None` — the other one, else the larger one.  It never fails. -/
theorem paste_limit (bm fm ml : Option Int) :
    pasteMaxlen bm fm ml =
      match ml, bm, fm with
      | some m, _, _ => .ok (some m)
      | none, none, none => .ok none
      | none, some a, some b => .ok (some (max a b))
      | none, none, some b => .ok (some b)
      | none, some a, none => .ok (some a) := by
  cases ml with
  | some m => rfl
  | none =>
    cases bm with
    | none => cases fm <;> simp [pasteMaxlen, pasteMaxlenV]
    | some a =>
      cases fm with
      | none => simp [pasteMaxlen, pasteMaxlenV]
      | some b =>
        simp only [pasteMaxlen, pasteMaxlenV]
        by_cases hab : a = b
        · subst hab; simp
        · rw [if_neg (fun h => hab (Option.some.inj h))]
          congr 2
          by_cases h : b > a
          · rw [if_pos h]; omega
          · rw [if_neg h]; omega

/-- **`paste_paths` is total**: for every pair of segments, every pair of limits (also exactly one
    `None`), every overlap flag and every explicit limit it returns a path. -/
theorem paste_total (back forw : Path) (ov : Bool) (ml : Option Int) :
    ∃ np, paste back forw ov ml = .ok np := by
  have : ∃ cap, pasteMaxlen back.maxlen forw.maxlen ml = .ok cap := by
    rw [paste_limit]
    cases ml with
    | some m => exact ⟨_, rfl⟩
    | none => cases back.maxlen <;> cases forw.maxlen <;> exact ⟨_, rfl⟩
  obtain ⟨cap, hc⟩ := this
  exact ⟨_, paste_closed back forw ov ml cap hc⟩

/-- **Before fix 960b399** (`Variant.asIs`) the limit computation was `max(path_back.maxlen,
    path_forw.maxlen)`, which raises TypeError when exactly one limit is `None`: pasting an unlimited
    backward segment with a forward segment limited to 100 frames failed although the property
    quantifies over all limits.  The repaired code picks the other limit. -/
theorem paste_none_limit_asIs_counterexample :
    let back : Path := { Path.empty none 0 with frames := [0, 1] }
    let forw : Path := { Path.empty (some 100) 0 with frames := [0, 2] }
    pasteV .asIs back forw true none = .error .type
    ∧ pasteV .asIs forw back true none = .error .type
    ∧ (paste back forw true none).map (fun np => (np.maxlen, np.frames)) = .ok (some 100, [1, 0, 2])
    ∧ (paste forw back true none).map (fun np => (np.maxlen, np.frames)) = .ok (some 100, [2, 0, 1]) := by
  refine ⟨rfl, rfl, rfl, rfl⟩

/-- the two variants are the same function wherever the old code did not raise -/
theorem pasteV_agree (back forw np : Path) (ov : Bool) (ml : Option Int)
    (h : pasteV .asIs back forw ov ml = .ok np) : paste back forw ov ml = .ok np := by
  unfold pasteV at h
  unfold paste
  cases hk : pasteMaxlenV .asIs back.maxlen forw.maxlen ml with
  | error e => rw [hk] at h; cases h
  | ok c => rw [pasteMaxlen_of_asIs _ _ _ _ hk]; rw [hk] at h; exact h

/-- `paste_paths` fails only through the limit computation (which, by `paste_limit`, never fails:
    see `paste_total`) -/
theorem paste_error_iff (back forw : Path) (ov : Bool) (ml : Option Int) (e : Err) :
    paste back forw ov ml = .error e ↔ pasteMaxlen back.maxlen forw.maxlen ml = .error e := by
  cases hc : pasteMaxlen back.maxlen forw.maxlen ml with
  | error e' => simp [paste, hc]
  | ok cap => rw [paste_closed back forw ov ml cap hc]; simp

/-- **paste_order.** The pasted path holds exactly the references of reversed(back) followed by the
    forward frames (minus the shared point), truncated at the limit; its limit is the computed one
    and its other attributes are those of a new path. No System is copied. -/
theorem paste_order (back forw np : Path) (ov : Bool) (ml : Option Int)
    (h : paste back forw ov ml = .ok np) :
    pasteMaxlen back.maxlen forw.maxlen ml = .ok np.maxlen
    ∧ np.frames = capTake np.maxlen (pasteSeq back forw ov)
    ∧ np.status = 0 ∧ np.generated = none ∧ np.pathNumber = none ∧ np.weights = none ∧ np.weight = 0 := by
  obtain ⟨cap, hc, rfl⟩ := paste_ok back forw np ov ml h
  exact ⟨hc, rfl, rfl, rfl, rfl, rfl, rfl⟩

/-- **paste_length.** `len = min(limit, |back| + |forw| − [overlap])` (no `min` when the limit is `None`;
    an empty forward segment has no shared point to drop). -/
theorem paste_length (back forw np : Path) (ov : Bool) (ml : Option Int)
    (h : paste back forw ov ml = .ok np) :
    np.frames.length
      = capLen np.maxlen (back.frames.length + (forw.frames.length - (if ov then 1 else 0))) := by
  rw [(paste_order back forw np ov ml h).2.1, length_capTake]
  congr 1
  unfold pasteSeq
  cases ov <;> simp

/-- **paste_head_is_last_backward.** If the backward segment is non-empty and the limit admits at
    least one frame, the pasted path begins with the last backward frame (the same object). -/
theorem paste_head_is_last_backward (back forw np : Path) (ov : Bool) (ml : Option Int)
    (h : paste back forw ov ml = .ok np) (hb : back.frames ≠ []) (hlim : capLen np.maxlen 1 = 1) :
    np.frames.head? = back.frames.getLast? := by
  rw [(paste_order back forw np ov ml h).2.1]
  have hhead : (pasteSeq back forw ov).head? = back.frames.getLast? := by
    unfold pasteSeq
    rw [List.head?_append, List.head?_reverse]
    cases hl : back.frames.getLast? with
    | none => exact absurd (List.getLast?_eq_none_iff.1 hl) hb
    | some x => rfl
  cases hm : np.maxlen with
  | none => simpa [capTake] using hhead
  | some m =>
    rw [hm] at hlim
    simp only [capLen] at hlim
    simp only [capTake]
    rw [List.head?_take, if_neg (by omega)]
    exact hhead

/-- **paste_time_origin.** The pasted path starts at the time of the last backward frame. -/
theorem paste_time_origin (back forw np : Path) (ov : Bool) (ml : Option Int)
    (h : paste back forw ov ml = .ok np) :
    np.timeOrigin = back.timeOrigin - (back.frames.length : Int) + 1 := by
  obtain ⟨cap, _, rfl⟩ := paste_ok back forw np ov ml h
  rfl

/-- **paste shares references**: every frame of the pasted path IS a frame object of one of the two
    segments, so a field assignment through the pasted path is seen through the segment (and vice
    versa). This is the precise list of sharing for `paste_paths`. -/
theorem paste_shares_refs (back forw np : Path) (ov : Bool) (ml : Option Int)
    (h : paste back forw ov ml = .ok np) :
    ∀ r ∈ np.frames, r ∈ back.frames ∨ r ∈ forw.frames :=
  paste_frames_sub back forw np ov ml h

example :
    let back : Path := { Path.empty (some 10) 7 with frames := [0, 1, 2] }
    let forw : Path := { Path.empty (some 4) 0 with frames := [0, 3, 4] }
    paste back forw true none = .ok ({ Path.empty (some 10) 5 with frames := [2, 1, 0, 3, 4] })
    ∧ (paste back forw true (some 4)).map (·.frames) = .ok [2, 1, 0, 3]
    ∧ (paste back forw false (some (-1))).map (·.frames) = .ok [] := by
  refine ⟨rfl, rfl, rfl⟩

/-- one limit `None`: the other is picked (before 960b399: `max(None, int)` raised TypeError) -/
example : (paste (Path.empty none 0) (Path.empty (some 3) 0) true none).map (·.maxlen) = .ok (some 3)
    ∧ pasteV .asIs (Path.empty none 0) (Path.empty (some 3) 0) true none = .error .type := ⟨rfl, rfl⟩


/-! ## copy, `+=`, append: what is fresh and what is shared -/

/-- **copy allocates fresh references**: the frames of `p.copy()` are the next unused references,
    as many as the limit admits. -/
theorem copy_frames_fresh (h : Heap) (p : Path) (hwf : WF h p.frames) :
    (Path.copy h p).2.frames = List.range' h.sys.length (capLen p.maxlen p.frames.length) := by
  rw [copy_eq h p hwf]

/-- **copy carries the same values** (shallow: the whole System record including the identity of its
    `order` list object), truncated at the limit, and the attributes `status`, `time_origin`,
    `generated`, `maxlen`, `path_number`, `weights`; `weight` is NOT carried (stays 0). -/
theorem copy_values (h : Heap) (p : Path) (hwf : WF h p.frames) :
    (Path.copy h p).2.frames.map (Path.copy h p).1.look = capTake p.maxlen (p.frames.map h.look)
    ∧ (Path.copy h p).2.maxlen = p.maxlen ∧ (Path.copy h p).2.status = p.status
    ∧ (Path.copy h p).2.timeOrigin = p.timeOrigin ∧ (Path.copy h p).2.generated = p.generated
    ∧ (Path.copy h p).2.pathNumber = p.pathNumber ∧ (Path.copy h p).2.weights = p.weights
    ∧ (Path.copy h p).2.weight = 0 := by
  rw [copy_eq h p hwf]
  refine ⟨?_, rfl, rfl, rfl, rfl, rfl, rfl, rfl⟩
  have := copyEach_new_looks id false p.frames h (Path.empty p.maxlen 0) hwf
  rw [room_empty] at this
  rw [this, ← take_capLen, List.length_map, List.map_take]
  simp

/-- objects that existed before `p.copy()` are untouched by it -/
theorem copy_old_untouched (h : Heap) (p : Path) (hwf : WF h p.frames) (r : Nat) (hr : r < h.sys.length) :
    (Path.copy h p).1.look r = h.look r :=
  copyEach_old id false p.frames h (Path.empty p.maxlen 0) hwf r hr

/-- **copy_independent.** After `p' = p.copy()`, re-assigning ANY field of ANY frame of `p'` leaves
    every object that existed before the copy — in particular every frame of `p` — exactly as it
    was. -/
theorem copy_independent (h : Heap) (p : Path) (hwf : WF h p.frames)
    (r' : Nat) (hr' : r' ∈ (Path.copy h p).2.frames) (fld : Field) :
    (∀ r, r < h.sys.length → (assignField (Path.copy h p).1 r' fld).look r = h.look r)
    ∧ (∀ r ∈ p.frames, (assignField (Path.copy h p).1 r' fld).look r = h.look r) := by
  rw [copy_frames_fresh h p hwf] at hr'
  have key := assignField_fresh_ref h _ (copy_old_untouched h p hwf) r' (List.mem_range'_1.1 hr').1 fld
  exact ⟨key, fun r hr => key r (hwf r hr)⟩

/-- The independence is that of a SHALLOW copy: it does not extend to in-place mutation of the
    shared `order` list (`copy.frames[0].order[0] = 9` is seen through the original). -/
theorem copy_inplace_counterexample :
    let v : Vals := { config := (0, 0), order := [1], velRev := false, ekin := none, vpot := none,
                      pos := 0, vel := 0, box := 0, temp := 0 }
    let h : Heap := { sys := [{ v := v, orderObj := 0 }], nOrd := 1 }
    let p : Path := { Path.empty none 0 with frames := [0] }
    (Path.copy h p).2.frames = [1]
    ∧ (((Path.copy h p).1.setItem0 1 9).bind (fun h' => h'.look 0)).map (·.v.order) = some [9]
    ∧ (h.look 0).map (·.v.order) = some [1] := by
  refine ⟨rfl, rfl, rfl⟩

/-- **`+=` keeps its own frames and adds fresh copies**: the frames already in `self` stay the same
    references; as many copies of `other`'s frames as the limit admits are appended under fresh
    references, with the same values. -/
theorem iadd_frames (h : Heap) (self other : Path) (hwf : WF h other.frames) :
    (Path.iadd h self other).2
        = self.withFrames (self.frames ++ List.range' h.sys.length (room self other.frames.length))
    ∧ (List.range' h.sys.length (room self other.frames.length)).map (Path.iadd h self other).1.look
        = (other.frames.take (room self other.frames.length)).map h.look
    ∧ (∀ r, r < h.sys.length → (Path.iadd h self other).1.look r = h.look r) := by
  refine ⟨copyEach_frames id true other.frames h self hwf, ?_, ?_⟩
  · have := copyEach_new_looks id true other.frames h self hwf
    unfold Path.iadd
    rw [this]; simp
  · exact fun r hr => copyEach_old id true other.frames h self hwf r hr

/-- frames added by `+=` are independent of the source path -/
theorem iadd_independent (h : Heap) (self other : Path) (hwf : WF h other.frames)
    (r' : Nat) (hr' : r' ∈ List.range' h.sys.length (room self other.frames.length)) (fld : Field) :
    ∀ r ∈ other.frames, (assignField (Path.iadd h self other).1 r' fld).look r = h.look r :=
  fun r hr => assignField_fresh_ref h _ (iadd_frames h self other hwf).2.2 r' (List.mem_range'_1.1 hr').1 fld r
    (hwf r hr)

/-- **append shares the reference**: `Path.append` stores the very object it is given (if the limit
    admits it), it never copies. -/
theorem append_shares_ref (p : Path) (r : Nat) :
    p.append r = if p.canAppend then (p.withFrames (p.frames ++ [r]), true) else (p, false) :=
  rfl

example :
    let v : Vals := { config := (0, 0), order := [1], velRev := false, ekin := none, vpot := none,
                      pos := 0, vel := 0, box := 0, temp := 0 }
    let h : Heap := { sys := [{ v := v, orderObj := 0 }, { v := flipV v, orderObj := 1 }], nOrd := 2 }
    let p : Path := { Path.empty (some 5) 3 with frames := [0, 1], status := 2 }
    WF h p.frames ∧ (Path.copy h p).2.frames = [2, 3] ∧ (Path.copy h p).2.status = 2 := by
  refine ⟨?_, rfl, rfl⟩
  intro r hr
  simp at hr
  rcases hr with rfl | rfl <;> decide


/-! ## reverse

`vals h p` = the field values of the frames of `p` in heap `h`; `revVals ofn rv v` = `v` with
`vel_rev` flipped when `rev_v` and, when moreover an order function is given that is velocity
dependent, `order` re-computed by it on the flipped frame. -/

/-- **reverse_frames.** The reversed path carries the frames in reversed order (each transformed by
    `revVals`), truncated at the limit; it has the same limit and `weights`, and fresh attributes
    otherwise (`time_origin = 0`, empty status, …). -/
theorem reverse_frames (h : Heap) (p : Path) (ofn : Option OrderFn) (rv : Bool) (hwf : WF h p.frames) :
    vals (Path.reverse h p ofn rv).1 (Path.reverse h p ofn rv).2
        = capTake p.maxlen ((vals h p).reverse.map (Option.map (revVals ofn rv)))
    ∧ (Path.reverse h p ofn rv).2.maxlen = p.maxlen ∧ (Path.reverse h p ofn rv).2.weights = p.weights
    ∧ (Path.reverse h p ofn rv).2.timeOrigin = 0 ∧ (Path.reverse h p ofn rv).2.status = 0
    ∧ (Path.reverse h p ofn rv).2.generated = none ∧ (Path.reverse h p ofn rv).2.pathNumber = none
    ∧ (Path.reverse h p ofn rv).2.weight = 0 := by
  refine ⟨reverse_vals h p ofn rv hwf, ?_⟩
  rw [reverse_snd h p ofn rv hwf]
  exact ⟨rfl, rfl, rfl, rfl, rfl, rfl, rfl⟩

/-- **reverse_flags.** Frame `k` of the reversed path has the velocity flag of frame `n−1−k` of the
    original, flipped iff `rev_v`. -/
theorem reverse_flags (h : Heap) (p : Path) (ofn : Option OrderFn) (rv : Bool) (hwf : WF h p.frames) :
    (vals (Path.reverse h p ofn rv).1 (Path.reverse h p ofn rv).2).map (Option.map (·.velRev))
      = capTake p.maxlen ((vals h p).reverse.map (Option.map (fun v => v.velRev != rv))) := by
  rw [reverse_vals h p ofn rv hwf, map_capTake, List.map_map]
  congr 1
  apply List.map_congr_left
  intro o _
  cases o with
  | none => rfl
  | some v => simp [revVals_velRev]

theorem reverse_length (h : Heap) (p : Path) (ofn : Option OrderFn) (rv : Bool) (hwf : WF h p.frames) :
    (Path.reverse h p ofn rv).2.frames.length = capLen p.maxlen p.frames.length := by
  rw [reverse_snd h p ofn rv hwf]; simp

/-- **reverse returns an independent path**: its frames are fresh references, the objects that
    existed before are untouched by `reverse` and by any later field assignment through the
    reversed path. -/
theorem reverse_independent (h : Heap) (p : Path) (ofn : Option OrderFn) (rv : Bool) (hwf : WF h p.frames)
    (r' : Nat) (hr' : r' ∈ (Path.reverse h p ofn rv).2.frames) (fld : Field) :
    h.sys.length ≤ r'
    ∧ (∀ r, r < h.sys.length → (Path.reverse h p ofn rv).1.look r = h.look r)
    ∧ (∀ r ∈ p.frames, (assignField (Path.reverse h p ofn rv).1 r' fld).look r = h.look r) := by
  rw [reverse_snd h p ofn rv hwf] at hr'
  have hge : h.sys.length ≤ r' := (List.mem_range'_1.1 hr').1
  have hold := (reverse_heap h p ofn rv hwf).2
  exact ⟨hge, hold, fun r hr => assignField_fresh_ref h _ hold r' hge fld r (hwf r hr)⟩

/-- **reverse_reverse.** For a path within its limit, reversing twice (same arguments) restores the
    field values of all frames, in order. When the order parameter is re-computed (velocity
    dependent order function and `rev_v`), this needs what any order function satisfies: it does
    not read the stored `order`, and the stored `order` of the original frames is the one it
    computes. -/
theorem reverse_reverse (h : Heap) (p : Path) (ofn : Option OrderFn) (rv : Bool) (hwf : WF h p.frames)
    (hfits : capLen p.maxlen p.frames.length = p.frames.length)
    (hcons : ∀ f, ofn = some f → f.velDep = true → rv = true →
      (∀ w o, f.calcF { w with order := o } = f.calcF w)
      ∧ ∀ r ∈ p.frames, ∀ s, h.look r = some s → f.calcF s.v = s.v.order) :
    vals (Path.reverse (Path.reverse h p ofn rv).1 (Path.reverse h p ofn rv).2 ofn rv).1
         (Path.reverse (Path.reverse h p ofn rv).1 (Path.reverse h p ofn rv).2 ofn rv).2
      = vals h p := by
  -- the reversed path is within its limit too, so neither reversal loses a frame
  have hfits1 : capLen (Path.reverse h p ofn rv).2.maxlen (Path.reverse h p ofn rv).2.frames.length
      = (Path.reverse h p ofn rv).2.frames.length := by
    rw [(reverse_frames h p ofn rv hwf).2.1, reverse_length h p ofn rv hwf, hfits, hfits]
  rw [reverse_vals_of_fits _ _ ofn rv (reverse_wf h p ofn rv hwf) hfits1,
    reverse_vals_of_fits h p ofn rv hwf hfits, ← List.map_reverse, List.reverse_reverse, List.map_map]
  conv => rhs; rw [← List.map_id (vals h p)]
  apply List.map_congr_left
  intro o ho
  unfold vals at ho
  obtain ⟨r, hr, rfl⟩ := List.mem_map.1 ho
  cases hl : h.look r with
  | none => rfl
  | some s =>
    simp only [Function.comp, Option.map_some, id]
    congr 1
    apply revVals_revVals
    intro f hf hvd hrv
    obtain ⟨c1, c2⟩ := hcons f hf hvd hrv
    exact ⟨c1, c2 r hr s hl⟩

/-- non-vacuity of `reverse_reverse` WITH order re-computation: the stored orders are the ones the order
    function computes (`hcons`), the path is within its limit (`hfits`); the theorem is applied -/
example :
    let v : Vals := { config := (0, 0), order := [3], velRev := false, ekin := none, vpot := none,
                      pos := 1, vel := 2, box := 0, temp := 0 }
    let w : Vals := { v with order := [3], velRev := true, pos := 5 }
    let h : Heap := { sys := [{ v := v, orderObj := 0 }, { v := w, orderObj := 1 }], nOrd := 2 }
    let p : Path := { Path.empty (some 5) 3 with frames := [0, 1] }
    let f : OrderFn := { velDep := true, calcF := fun x => [x.pos + (if x.velRev then -1 else 1) * x.vel] }
    vals (Path.reverse h p (some f) true).1 (Path.reverse h p (some f) true).2
      = [some { w with velRev := false, order := [7] }, some { v with velRev := true, order := [-1] }]
    ∧ vals (Path.reverse (Path.reverse h p (some f) true).1 (Path.reverse h p (some f) true).2 (some f) true).1
           (Path.reverse (Path.reverse h p (some f) true).1 (Path.reverse h p (some f) true).2 (some f) true).2
        = vals h p := by
  intro v w h p f
  refine ⟨by decide +kernel +revert, ?_⟩
  apply reverse_reverse h p (some f) true
  · intro r hr
    have : r = 0 ∨ r = 1 := by simpa [p, Path.empty] using hr
    rcases this with rfl | rfl <;> decide
  · rfl
  · intro f' hf _ _
    have hf' : f = f' := Option.some.inj hf
    subst hf'
    refine ⟨fun _ _ => rfl, ?_⟩
    intro r hr s hs
    have : r = 0 ∨ r = 1 := by simpa [p, Path.empty] using hr
    rcases this with rfl | rfl
    · have : s = { v := v, orderObj := 0 } := (Option.some.inj hs).symm
      subst this; rfl
    · have : s = { v := w, orderObj := 1 } := (Option.some.inj hs).symm
      subst this; rfl

/-- **`reverse_reverse` needs `hfits`**: a path LONGER than its limit is reachable
    (`load_paths_from_disk` fills `phasepoints` directly and sets `maxlen` afterwards; `tis.py` lowers
    `maxlen` of existing paths).  On the op machine: 4 frames (orders 0,1,2,3), then the limit is set to 3:
    the first `reverse` keeps only the 3 latest frames (3,2,1), the second gives (1,2,3) — reversing
    twice does NOT restore the frames (path 0 ≠ path 2), and the state violates exactly `hfits`. -/
theorem reverse_reverse_overlimit_counterexample :
    let v : Vals := { config := (0, 0), order := [0], velRev := false, ekin := none, vpot := none,
                      pos := 0, vel := 0, box := 0, temp := 0 }
    let m := Machine.init.run [.new none 0, .sys 0 v, .sys 0 { v with order := [1] }, .sys 0 { v with order := [2] },
      .sys 0 { v with order := [3] }, .pset 0 (.maxlen (some 3)), .rev 0 none true, .rev 1 none true]
    m.paths.map (fun p => (vals m.heap p).map (Option.map (·.order)))
      = [[some [0], some [1], some [2], some [3]], [some [3], some [2], some [1]], [some [1], some [2], some [3]]]
    ∧ m.paths.map (fun p => decide (capLen p.maxlen p.frames.length = p.frames.length)) = [false, true, true]
    ∧ (∀ p0 p2, m.paths[0]? = some p0 → m.paths[2]? = some p2 → vals m.heap p2 ≠ vals m.heap p0) := by
  intro v m
  have e : m.paths.map (fun p => (vals m.heap p).map (Option.map (·.order)))
      = [[some [0], some [1], some [2], some [3]], [some [3], some [2], some [1]], [some [1], some [2], some [3]]] := by
    decide +kernel +revert
  refine ⟨e, by decide +kernel +revert, ?_⟩
  intro p0 p2 h0 h2 hh
  -- entries 0 and 2 of the table above would be the same
  have e0 := congrArg (·[0]?) e
  have e2 := congrArg (·[2]?) e
  simp only [List.getElem?_map, h0, h2, hh, Option.map_some] at e0 e2
  exact absurd (e0.symm.trans e2) (by decide)

/-- **`reverse_reverse` needs `hcons`**: when a frame's stored `order` is NOT what the (velocity
    dependent) order function computes for it — a stale value — the second reversal re-computes it, so
    the frames are not restored (stored 7, recomputed 3). -/
theorem reverse_reverse_stale_order_counterexample :
    let v : Vals := { config := (0, 0), order := [7], velRev := false, ekin := none, vpot := none,
                      pos := 1, vel := 2, box := 0, temp := 0 }
    let h : Heap := { sys := [{ v := v, orderObj := 0 }], nOrd := 1 }
    let p : Path := { Path.empty none 0 with frames := [0] }
    let f : OrderFn := { velDep := true, calcF := fun x => [x.pos + (if x.velRev then -1 else 1) * x.vel] }
    let r1 := Path.reverse h p (some f) true
    let r2 := Path.reverse r1.1 r1.2 (some f) true
    vals r2.1 r2.2 = [some { v with order := [3] }] ∧ vals h p = [some v] ∧ vals r2.1 r2.2 ≠ vals h p
    ∧ f.calcF v ≠ v.order := by
  intro v h p f r1 r2
  refine ⟨by decide +kernel +revert, by decide +kernel +revert, by decide +kernel +revert,
    by decide +kernel +revert⟩

/-! ## classification: ordermin / ordermax / start / end / crossing against the sequence -/

/-- **ordermin agrees with the minimum** of the sequence and reports the FIRST index attaining it
    (`np.argmin`). -/
theorem ordermin_agrees (ops : List Int) (hne : ops ≠ []) :
    ∃ v j, ordermin ops = .ok (v, j) ∧ ops[j]? = some v ∧ (∀ x ∈ ops, v ≤ x)
      ∧ (∀ k y, k < j → ops[k]? = some y → v < y) := by
  cases ops with
  | nil => exact absurd rfl hne
  | cons a t => exact ⟨_, _, rfl, ordermin_isFirstMin a t⟩

/-- **ordermax agrees with the maximum** of the sequence and reports the FIRST index attaining it. -/
theorem ordermax_agrees (ops : List Int) (hne : ops ≠ []) :
    ∃ v j, ordermax ops = .ok (v, j) ∧ ops[j]? = some v ∧ (∀ x ∈ ops, x ≤ v)
      ∧ (∀ k y, k < j → ops[k]? = some y → y < v) := by
  cases ops with
  | nil => exact absurd rfl hne
  | cons a t => exact ⟨_, _, rfl, ordermax_isFirstMax a t⟩

/-- empty path: `np.argmin([])` raises ValueError, `phasepoints[0]` IndexError (after the assertion),
    `check_interfaces` warns and returns `(None, None, "*", [False, …])` for any interface list. -/
theorem empty_path_behaviour (intf : List Int) (left : Int) (right : Option Int) :
    ordermin [] = .error .value ∧ ordermax [] = .error .value
    ∧ checkInterfaces [] intf = .ok ⟨none, none, false, intf.map (fun _ => false)⟩
    ∧ (startPoint [] left right = .error .index ∨ startPoint [] left right = .error .assert)
    ∧ (endPoint [] left right = .error .index ∨ endPoint [] left right = .error .assert) := by
  refine ⟨rfl, rfl, rfl, ?_, ?_⟩
  · cases right with
    | none => left; simp [startPoint]
    | some r => by_cases h : left ≤ r <;> simp [startPoint, h]
  · cases right with
    | none => left; simp [endPoint]
    | some r => by_cases h : left ≤ r <;> simp [endPoint, h]

/-- **start / end point** for `left ≤ right` (`right = None` means `right = left`): `L` iff the
    first (last) value is `≤ left`, `R` iff it is `> left` and `≥ right`, undefined strictly between;
    values EQUAL to an interface count as beyond it. `left > right` raises AssertionError. -/
theorem start_end_agree (ops : List Int) (first last : Int) (left : Int) (right : Option Int) (r : Int)
    (hr : right = some r ∨ (right = none ∧ r = left))
    (hf : ops.head? = some first) (hl : ops.getLast? = some last) :
    (left ≤ r →
      startPoint ops left right = .ok (if first ≤ left then .L else if r ≤ first then .R else .U)
      ∧ endPoint ops left right = .ok (if last ≤ left then .L else if r ≤ last then .R else .U))
    ∧ (r < left → startPoint ops left right = .error .assert ∧ endPoint ops left right = .error .assert) := by
  rcases hr with rfl | ⟨rfl, rfl⟩
  · constructor
    · intro hle
      simp [startPoint, endPoint, sideOf, hf, hl, hle]
    · intro hlt
      simp only [startPoint, endPoint, if_neg (by omega : ¬ left ≤ r)]
      exact ⟨trivial, trivial⟩
  · constructor
    · intro hle
      simp [startPoint, endPoint, sideOf, hf, hl]
    · intro hlt; omega

/-- **classification_agrees.** For every non-empty order sequence and every interface list with at
    least two members (in particular every triple, in any order, with or without equal members):
    `check_interfaces` succeeds and
    * `cross[k]` is true iff some frame lies strictly below interface `k` and some frame lies at or
      above it (i.e. `min < λ_k ≤ max`),
    * `middle` is `"M"` iff `cross[1]`,
    * start is `L` iff the first value is `≤` every interface, `R` iff it is not `L` and `≥` every
      interface, else `?`; the same for the end point with the last value. -/
theorem classification_agrees (ops intf : List Int) (first last : Int)
    (hf : ops.head? = some first) (hl : ops.getLast? = some last) (h2 : 2 ≤ intf.length) :
    ∃ c, checkInterfaces ops intf = .ok c
      ∧ c.cross = intf.map (fun lam => decide ((∃ x ∈ ops, x < lam) ∧ (∃ y ∈ ops, lam ≤ y)))
      ∧ (c.middle = true ↔ c.cross[1]? = some true)
      ∧ (c.start = some .L ↔ ∀ lam ∈ intf, first ≤ lam)
      ∧ (c.start = some .R ↔ (¬ ∀ lam ∈ intf, first ≤ lam) ∧ ∀ lam ∈ intf, lam ≤ first)
      ∧ c.start ≠ none
      ∧ (c.end_ = some .L ↔ ∀ lam ∈ intf, last ≤ lam)
      ∧ (c.end_ = some .R ↔ (¬ ∀ lam ∈ intf, last ≤ lam) ∧ ∀ lam ∈ intf, lam ≤ last)
      ∧ c.end_ ≠ none := by
  cases ops with
  | nil => simp at hf
  | cons a t =>
    match intf, h2 with
    | i0 :: i1 :: rest, _ =>
      obtain ⟨left, hleft⟩ : ∃ l, minList (i0 :: i1 :: rest) = some l := ⟨_, rfl⟩
      obtain ⟨right, hright⟩ : ∃ r, maxList (i0 :: i1 :: rest) = some r := ⟨_, rfl⟩
      have hfa : first = a := by simpa using hf.symm
      subst hfa
      have hc := check_closed first t i0 i1 rest left right last hleft hright hl
      have smin := ordermin_isFirstMin first t
      have smax := ordermax_isFirstMax first t
      generalize argminGo first 0 1 t = am at hc smin
      generalize argmaxGo first 0 1 t = aM at hc smax
      obtain ⟨lo, jmin⟩ := am
      obtain ⟨hi, jmax⟩ := aM
      have ⟨hleft_mem, hleft_le⟩ := minList_spec _ _ hleft
      have ⟨hright_mem, hright_ge⟩ := maxList_spec _ _ hright
      -- `L` / `R` against the extreme interfaces = against all interfaces
      have side_L : ∀ x : Int, sideOf left right x = .L ↔ ∀ lam ∈ i0 :: i1 :: rest, x ≤ lam :=
        fun x => (sideOf_eq_L left right x).trans (le_min_iff hleft_mem hleft_le x)
      have side_R : ∀ x : Int, sideOf left right x = .R ↔
          (¬ ∀ lam ∈ i0 :: i1 :: rest, x ≤ lam) ∧ ∀ lam ∈ i0 :: i1 :: rest, lam ≤ x :=
        fun x => (sideOf_eq_R left right x).trans
          (and_congr (not_congr (le_min_iff hleft_mem hleft_le x)) (max_le_iff hright_mem hright_ge x))
      refine ⟨_, hc, ?_, by simp, by simpa using side_L first, by simpa using side_R first, by simp,
        by simpa using side_L last, by simpa using side_R last, by simp⟩
      -- a crossing flag compares against the extreme order values = against some frame on either side
      apply List.map_congr_left
      intro lam _
      rw [Bool.eq_iff_iff, Bool.and_eq_true, decide_eq_true_eq, decide_eq_true_eq, decide_eq_true_eq,
        min_lt_iff (List.mem_of_getElem? smin.1) smin.2.1, le_max_iff (List.mem_of_getElem? smax.1) smax.2.1]

/-- fewer than two interfaces on a non-empty path: `min([])` raises ValueError, `cross[1]` IndexError -/
theorem check_short_interfaces (a : Int) (t : List Int) (i0 : Int) :
    checkInterfaces (a :: t) [] = .error .value ∧ checkInterfaces (a :: t) [i0] = .error .index := by
  constructor
  · unfold checkInterfaces
    rw [if_neg (by simp)]
    simp [ordermax, ordermin, minList]
  · obtain ⟨last, hlast⟩ : ∃ last, (a :: t).getLast? = some last := by
      cases h : (a :: t).getLast? with
      | none => simp at h
      | some x => exact ⟨x, rfl⟩
    unfold checkInterfaces
    rw [if_neg (by simp)]
    simp [ordermax, ordermin, minList, maxList, endPoint, startPoint, hlast]

/-- **a path from the left of all interfaces to the right of all interfaces crosses every interface
    above the lowest one** (start/end classification and crossing flags are mutually consistent). -/
theorem left_to_right_crosses (ops intf : List Int) (first last : Int) (c : Check)
    (hf : ops.head? = some first) (hl : ops.getLast? = some last) (h2 : 2 ≤ intf.length)
    (hc : checkInterfaces ops intf = .ok c) (hs : c.start = some .L) (he : c.end_ = some .R)
    (k : Nat) (lam : Int) (hk : intf[k]? = some lam) (hlow : ∃ mu ∈ intf, mu < lam) :
    c.cross[k]? = some true := by
  obtain ⟨c', hc', hcross, _, hL, _, _, _, hR, _⟩ := classification_agrees ops intf first last hf hl h2
  have : c' = c := by rw [hc] at hc'; injection hc' with h; exact h.symm
  subst this
  rw [hcross, List.getElem?_map, hk]
  simp only [Option.map_some, Option.some.injEq, decide_eq_true_eq]
  obtain ⟨mu, hmu, hlt⟩ := hlow
  have hfm : first ∈ ops := List.mem_of_mem_head? hf
  have hlm : last ∈ ops := List.mem_of_mem_getLast? hl
  have h1 := (hL.1 hs) mu hmu
  have h3 := (hR.1 he).2 lam (List.mem_of_getElem? hk)
  exact ⟨⟨first, hfm, by omega⟩, ⟨last, hlm, h3⟩⟩

/-- **one-frame path**: minimum = maximum = the frame (index 0); no interface is crossed. -/
theorem one_frame_path (x : Int) (intf : List Int) (h2 : 2 ≤ intf.length) :
    ordermin [x] = .ok (x, 0) ∧ ordermax [x] = .ok (x, 0)
    ∧ ∃ c, checkInterfaces [x] intf = .ok c ∧ c.cross = intf.map (fun _ => false) ∧ c.middle = false := by
  refine ⟨rfl, rfl, ?_⟩
  obtain ⟨c, hc, hcross, hmid, _⟩ := classification_agrees [x] intf x x rfl rfl h2
  have hcr : c.cross = intf.map (fun _ => false) := by
    rw [hcross]
    apply List.map_congr_left
    intro lam _
    simp only [List.mem_singleton, exists_eq_left, decide_eq_false_iff_not]
    omega
  refine ⟨c, hc, hcr, ?_⟩
  cases hm : c.middle with
  | false => rfl
  | true =>
    have := hmid.1 hm
    rw [hcr, List.getElem?_map] at this
    cases h : intf[1]? <;> simp [h] at this

example : checkInterfaces [1, 2, 3] [2, 0, 1] = .ok ⟨some .U, some .R, false, [true, false, false]⟩
    ∧ ordermin [1, 1, 0, 0, 2, 2] = .ok (0, 2) ∧ ordermax [1, 1, 0, 0, 2, 2] = .ok (2, 4)
    ∧ checkInterfaces [0, 1, 2] [0, 1, 2] = .ok ⟨some .L, some .R, true, [false, true, true]⟩ := by
  refine ⟨rfl, rfl, rfl, rfl⟩


/-! ## the `WF` hypotheses hold on every reachable state -/

/-- **Every state reachable by any op program** (any list of `Op`s, from `Machine.init`) is well formed:
    every frame of every path is a valid reference. So the `WF` hypotheses of the theorems above are met
    by every path the tie's programs can build. -/
theorem reachable_wf (ops : List Op) : ∀ p ∈ (Machine.init.run ops).paths, WF (Machine.init.run ops).heap p.frames :=
  (run_inv ops Machine.init init_inv).1

example : (Machine.init.run [.new (some 3) 0, .sys 0 default, .sys 0 default, .copy 0, .paste 0 1 true none,
      .rev 2 none true]).paths.map (·.frames) = [[0, 1], [2, 3], [1, 0, 3], [4, 5, 6]] := by
  rfl


/-! ## classification has no memory: it is a function of the order values the frames hold NOW -/

/-- **success agrees with the maximum**: `success(target)` iff some frame lies strictly above. -/
theorem success_agrees (ops : List Int) (t : Int) (hne : ops ≠ []) :
    ∃ b, success ops t = .ok b ∧ (b = true ↔ ∃ y ∈ ops, t < y) := by
  obtain ⟨v, j, hv, hj, hall, _⟩ := ordermax_agrees ops hne
  refine ⟨decide (v > t), by simp [success, hv], ?_⟩
  simp only [decide_eq_true_eq]
  constructor
  · intro h; exact ⟨v, List.mem_of_getElem? hj, h⟩
  · rintro ⟨y, hy, h⟩; have := hall y hy; omega

/-- **The classification of a path object reads the current frames**: whenever every frame has an
    order value, all six methods answer `classifySeq` of the sequence `[pp.order[0] for pp in
    phasepoints]` as it is in the heap at the time of the call — whatever was asked before. -/
theorem classify_reads_current_orders (h : Heap) (p : Path) (intf : List Int) (t : Int) (seq : List Int)
    (hs : orderSeq h p = some seq) : Path.classify h p intf t = classifySeq seq intf t := by
  simp [Path.classify, hs]

/-- asking for a classification changes neither the heap nor any path (no cache, no side effect) -/
theorem classify_pure (m : Machine) (i : Nat) (intf : List Int) (t : Int) :
    (m.step (.classify i intf t)).heap = m.heap ∧ (m.step (.classify i intf t)).paths = m.paths := by
  simp only [Machine.step]
  cases m.paths[i]? <;> exact ⟨rfl, rfl⟩

/-- **classify ∘ applyOps = classifySeq ∘ orders ∘ applyOps.** After ANY op program (including earlier
    classifications, in-place `order` re-assignment, frame replacement, the extender-style
    `phasepoints[:-1] + seg`, `+=`, append, delete, reverse, copy, paste) a classification of path
    `i` reports exactly `classifySeq` of the order sequence path `i` holds at that moment. -/
theorem classify_after_any_program (prog : List Op) (i : Nat) (p : Path) (intf : List Int) (t : Int)
    (seq : List Int) (hp : (Machine.init.run prog).paths[i]? = some p)
    (hs : orderSeq (Machine.init.run prog).heap p = some seq) :
    ((Machine.init.run prog).step (.classify i intf t)).log.getLast?
      = some (showCls (classifySeq seq intf t)) := by
  simp only [Machine.step, hp, Machine.say, List.getLast?_append, List.getLast?_singleton,
    classify_reads_current_orders _ p intf t seq hs]
  rfl

example :
    let v : Vals := { config := (0, 0), order := [0], velRev := false, ekin := none, vpot := none,
                      pos := 0, vel := 0, box := 0, temp := 0 }
    (Machine.init.run [.new (some 9) 0, .sys 0 v, .sys 0 { v with order := [1] }, .sys 0 { v with order := [3] },
        .classify 0 [0, 2, 4] 2, .set 0 2 (.order [5]), .classify 0 [0, 2, 4] 2]).log.drop 4
      = ["min=0,0;max=3,2;chk=L,None,M,010;suc=True;sp=L;ep=None", "set",
         "min=0,0;max=5,2;chk=L,R,M,011;suc=True;sp=L;ep=R"] := by
  rfl


/-! ## limits: exactly at the limit, one below, one above, and no limit at all -/

/-- **paste at the limit.** Nothing is lost iff there is no limit or the offered frames fit
    (`total ≤ maxlen`, so `total = maxlen` keeps everything); otherwise exactly the first `maxlen`
    frames are kept (so `total = maxlen + 1` drops exactly the last forward frame). -/
theorem paste_truncation (back forw np : Path) (ov : Bool) (ml : Option Int)
    (h : paste back forw ov ml = .ok np) :
    (np.frames = pasteSeq back forw ov ↔
        np.maxlen = none ∨ ∃ m, np.maxlen = some m ∧ (pasteSeq back forw ov).length ≤ m.toNat)
    ∧ (∀ m, np.maxlen = some m → np.frames = (pasteSeq back forw ov).take m.toNat) := by
  rw [(paste_order back forw np ov ml h).2.1, capTake_eq_self_iff]
  cases np.maxlen with
  | none => simp [capTake, capLen]
  | some m =>
    refine ⟨?_, fun m' hm => by cases hm; rfl⟩
    simp only [capLen, reduceCtorEq, Option.some.injEq, exists_eq_left', false_or]
    omega

/-- **unlimited paths (`maxlen=None`) are never truncated** by copy, reverse, `+=` or by pasting two
    unlimited segments, and the result is again unlimited. -/
theorem unlimited_never_truncates (h : Heap) (p q : Path) (ofn : Option OrderFn) (rv ov : Bool)
    (hp : p.maxlen = none) (hq : q.maxlen = none) (hwp : WF h p.frames) (hwq : WF h q.frames) :
    ((Path.copy h p).2.frames.map (Path.copy h p).1.look = p.frames.map h.look ∧ (Path.copy h p).2.maxlen = none)
    ∧ (vals (Path.reverse h p ofn rv).1 (Path.reverse h p ofn rv).2
          = (vals h p).reverse.map (Option.map (revVals ofn rv)) ∧ (Path.reverse h p ofn rv).2.maxlen = none)
    ∧ (Path.iadd h p q).2.frames.length = p.frames.length + q.frames.length
    ∧ paste p q ov none = .ok ((Path.empty none (p.timeOrigin - (p.frames.length : Int) + 1)).withFrames
          (pasteSeq p q ov)) := by
  refine ⟨?_, ?_, ?_, ?_⟩
  · have := copy_values h p hwp
    rw [hp] at this
    exact ⟨this.1, this.2.1⟩
  · have := reverse_frames h p ofn rv hwp
    rw [hp] at this
    exact ⟨this.1, this.2.1⟩
  · rw [(iadd_frames h p q hwq).1, room_none p _ hp]
    simp
  · have hc : pasteMaxlen p.maxlen q.maxlen none = .ok none := by rw [hp, hq]; rfl
    rw [paste_closed p q ov none none hc]
    rfl

example :
    let back : Path := { Path.empty none 0 with frames := [0, 1] }
    let forw : Path := { Path.empty none 0 with frames := [0, 2] }
    (paste back forw true (some 3)).map (·.frames) = .ok [1, 0, 2]       -- total = maxlen
    ∧ (paste back forw true (some 2)).map (·.frames) = .ok [1, 0]        -- total = maxlen + 1
    ∧ (paste back forw true (some 4)).map (·.frames) = .ok [1, 0, 2]     -- total = maxlen − 1
    ∧ (paste back forw false none).map (·.frames) = .ok [1, 0, 0, 2]    -- two unlimited segments, no overlap
    ∧ (paste back forw false none).map (·.maxlen) = .ok none := by
  refine ⟨rfl, rfl, rfl, rfl, rfl⟩


/-! ## container objects (numpy arrays, dict, order list): shallow copies share them -/

/-- **Every reachable heap keeps container identities fresh**: on every state any op program can reach,
    every container object (order list, pos / vel / box array, temperature dict) held by any System is
    older than the next identity the machine will hand out — so "a fresh object" in the model really is
    an object nobody else holds. -/
theorem reachable_fresh (ops : List Op) : (Machine.init.run ops).heap.Fresh :=
  (run_inv ops Machine.init init_inv).2

/-- **In-place mutation is seen by exactly the sharers.**  `frame.pos[0] = x` (likewise `vel`, `box`,
    `temperature["t"]`) through reference `r`: a System shows the new value iff it holds the same
    container object as `r`; every other System, every other field and all identities stay. -/
theorem inplace_seen_by_sharers (h : Heap) (r : Nat) (a : Arr) (x : Int) (s : Sys) (hs : h.look r = some s) :
    ∃ h', h.setArrItem r a x = some h' ∧
      ∀ r', h'.look r' = (h.look r').map
        (fun s' => if s'.arrObj a = s.arrObj a then { s' with v := s'.v.setArr a x } else s') := by
  obtain ⟨h', h1, _, _, h4⟩ := setArrItem_spec h r a x s hs
  exact ⟨h', h1, h4⟩

/-- **copy() is shallow for every array-valued field** (`pos`, `vel`, `box`, `temperature`; for the
    `order` list see `copy_inplace_counterexample`):
    for every path, every frame position `k` the copy has, and every such field, an in-place
    mutation through frame `k` of the COPY is seen through frame `k` of the ORIGINAL (they are
    different System objects holding the same arrays). The property's independence is about
    re-assignment only. -/
theorem copy_inplace_seen_by_original (h : Heap) (p : Path) (hwf : WF h p.frames) (k r r' : Nat)
    (hr : p.frames[k]? = some r) (hr' : (Path.copy h p).2.frames[k]? = some r') (a : Arr) (x : Int) :
    r ≠ r' ∧ ∃ h2, (Path.copy h p).1.setArrItem r' a x = some h2
      ∧ (h2.look r).map (fun s => s.v.arr a) = some x
      ∧ (h2.look r').map (fun s => s.v.arr a) = some x := by
  have hrl : r < h.sys.length := hwf r (List.mem_of_getElem? hr)
  have hfr := copy_frames_fresh h p hwf
  have hr'mem : r' ∈ List.range' h.sys.length (capLen p.maxlen p.frames.length) := by
    rw [← hfr]; exact List.mem_of_getElem? hr'
  have hge : h.sys.length ≤ r' := (List.mem_range'_1.1 hr'mem).1
  have hold : (Path.copy h p).1.look r = h.look r := copy_old_untouched h p hwf r hrl
  -- the copy's frame k holds the same record as the original's frame k
  have hsame : (Path.copy h p).1.look r' = h.look r := by
    have hv := (copy_values h p hwf).1
    have e1 : ((Path.copy h p).2.frames.map (Path.copy h p).1.look)[k]? = some ((Path.copy h p).1.look r') := by
      rw [List.getElem?_map, hr']; rfl
    rw [hv] at e1
    have e2 := capTake_getElem?_of_some _ _ _ _ e1
    rw [List.getElem?_map, hr] at e2
    exact (Option.some.inj e2).symm
  obtain ⟨s, hs⟩ : ∃ s, h.look r = some s := ⟨_, look_of_lt h r hrl⟩
  obtain ⟨h2, h21, _, _, h24⟩ := setArrItem_spec (Path.copy h p).1 r' a x s (hsame.trans hs)
  refine ⟨by omega, h2, h21, ?_, ?_⟩
  · rw [h24 r, hold, hs]; simp [setArr_arr]
  · rw [h24 r', hsame, hs]; simp [setArr_arr]

/-- **Re-assignment un-shares.**  On a heap with fresh identities (every reachable heap, by
    `reachable_fresh`): once a container field of a frame has been RE-ASSIGNED (`frame.pos = new_array`),
    even in-place mutation of that field through this frame touches no other object. -/
theorem reassign_makes_private (h : Heap) (hf : h.Fresh) (r' : Nat) (s : Sys) (hs : h.look r' = some s)
    (a : Arr) (x y : Int) :
    ∃ h2, (h.setArr r' a x).setArrItem r' a y = some h2
      ∧ (∀ r, r ≠ r' → h2.look r = h.look r)
      ∧ (h2.look r').map (fun s => s.v.arr a) = some y := by
  have hself := setArr_look_self h r' a x s hs
  obtain ⟨h2, h21, _, _, h24⟩ := setArrItem_spec (h.setArr r' a x) r' a y _ hself
  refine ⟨h2, h21, ?_, ?_⟩
  · intro r hne
    rw [h24 r, (setArr_writes h r' a x).look_ne r (by simpa using hne)]
    cases hl : h.look r with
    | none => rfl
    | some s0 =>
      have hlt := (hf s0 (look_mem h r s0 hl)).2 a
      simp only [Option.map_some, withArrObj_arrObj_self]
      rw [if_neg (by omega)]
  · rw [h24 r', hself]
    simp [withArrObj_arrObj_self, withArrObj_v, setArr_arr]

example :
    let v : Vals := { config := (0, 0), order := [1], velRev := false, ekin := none, vpot := none,
                      pos := 3, vel := 0, box := 0, temp := 0 }
    let m := Machine.init.run [.new none 0, .sys 0 v, .copy 0, .setArrItem 1 0 .pos 9]
    -- the original frame (reference 0) sees pos = 9 written through the copy (reference 1)
    (m.heap.look 0).map (·.v.pos) = some 9 ∧ m.paths.map (·.frames) = [[0], [1]]
    -- after re-assigning pos on the copy first, the original keeps 3
    ∧ ((Machine.init.run [.new none 0, .sys 0 v, .copy 0, .set 1 0 (.pos 5), .setArrItem 1 0 .pos 9]).heap.look 0).map
        (·.v.pos) = some 3 := by
  refine ⟨rfl, rfl, rfl⟩


/-! ## `Path.__eq__` / `__ne__` -/

/-- **What `==` on paths means** (same class, same attribute names, every frame has an order value):
    the two paths hold the SAME frame objects in the same order (`System` has no `__eq__`, so frames are
    compared by identity) and — unless they are empty — agree on `maxlen`, `time_origin`, `status`,
    `generated`, `path_number`.  `weights` / `weight` play no role; two empty paths are always equal. -/
theorem eq_spec (h : Heap) (p q : Path) (seq : List Int) (hs : orderSeq h p = some seq) :
    Path.eq true true h p q = .ok (decide (p.frames = q.frames ∧ (p.frames = [] ∨
      (p.maxlen = q.maxlen ∧ p.timeOrigin = q.timeOrigin ∧ p.status = q.status
        ∧ p.generated = q.generated ∧ p.pathNumber = q.pathNumber)))) := by
  by_cases hfr : p.frames = q.frames
  · have hq : orderSeq h q = some seq := by rw [← orderSeq_congr h p q hfr]; exact hs
    have hid : ∀ l, framesIdentical l l = true := fun l => (framesIdentical_iff l l rfl).2 rfl
    unfold Path.eq
    cases hpf : p.frames with
    | nil => simp [← hfr, hpf, hid]
    | cons r rs =>
      have hne : seq ≠ [] := by
        intro hh
        have := orderSeq_length h p seq hs
        rw [hh, hpf] at this
        cases this
      have hsv := showViEq_self_ok seq hne
      simp only [← hfr, hpf, hid, hs, hq, hsv.1, hsv.2, Bool.not_true, Bool.false_eq_true, if_false,
        bne_self_eq_false, List.isEmpty_cons, reduceCtorEq, false_or, true_and]
      -- what is left is the chain `maxlen`, `time_origin`, `status`, `generated`, `path_number`
      iterate 4 apply eq_link
      by_cases h5 : p.pathNumber = q.pathNumber <;> simp [h5]
  · rw [eq_of_frames_ne h p q hfr]; simp [hfr]

/-- `!=` is the negation of `==` (including the exception) -/
theorem ne_is_not_eq (c k : Bool) (h : Heap) (p q : Path) :
    Path.ne c k h p q = (Path.eq c k h p q).map (fun b => !b) := by
  unfold Path.ne
  cases Path.eq c k h p q <;> rfl

/-- **A non-empty path never compares equal to its own copy** (nor does the copy to the original): the
    copy holds fresh System objects, and `__eq__` compares frames by identity.  Equality of paths in
    infretis is therefore identity of frames, not equality of content. -/
theorem copy_never_equal (h : Heap) (p : Path) (hwf : WF h p.frames) (hne : p.frames ≠ []) :
    Path.eq true true (Path.copy h p).1 p (Path.copy h p).2 = .ok false
    ∧ Path.eq true true (Path.copy h p).1 (Path.copy h p).2 p = .ok false := by
  have hfr := copy_frames_fresh h p hwf
  -- a frame of `p` is an old reference, a frame of the copy a new one
  have hdiff : p.frames ≠ (Path.copy h p).2.frames := by
    intro hh
    obtain ⟨r, hr⟩ := List.exists_mem_of_ne_nil _ hne
    have hold := hwf r hr
    rw [hh, hfr] at hr
    have := (List.mem_range'_1.1 hr).1
    omega
  exact ⟨eq_of_frames_ne _ _ _ hdiff, eq_of_frames_ne _ _ _ (fun hh => hdiff hh.symm)⟩

example :
    let v : Vals := { config := (0, 0), order := [1], velRev := false, ekin := none, vpot := none,
                      pos := 0, vel := 0, box := 0, temp := 0 }
    (Machine.init.run [.new (some 9) 0, .sys 0 v, .copy 0, .eq 0 1, .eq 0 0, .new (some 9) 0, .app 2 0 0, .eq 0 2,
        .pset 2 (.weights (some 5)), .eq 0 2, .pset 2 (.status 1), .eq 0 2, .ne 0 2]).log
      = ["new", "True", "copy", "False", "True", "new", "True", "True", "pset", "True", "pset", "False", "True"] := by
  rfl


/-! ## `get_shooting_point` -/

/-- **The shooting point is never an end point.**  The draw requested is `integers(1, L−1)` (uniform on
    `[1, L−1)`); whatever value in that range the generator answers, the method returns an interior index
    `0 < k < L−1` together with the frame OBJECT stored at that index (no copy). -/
theorem shooting_point_interior (h : Heap) (p : Path) (idx : Int)
    (hlo : (shootRequest p).lo ≤ idx) (hhi : idx < (shootRequest p).hi)
    (hord : ∀ r ∈ p.frames, ∃ s, h.look r = some s ∧ s.v.order ≠ []) :
    ∃ (k : Nat) (r : Nat), idx = (k : Int) ∧ 0 < k ∧ k + 1 < p.frames.length ∧ p.frames[k]? = some r
      ∧ shootingPoint h p idx = .ok (r, idx) := by
  simp only [shootRequest] at hlo hhi
  have hk : idx.toNat < p.frames.length := by omega
  refine ⟨idx.toNat, p.frames[idx.toNat], by omega, by omega, by omega, List.getElem?_eq_getElem hk, ?_⟩
  obtain ⟨s, hs, hso⟩ := hord _ (List.getElem_mem hk)
  unfold shootingPoint pyIndex
  rw [if_pos (by omega), List.getElem?_eq_getElem hk]
  simp only [hs]
  cases ho : s.v.order with
  | nil => exact absurd ho hso
  | cons a t => rfl

/-- no draw is possible (numpy raises ValueError for an empty range) exactly for paths of length ≤ 2:
    they have no interior frame -/
theorem shooting_no_draw_iff (p : Path) :
    (shootRequest p).hi ≤ (shootRequest p).lo ↔ p.frames.length ≤ 2 := by
  simp only [shootRequest]; omega

example :
    let v : Vals := { config := (0, 0), order := [1], velRev := false, ekin := none, vpot := none,
                      pos := 0, vel := 0, box := 0, temp := 0 }
    (Machine.init.run [.new none 0, .sys 0 v, .sys 0 v, .shoot 0 0, .sys 0 v, .sys 0 v, .shoot 0 0, .shoot 0 1,
        .shoot 0 2]).log.drop 3
      = ["shoot:1:1:err:value", "True", "True", "shoot:1:3:1:1", "shoot:1:3:2:2", "shoot:1:3:1:1"] := by
  rfl


/-! ## `update_energies`, `empty_path` -/

/-- **update_energies aligns by index**: on a path whose frames are distinct objects, frame `k` receives
    `ekin[k]` / `vpot[k]` (`None` when the list is too short), nothing else of that frame changes, and
    every object that is not a frame of the path is untouched. -/
theorem update_energies_spec (h : Heap) (p : Path) (ekin vpot : List Int) (hnd : p.frames.Nodup) :
    (∀ r, r ∉ p.frames → (updateEnergies h p ekin vpot).look r = h.look r)
    ∧ (∀ k r, p.frames[k]? = some r →
        (updateEnergies h p ekin vpot).look r = (h.look r).map (setEnergies ekin vpot k)) := by
  refine ⟨(updGo_writes ekin vpot p.frames 0 h).look_ne, fun k r hk => ?_⟩
  have := updGo_look ekin vpot p.frames 0 h hnd k r hk
  rwa [Nat.zero_add] at this

/-- whatever the path looks like (repeated frames, dangling references): `update_energies` changes nothing
    but `ekin` / `vpot` — in particular no order value, so no classification. -/
theorem update_energies_only_energies (h : Heap) (p : Path) (ekin vpot : List Int) (r : Nat) :
    ((updateEnergies h p ekin vpot).look r).map noEnergies = (h.look r).map noEnergies :=
  updGo_only_energies ekin vpot p.frames 0 h r

/-- **empty_path shares nothing with the path it is called on**: the result has no frames and fresh
    attributes; its limit is the `maxlen` passed or the module default 100000 (NOT `self.maxlen`), its
    time origin the one passed or 0.  (Only the class is taken from `self`.) -/
theorem empty_path_shares_nothing (self other : Path) (ml : Option (Option Int)) (t : Option Int) :
    self.emptyPath ml t = other.emptyPath ml t
    ∧ (self.emptyPath ml t).frames = []
    ∧ (self.emptyPath ml t).maxlen = (match ml with | none => some 100000 | some m => m)
    ∧ (self.emptyPath ml t).timeOrigin = (match t with | none => 0 | some t => t)
    ∧ (self.emptyPath ml t).status = 0 ∧ (self.emptyPath ml t).generated = none
    ∧ (self.emptyPath ml t).pathNumber = none ∧ (self.emptyPath ml t).weights = none
    ∧ (self.emptyPath ml t).weight = 0 :=
  ⟨rfl, rfl, rfl, rfl, rfl, rfl, rfl, rfl, rfl⟩

example :
    let v : Vals := { config := (0, 0), order := [1], velRev := false, ekin := some 1, vpot := some 2,
                      pos := 0, vel := 0, box := 0, temp := 0 }
    let m := Machine.init.run [.new (some 7) 3, .sys 0 v, .sys 0 v, .sys 0 v, .upd 0 [5, 6] [8], .emptyDef 0 none none]
    m.log.drop 4 = ["upd:2:1", "empty"]
    ∧ [0, 1, 2].map (fun r => (m.heap.look r).map (fun s => (s.v.ekin, s.v.vpot)))
        = [some (some 5, some 8), some (some 6, none), some (none, none)]
    ∧ m.paths.map (·.maxlen) = [some 7, some 100000] := by
  refine ⟨rfl, rfl, rfl⟩


/-! ## which loop gave up: the warnings of `paste_paths` and `+=` -/

/-- **paste_paths warns exactly when it drops a frame, and says where.**  The "unequal length" warning
    appears iff no `maxlen` was passed and the two limits differ; "truncated while pasting backwards"
    iff not even the backward segment fits (the pasted path then holds only its first `maxlen` frames
    of reversed(back) and NO forward frame); otherwise "truncated path at" iff the result is shorter
    than the offered sequence; the number in the message is the length of the result. -/
theorem paste_warnings_spec (back forw np : Path) (ov : Bool) (ml : Option Int)
    (h : paste back forw ov ml = .ok np) :
    pasteWarnings back forw ov ml =
      (if ml.isNone && back.maxlen != forw.maxlen then ["uneq:" ++ showOptInt np.maxlen] else [])
      ++ (if np.frames.length < back.frames.length then ["tb:" ++ toString np.frames.length]
          else if np.frames.length < (pasteSeq back forw ov).length then ["tf:" ++ toString np.frames.length]
          else []) := by
  obtain ⟨cap, hcap, rfl⟩ := paste_ok back forw np ov ml h
  rw [pasteWarnings_closed back forw ov ml cap hcap]
  simp only [withFrames_frames, withFrames_maxlen, empty_maxlen, length_capTake, List.length_append,
    List.length_reverse, pasteSeq]
  rfl

/-- `self += other` warns iff it could not take all of `other`'s frames; the number is the new length -/
theorem iadd_warns_iff_truncated (self other : Path) :
    iaddWarnings self other =
      if room self other.frames.length < other.frames.length
        then ["ti:" ++ toString (self.frames.length + room self other.frames.length)] else [] := by
  unfold iaddWarnings
  have hrl := room_le self other.frames.length
  simp only [appendAll_eq]
  by_cases hall : room self other.frames.length = other.frames.length
  · simp [hall]
  · simp only [hall, decide_false, Bool.false_eq_true, if_false, withFrames_frames, List.length_append,
      List.length_take, Nat.min_eq_left hrl]
    rw [if_pos (by omega)]

example :
    let back : Path := { Path.empty (some 2) 0 with frames := [0, 1, 2] }
    let forw : Path := { Path.empty (some 4) 0 with frames := [0, 3, 4] }
    pasteWarnings back forw true none = ["uneq:4", "tf:4"]
    ∧ pasteWarnings back forw true (some 2) = ["tb:2"]
    ∧ pasteWarnings back forw true (some 5) = []
    ∧ iaddWarnings back forw = ["ti:3"] := by
  refine ⟨rfl, rfl, rfl, rfl⟩


/-! ## composition: where each frame of a pasted path comes from; copy of a pasted path; classification
    of a copy -/

/-- **Index map of `paste_paths` (time order).**  Frame `k` of the pasted path is backward frame
    `|back|−1−k` for `k < |back|` and forward frame `k−|back|` (+1 when the segments overlap) afterwards;
    and the time bookkeeping is consistent with it: the first backward frame (the shooting point),
    which sits at index `|back|−1`, is at the time origin of the backward segment. -/
theorem paste_index_map (back forw np : Path) (ov : Bool) (ml : Option Int)
    (h : paste back forw ov ml = .ok np) (k : Nat) (hk : k < np.frames.length) :
    np.frames[k]? = (if k < back.frames.length then back.frames[back.frames.length - 1 - k]?
                     else forw.frames[(if ov then 1 else 0) + (k - back.frames.length)]?)
    ∧ np.timeOrigin + ((back.frames.length : Int) - 1) = back.timeOrigin := by
  refine ⟨?_, by rw [paste_time_origin back forw np ov ml h]; omega⟩
  have hf := (paste_order back forw np ov ml h).2.1
  rw [hf] at hk ⊢
  rw [capTake_getElem?_lt _ _ _ hk]
  unfold pasteSeq
  by_cases hkb : k < back.frames.length
  · rw [if_pos hkb, List.getElem?_append_left (by simpa using hkb), List.getElem?_reverse hkb]
  · rw [if_neg hkb, List.getElem?_append_right (by simpa using Nat.le_of_not_lt hkb), List.length_reverse]
    cases ov with
    | true => simp only [if_true, List.getElem?_drop]
    | false => simp

/-- **A copy of a pasted path is independent of both segments** (composition of `paste_paths`, which
    shares frame objects, with `copy()`, which does not): re-assigning any field of any frame of
    `paste_paths(back, forw).copy()` leaves every frame of `back`, of `forw` and of the pasted path as it was. -/
theorem copy_of_paste_independent (h : Heap) (back forw np : Path) (ov : Bool) (ml : Option Int)
    (hp : paste back forw ov ml = .ok np) (hwb : WF h back.frames) (hwf : WF h forw.frames)
    (r' : Nat) (hr' : r' ∈ (Path.copy h np).2.frames) (fld : Field) :
    ∀ r, (r ∈ back.frames ∨ r ∈ forw.frames ∨ r ∈ np.frames) →
      (assignField (Path.copy h np).1 r' fld).look r = h.look r := by
  have hwn : WF h np.frames := by
    intro r hr
    rcases paste_shares_refs back forw np ov ml hp r hr with h1 | h1
    · exact hwb r h1
    · exact hwf r h1
  have key := (copy_independent h np hwn r' hr' fld).1
  intro r hr
  rcases hr with h1 | h1 | h1
  · exact key r (hwb r h1)
  · exact key r (hwf r h1)
  · exact key r (hwn r h1)

/-- **A copy classifies like the original**: a path within its limit and its copy hold the same order
    sequence, so every classification method (`ordermin`, `ordermax`, `check_interfaces`, `success`,
    start / end point) answers the same on both. -/
theorem copy_keeps_classification (h : Heap) (p : Path) (hwf : WF h p.frames)
    (hfits : capLen p.maxlen p.frames.length = p.frames.length) (intf : List Int) (t : Int) (seq : List Int)
    (hs : orderSeq h p = some seq) :
    orderSeq (Path.copy h p).1 (Path.copy h p).2 = some seq
    ∧ Path.classify (Path.copy h p).1 (Path.copy h p).2 intf t = Path.classify h p intf t := by
  have h1 : orderSeq (Path.copy h p).1 (Path.copy h p).2 = some seq := by
    rw [orderSeq_eq_some_looks] at hs ⊢
    rw [(copy_values h p hwf).1, capTake_of_fits _ _ (by simpa using hfits)]
    exact hs
  exact ⟨h1, by rw [classify_reads_current_orders _ _ intf t seq h1, classify_reads_current_orders _ _ intf t seq hs]⟩

/-- **Time reversal swaps the start and the end classification** (on the order sequence): the start
    point of the reversed sequence is classified like the end point of the original and vice versa
    (`'?'` and `None` both mean "between the interfaces"). -/
theorem reverse_swaps_ends (ops : List Int) (left : Int) (right : Option Int) :
    startPoint ops.reverse left right = endPoint ops left right
    ∧ endPoint ops.reverse left right = startPoint ops left right := by
  constructor <;> simp [startPoint, endPoint]

example :
    let back : Path := { Path.empty none 7 with frames := [0, 1, 2] }
    let forw : Path := { Path.empty none 0 with frames := [0, 3, 4] }
    (paste back forw true none).map (fun np => (np.frames, np.timeOrigin)) = .ok ([2, 1, 0, 3, 4], 5)
    ∧ startPoint [0, 1, 3] 1 (some 2) = .ok .L ∧ endPoint [3, 1, 0] 1 (some 2) = .ok .L := by
  refine ⟨rfl, rfl, rfl⟩


/-! ## reverse and classification, end to end; `adress` -/

/-- **The reversed path carries the reversed order sequence** (path within its limit; the order
    parameter is not re-computed, i.e. no order function, or not velocity dependent, or `rev_v=False`). -/
theorem reverse_order_sequence (h : Heap) (p : Path) (ofn : Option OrderFn) (rv : Bool) (hwf : WF h p.frames)
    (hfits : capLen p.maxlen p.frames.length = p.frames.length)
    (hno : ∀ f, ofn = some f → (f.velDep && rv) = false) (seq : List Int) (hs : orderSeq h p = some seq) :
    orderSeq (Path.reverse h p ofn rv).1 (Path.reverse h p ofn rv).2 = some seq.reverse := by
  have hfun : headOrderV ∘ Option.map (revVals ofn rv) = headOrderV := by
    funext o
    cases o with
    | none => rfl
    | some v => exact congrArg List.head? (revVals_order_of_no_recompute ofn rv v hno)
  rw [orderSeq_eq_some_vals] at hs ⊢
  rw [reverse_vals_of_fits h p ofn rv hwf hfits, List.map_map, hfun, List.map_reverse, hs, List.map_reverse]

/-- **Reversal keeps the extreme values** (only the index at which they are first attained changes),
    hence `success` and every crossing flag. -/
theorem reverse_keeps_extremes (ops : List Int) (hne : ops ≠ []) :
    (∃ v j j', ordermax ops = .ok (v, j) ∧ ordermax ops.reverse = .ok (v, j'))
    ∧ (∃ v j j', ordermin ops = .ok (v, j) ∧ ordermin ops.reverse = .ok (v, j'))
    ∧ ∀ t, success ops.reverse t = success ops t := by
  have hne' : ops.reverse ≠ [] := by simpa using hne
  obtain ⟨v, j, hv, hj, hall, _⟩ := ordermax_agrees ops hne
  obtain ⟨v', j', hv', hj', hall', _⟩ := ordermax_agrees ops.reverse hne'
  obtain ⟨w, k, hw, hk, hallw, _⟩ := ordermin_agrees ops hne
  obtain ⟨w', k', hw', hk', hallw', _⟩ := ordermin_agrees ops.reverse hne'
  have e1 : v' = v := by
    have a := hall v' (List.mem_reverse.1 (List.mem_of_getElem? hj'))
    have b := hall' v (List.mem_reverse.2 (List.mem_of_getElem? hj))
    omega
  have e2 : w' = w := by
    have a := hallw w' (List.mem_reverse.1 (List.mem_of_getElem? hk'))
    have b := hallw' w (List.mem_reverse.2 (List.mem_of_getElem? hk))
    omega
  subst e1; subst e2
  refine ⟨⟨_, _, _, hv, hv'⟩, ⟨_, _, _, hw, hw'⟩, ?_⟩
  intro t
  simp [success, hv, hv']

/-- **`adress` is the set of trajectory files of the frames**: a name is in it iff some frame's
    `config[0]` is that name; no name is listed twice. -/
theorem adress_is_config_set (h : Heap) (p : Path) (x : Int) :
    (x ∈ p.adress h ↔ ∃ r ∈ p.frames, ∃ s, h.look r = some s ∧ s.v.config.1 = x) ∧ (p.adress h).Nodup := by
  unfold Path.adress
  refine ⟨?_, nodup_eraseDups _ _ (Nat.le_refl _)⟩
  rw [List.mem_eraseDups, List.mem_filterMap]
  constructor
  · rintro ⟨r, hr, hx⟩
    cases hl : h.look r with
    | none => simp [hl] at hx
    | some s => exact ⟨r, hr, s, hl, by simpa [hl] using hx⟩
  · rintro ⟨r, hr, s, hl, hx⟩
    exact ⟨r, hr, by simp [hl, hx]⟩

example :
    let v : Vals := { config := (4, 0), order := [1], velRev := false, ekin := none, vpot := none,
                      pos := 0, vel := 0, box := 0, temp := 0 }
    (Machine.init.run [.new none 0, .sys 0 v, .sys 0 { v with order := [3], config := (2, 1) },
        .sys 0 { v with order := [2] }, .rev 0 none true, .classify 1 [1, 2, 3] 2, .classify 0 [1, 2, 3] 2, .adr 0]).log.drop 5
      = ["min=1,2;max=3,1;chk=?,L,M,011;suc=True;sp=?;ep=L", "min=1,0;max=3,1;chk=L,None,M,011;suc=True;sp=L;ep=None",
         "adr,2,4"] := by
  rfl

end Infretis.C15
