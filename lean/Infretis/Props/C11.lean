/-
C11 — zero swaps exchange the crossing frames and are reversible.

Theorems about the model `Infretis.ZeroSwap.retisSwapZero` / `quantisSwapZero`
(Model/ZeroSwap.lean mirrors tis.py:798-1010 and 1064-1324 branch by branch).
-/
import Infretis.Lemmas.ZeroSwapTwice
import Infretis.Lemmas.ZeroSwapAlg
import Infretis.Lemmas.ZeroSwapInproc
import Infretis.Lemmas.ZeroSwapStatus

namespace Infretis.C11
open Infretis.ZeroSwap

/-- **accept ⇔ status ACC** for `retis_swap_zero` -/
theorem accept_iff_status_acc {e0 e1 : Ens} {old0 old1 : List Frame} {bw fw : Script} {xi : Rat}
    {r : Result} (h : retisSwapZero e0 e1 old0 old1 bw fw xi = .ok r) :
    r.accept = true ↔ r.status = .ACC := by
  obtain ⟨_, last0, _, hcase⟩ := retis_ok h
  rcases hcase with ⟨_, rfl⟩ | ⟨_, path0, rq0, path1, rq1, _, _, hf⟩
  · simp [rejected0L]
  · obtain ⟨_, _, _, hacc, _⟩ := finish_table hf
    rw [hacc, decide_eq_true_eq]

/-- **junction identity.**  On ACC the new [0-] path ends with `g0, d` where `d` is frame 1 of the
    old [0+] path unchanged (order value, configuration, vel_rev flag) and `g0` is frame 0 of the
    old [0+] path: same order value, same physical phase point, flagged `vel_rev` (its stored
    velocities are reversed iff the old frame was not flagged).  The new [0+] path starts with
    `a, g1` where `a` is the second-last frame of the old [0-] path unchanged and `g1` is its
    last frame: same order value, same phase point, not flagged. -/
theorem junction_identity {e0 e1 : Ens} {old0 old1 : List Frame} {bw fw : Script} {xi : Rat}
    {r : Result} (h : retisSwapZero e0 e1 old0 old1 bw fw xi = .ok r) (ha : r.accept = true) :
    ∃ pre0 a b c d post1 back g0 g1 fwd,
      old0 = pre0 ++ [a, b] ∧ old1 = c :: d :: post1 ∧
      r.path0 = back ++ [g0, d] ∧ r.path1 = a :: g1 :: fwd ∧
      g0.op = c.op ∧ g0.phys = c.phys ∧ g0.vr = true ∧ g0.cfg = (if c.vr then c.cfg else c.cfg.flip) ∧
      g1.op = b.op ∧ g1.phys = b.phys ∧ g1.vr = false ∧ g1.cfg = (if b.vr then b.cfg.flip else b.cfg) := by
  obtain ⟨pre0, a, b, c, d, post1, tmp0, s0, tmp1, s1, hold0, hold1, hprop0, hprop1, hp0, hp1, h20, _, h21, _, _, _⟩ :=
    accepted_shape h ha
  obtain ⟨t0, ht0⟩ := propagate_head hprop0 (by omega)
  obtain ⟨t1, ht1⟩ := propagate_head hprop1 (by omega)
  refine ⟨pre0, a, b, c, d, post1, t0.reverse,
    { op := c.op, cfg := startCfg c true, vr := true, vpot := bw.v0 },
    { op := b.op, cfg := startCfg b false, vr := false, vpot := fw.v0 }, t1, hold0, hold1, ?_, ?_,
    rfl, phys_start c true _ _, rfl, ?_, rfl, phys_start b false _ _, rfl, ?_⟩
  · rw [hp0, ht0]; simp
  · rw [hp1, ht1]
  · cases hv : c.vr <;> simp [startCfg, hv]
  · cases hv : b.vr <;> simp [startCfg, hv]

/-- **ensemble membership under the exact guard.**  What `swap_members` needs from the two length limits is
    only that the new [0-] path is shorter than `maxlen1`: the backward segment is generated into a path of
    `maxlen1 - 1` frames but the length check of the new [0-] path compares with `maxlen0`, so a segment cut at
    `maxlen1 - 1` without a crossing is noticed only if `maxlen0 ≤ maxlen1`
    (`swap_members_maxlen_counterexample`).  Not a defect of /repo: both limits are the one
    `tis_set["maxlength"]` in every configuration. -/
theorem swap_members_guard {e0 e1 : Ens} {old0 old1 : List Frame} {bw fw : Script} {xi : Rat} {r : Result}
    (h : retisSwapZero e0 e1 old0 old1 bw fw xi = .ok r) (ha : r.accept = true)
    (hg : r.path0.length < e1.maxlen)
    (hbw : e1.maxlen ≤ bw.rest.length + 2) (hfw : e1.maxlen ≤ fw.rest.length + 2)
    (hord : e0.i0 ≤ e0.i1 ∧ e0.i0 ≤ e0.i2) (hlam : e0.i2 = e1.i0)
    (hv0 : ValidMinus e0 old0) (hv1 : ValidPlus e1 old1) :
    ValidMinus e0 r.path0 ∧ ValidPlus e1 r.path1 ∧
      r.path0.length < e0.maxlen ∧ r.path1.length < e1.maxlen := by
  obtain ⟨pre0, a, b, c, d, post1, tmp0, s0, tmp1, s1, hold0, hold1, hprop0, hprop1, hp0, hp1, h20, hl0, h21, hl1,
    hst0, _⟩ := accepted_shape h ha
  have hlen0 : r.path0.length = tmp0.length + 1 := by rw [hp0]; simp
  obtain ⟨f0, mid0, l0, ho0, hne0, _, hmid0, _, _⟩ := hv0
  obtain ⟨f1, mid1, l1, ho1, hne1, _, hmid1, _, _⟩ := hv1
  -- the two frames that are kept lie inside their old ensembles, hence on the right side of λ0
  have hd := hmid1 d (second_mem_mid (hold1.symm.trans ho1) hne1)
  have ha' := hmid0 a (secondlast_mem_mid (hold0.symm.trans ho0) hne0)
  unfold Crosses at hd ha'
  obtain ⟨t1, ht1⟩ := propagate_head hprop1 (by omega)
  refine ⟨?_, ?_, by omega, by rw [hp1]; simp; omega⟩
  · rw [hp0]
    exact validMinus_of_backward hprop0 (by omega) (by omega) h20 (by omega) hord
      (fun hsc => hp0 ▸ ((status0_acc hst0).2.2 hsc).1) (by omega)
  · have := validPlus_of_forward (a := a) (h0 := { op := b.op, cfg := startCfg b false, vr := false, vpot := fw.v0 })
      hprop1 (by omega) (by omega) h21 (by omega) rfl (by omega)
    rw [ht1, List.tail_cons] at this
    rwa [hp1, ht1]

/-- **ensemble membership.**  For length limits with `maxlen0 ≤ maxlen1` (in every configuration
    `initiate_ensembles` builds both are the same `tis_set["maxlength"]`), MD programs that do not end
    before the length limit, ordered [0-] interfaces, the shared interface λ0 (`e0.i2 = e1.i0`) and
    valid old paths: on ACC the new [0-] path starts outside (right of λ0, or left of λ₋₁ — only if 'L'
    is an allowed start), its interior stays in `[λ₋₁, λ0]`, it ends at or right of λ0; the new [0+] path
    starts at or left of λ0, its interior stays in `[λ0, λN]`, it ends outside; both are strictly
    shorter than their length limits. -/
theorem swap_members {e0 e1 : Ens} {old0 old1 : List Frame} {bw fw : Script} {xi : Rat} {r : Result}
    (h : retisSwapZero e0 e1 old0 old1 bw fw xi = .ok r) (ha : r.accept = true)
    (hm : e0.maxlen ≤ e1.maxlen)
    (hbw : e1.maxlen ≤ bw.rest.length + 2) (hfw : e1.maxlen ≤ fw.rest.length + 2)
    (hord : e0.i0 ≤ e0.i1 ∧ e0.i0 ≤ e0.i2) (hlam : e0.i2 = e1.i0)
    (hv0 : ValidMinus e0 old0) (hv1 : ValidPlus e1 old1) :
    ValidMinus e0 r.path0 ∧ ValidPlus e1 r.path1 ∧
      r.path0.length < e0.maxlen ∧ r.path1.length < e1.maxlen := by
  obtain ⟨_, _, _, _, _, _, tmp0, _, _, _, _, _, _, _, hp0, _, _, hl0, _⟩ := accepted_shape h ha
  exact swap_members_guard h ha (by rw [hp0]; simp; omega) hbw hfw hord hlam hv0 hv1

namespace Cex
def fr (o : Int) : Frame := { op := o, cfg := ⟨0, 0⟩, vr := false, vpot := none }
def frv (o : Int) : Frame := { op := o, cfg := ⟨0, 0⟩, vr := true, vpot := none }
def g (o : Int) : GenFrame := { op := o, cfg := ⟨0, 0⟩, vpot := none }
def e0 : Ens := { i0 := -9, i1 := 0, i2 := 0, maxlen := 9, scL := false, scR := true, wf := false, cap := none }
def e1 : Ens := { i0 := 0, i1 := 1, i2 := 3, maxlen := 4, scL := true, scR := false, wf := false, cap := none }
def old0 : List Frame := [fr 1, fr (-1), fr 1]
def old1 : List Frame := [fr (-1), fr 1, fr (-1)]
def bw : Script := ⟨none, [g (-1), g (-1), g (-1), g (-1)]⟩
def fw : Script := ⟨none, [g (-1), g 1, g 1]⟩
def res : Result :=
  { accept := true, status := .ACC, path0 := [frv (-1), frv (-1), frv (-1), fr 1],
    path1 := [fr (-1), fr 1, fr (-1)], st0 := .ACC, st1 := .ACC, w0 := 1, w1 := 1,
    reqs := [.propagate 0 true (-1) ⟨0, 0⟩ 3 (-9) 0 true, .dump 1 1 ⟨0, 0⟩ true,
             .propagate 1 false 1 ⟨0, 0⟩ 3 0 3 true, .dump 0 0 ⟨0, 0⟩ true],
    draws := 0, expArg := none }
end Cex

/-- `swap_members` needs `maxlen0 ≤ maxlen1`: with `maxlen0 = 9 > maxlen1 = 4` (unreachable from a
    configuration file, both are `tis_set["maxlength"]`) the backward path is cut at `maxlen1 - 1`
    frames without having crossed, `path0.length = maxlen1 ≠ maxlen0`, and the move is accepted with
    a new [0-] path `-1,-1,-1,1` that starts left of λ0 = 0. -/
theorem swap_members_maxlen_counterexample :
    retisSwapZero Cex.e0 Cex.e1 Cex.old0 Cex.old1 Cex.bw Cex.fw 0 = .ok Cex.res ∧
      Cex.res.accept = true ∧ Cex.e0.maxlen > Cex.e1.maxlen ∧
      ValidMinus Cex.e0 Cex.old0 ∧ ValidPlus Cex.e1 Cex.old1 ∧ ¬ ValidMinus Cex.e0 Cex.res.path0 :=
  ⟨by rfl, rfl, by decide, by decide, by decide, by decide⟩

/-- the witness sits exactly on the boundary of the guard of `swap_members_guard` -/
example : Cex.res.path0.length = Cex.e1.maxlen := by decide

/-- **no propagation on the λ₋₁ early reject.**  With `start_cond = {L, R}` a [0-] path whose last
    frame is at or left of λ₋₁ (= `i0`, the smallest interface) is rejected with status '0-L', the
    old paths are returned and the engines receive no request at all (no propagate, no dump, no draw). -/
theorem lambda_minus_one_left_rejected (e0 e1 : Ens) (old0 old1 : List Frame) (bw fw : Script) (xi : Rat)
    (last0 : Frame) (hord : e0.i0 ≤ e0.i1 ∧ e0.i0 ≤ e0.i2) (hsc : e0.scL = true ∧ e0.scR = true)
    (hlast : old0.getLast? = some last0) (hleft : last0.op ≤ e0.i0) :
    ∃ r, retisSwapZero e0 e1 old0 old1 bw fw xi = .ok r ∧ r.accept = false ∧ r.status = .ZL ∧
      r.reqs = [] ∧ r.draws = 0 ∧ r.path0 = old0 ∧ r.path1 = old1 := by
  have he : earlyLeft e0 last0 = true := by
    simp [earlyLeft, hsc.1, hsc.2, lo_eq hord, hleft]
  refine ⟨rejected0L old0 old1, ?_, rfl, rfl, rfl, rfl, rfl, rfl⟩
  unfold retisSwapZero
  simp [hord.2, hlast, he]

/-- whenever the engines were asked nothing, the move was not accepted -/
theorem no_request_not_accepted {e0 e1 : Ens} {old0 old1 : List Frame} {bw fw : Script} {xi : Rat}
    {r : Result} (h : retisSwapZero e0 e1 old0 old1 bw fw xi = .ok r) (hq : r.reqs = []) :
    r.accept = false := by
  cases hacc : r.accept with
  | false => rfl
  | true =>
    obtain ⟨_, _, _, _, _, _, _, _, _, _, _, _, _, _, _, _, _, _, _, _, _, hr⟩ := accepted_shape h hacc
    rw [hq] at hr; cases hr

/-- **QuanTIS energy rule.**  Fix everything but `accept_all`.  If the move is accepted with
    `accept_all = True` (so: energies present, both shooting points left of λ0, both one-step
    crossings, both completed paths fine), then with `accept_all = False` it is accepted exactly when
    the drawn number is at most `min(1, p)` — `rand <= pacc` in the code, "at most" in the property —
    where `p` is the value of `exp(β₀·ΔV₀ − β₁·ΔV₁)`; otherwise the status is 'QEA'.  One number is
    drawn either way, and the exponent reported is the same. -/
theorem quantis_accept_iff (e0 e1 : Ens) (old0 old1 : List Frame) (scA scB scC scD : Script)
    (beta0 beta1 xi p : Rat) {rAll : Result}
    (hall : quantisSwapZero e0 e1 old0 old1 scA scB scC scD true beta0 beta1 xi p = .ok rAll)
    (hacc : rAll.accept = true) :
    ∃ r, quantisSwapZero e0 e1 old0 old1 scA scB scC scD false beta0 beta1 xi p = .ok r ∧
      (r.accept = true ↔ xi ≤ min 1 p) ∧ (¬ xi ≤ min 1 p → r.status = .QEA) ∧
      (xi ≤ min 1 p → r = rAll) ∧ r.draws = 1 ∧ r.expArg = rAll.expArg := by
  unfold quantisSwapZero at hall ⊢
  cases hpre : quantisPre e0 old0 old1 scA scB beta0 beta1 with
  | err e => rw [hpre] at hall; cases hall
  | early status p0 p1 s0 s1 reqs => rw [hpre] at hall; cases hall; cases hacc
  | reached tmp0 tmp1 reqs ea sc1L =>
    rw [hpre] at hall
    simp only [Bool.true_or, if_true, Bool.false_or, decide_eq_true_eq] at hall ⊢
    have hd : rAll.draws = 1 ∧ rAll.expArg = some ea := by
      unfold quantisComplete at hall
      split at hall <;> cases hall
      exact ⟨rfl, rfl⟩
    by_cases hx : xi ≤ min 1 p
    · rw [if_pos hx]
      exact ⟨rAll, hall, by simp [hacc, hx], fun h => absurd hx h, fun _ => rfl, hd.1, rfl⟩
    · rw [if_neg hx]
      exact ⟨_, rfl, by simp [qres, hx], fun _ => rfl, fun h => absurd h hx, rfl, by simp [qres, hd.2]⟩

/-- the exponent is the energy expression of the property: `β₀·(V₀(r₀) − V₀(r₁)) − β₁·(V₁(r₀) − V₁(r₁))`
    (which frame supplies which energy: `quantis_energy_rule_frames`) -/
theorem quantis_exponent (beta0 beta1 : Rat) (v0r0 v0r1 v1r1 v1r0 : Int) :
    expArgOf beta0 beta1 v0r0 v0r1 v1r1 v1r0 =
      beta0 * ((v0r0 : Rat) - (v0r1 : Rat)) - beta1 * ((v1r0 : Rat) - (v1r1 : Rat)) := by
  unfold expArgOf
  rw [Rat.mul_comm beta0, Rat.mul_comm beta1]
  simp [Rat.intCast_sub]

/-! ### the old paths are left untouched (the C09 clause "a rejected move leaves the old path untouched",
for the zero swaps)

The model is pure, so its inputs cannot change; what can be stated — and what the tie compares on every
call — is that every object the engines are asked to mutate (`propagate` re-points `config` and forces
`vel_rev`; `dump_phasepoint` re-points `config`) is a fresh copy, never a frame object of an old path.
The harness logs for each request whether the `System` it received is (by identity) a frame of an old
path and additionally snapshots both old paths around every call. -/

/-- **`retis_swap_zero` hands only copies to the engines** (whatever the outcome: accepted, rejected
    before or after propagation). -/
theorem swap_leaves_old_untouched {e0 e1 : Ens} {old0 old1 : List Frame} {bw fw : Script} {xi : Rat}
    {r : Result} (h : retisSwapZero e0 e1 old0 old1 bw fw xi = .ok r) :
    ∀ q ∈ r.reqs, q.fresh = true := by
  obtain ⟨_, last0, _, hcase⟩ := retis_ok h
  rcases hcase with ⟨_, rfl⟩ | ⟨_, path0, rq0, path1, rq1, hb0, hb1, hf⟩
  · simp [rejected0L]
  · obtain ⟨_, _, _, _, _, _, _, _, _, _, hrq, _⟩ := finish_table hf
    intro q hq
    rw [hrq, List.mem_append] at hq
    exact hq.elim (buildPath0_fresh hb0 q) (buildPath1_fresh hb1 q)

/-- the same for `quantis_swap_zero` -/
theorem quantis_leaves_old_untouched {e0 e1 : Ens} {old0 old1 : List Frame} {scA scB scC scD : Script}
    {aa : Bool} {beta0 beta1 xi p : Rat} {r : Result}
    (h : quantisSwapZero e0 e1 old0 old1 scA scB scC scD aa beta0 beta1 xi p = .ok r) :
    ∀ q ∈ r.reqs, q.fresh = true := by
  obtain ⟨pre0, sp1, last, sp0, rest1, rfl, rfl⟩ := quantis_shooting_frames h
  cases quantis_cases h with
  | core hc hdo out hout =>
    obtain ⟨_, _, _, more, hm, hfresh⟩ := core_table hout
    intro q hq
    rw [show (qres _ _ _ _ _ _ _ _ _ _).reqs = out.2.2.2.2.2.2.2 from rfl, hm, List.mem_append] at hq
    rcases hq with hq | hq
    · -- the two one-step requests
      rcases List.mem_cons.1 hq with rfl | hq
      · rfl
      · rw [List.mem_singleton.1 hq]
        rfl
    · exact hfresh q hq
  | _ => simp [qres, propReq_fresh]

/-! ### the high-acceptance rule of the zero swap (wire fencing in [0-] or [0+]) -/

/-- **the swap's acceptance ratio uses the weights at the cap.**  `high_acc_swap` accepts exactly when
    `ξ < (c1_new·c2_new)/(c1_old·c2_old)` (1 if a denominator weight is 0; strict `<` as in the code), and
    each of the four weights is `WF.computeWeight` — C10's weight — of the new [0+] path / the old [0+] path
    with the interfaces `[i0, i1, w2]`, where `w2 = tis_set["interface_cap"]` if it is set and the last
    interface otherwise (`Ens.w2`), i.e. the same right boundary `calc_cv_vector` and `wire_fencing` use. -/
theorem high_acc_uses_cap_weights {e0 e1 : Ens} {path1 old1 : List Frame} {xi : Rat} {a : Bool}
    (h : highAcc e0 e1 path1 old1 xi = .ok a) :
    ∃ c1o c2o c1n c2n : Nat,
      WF.computeWeight (ops path1) e0.i0 e0.i1 e0.w2 e0.wf = .ok c1o ∧
      WF.computeWeight (ops old1) e1.i0 e1.i1 e1.w2 e1.wf = .ok c2o ∧
      WF.computeWeight (ops old1) e0.i0 e0.i1 e0.w2 e0.wf = .ok c1n ∧
      WF.computeWeight (ops path1) e1.i0 e1.i1 e1.w2 e1.wf = .ok c2n ∧
      (a = true ↔ xi < (if c1o = 0 ∨ c2o = 0 then (1 : Rat)
                        else ((c1n * c2n : Nat) : Rat) / ((c1o * c2o : Nat) : Rat))) := by
  unfold highAcc at h
  cases h1 : cw path1 e0 with
  | error x => simp [h1] at h
  | ok c1o =>
    cases h2 : cw old1 e1 with
    | error x => simp [h1, h2] at h
    | ok c2o =>
      cases h3 : cw old1 e0 with
      | error x => simp [h1, h2, h3] at h
      | ok c1n =>
        cases h4 : cw path1 e1 with
        | error x => simp [h1, h2, h3, h4] at h
        | ok c2n =>
          simp only [h1, h2, h3, h4, Except.ok.injEq] at h
          refine ⟨c1o, c2o, c1n, c2n, cw_ok h1, cw_ok h2, cw_ok h3, cw_ok h4, ?_⟩
          rw [← h]; simp

/-- when both new paths are fine and one of the two ensembles uses wire fencing, the outcome of
    `retis_swap_zero` is decided by `high_acc_swap` alone: one number is drawn, ACC or HAS; and the weights
    put on the new paths are again `computeWeight` at the cap (1 for a non-wf ensemble). -/
theorem has_rule {e0 e1 : Ens} {old1 path0 path1 : List Frame} {reqs : List Req} {xi : Rat} {r : Result}
    (h : finish e0 e1 old1 path0 path1 reqs xi = .ok r)
    (h0 : status0 e0 path0 = .ACC) (h1 : status1 e1 path1 = .ACC) (hwf : (e0.wf || e1.wf) = true) :
    ∃ a, highAcc e0 e1 path1 old1 xi = .ok a ∧ r.accept = a ∧
      r.status = (if a then Status.ACC else Status.HAS) ∧ r.draws = 1 ∧
      finalWeight path0 e0 = .ok r.w0 ∧ finalWeight path1 e1 = .ok r.w1 := by
  obtain ⟨a, ha, hst, hacc, _, _, hd, _, _, _, _, hw0, hw1⟩ := finish_table h
  rw [h0, h1, hwf] at hst
  have hst' : r.status = if a then Status.ACC else Status.HAS := by rw [hst]; cases a <;> rfl
  refine ⟨a, ha h0 h1 hwf, ?_, hst', ?_, hw0, hw1⟩
  · rw [hacc, hst']; cases a <;> rfl
  · rw [hd, if_pos ⟨h0, h1, hwf⟩]

/-- **swapping twice restores the paths** — the statement behind `swap_twice_identity` and
    `swap_twice_identity_veldep`.  Only the second swap has to be run by the deterministic, time-reversible engine
    `D`; `gb`, `gf` are the order functions its backward and its forward call evaluate on the STORED configuration
    (which must be `D.opf` of the physical phase point: stored velocities are reversed in a backward call).  The
    backward call of the second swap is started on the frame the first swap put at the junction and retraces the
    old [0-] path in reverse; the forward call retraces the old [0+] path. -/
theorem swap_twice_restores (D : Dyn) (hrev : D.Reversible) (gb gf : Cfg → Int)
    (hgb : ∀ c, gb c.flip = D.opf c) (hgf : ∀ c, gf c = D.opf c) (n : Nat)
    {e0 e1 : Ens} {old0 old1 : List Frame} {bw fw : Script} {xi1 xi2 : Rat} {r1 r2 : Result} {first1' last0' : Frame}
    (h1 : retisSwapZero e0 e1 old0 old1 bw fw xi1 = .ok r1) (ha1 : r1.accept = true)
    (hf1 : r1.path1.head? = some first1') (hl0 : r1.path0.getLast? = some last0')
    (h2 : retisSwapZero e0 e1 r1.path0 r1.path1 (detScript D.step gb D.vf n (startCfg first1' true))
      (detScript D.step gf D.vf n (startCfg last0' false)) xi2 = .ok r2) (ha2 : r2.accept = true)
    (hm : e0.maxlen ≤ e1.maxlen) (hn : e1.maxlen ≤ n + 2)
    (hv0 : ValidMinus e0 old0) (hv1 : ValidPlus e1 old1) (ht0 : IsTraj D old0) (ht1 : IsTraj D old1) :
    ops r2.path0 = ops old0 ∧ ops r2.path1 = ops old1 ∧
      r2.path0.map Frame.phys = old0.map Frame.phys ∧ r2.path1.map Frame.phys = old1.map Frame.phys := by
  obtain ⟨pre0, a, b, c, d, post1, back, g0, g1, fwd, hold0, hold1, hp0, hp1, ha'op, ha'phys, _, _, hd'op, hd'phys,
    _, _⟩ := junction_identity h1 ha1
  -- second swap: it starts from those frames
  obtain ⟨pre0', a', b', c', d', post1', tmp0', s0', tmp1', s1', hold0', hold1', hprop0', hprop1', hp0', hp1',
    _, hl0', _, hl1', _, _⟩ := accepted_shape h2 ha2
  obtain ⟨rfl, rfl, rfl⟩ : c' = a ∧ d' = g1 ∧ post1' = fwd := by simpa using hold1'.symm.trans hp1
  obtain ⟨rfl, rfl, rfl⟩ : pre0' = back ∧ a' = g0 ∧ b' = d := by
    have := List.append_inj' (hold0'.symm.trans hp0) rfl
    simpa using this
  have hfirst1' : first1' = c' := by
    rw [hold1'] at hf1; simpa using hf1.symm
  have hlast0' : last0' = b' := by
    rw [hold0'] at hl0; simpa using hl0.symm
  subst hfirst1' hlast0'
  obtain ⟨f0, mid0, l0, ho0, hne0, hf0, hmid0, _, _⟩ := hv0
  obtain ⟨f1, mid1, l1, ho1, hne1, _, hmid1, hcl1, _⟩ := hv1
  obtain ⟨hsp0, _⟩ := secondlast_split (hold0.symm.trans ho0)
  have hsp1 : last0' :: post1 = mid1 ++ [l1] := by
    have := hold1.symm.trans ho1
    simp only [List.cons_append, List.cons.injEq] at this
    exact this.2
  -- backward call of the second swap retraces old [0-]
  have hback := propagate_retrace D Cfg.flip true gb hgb (fun c => by simp [physOf, ZeroSwap.flip_flip])
    (lst := pre0.reverse) (lpre := mid0.reverse) (lx := f0) hprop0' (by omega) (by omega)
    (by
      have := congrArg List.length hold0
      simp at this ⊢; omega)
    (startCfg_true first1')
    (by
      have hc : Consec (fun f g => g.phys = D.step f.phys) (pre0 ++ [first1']) := by
        have := ht0.2; rw [hold0] at this
        have e : pre0 ++ [first1', b] = (pre0 ++ [first1']) ++ [b] := by simp
        rw [e] at this; exact this.prefix
      have := consec_reverse hc
      simp only [List.reverse_append, List.reverse_cons, List.reverse_nil, List.nil_append, List.cons_append] at this
      refine Consec.imp ?_ this
      intro u w huw
      show w.phys.flip = D.step u.phys.flip
      rw [huw]; exact (hrev w.phys).symm)
    (by
      intro f hf
      apply ht0.1; rw [hold0]; simp at hf ⊢; exact Or.inl hf)
    (by
      have := congrArg List.reverse hsp0
      simpa using this)
    (by intro g hg; exact hmid0 g (by simpa using hg))
    (by
      rcases hf0 with h | ⟨_, h⟩
      · exact Or.inr h
      · exact Or.inl h)
  -- forward call of the second swap retraces old [0+]
  have hforw := propagate_retrace D id false gf hgf (fun _ => rfl)
    (lst := post1) (lpre := mid1) (lx := l1) hprop1' (by omega) (by omega)
    (by
      have := congrArg List.length hold1
      simp at this ⊢; omega)
    (startCfg_false last0')
    (by
      have := ht1.2; rw [hold1] at this
      exact this.tail)
    (by
      intro f hf
      apply ht1.1; rw [hold1]; simp [hf])
    hsp1 hmid1 hcl1
  obtain ⟨hbp, hbo⟩ := hback
  obtain ⟨hfp, hfo⟩ := hforw
  refine ⟨?_, ?_, ?_, ?_⟩
  · rw [hp0', hold0]
    simp only [ops, List.map_append, List.map_reverse, List.map_cons, List.map_nil] at hbo ⊢
    rw [hbo, hd'op]; simp
  · rw [hp1', hold1]
    simp only [ops, List.map_cons] at hfo ⊢
    rw [hfo, ha'op]
  · rw [hp0', hold0]
    simp only [List.map_append, List.map_reverse, List.map_cons, List.map_nil] at hbp ⊢
    rw [hbp, hd'phys]; simp
  · rw [hp1', hold1]
    simp only [List.map_cons] at hfp ⊢
    rw [hfp, ha'phys]

/-- **swapping twice restores the paths.**  Let both engines be one deterministic engine `D` that is
    time-reversible (`D.step (flip (D.step c)) = flip c`) with an order parameter that does not depend on
    the sign of the velocities, running at least `maxlen1 - 2` steps per call; let the old paths be valid
    members of their ensembles and trajectories of `D` (whatever their `vel_rev` flags), and
    `maxlen0 ≤ maxlen1`.  If the swap is accepted and the swap of the two new paths is accepted again,
    the result has the order-value sequences — and indeed the phase points — of the original paths. -/
theorem swap_twice_identity (D : Dyn) (hrev : D.Reversible) (hop : D.OpEven) (n : Nat)
    {e0 e1 : Ens} {old0 old1 : List Frame} {xi1 xi2 : Rat} {r1 r2 : Result}
    (h1 : retisSwapZeroDet D.step D.opf D.vf n e0 e1 old0 old1 xi1 = .ok r1) (ha1 : r1.accept = true)
    (h2 : retisSwapZeroDet D.step D.opf D.vf n e0 e1 r1.path0 r1.path1 xi2 = .ok r2) (ha2 : r2.accept = true)
    (hm : e0.maxlen ≤ e1.maxlen) (hn : e1.maxlen ≤ n + 2)
    (hv0 : ValidMinus e0 old0) (hv1 : ValidPlus e1 old1) (ht0 : IsTraj D old0) (ht1 : IsTraj D old1) :
    ops r2.path0 = ops old0 ∧ ops r2.path1 = ops old1 ∧
      r2.path0.map Frame.phys = old0.map Frame.phys ∧ r2.path1.map Frame.phys = old1.map Frame.phys := by
  obtain ⟨_, _, _, _, h1'⟩ := det_cases h1 ha1
  obtain ⟨_, _, hf1, hl0, h2'⟩ := det_cases h2 ha2
  exact swap_twice_restores D hrev D.opf D.opf hop (fun _ => rfl) n h1' ha1 hf1 hl0 h2' ha2 hm hn hv0 hv1 ht0 ht1

/-- **swapping twice restores the paths — velocity-dependent order parameters included.**  The hypothesis
    `OpEven` of `swap_twice_identity` is an artefact of evaluating the order function on the STORED configuration:
    every engine evaluates it on the physical phase point (`calculate_order` negates the stored velocities of a
    `vel_rev` frame; model `orbitV`).  With that engine model the same statement holds for ANY order function of
    the phase point. -/
theorem swap_twice_identity_veldep (D : Dyn) (hrev : D.Reversible) (n : Nat)
    {e0 e1 : Ens} {old0 old1 : List Frame} {xi1 xi2 : Rat} {r1 r2 : Result}
    (h1 : retisSwapZeroDetV D.step D.opf D.vf n e0 e1 old0 old1 xi1 = .ok r1) (ha1 : r1.accept = true)
    (h2 : retisSwapZeroDetV D.step D.opf D.vf n e0 e1 r1.path0 r1.path1 xi2 = .ok r2) (ha2 : r2.accept = true)
    (hm : e0.maxlen ≤ e1.maxlen) (hn : e1.maxlen ≤ n + 2)
    (hv0 : ValidMinus e0 old0) (hv1 : ValidPlus e1 old1) (ht0 : IsTraj D old0) (ht1 : IsTraj D old1) :
    ops r2.path0 = ops old0 ∧ ops r2.path1 = ops old1 ∧
      r2.path0.map Frame.phys = old0.map Frame.phys ∧ r2.path1.map Frame.phys = old1.map Frame.phys := by
  obtain ⟨_, _, _, _, h1'⟩ := det_cases h1 ha1
  obtain ⟨_, _, hf1, hl0, h2'⟩ := det_cases h2 ha2
  rw [detScriptV_eq, detScriptV_eq] at h2'
  exact swap_twice_restores D hrev _ _ (fun c => by simp [physOf, ZeroSwap.flip_flip]) (fun _ => rfl) n h1' ha1 hf1 hl0
    h2' ha2 hm hn hv0 hv1 ht0 ht1

/-! ### non-vacuity: the hypotheses are met by concrete, non-trivial swaps -/

/-- a witness of `∃ r, x = .ok r ∧ P r` with decidable `P`, by evaluating `x` once -/
theorem exists_ok {ε α : Type} {x : Except ε α} {P : α → Prop} [DecidablePred P]
    (h : (x.toOption.map fun r => decide (P r)) = some true) : ∃ r, x = .ok r ∧ P r := by
  cases x with
  | error e => cases h
  | ok r => exact ⟨r, rfl, of_decide_eq_true (Option.some.inj h)⟩

namespace Ex
def fr (o : Int) (x : Int) : Frame := { op := o, cfg := ⟨x, 1⟩, vr := false, vpot := some 0 }
def g (o : Int) (x : Int) : GenFrame := { op := o, cfg := ⟨x, 3⟩, vpot := some 0 }
def e0 : Ens := { i0 := -50, i1 := 0, i2 := 0, maxlen := 8, scL := false, scR := true, wf := false, cap := none }
def e0m : Ens := { i0 := -3, i1 := -2, i2 := 0, maxlen := 8, scL := true, scR := true, wf := false, cap := none }
def e1 : Ens := { i0 := 0, i1 := 1, i2 := 3, maxlen := 8, scL := true, scR := false, wf := false, cap := none }
def old0 : List Frame := [fr 1 100, fr (-1) 101, fr (-2) 102, fr 1 103]
def old0L : List Frame := [fr 1 100, fr (-1) 101, fr (-4) 102]
def old1 : List Frame := [fr (-1) 200, fr 1 201, fr 2 202, fr 4 203]
def bw : Script := ⟨some 0, [g (-2) 300, g (-1) 301, g 1 302, g 1 303, g 1 304, g 1 305]⟩
def fw : Script := ⟨some 0, [g 2 400, g 1 401, g (-1) 402, g 1 403, g 1 404, g 1 405]⟩
/-- QuanTIS: one-step scripts that cross λ0, energies 0/2, then the completions -/
def scA : Script := ⟨some 2, [g 1 500]⟩
def scB : Script := ⟨some 0, [g 1 600]⟩
end Ex

/-- an accepted plain swap meeting every hypothesis of `junction_identity` / `swap_members` -/
example : ∃ r, retisSwapZero Ex.e0 Ex.e1 Ex.old0 Ex.old1 Ex.bw Ex.fw 0 = .ok r ∧ r.accept = true ∧
    ops r.path0 = [1, -1, -2, -1, 1] ∧ ops r.path1 = [-2, 1, 2, 1, -1] ∧
    Ex.e0.maxlen ≤ Ex.e1.maxlen ∧ Ex.e1.maxlen ≤ Ex.bw.rest.length + 2 ∧ Ex.e1.maxlen ≤ Ex.fw.rest.length + 2 ∧
    (Ex.e0.i0 ≤ Ex.e0.i1 ∧ Ex.e0.i0 ≤ Ex.e0.i2) ∧ Ex.e0.i2 = Ex.e1.i0 ∧
    ValidMinus Ex.e0 Ex.old0 ∧ ValidPlus Ex.e1 Ex.old1 :=
  ⟨_, rfl, rfl, rfl, rfl, by decide, by decide, by decide, by decide, rfl, by decide, by decide⟩

/-- the λ₋₁ variant: an accepted swap whose new [0-] path starts LEFT of λ₋₁ = -3 -/
example : ∃ r, retisSwapZero Ex.e0m Ex.e1 Ex.old0 Ex.old1 ⟨some 0, [Ex.g (-2) 300, Ex.g (-4) 301, Ex.g 1 302, Ex.g 1 303, Ex.g 1 304, Ex.g 1 305]⟩ Ex.fw 0 = .ok r ∧
    r.accept = true ∧ ops r.path0 = [-4, -2, -1, 1] :=
  exists_ok (by decide +kernel)

/-- the λ₋₁ early reject: hypotheses of `lambda_minus_one_left_rejected` on a path ending at -4 ≤ λ₋₁ -/
example : (Ex.e0m.i0 ≤ Ex.e0m.i1 ∧ Ex.e0m.i0 ≤ Ex.e0m.i2) ∧ (Ex.e0m.scL = true ∧ Ex.e0m.scR = true) ∧
    Ex.old0L.getLast? = some (Ex.fr (-4) 102) ∧ (Ex.fr (-4) 102).op ≤ Ex.e0m.i0 :=
  ⟨by decide, by decide, rfl, by decide⟩

/-- QuanTIS: accepted with accept_all; with (ξ, p) = (0, 1) it is accepted and with (ξ, p) = (1, 0) the status is QEA -/
example : ∃ r, quantisSwapZero Ex.e0 Ex.e1 Ex.old0 Ex.old1 Ex.scA Ex.scB Ex.bw Ex.fw true 1 1 0 1 = .ok r ∧
    r.accept = true ∧ r.draws = 1 := exists_ok (by decide +kernel)

example : (quantisSwapZero Ex.e0 Ex.e1 Ex.old0 Ex.old1 Ex.scA Ex.scB Ex.bw Ex.fw false 1 1 0 1).toOption.map
    (fun r => (r.accept, r.status)) = some (true, .ACC) := by decide +kernel

example : (quantisSwapZero Ex.e0 Ex.e1 Ex.old0 Ex.old1 Ex.scA Ex.scB Ex.bw Ex.fw false 1 1 1 0).toOption.map
    (fun r => (r.accept, r.status)) = some (false, .QEA) := by decide +kernel

/-! ### non-vacuity of `swap_twice_identity`: the integer leap-frog engine in a double well -/

/-- position-Verlet with an integer force is exactly time-reversible -/
theorem dw_reversible (a k : Int) : ∀ c : Cfg, dwStep a k (dwStep a k c).flip = c.flip := by
  intro c
  cases c with
  | mk x v =>
    simp only [dwStep, Cfg.flip]
    have e : x + v + (v + dwForce a k (x + v)) + -(v + dwForce a k (x + v)) = x + v := by omega
    rw [e]
    congr 1 <;> omega

def dwDyn (a k : Int) : Dyn := { step := dwStep a k, opf := (·.x), vf := fun _ => some 0 }

theorem dwDyn_reversible (a k : Int) : (dwDyn a k).Reversible := dw_reversible a k
theorem dwDyn_opEven (a k : Int) : (dwDyn a k).OpEven := fun _ => rfl

namespace ExDet
def fr (x v : Int) (vr : Bool) : Frame := { op := x, cfg := ⟨x, v⟩, vr := vr, vpot := some 0 }
def e0 : Ens := { i0 := -50, i1 := -7, i2 := -7, maxlen := 16, scL := false, scR := true, wf := false, cap := none }
def e1 : Ens := { i0 := -7, i1 := -7, i2 := -2, maxlen := 16, scL := true, scR := false, wf := false, cap := none }
/-- a [0-] trajectory of the double well (a = 64, k = 64): x = -4, -10, -10, -4, stored with mixed flags -/
def old0 : List Frame := [fr (-4) 2 true, fr (-10) (-4) false, fr (-10) 4 false, fr (-4) 2 false]
/-- a [0+] trajectory: x = -10, -6, -2, 0 -/
def old1 : List Frame := [fr (-10) 1 false, fr (-6) (-3) true, fr (-2) (-1) true, fr 0 (-1) true]
end ExDet

/-- every hypothesis of `swap_twice_identity` holds for this pair: both swaps are accepted, the old
    paths are members and trajectories of the reversible engine -/
example : ∃ r1 r2,
    retisSwapZeroDet (dwDyn 64 64).step (dwDyn 64 64).opf (dwDyn 64 64).vf 18 ExDet.e0 ExDet.e1 ExDet.old0 ExDet.old1 0 = .ok r1 ∧
    r1.accept = true ∧ ops r1.path0 = [-4, -10, -6] ∧ ops r1.path1 = [-10, -4, -1] ∧
    retisSwapZeroDet (dwDyn 64 64).step (dwDyn 64 64).opf (dwDyn 64 64).vf 18 ExDet.e0 ExDet.e1 r1.path0 r1.path1 0 = .ok r2 ∧
    r2.accept = true ∧ ExDet.e0.maxlen ≤ ExDet.e1.maxlen ∧ ExDet.e1.maxlen ≤ 18 + 2 ∧
    ValidMinus ExDet.e0 ExDet.old0 ∧ ValidPlus ExDet.e1 ExDet.old1 ∧
    IsTraj (dwDyn 64 64) ExDet.old0 ∧ IsTraj (dwDyn 64 64) ExDet.old1 := by
  refine ⟨_, _, rfl, rfl, rfl, rfl, rfl, rfl, by decide, by decide, by decide, by decide, ?_, ?_⟩
  · exact ⟨by decide, by decide, by decide, by decide, trivial⟩
  · exact ⟨by decide, by decide, by decide, by decide, trivial⟩

/-- the double-well leap-frog engine with the velocity-dependent order parameter λ = 2x + v -/
def dwVelDyn (a k : Int) : Dyn := { step := dwStep a k, opf := fun c => 2 * c.x + c.v, vf := fun _ => some 0 }

namespace ExVel
def fr (x v : Int) (vr : Bool) : Frame :=
  { op := 2 * x + (if vr then -v else v), cfg := ⟨x, v⟩, vr := vr, vpot := some 0 }
def e0 : Ens := { i0 := -1000000, i1 := -16, i2 := -16, maxlen := 15, scL := false, scR := true, wf := false, cap := none }
def e1 : Ens := { i0 := -16, i1 := -16, i2 := -1, maxlen := 15, scL := true, scR := false, wf := false, cap := none }
/-- λ = -8, -17, -14 -/
def old0 : List Frame := [fr (-4) 0 false, fr (-7) (-3) false, fr (-8) 2 false]
/-- λ = -21, -3, 17 (the last frame stored with reversed velocities) -/
def old1 : List Frame := [fr (-12) 3 false, fr (-4) 5 false, fr 6 (-5) true]
end ExVel

/-- every hypothesis of `swap_twice_identity_veldep` holds for this pair (a = k = 64, λ = 2x + v is NOT even in v) -/
example : ∃ r1 r2,
    retisSwapZeroDetV (dwVelDyn 64 64).step (dwVelDyn 64 64).opf (dwVelDyn 64 64).vf 17 ExVel.e0 ExVel.e1 ExVel.old0 ExVel.old1 (1/2) = .ok r1 ∧
    r1.accept = true ∧ ops r1.path0 = [-8, -25, -21, -3] ∧ ops r1.path1 = [-17, -14, -12, -18] ∧
    retisSwapZeroDetV (dwVelDyn 64 64).step (dwVelDyn 64 64).opf (dwVelDyn 64 64).vf 17 ExVel.e0 ExVel.e1 r1.path0 r1.path1 (1/2) = .ok r2 ∧
    r2.accept = true ∧ (dwVelDyn 64 64).Reversible ∧ ¬ (dwVelDyn 64 64).OpEven ∧
    ExVel.e0.maxlen ≤ ExVel.e1.maxlen ∧ ExVel.e1.maxlen ≤ 17 + 2 ∧
    ValidMinus ExVel.e0 ExVel.old0 ∧ ValidPlus ExVel.e1 ExVel.old1 ∧
    IsTraj (dwVelDyn 64 64) ExVel.old0 ∧ IsTraj (dwVelDyn 64 64) ExVel.old1 := by
  refine ⟨_, _, rfl, rfl, rfl, rfl, rfl, rfl, dw_reversible 64 64, ?_, by decide, by decide, by decide, by decide, ?_, ?_⟩
  · intro h
    have := h ⟨0, 1⟩
    revert this; decide
  · exact ⟨by decide, by decide, by decide, trivial⟩
  · exact ⟨by decide, by decide, by decide, trivial⟩

/-- **status table of `retis_swap_zero`** (every outcome the code can return).  Either the λ₋₁ early return
    ('0-L', old paths handed back, no request, no draw, no status field touched), or the move built both paths
    and the returned status is `retisTable` of the two per-path statuses: the failure of the new [0-] path if
    it has one (BTX: length = maxlen0; BTS: shorter than 3; 0-L), else that of the new [0+] path (FTX: length ≥
    maxlen1; FTS), else 'HAS' when wire fencing is involved and `high_acc_swap` said no, else 'ACC'.
    `accept ⇔ ACC`; the [0-] path object always carries the returned status, the [0+] path object its own failure
    if it has one (so the two fields differ exactly when both paths failed); ξ is drawn exactly when both paths are
    fine and wire fencing is involved, and then after all four engine requests. -/
theorem retis_status_table {e0 e1 : Ens} {old0 old1 : List Frame} {bw fw : Script} {xi : Rat} {r : Result}
    (h : retisSwapZero e0 e1 old0 old1 bw fw xi = .ok r) :
    ∃ last0, old0.getLast? = some last0 ∧
      ((earlyLeft e0 last0 = true ∧ r.status = .ZL ∧ r.accept = false ∧ r.st0 = .none ∧ r.st1 = .none ∧
          r.path0 = old0 ∧ r.path1 = old1 ∧ r.reqs = [] ∧ r.draws = 0) ∨
       (earlyLeft e0 last0 = false ∧ ∃ a : Bool,
          (status0 e0 r.path0 = .ACC → status1 e1 r.path1 = .ACC → (e0.wf || e1.wf) = true →
            highAcc e0 e1 r.path1 old1 xi = .ok a) ∧
          r.status = retisTable (status0 e0 r.path0) (status1 e1 r.path1) (e0.wf || e1.wf) a ∧
          r.accept = decide (r.status = .ACC) ∧ r.st0 = r.status ∧
          r.st1 = retisField1 (status1 e1 r.path1) r.status ∧
          r.draws = (if status0 e0 r.path0 = .ACC ∧ status1 e1 r.path1 = .ACC ∧ (e0.wf || e1.wf) = true then 1 else 0) ∧
          retisDrawAt r = (if r.draws = 0 then none else some r.reqs.length))) := by
  obtain ⟨_, last0, hlast, hcase⟩ := retis_ok h
  refine ⟨last0, hlast, ?_⟩
  rcases hcase with ⟨he, rfl⟩ | ⟨he, path0, rq0, path1, rq1, _, _, hf⟩
  · exact Or.inl ⟨he, rfl, rfl, rfl, rfl, rfl, rfl, rfl, rfl⟩
  · right
    obtain ⟨a, ha, hst, hacc, h0, h1, hd, _, hp0, hp1, _⟩ := finish_table hf
    rw [hp0, hp1]
    exact ⟨he, a, ha, hst, hacc, h0, h1, hd, rfl⟩

/-- the table read row by row: for per-path statuses in their ranges (`status0` ∈ {BTX, BTS, 0-L, ACC},
    `status1` ∈ {FTX, FTS, ACC}) each status is returned under exactly one condition -/
theorem retis_table_rows (s0 s1 : Status) (wf a : Bool)
    (h0 : s0 = .BTX ∨ s0 = .BTS ∨ s0 = .ZL ∨ s0 = .ACC) (h1 : s1 = .FTX ∨ s1 = .FTS ∨ s1 = .ACC) :
    (retisTable s0 s1 wf a = .BTX ↔ s0 = .BTX) ∧ (retisTable s0 s1 wf a = .BTS ↔ s0 = .BTS) ∧
    (retisTable s0 s1 wf a = .ZL ↔ s0 = .ZL) ∧
    (retisTable s0 s1 wf a = .FTX ↔ s0 = .ACC ∧ s1 = .FTX) ∧ (retisTable s0 s1 wf a = .FTS ↔ s0 = .ACC ∧ s1 = .FTS) ∧
    (retisTable s0 s1 wf a = .HAS ↔ s0 = .ACC ∧ s1 = .ACC ∧ wf = true ∧ a = false) ∧
    (retisTable s0 s1 wf a = .ACC ↔ s0 = .ACC ∧ s1 = .ACC ∧ (wf = true → a = true)) ∧
    (retisField1 s1 (retisTable s0 s1 wf a) = retisTable s0 s1 wf a ↔ s0 = .ACC ∨ s1 = .ACC) := by
  -- a finite table: twelve status pairs, the two flags by evaluation
  rcases h0 with rfl | rfl | rfl | rfl <;> rcases h1 with rfl | rfl | rfl <;> revert wf a <;> decide +kernel

/-- the per-path statuses in terms of lengths and end points (tis.py:915-925, 968-973), incl. the two
    length-limit outcomes: BTX ⇔ the new [0-] path has EXACTLY `maxlen0` frames, FTX ⇔ the new [0+] path has
    AT LEAST `maxlen1` frames -/
theorem path_status_rows (e : Ens) (p : List Frame) :
    (status0 e p = .BTX ↔ p.length = e.maxlen) ∧
    (status0 e p = .BTS ↔ p.length ≠ e.maxlen ∧ p.length < 3) ∧
    (status0 e p = .ZL ↔ p.length ≠ e.maxlen ∧ 3 ≤ p.length ∧ e.scL = false ∧
        (startIsL e.lo p = true ∨ endIsL e.lo p = true)) ∧
    (status1 e p = .FTX ↔ e.maxlen ≤ p.length) ∧
    (status1 e p = .FTS ↔ p.length < e.maxlen ∧ p.length < 3) ∧
    (status1 e p = .ACC ↔ p.length < e.maxlen ∧ 3 ≤ p.length) := by
  unfold status0 status1
  by_cases h1 : p.length = e.maxlen
  · simp [h1]
  -- the '0-L' test is reached only by paths of three or more frames
  · by_cases h3 : e.maxlen ≤ p.length <;> by_cases h2 : p.length < 3
    · simp [h1, h2, h3]; omega
    · cases hs : e.scL <;> cases ha : startIsL e.lo p <;> cases hb : endIsL e.lo p <;> simp [h1, h2, h3] <;> omega
    · simp [h1, h2, h3]; omega
    · cases hs : e.scL <;> cases ha : startIsL e.lo p <;> cases hb : endIsL e.lo p <;> simp [h1, h2, h3] <;> omega

example : ∃ r, retisSwapZero Ex.e0 Ex.e1 Ex.old0 Ex.old1 Ex.bw Ex.fw 0 = .ok r ∧ r.status = .ACC ∧
    r.st0 = .ACC ∧ r.st1 = .ACC ∧ retisDrawAt r = none := exists_ok (by decide +kernel)

/-- both new paths fail (BTX and FTX): the returned status is that of the [0-] path and the two status
    fields differ -/
example : ∃ r, retisSwapZero { Ex.e0 with maxlen := 5 } { Ex.e1 with maxlen := 5 } Ex.old0 Ex.old1 Ex.bw Ex.fw 0 = .ok r ∧
    r.status = .BTX ∧ r.st0 = .BTX ∧ r.st1 = .FTX := exists_ok (by decide +kernel)

/-- **status table of `quantis_swap_zero`.**  Whatever the inputs, a returned result has one of fourteen
    statuses; the move is accepted exactly on 'ACC'; the status fields of the two returned path objects are those
    of `quantisFields` (they agree with the returned status except: QS1 and QR* leave the first path without a
    status, a failed [0-] completion (BTX/BTS/0-L) leaves the second without one, and a failed [0+] completion
    (FTX/FTS/0+R) returns the new [0-] path still marked 'ACC'); ξ is drawn exactly when the status is not one of
    the four pre-checks QNE/QLL/QS0/QS1, and then after exactly two engine requests; 'QEA' is returned exactly
    when the energy rule was evaluated, `accept_all` is off and ξ > min(1, p). -/
theorem quantis_status_table {e0 e1 : Ens} {old0 old1 : List Frame} {scA scB scC scD : Script} {aa : Bool}
    {b0 b1 xi p : Rat} {r : Result}
    (h : quantisSwapZero e0 e1 old0 old1 scA scB scC scD aa b0 b1 xi p = .ok r) :
    r.accept = decide (r.status = .ACC) ∧ (r.st0, r.st1) = quantisFields r.status ∧
    r.status ∈ [Status.QNE, .QLL, .QS0, .QS1, .QEA, .QRS, .BTX, .BTS, .ZL, .QLR, .FTX, .FTS, .ZR, .ACC] ∧
    r.draws = (if r.status = .QNE ∨ r.status = .QLL ∨ r.status = .QS0 ∨ r.status = .QS1 then 0 else 1) ∧
    quantisDrawAt r = (if r.draws = 0 then none else some 2) ∧
    (r.status = .QEA ↔ r.draws = 1 ∧ aa = false ∧ ¬ xi ≤ min 1 p) ∧
    (r.draws = 0 → r.reqs.length ≤ 2 ∧ r.expArg = none) := by
  obtain ⟨pre0, sp1, last, sp0, rest1, rfl, rfl⟩ := quantis_shooting_frames h
  cases quantis_cases h with
  | qea hc haa hx => simp [qres, quantisDrawAt, quantisFields, haa, hx]
  | core hc hdo out hout =>
    obtain ⟨hacc, hf, hr, more, hm, _⟩ := core_table hout
    have hmin : min 2 out.2.2.2.2.2.2.2.length = 2 := by rw [hm]; simp
    have hbr' : ¬ (aa = false ∧ ¬ xi ≤ min 1 p) := fun ⟨h1, h2⟩ => hdo.elim (by simp [h1]) h2
    -- the completion returns none of the five statuses of the part before it
    have hne : out.2.1 ≠ .QNE ∧ out.2.1 ≠ .QLL ∧ out.2.1 ≠ .QS0 ∧ out.2.1 ≠ .QS1 ∧ out.2.1 ≠ .QEA := by
      rcases hr with h | h | h | h | h | h | h | h | h <;> rw [h] <;> decide
    simp only [qres, quantisDrawAt, hmin]
    refine ⟨?_, hf, ?_, ?_, by simp, ?_, by simp⟩
    · rw [Bool.eq_iff_iff, hacc]; exact decide_eq_true_iff.symm
    · rcases hr with h | h | h | h | h | h | h | h | h <;> rw [h] <;> decide
    · simp [hne]
    · simp [hne, hbr']
  | _ => simp [qres, quantisDrawAt, quantisFields]

/-- **input-level table of the four pre-checks and of "the energy rule is evaluated"** for well-formed paths
    (`sp0` = first frame of the old [0+] path, `sp1` = second-last frame of the old [0-] path):
    QNE ⇔ an energy is missing (`None`; 0.0 is an energy); QLL ⇔ energies present and a shooting point is not
    strictly left of λ0; QS0 / QS1 ⇔ the one-step crossing (`oneStep`: shooting point not left of λ₋₁, the MD
    program produced a next frame, that frame strictly right of λ0) failed for [0-] / for [0+]; ξ is drawn ⇔
    all of these hold. -/
theorem quantis_input_table {e0 e1 : Ens} {pre0 rest1 : List Frame} {sp1 last sp0 : Frame}
    {scA scB scC scD : Script} {aa : Bool} {b0 b1 xi p : Rat} {r : Result}
    (h : quantisSwapZero e0 e1 (pre0 ++ [sp1, last]) (sp0 :: rest1) scA scB scC scD aa b0 b1 xi p = .ok r) :
    (r.status = .QNE ↔ sp0.vpot = none ∨ sp1.vpot = none) ∧
    (r.status = .QLL ↔ sp0.vpot ≠ none ∧ sp1.vpot ≠ none ∧ ¬ (sp0.op < e0.i2 ∧ sp1.op < e0.i2)) ∧
    (r.status = .QS0 ↔ sp0.vpot ≠ none ∧ sp1.vpot ≠ none ∧ sp0.op < e0.i2 ∧ sp1.op < e0.i2 ∧
        oneStep e0 sp0 scA = none) ∧
    (r.status = .QS1 ↔ sp0.vpot ≠ none ∧ sp1.vpot ≠ none ∧ sp0.op < e0.i2 ∧ sp1.op < e0.i2 ∧
        oneStep e0 sp0 scA ≠ none ∧ oneStep e0 sp1 scB = none) ∧
    (r.draws = 1 ↔ sp0.vpot ≠ none ∧ sp1.vpot ≠ none ∧ sp0.op < e0.i2 ∧ sp1.op < e0.i2 ∧
        oneStep e0 sp0 scA ≠ none ∧ oneStep e0 sp1 scB ≠ none) := by
  obtain ⟨_, _, _, hdraws, _⟩ := quantis_status_table h
  cases quantis_cases h with
  | qne hn => rcases hn with hn | hn <;> simp [qres, hn]
  | qll h0 h1 hl =>
    simp [qres, h0, h1]
    refine ⟨?_, ?_, ?_, ?_⟩ <;> (intros; omega)
  | qs0 h0 h1 hl0 hl1 ho0 => simp [qres, h0, h1, hl0, hl1, ho0]
  | qs1 h0 h1 hl0 hl1 ho0 ho1 => simp [qres, h0, h1, hl0, hl1, ho0, ho1]
  | qea hc => simp [qres, hc.left0, hc.left1, hc.step0, hc.step1, hc.v0r0, hc.v1r1]
  | core hc hdo out hout =>
    -- one number was drawn: by the status table none of the pre-check statuses is returned
    have hst : ¬ (out.2.1 = .QNE ∨ out.2.1 = .QLL ∨ out.2.1 = .QS0 ∨ out.2.1 = .QS1) := fun hh => by
      simp [qres, hh] at hdraws
    simp only [not_or] at hst
    simp [qres, hst, hc.left0, hc.left1, hc.step0, hc.step1, hc.v0r0, hc.v1r1]

/-- `quantis_swap_zero` answers 'QNE' only if the second-last frame of the old [0-] path or the first frame of
    the old [0+] path carries no potential energy (`None`); an energy of 0 is an energy. -/
theorem quantis_qne_only_if_energy_missing {e0 e1 : Ens} {old0 old1 : List Frame} {scA scB scC scD : Script}
    {aa : Bool} {beta0 beta1 xi p : Rat} {r : Result} {sp0 sp1 last : Frame} {rest1 pre0 : List Frame}
    (h : quantisSwapZero e0 e1 old0 old1 scA scB scC scD aa beta0 beta1 xi p = .ok r)
    (h1 : old1 = sp0 :: rest1) (h0 : old0 = pre0 ++ [sp1, last])
    (hv0 : sp0.vpot ≠ none) (hv1 : sp1.vpot ≠ none) : r.status ≠ .QNE := by
  subst h0 h1
  exact fun hq => ((quantis_input_table h).1.mp hq).elim hv0 hv1

/-- non-vacuity: energies exactly 0 on both shooting points, and the swap is accepted -/
example : ∃ r, quantisSwapZero Ex.e0 Ex.e1 Ex.old0 Ex.old1 Ex.scA Ex.scB Ex.bw Ex.fw true 1 1 0 1 = .ok r ∧
    r.status = .ACC ∧ (Ex.fr (-1) 200).vpot = some 0 ∧ (Ex.fr (-2) 102).vpot = some 0 := exists_ok (by decide +kernel)

/-- **which frames and energies enter the QuanTIS energy rule, and when ξ is drawn.**  Whenever ξ is drawn (well-
    formed paths), the exponent handed to `exp` is `β₀·(V₀(r₀) − V₀(r₁)) − β₁·(V₁(r₀) − V₁(r₁))` with
    `V₀(r₀)` = stored energy of the SECOND-LAST frame of the old [0-] path, `V₁(r₁)` = stored energy of the FIRST
    frame of the old [0+] path, `V₀(r₁)` = energy engine 0 reports for frame 0 of its one-step trajectory from
    that first frame, `V₁(r₀)` = energy engine 1 reports for frame 0 of its one-step trajectory from that
    second-last frame; both one-step crossings succeeded; and the draw comes after exactly these two requests:
    engine 0 forward from the [0+] frame, engine 1 forward from the [0-] frame, both into a path of 2 frames and
    both with the interfaces of [0-] (the code hands `ens_set0` to engine 1, too). -/
theorem quantis_energy_rule_frames {e0 e1 : Ens} {pre0 rest1 : List Frame} {sp1 last sp0 : Frame}
    {scA scB scC scD : Script} {aa : Bool} {b0 b1 xi p : Rat} {r : Result}
    (h : quantisSwapZero e0 e1 (pre0 ++ [sp1, last]) (sp0 :: rest1) scA scB scC scD aa b0 b1 xi p = .ok r)
    (hd : r.draws = 1) :
    ∃ v0r0 v0r1 v1r1 v1r0 g0 g1,
      sp1.vpot = some v0r0 ∧ scA.v0 = some v0r1 ∧ sp0.vpot = some v1r1 ∧ scB.v0 = some v1r0 ∧
      oneStep e0 sp0 scA = some g0 ∧ oneStep e0 sp1 scB = some g1 ∧
      r.expArg = some (b0 * ((v0r0 : Rat) - (v0r1 : Rat)) - b1 * ((v1r0 : Rat) - (v1r1 : Rat))) ∧
      r.reqs.take 2 = [propReq 0 2 e0.i0 e0.i2 sp0 false, propReq 1 2 e0.i0 e0.i2 sp1 false] ∧
      quantisDrawAt r = some 2 := by
  obtain ⟨g0, g1, v0r0, v0r1, v1r1, v1r0, hc, hea, hrq⟩ := quantis_crossed h hd
  refine ⟨v0r0, v0r1, v1r1, v1r0, g0, g1, hc.v0r0, hc.v0r1, hc.v1r1, hc.v1r0, hc.step0, hc.step1, ?_, hrq, ?_⟩
  · rw [hea, quantis_exponent]
  · rw [(quantis_status_table h).2.2.2.2.1, hd]; rfl

/-- **junction identity of an accepted QuanTIS swap.**  The new [0-] path ends with `g0, x0`: `g0` is the first
    frame of the old [0+] path (same order value, same phase point, flagged `vel_rev`, carrying the energy engine 0
    reports for it) and `x0` is the frame engine 0 produced one step after it, strictly right of λ0.  The new
    [0+] path starts with `f1, x1`: `f1` is the second-last frame of the old [0-] path (same order value, same
    phase point, not flagged, carrying the energy engine 1 reports for it) and `x1` the frame engine 1 produced
    one step after it, strictly right of λ0.  Both new paths are strictly shorter than `maxlen0` — QuanTIS reads
    both limits from the [0-] settings — and have at least 3 frames. -/
theorem quantis_junction_identity {e0 e1 : Ens} {pre0 rest1 : List Frame} {sp1 last sp0 : Frame}
    {scA scB scC scD : Script} {aa : Bool} {b0 b1 xi p : Rat} {r : Result}
    (h : quantisSwapZero e0 e1 (pre0 ++ [sp1, last]) (sp0 :: rest1) scA scB scC scD aa b0 b1 xi p = .ok r)
    (ha : r.accept = true) :
    ∃ back g0 x0 f1 x1 fwd,
      r.path0 = back ++ [g0, genFrame x0 false] ∧ r.path1 = f1 :: genFrame x1 false :: fwd ∧
      g0.op = sp0.op ∧ g0.phys = sp0.phys ∧ g0.vr = true ∧ g0.vpot = scC.v0 ∧ g0.cfg.x = sp0.cfg.x ∧
      f1.op = sp1.op ∧ f1.phys = sp1.phys ∧ f1.vr = false ∧ f1.vpot = scB.v0 ∧ f1.cfg.x = sp1.cfg.x ∧
      oneStep e0 sp0 scA = some x0 ∧ x0.op > e0.i2 ∧ oneStep e0 sp1 scB = some x1 ∧ x1.op > e0.i2 ∧
      r.path0.length < e0.maxlen ∧ r.path1.length < e0.maxlen ∧ 3 ≤ r.path0.length ∧ 3 ≤ r.path1.length := by
  obtain ⟨g0, g1, back, sb, forw, sf, _, _, hg0, hg1, hpb, hpf, hp0, hp1, hb2, hbl, hf2, hfl, _⟩ :=
    quantis_accepted_shape h ha
  obtain ⟨t, ht⟩ := propagate_head hpb (by omega)
  have hlen0 : r.path0.length = back.length + 1 := by rw [hp0]; simp
  have hlen1 : r.path1.length = forw.length + 1 := by rw [hp1]; simp; omega
  refine ⟨t.reverse, { op := sp0.op, cfg := startCfg (startFrame sp0 scA) true, vr := true, vpot := scC.v0 }, g0,
    startFrame sp1 scB, g1, forw.tail, ?_, hp1, rfl, ?_, rfl, rfl, ?_, rfl, ?_, rfl, rfl, ?_,
    hg0, oneStep_some hg0, hg1, oneStep_some hg1, by omega, by omega, by omega, by omega⟩
  · rw [hp0, ht]; simp [startFrame]
  · exact phys_start (startFrame sp0 scA) true _ _ |>.trans (phys_start sp0 false _ _)
  · cases hv : sp0.vr <;> simp [startCfg, startFrame, hv, Cfg.flip]
  · exact phys_start sp1 false _ _
  · cases hv : sp1.vr <;> simp [startCfg, startFrame, hv, Cfg.flip]

/-- **the QuanTIS acceptance is reversible (detailed balance).**  Let the energies the two engines report be
    functions `V₀`, `V₁` of the configuration (and let the stored energies of the two old shooting frames be
    those values, as for paths the engines generated).  If a swap is accepted and the two NEW paths are swapped
    again far enough for the energy rule to be evaluated, the exponent of the second swap is exactly the negative
    of the exponent of the first: the second swap uses the frames the first one put at the junctions (second-last
    of new [0-] = old [0+] first frame with engine 0's energy; first of new [0+] = old [0-] second-last frame with
    engine 1's energy).  Hence `p_acc(forward) / p_acc(back) = min(1, eˣ) / min(1, e⁻ˣ) = eˣ`. -/
theorem quantis_detailed_balance (V0 V1 : Int → Int)
    {e0 e1 : Ens} {pre0 rest1 : List Frame} {sp1 last sp0 : Frame}
    {scA scB scC scD scA' scB' scC' scD' : Script} {aa aa' : Bool} {b0 b1 xi p xi' p' : Rat} {r1 r2 : Result}
    (h1 : quantisSwapZero e0 e1 (pre0 ++ [sp1, last]) (sp0 :: rest1) scA scB scC scD aa b0 b1 xi p = .ok r1)
    (ha : r1.accept = true)
    (h2 : quantisSwapZero e0 e1 r1.path0 r1.path1 scA' scB' scC' scD' aa' b0 b1 xi' p' = .ok r2)
    (hd2 : r2.draws = 1)
    (hold0 : sp1.vpot = some (V0 sp1.cfg.x)) (hold1 : sp0.vpot = some (V1 sp0.cfg.x))
    (hA : scA.v0 = some (V0 sp0.cfg.x)) (hB : scB.v0 = some (V1 sp1.cfg.x)) (hC : scC.v0 = some (V0 sp0.cfg.x))
    (hA' : scA'.v0 = some (V0 sp1.cfg.x)) (hB' : scB'.v0 = some (V1 sp0.cfg.x)) :
    ∃ ea, r1.expArg = some ea ∧ r2.expArg = some (-ea) := by
  obtain ⟨hacc, _, _, hdr, _, _, _⟩ := quantis_status_table h1
  have hst : r1.status = .ACC := by rw [hacc] at ha; simpa using ha
  have hd1 : r1.draws = 1 := by rw [hdr, hst]; simp
  obtain ⟨v0r0, v0r1, v1r1, v1r0, _, _, e1', e2', e3', e4', _, _, hea1, _, _⟩ := quantis_energy_rule_frames h1 hd1
  obtain ⟨back, g0, x0, f1, x1, fwd, hp0, hp1, _, _, _, hg0v, hg0x, _, _, _, hf1v, hf1x, _⟩ :=
    quantis_junction_identity h1 ha
  rw [hp0, hp1] at h2
  obtain ⟨w0r0, w0r1, w1r1, w1r0, _, _, f1', f2', f3', f4', _, _, hea2, _, _⟩ := quantis_energy_rule_frames h2 hd2
  rw [hold0] at e1'; rw [hA] at e2'; rw [hold1] at e3'; rw [hB] at e4'
  rw [hg0v, hC] at f1'; rw [hA'] at f2'; rw [hf1v, hB] at f3'; rw [hB'] at f4'
  simp only [Option.some.injEq] at e1' e2' e3' e4' f1' f2' f3' f4'
  subst e1' e2' e3' e4' f1' f2' f3' f4'
  refine ⟨_, hea1, ?_⟩
  rw [hea2]
  congr 1
  grind

/-- **the QuanTIS junctions are built by C15's `paste_paths` and `Path.reverse`.**  In any heap of System
    objects in which four path objects hold the values of the backward completion, the two one-step paths and
    the forward completion, `paste_paths(new_path0, tmp_path0, maxlen=maxlen0)` and
    `paste_paths(tmp_path1.reverse(None, rev_v=False), new_path1, maxlen=maxlen1)` — computed with the path
    algebra of C15 (`PathAlg.paste`, `PathAlg.Path.reverse`: references re-used by `paste_paths`, copied by
    `reverse`, truncation at the limit, `time_origin`) — hold exactly the frames `quantisCompleteCore` computes
    with its private list functions (the two right-hand sides are its `new0` and `new1`); the System objects
    that existed before are untouched. -/
theorem quantis_paste_is_path_algebra (h : PathAlg.Heap) (B T0 T1 F : PathAlg.Path)
    (back tmp0 tmp1 forw : List Frame) (m0 m1 : Nat)
    (hB : PathAlg.vals h B = fvals back) (hT0 : PathAlg.vals h T0 = fvals tmp0)
    (hT1 : PathAlg.vals h T1 = fvals tmp1) (hF : PathAlg.vals h F = fvals forw)
    (hml : T1.maxlen = some 2) (hlen : tmp1.length ≤ 2) :
    (∃ P0, quantisPaste0 B T0 m0 = .ok P0 ∧
        PathAlg.vals h P0 = fvals (appendAll (appendAll [] m0 back.reverse) m0 tmp0.tail) ∧
        P0.maxlen = some (m0 : Int) ∧ P0.timeOrigin = B.timeOrigin - (back.length : Int) + 1) ∧
    (∃ h1 P1, quantisPaste1 h T1 F m1 = .ok (h1, P1) ∧
        PathAlg.vals h1 P1 = fvals (appendAll (appendAll [] m1 tmp1.reverse.reverse) m1 forw.tail) ∧
        P1.maxlen = some (m1 : Int) ∧ P1.timeOrigin = 0 - (tmp1.length : Int) + 1 ∧
        ∀ r, r < h.sys.length → h1.look r = h.look r) :=
  ⟨paste0_alg h B T0 back tmp0 m0 hB hT0,
   paste1_alg h T1 F tmp1 forw m1 hT1 hF (by rw [hml]; simp [PathAlg.capLen]; omega)⟩

namespace ExQ
/-- energies V₀(x) = x, V₁(x) = 2x on the configuration's position -/
def fr (o x v : Int) (vp : Int) : Frame := { op := o, cfg := ⟨x, v⟩, vr := false, vpot := some vp }
def g (o x : Int) (vp : Int) : GenFrame := { op := o, cfg := ⟨x, 3⟩, vpot := some vp }
def e0 : Ens := { i0 := -50, i1 := 0, i2 := 0, maxlen := 8, scL := false, scR := true, wf := false, cap := none }
def e1 : Ens := { i0 := 0, i1 := 1, i2 := 3, maxlen := 8, scL := true, scR := false, wf := false, cap := none }
def old0 : List Frame := [fr 1 100 1 100, fr (-1) 101 1 101, fr (-2) 102 1 102, fr 1 103 1 103]
def old1 : List Frame := [fr (-1) 200 1 400, fr 1 201 1 402, fr 2 202 1 404, fr 4 203 1 406]
def scA : Script := ⟨some 200, [g 1 500 500]⟩          -- engine 0 from old1[0] (x = 200): V₀ = 200
def scB : Script := ⟨some 204, [g 1 600 1200]⟩         -- engine 1 from old0[-2] (x = 102): V₁ = 204
def scC : Script := ⟨some 200, [g (-2) 300 300, g (-1) 301 301, g 1 302 302, g 1 303 303, g 1 304 304, g 1 305 305]⟩
def scD : Script := ⟨some 1200, [g 2 400 800, g 1 401 802, g (-1) 402 804, g 1 403 806, g 1 404 808, g 1 405 810]⟩
end ExQ

/-- an accepted QuanTIS swap on well-formed paths: status table, junction frames and exponent
    `β₀(102 − 200) − β₁(204 − 400) = 98` for β = 1 -/
example : ∃ r, quantisSwapZero ExQ.e0 ExQ.e1 ([ExQ.fr 1 100 1 100, ExQ.fr (-1) 101 1 101] ++ [ExQ.fr (-2) 102 1 102, ExQ.fr 1 103 1 103])
      (ExQ.fr (-1) 200 1 400 :: [ExQ.fr 1 201 1 402, ExQ.fr 2 202 1 404, ExQ.fr 4 203 1 406])
      ExQ.scA ExQ.scB ExQ.scC ExQ.scD false 1 1 0 1 = .ok r ∧
    r.accept = true ∧ r.draws = 1 ∧ r.expArg = some (expArgOf 1 1 102 200 400 204) ∧
    expArgOf 1 1 102 200 400 204 = 98 ∧ quantisDrawAt r = some 2 ∧
    ops r.path0 = [1, -1, -2, -1, 1] ∧ ops r.path1 = [-2, 1, 2, 1, -1] :=
  ⟨_, rfl, rfl, rfl, rfl, by unfold expArgOf; grind, rfl, rfl, rfl⟩

/-- the accepted pair swapped back with the engines' energies V₀(x) = x, V₁(x) = 2x: every hypothesis of
    `quantis_detailed_balance` holds and the exponents are 98 and −98 -/
example : ∃ r1 r2,
    quantisSwapZero ExQ.e0 ExQ.e1 ([ExQ.fr 1 100 1 100, ExQ.fr (-1) 101 1 101] ++ [ExQ.fr (-2) 102 1 102, ExQ.fr 1 103 1 103])
      (ExQ.fr (-1) 200 1 400 :: [ExQ.fr 1 201 1 402, ExQ.fr 2 202 1 404, ExQ.fr 4 203 1 406])
      ExQ.scA ExQ.scB ExQ.scC ExQ.scD false 1 1 0 1 = .ok r1 ∧ r1.accept = true ∧
    quantisSwapZero ExQ.e0 ExQ.e1 r1.path0 r1.path1 ⟨some 102, [ExQ.g 1 700 700]⟩ ⟨some 400, [ExQ.g 1 800 1600]⟩
      ExQ.scC ExQ.scD true 1 1 0 1 = .ok r2 ∧ r2.draws = 1 ∧
    r1.expArg = some (expArgOf 1 1 102 200 400 204) ∧ r2.expArg = some (expArgOf 1 1 200 102 204 400) ∧
    expArgOf 1 1 200 102 204 400 = - expArgOf 1 1 102 200 400 204 ∧
    (ExQ.fr (-2) 102 1 102).vpot = some ((fun x => x) (ExQ.fr (-2) 102 1 102).cfg.x) ∧
    (ExQ.fr (-1) 200 1 400).vpot = some ((fun x => 2 * x) (ExQ.fr (-1) 200 1 400).cfg.x) :=
  ⟨_, _, rfl, rfl, rfl, rfl, rfl, rfl, by unfold expArgOf; grind, rfl, rfl⟩

/-- every pre-check of the QuanTIS table is reachable: QNE (energy missing), QLL (shooting point on λ0),
    QS0 / QS1 (one-step frame on λ0: not strictly right), QEA (ξ = 1 > p = 0) -/
example :
    (quantisSwapZero ExQ.e0 ExQ.e1 [Ex.fr 1 0, { Ex.fr (-1) 0 with vpot := none }, Ex.fr 1 0] ExQ.old1 ExQ.scA ExQ.scB ExQ.scC ExQ.scD
      false 1 1 0 1).toOption.map (·.status) = some .QNE ∧
    (quantisSwapZero ExQ.e0 ExQ.e1 [Ex.fr 1 0, Ex.fr 0 0, Ex.fr 1 0] ExQ.old1 ExQ.scA ExQ.scB ExQ.scC ExQ.scD
      false 1 1 0 1).toOption.map (·.status) = some .QLL ∧
    (quantisSwapZero ExQ.e0 ExQ.e1 ExQ.old0 ExQ.old1 ⟨some 0, [ExQ.g 0 1 1]⟩ ExQ.scB ExQ.scC ExQ.scD
      false 1 1 0 1).toOption.map (fun r => (r.status, r.st0, r.st1)) = some (.QS0, .QS0, .QS0) ∧
    (quantisSwapZero ExQ.e0 ExQ.e1 ExQ.old0 ExQ.old1 ExQ.scA ⟨some 0, [ExQ.g 0 1 1]⟩ ExQ.scC ExQ.scD
      false 1 1 0 1).toOption.map (fun r => (r.status, r.st0, r.st1)) = some (.QS1, .none, .QS1) ∧
    (quantisSwapZero ExQ.e0 ExQ.e1 ExQ.old0 ExQ.old1 ExQ.scA ExQ.scB ExQ.scC ExQ.scD
      false 1 1 1 0).toOption.map (fun r => (r.status, r.draws)) = some (.QEA, 1) := by
  refine ⟨by decide +kernel, by decide +kernel, by decide +kernel, by decide +kernel, by decide +kernel⟩

/-- a failed [0+] completion (FTS: the forward program leaves at once) returns the new [0-] path marked 'ACC' -/
example : (quantisSwapZero ExQ.e0 ExQ.e1 ExQ.old0 ExQ.old1 ExQ.scA ⟨some 204, [ExQ.g 4 600 1200]⟩ ExQ.scC
      ⟨some 0, []⟩ false 1 1 0 1).toOption.map (fun r => (r.accept, r.status, r.st0, r.st1)) =
    some (false, .FTS, .ACC, .FTS) := by decide +kernel

/-- the two pastes of the accepted swap above on a concrete heap, through C15's functions: frames and time origins -/
example : (quantisPasteRun
      [⟨-1, ⟨200, -1⟩, true, some 200⟩, ⟨-2, ⟨300, 3⟩, true, some 300⟩, ⟨-1, ⟨301, 3⟩, true, some 301⟩, ⟨1, ⟨302, 3⟩, true, some 302⟩]
      [⟨-1, ⟨200, 1⟩, false, some 200⟩, ⟨1, ⟨500, 3⟩, false, some 500⟩]
      [⟨-2, ⟨102, 1⟩, false, some 204⟩, ⟨1, ⟨600, 3⟩, false, some 1200⟩]
      [⟨1, ⟨600, 3⟩, false, some 1200⟩, ⟨2, ⟨400, 3⟩, false, some 800⟩, ⟨1, ⟨401, 3⟩, false, some 802⟩, ⟨-1, ⟨402, 3⟩, false, some 804⟩]
      8 8).map (fun x => (ops x.1.1, x.1.2, ops x.2.1, x.2.2)) =
    some ([1, -1, -2, -1, 1], -3, [-2, 1, 2, 1, -1], -1) := by decide +kernel

/-- hypotheses of `quantis_paste_is_path_algebra` on a concrete heap -/
example : ∃ h rb r0 r1 rf,
    PathAlg.vals h (pathOf 7 rb) = fvals [Ex.fr 1 0, Ex.fr 2 0] ∧ PathAlg.vals h (pathOf 2 r0) = fvals [Ex.fr 3 0, Ex.fr 4 0] ∧
    PathAlg.vals h (pathOf 2 r1) = fvals [Ex.fr 5 0, Ex.fr 6 0] ∧ PathAlg.vals h (pathOf 7 rf) = fvals [Ex.fr 6 0, Ex.fr 7 0] ∧
    (pathOf 2 r1).maxlen = some 2 :=
  ⟨(allocFrames PathAlg.Heap.empty [Ex.fr 1 0, Ex.fr 2 0, Ex.fr 3 0, Ex.fr 4 0, Ex.fr 5 0, Ex.fr 6 0, Ex.fr 6 0, Ex.fr 7 0]).1,
    [0, 1], [2, 3], [4, 5], [6, 7], by decide +kernel, by decide +kernel, by decide +kernel, by decide +kernel, rfl⟩

/-- **an accepted QuanTIS swap yields members of both ensembles** — without any assumption on the old paths
    beyond their having the two shooting frames: for MD programs that do not end before the length limit,
    ordered [0-] interfaces, the shared interface λ0 and `maxlen0 ≤ maxlen1` (QuanTIS reads both limits from
    the [0-] settings), the new [0-] path starts outside (right of λ0, or left of λ₋₁ only if 'L' is an allowed
    start), stays inside `[λ₋₁, λ0]` and ends at or right of λ0; the new [0+] path starts at or left of λ0, stays
    inside `[λ0, λN]` in between and ends outside; both are within the limit (strict inequalities:
    `quantis_junction_identity`). -/
theorem quantis_swap_members {e0 e1 : Ens} {pre0 rest1 : List Frame} {sp1 last sp0 : Frame}
    {scA scB scC scD : Script} {aa : Bool} {b0 b1 xi p : Rat} {r : Result}
    (h : quantisSwapZero e0 e1 (pre0 ++ [sp1, last]) (sp0 :: rest1) scA scB scC scD aa b0 b1 xi p = .ok r)
    (ha : r.accept = true)
    (hC : e0.maxlen ≤ scC.rest.length + 2) (hD : e0.maxlen ≤ scD.rest.length + 2)
    (hord : e0.i0 ≤ e0.i1 ∧ e0.i0 ≤ e0.i2) (hlam : e0.i2 = e1.i0) (hm : e0.maxlen ≤ e1.maxlen) :
    ValidMinus e0 r.path0 ∧ ValidPlus e1 r.path1 := by
  obtain ⟨g0, g1, back, sb, forw, sf, hl0, hl1, hg0, hg1, hpb, hpf, hp0, hp1, hb2, hbl, hf2, hfl, hL0⟩ :=
    quantis_accepted_shape h ha
  have hx0 := oneStep_some hg0
  refine ⟨?_, ?_⟩
  · rw [hp0] at hL0 ⊢
    exact validMinus_of_backward hpb (by omega) (by omega) hb2 (show g0.op ≥ e0.i2 by omega) hord hL0 (by omega)
  · rw [hp1]
    exact validPlus_of_forward hpf (by omega) (by omega) hf2 (show sp1.op ≤ e1.i0 by omega) rfl (by omega)

/-- the accepted QuanTIS swap of `ExQ` meets every hypothesis of `quantis_swap_members` -/
example : ∃ r, quantisSwapZero ExQ.e0 ExQ.e1 ([ExQ.fr 1 100 1 100, ExQ.fr (-1) 101 1 101] ++ [ExQ.fr (-2) 102 1 102, ExQ.fr 1 103 1 103])
      (ExQ.fr (-1) 200 1 400 :: [ExQ.fr 1 201 1 402, ExQ.fr 2 202 1 404, ExQ.fr 4 203 1 406])
      ExQ.scA ExQ.scB ExQ.scC ExQ.scD false 1 1 0 1 = .ok r ∧ r.accept = true ∧
    ExQ.e0.maxlen ≤ ExQ.scC.rest.length + 2 ∧ ExQ.e0.maxlen ≤ ExQ.scD.rest.length + 2 ∧
    (ExQ.e0.i0 ≤ ExQ.e0.i1 ∧ ExQ.e0.i0 ≤ ExQ.e0.i2) ∧ ExQ.e0.i2 = ExQ.e1.i0 ∧ ExQ.e0.maxlen ≤ ExQ.e1.maxlen :=
  exists_ok (by decide +kernel)

/-- **the in-process engines offer `path.maxlen` frames.**  The loop of `ASEEngine._propagate_from`
    (`range(subcycles * maxlen)`, a frame when `i % subcycles == 0`) offers exactly `maxlen` frames, that of
    `TurtleMDEngine._propagate_from` (`subcycles * maxlen + 1` iterations) `maxlen` or `maxlen + 1` — never fewer.
    This is the hypothesis "the MD program does not end before the length limit" of `swap_members` /
    `quantis_swap_members`, and the engines meet it with ZERO slack: `maxlen1 ≤ inprocSteps sub (maxlen1 − 1) ase + 2`
    holds with equality for ASE (`swap_members_short_engine_counterexample`: one frame fewer and a truncated piece is
    accepted).  The tie counts the frames the real engines offer (`inprocframes`) and sweeps the limit through the
    untruncated lengths with both real engines (harness/props/c11_real.py). -/
theorem inproc_offers_maxlen (sub maxlen : Nat) (ase : Bool) (hsub : 0 < sub) :
    maxlen ≤ inprocOffered sub maxlen ase ∧ inprocOffered sub maxlen ase ≤ maxlen + 1 ∧
      (ase = true → inprocOffered sub maxlen ase = maxlen) ∧
      maxlen + 1 ≤ inprocSteps sub maxlen ase + 2 :=
  have hb := inprocOffered_bounds sub maxlen ase hsub
  ⟨hb.1, hb.2.1, hb.2.2, inprocSteps_enough sub maxlen ase hsub⟩

example : inprocOffered 5 7 true = 7 ∧ inprocOffered 5 7 false = 8 ∧ inprocSteps 4 9 true = 8 ∧
    inprocFill 5 7 true = some (7, false) ∧ inprocFill 3 4 false = some (4, false) := by decide +kernel

/-- **ensemble membership between two in-process engines — no hypothesis on the MD program left.**
    `swap_members` with the engine hypothesis discharged by the engines' own loop bound: for any deterministic
    dynamics `D` run by ASE (`ase = true`) or TurtleMD with any `subcycles ≥ 1`, an accepted `retis_swap_zero` of valid
    old paths (`maxlen0 ≤ maxlen1`, ordered [0-] interfaces, shared λ0) yields valid members, strictly shorter than
    the limits. -/
theorem swap_members_inproc (D : Dyn) (sub : Nat) (ase : Bool) (hsub : 0 < sub)
    {e0 e1 : Ens} {old0 old1 : List Frame} {xi : Rat} {r : Result}
    (h : retisSwapZeroInproc D.step D.opf D.vf sub ase e0 e1 old0 old1 xi = .ok r) (ha : r.accept = true)
    (hm : e0.maxlen ≤ e1.maxlen)
    (hord : e0.i0 ≤ e0.i1 ∧ e0.i0 ≤ e0.i2) (hlam : e0.i2 = e1.i0)
    (hv0 : ValidMinus e0 old0) (hv1 : ValidPlus e1 old1) :
    ValidMinus e0 r.path0 ∧ ValidPlus e1 r.path1 ∧
      r.path0.length < e0.maxlen ∧ r.path1.length < e1.maxlen := by
  unfold retisSwapZeroInproc at h
  obtain ⟨first1, last0, _, _, h'⟩ := det_cases h ha
  have hn := inprocSteps_enough sub (e1.maxlen - 1) ase hsub
  exact swap_members h' ha hm (by simp only [detScriptV, orbitV_length]; omega)
    (by simp only [detScriptV, orbitV_length]; omega) hord hlam hv0 hv1

namespace Short
/-- a dynamics that drifts to the left: x ↦ x − 1, order parameter x -/
def D : Dyn := { step := fun c => ⟨c.x - 1, c.v⟩, opf := (·.x), vf := fun _ => none }
def fr (x : Int) : Frame := { op := x, cfg := ⟨x, 0⟩, vr := false, vpot := none }
def e0 : Ens := { i0 := -50, i1 := 0, i2 := 0, maxlen := 6, scL := false, scR := true, wf := false, cap := none }
def e1 : Ens := { i0 := 0, i1 := 1, i2 := 3, maxlen := 6, scL := true, scR := false, wf := false, cap := none }
def old0 : List Frame := [fr 1, fr (-1), fr 1]
def old1 : List Frame := [fr (-1), fr 1, fr 4]
end Short

/-- **the engine hypothesis has no slack.**  Valid old paths, `maxlen0 = maxlen1 = 6`, a dynamics that drifts left
    from the first frame of the old [0+] path and never comes back: with the ASE loop bound the backward piece fills
    its path of 5 frames, the new [0-] path has 6 = `maxlen0` frames and the swap is rejected 'BTX'; an engine that
    offers ONE frame fewer (`inprocSteps − 1` steps: seeded change C11-r5-mut2) leaves 4 frames, the new [0-] path
    `-4 -3 -2 -1 1` has 5 ≠ `maxlen0` frames and is ACCEPTED although it starts inside the state (left of λ0 = 0),
    never having crossed. -/
theorem swap_members_short_engine_counterexample :
    (retisSwapZeroInproc Short.D.step Short.D.opf Short.D.vf 1 true Short.e0 Short.e1 Short.old0 Short.old1 0).toOption.map
        (fun r => (r.accept, r.status)) = some (false, .BTX) ∧
    (retisSwapZeroDetV Short.D.step Short.D.opf Short.D.vf (inprocSteps 1 (Short.e1.maxlen - 1) true - 1)
        Short.e0 Short.e1 Short.old0 Short.old1 0).toOption.map (fun r => (r.accept, ops r.path0, ops r.path1)) =
      some (true, [-4, -3, -2, -1, 1], [-1, 1, 0, -1]) ∧
    Short.e0.maxlen ≤ Short.e1.maxlen ∧ ValidMinus Short.e0 Short.old0 ∧ ValidPlus Short.e1 Short.old1 ∧
    (∀ p : List Frame, ops p = [-4, -3, -2, -1, 1] → ¬ ValidMinus Short.e0 p) := by
  refine ⟨by decide +kernel, by decide +kernel, by decide, by decide, by decide, ?_⟩
  rintro p hp ⟨f, mid, l, rfl, _, hf, _, _, _⟩
  have hf' : f.op = -4 := by
    simp only [ops, List.map_cons, List.cons_append, List.cons.injEq] at hp
    exact hp.1
  rcases hf with h1 | ⟨h2, _⟩
  · rw [hf'] at h1; revert h1; decide
  · revert h2; decide

/-- the hypotheses of `swap_members_inproc` on the integer leap-frog engine run with the ASE loop bound -/
example : ∃ r, retisSwapZeroInproc (dwDyn 64 64).step (dwDyn 64 64).opf (dwDyn 64 64).vf 3 true ExDet.e0 ExDet.e1
      ExDet.old0 ExDet.old1 0 = .ok r ∧ r.accept = true ∧ ops r.path0 = [-4, -10, -6] ∧
    ExDet.e0.maxlen ≤ ExDet.e1.maxlen ∧ (ExDet.e0.i0 ≤ ExDet.e0.i1 ∧ ExDet.e0.i0 ≤ ExDet.e0.i2) ∧ ExDet.e0.i2 = ExDet.e1.i0 :=
  exists_ok (by decide +kernel)

/-- **three of the fourteen QuanTIS statuses are dead.**  For well-formed old paths no input makes
    `quantis_swap_zero` return 'QR*', 'QLR' or '0+R': `start_cond1` was checked to be "L" before; the start of the
    forward completion is the frame that passed the one-step crossing (strictly right of λ0); the new [0+] path starts
    with the [0-] shooting frame (strictly left of λ0).  (They guard against an engine that re-computes a different
    order value for a configuration it is handed — outside the model: frame 0 of a trajectory carries the order value of
    the system it was started from.)  With `quantis_status_table`: eleven statuses are possible. -/
theorem quantis_dead_statuses {e0 e1 : Ens} {pre0 rest1 : List Frame} {sp1 last sp0 : Frame}
    {scA scB scC scD : Script} {aa : Bool} {b0 b1 xi p : Rat} {r : Result}
    (h : quantisSwapZero e0 e1 (pre0 ++ [sp1, last]) (sp0 :: rest1) scA scB scC scD aa b0 b1 xi p = .ok r) :
    r.status ≠ .QRS ∧ r.status ≠ .QLR ∧ r.status ≠ .ZR := by
  cases quantis_cases h with
  | core hc hdo out hout =>
    exact core_dead hout (Int.le_of_lt hc.left1) (Int.not_lt.2 (Int.le_of_lt (oneStep_some hc.step1)))
  | _ => simp [qres]

/-- non-vacuity: the accepted QuanTIS swap of `ExQ` is well-formed input of `quantis_dead_statuses` -/
example : ∃ r, quantisSwapZero ExQ.e0 ExQ.e1 ([ExQ.fr 1 100 1 100, ExQ.fr (-1) 101 1 101] ++ [ExQ.fr (-2) 102 1 102, ExQ.fr 1 103 1 103])
      (ExQ.fr (-1) 200 1 400 :: [ExQ.fr 1 201 1 402, ExQ.fr 2 202 1 404, ExQ.fr 4 203 1 406])
      ExQ.scA ExQ.scB ExQ.scC ExQ.scD false 1 1 0 1 = .ok r ∧ r.status = .ACC := exists_ok (by decide +kernel)

namespace Lm1Q
def fr (o x : Int) : Frame := { op := o, cfg := ⟨x, 1⟩, vr := false, vpot := some 0 }
def g (o x : Int) : GenFrame := { op := o, cfg := ⟨x, 3⟩, vpot := some 0 }
/-- the λ₋₁ variant: interfaces of [0-] are (λ₋₁, ·, λ0) = (-3, -2, 0), both start sides allowed -/
def e0 : Ens := { i0 := -3, i1 := -2, i2 := 0, maxlen := 8, scL := true, scR := true, wf := false, cap := none }
def e1 : Ens := { i0 := 0, i1 := 1, i2 := 3, maxlen := 8, scL := true, scR := false, wf := false, cap := none }
/-- a [0-] path that ENDED ON THE LEFT (last frame -4 ≤ λ₋₁) -/
def old0 : List Frame := [fr 1 100, fr (-1) 101, fr (-2) 102, fr (-4) 103]
def old1 : List Frame := [fr (-1) 200, fr 1 201, fr 2 202, fr 4 203]
def scA : Script := ⟨some 0, [g 1 500]⟩
def scB : Script := ⟨some 0, [g 1 600]⟩
def scC : Script := ⟨some 0, [g (-2) 300, g 1 301, g 1 302, g 1 303, g 1 304, g 1 305]⟩
def scD : Script := ⟨some 0, [g 2 400, g 1 401, g (-1) 402, g 1 403, g 1 404, g 1 405]⟩
end Lm1Q

/-- **`quantis_swap_zero` has no λ₋₁ early reject.**  Same ensemble settings and the same [0-] path that ended on
    the left for which `retis_swap_zero` answers '0-L' without asking the engines anything
    (`lambda_minus_one_left_rejected`): `quantis_swap_zero` propagates four times and ACCEPTS.  A statement about the
    move function alone: `check_config` excludes the combination ("Cannot run quantis with lambda_minus_one!",
    `quantis_runs_without_lm1`); until fix b3eda5b it tested `if quantis and lambda_minus_one:` and a λ₋₁ of 0.0,
    being falsy, passed (known_findings: C11:quantis-lm1-left-not-rejected-early, fixed). -/
theorem quantis_lm1_left_not_rejected_counterexample :
    (Lm1Q.e0.scL = true ∧ Lm1Q.e0.scR = true) ∧ Lm1Q.old0.getLast? = some (Lm1Q.fr (-4) 103) ∧
      (Lm1Q.fr (-4) 103).op ≤ Lm1Q.e0.i0 ∧
    (∃ r, retisSwapZero Lm1Q.e0 Lm1Q.e1 Lm1Q.old0 Lm1Q.old1 Lm1Q.scC Lm1Q.scD 0 = .ok r ∧ r.status = .ZL ∧ r.reqs = []) ∧
    (∃ r, quantisSwapZero Lm1Q.e0 Lm1Q.e1 Lm1Q.old0 Lm1Q.old1 Lm1Q.scA Lm1Q.scB Lm1Q.scC Lm1Q.scD false 1 1 0 1 = .ok r ∧
      r.accept = true ∧ r.reqs.length = 4 ∧ ops r.path0 = [1, -2, -1, 1] ∧ ops r.path1 = [-2, 1, 2, 1, -1]) :=
  ⟨by decide, rfl, by decide, exists_ok (by decide +kernel), exists_ok (by decide +kernel)⟩

/-- **QuanTIS never runs with λ₋₁** (the precondition under which the QuanTIS theorems are the property's clauses; cf.
    `quantis_lm1_left_not_rejected_counterexample` for the move function alone).  `check_config` rejects QuanTIS together
    with ANY λ₋₁ value — 0 included (fix b3eda5b) —, so a configuration that passes with QuanTIS has no λ₋₁, its [0-]
    ensemble gets `start_cond = "R"`, and the λ₋₁ condition ("`start_cond` = {L, R} and the path ended on the left")
    is false for every [0-] path: the property's λ₋₁ clause has nothing to say about a QuanTIS run. -/
theorem quantis_runs_without_lm1 :
    (∀ v : Rat, configRejectsQuantisLm1 true (some v) = true) ∧
    (∀ lm1, configRejectsQuantisLm1 true lm1 = false →
      lm1 = none ∧ zeroMinusStartCond lm1 = (false, true) ∧
      ∀ (e0 : Ens) (last0 : Frame), (e0.scL, e0.scR) = zeroMinusStartCond lm1 → earlyLeft e0 last0 = false) ∧
    (∀ lm1, configRejectsQuantisLm1 false lm1 = false) := by
  refine ⟨fun v => rfl, ?_, fun lm1 => rfl⟩
  intro lm1 h
  cases lm1 with
  | some v => simp [configRejectsQuantisLm1] at h
  | none =>
    refine ⟨rfl, rfl, ?_⟩
    intro e0 last0 hsc
    simp only [zeroMinusStartCond, Option.isSome_none, Bool.false_eq_true, if_false, Prod.mk.injEq] at hsc
    simp [earlyLeft, hsc.1]

/-- the ensemble of `Lm1Q` (both start sides) is exactly what a QuanTIS configuration cannot produce; the λ₋₁ ensemble of
    the retis examples comes from `zeroMinusStartCond (some _)` -/
example : zeroMinusStartCond (some (-3)) = (Lm1Q.e0.scL, Lm1Q.e0.scR) ∧ configRejectsQuantisLm1 true (some 0) = true ∧
    zeroMinusStartCond none = (Ex.e0.scL, Ex.e0.scR) ∧ configRejectsQuantisLm1 true none = false :=
  ⟨rfl, rfl, rfl, rfl⟩

end Infretis.C11
