import Infretis.Lemmas.GeomFrames
import Infretis.Lemmas.GeomMin
/-!
# C20 — order parameters respect the symmetries of what they measure

Models: `Infretis/Model/Geom.lean`
(`infretis/classes/orderparameter.py`), `GeomCtor.lean` (constructors, `create_orderparameter`), `GeomFlow.lean`
(`calculate_order`, `Path.reverse`), `GeomFrames.lean` (the System states the library makes).

All statements are about the rational *pre-images* (`value`): `distance` ↦ `[d·d]`,
`distancevel` ↦ `[d·dv, d·d]`, `position`/`velocity` ↦ `[x]`, `dihedral` ↦ `[trip, den, n2]`,
`puckering` ↦ `[zs₀ … zs₅, nn]`.  The code's outputs are fixed functions (sqrt, arctan2, rad2deg,
a quotient by a square root) of these numbers, so every equality below carries over to the
outputs; `[−num, dsq]` ↦ `−num/√dsq` carries the sign change.  Those tails are outside the model
(the tie applies them in floating point and compares with the real classes).

Concrete witnesses and non-vacuity examples over `ℚ` are closed by `decide +kernel`: the `Decidable`
instance is evaluated by the Lean kernel itself (core `Rat` arithmetic does not unfold under plain
`decide`); no native code and no axiom beyond the allowed three is involved.

The statements quantify over all rational coordinates, velocities, boxes of any length, Python
indices (negative ones wrap, out-of-range ones give `IndexError` on both sides of each equation),
image multipliers and rotation matrices.

WHICH STATEMENT IS CURRENT.  `Variant.current = .repaired`: since fix 8870063 `Distancevel` slices
`box[:3]` like the other classes.  Box forms: `box3_boxN_agree` (all six classes, no guard) is the
statement about today's code; `box3_box9_agree_counterexample`, `distancevel_box9_always_indexerror`
and `box3_box9_agree_partial` speak about `Variant.asIs`, the code BEFORE the fix (kept as the record of
the defect).  The tie checks on every run that the real `Distancevel` sides with `Variant.current` wherever
the variants differ.  The 9-component form is the box MATRIX `xx yy zz xy xz yx yz zx zy`; the code uses its
DIAGONAL only.  For orthogonal cells (off-diagonals zero — what the property quantifies over) the
cell vectors are the image vectors and everything above applies (`lattice_shift_invariant_orthogonal9`);
for genuinely triclinic cells the per-axis wrap is neither invariant under cell-vector shifts nor the
shortest image (`triclinic_lattice_shift_counterexample`) — outside the property's words ("orthogonal
boxes"), stated so that nobody reads more into `box3_boxN_agree` than "off-diagonal entries are ignored".

WHICH FRAMES.  The `Path.reverse` statements up to `pathReverse_twice` are about HAND-BUILT frames (frames carrying
arrays); engine-made frames have `pos = vel = None`, loaded ones empty arrays, and there `Path.reverse` with a
velocity-dependent function raises (`pathReverse_engine_made_raises`, `pathReverse_loaded_raises`; last part of this file).

`calculate_pure` is true by construction (see its doc string): purity is tie-only.
-/
namespace Infretis.C20
open Infretis.Geom

/-- a system used for the non-vacuity examples: 7 atoms, dyadic coordinates, 4×8×4 box -/
def exSys : Sys :=
  { pos := [⟨0, 0, 0⟩, ⟨3, 1 / 2, 1 / 4⟩, ⟨1 / 2, 2, 3⟩, ⟨1 / 2, 5, 7 / 2⟩, ⟨-1, 1, 3 / 2⟩, ⟨5 / 2, -3, 1⟩, ⟨1, 1, -3 / 2⟩]
    vel := [⟨1, 0, 0⟩, ⟨0, 1, 0⟩, ⟨0, 0, 1⟩, ⟨1, 1, 1⟩, ⟨-1, 2, 0⟩, ⟨0, 0, 0⟩, ⟨1 / 2, 0, 1⟩]
    box := some [4, 8, 4] }

/-- `numpy.rint` (as modelled) is a nearest integer. -/
theorem rint_nearest (x : ℚ) : |x - ((rint x : ℤ) : ℚ)| ≤ 1 / 2 := abs_resid_le x

/-- **Minimum image.** A wrapped component never exceeds half the box length. -/
theorem min_image_bound (d L : ℚ) (hL : 0 < L) : |pbcWrap d L| ≤ L / 2 :=
  abs_pbcWrap_le d L hL

/-- the same for the vector `pbc_dist_coordinate` returns with a 3-entry box -/
theorem min_image_bound_vec (d : V3) (a b c : ℚ) (ha : 0 < a) (hb : 0 < b) (hc : 0 < c)
    (w : Wrapped) (h : pbcDist d [a, b, c] = .ok w) :
    |w.v.x| ≤ a / 2 ∧ |w.v.y| ≤ b / 2 ∧ |w.v.z| ≤ c / 2 ∧ w.nan = false := by
  simp only [pbcDist, Except.ok.injEq] at h
  subst h
  refine ⟨abs_pbcWrap_le _ _ ha, abs_pbcWrap_le _ _ hb, abs_pbcWrap_le _ _ hc, ?_⟩
  simp [compNan, ne_of_gt ha, ne_of_gt hb, ne_of_gt hc]

example : pbcWrap 7 4 = -1 ∧ pbcWrap 2 4 = 2 ∧ pbcWrap 6 4 = -2 ∧ pbcWrap (-6) 4 = 2 ∧ (0 : ℚ) < 4 := by
  refine ⟨?_, ?_, ?_, ?_, ?_⟩ <;> decide +kernel

/-- the wrapped component is the input minus an integer number of box lengths -/
theorem min_image_is_image (d L : ℚ) (hL : L ≠ 0) : ∃ n : ℤ, pbcWrap d L = d - (n : ℚ) * L :=
  ⟨rint (d / L), pbcWrap_image d L hL⟩

/-- **the wrapped component is the shortest of all images** (this is what "minimum image" means) -/
theorem min_image_minimal (d L : ℚ) (hL : 0 < L) (k : ℤ) : |pbcWrap d L| ≤ |d + (k : ℚ) * L| := by
  have hb := abs_pbcWrap_le d L hL
  -- every image is the wrapped component plus `m` box lengths; for `m ≠ 0` that is at least `L − L/2` long
  obtain ⟨m, e⟩ : ∃ m : ℤ, d + (k : ℚ) * L = pbcWrap d L + (m : ℚ) * L :=
    ⟨rint (d / L) + k, by rw [pbcWrap_image d L (ne_of_gt hL)]; push_cast; ring⟩
  rw [e]
  rcases eq_or_ne m 0 with rfl | hm
  · rw [Int.cast_zero, zero_mul, add_zero]
  · have hge := abs_int_mul_ge m L hL hm
    have tri := abs_sub (pbcWrap d L + (m : ℚ) * L) (pbcWrap d L)
    rw [add_sub_cancel_left] at tri
    linarith

example : pbcWrap 7 4 = 7 - ((2 : ℤ) : ℚ) * 4 ∧ |pbcWrap 7 4| ≤ |(7 : ℚ) + ((-1 : ℤ) : ℚ) * 4| := by
  constructor <;> decide +kernel

/-- **end-to-end minimum image**: the periodic `Distance` (squared) of ANY two atoms in a box with
    positive lengths `a, b, c` (3-, 9- or n-component form) is at most `(a² + b² + c²)/4`:
    per axis the separation never exceeds half a box length. -/
theorem distance_min_image (var : Variant) (s : Sys) (i0 i1 : Int) (a b c : ℚ) (rest : List ℚ)
    (hbox : s.box = some (a :: b :: c :: rest)) (ha : 0 < a) (hb : 0 < b) (hc : 0 < c) (l : List ℚ)
    (h : value var (.distance i0 i1 true) s = .ok l) :
    ∃ dsq, l = [dsq] ∧ dsq ≤ (a * a + b * b + c * c) / 4 := by
  simp only [value] at h
  obtain ⟨dsq, hd, rfl⟩ := map_ok_iff.mp h
  refine ⟨dsq, rfl, ?_⟩
  unfold distanceSq at hd
  obtain ⟨p1, -, hd⟩ := bind_ok_iff.mp hd
  obtain ⟨p0, -, hd⟩ := bind_ok_iff.mp hd
  simp only [hbox, applyBox, if_true, take3, pbcDist, ok_bind] at hd
  split at hd
  · cases hd
  · cases hd
    -- per axis the wrapped separation is at most half a box length
    have hx := pbcWrap_sq_le (V3.sub p1 p0).x a ha
    have hy := pbcWrap_sq_le (V3.sub p1 p0).y b hb
    have hz := pbcWrap_sq_le (V3.sub p1 p0).z c hc
    simp only [V3.dot]
    linarith

example : exSys.box = some (4 :: 8 :: 4 :: []) ∧ value .asIs (.distance 0 5 true) exSys = .ok [49 / 4] ∧
    (49 / 4 : ℚ) ≤ (4 * 4 + 8 * 8 + 4 * 4) / 4 := by
  refine ⟨?_, ?_, ?_⟩ <;> decide +kernel

/-- **Translation invariance** of every relative order parameter (periodic or not, any box,
    both variants): translating all atoms by `t` leaves the pre-image — value or error — unchanged. -/
theorem translation_invariant (var : Variant) (op : OP) (h : op.relative = true) (s : Sys) (t : V3) :
    value var op (translate t s) = value var op s := by
  -- the look-ups of the translated system are the translated look-ups, and only differences are formed
  cases op with
  | position i d | velocity i d => cases h
  | _ =>
    simp only [value, distanceSq, distancevelNum, dihedral, puckering, translate, getAtom_map, bind_map,
      V3.sub_add_add, puckerOf, centre_translate, V3.smul_zero]

example : (OP.dihedral 0 1 2 3 true).relative = true ∧
    value .asIs (.dihedral 0 1 2 3 true) exSys = .ok [-15 / 4, -447 / 32, 97 / 16] := by
  constructor <;> decide +kernel

/-- **What exactly holds for one wrapped component** under a shift by `k` box lengths:
    unchanged unless `d/L` is a half-integer *and* `k` is odd, in which case the sign flips
    (`rint` rounds ties to even, so the rounding direction depends on the parity). -/
theorem image_shift_component (d L : ℚ) (k : ℤ) (hL : L ≠ 0) :
    ((¬ WrapTie d L ∨ k % 2 = 0) → pbcWrap (d + (k : ℚ) * L) L = pbcWrap d L) ∧
    ((WrapTie d L ∧ k % 2 = 1) → pbcWrap (d + (k : ℚ) * L) L = - pbcWrap d L) ∧
    |pbcWrap (d + (k : ℚ) * L) L| = |pbcWrap d L| := by
  -- `pbcWrap · L = L * resid (· / L)`, and the shift adds the integer `k` to the argument of `resid`
  refine ⟨fun h => ?_, fun ⟨h, hk⟩ => ?_, ?_⟩
  · rw [pbcWrap_eq _ _ hL, pbcWrap_eq _ _ hL, ← div_add' d _ L hL, resid_add_int _ _ h]
  · rw [pbcWrap_eq _ _ hL, pbcWrap_eq _ _ hL, ← div_add' d _ L hL, resid_add_odd_of_tie _ _ h hk]
    ring
  · exact abs_eq_abs.mpr (mul_self_eq_mul_self_iff.mp (pbcWrap_shift_sq d L k))

example : WrapTie 2 4 ∧ pbcWrap (2 + ((1 : ℤ) : ℚ) * 4) 4 = -2 ∧ pbcWrap 2 4 = 2 := by
  refine ⟨?_, ?_, ?_⟩
  · unfold WrapTie IsTie; norm_num
  · decide +kernel
  · decide +kernel

/-- **Image-shift invariance of the periodic distance, ties included.** With a box of at least three
    entries, moving every atom `a` by its own image vector `(kx·Lx, ky·Ly, kz·Lz)` (integer `k`s,
    `ks a`) leaves the squared minimum-image distance unchanged — also at exact half-box ties and
    for any sign of the box lengths. -/
theorem image_shift_invariant_distance (var : Variant) (s : Sys) (L : V3) (rest : List ℚ)
    (ks : Nat → Int × Int × Int) (i0 i1 : Int) (hbox : s.box = some (L.x :: L.y :: L.z :: rest)) :
    value var (.distance i0 i1 true) (shiftImages L ks s) = value var (.distance i0 i1 true) s := by
  simp only [value, distanceSq, shiftImages, getAtom_mapIdx, hbox, bind_map, sub_add_image, applyBox_slice,
    ok_bind]
  refine congrArg _ (bind_congr fun p1 => bind_congr fun p0 => ?_)
  -- the NaN flag and the squared length of the wrapped difference do not see the shift
  obtain ⟨h1, h2⟩ := wrap3_shift_sq (V3.sub p1 p0) L
    (ksub (ks (atomNo s.pos.length i1)) (ks (atomNo s.pos.length i0)))
  rw [h1, h2]

/-- **Image-shift invariance of all periodic order parameters** when no wrapped difference has a
    component exactly at a half-box tie (`TieFreeSys`; at such a tie the minimum image is not
    unique and the sign of that component does depend on the image — see
    `image_shift_component` and `image_shift_invariant_tie_counterexample`). -/
theorem image_shift_invariant (var : Variant) (op : OP) (hper : op.periodic = true) (s : Sys) (L : V3)
    (rest : List ℚ) (ks : Nat → Int × Int × Int) (hbox : s.box = some (L.x :: L.y :: L.z :: rest))
    (htf : TieFreeSys op s L) :
    value var op (shiftImages L ks s) = value var op s := by
  cases op with
  | distance i0 i1 p =>
    obtain rfl : p = true := hper
    exact image_shift_invariant_distance var s L rest ks i0 i1 hbox
  | distancevel i0 i1 p =>
    obtain rfl : p = true := hper
    simp only [value, distancevelNum, shiftImages, getAtom_mapIdx, hbox, bind_map, sub_add_image]
    refine congrArg _ (bind_congr_ok fun p1 h1 => bind_congr_ok fun p0 h0 => ?_)
    rw [applyBox_shift_tf _ _ _ _ _ (htf (i1, i0) (by simp [OP.wrappedPairs]) p1 p0 h1 h0)]
  | position i d => cases hper
  | velocity i d => cases hper
  | dihedral i0 i1 i2 i3 p =>
    obtain rfl : p = true := hper
    simp only [value, dihedral, shiftImages, getAtom_mapIdx, hbox, bind_map, sub_add_image]
    refine congrArg _ (bind_congr_ok fun p0 h0 => bind_congr_ok fun p1 h1 => bind_congr_ok fun p2 h2 =>
      bind_congr_ok fun p3 h3 => ?_)
    rw [applyBox_shift_tf _ _ _ _ _ (htf (i0, i1) (by simp [OP.wrappedPairs]) p0 p1 h0 h1),
      applyBox_shift_tf _ _ _ _ _ (htf (i1, i2) (by simp [OP.wrappedPairs]) p1 p2 h1 h2),
      applyBox_shift_tf _ _ _ _ _ (htf (i3, i2) (by simp [OP.wrappedPairs]) p3 p2 h3 h2)]
  | puckering i0 i1 i2 i3 i4 i5 p =>
    obtain rfl : p = true := hper
    simp only [value, puckering, shiftImages, getAtom_mapIdx, hbox, bind_map, sub_add_image, V3.smul_zero,
      Bool.true_and, Option.isSome_some, if_true]
    refine congrArg _ (bind_congr_ok fun p0 h0 => bind_congr_ok fun p1 h1 => bind_congr_ok fun p2 h2 =>
      bind_congr_ok fun p3 h3 => bind_congr_ok fun p4 h4 => bind_congr_ok fun p5 h5 => ?_)
    rw [applyBox_shift_tf _ _ _ _ _ (htf (i1, i0) (by simp [OP.wrappedPairs]) p1 p0 h1 h0),
      applyBox_shift_tf _ _ _ _ _ (htf (i2, i0) (by simp [OP.wrappedPairs]) p2 p0 h2 h0),
      applyBox_shift_tf _ _ _ _ _ (htf (i3, i0) (by simp [OP.wrappedPairs]) p3 p0 h3 h0),
      applyBox_shift_tf _ _ _ _ _ (htf (i4, i0) (by simp [OP.wrappedPairs]) p4 p0 h4 h0),
      applyBox_shift_tf _ _ _ _ _ (htf (i5, i0) (by simp [OP.wrappedPairs]) p5 p0 h5 h0)]

/-- two atoms exactly half a box apart along x -/
def tieSys : Sys :=
  { pos := [⟨0, 0, 0⟩, ⟨2, 0, 0⟩], vel := [⟨0, 0, 0⟩, ⟨1, 0, 0⟩], box := some [4, 4, 4] }

/-- at an exact half-box tie the *signed* periodic parameters are not image-shift invariant:
    moving atom 1 by one box length along x flips the sign of `Distancevel`'s numerator. -/
theorem image_shift_invariant_tie_counterexample :
    value .asIs (.distancevel 0 1 true) tieSys = .ok [2, 4] ∧
    value .asIs (.distancevel 0 1 true)
      (shiftImages ⟨4, 4, 4⟩ (fun a => if a = 1 then (1, 0, 0) else (0, 0, 0)) tieSys) = .ok [-2, 4] := by
  constructor <;> decide +kernel

/-- the conclusion of `image_shift_invariant` on `exSys`, dihedral 0-1-2-3, atom 2 moved by the image vector (1,−2,3) -/
example : (OP.dihedral 0 1 2 3 true).periodic = true ∧ exSys.box = some [4, 8, 4] ∧
    value .asIs (.dihedral 0 1 2 3 true)
      (shiftImages ⟨4, 8, 4⟩ (fun a => if a = 2 then (1, -2, 3) else (0, 0, 0)) exSys)
      = value .asIs (.dihedral 0 1 2 3 true) exSys := by
  refine ⟨?_, ?_, ?_⟩ <;> decide +kernel

/-- negate the first entry of a pre-image list (the velocity-linear one) -/
def negHead : List ℚ → List ℚ
  | [] => []
  | x :: t => -x :: t

/-- **Velocity reversal.** Velocity-type parameters (`velocity_dependent = True`: Distancevel,
    Velocity) change sign under `v ↦ −v` (the numerator `d·dv` is negated, `d·d` is not, so the
    code's `num/√dsq` changes sign); position-type ones do not change at all. -/
theorem velocity_reversal_sign (var : Variant) (op : OP) (s : Sys) :
    value var op (reverseVel s) =
      if op.velocityDependent then (value var op s).map negHead else value var op s := by
  cases op with
  | distancevel i0 i1 p =>
    -- `d·(−v₁ − −v₀) = −(d·(v₁ − v₀))`; positions, wrap and NaN test do not see the velocities
    simp only [value, OP.velocityDependent, if_true, distancevelNum, reverseVel, getAtom_map, bind_map,
      map_bind, dot_sub_neg]
    refine bind_congr fun p1 => bind_congr fun p0 => bind_congr fun w => bind_congr fun v1 => bind_congr fun v0 => ?_
    cases w.nan <;> rfl
  | velocity i d =>
    simp only [value, OP.velocityDependent, if_true, velocity, reverseVel, getAtom_map, bind_map, getComp_neg]
    cases getAtom s.vel i with
    | error e => rfl
    | ok v =>
      rw [ok_bind, ok_bind]
      cases getComp v (d : Int) <;> rfl
  | _ => rfl

example : value .asIs (.distancevel 0 1 true) exSys = .ok [3 / 2, 21 / 16] ∧
    value .asIs (.distancevel 0 1 true) (reverseVel exSys) = .ok [-3 / 2, 21 / 16] := by
  constructor <;> decide +kernel

/-- **`calculate_order` and the `vel_rev` flag.** With the flag set, the engine hands the order
    parameter the negated velocities: velocity-type results are the negatives of the flag-off
    results, position-type results are identical (both routes of `calculate_order` run the same
    statements after the arrays are known, so this is one statement). -/
theorem calculateOrder_vel_rev (var : Variant) (op : OP) (box0 : Option (List ℚ)) (xyz vel : List V3)
    (box : Option (List ℚ)) :
    (calculateOrder var op true box0 xyz vel box).1 =
      if op.velocityDependent then (calculateOrder var op false box0 xyz vel box).1.map negHead
      else (calculateOrder var op false box0 xyz vel box).1 := by
  have h := velocity_reversal_sign var op
    { pos := xyz, vel := vel, box := newBox box0 box }
  simpa [calculateOrder, calculate, reverseVel] using h

example : (calculateOrder .asIs (.velocity 1 1) true none exSys.pos exSys.vel exSys.box).1 = .ok [-1] ∧
    (calculateOrder .asIs (.velocity 1 1) false none exSys.pos exSys.vel exSys.box).1 = .ok [1] := by
  constructor <;> decide +kernel

/-- **A uniform velocity shift changes no relative order parameter**: `Distancevel` is the rate of a
    RELATIVE distance (it uses `vel[i1] − vel[i0]` only); the position-type ones do not read velocities. -/
theorem velocity_shift_invariant (var : Variant) (op : OP) (h : op.relative = true) (s : Sys) (u : V3) :
    value var op (shiftVel u s) = value var op s := by
  cases op with
  | distancevel i0 i1 p =>
    simp only [value, distancevelNum, shiftVel, getAtom_map, bind_map, V3.sub_add_add]
  | position i d => cases h
  | velocity i d => cases h
  | _ => rfl

example : value .asIs (.distancevel 0 1 true) (shiftVel ⟨5, -3, 1 / 2⟩ exSys) = .ok [3 / 2, 21 / 16] := by
  decide +kernel

/-- the absolute `Velocity` parameter is (of course) not Galilean invariant — it is not "relative" -/
example : value .asIs (.velocity 0 0) (shiftVel ⟨5, 0, 0⟩ exSys) = .ok [6] ∧
    value .asIs (.velocity 0 0) exSys = .ok [1] := by constructor <;> decide +kernel

/-- **3- vs 9-component boxes, repaired variant** (`Distancevel` slicing `box[:3]` like the other
    classes): every order parameter gives the same result for `[x,y,z]` and for `[x,y,z] ++ rest`,
    in particular for the GROMACS form `[x,y,z,0,0,0,0,0,0]`. -/
theorem box3_boxN_agree_repaired (op : OP) (s : Sys) (x y z : ℚ) (rest : List ℚ) :
    value .repaired op { s with box := some (x :: y :: z :: rest) }
      = value .repaired op { s with box := some [x, y, z] } :=
  (value_box_take3 .repaired op (.inl rfl) s (x :: y :: z :: rest)).symm

theorem box3_box9_agree (op : OP) (s : Sys) (x y z : ℚ) :
    value .repaired op { s with box := some [x, y, z, 0, 0, 0, 0, 0, 0] }
      = value .repaired op { s with box := some [x, y, z] } :=
  box3_boxN_agree_repaired op s x y z _

example : value .repaired (.distancevel 0 1 true) { exSys with box := some [4, 8, 4, 0, 0, 0, 0, 0, 0] }
    = .ok [3 / 2, 21 / 16] := by decide +kernel

/-- **The code before fix 8870063 (`Variant.asIs`) violated the 3/9 agreement**: `Distancevel.calculate` handed the
    whole box to `pbc_dist_coordinate`, whose loop over the *box* entries indexes `distance[3]`.
    Witness: atoms (0,0,0), (1,0,0), velocities (0,0,0), (1,0,0): the 3-box gives `d·dv = 1`,
    `d·d = 1` (code: `[1.0]`), the 9-box raises IndexError. -/
theorem box3_box9_agree_counterexample :
    ¬ (∀ (op : OP) (s : Sys) (x y z : ℚ),
        value .asIs op { s with box := some [x, y, z, 0, 0, 0, 0, 0, 0] }
          = value .asIs op { s with box := some [x, y, z] }) := by
  intro h
  have := h (.distancevel 0 1 true) ⟨[⟨0, 0, 0⟩, ⟨1, 0, 0⟩], [⟨0, 0, 0⟩, ⟨1, 0, 0⟩], none⟩ 4 4 4
  revert this
  decide +kernel

/-- the two sides of the witness, written out -/
theorem box3_box9_agree_counterexample_values :
    value .asIs (.distancevel 0 1 true)
      ⟨[⟨0, 0, 0⟩, ⟨1, 0, 0⟩], [⟨0, 0, 0⟩, ⟨1, 0, 0⟩], some [4, 4, 4]⟩ = .ok [1, 1] ∧
    value .asIs (.distancevel 0 1 true)
      ⟨[⟨0, 0, 0⟩, ⟨1, 0, 0⟩], [⟨0, 0, 0⟩, ⟨1, 0, 0⟩], some [4, 4, 4, 0, 0, 0, 0, 0, 0]⟩ = .error .index := by
  constructor <;> decide +kernel

/-- the defect was total: before the fix a periodic `Distancevel` on a system whose box has more
    than three entries raised IndexError for *every* geometry (whenever both atoms exist) -/
theorem distancevel_box9_always_indexerror (s : Sys) (x y z r : ℚ) (rest : List ℚ) (i0 i1 : Int)
    (p0 p1 : V3) (h0 : getAtom s.pos i0 = .ok p0) (h1 : getAtom s.pos i1 = .ok p1) :
    value .asIs (.distancevel i0 i1 true) { s with box := some (x :: y :: z :: r :: rest) }
      = .error .index := by
  -- the fourth box entry makes `pbc_dist_coordinate` index `distance[3]`
  simp only [value, distancevelNum, h0, h1, ok_bind, applyBox, distancevelSlices, pbcDist, if_true,
    Bool.false_eq_true, if_false]
  rfl

/-- **3- vs 9-component boxes for the code before the fix (`Variant.asIs`)**, under exactly the guard that
    excludes the defect: every order parameter except a *periodic* `Distancevel`. -/
theorem box3_box9_agree_partial (op : OP) (hop : ∀ i0 i1, op ≠ .distancevel i0 i1 true)
    (s : Sys) (x y z : ℚ) (rest : List ℚ) :
    value .asIs op { s with box := some (x :: y :: z :: rest) }
      = value .asIs op { s with box := some [x, y, z] } :=
  (value_box_take3 .asIs op (.inr hop) s (x :: y :: z :: rest)).symm

example : (∀ i0 i1, OP.puckering 0 1 2 3 4 5 true ≠ .distancevel i0 i1 true) ∧
    value .asIs (.puckering 0 1 2 3 4 5 true) { exSys with box := some [4, 8, 4, 0, 0, 0, 0, 0, 0] }
      = value .asIs (.puckering 0 1 2 3 4 5 true) exSys := by
  constructor
  · intro i0 i1 h; cases h
  · decide +kernel

/-- **Box forms, code of today**: every order parameter gives the same result (value, NaN or error)
    for `[x,y,z]` and for `[x,y,z] ++ rest` with ANY tail — the GROMACS 9-form with zero or
    non-zero off-diagonal entries included: only the diagonal of the box matrix is used. -/
theorem box3_boxN_agree (op : OP) (s : Sys) (x y z : ℚ) (rest : List ℚ) :
    value Variant.current op { s with box := some (x :: y :: z :: rest) }
      = value Variant.current op { s with box := some [x, y, z] } :=
  box3_boxN_agree_repaired op s x y z rest

example : value Variant.current (.distancevel 0 1 true) { exSys with box := some [4, 8, 4, 0, 0, 2, 0, 0, 0] }
    = .ok [3 / 2, 21 / 16] := by decide +kernel

/-- a triclinic cell in the 9-component form `xx yy zz xy xz yx yz zx zy`: `b = (2, 4, 0)` -/
def triBox : List ℚ := [4, 4, 4, 0, 0, 2, 0, 0, 0]
/-- two coincident atoms in that cell -/
def triSys : Sys := { pos := [⟨0, 0, 0⟩, ⟨0, 0, 0⟩], vel := [⟨0, 0, 0⟩, ⟨0, 0, 0⟩], box := some triBox }
def triCell : Mat3 := ⟨⟨4, 0, 0⟩, ⟨2, 4, 0⟩, ⟨0, 0, 4⟩⟩

/-- **Genuinely triclinic cells are NOT covered** (the property quantifies over orthogonal boxes; the
    code's docstring says "assumes an orthogonal box"): the per-axis wrap uses the diagonal only, so
    moving an atom by the cell vector `b = (2,4,0)` changes the periodic distance (0 ↦ 2, squared 4),
    and the wrapped vector `(2,0,0)` is not the shortest image (`d − b = 0` is). -/
theorem triclinic_lattice_shift_counterexample :
    boxMatrix triBox = some triCell ∧
    value Variant.current (.distance 0 1 true) triSys = .ok [0] ∧
    value Variant.current (.distance 0 1 true)
      (shiftLattice triCell (fun a => if a = 1 then (0, 1, 0) else (0, 0, 0)) triSys) = .ok [4] := by
  refine ⟨?_, ?_, ?_⟩ <;> decide +kernel

/-- **Orthogonal cells in the 9-component form are covered**: with all six off-diagonal entries zero the
    cell vectors are the image vectors, and shifting any atoms by cell vectors leaves every periodic
    order parameter unchanged (away from half-box ties, as in `image_shift_invariant`). -/
theorem lattice_shift_invariant_orthogonal9 (var : Variant) (op : OP) (hper : op.periodic = true) (s : Sys)
    (x y z : ℚ) (ks : Nat → Int × Int × Int) (hbox : s.box = some [x, y, z, 0, 0, 0, 0, 0, 0])
    (htf : TieFreeSys op s ⟨x, y, z⟩) :
    ∃ M, boxMatrix [x, y, z, 0, 0, 0, 0, 0, 0] = some M ∧ value var op (shiftLattice M ks s) = value var op s := by
  refine ⟨⟨⟨x, 0, 0⟩, ⟨0, y, 0⟩, ⟨0, 0, z⟩⟩, rfl, ?_⟩
  rw [shiftLattice_orthogonal]
  exact image_shift_invariant var op hper s ⟨x, y, z⟩ _ ks hbox htf

example : (OP.puckering 0 1 2 3 4 5 true).periodic = true ∧
    value .asIs (.puckering 0 1 2 3 4 5 true)
      (shiftLattice ⟨⟨4, 0, 0⟩, ⟨0, 8, 0⟩, ⟨0, 0, 4⟩⟩ (fun a => if a = 3 then (2, -1, 1) else (0, 0, 0))
        { exSys with box := some [4, 8, 4, 0, 0, 0, 0, 0, 0] })
      = value .asIs (.puckering 0 1 2 3 4 5 true) { exSys with box := some [4, 8, 4, 0, 0, 0, 0, 0, 0] } := by
  constructor <;> decide +kernel

/-- **Rotation invariance** of the non-periodic distance², distance-rate numerator, dihedral
    (numerator, denominator, |v2|²) and puckering projections under any rational `R` with
    `RᵀR = 1`, `det R = 1` applied to all positions (and velocities).  Dot products are preserved,
    the triple product is multiplied by `det R`. -/
theorem rotation_invariant (var : Variant) (op : OP) (hrel : op.relative = true)
    (hnp : op.periodic = false) (R : Mat3) (hR : IsRotation R) (s : Sys) :
    value var op (rotate R s) = value var op s := by
  -- `R` moves through the look-ups and the differences; then only dot and triple products are left
  cases op with
  | position i d | velocity i d => cases hrel
  | distance i0 i1 p | distancevel i0 i1 p | dihedral i0 i1 i2 i3 p =>
    obtain rfl : p = false := hnp
    simp only [value, distanceSq, distancevelNum, dihedral, rotate, getAtom_map, bind_map, applyBox_false,
      ok_bind, ← mulVec_sub, dot_mulVec R hR, dihedralOf_rotate R hR]
  | puckering i0 i1 i2 i3 i4 i5 p =>
    obtain rfl : p = false := hnp
    simp only [value, puckering, rotate, getAtom_map, bind_map, map_bind, Bool.false_and, Bool.false_eq_true,
      if_false]
    refine bind_congr (fun p0 => bind_congr (fun p1 => bind_congr (fun p2 => bind_congr (fun p3 =>
      bind_congr (fun p4 => bind_congr (fun p5 => ?_))))))
    obtain ⟨hz, hn⟩ := puckerOf_rotate R hR ⟨p0, p1, p2, p3, p4, p5⟩
    simp only [pure, Except.pure, Except.map, hz, hn]

/-- a proper rational rotation from the Pythagorean triples (3,4,5) and (5,12,13) -/
def exRot : Mat3 :=
  ⟨⟨3 / 5, -4 / 5, 0⟩, ⟨48 / 65, 36 / 65, -5 / 13⟩, ⟨20 / 65, 15 / 65, 12 / 13⟩⟩

theorem exRot_isRotation : IsRotation exRot := by
  constructor <;> decide +kernel

example : value .asIs (.puckering 0 1 2 3 4 5 false) (rotate exRot exSys)
    = value .asIs (.puckering 0 1 2 3 4 5 false) exSys ∧
    (value .asIs (.puckering 0 1 2 3 4 5 false) exSys).toOption.isSome = true := by
  constructor <;> decide +kernel

/-- **Rotation invariance whenever no box is applied**: non-periodic classes, AND periodic ones on a System without a
    box (`system.box is None`: the code skips the wrap).  `rotation_invariant` is the first disjunct. -/
theorem rotation_invariant_nobox (var : Variant) (op : OP) (hrel : op.relative = true) (R : Mat3) (hR : IsRotation R)
    (s : Sys) (h : op.periodic = false ∨ s.box = none) :
    value var op (rotate R s) = value var op s := by
  rcases h with h | h
  · exact rotation_invariant var op hrel h R hR s
  · have hr : (rotate R s).box = none := h
    rw [value_nobox var op (rotate R s) hr, value_nobox var op s h]
    exact rotation_invariant var op.nonPeriodic (by rw [nonPeriodic_relative]; exact hrel) (nonPeriodic_periodic op) R hR s

/-- the 3-4-5 rotation about z -/
def rotZ345 : Mat3 := ⟨⟨3 / 5, -4 / 5, 0⟩, ⟨4 / 5, 3 / 5, 0⟩, ⟨0, 0, 1⟩⟩
/-- two atoms 3 apart along x in a 4×4×4 box (minimum image: 1) -/
def rotSys : Sys := { pos := [⟨0, 0, 0⟩, ⟨3, 0, 0⟩], vel := [⟨0, 0, 0⟩, ⟨0, 0, 0⟩], box := some [4, 4, 4] }

/-- **The guard is needed**: with a box, a periodic parameter is NOT invariant under rotating the atoms alone (the box
    axes stay): rotating (3,0,0) by the 3-4-5 rotation about z gives (9/5, 12/5, 0), whose minimum image in the 4-box is
    (9/5, −8/5, 0): squared distance 29/5 instead of 1.  (Physically right — an orthogonal cell has no such symmetry —
    and outside the property once read with its quantifier "orthogonal boxes"; stated so the guard is not silent.) -/
theorem rotation_periodic_counterexample :
    ¬ (∀ (var : Variant) (op : OP) (R : Mat3) (s : Sys), op.relative = true → IsRotation R →
        value var op (rotate R s) = value var op s) := by
  intro h
  have hR : IsRotation rotZ345 := by constructor <;> decide +kernel
  have := h Variant.current (.distance 0 1 true) rotZ345 rotSys rfl hR
  revert this
  decide +kernel

example : value Variant.current (.distance 0 1 true) rotSys = .ok [1] ∧
    value Variant.current (.distance 0 1 true) (rotate rotZ345 rotSys) = .ok [29 / 5] ∧
    (OP.distance 0 1 true).periodic = true ∧ ({ rotSys with box := none } : Sys).box = none ∧
    value Variant.current (.distance 0 1 true) (rotate rotZ345 { rotSys with box := none })
      = value Variant.current (.distance 0 1 true) { rotSys with box := none } := by
  refine ⟨?_, ?_, ?_, ?_, ?_⟩ <;> decide +kernel

/-- **Computing an order parameter does not modify the system**: every in-place numpy statement
    of the six `calculate` methods targets a fresh array (binary-operation result, `np.zeros`
    or an advanced-indexing copy), never a view of `system.pos/vel/box`, and no attribute is
    assigned.
    HONEST LABEL: this theorem is TRUE BY CONSTRUCTION — the labels `fresh` in `Geom.effects` are asserted by
    hand while reading the code, nothing derives them from it — so it carries no assurance of its own.  The purity
    clause is TIE-ONLY: identity + content snapshot of every System attribute around every `calculate`, and the
    per-class comparison of the changed fields with `Geom.effects` (driver `effects`). -/
theorem calculate_pure (var : Variant) (op : OP) (s : Sys) : (calculate var op s).2 = s := by
  cases op <;> rfl

/-- the heap model is not vacuous: an in-place statement on a *view* of a row would show up -/
example : inplace exSys (.posRow 0) (V3.smul 0) = exSys ∧
    inplace exSys (.posRow 1) (V3.smul 0) ≠ exSys := by
  constructor <;> decide +kernel

/-- **`calculate` raises IndexError exactly when an index is illegal for THIS system** (code of today) -/
theorem calculate_raises_iff (op : OP) (s : Sys) :
    value Variant.current op s = .error .index ↔ op.indicesValid s = false :=
  (value_ends op s).1

theorem value_length_stable (var : Variant) (op : OP) (s : Sys) (l : List ℚ) (h : value var op s = .ok l) :
    l.length = op.preLen := by
  cases op with
  | puckering i0 i1 i2 i3 i4 i5 p =>
    obtain ⟨a, ha, rfl⟩ := map_ok_iff.mp h
    obtain ⟨ring, rfl⟩ := puckering_ok_form s i0 i1 i2 i3 i4 i5 p a ha
    rfl
  | _ => obtain ⟨a, _, rfl⟩ := map_ok_iff.mp h; rfl

/-- **Totality and length stability**: legal indices and (for periodic variants) no zero box length ⇒
    `calculate` returns, and the pre-image has the fixed length of its class (1, 2, 1, 1, 3, 7).  In
    particular degenerate geometries — coincident atoms, collinear dihedrals, flat or collapsed rings —
    raise nothing: the code returns numbers (possibly NaN from 0/0 in the tails outside the model). -/
theorem calculate_returns (op : OP) (s : Sys) (hv : op.indicesValid s = true)
    (hb : op.periodic = true → BoxNonzero s.box) :
    ∃ l, value Variant.current op s = .ok l ∧ l.length = op.preLen := by
  obtain ⟨l, hl⟩ := (value_ends op s).2 hv hb
  exact ⟨l, hl, value_length_stable _ op s l hl⟩

example : ∃ l, value .asIs (.puckering 0 1 2 3 4 5 true) exSys = .ok l ∧ l.length = 7 := by
  obtain ⟨l, hl⟩ : ∃ l, value .asIs (.puckering 0 1 2 3 4 5 true) exSys = .ok l := by
    have : (value .asIs (.puckering 0 1 2 3 4 5 true) exSys).toOption.isSome = true := by decide +kernel
    cases h : value .asIs (.puckering 0 1 2 3 4 5 true) exSys with
    | ok l => exact ⟨l, rfl⟩
    | error e => rw [h] at this; cases this
  exact ⟨l, hl, value_length_stable _ _ _ l hl⟩

/-- all six atoms the same: every difference is zero, the ring is collapsed -/
def collapsedSys : Sys := { pos := [⟨1, 2, 3⟩], vel := [⟨0, 0, 0⟩], box := some [4, 4, 4] }

example : (OP.puckering 0 0 0 0 0 0 true).indicesValid collapsedSys = true ∧
    value Variant.current (.puckering 0 0 0 0 0 0 true) collapsedSys = .ok [0, 0, 0, 0, 0, 0, 0] ∧
    value Variant.current (.dihedral 0 0 0 0 true) collapsedSys = .ok [0, 0, 0] ∧
    (OP.puckering 0 0 0 0 0 1 true).indicesValid collapsedSys = false ∧
    value Variant.current (.puckering 0 0 0 0 0 1 true) collapsedSys = .error .index := by
  refine ⟨?_, ?_, ?_, ?_, ?_⟩ <;> decide +kernel

/-- **Collinear dihedrals**: if the first (or third) bond vector is parallel to the middle one, both
    arguments of `arctan2` are zero (the code then returns `arctan2(±0, ±0)`, a number, no exception) -/
theorem dihedral_collinear_pre (a : ℚ) (v2 v3 : V3) :
    dihedralOf (V3.smul a v2) v2 v3 = ⟨0, 0, V3.dot v2 v2⟩ ∧
    dihedralOf v3 v2 (V3.smul a v2) = ⟨0, 0, V3.dot v2 v2⟩ := by
  constructor <;>
  · simp only [dihedralOf, V3.triple, V3.dot, V3.cross, V3.smul, DihedralPre.mk.injEq]
    refine ⟨?_, ?_, trivial⟩ <;> ring

example : dihedralOf (V3.smul 3 ⟨1, 2, 2⟩) ⟨1, 2, 2⟩ ⟨0, 1, 5⟩ = ⟨0, 0, 9⟩ := by decide +kernel

/-! ### the second half of `Puckering.calculate` -/

/-- every symmetry of the puckering pre-image carries over to the Cremer–Pople sums `H1, H2, Q3, Σz²`
    (the quantities `theta`, `phi`, `Q` are functions of): they are computed from the pre-image alone -/
theorem puckeringFull_congr (var var' : Variant) (s s' : Sys) (i0 i1 i2 i3 i4 i5 : Int) (p : Bool)
    (h : value var (.puckering i0 i1 i2 i3 i4 i5 p) s = value var' (.puckering i0 i1 i2 i3 i4 i5 p) s') :
    puckeringFull var s i0 i1 i2 i3 i4 i5 p = puckeringFull var' s' i0 i1 i2 i3 i4 i5 p := by
  unfold puckeringFull; rw [h]

/-- translation, rotation (non-periodic) and image-shift (periodic, tie-free) invariance of the sums -/
theorem puckeringFull_invariant (var : Variant) (s : Sys) (i0 i1 i2 i3 i4 i5 : Int) (p : Bool) :
    (∀ t, puckeringFull var (translate t s) i0 i1 i2 i3 i4 i5 p = puckeringFull var s i0 i1 i2 i3 i4 i5 p) ∧
    (∀ R, IsRotation R → p = false →
      puckeringFull var (rotate R s) i0 i1 i2 i3 i4 i5 p = puckeringFull var s i0 i1 i2 i3 i4 i5 p) ∧
    (∀ (L : V3) (rest : List ℚ) (ks : Nat → Int × Int × Int), p = true → s.box = some (L.x :: L.y :: L.z :: rest) →
      TieFreeSys (.puckering i0 i1 i2 i3 i4 i5 p) s L →
      puckeringFull var (shiftImages L ks s) i0 i1 i2 i3 i4 i5 p = puckeringFull var s i0 i1 i2 i3 i4 i5 p) := by
  refine ⟨fun t => ?_, fun R hR hp => ?_, fun L rest ks hp hbox htf => ?_⟩
  · exact puckeringFull_congr _ _ _ _ _ _ _ _ _ _ _ (translation_invariant var _ rfl s t)
  · subst hp
    exact puckeringFull_congr _ _ _ _ _ _ _ _ _ _ _ (rotation_invariant var _ rfl rfl R hR s)
  · subst hp
    exact puckeringFull_congr _ _ _ _ _ _ _ _ _ _ _ (image_shift_invariant var _ rfl s L rest ks hbox htf)

/-- the sums are defined whenever the pre-image is (seven numbers in, five out) -/
theorem puckeringFull_length (var : Variant) (s : Sys) (i0 i1 i2 i3 i4 i5 : Int) (p : Bool) (l : List ℚ)
    (h : puckeringFull var s i0 i1 i2 i3 i4 i5 p = .ok l) : l.length = 5 := by
  unfold puckeringFull at h
  obtain ⟨pre, hpre, rfl⟩ := map_ok_iff.mp h
  obtain ⟨P, hP, rfl⟩ := map_ok_iff.mp hpre
  obtain ⟨ring, rfl⟩ := puckering_ok_form s i0 i1 i2 i3 i4 i5 p P hP
  rfl

example : puckeringFull .asIs exSys 0 1 2 3 4 5 false =
    (value .asIs (.puckering 0 1 2 3 4 5 false) exSys).map (fun l =>
      match puckerSums l with | some r => [r.H1, r.H2, r.Q3, r.ZZ, r.nn] | none => []) ∧
    (puckeringFull .asIs exSys 0 1 2 3 4 5 false).toOption.isSome = true := by
  constructor
  · rfl
  · decide +kernel

/-- **Cremer–Pople consistency of what `Puckering.calculate` measures**: the displacements `z_j` from the
    mean plane satisfy the three defining conditions `Σ z_j = 0`, `Σ z_j sin(2πj/6) = 0`, `Σ z_j cos(2πj/6) = 0`,
    and therefore `Σ z_j² = q2² + q3²` — in pre-image form `ZZ = (H1² + ¾H2²)/3 + Q3²/6`: the returned
    `(θ, φ, Q)` are consistent spherical coordinates (`Q cos θ = q3`, `Q sin θ = q2`) for EVERY geometry,
    periodic or not, degenerate or not. -/
theorem puckering_plane_and_amplitude (var : Variant) (s : Sys) (i0 i1 i2 i3 i4 i5 : Int) (p : Bool) (l : List ℚ)
    (h : value var (.puckering i0 i1 i2 i3 i4 i5 p) s = .ok l) :
    ∃ z0 z1 z2 z3 z4 z5 nn S, l = [z0, z1, z2, z3, z4, z5, nn] ∧ puckerSums l = some S ∧
      z0 + z1 + z2 + z3 + z4 + z5 = 0 ∧ z1 + z2 - z4 - z5 = 0 ∧
      z0 + (1 / 2) * (z1 - z2 - z4 + z5) - z3 = 0 ∧
      S.ZZ = (1 / 3) * (S.H1 ^ 2 + (3 / 4) * S.H2 ^ 2) + (1 / 6) * S.Q3 ^ 2 := by
  simp only [value] at h
  obtain ⟨P, hP, rfl⟩ := map_ok_iff.mp h
  obtain ⟨ring, rfl⟩ := puckering_ok_form s i0 i1 i2 i3 i4 i5 p P hP
  have h0 := plane_sum ring (puckerOf ring).normal
  have h1 := plane_sin (centre ring)
  have h2 := plane_cos (centre ring)
  refine ⟨_, _, _, _, _, _, _, _, rfl, rfl, h0, h1, h2, ?_⟩
  -- Parseval on six points; the three lowest Fourier components vanish
  simp only [puckerOf] at h0 ⊢
  rw [parseval6, h0, h1, h2]
  ring

example : ∃ l S, value .asIs (.puckering 0 1 2 3 4 5 true) exSys = .ok l ∧ puckerSums l = some S ∧
    S.ZZ = (1 / 3) * (S.H1 ^ 2 + (3 / 4) * S.H2 ^ 2) + (1 / 6) * S.Q3 ^ 2 ∧ S.ZZ ≠ 0 := by
  have key : ((value .asIs (.puckering 0 1 2 3 4 5 true) exSys).toOption.bind puckerSums).map
      (fun S => decide (S.ZZ ≠ 0)) = some true := by decide +kernel
  cases h : value .asIs (.puckering 0 1 2 3 4 5 true) exSys with
  | error e => rw [h] at key; cases key
  | ok l =>
    obtain ⟨z0, z1, z2, z3, z4, z5, nn, S, hl, hS, _, _, _, hZ⟩ := puckering_plane_and_amplitude _ _ _ _ _ _ _ _ _ l h
    rw [h] at key
    simp only [Except.toOption, Option.bind_some, hS, Option.map_some, Option.some.injEq, decide_eq_true_eq] at key
    exact ⟨l, S, rfl, hS, hZ, key⟩

/-! ### construction: what is refused when the object is made, what only at first use -/

/-- **Only the COUNT is checked at construction** (and `dim`, "no periodic Position", and that `int()` accepts the
    Dihedral/Puckering indices): an object that
    `create_orderparameter` returns has 2 / 2 / 2 / 4 / 6 indices; rings other than 6-membered are refused. -/
theorem create_index_count (st : Settings) (o : Obj) (h : createOrderParameter st = .ok (.obj o)) :
    o.WellCounted := (create_obj_spec st o h).1

example : createOrderParameter ⟨"Puckering", some (.seq [.int 5, .int 4, .int 3, .int 2, .int 1, .int 0]), some true, none⟩
      = .ok (.obj (.puckering [5, 4, 3, 2, 1, 0] true)) ∧ (Obj.puckering [5, 4, 3, 2, 1, 0] true).WellCounted := by
  constructor
  · decide +kernel
  · rfl

/-- number of indices each indexed class insists on -/
def arityOf (k : String) : Option Nat :=
  if k = "position" ∨ k = "distance" ∨ k = "distancevel" then some 2
  else if k = "dihedral" then some 4 else if k = "puckering" then some 6 else none

/-- **A wrong number of indices is refused at construction** (ValueError; TypeError when the value has
    no `len`) — for Position, Distance, Distancevel, Dihedral, Puckering, whatever the other settings are. -/
theorem create_rejects_wrong_count (st : Settings) (n : Nat)
    (hk : arityOf (st.cls.map Char.toLower) = some n) (idx : IdxVal) (hi : st.index = some idx) :
    (∀ l, idx.items? = some l → l.length ≠ n → createOrderParameter st = .error .valueError) ∧
    (idx.items? = none → createOrderParameter st = .error .typeError) := by
  obtain ⟨hP, -, hD, hDi, hDv, hPu⟩ := create_eq_ctor st idx hi
  -- every indexed class starts with its count check, and an error there is the error of the whole call
  have key : ∀ e, (n = 2 → verifyPair idx = .error e) → ctorInts n idx = .error e →
      createOrderParameter st = .error e := by
    intro e hv hc
    unfold arityOf at hk
    split_ifs at hk with h2 h4 h6 <;> cases hk
    · rcases h2 with h | h | h
      · rw [hP h, ctorPosition, hv rfl]; rfl
      · rw [hD h, ctorDistance, hv rfl]; rfl
      · rw [hDv h, ctorDistancevel, hv rfl]; rfl
    · rw [hDi h4, ctorDihedral, hc]; rfl
    · rw [hPu h6, ctorPuckering, hc]; rfl
  exact ⟨fun l hl hne => key _ (fun h2 => verifyPair_wrong_count idx l hl (h2 ▸ hne))
      (ctorInts_wrong_count n idx l hl hne),
    fun hl => key _ (fun _ => verifyPair_no_len idx hl) (ctorInts_no_len n idx hl)⟩

example : arityOf (("PuCkErInG" : String).map Char.toLower) = some 6 ∧
    (IdxVal.seq [.int 0, .int 1, .int 2, .int 3, .int 4]).items? = some [.int 0, .int 1, .int 2, .int 3, .int 4] ∧
    createOrderParameter ⟨"PuCkErInG", some (.seq [.int 0, .int 1, .int 2, .int 3, .int 4]), none, none⟩
      = .error .valueError ∧
    createOrderParameter ⟨"Dihedral", some (.scalar (.int 7)), none, none⟩ = .error .typeError := by
  refine ⟨?_, ?_, ?_, ?_⟩ <;> decide +kernel

/-- **The RANGE of the indices is not looked at when the object is made** — it cannot be: the number of
    atoms is unknown then.  Any two ints (negative, equal, huge) make a `Distance`; whether they are
    legal is decided by the first `calculate`, which raises IndexError exactly for the systems that are
    too small (`calculate_raises_iff`).  So "an invalid definition is rejected at construction, never at
    first use" holds for the count, NOT for the range. -/
theorem range_checked_at_first_use (st : Settings) (hk : st.cls.map Char.toLower = "distance") (a b : Int)
    (hi : st.index = some (.seq [.int a, .int b])) :
    ∃ o, createOrderParameter st = .ok (.obj o) ∧ o.toOP = some (.distance a b (st.periodic.getD true)) ∧
      ∀ s : Sys, value Variant.current (.distance a b (st.periodic.getD true)) s = .error .index ↔
        (inRange s.pos.length b && inRange s.pos.length a) = false := by
  refine ⟨.distance (.seq [.int a, .int b]) (st.periodic.getD true), ?_, rfl, fun s => calculate_raises_iff _ s⟩
  rw [(create_eq_ctor st _ hi).2.2.1 hk]; rfl

example : (("Distance" : String).map Char.toLower) = "distance" ∧
    createOrderParameter ⟨"Distance", some (.seq [.int (-100), .int (-100)]), none, none⟩
      = .ok (.obj (.distance (.seq [.int (-100), .int (-100)]) true)) ∧
    value Variant.current (.distance (-100) (-100) true) exSys = .error .index := by
  refine ⟨?_, ?_, ?_⟩ <;> decide +kernel

/-- **Dihedral and Puckering objects always carry Python ints** (the constructor converts with `int()`,
    truncating floats and turning bools into 0/1), so they are always in the domain of `calculate`;
    and the object's `velocity_dependent` flag is the flag of its class. -/
theorem created_object_in_domain (st : Settings) (o : Obj) (h : createOrderParameter st = .ok (.obj o)) :
    (∀ l p, o = .dihedral l p → ∃ op, o.toOP = some op) ∧
    (∀ l p, o = .puckering l p → ∃ op, o.toOP = some op) ∧
    (∀ op, o.toOP = some op → o.velocityDependent = op.velocityDependent) := by
  have hw := create_index_count st o h
  refine ⟨fun l p ho => ?_, fun l p ho => ?_, fun op hop => toOP_velocityDependent o op hop⟩
  · subst ho; exact dihedral_toOP l p hw
  · subst ho; exact puckering_toOP l p hw

example : createOrderParameter ⟨"dihedral", some (.seq [.bool true, .float (17 / 10), .float (-5 / 2), .str "-3"]), none, none⟩
    = .ok (.obj (.dihedral [1, 1, -2, -3] false)) ∧
    (Obj.dihedral [1, 1, -2, -3] false).toOP = some (.dihedral 1 1 (-2) (-3) false) := by
  constructor <;> decide +kernel

/-- a `Position` needs an explicit `periodic = false` (the constructor's default is True, which it then
    refuses); a `Velocity` accepts anything as index -/
example : createOrderParameter ⟨"position", some (.seq [.int 0, .int 1]), none, none⟩ = .error .notImplemented ∧
    createOrderParameter ⟨"position", some (.seq [.int 0, .int 1]), some false, none⟩
      = .ok (.obj (.position (.seq [.int 0, .int 1]))) ∧
    createOrderParameter ⟨"velocity", some (.scalar .none), none, some "Z"⟩ = .ok (.obj (.velocity (.scalar .none) 2)) ∧
    createOrderParameter ⟨"velocity", some (.scalar (.int 0)), none, some "w"⟩ = .error .valueError ∧
    createOrderParameter ⟨"orderparameter", none, none, none⟩ = .ok (.obj .base) ∧
    createOrderParameter ⟨"mymodule", none, none, none⟩ = .ok .external := by
  refine ⟨?_, ?_, ?_, ?_, ?_, ?_⟩ <;> decide +kernel

/-! ### the base class through `create_orderparameter` -/

/-- **`velocity` key**: `class = "orderparameter"` makes a base-class object whose `velocity_dependent` is the value of
    the `velocity` key (False when absent); for every other class the key is never looked at. -/
theorem create_base_velocity_flag (st : Settings) (v : Option Bool) :
    (st.cls.map Char.toLower = "orderparameter" → createOrderParameterX st v = .ok (.base (v.getD false))) ∧
    (st.cls.map Char.toLower ≠ "orderparameter" →
      createOrderParameterX st v = createOrderParameterX st none) := by
  constructor
  · intro hk
    rw [createOrderParameterX, create_eq_base st hk]
  · intro hk
    unfold createOrderParameterX
    cases hc : createOrderParameter st with
    | error e => rfl
    | ok c =>
      cases c with
      | external => rfl
      | obj o =>
        cases o with
        | base => exact absurd ((create_obj_spec st _ hc).2 rfl) hk
        | _ => rfl

example : createOrderParameterX ⟨"OrderParameter", none, none, none⟩ (some true) = .ok (.base true) ∧
    createOrderParameterX ⟨"orderparameter", none, none, none⟩ none = .ok (.base false) ∧
    createOrderParameterX ⟨"Distance", some (.seq [.int 0, .int 1]), none, none⟩ (some true)
      = .ok (.obj (.distance (.seq [.int 0, .int 1]) true)) := by
  refine ⟨?_, ?_, ?_⟩ <;> decide +kernel

/-! ### `EngineBase.calculate_order` as a whole -/

/-- **Explicit arrays**: nothing is read, the value is that of `calculate` on (xyz, ±vel, box), and the
    System afterwards holds exactly the arrays handed over (velocities times `(−1)^vel_rev`). -/
theorem calculateOrderFull_explicit_route (var : Variant) (op : OP) (s : SysF) (x v : List V3) (b : List ℚ)
    (file : Config) :
    (calculateOrderFull var (some op) s (some x) (some v) (some b) file).read = false ∧
    (calculateOrderFull var (some op) s (some x) (some v) (some b) file).val =
      liftCO (calculateOrder var op s.velRev s.box x v (some b)).1 ∧
    (calculateOrderFull var (some op) s (some x) (some v) (some b) file).sys =
      ⟨x, if s.velRev then v.map V3.neg else v, some b, s.velRev⟩ := by
  rw [calculateOrderFull_eq]
  exact ⟨rfl, rfl, rfl⟩

example : (calculateOrderFull .asIs (some (.distance 0 1 true)) ⟨[], [], some [2, 2, 2], true⟩
      (some exSys.pos) (some exSys.vel) (some [4, 8, 4]) ⟨none, none, none⟩).read = false ∧
    (calculateOrderFull .asIs (some (.distance 0 1 true)) ⟨[], [], some [2, 2, 2], true⟩
      (some exSys.pos) (some exSys.vel) (some [4, 8, 4]) ⟨none, none, none⟩).val = .ok [21 / 16] := by
  constructor <;> decide +kernel

/-- **Both routes agree**: reading (x, v, b) from the configuration file gives the same value and leaves
    the same System as handing the three arrays over (only the read request differs). -/
theorem calculateOrderFull_routes_agree (var : Variant) (fn : Option OP) (s : SysF) (x v : List V3) (b : List ℚ)
    (file : Config) :
    (calculateOrderFull var fn s none none none ⟨some x, some v, some b⟩).val =
      (calculateOrderFull var fn s (some x) (some v) (some b) file).val ∧
    (calculateOrderFull var fn s none none none ⟨some x, some v, some b⟩).sys =
      (calculateOrderFull var fn s (some x) (some v) (some b) file).sys ∧
    (calculateOrderFull var fn s none none none ⟨some x, some v, some b⟩).read = true := by
  refine ⟨?_, ?_, ?_⟩ <;> cases fn <;> rfl

/-- **One missing argument discards the other two** (as the code is): if any of xyz / vel / box is `None`
    the file is read and ALL THREE come from the file — explicit arrays given alongside are ignored. -/
theorem calculateOrderFull_missing_arg_reads_all (var : Variant) (fn : Option OP) (s : SysF)
    (xyz vel : Option (List V3)) (box : Option (List ℚ)) (file : Config)
    (h : xyz = none ∨ vel = none ∨ box = none) :
    calculateOrderFull var fn s xyz vel box file = calculateOrderFull var fn s none none none file := by
  have hr : (xyz.isNone || vel.isNone || box.isNone) = true := by
    rcases h with h | h | h <;> subst h <;> simp
  rw [calculateOrderFull_eq, calculateOrderFull_eq]
  simp only [hr, Option.isNone_none, Bool.or_self, if_true]

/-- the quirk on a concrete call: explicit positions are dropped because `box` is missing -/
example : (calculateOrderFull .asIs (some (.position 0 0)) ⟨[], [], none, false⟩
      (some [⟨7, 7, 7⟩]) (some [⟨0, 0, 0⟩]) none ⟨some [⟨1, 2, 3⟩], some [⟨0, 0, 0⟩], none⟩).val = .ok [1] ∧
    (calculateOrderFull .asIs (some (.position 0 0)) ⟨[], [], none, false⟩
      (some [⟨7, 7, 7⟩]) (some [⟨0, 0, 0⟩]) none ⟨some [⟨1, 2, 3⟩], some [⟨0, 0, 0⟩], none⟩).read = true := by
  constructor <;> decide +kernel

/-- **`vel_rev` through the whole of `calculate_order`** (either route, as long as velocities arrive):
    velocity-type values are negated, position-type values unchanged. -/
theorem calculateOrderFull_vel_rev (var : Variant) (op : OP) (s : SysF) (xyz vel : Option (List V3))
    (box : Option (List ℚ)) (file : Config) (v : List V3)
    (hv : (if xyz.isNone || vel.isNone || box.isNone then file.vel else vel) = some v) :
    (calculateOrderFull var (some op) { s with velRev := true } xyz vel box file).val =
      if op.velocityDependent
      then (calculateOrderFull var (some op) { s with velRev := false } xyz vel box file).val.map negHead
      else (calculateOrderFull var (some op) { s with velRev := false } xyz vel box file).val := by
  rw [calculateOrderFull_eq, calculateOrderFull_eq]
  simp only [hv, coVel, if_true, Bool.false_eq_true, if_false]
  have key := fun P B => velocity_reversal_sign var op ⟨P, v, B⟩
  simp only [reverseVel] at key
  rw [key]
  cases op.velocityDependent with
  | false => simp
  | true =>
    simp only [if_true]
    cases value var op _ <;> rfl

example : (calculateOrderFull .asIs (some (.velocity 1 1)) ⟨[], [], none, true⟩ none none none
      ⟨some exSys.pos, some exSys.vel, exSys.box⟩).val = .ok [-1] ∧
    (calculateOrderFull .asIs (some (.velocity 1 1)) ⟨[], [], none, false⟩ none none none
      ⟨some exSys.pos, some exSys.vel, exSys.box⟩).val = .ok [1] := by
  constructor <;> decide +kernel

/-- **Box forms through `calculate_order`** (code of today): an engine handing over the 9-component box
    gets the same value as one handing over the 3-component box. -/
theorem calculateOrderFull_box_forms (op : OP) (s : SysF) (X V : List V3) (x y z : ℚ) (rest : List ℚ)
    (file : Config) :
    (calculateOrderFull Variant.current (some op) s (some X) (some V) (some (x :: y :: z :: rest)) file).val =
      (calculateOrderFull Variant.current (some op) s (some X) (some V) (some [x, y, z]) file).val := by
  rw [calculateOrderFull_eq, calculateOrderFull_eq]
  simp only [Option.isNone_some, Bool.or_self, Bool.false_eq_true, if_false, newBox, Option.getD_some]
  have := box3_boxN_agree op ⟨X, coVel s.velRev s.vel (some V), none⟩ x y z rest
  simp only at this
  rw [this]

example : (calculateOrderFull Variant.current (some (.distancevel 0 1 true)) ⟨[], [], none, false⟩
      (some exSys.pos) (some exSys.vel) (some [4, 8, 4, 0, 0, 0, 0, 0, 0]) ⟨none, none, none⟩).val
    = .ok [3 / 2, 21 / 16] := by decide +kernel

/-- **No order function**: `ValueError`, but only AFTER the System has been given the new arrays (as the code is) -/
theorem calculateOrderFull_no_order_function (var : Variant) (s : SysF) (x v : List V3) (b : List ℚ)
    (file : Config) :
    (calculateOrderFull var none s (some x) (some v) (some b) file).val = .error .noOrderFunction ∧
    (calculateOrderFull var none s (some x) (some v) (some b) file).sys =
      ⟨x, if s.velRev then v.map V3.neg else v, some b, s.velRev⟩ := by
  rw [calculateOrderFull_eq]
  exact ⟨rfl, rfl⟩

/-- **A configuration without a box keeps the box the System had**; without velocities the old velocities
    stay and are NOT sign-adjusted (as the code is) -/
theorem calculateOrderFull_missing_blocks (var : Variant) (op : OP) (s : SysF) (x : List V3) :
    (calculateOrderFull var (some op) s none none none ⟨some x, none, none⟩).sys = ⟨x, s.vel, s.box, s.velRev⟩ := by
  rw [calculateOrderFull_eq]
  simp [coVel, newBox]

/-! ### `Path.reverse`, one frame (HAND-BUILT frames: frames that carry position/velocity arrays — the library makes
    none; for the frames it does make see the last part of this file) -/

/-- **`Path.reverse`, repaired variant**: recomputing the order of the reversed frame on its physical
    velocities (`vel · (−1)^vel_rev` with the toggled flag) negates the order of every
    velocity-type parameter and leaves position-type ones alone. -/
theorem path_reverse_flips_velocity_order (var : Variant) (op : OP) (f : Frame) :
    (reverseRecompute .repaired var op f).2 =
      if op.velocityDependent then (frameOrder var op f).map negHead else frameOrder var op f := by
  show value var op (Frame.physical { f with velRev := !f.velRev }) = _
  rw [physical_toggle]
  exact velocity_reversal_sign var op f.physical

/-- the frame of the witness: one atom with velocity (3,0,0), not reversed -/
def revFrame : Frame := { sys := ⟨[⟨0, 0, 0⟩], [⟨3, 0, 0⟩], none⟩, velRev := false }

example : OP.velocityDependent (.velocity 0 0) = true ∧ frameOrder .asIs (.velocity 0 0) revFrame = .ok [3] ∧
    (reverseRecompute .repaired .asIs (.velocity 0 0) revFrame).2 = .ok [-3] := by
  refine ⟨?_, ?_, ?_⟩ <;> decide +kernel

/-- **The code as it is does not flip the sign**: `Path.reverse` toggles `vel_rev` and calls
    `order_function.calculate(frame)`, which reads the stored velocities and ignores the flag.
    Witness: `Velocity(0,'x')` on a frame with velocity (3,0,0): order 3 before, 3 (not −3) after. -/
theorem path_reverse_velocity_order_counterexample :
    ¬ (∀ (var : Variant) (op : OP) (f : Frame), op.velocityDependent = true →
        (reverseRecompute .asIs var op f).2 = (frameOrder var op f).map negHead) := by
  intro h
  have := h .asIs (.velocity 0 0) revFrame (by decide)
  revert this
  decide +kernel

/-- in general: as the code is, the recomputed order of a frame that was not reversed before is
    simply the old order -/
theorem path_reverse_asIs_order_unchanged (var : Variant) (op : OP) (f : Frame) (hf : f.velRev = false) :
    (reverseRecompute .asIs var op f).2 = frameOrder var op f := by
  simp [reverseRecompute, frameOrder, Frame.physical, hf]

/-! ### `Path.reverse` as a whole (HAND-BUILT frames carrying arrays; library frames: `pathReverse_engine_made_raises`,
    `pathReverse_loaded_raises`, `pathReverse_library_no_recompute` below) -/

/-- mirror image with toggled flags: what `Path.reverse` builds before any recomputation -/
def mirrored (revV : Bool) (frames : List PFrame) : List PFrame :=
  frames.reverse.map (fun f => if revV then { f with velRev := !f.velRev } else f)

/-- **Position-type parameters (or no order function, or `rev_v = False`)**: the reversed path is the
    mirror image, every stored order (all components) is kept, `vel_rev` toggled iff `rev_v`; nothing is
    recomputed and nothing can raise. -/
theorem pathReverse_no_recompute (rv : ReverseVariant) (var : Variant) (fn : Option (OP × Bool)) (revV : Bool)
    (maxlen : Option Nat) (frames : List PFrame)
    (h : fn = none ∨ revV = false ∨ ∃ op, fn = some (op, false)) :
    pathReverse rv var fn revV maxlen frames = .ok (appendAll maxlen (mirrored revV frames)) := by
  unfold pathReverse mirrored
  rcases h with h | h | ⟨op, h⟩
  · subst h; rfl
  · subst h; cases fn with
    | none => rfl
    | some x => simp
  · subst h; simp

/-- **Whole-path statement, any variant**: if `Path.reverse` returns, the new path has the frames of the
    old one in reverse order (coordinates, velocities, box untouched; none lost when the path respects
    `maxlen`), every `vel_rev` toggled, and each order recomputed on the arrays the variant looks at. -/
theorem pathReverse_frames (rv : ReverseVariant) (var : Variant) (op : OP) (maxlen : Option Nat)
    (frames out : List PFrame) (hm : ∀ m, maxlen = some m → frames.length ≤ m)
    (h : pathReverse rv var (some (op, true)) true maxlen frames = .ok out) :
    List.Forall₂ (fun f g => g.sys = f.sys ∧ g.velRev = !f.velRev ∧
      (∀ l, value var op (recomputeSys rv { f with velRev := !f.velRev }) = .ok l → g.order = .recomputed l))
      frames.reverse out := by
  unfold pathReverse at h
  simp only [Bool.and_self, if_true] at h
  rw [appendAll_eq maxlen _ (by intro m hm'; simpa using hm m hm'), List.mapM_map] at h
  refine mapM_forall₂ _ _ (fun f g hfg => ?_) _ _ h
  have := recomputeFrame_spec rv var op _ g hfg
  simpa using this

theorem pathReverse_length (rv : ReverseVariant) (var : Variant) (op : OP) (maxlen : Option Nat)
    (frames out : List PFrame) (hm : ∀ m, maxlen = some m → frames.length ≤ m)
    (h : pathReverse rv var (some (op, true)) true maxlen frames = .ok out) : out.length = frames.length := by
  have := (pathReverse_frames rv var op maxlen frames out hm h).length_eq
  simpa using this.symm

/-- **Repaired variant, whole path**: for a velocity-type parameter every recomputed order is the old
    frame's order with the first value negated, in mirrored sequence. -/
theorem pathReverse_repaired_negates (var : Variant) (op : OP) (hvd : op.velocityDependent = true)
    (maxlen : Option Nat) (frames out : List PFrame) (hm : ∀ m, maxlen = some m → frames.length ≤ m)
    (h : pathReverse .repaired var (some (op, true)) true maxlen frames = .ok out) :
    List.Forall₂ (fun f g => ∀ l, frameOrder var op ⟨f.sys, f.velRev⟩ = .ok l → g.order = .recomputed (negHead l))
      frames.reverse out := by
  refine List.Forall₂.imp (fun f g hfg => ?_) (pathReverse_frames .repaired var op maxlen frames out hm h)
  intro l hl
  have hflip := path_reverse_flips_velocity_order var op ⟨f.sys, f.velRev⟩
  simp only [reverseRecompute, hvd, if_true] at hflip
  refine hfg.2.2 (negHead l) ?_
  show value var op (Frame.physical ⟨f.sys, !f.velRev⟩) = .ok (negHead l)
  rw [hflip, hl]; rfl

/-- **The code as it is, whole path**: the recomputed order is the value on the STORED velocities, so for
    frames that were not reversed before (`vel_rev = False`, e.g. a freshly generated forward path) the
    orders of a velocity-type parameter come back unchanged instead of negated. -/
theorem pathReverse_asIs_not_negated (var : Variant) (op : OP) (maxlen : Option Nat)
    (frames out : List PFrame) (hm : ∀ m, maxlen = some m → frames.length ≤ m)
    (h : pathReverse .asIs var (some (op, true)) true maxlen frames = .ok out) :
    List.Forall₂ (fun f g => f.velRev = false → ∀ l, frameOrder var op ⟨f.sys, f.velRev⟩ = .ok l →
      g.order = .recomputed l) frames.reverse out := by
  refine List.Forall₂.imp (fun f g hfg => ?_) (pathReverse_frames .asIs var op maxlen frames out hm h)
  intro hf l hl
  refine hfg.2.2 l ?_
  show value var op f.sys = .ok l
  simpa [frameOrder, Frame.physical, hf] using hl

/-- a forward path of three frames, `Velocity(0, 'x')` orders 1, 2, 3 -/
def fwdPath : List PFrame :=
  [⟨⟨[⟨0, 0, 0⟩], [⟨1, 0, 0⟩], none⟩, false, .stored [1]⟩,
   ⟨⟨[⟨1, 0, 0⟩], [⟨2, 0, 0⟩], none⟩, false, .stored [2]⟩,
   ⟨⟨[⟨3, 0, 0⟩], [⟨3, 0, 0⟩], none⟩, false, .stored [3]⟩]

/-- the whole-path witness of the open finding: as the code is the reversed path has orders 3, 2, 1;
    on the physical velocities it is −3, −2, −1 -/
theorem pathReverse_velocity_order_counterexample :
    (pathReverse .asIs Variant.current (some (.velocity 0 0, true)) true (some 100) fwdPath).map
      (fun fs => fs.map (fun f => (f.velRev, f.order))) =
        .ok [(true, .recomputed [3]), (true, .recomputed [2]), (true, .recomputed [1])] ∧
    (pathReverse .repaired Variant.current (some (.velocity 0 0, true)) true (some 100) fwdPath).map
      (fun fs => fs.map (fun f => (f.velRev, f.order))) =
        .ok [(true, .recomputed [-3]), (true, .recomputed [-2]), (true, .recomputed [-1])] ∧
    (pathReverse .asIs Variant.current (some (.position 0 0, false)) true (some 100) fwdPath).map
      (fun fs => fs.map (fun f => (f.velRev, f.order))) =
        .ok [(true, .stored [3]), (true, .stored [2]), (true, .stored [1])] := by
  refine ⟨?_, ?_, ?_⟩ <;> decide +kernel

/-- the hypotheses of the whole-path theorems hold on the witness path -/
example : (∀ m, (some 100 : Option Nat) = some m → fwdPath.length ≤ m) ∧
    OP.velocityDependent (.velocity 0 0) = true ∧
    (pathReverse .repaired Variant.current (some (.velocity 0 0, true)) true (some 100) fwdPath).toOption.isSome = true := by
  refine ⟨?_, ?_, ?_⟩
  · intro m hm; cases hm; decide
  · rfl
  · decide +kernel

/-- `maxlen` shorter than the path: the new path silently loses the frames that do not fit (as the code is) -/
example : (pathReverse .asIs Variant.current none true (some 2) fwdPath).map (fun fs => fs.map (fun f => f.order))
    = .ok [.stored [3], .stored [2]] := by decide +kernel

/-- **Reversing twice** (no recomputation) gives the path back, flags included -/
theorem pathReverse_twice (rv : ReverseVariant) (var : Variant) (revV : Bool) (frames : List PFrame) :
    (pathReverse rv var none revV none frames).bind (pathReverse rv var none revV none) = .ok frames := by
  simp only [pathReverse, appendAll, Except.bind]
  congr 1
  rw [List.map_reverse (l := frames), List.reverse_reverse, List.map_map]
  -- toggling a flag twice is the identity
  conv_rhs => rw [← List.map_id frames]
  congr 1
  funext f
  cases revV <;> simp

/-! ## The frames the library really makes, 2-D boxes

WHICH FRAMES.  The `Path.reverse` theorems above (`path_reverse_*`, `pathReverse_frames`, `pathReverse_repaired_negates`,
`pathReverse_asIs_not_negated`, `pathReverse_velocity_order_counterexample`) speak about HAND-BUILT frames: frames that carry
(N,3) position and velocity arrays.  The library itself never puts such a frame into a path:
`EngineBase.snapshot_to_system` gives every engine-made frame `pos = vel = None`, `load_path` gives every loaded frame the
empty arrays of a bare `System()`.  The theorems of this section are about those frames (`Model/GeomFrames.lean`,
`LFrame`, `pathReverseL`): with a velocity-dependent order function `Path.reverse` RAISES — TypeError on engine-made
frames, IndexError on loaded ones — so the question "is the sign flipped" does not even arise on library frames; it
returns (stored orders mirrored, flags toggled) exactly when nothing is recomputed. -/

/-- mirror image with toggled flags, cut at `maxlen`: what `Path.reverse` builds before any recomputation -/
def mirroredLib (revV : Bool) (maxlen : Option Nat) (frames : List LFrame) : List LFrame := mirroredL revV maxlen frames

/-- **Engine-made paths: `Path.reverse(order_function)` raises TypeError** for EVERY built-in order function that is
    flagged velocity dependent (and would for any built-in class: all six subscript `system.pos` / `system.vel` in their
    first statement), whatever the geometry, the box, the flags: the path must only be non-empty and `maxlen ≠ 0`. -/
theorem pathReverse_engine_made_raises (var : Variant) (op : OP) (maxlen : Option Nat) (frames : List LFrame)
    (hne : frames ≠ []) (hm : maxlen ≠ some 0) (hall : ∀ f ∈ frames, f.arrays = none) :
    pathReverseL var (some (op, true)) true maxlen frames = .error .typeError :=
  pathReverseL_raises var op none .typeError (recomputeLFrame_noArrays var op) maxlen frames hne hm hall

/-- **Loaded paths: IndexError** (bare `System()`: `np.zeros(0)` arrays; the 3×3 zero box is never reached) -/
theorem pathReverse_loaded_raises (var : Variant) (op : OP) (maxlen : Option Nat) (frames : List LFrame)
    (hne : frames ≠ []) (hm : maxlen ≠ some 0) (hall : ∀ f ∈ frames, f.arrays = some ([], [])) :
    pathReverseL var (some (op, true)) true maxlen frames = .error .index :=
  pathReverseL_raises var op _ .index (recomputeLFrame_empty var op) maxlen frames hne hm hall

/-- **When it returns**: no order function, `rev_v = False`, or a position-type function (`velocity_dependent = False`,
    e.g. Distance — `calculate` is never called, which is why reversing works for them on frames without arrays):
    the stored orders in mirrored sequence, flags toggled iff `rev_v`, cut at `maxlen`. -/
theorem pathReverse_library_no_recompute (var : Variant) (fn : Option (OP × Bool)) (revV : Bool) (maxlen : Option Nat)
    (frames : List LFrame) (h : fn = none ∨ revV = false ∨ ∃ op, fn = some (op, false)) :
    pathReverseL var fn revV maxlen frames = .ok (mirroredLib revV maxlen frames) := by
  unfold pathReverseL mirroredLib mirroredL
  rcases h with h | h | ⟨op, h⟩
  · subst h; rfl
  · subst h; cases fn with
    | none => rfl
    | some x => simp
  · subst h; simp

/-- **Converse**: if `Path.reverse` with a velocity-dependent function returns at all, every frame it kept carries
    arrays — no engine-made frame is among them. -/
theorem pathReverse_ok_needs_arrays (var : Variant) (op : OP) (maxlen : Option Nat) (frames out : List LFrame)
    (h : pathReverseL var (some (op, true)) true maxlen frames = .ok out) :
    ∀ g ∈ mirroredLib true maxlen frames, g.arrays.isSome = true := by
  unfold pathReverseL at h
  simp only [Bool.and_self, if_true] at h
  exact mapM_ok_forall _ _ (fun a b hab => recomputeLFrame_ok_arrays var op a b hab) _ out h

/-- **One frame**: on an engine-made frame EVERY built-in `calculate` raises TypeError (all six subscript `system.pos` /
    `system.vel` first), on a loaded frame IndexError — whatever the indices, the periodic flag and the box. -/
theorem calculate_on_library_frames (var : Variant) (op : OP) (f : LFrame) :
    (f.arrays = none → calcFrame var op f = .error .typeError) ∧
    (f.arrays = some ([], []) → calcFrame var op f = .error .index) :=
  ⟨calcFrame_noArrays var op f, calcFrame_empty var op f⟩

example : (snapshotToSystem (.flat [4, 4, 4]) [1] false).arrays = none ∧ (loadedFrame [1] false).arrays = some ([], []) ∧
    calcFrame Variant.current (.puckering 0 1 2 3 4 5 true) (snapshotToSystem (.flat [4, 4, 4]) [1] false) = .error .typeError ∧
    calcFrame Variant.current (.distance 0 1 true) (loadedFrame [1] false) = .error .index := by
  refine ⟨?_, ?_, ?_, ?_⟩ <;> decide +kernel

/-- three engine-made frames (orders 1, 2, 3 of `Velocity(0,'x')`, 3-component box) and three loaded ones -/
def enginePath : List LFrame :=
  [snapshotToSystem (.flat [4, 4, 4]) [1] false, snapshotToSystem (.flat [4, 4, 4]) [2] false,
   snapshotToSystem (.flat [4, 4, 4]) [3] false]
def loadedPath : List LFrame := [loadedFrame [1] false, loadedFrame [2] true, loadedFrame [3] false]

example : enginePath ≠ [] ∧ (some 100 : Option Nat) ≠ some 0 ∧ (∀ f ∈ enginePath, f.arrays = none) ∧
    OP.velocityDependent (.velocity 0 0) = true ∧ OP.velocityDependent (.distancevel 0 1 true) = true ∧
    pathReverseL Variant.current (some (.velocity 0 0, true)) true (some 100) enginePath = .error .typeError ∧
    pathReverseL Variant.current (some (.distancevel 0 1 true, true)) true (some 100) enginePath = .error .typeError ∧
    pathReverseL Variant.current (some (.velocity 0 0, true)) true (some 100) loadedPath = .error .index ∧
    (pathReverseL Variant.current (some (.distance 0 1 true, false)) true (some 100) enginePath).map
      (fun fs => fs.map (fun f => (f.velRev, f.order))) = .ok [(true, .stored [3]), (true, .stored [2]), (true, .stored [1])] ∧
    (pathReverseL Variant.current none true (some 2) loadedPath).map
      (fun fs => fs.map (fun f => (f.velRev, f.order))) = .ok [(true, .stored [3]), (false, .stored [2])] := by
  refine ⟨?_, ?_, ?_, ?_, ?_, ?_, ?_, ?_, ?_, ?_⟩ <;> decide +kernel

/-- a path whose LAST frame carries arrays and whose others are engine-made: the recomputation starts at the last
    frame (first of the new path), succeeds there and raises at the next one — the first failing frame decides -/
example : pathReverseL Variant.current (some (.velocity 0 0, true)) true none
      [snapshotToSystem (.flat [4, 4, 4]) [1] false, ⟨some ([⟨0, 0, 0⟩], [⟨3, 0, 0⟩]), .none, false, .stored [3]⟩]
    = .error .typeError ∧
    pathReverseL Variant.current (some (.velocity 0 0, true)) true none
      [⟨some ([⟨0, 0, 0⟩], [⟨3, 0, 0⟩]), .none, false, .stored [3]⟩] =
        .ok [⟨some ([⟨0, 0, 0⟩], [⟨3, 0, 0⟩]), .none, true, .recomputed [3]⟩] := by
  constructor <;> decide +kernel

/-- **Hand-built frames are the special case** the `Path.reverse` theorems further up are about: on a frame that carries arrays and a
    1-D box (or none), `calculate` is the `value` of `Model/Geom.lean`. -/
theorem calcFrame_hand_built (var : Variant) (op : OP) (f : PFrame) :
    calcFrame var op f.toL = liftX (value var op f.sys) := by
  obtain ⟨⟨p, v, b⟩, r, o⟩ := f
  cases b <;> rfl

example : calcFrame .asIs (.velocity 0 0) (PFrame.toL ⟨revFrame.sys, false, .stored [3]⟩) = .ok [3] := by decide +kernel

/-! ### a 3×3 box (`System()` default, `read_cp2k_box` without CELL) -/

/-- **Periodic classes raise ValueError on a 3×3 box** once their position indices are legal (IndexError wins
    otherwise); non-periodic classes, Position and Velocity never look at the box. -/
theorem calculate_box2D (var : Variant) (op : OP) (pos vel : List V3) (m : Mat3) :
    (op.periodic = true → posAccess op pos = .ok () → valueB var op pos vel (.mat m) = .error .valueError) ∧
    (op.periodic = true → posAccess op pos = .error .index → valueB var op pos vel (.mat m) = .error .index) ∧
    (op.periodic = false → valueB var op pos vel (.mat m) = liftX (value var op ⟨pos, vel, none⟩)) := by
  rw [← periodicFlag_eq]
  refine ⟨fun hp ha => ?_, fun hp ha => ?_, fun hp => ?_⟩
  · simp [valueB, hp, ha]
  · simp [valueB, hp, ha, Err.toX]
  · simp [valueB, hp]

example : (OP.distance 0 1 true).periodic = true ∧ posAccess (.distance 0 1 true) exSys.pos = .ok () ∧
    valueB Variant.current (.distance 0 1 true) exSys.pos exSys.vel (.mat ⟨⟨100, 0, 0⟩, ⟨0, 100, 0⟩, ⟨0, 0, 100⟩⟩)
      = .error .valueError ∧
    valueB Variant.current (.distance 0 9 true) exSys.pos exSys.vel (.mat ⟨⟨100, 0, 0⟩, ⟨0, 100, 0⟩, ⟨0, 0, 100⟩⟩)
      = .error .index ∧
    valueB Variant.current (.distance 0 1 false) exSys.pos exSys.vel (.mat ⟨⟨100, 0, 0⟩, ⟨0, 100, 0⟩, ⟨0, 0, 100⟩⟩)
      = .ok [37 / 4 + 1 / 16] := by
  refine ⟨?_, ?_, ?_, ?_, ?_⟩ <;> decide +kernel

end Infretis.C20
