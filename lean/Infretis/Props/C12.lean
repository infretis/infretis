import Infretis.Lemmas.EnginePropagate
import Infretis.Lemmas.EngineLoopsInproc
import Infretis.Lemmas.EngineLoopsGmx
import Infretis.Lemmas.EngineFault
import Infretis.Lemmas.EngineLoopsFeed
/-!
# C12 — every engine returns the trajectory it actually ran

Models: `Infretis/Model/AddToPath.lean` (`add_to_path`, shared) and
`Infretis/Model/EngineLoops.lean` (`_propagate_from` of LAMMPS/CP2K = `extRun`, ASE/TurtleMD = `inproc`,
GROMACS = `gmxRun` / `gmxExt`), `Infretis/Model/EnginePropagate.lean` (the `propagate` wrapper, `execute_command`,
`calculate_order`, `snapshot_to_system`, whole-`propagate` compositions), `Infretis/Model/EngineFault.lean` (`extRunF`:
the LAMMPS/CP2K loop with an exception raised in its body; last section of this file).

All loop theorems hold for EVERY schedule `sched : Nat → World` of the external program (which frames are
visible and whether the process is alive at each `sleep`/`poll` of the engine), every exit code, frame list,
interfaces, length limit, and every amount of fuel (`Err.fuel` = the code would still be looping).

Findings recorded here:
* `lammps_frame_uses_own_box` was FALSE for the code as found (`Variant.asIs`, lammps.py:499
  `box_trajectory.pop()`): `lammps_frame_uses_own_box_counterexample`; it holds under the guards of
  `lammps_frame_uses_own_box_partial` and, at full strength, for `Variant.repaired` (`pop(0)`), which is what
  /repo does since commit d3f25c6 (the tie now agrees with `repaired` only; the witness lives in corpus/C12).
* `success_iff_outside` is stated at full strength since `add_to_path` was repaired (f955162).
* GROMACS hands the order function the file velocity also for backward paths (negated twice:
  gromacs.py:520-521 `system.vel *= -1` for `reverse`, then `calculate_order` negates again because
  `system.vel_rev = reverse`): `gromacs_velocity_direction_counterexample`.  CONFIRMED on the real
  `GromacsEngine` through fake gmx (tie signature `C12:gromacs:velocity-direction`); every other engine hands
  over `-v` on backward paths.  Repaired in /repo by f551f52; `gromacs_frame_uses_own_box_and_velocity` is the
  full theorem for the repaired loop, which is what the tie agrees with now.
* CP2K never reads a box from the program's output: `cp2k_frame_uses_own_box_partial` needs a constant box
  (documented NVT-only limitation of the engine).
* LAMMPS and CP2K left the MD program RUNNING when an exception left the polling loop's body (order function raising
  on a frame, `OSError` of `write_xyz_trajectory`, `KeyboardInterrupt` in `sleep`): record
  `body_exception_leaves_program_running_counterexample` (`Guard.asIs`, realistic length limit, CONFIRMED on the real
  engines with fake lmp / fake cp2k; tie signatures `C12:lammps|cp2k:program-left-running-after-exception`).  Repaired in
  /repo (`except BaseException: … killpg; wait; raise` around the loops = `Guard.guarded`, what the tie agrees with now):
  `guarded_program_stopped_on_every_exception` is the full theorem for the code as it is
  (`program_stopped_unless_body_exception_partial` = what held before; last section).
-/
namespace Infretis.C12
open Infretis.Engine Infretis.EngineLoops

/-! ### `add_to_path` / `feed`: any stream of order values -/

/-- **First frame.** Propagating into an empty path (limit ≠ 0) records the start value first. -/
theorem first_frame_is_start (l r : Int) (ml : Option Nat) (hml : ml ≠ some 0) (x : Int) (t ops : List Int)
    (succ : Bool) (k : Nat) (h : feed l r ml [] (x :: t) 0 = some (ops, succ, k)) : ops.head? = some x := by
  obtain ⟨q, hq, rfl, -⟩ := (Moves.feed_iff (ops := []) fun m hm => Nat.pos_of_ne_zero fun e => hml (e ▸ hm)).1 h
  -- the frames added are a prefix of the stream, and not empty since the stream is not
  obtain ⟨rest, hr⟩ := hq.prefix
  cases ops with
  | nil => exact absurd rfl (hq.ne_nil (by simp))
  | cons a q => cases hr; rfl

example : feed 0 8 (some 5) [] [3, 4, 9, 1] 0 = some ([3, 4, 9], true, 3) ∧ (some 5 : Option Nat) ≠ some 0 := by decide

/-- **Stop rule.** `feed` records exactly the prefix of the stream up to and including the FIRST value that is
    outside `[l, r]` or that brings the path length to `maxlen` (or the whole stream if there is none). -/
theorem stops_at_first_outside_or_limit (l r : Int) (ml : Option Nat) (stream ops0 ops : List Int) (succ : Bool)
    (k : Nat) (hfit : ∀ m, ml = some m → ops0.length < m)
    (h : feed l r ml ops0 stream 0 = some (ops, succ, k)) :
    k ≤ stream.length ∧ ops = ops0 ++ stream.take k ∧
    (∀ i x, i + 1 < k → stream[i]? = some x → l ≤ x ∧ x ≤ r ∧ ml ≠ some (ops0.length + i + 1)) ∧
    ((k = stream.length ∧ ∀ i x, stream[i]? = some x → l ≤ x ∧ x ≤ r ∧ ml ≠ some (ops0.length + i + 1)) ∨
     (∃ x, 0 < k ∧ stream[k - 1]? = some x ∧ (x < l ∨ x > r ∨ ml = some (ops0.length + k)))) := by
  obtain ⟨n, hk, hn, hops, hin, hend⟩ := feed_spec l r ml stream ops0 0 ops succ k hfit h
  have : k = n := by omega
  subst this
  refine ⟨hn, hops, hin, ?_⟩
  rcases hend with ⟨h1, _, h3⟩ | ⟨x, h1, h2, h3, _⟩
  · exact Or.inl ⟨h1, h3⟩
  · exact Or.inr ⟨x, h1, h2, h3⟩

example : feed 0 8 (some 3) [] [3, 4, 5, 9] 0 = some ([3, 4, 5], false, 3) := by decide

/-- **Success rule, full strength** (after the repair f955162 of `add_to_path`): success iff the frame that
    ended propagation is outside the interfaces — also when it is the last admissible frame.  Propagation that
    ends at the length limit (or because the stream ended) with an inside frame reports no success. -/
theorem success_iff_outside (l r : Int) (ml : Option Nat) (stream ops0 ops : List Int)
    (succ : Bool) (k : Nat) (hfit : ∀ m, ml = some m → ops0.length < m)
    (h : feed l r ml ops0 stream 0 = some (ops, succ, k)) :
    succ = true ↔ ∃ x, 0 < k ∧ stream[k - 1]? = some x ∧ (x < l ∨ x > r) := by
  obtain ⟨n, hk, _, _, _, hend⟩ := feed_spec l r ml stream ops0 0 ops succ k hfit h
  obtain rfl : k = n := by omega
  rcases hend with ⟨_, h2, h3⟩ | ⟨x, h1, h2, _, h4⟩
  · subst h2
    refine ⟨fun hs => (nomatch hs), fun ⟨x, _, hx, hout⟩ => ?_⟩
    have := h3 _ x hx
    omega
  · rw [h4]
    exact ⟨fun hs => ⟨x, h1, h2, hs⟩, fun ⟨y, _, hy, hout⟩ => by rw [h2] at hy; cases hy; exact hout⟩

/-- the crossing value 9 arrives as frame number `maxlen = 2`: stop AND success; an inside value at the
    limit: stop without success -/
example : feed 0 8 (some 2) [] [1, 9] 0 = some ([1, 9], true, 2) ∧
    feed 0 8 (some 2) [] [1, 5, 9] 0 = some ([1, 5], false, 2) := by decide

/-! ### LAMMPS and CP2K: every schedule -/

/-- **Frames in order, each once (LAMMPS, both variants; CP2K).** The path's `k`-th frame refers to index `k`
    of the trajectory file, was computed from the coordinates and the velocity (with the `vel_rev` sign) of the
    `k`-th frame the program wrote, and its stored order is the order function of exactly these inputs and of
    the box the entry names. -/
theorem frames_in_order_once (kind : Kind) (c : Cfg) (sched : Sched) (code : Int) (frames : List Frame) (fuel : Nat)
    (k : Nat) (hk : k < (extRun kind c sched code frames fuel).es.length) :
    ∃ f, frames[k]? = some f ∧
      ((extRun kind c sched code frames fuel).es[k]).idx = k ∧
      ((extRun kind c sched code frames fuel).es[k]).cid = f.cid ∧
      ((extRun kind c sched code frames fuel).es[k]).vel = velSeen c.rev f.vel ∧
      ((extRun kind c sched code frames fuel).es[k]).order
        = c.ord f.cid ((extRun kind c sched code frames fuel).es[k]).bid (velSeen c.rev f.vel) := by
  obtain ⟨f, b, h1, h2, _⟩ := (extRun_closed kind c sched code frames fuel).tracks k hk
  exact ⟨f, h1, by rw [h2]; rfl, by rw [h2]; rfl, by rw [h2]; rfl, by rw [h2]; rfl⟩

/-- **Own box — full theorem for the repaired pairing (`box_trajectory.pop(0)`).** -/
theorem lammps_frame_uses_own_box (c : Cfg) (sched : Sched) (code : Int) (frames : List Frame) (fuel : Nat)
    (k : Nat) (hk : k < (extRun (.lammps .repaired) c sched code frames fuel).es.length) :
    ∃ f, frames[k]? = some f ∧
      (extRun (.lammps .repaired) c sched code frames fuel).es[k] = mkEntry c k f.cid f.bid f.vel := by
  obtain ⟨f, b, h1, h2, h3⟩ := (extRun_closed (.lammps .repaired) c sched code frames fuel).tracks k hk
  have : b = f.bid := h3.1 rfl
  subst this
  exact ⟨f, h1, h2⟩

/-- a concrete schedule for the examples: the file holds `vis t` frames at tick `t`, the program ends at tick `die` -/
def demoSched (vis : Nat → Nat) (die : Nat) : Sched :=
  fun t => { file := true, vis := vis t, vis2 := vis t, alive := decide (t < die) }

/-- order function of the witness: distance `cid` in a periodic box `bid` (minimum image on integers) -/
def demoOrd (cid bid : Nat) (_v : Int) : Int :=
  if 2 * cid > bid then (bid : Int) - cid else cid

def demoCfg : Cfg := { ord := demoOrd, left := 0, right := 8, maxlen := 20, rev := false }

/-- six frames, boxes 10…20, distance 9 in the last one (own box 20 → order 9 > 8: a crossing) -/
def demoFrames : List Frame :=
  [⟨1, 10, 1⟩, ⟨2, 12, 1⟩, ⟨2, 14, 1⟩, ⟨3, 16, 1⟩, ⟨3, 18, 1⟩, ⟨9, 20, 1⟩]

/-- three frames per poll: visible from tick 0, the rest from tick 4 (second read), exit at tick 8 -/
def demoVis (t : Nat) : Nat := if t < 4 then 3 else 6

example : (extRun (.lammps .repaired) demoCfg (demoSched demoVis 8) 0 demoFrames 50).es.map (·.order)
      = [1, 2, 2, 3, 3, 9] ∧
    (extRun (.lammps .repaired) demoCfg (demoSched demoVis 8) 0 demoFrames 50).success = true := by
  decide +kernel

/-- **The full statement is FALSE for the code as found** (`box_trajectory.pop()`, the LAST box of the poll):
    with three frames arriving per poll and a varying box, the last frame (distance 9 in its own box 20 → order 9,
    beyond the right interface 8) is evaluated with the box 16 of another frame → order 7: the crossing is missed,
    propagation returns without success.  Signature in the tie: `C12:lammps:box-paired-with-last`. -/
theorem lammps_frame_uses_own_box_counterexample :
    let R := extRun (.lammps .asIs) demoCfg (demoSched demoVis 8) 0 demoFrames 50
    R.raised = none ∧ R.es.map (·.bid) = [14, 12, 10, 20, 18, 16] ∧ R.es.map (·.order) = [1, 2, 2, 3, 3, 7] ∧
    R.success = false ∧
    ¬ (∀ k (hk : k < R.es.length), ∃ f, demoFrames[k]? = some f ∧ R.es[k] = mkEntry demoCfg k f.cid f.bid f.vel) := by
  -- the four closed facts in one evaluation of the run
  refine (fun ⟨⟨a, b, c, d⟩, e⟩ => ⟨a, b, c, d, e⟩ : (_ ∧ _ ∧ _ ∧ _) ∧ _ → _) ⟨by decide +kernel, ?_⟩
  intro h
  obtain ⟨f, hf, he⟩ := h 5 (by decide +kernel)
  have hf' : f = ⟨9, 20, 1⟩ := by
    have : demoFrames[5]? = some ⟨9, 20, 1⟩ := by decide
    rw [this] at hf; exact (Option.some.inj hf).symm
  subst hf'
  revert he
  decide +kernel

/-- **Own box for the code as found, under exactly the guards that exclude the defect**: the box never changes,
    or no poll ever delivered two frames at once. -/
theorem lammps_frame_uses_own_box_partial (c : Cfg) (sched : Sched) (code : Int) (frames : List Frame) (fuel : Nat)
    (hguard : (∃ b0, ∀ f, f ∈ frames → f.bid = b0) ∨
              (extRun (.lammps .asIs) c sched code frames fuel).multi = false)
    (k : Nat) (hk : k < (extRun (.lammps .asIs) c sched code frames fuel).es.length) :
    ∃ f, frames[k]? = some f ∧
      (extRun (.lammps .asIs) c sched code frames fuel).es[k] = mkEntry c k f.cid f.bid f.vel := by
  obtain ⟨f, b, h1, h2, h3⟩ := (extRun_closed (.lammps .asIs) c sched code frames fuel).tracks k hk
  have hb : b = f.bid := by
    rcases hguard with ⟨b0, hb0⟩ | hm
    · obtain ⟨f', hf', hbf'⟩ := h3.2.2
      have hfm : f ∈ frames := List.mem_of_getElem? h1
      rw [hbf', hb0 f' hf', hb0 f hfm]
    · exact h3.2.1 hm
  subst hb
  exact ⟨f, h1, h2⟩

example : (extRun (.lammps .asIs) demoCfg (demoSched (fun t => t / 3) 30) 0 demoFrames 50).multi = false ∧
    (extRun (.lammps .asIs) demoCfg (demoSched (fun t => t / 3) 30) 0 demoFrames 50).success = true := by
  decide +kernel

/-- **CP2K pairs the k-th position frame with the k-th velocity frame**, however the two files advance;
    the box is the one read before the run. -/
theorem cp2k_pairs_position_with_own_velocity (box0 : Nat) (c : Cfg) (sched : Sched) (code : Int)
    (frames : List Frame) (fuel : Nat)
    (k : Nat) (hk : k < (extRun (.cp2k box0) c sched code frames fuel).es.length) :
    ∃ f, frames[k]? = some f ∧
      (extRun (.cp2k box0) c sched code frames fuel).es[k] = mkEntry c k f.cid box0 f.vel := by
  obtain ⟨f, b, h1, h2, h3⟩ := (extRun_closed (.cp2k box0) c sched code frames fuel).tracks k hk
  have : b = box0 := h3
  subst this
  exact ⟨f, h1, h2⟩

/-- own box for CP2K only when the box is constant (the engine reads no box from CP2K's output) -/
theorem cp2k_frame_uses_own_box_partial (box0 : Nat) (c : Cfg) (sched : Sched) (code : Int)
    (frames : List Frame) (fuel : Nat) (hconst : ∀ f, f ∈ frames → f.bid = box0)
    (k : Nat) (hk : k < (extRun (.cp2k box0) c sched code frames fuel).es.length) :
    ∃ f, frames[k]? = some f ∧
      (extRun (.cp2k box0) c sched code frames fuel).es[k] = mkEntry c k f.cid f.bid f.vel := by
  obtain ⟨f, h1, h2⟩ := cp2k_pairs_position_with_own_velocity box0 c sched code frames fuel k hk
  refine ⟨f, h1, ?_⟩
  rw [h2, hconst f (List.mem_of_getElem? h1)]

/-- positions one frame ahead of velocities at every poll; still paired frame by frame -/
example : (extRun (.cp2k 30) { demoCfg with rev := true }
      (fun t => { file := true, vis := t / 2 + 1, vis2 := t / 2, alive := decide (t < 20) }) 0
      [⟨1, 30, 5⟩, ⟨2, 30, -6⟩, ⟨9, 30, 7⟩] 50).es.map (fun e => (e.idx, e.cid, e.vel))
    = [(0, 1, -5), (1, 2, 6), (2, 9, -7)] := by
  decide +kernel

/-- **The external program is stopped when propagation ends** (return or RuntimeError). -/
theorem program_stopped_on_return (kind : Kind) (c : Cfg) (sched : Sched) (code : Int) (frames : List Frame)
    (fuel : Nat)
    (h : (extRun kind c sched code frames fuel).raised = none ∨
         (extRun kind c sched code frames fuel).raised = some .runtime) :
    (extRun kind c sched code frames fuel).dead = true := by
  have := (extRunF_spec .asIs kind c sched code frames fuel none).stopped_asIs
  rw [extRunF_asIs_none] at this
  exact this rfl h

/-- **A non-zero exit code raises** — unless `add_to_path` had said stop (then `*_was_terminated` is set and the
    path is complete; note the code sets the flag even when no signal had to be sent). -/
theorem nonzero_exit_raises (kind : Kind) (c : Cfg) (sched : Sched) (code : Int) (frames : List Frame) (fuel : Nat)
    (hcode : code ≠ 0) (h : (extRun kind c sched code frames fuel).raised = none) :
    (extRun kind c sched code frames fuel).terminated = true := by
  have := (extRunF_spec .asIs kind c sched code frames fuel none).nonzero hcode
  rw [extRunF_asIs_none] at this
  exact this h rfl

/-- the program dies with code 3 after two harmless frames: RuntimeError, program known dead -/
example : (extRun (.lammps .asIs) demoCfg (demoSched (fun _ => 2) 3) 3 demoFrames 50).raised = some .runtime ∧
    (extRun (.lammps .asIs) demoCfg (demoSched (fun _ => 2) 3) 3 demoFrames 50).dead = true ∧
    (3 : Int) ≠ 0 := by
  decide +kernel

/-- exit code 3 but the crossing had been found first: no raise, flag set -/
example : (extRun (.lammps .repaired) demoCfg (demoSched (fun _ => 6) 3) 3 demoFrames 50).raised = none ∧
    (extRun (.lammps .repaired) demoCfg (demoSched (fun _ => 6) 3) 3 demoFrames 50).terminated = true := by
  decide +kernel

/-! ### ASE / TurtleMD -/

/-- **In-process engines: the k-th frame is the system after k·subcycles steps**, with its own coordinates,
    box and velocity direction, for every dynamics, subcycles ≥ 1, interfaces and limit. -/
theorem inproc_frame_is_own_sample (c : Cfg) (sub : Nat) (hsub : 0 < sub) (micro : Nat → Frame) (ase : Bool)
    (k : Nat) (hk : k < (inproc c sub micro ase).es.length) :
    (inproc c sub micro ase).es[k]
      = mkEntry c k (micro (k * sub)).cid (micro (k * sub)).bid (micro (k * sub)).vel :=
  inproc_sampled c sub hsub micro ase k hk

example : ((inproc demoCfg 3 (fun i => ⟨i, 100, 1⟩) true).es.map (·.cid)) = [0, 3, 6, 9] ∧ 0 < 3 := by
  decide +kernel

/-- **Backward propagation retraces the forward trajectory** for time-reversible dynamics: if the dynamics started
    from frame `N·sub` of the forward run with reversed velocity visits the forward states in reverse order
    (velocities negated), then the backward path's `k`-th frame has the coordinates, box, velocity direction and
    order parameter of the forward path's frame `N − k`. -/
theorem backward_retraces_forward (c : Cfg) (sub : Nat) (hsub : 0 < sub) (fw bw : Nat → Frame) (N : Nat) (ase : Bool)
    (hrev : ∀ i, i ≤ N * sub → bw i = { fw (N * sub - i) with vel := -(fw (N * sub - i)).vel })
    (k : Nat) (hkN : k ≤ N)
    (hb : k < (inproc { c with rev := true } sub bw ase).es.length)
    (hf : N - k < (inproc { c with rev := false } sub fw ase).es.length) :
    let eb := (inproc { c with rev := true } sub bw ase).es[k]
    let ef := (inproc { c with rev := false } sub fw ase).es[N - k]
    eb.cid = ef.cid ∧ eb.bid = ef.bid ∧ eb.vel = ef.vel ∧ eb.order = ef.order := by
  have h1 := inproc_sampled { c with rev := true } sub hsub bw ase k hb
  have h2 := inproc_sampled { c with rev := false } sub hsub fw ase (N - k) hf
  have hle : k * sub ≤ N * sub := Nat.mul_le_mul_right _ hkN
  have hidx : N * sub - k * sub = (N - k) * sub := (Nat.sub_mul N k sub).symm
  have hbw := hrev (k * sub) hle
  rw [hidx] at hbw
  simp only
  rw [h1, h2, hbw]
  simp [mkEntry, velSeen]

example : ((inproc { demoCfg with rev := true } 2 (fun i => ⟨6 - i, 100, -1⟩) true).es.take 4).map (·.order)
    = ((inproc { demoCfg with rev := false } 2 (fun i => ⟨i, 100, 1⟩) true).es.take 4).reverse.map (·.order) := by
  decide +kernel

/-! ### GROMACS (`gmxRun`: the consumer loop; `gmxExt`: with `GromacsRunner` at tick level, tied through fake gmx)

`Variant.asIs` = the code as found (gromacs.py:520-521 negate the velocities for `reverse`, `calculate_order`
negates again); `Variant.repaired` = those two lines deleted (/repo f551f52), what the tie now agrees with. -/

/-- **GROMACS through `GromacsRunner`, every schedule, exit code, `need0`, both variants**: the path's `k`-th frame
    is the `k`-th frame mdrun wrote — index, own coordinates, own box — the velocity is `gmxVel`. -/
theorem gromacs_runner_frames_in_order_once (gv : Variant) (c : Cfg) (sched : Sched) (code : Int) (need0 : Nat)
    (frames : List Frame) (fuel : Nat) (k : Nat) (hk : k < (gmxExt gv c sched code need0 frames fuel).es.length) :
    ∃ f, frames[k]? = some f ∧ (gmxExt gv c sched code need0 frames fuel).es[k] = gmxEntry gv c k f :=
  (gmxExt_spec gv c sched code need0 frames fuel).closed.tracks k hk

/-- **Own box and own velocity direction — full theorem for the repaired velocity handling**: the stored order is
    the order function of the frame's own coordinates, own box and `(-1)^vel_rev ·` its own velocity. -/
theorem gromacs_frame_uses_own_box_and_velocity (c : Cfg) (sched : Sched) (code : Int) (need0 : Nat)
    (frames : List Frame) (fuel : Nat) (k : Nat)
    (hk : k < (gmxExt .repaired c sched code need0 frames fuel).es.length) :
    ∃ f, frames[k]? = some f ∧
      (gmxExt .repaired c sched code need0 frames fuel).es[k] = mkEntry c k f.cid f.bid f.vel := by
  obtain ⟨f, h1, h2⟩ := (gmxExt_spec .repaired c sched code need0 frames fuel).closed.tracks k hk
  exact ⟨f, h1, by rw [h2]; rfl⟩

/-- backward run, one frame per poll, mdrun ends with code 0 at tick 30: each frame with its own box; the file
    velocities 5, -6, 7 reach the order function as -5, 6, -7 (repaired) … -/
example : (gmxExt .repaired { demoCfg with rev := true } (demoSched (fun t => t / 3) 30) 0 1
      [⟨1, 10, 5⟩, ⟨2, 12, -6⟩, ⟨9, 20, 7⟩] 60).es.map (fun e => (e.idx, e.bid, e.vel, e.order))
    = [(0, 10, -5, 1), (1, 12, 6, 2), (2, 20, -7, 9)] := by
  decide +kernel

/-- … and unchanged, as 5, -6, 7, in the code as found although `vel_rev = true` -/
example : (gmxExt .asIs { demoCfg with rev := true } (demoSched (fun t => t / 3) 30) 0 1
      [⟨1, 10, 5⟩, ⟨2, 12, -6⟩, ⟨9, 20, 7⟩] 60).es.map (fun e => (e.idx, e.bid, e.vel, e.order))
    = [(0, 10, 5, 1), (1, 12, -6, 2), (2, 20, 7, 9)] := by
  decide +kernel

/-- GROMACS consumer loop alone: frames in order, each once, with their own coordinates and box -/
theorem gromacs_frames_in_order_once (gv : Variant) (c : Cfg) (frames : List Frame) (k : Nat)
    (hk : k < (gmxRun gv c frames).es.length) :
    ∃ f, frames[k]? = some f ∧ (gmxRun gv c frames).es[k] = gmxEntry gv c k f :=
  (gmxRun_closed gv c frames).tracks k hk

/-- **Record of the finding** (confirmed on the real engine before f551f52, tie signature
    `C12:gromacs:velocity-direction`): as found, the order function sees the file velocity also on backward paths,
    whereas every other engine — and the repaired loop — hands it `-v`. -/
theorem gromacs_velocity_direction_counterexample :
    (∀ rev v, gmxVel .asIs rev v = v) ∧ gmxVel .asIs true 1 ≠ velSeen true 1 ∧
    (∀ rev v, gmxVel .repaired rev v = velSeen rev v) :=
  ⟨gmxVelSeen_eq, by decide, fun _ _ => rfl⟩

example : (gmxRun .asIs { demoCfg with rev := true } [⟨1, 10, 5⟩, ⟨9, 20, 6⟩]).es.map (·.vel) = [5, 6] := by
  decide +kernel

/-- **GROMACS: any non-zero return code collected by `check_poll` raises RuntimeError** (exit codes and deaths by
    signal alike): a normal return with `code ≠ 0` is only possible after `add_to_path` had said stop — the path
    is complete, never silently truncated. -/
theorem gromacs_nonzero_exit_raises (gv : Variant) (c : Cfg) (sched : Sched) (code : Int) (hcode : code ≠ 0)
    (need0 : Nat) (frames : List Frame) (fuel : Nat)
    (h : (gmxExt gv c sched code need0 frames fuel).raised = none) :
    (gmxExt gv c sched code need0 frames fuel).terminated = true :=
  (gmxExt_spec gv c sched code need0 frames fuel).nonzero hcode h

/-- **GROMACS: mdrun is terminated / collected whenever propagate returns or raises** (every outcome of the model
    except out-of-fuel = still looping).  `stop()` sends SIGTERM iff no return code had been collected
    (`killed := !dead && alive` in `gmxExt`), then waits. -/
theorem gromacs_program_stopped_on_return (gv : Variant) (c : Cfg) (sched : Sched) (code : Int) (need0 : Nat)
    (frames : List Frame) (fuel : Nat)
    (h : (gmxExt gv c sched code need0 frames fuel).raised ≠ some .fuel) :
    (gmxExt gv c sched code need0 frames fuel).dead = true :=
  (gmxExt_spec gv c sched code need0 frames fuel).stopped h

/-- mdrun is killed by SIGKILL (-9) after two inside frames: RuntimeError, process collected, nothing to kill;
    with the crossing frame seen first: normal return, flag set, SIGTERM sent -/
example : (gmxExt .repaired demoCfg (demoSched (fun _ => 2) 6) (-9) 1 demoFrames 60).raised = some .runtime ∧
    (gmxExt .repaired demoCfg (demoSched (fun _ => 2) 6) (-9) 1 demoFrames 60).dead = true ∧
    (gmxExt .repaired demoCfg (demoSched (fun _ => 6) 40) (-9) 1 demoFrames 60).raised = none ∧
    (gmxExt .repaired demoCfg (demoSched (fun _ => 6) 40) (-9) 1 demoFrames 60).terminated = true ∧
    (gmxExt .repaired demoCfg (demoSched (fun _ => 6) 40) (-9) 1 demoFrames 60).killed = true ∧ (-9 : Int) ≠ 0 := by
  decide +kernel

/-! ### every loop builds its path by `feed`: the stop and success rules transfer -/

/-- **LAMMPS / CP2K, every schedule**: feeding the order values of the processed frames (=
    the path's entries, which by `frames_in_order_once` are the first frames written) through `add_to_path`
    reproduces the path, its success flag, and consumes all of them. -/
theorem lammps_cp2k_path_eq_feed (kind : Kind) (c : Cfg) (sched : Sched) (code : Int) (frames : List Frame)
    (fuel : Nat) :
    let R := extRun kind c sched code frames fuel
    feed c.left c.right (some c.maxlen) [] (R.es.map (·.order)) 0 = some (R.es.map (·.order), R.success, R.es.length) :=
  (extRun_closed kind c sched code frames fuel).feed

theorem gromacs_path_eq_feed (gv : Variant) (c : Cfg) (sched : Sched) (code : Int) (need0 : Nat)
    (frames : List Frame) (fuel : Nat) :
    let R := gmxExt gv c sched code need0 frames fuel
    feed c.left c.right (some c.maxlen) [] (R.es.map (·.order)) 0 = some (R.es.map (·.order), R.success, R.es.length) :=
  (gmxExt_spec gv c sched code need0 frames fuel).closed.feed

theorem inproc_loop_path_eq_feed (c : Cfg) (sub : Nat) (micro : Nat → Frame) (ase : Bool) :
    let R := inproc c sub micro ase
    feed c.left c.right (some c.maxlen) [] (R.es.map (·.order)) 0 = some (R.es.map (·.order), R.success, R.es.length) :=
  inproc_path_eq_feed c sub micro ase

/-- the stop rule on a path: every frame but the last is inside the interfaces and below the limit; the last one
    is outside or at the limit — unless the frames simply ended (then all are inside and below the limit) -/
def StopRule (c : Cfg) (es : List Entry) : Prop :=
  (∀ i x, i + 1 < es.length → (es.map (·.order))[i]? = some x →
      c.left ≤ x ∧ x ≤ c.right ∧ i + 1 ≠ c.maxlen) ∧
  ((∀ i x, (es.map (·.order))[i]? = some x → c.left ≤ x ∧ x ≤ c.right ∧ i + 1 ≠ c.maxlen) ∨
   (∃ x, 0 < es.length ∧ (es.map (·.order))[es.length - 1]? = some x ∧
      (x < c.left ∨ x > c.right ∨ c.maxlen = es.length)))

/-- the success rule on a path: success iff its last frame is outside the interfaces -/
def SuccessRule (c : Cfg) (es : List Entry) (succ : Bool) : Prop :=
  succ = true ↔ ∃ x, 0 < es.length ∧ (es.map (·.order))[es.length - 1]? = some x ∧ (x < c.left ∨ x > c.right)

theorem path_stops_at_first_outside_or_limit (c : Cfg) (hm : 0 < c.maxlen) (es : List Entry) (succ : Bool)
    (h : feed c.left c.right (some c.maxlen) [] (es.map (·.order)) 0 = some (es.map (·.order), succ, es.length)) :
    StopRule c es := by
  obtain ⟨_, _, h3, h4⟩ := stops_at_first_outside_or_limit c.left c.right (some c.maxlen) (es.map (·.order)) []
    (es.map (·.order)) succ es.length (by intro m hm'; cases hm'; simpa using hm) h
  simp only [List.length_nil, Nat.zero_add, Option.some.injEq, ne_eq, List.length_map, @eq_comm _ c.maxlen,
    true_and] at h3 h4
  exact ⟨h3, h4.imp id (fun ⟨x, a, b, hc⟩ => ⟨x, a, b, hc.imp id (Or.imp id Eq.symm)⟩)⟩

theorem path_success_iff_outside (c : Cfg) (hm : 0 < c.maxlen) (es : List Entry) (succ : Bool)
    (h : feed c.left c.right (some c.maxlen) [] (es.map (·.order)) 0 = some (es.map (·.order), succ, es.length)) :
    SuccessRule c es succ := by
  unfold SuccessRule
  exact success_iff_outside c.left c.right (some c.maxlen) (es.map (·.order)) [] (es.map (·.order)) succ es.length
    (by intro m hm'; cases hm'; simpa using hm) h

/-- **LAMMPS / CP2K stop at the first frame outside the interfaces or at the length limit**, every schedule -/
theorem lammps_cp2k_stops_at_first_outside_or_limit (kind : Kind) (c : Cfg) (hm : 0 < c.maxlen) (sched : Sched)
    (code : Int) (frames : List Frame) (fuel : Nat) : StopRule c (extRun kind c sched code frames fuel).es :=
  path_stops_at_first_outside_or_limit c hm _ _ (extRun_closed kind c sched code frames fuel).feed

/-- **… and report success iff that frame is outside**, every schedule (when an error is raised, the flag left
    behind obeys the same rule) -/
theorem lammps_cp2k_success_iff_outside (kind : Kind) (c : Cfg) (hm : 0 < c.maxlen) (sched : Sched)
    (code : Int) (frames : List Frame) (fuel : Nat) :
    SuccessRule c (extRun kind c sched code frames fuel).es (extRun kind c sched code frames fuel).success :=
  path_success_iff_outside c hm _ _ (extRun_closed kind c sched code frames fuel).feed

theorem gromacs_stops_at_first_outside_or_limit (gv : Variant) (c : Cfg) (hm : 0 < c.maxlen) (sched : Sched)
    (code : Int) (need0 : Nat) (frames : List Frame) (fuel : Nat) :
    StopRule c (gmxExt gv c sched code need0 frames fuel).es :=
  path_stops_at_first_outside_or_limit c hm _ _ (gmxExt_spec gv c sched code need0 frames fuel).closed.feed

theorem gromacs_success_iff_outside (gv : Variant) (c : Cfg) (hm : 0 < c.maxlen) (sched : Sched)
    (code : Int) (need0 : Nat) (frames : List Frame) (fuel : Nat) :
    SuccessRule c (gmxExt gv c sched code need0 frames fuel).es (gmxExt gv c sched code need0 frames fuel).success :=
  path_success_iff_outside c hm _ _ (gmxExt_spec gv c sched code need0 frames fuel).closed.feed

theorem inproc_stops_at_first_outside_or_limit (c : Cfg) (hm : 0 < c.maxlen) (sub : Nat) (micro : Nat → Frame)
    (ase : Bool) : StopRule c (inproc c sub micro ase).es :=
  path_stops_at_first_outside_or_limit c hm _ _ (inproc_path_eq_feed c sub micro ase)

theorem inproc_success_iff_outside (c : Cfg) (hm : 0 < c.maxlen) (sub : Nat) (micro : Nat → Frame) (ase : Bool) :
    SuccessRule c (inproc c sub micro ase).es (inproc c sub micro ase).success :=
  path_success_iff_outside c hm _ _ (inproc_path_eq_feed c sub micro ase)

/-- the witness run of the (former) LAMMPS defect, repaired pairing: path = feed of its own orders, success -/
example : (0 : Nat) < demoCfg.maxlen ∧
    feed 0 8 (some 20) [] [1, 2, 2, 3, 3, 9] 0 = some ([1, 2, 2, 3, 3, 9], true, 6) ∧
    (extRun (.lammps .repaired) demoCfg (demoSched demoVis 8) 0 demoFrames 50).es.map (·.order) = [1, 2, 2, 3, 3, 9] := by
  decide +kernel

/-! ### the error branch not covered by `program_stopped_on_return` -/

/-- **`lmp` ends with exit code 0 without ever creating its dump file** (every schedule that never shows the file):
    the on-the-fly reader returns `[]`, `frames[0]` raises IndexError — with the program already collected, no
    signal sent, the path empty.  The only other outcome of the model is out-of-fuel (the program is still alive
    and the code still waiting).  CP2K in the same situation returns normally with an empty path
    (covered by `program_stopped_on_return`). -/
theorem lammps_no_dump_raises_index_with_program_stopped (v : Variant) (c : Cfg) (sched : Sched)
    (frames : List Frame) (fuel : Nat) (hnf : ∀ t, (sched t).file = false) :
    (extRun (.lammps v) c sched 0 frames fuel).raised = some .fuel ∨
    ((extRun (.lammps v) c sched 0 frames fuel).raised = some .index ∧
     (extRun (.lammps v) c sched 0 frames fuel).dead = true ∧
     (extRun (.lammps v) c sched 0 frames fuel).killed = false ∧
     (extRun (.lammps v) c sched 0 frames fuel).es = []) := by
  unfold extRun
  cases hw : waitFile sched fuel XState.init with
  | none => exact Or.inl rfl
  | some s =>
    obtain ⟨t', w, d, e, hw1, hw2⟩ := waitFile_spec sched fuel _ _ hw
    subst e
    have hwf : w.file = false := by
      rcases hw1 with rfl | ⟨u, rfl⟩
      · rfl
      · exact hnf u
    have hd : d = true := by simpa [hwf] using hw2
    subst hd
    obtain ⟨d1, hp, hd1⟩ := poll_spec sched { XState.init with t := t', cur := w, dead := true }
    cases hd1 rfl
    simp only [hp, Bool.not_true, Bool.false_or, decide_true, if_true]
    cases fuel with
    | zero => exact Or.inl rfl
    | succ fuel =>
      obtain ⟨d2, hp2, hd2⟩ := poll_spec sched { XState.init with t := t' + 1, cur := sched t', dead := true }
      cases hd2 rfl
      simp only [readerLoop, hp2, EngineLoops.readNew, hnf, Bool.false_eq_true, if_false]
      exact Or.inr ⟨rfl, rfl, rfl, rfl⟩

example : (extRun (.lammps .repaired) demoCfg
      (fun t => { file := false, vis := 0, vis2 := 0, alive := decide (t < 5) }) 0 demoFrames 50).raised = some .index ∧
    (∀ t, ((fun t => { file := false, vis := 0, vis2 := 0, alive := decide (t < 5) } : Sched) t).file = false) := by
  refine ⟨by decide +kernel, fun _ => rfl⟩

/-! ## The whole `propagate` (wrapper + loop), `execute_command`, CP2K's own trajectory file

Model: `Infretis/Model/EnginePropagate.lean`.  `propagateInproc` / `propagateExt` / `propagateGmx` are the functions
the driver runs for the ops `propinproc`, `propext`, `propgmx`; the tie feeds them the PHASE POINT (file, index,
`vel_rev`) and `reverse`, not a pre-digested start frame. -/

open Infretis.EnginePropagate

/-- **`execute_command` raises iff the return code is non-zero** (exit codes and deaths by signal alike); it returns
    only `0`; the log files are removed exactly when it returns. -/
theorem execute_command_raises_iff_nonzero (rc : Int) :
    ((execCommand rc).raised = true ↔ rc ≠ 0) ∧
    ((execCommand rc).raised = false → (execCommand rc).ret = some 0 ∧ (execCommand rc).logsKept = false) ∧
    ((execCommand rc).raised = true → (execCommand rc).ret = none ∧ (execCommand rc).logsKept = true) := by
  unfold execCommand
  by_cases h : rc = 0
  · subst h; simp
  · simp [h]

example : (execCommand (-11)).raised = true ∧ (execCommand 0).ret = some 0 ∧ (execCommand 3).logsKept = true := by decide

/-- **The `propagate` wrapper**: the start frame is taken from the phase point's OWN `(file, idx)` (extract, or a copy
    when `idx` is `None`, or nothing when the file already is the target), velocities are reversed exactly when
    `reverse != vel_rev`, and `_propagate_from` gets `(initial_conf, 0)` with `vel_rev = reverse`. -/
theorem propagate_setup_spec (reverse : Bool) (p : Point) :
    let su := propagateSetup reverse p
    su.sys = ⟨su.initialConf, some 0, reverse⟩ ∧ su.backward = reverse ∧
    (su.calls.take (dumpConfig p.file p.idx .conf).length = dumpConfig p.file p.idx .conf) ∧
    ((Call.reverse .conf .rconf ∈ su.calls) ↔ reverse ≠ p.velRev) ∧
    (su.initialConf = if reverse ≠ p.velRev then FName.rconf else FName.conf) ∧
    (∀ i, p.idx = some i → su.calls.head? = some (.extract p.file i .conf)) := by
  have hdump : Call.reverse .conf .rconf ∉ dumpConfig p.file p.idx .conf := by
    unfold dumpConfig
    split
    · split <;> simp
    · simp
  have hhead : ∀ i, p.idx = some i → ∀ l, (dumpConfig p.file p.idx .conf ++ l).head? = some (.extract p.file i .conf) := by
    intro i hi l
    simp [dumpConfig, hi]
  by_cases h : reverse = p.velRev
  · rw [propagateSetup_keep h]
    exact ⟨rfl, rfl, List.take_length, by simpa [h] using hdump, by simp [h],
      fun i hi => by simpa using hhead i hi []⟩
  · rw [propagateSetup_flip h]
    exact ⟨rfl, rfl, by simp, by simp [h], by simp [h], fun i hi => hhead i hi _⟩

example : (propagateSetup true ⟨.user 7, some 3, false⟩).calls = [.extract (.user 7) 3 .conf, .reverse .conf .rconf] ∧
    (propagateSetup true ⟨.user 7, none, true⟩).calls = [.copy (.user 7) .conf] ∧
    (propagateSetup false ⟨.conf, none, false⟩).calls = [] := by decide

/-- **First frame is that point — in-process engines, composed `propagate`, forward and backward, every
    `vel_rev`**: if the phase point refers to frame `f`, the returned path's first entry has index 0, `f`'s own
    coordinates and box, and the order function saw the point's own physical velocity `(-1)^vel_rev · v`. -/
theorem inproc_propagate_first_frame_is_start (c : Cfg) (sub : Nat) (hsub : 0 < sub) (step : Frame → Frame) (ase : Bool)
    (reverse : Bool) (st : Store) (p : Point) (f : Frame) (hp : PointHas st p f) :
    ∃ out, propagateInproc c sub step ase reverse st p = some out ∧
      ∀ (h0 : 0 < out.res.es.length),
        out.res.es[0] = { idx := 0, cid := f.cid, bid := f.bid, vel := velSeen p.velRev f.vel,
                          order := c.ord f.cid f.bid (velSeen p.velRev f.vel) } := by
  refine ⟨_, propagateInproc_of_point c sub step ase reverse st p f hp, ?_⟩
  intro h0
  rw [inproc_sampled { c with rev := reverse } sub hsub _ ase 0 h0]
  simp only [Nat.zero_mul, iter, mkEntry, start_velocity_seen,
    (start_cid_bid reverse p.velRev f).1, (start_cid_bid reverse p.velRev f).2]

/-- **… and the k-th frame is the state after `k·subcycles` steps from that point** (composed `propagate`) -/
theorem inproc_propagate_frame_is_own_sample (c : Cfg) (sub : Nat) (hsub : 0 < sub) (step : Frame → Frame) (ase : Bool)
    (reverse : Bool) (st : Store) (p : Point) (f : Frame) (hp : PointHas st p f) :
    ∃ out, propagateInproc c sub step ase reverse st p = some out ∧
      ∀ k (hk : k < out.res.es.length),
        let g := iter step (if reverse != p.velRev then flipV f else f) (k * sub)
        out.res.es[k] = { idx := k, cid := g.cid, bid := g.bid, vel := velSeen reverse g.vel,
                          order := c.ord g.cid g.bid (velSeen reverse g.vel) } := by
  refine ⟨_, propagateInproc_of_point c sub step ase reverse st p f hp, ?_⟩
  intro k hk
  exact inproc_sampled { c with rev := reverse } sub hsub _ ase k hk

/-- free flight on a line: `cid` advances by `vel` per step -/
def demoStep (f : Frame) : Frame := { f with cid := (f.cid + f.vel).toNat }

def demoStore : Store := fun n => if n = .user 1 then [⟨50, 100, 9⟩, ⟨3, 100, 1⟩] else []

/-- shooting backward from frame 1 of file `user 1` (stored velocity +1, `vel_rev = false`): the file is extracted,
    reversed, the dynamics runs with −1, and the order function sees +1·(−1)·(−1) … i.e. the point's own velocity -/
example : ((propagateInproc { demoCfg with maxlen := 4 } 1 demoStep true true demoStore ⟨.user 1, some 1, false⟩).map
      (fun o => (o.setup.calls, o.res.es.map (fun e => (e.idx, e.cid, e.vel)))))
    = some ([.extract (.user 1) 1 .conf, .reverse .conf .rconf], [(0, 3, 1), (1, 2, 1), (2, 1, 1), (3, 0, 1)]) ∧
    PointHas demoStore ⟨.user 1, some 1, false⟩ ⟨3, 100, 1⟩ := by
  refine ⟨by decide +kernel, by unfold PointHas; decide⟩

/-- **Backward propagation retraces the forward trajectory — composed `propagate`, hypothesis on the ONE-STEP map
    only**: for a time-reversible integrator step, shooting backward (`reverse = true`) from frame `N` of the forward
    trajectory file (which holds the forward run's `N`-th sample, `vel_rev = false`) gives a path whose `k`-th frame
    has the coordinates, box, seen velocity and order parameter of the forward path's frame `N − k`. -/
theorem propagate_backward_retraces_forward (c : Cfg) (sub : Nat) (hsub : 0 < sub) (step : Frame → Frame)
    (hrev : Reversible step) (ase : Bool) (st stB : Store) (p : Point) (hpv : p.velRev = false) (f : Frame)
    (hp : PointHas st p f) (t N : Nat) (hfile : (stB (.user t))[N]? = some (iter step f (N * sub))) :
    ∃ outF outB, propagateInproc c sub step ase false st p = some outF ∧
      propagateInproc c sub step ase true stB ⟨.user t, some N, false⟩ = some outB ∧
      ∀ k, k ≤ N → ∀ (hb : k < outB.res.es.length) (hf : N - k < outF.res.es.length),
        (outB.res.es[k]).cid = (outF.res.es[N - k]).cid ∧ (outB.res.es[k]).bid = (outF.res.es[N - k]).bid ∧
        (outB.res.es[k]).vel = (outF.res.es[N - k]).vel ∧ (outB.res.es[k]).order = (outF.res.es[N - k]).order := by
  have hF := propagateInproc_of_point c sub step ase false st p f hp
  have hB := propagateInproc_of_point c sub step ase true stB ⟨.user t, some N, false⟩ _ hfile
  simp only [hpv, bne_self_eq_false, Bool.false_eq_true, if_false] at hF
  simp only [Bool.true_bne, Bool.not_false, if_true] at hB
  refine ⟨_, _, hF, hB, ?_⟩
  intro k hkN hb hf
  exact backward_retraces_forward c sub hsub (iter step f) (iter step (flipV (iter step f (N * sub)))) N ase
    (fun i hi => reversible_iter step hrev f (N * sub) i hi) k hkN hb hf

/-- leap-frog-like reversible toy step: `cid += vel` is undone by flipping the velocity and stepping again -/
example : ∀ x : Frame, 0 ≤ (x.cid : Int) + x.vel → demoStep (flipV (demoStep x)) = flipV x := by
  intro x hx
  cases x with
  | mk cid bid vel =>
    simp only [demoStep, flipV, Frame.mk.injEq, and_true]
    simp only at hx
    omega

/-! non-vacuity of `Reversible`: the example above holds on a sub-domain only (`Nat` truncation), so it does
not instantiate the hypothesis `Reversible step` (∀ states).  Free flight on the WHOLE integer line, stored in a `Nat`
by the zig-zag code, is reversible everywhere and not the identity. -/

def zigEnc (z : Int) : Nat := if 0 ≤ z then 2 * z.toNat else 2 * (-z).toNat - 1
def zigDec (n : Nat) : Int := if n % 2 = 0 then (n / 2 : Nat) else -(((n + 1) / 2 : Nat) : Int)

theorem zigDec_enc (z : Int) : zigDec (zigEnc z) = z := by
  unfold zigDec zigEnc
  by_cases h : 0 ≤ z
  · simp only [h, if_true]
    have : 2 * z.toNat % 2 = 0 := by omega
    simp only [this, if_true]
    omega
  · simp only [h, if_false]
    have h1 : (2 * (-z).toNat - 1) % 2 ≠ 0 := by omega
    simp only [h1, if_false]
    omega

theorem zigEnc_dec (n : Nat) : zigEnc (zigDec n) = n := by
  unfold zigDec zigEnc
  by_cases h : n % 2 = 0
  · simp only [h, if_true]
    have : (0 : Int) ≤ ((n / 2 : Nat) : Int) := by omega
    simp only [this, if_true]
    omega
  · simp only [h, if_false]
    have : ¬ (0 : Int) ≤ -(((n + 1) / 2 : Nat) : Int) := by omega
    simp only [this, if_false]
    omega

/-- free flight on the integer line -/
def zigStep (f : Frame) : Frame := { f with cid := zigEnc (zigDec f.cid + f.vel) }

theorem zigStep_reversible : Reversible zigStep := by
  intro x
  cases x with
  | mk cid bid vel =>
    simp only [zigStep, flipV, Frame.mk.injEq, and_true, zigDec_enc]
    have : zigDec cid + vel + -vel = zigDec cid := by omega
    rw [this, zigEnc_dec]

/-- the hypotheses of `propagate_backward_retraces_forward` on a concrete reversible dynamics: forward from position 3
    (code 6) with velocity −2 over the origin, backward from frame 3 of that trajectory (position −3, code 5) -/
example : Reversible zigStep ∧
    ((propagateInproc { demoCfg with left := -100, right := 100, maxlen := 4, ord := fun c _ _ => zigDec c } 1 zigStep true false
        (fun n => if n = .user 1 then [⟨6, 100, -2⟩] else []) ⟨.user 1, some 0, false⟩).map (fun o => o.res.es.map (·.order)))
      = some [3, 1, -1, -3] ∧
    ((propagateInproc { demoCfg with left := -100, right := 100, maxlen := 4, ord := fun c _ _ => zigDec c } 1 zigStep true true
        (fun n => if n = .user 2 then [⟨0, 0, 0⟩, ⟨0, 0, 0⟩, ⟨0, 0, 0⟩, ⟨5, 100, -2⟩] else []) ⟨.user 2, some 3, false⟩).map
        (fun o => o.res.es.map (·.order))) = some [-3, -1, 1, 3] :=
  ⟨zigStep_reversible, by decide +kernel, by decide +kernel⟩

/-- **First frame is that point — LAMMPS / CP2K, composed `propagate`** (assumption on the MD program only: the
    first frame it writes is the configuration it was started from): index 0, own coordinates, own physical
    velocity; the box is the one the entry names (LAMMPS repaired pairing: the frame's own; CP2K: the box read
    before the run). -/
theorem ext_propagate_first_frame_is_start (kind : Kind) (c : Cfg) (sched : Sched) (code : Int) (prog : Frame → List Frame)
    (hprog : ∀ g, (prog g)[0]? = some g) (fuel : Nat) (reverse : Bool) (st : Store) (p : Point) (f : Frame)
    (hp : PointHas st p f) :
    ∃ out, propagateExt kind c sched code prog fuel reverse st p = some out ∧
      ∀ (h0 : 0 < out.res.es.length),
        (out.res.es[0]).idx = 0 ∧ (out.res.es[0]).cid = f.cid ∧ (out.res.es[0]).vel = velSeen p.velRev f.vel ∧
        (out.res.es[0]).order = c.ord f.cid (out.res.es[0]).bid (velSeen p.velRev f.vel) ∧
        (kind = .lammps .repaired → (out.res.es[0]).bid = f.bid) := by
  refine ⟨_, propagateExt_of_point kind c sched code prog fuel reverse st p f hp, ?_⟩
  intro h0
  obtain ⟨g, b, hg, he, hB⟩ := (extRun_closed kind { c with rev := reverse } sched code
    (prog (if reverse != p.velRev then flipV f else f)) fuel).tracks 0 h0
  rw [hprog] at hg
  cases hg
  rw [he]
  obtain ⟨hc, hb⟩ := start_cid_bid reverse p.velRev f
  refine ⟨rfl, hc, start_velocity_seen reverse p.velRev f, ?_, ?_⟩
  · simp only [mkEntry, start_velocity_seen, hc]
  · rintro rfl
    exact (hB.1 rfl).trans hb

example : (∀ g : Frame, ((fun g => [g, demoStep g]) g)[0]? = some g) ∧
    ((propagateExt (.lammps .repaired) demoCfg (demoSched (fun _ => 2) 9) 0 (fun g => [g, demoStep g]) 50 true demoStore
      ⟨.user 1, some 1, false⟩).map (fun o => o.res.es.map (fun e => (e.idx, e.cid, e.bid, e.vel))))
      = some [(0, 3, 100, 1), (1, 2, 100, 1)] := by
  refine ⟨fun _ => rfl, by decide +kernel⟩

/-- **CP2K: the order stored with frame `k` is the one recomputed from the k-th configuration the path REFERS to** —
    full, every schedule, varying boxes in CP2K's own output or not: the referenced file `{name}.xyz` is written by
    the engine itself (cp2k.py:936), frame `k` of it holds the `k`-th position frame, the `k`-th velocity frame and
    the box read before the run, and the stored order is the order function of exactly that frame with the
    `vel_rev` sign.  (Needs no constant-box hypothesis, unlike `cp2k_frame_uses_own_box_partial`, for the words
    "recomputed from the configuration it references"; what CP2K itself may have used as a cell is not read.) -/
theorem cp2k_referenced_frame_recomputes (box0 : Nat) (c : Cfg) (sched : Sched) (code : Int) (frames : List Frame)
    (fuel : Nat) (k : Nat) (hk : k < (extRun (.cp2k box0) c sched code frames fuel).es.length) :
    ∃ f g, frames[k]? = some f ∧
      (cp2kTrajFile c.rev (extRun (.cp2k box0) c sched code frames fuel).es)[k]? = some g ∧
      g = ⟨f.cid, box0, f.vel⟩ ∧
      ((extRun (.cp2k box0) c sched code frames fuel).es[k]).idx = k ∧
      ((extRun (.cp2k box0) c sched code frames fuel).es[k]).order = c.ord g.cid g.bid (velSeen c.rev g.vel) := by
  obtain ⟨f, h1, h2⟩ := cp2k_pairs_position_with_own_velocity box0 c sched code frames fuel k hk
  refine ⟨f, ⟨f.cid, box0, f.vel⟩, h1, ?_, rfl, by rw [h2]; rfl, by rw [h2]; rfl⟩
  simp only [cp2kTrajFile, List.getElem?_map, List.getElem?_eq_getElem hk, Option.map_some, h2, mkEntry,
    unSee_velSeen]

/-- CP2K's own output claims boxes 30, 31, 32; the path refers to frames that all carry the box 30 read before the run -/
example : cp2kTrajFile true (extRun (.cp2k 30) { demoCfg with rev := true }
      (fun t => { file := true, vis := t / 2 + 1, vis2 := t / 2, alive := decide (t < 20) }) 0
      [⟨1, 30, 5⟩, ⟨2, 31, -6⟩, ⟨9, 32, 7⟩] 50).es = [⟨1, 30, 5⟩, ⟨2, 30, -6⟩, ⟨9, 30, 7⟩] := by
  decide +kernel

/-- **GROMACS, whole `propagate`: a failing `gmx grompp` or `gmx energy` raises** — a normal return needs return
    code 0 from both tools; if grompp fails mdrun is never started and the path stays empty. -/
theorem gromacs_propagate_tool_failure_raises (gv : Variant) (c : Cfg) (sched : Sched) (code : Int) (need0 : Nat)
    (prog : Frame → List Frame) (fuel : Nat) (gromppRc energyRc : Int) (reverse : Bool) (st : Store) (p : Point)
    (out : Out) (h : propagateGmx gv c sched code need0 prog fuel gromppRc energyRc reverse st p = some out) :
    (out.res.raised = none → gromppRc = 0 ∧ energyRc = 0) ∧
    (gromppRc ≠ 0 → out.started = false ∧ out.res.raised = some .runtime ∧ out.res.es = []) := by
  rcases propagateGmx_some h with ⟨hg, hst, hres⟩ | ⟨hg, _, f0, ⟨hres, he⟩ | ⟨_, _, hres⟩⟩
  · rw [hres]
    exact ⟨fun hr => (nomatch hr), fun _ => ⟨hst, rfl, rfl⟩⟩
  · exact ⟨fun hr => ⟨hg, he (hres ▸ hr)⟩, fun hh => absurd hg hh⟩
  · rw [hres]
    exact ⟨fun hr => (nomatch hr), fun hh => absurd hg hh⟩

/-- **GROMACS, whole `propagate`: mdrun is stopped whenever `propagate` returns or raises** (every schedule, exit code,
    tool return codes), or it was never started. -/
theorem gromacs_propagate_program_stopped (gv : Variant) (c : Cfg) (sched : Sched) (code : Int) (need0 : Nat)
    (prog : Frame → List Frame) (fuel : Nat) (gromppRc energyRc : Int) (reverse : Bool) (st : Store) (p : Point)
    (out : Out) (h : propagateGmx gv c sched code need0 prog fuel gromppRc energyRc reverse st p = some out)
    (hfuel : out.res.raised ≠ some .fuel) : out.started = false ∨ out.res.dead = true := by
  rcases propagateGmx_some h with ⟨_, hst, _⟩ | ⟨_, _, f0, ⟨hres, _⟩ | ⟨hr, _, hres⟩⟩
  · exact Or.inl hst
  · rw [hres] at hfuel ⊢
    exact Or.inr ((gmxExt_spec gv _ sched code need0 (prog f0) fuel).stopped hfuel)
  · rw [hres]
    exact Or.inr ((gmxExt_spec gv _ sched code need0 (prog f0) fuel).stopped (by rw [hr]; exact fun h => nomatch h))

/-- grompp fails (return code 1): RuntimeError, mdrun never started; energy fails after a complete run: RuntimeError
    with mdrun stopped and the three frames in the path -/
example : ((propagateGmx .repaired demoCfg (demoSched (fun t => t / 3) 30) 0 1 (fun g => [g, demoStep g, ⟨9, 100, 1⟩]) 60 1 0
      false demoStore ⟨.user 1, some 1, false⟩).map (fun o => (o.started, o.res.raised))) = some (false, some .runtime) ∧
    ((propagateGmx .repaired demoCfg (demoSched (fun t => t / 3) 30) 0 1 (fun g => [g, demoStep g, ⟨9, 100, 1⟩]) 60 0 2
      false demoStore ⟨.user 1, some 1, false⟩).map (fun o => (o.started, o.res.raised, o.res.dead, o.res.es.length)))
      = some (true, some .runtime, true, 3) := by
  decide +kernel

/-- **Why "IndexError ⇒ program stopped" cannot be stated for every input** (record of an observation, model level and
    confirmed on the real `LAMMPSEngine` with fake lmp): with a length limit of 0 `add_to_path` raises IndexError
    on the first frame (`path.phasepoints[-1]` of an empty path) while the program is alive; the LAMMPS/CP2K loops as found had
    no `try/finally`, so the exception left `_propagate_from` with the program still running (GROMACS stops mdrun
    in `__exit__`: `gromacs_program_stopped_on_return` covers every error).  The same holds for ANY exception raised
    inside the loop body (order function, reader).  `maxlen = 0` is not produced by the moves (`maxlen ≥ 2` there);
    a witness the moves DO produce: `body_exception_leaves_program_running_counterexample` (last section).
    `extRun` is the loop WITHOUT the exception guard: since the repair in /repo this is a record; for the code as it is
    the IndexError also stops the program (`guarded_program_stopped_on_every_exception`, example below it). -/
theorem lammps_index_error_leaves_program_running_counterexample :
    let R := extRun (.lammps .repaired) { demoCfg with maxlen := 0 } (demoSched (fun _ => 2) 30) 0 demoFrames 50
    R.raised = some .index ∧ R.dead = false ∧ R.killed = false ∧ R.es = [] ∧
    (gmxExt .repaired { demoCfg with maxlen := 0 } (demoSched (fun _ => 2) 30) 0 1 demoFrames 50).raised = some .index ∧
    (gmxExt .repaired { demoCfg with maxlen := 0 } (demoSched (fun _ => 2) 30) 0 1 demoFrames 50).dead = true := by
  decide +kernel

/-- **The in-process loop reaches the length limit — composed `propagate`, every subcycles ≥ 1, ASE and TurtleMD**:
    (a) if no frame before index `maxlen − 1` is outside the interfaces, the path has exactly `maxlen` frames (the
    loop bound `range(subcycles * maxlen)` / `subcycles * maxlen + 1` systems is long enough to generate the frame with
    index `maxlen − 1`), nothing is raised, and success is reported iff that last frame is outside;
    (b) if the first outside frame has index `f ≤ maxlen − 1`, the path has exactly `f + 1` frames and success is
    reported.  Frames are the samples `k·subcycles` of the dynamics started from the phase point. -/
theorem inproc_reaches_length_limit (c : Cfg) (hm : 0 < c.maxlen) (sub : Nat) (hsub : 0 < sub) (step : Frame → Frame)
    (ase : Bool) (reverse : Bool) (st : Store) (p : Point) (f0 : Frame) (hp : PointHas st p f0) :
    ∃ out, propagateInproc c sub step ase reverse st p = some out ∧
      ((∀ k, k + 1 < c.maxlen → ¬ Outside { c with rev := reverse }
            (sampleOrd { c with rev := reverse } sub (iter step (if reverse != p.velRev then flipV f0 else f0)) k)) →
        out.res.es.length = c.maxlen ∧ out.res.raised = none ∧
        (out.res.success = true ↔ Outside { c with rev := reverse }
            (sampleOrd { c with rev := reverse } sub (iter step (if reverse != p.velRev then flipV f0 else f0)) (c.maxlen - 1)))) ∧
      (∀ f, f < c.maxlen →
        (∀ k, k < f → ¬ Outside { c with rev := reverse }
            (sampleOrd { c with rev := reverse } sub (iter step (if reverse != p.velRev then flipV f0 else f0)) k)) →
        Outside { c with rev := reverse }
            (sampleOrd { c with rev := reverse } sub (iter step (if reverse != p.velRev then flipV f0 else f0)) f) →
        out.res.es.length = f + 1 ∧ out.res.raised = none ∧ out.res.success = true) := by
  refine ⟨_, propagateInproc_of_point c sub step ase reverse st p f0 hp, ?_⟩
  simp only
  generalize iter step (if reverse != p.velRev then flipV f0 else f0) = micro
  have hst := inproc_stops_at { c with rev := reverse } sub hsub micro ase
  constructor
  · intro hin
    have h := hst (c.maxlen - 1) (by simp only; omega) (fun k hk => hin k (by omega)) (Or.inr (by simp only; omega))
    exact ⟨by rw [h.1]; omega, h.2.1, h.2.2⟩
  · intro f hf hin hout
    have h := hst f hf hin (Or.inl hout)
    exact ⟨h.1, h.2.1, h.2.2.mpr hout⟩

/-- free flight from cid 3 with velocity +1 and subcycles 2 (samples 3, 5, 7, 9, …), right interface 8: limits 2 and 3 →
    exactly 2 / 3 frames, no success; limit 4 → the crossing frame 9 has index 3 = maxlen − 1: 4 frames, success;
    limit 9 → still 4 frames -/
example : ((propagateInproc { demoCfg with maxlen := 2 } 2 demoStep true false demoStore ⟨.user 1, some 1, false⟩).map
      (fun o => (o.res.es.map (·.order), o.res.success))) = some ([3, 5], false) ∧
    ((propagateInproc { demoCfg with maxlen := 3 } 2 demoStep true false demoStore ⟨.user 1, some 1, false⟩).map
      (fun o => (o.res.es.map (·.order), o.res.success))) = some ([3, 5, 7], false) ∧
    ((propagateInproc { demoCfg with maxlen := 4 } 2 demoStep false false demoStore ⟨.user 1, some 1, false⟩).map
      (fun o => (o.res.es.map (·.order), o.res.success))) = some ([3, 5, 7, 9], true) ∧
    ((propagateInproc { demoCfg with maxlen := 9 } 2 demoStep false false demoStore ⟨.user 1, some 1, false⟩).map
      (fun o => (o.res.es.map (·.order), o.res.success))) = some ([3, 5, 7, 9], true) ∧ (0 : Nat) < 2 := by
  decide +kernel

/-! ## Exceptions that leave the polling loop's body (LAMMPS / CP2K)

Model: `Infretis/Model/EngineFault.lean` (`extRunF`: `extRun` with a foreign exception raised while frame `step_nr = k`
is processed — after the `pop`s, before `add_to_path` — and `Guard.asIs` / `Guard.guarded` for the handler).
The driver runs `extRunF` (op `extf`); the tie raises the exception inside the REAL engines (order function raising on
the `k`-th frame of the loop, `write_xyz_trajectory` failing with ENOSPC) and compares state, path and process. -/

open Infretis.EngineFault

/-- **Nothing changes on runs without such an exception**: the faulty-loop model IS `extRun` — for the code as it is
    (`guarded`) whenever `extRun` does not end in IndexError, the only own exception raised inside the block (then the
    handler polls once more; the tie compares those cases with `extRunF .guarded`); for the record (`asIs`) always.
    So every theorem about `extRun` above is a theorem about the current code on all runs without IndexError, and
    `guarded_program_stopped_on_every_exception` covers the IndexError runs. -/
theorem fault_free_loop_is_extRun (kind : Kind) (c : Cfg) (sched : Sched) (code : Int) (frames : List Frame) (fuel : Nat) :
    extRunF .asIs kind c sched code frames fuel none = { res := extRun kind c sched code frames fuel, body := false } ∧
    ((extRun kind c sched code frames fuel).raised ≠ some .index →
      extRunF .guarded kind c sched code frames fuel none = { res := extRun kind c sched code frames fuel, body := false }) :=
  ⟨extRunF_asIs_none kind c sched code frames fuel, extRunF_guarded_none kind c sched code frames fuel⟩

example : (extRun (.lammps .repaired) demoCfg (demoSched demoVis 8) 0 demoFrames 50).raised ≠ some .index ∧
    (extRunF .guarded (.lammps .repaired) demoCfg (demoSched demoVis 8) 0 demoFrames 50 none).res.es.length = 6 := by
  decide +kernel

/-- **Record of the finding: "the external program is stopped when propagation ends" was FALSE for LAMMPS and CP2K as
    found (`Guard.asIs`)** — with a realistic length limit (20): the program (alive until tick 30) has written six frames, two arrive per poll; the
    order function (or `write_xyz_trajectory`) raises on the frame with `step_nr = 2`.  The exception
    leaves `_propagate_from` with two frames in the path, no signal sent, the program still running.  Unlike the
    `maxlen = 0` witness of `lammps_index_error_leaves_program_running_counterexample`, this one is a state the moves produce.
    Confirmed on the real `LAMMPSEngine` / `CP2KEngine` (tie class `body-fault`). -/
theorem body_exception_leaves_program_running_counterexample :
    let R := extRunF .asIs (.lammps .repaired) demoCfg (demoSched (fun t => 2 * (t / 3 + 1)) 30) 0 demoFrames 50 (some 2)
    let Q := extRunF .asIs (.cp2k 30) demoCfg (demoSched (fun t => 2 * (t / 3 + 1)) 30) 0 demoFrames 50 (some 2)
    R.body = true ∧ R.res.dead = false ∧ R.res.killed = false ∧ R.res.es.length = 2 ∧ demoCfg.maxlen = 20 ∧
    Q.body = true ∧ Q.res.dead = false ∧ Q.res.killed = false ∧ Q.res.es.length = 2 ∧
    ¬ (∀ (g : Guard) (k : Kind) (fault : Option Nat),
        (extRunF g k demoCfg (demoSched (fun t => 2 * (t / 3 + 1)) 30) 0 demoFrames 50 fault).res.raised ≠ some .fuel →
        (extRunF g k demoCfg (demoSched (fun t => 2 * (t / 3 + 1)) 30) 0 demoFrames 50 fault).res.dead = true) := by
  -- one evaluation of each of the two runs
  refine (fun ⟨⟨a, b, c, d⟩, e, ⟨f, g, h, i⟩, j⟩ => ⟨a, b, c, d, e, f, g, h, i, j⟩ :
    (_ ∧ _ ∧ _ ∧ _) ∧ _ ∧ (_ ∧ _ ∧ _ ∧ _) ∧ _ → _) ⟨by decide +kernel, rfl, by decide +kernel, ?_⟩
  intro h
  have := h .asIs (.lammps .repaired) (some 2) (by decide +kernel)
  revert this
  decide +kernel

/-- **What held for the code as found (`Guard.asIs`, record)**: the program is stopped on every way out of the loop
    EXCEPT an exception raised by the loop body (guard `body = false`: it did not fire in this run) and the IndexError of
    `lammps_index_error_leaves_program_running_counterexample`. -/
theorem program_stopped_unless_body_exception_partial (kind : Kind) (c : Cfg) (sched : Sched) (code : Int)
    (frames : List Frame) (fuel : Nat) (fault : Option Nat)
    (hb : (extRunF .asIs kind c sched code frames fuel fault).body = false)
    (h : (extRunF .asIs kind c sched code frames fuel fault).res.raised = none ∨
         (extRunF .asIs kind c sched code frames fuel fault).res.raised = some .runtime) :
    (extRunF .asIs kind c sched code frames fuel fault).res.dead = true :=
  (extRunF_spec .asIs kind c sched code frames fuel fault).stopped_asIs hb h

/-- the fault sits on frame 7, the crossing is found on frame 5: the exception never fires, the program is stopped -/
example : (extRunF .asIs (.lammps .repaired) demoCfg (demoSched (fun t => 2 * (t / 3 + 1)) 30) 0 demoFrames 50 (some 7)).body = false ∧
    (extRunF .asIs (.lammps .repaired) demoCfg (demoSched (fun t => 2 * (t / 3 + 1)) 30) 0 demoFrames 50 (some 7)).res.raised = none ∧
    (extRunF .asIs (.lammps .repaired) demoCfg (demoSched (fun t => 2 * (t / 3 + 1)) 30) 0 demoFrames 50 (some 7)).res.killed = true := by
  decide +kernel

/-- **HEADLINE for the code as it is (`Guard.guarded`: `except BaseException: if exe.poll() is None: killpg; wait; raise`
    around the block, /repo since the repair): the external program is stopped whenever propagation ends** — on EVERY
    way out — return, RuntimeError, IndexError (also `maxlen = 0`), the
    body's exception at any frame — for every schedule, exit code, frames, limit (out of fuel = still looping). -/
theorem guarded_program_stopped_on_every_exception (kind : Kind) (c : Cfg) (sched : Sched) (code : Int)
    (frames : List Frame) (fuel : Nat) (fault : Option Nat)
    (h : (extRunF .guarded kind c sched code frames fuel fault).res.raised ≠ some .fuel) :
    (extRunF .guarded kind c sched code frames fuel fault).res.dead = true := by
  rcases (extRunF_spec .guarded kind c sched code frames fuel fault).stopped with h1 | h1 | ⟨hg, _⟩
  · exact absurd h1 h
  · exact h1
  · cases hg

/-- the witness of the counterexample, guarded: the exception still leaves (`body`), two frames in the path, but SIGTERM
    was sent and the program collected; and the `maxlen = 0` IndexError likewise -/
example : (extRunF .guarded (.lammps .repaired) demoCfg (demoSched (fun t => 2 * (t / 3 + 1)) 30) 0 demoFrames 50 (some 2)).body = true ∧
    (extRunF .guarded (.lammps .repaired) demoCfg (demoSched (fun t => 2 * (t / 3 + 1)) 30) 0 demoFrames 50 (some 2)).res.killed = true ∧
    (extRunF .guarded (.lammps .repaired) demoCfg (demoSched (fun t => 2 * (t / 3 + 1)) 30) 0 demoFrames 50 (some 2)).res.es.length = 2 ∧
    (extRunF .guarded (.lammps .repaired) { demoCfg with maxlen := 0 } (demoSched (fun _ => 2) 30) 0 demoFrames 50 none).res.raised = some .index ∧
    (extRunF .guarded (.lammps .repaired) { demoCfg with maxlen := 0 } (demoSched (fun _ => 2) 30) 0 demoFrames 50 none).res.dead = true := by
  decide +kernel

end Infretis.C12
