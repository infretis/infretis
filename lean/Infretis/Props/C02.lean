import Infretis.Lemmas.PermSpec
import Infretis.Lemmas.PermBlock
import Infretis.Lemmas.PermProb
import Infretis.Lemmas.PermGlynn
import Infretis.Lemmas.PermStair
import Infretis.Lemmas.PermEmbed
import Infretis.Lemmas.PermMain
import Infretis.Lemmas.PermFull
import Infretis.Lemmas.PermCacheInv
import Infretis.Lemmas.PermRandomInv
import Infretis.Lemmas.PermEval
import Infretis.Lemmas.PermAnyOrder
import Infretis.Lemmas.PermOnes
import Mathlib.Tactic.IntervalCases
/-!
# C02 — swap probabilities equal the exact permanent ratios

Property theorems only (helper lemmas: `Infretis/Lemmas/Perm*.lean`).
Model and specification: `Infretis/Model/Perm.lean`
(`permC`, `minor`, `pSpec`, `probMatrix` = the property's formula verbatim;
`quickProb`, `findBlocks`, `permanentProb`, `glynn`, `infRetis` = the code).
All statements are for matrices of any size.
-/
namespace Infretis.C02
open Infretis.Perm

/-! ## 1. Laws of the specification (hold for every square matrix with non-zero permanent) -/

/-- W_MATRIX1 of test/permanents/test_permanents.py -/
def wMatrix1 : Mat :=
  [[1,0,0,0,0,0,0,0],[0,1,0,0,0,0,0,0],[0,1,1,0,0,0,0,0],[0,1,1,1,1,0,0,0],
   [0,1,1,1,1,0,0,0],[0,1,1,1,1,1,0,0],[0,1,1,1,1,1,1,1],[0,1,1,1,1,1,1,1]]

/-- W_MATRIX2 of test/permanents/test_permanents.py (high-acceptance weights) -/
def wMatrix2 : Mat :=
  [[3519,3437,3324,3263,3226,3214],[147,0,0,0,0,0],[147,147,0,0,0,0],
   [154,85,34,18,4,1],[109,92,70,45,26,11],[139,112,69,29,9,1]]

/-- a locked multi-worker state: minus row, 4 plus rows in shuffled slot order, ghost;
    slots 2 and the ghost (5) are busy -/
def wLocked : Mat :=
  [[1,0,0,0,0,0],[0,1,1,1,0,0],[0,1,1,0,0,0],[0,1,1,1,1,0],[0,1,1,1,1,0],[0,0,0,0,0,0]]
def locksLocked : List Bool := [false, false, true, false, false, true]

/-- a wire-fencing-like weighted state (per-path weights 2, 1000, 17 and a free row, slots not
    in sorted order, ghost locked) -/
def wWire : Mat :=
  [[1,0,0,0,0,0],[0,2,0,0,0,0],[0,1000,1000,1000,1000,0],[0,17,17,17,0,0],[0,3,5,1,7,0],[0,0,0,0,0,0]]
def locksWire : List Bool := [false, false, false, false, false, true]

set_option maxRecDepth 100000 in
example : permC wMatrix1 = 4 := by
  -- W_MATRIX1 is the `[0-]` row on top of the 0/1 staircase with counts 1, 2, 4, 4, 5, 7, 7: block
  -- factorisation and the closed form, instead of the 8! terms of the Laplace expansion
  have e : wMatrix1 = [[1,0,0,0,0,0,0,0]] ++ (stair [1, 2, 4, 4, 5, 7, 7]).map (fun r => 0 :: r) := by
    decide +kernel
  have hz : ∀ r ∈ ([[1,0,0,0,0,0,0,0]] : Mat), ∀ c, 1 ≤ c → c < 1 + 7 → r.getD c 0 = 0 := by
    intro r hr c h1 h2
    obtain rfl := List.mem_singleton.mp hr
    interval_cases c <;> rfl
  have e2 : (stair [1, 2, 4, 4, 5, 7, 7]).map (List.drop 1 ∘ fun r => 0 :: r) = stair [1, 2, 4, 4, 5, 7, 7] := by
    simp [Function.comp_def]
  rw [e, Infretis.Perm.permC_block 1 7 _ _ rfl (by simp [stair]) hz, List.map_map, e2, permC_stair]
  decide +kernel
example : permC wMatrix2 = 10508395762620 := by decide +kernel
example : permC (idle wLocked locksLocked) = 4 := by decide +kernel
example : permC (idle wWire locksWire) ≠ 0 := by decide +kernel

/-- **Doubly stochastic, columns.** Every column of the permanent-ratio matrix sums to one. -/
theorem spec_col_sum (W : Mat) (j : Nat) (hj : j < W.length) (hW : permC W ≠ 0) :
    ((List.range W.length).map (fun i => pSpec W i j)).sum = 1 :=
  Perm.spec_col_sum W j hj hW

example : ((List.range wMatrix2.length).map (fun i => pSpec wMatrix2 i 3)).sum = 1
    ∧ pSpec wMatrix2 3 3 = 1088059 / 2701651 := by decide +kernel

/-- **Doubly stochastic, rows.** Every row of the permanent-ratio matrix sums to one. -/
theorem spec_row_sum (W : Mat) (i : Nat) (hi : i < W.length) (hW : permC W ≠ 0) :
    ((List.range W.length).map (fun j => pSpec W i j)).sum = 1 :=
  Perm.spec_row_sum W i hi hW

example : ((List.range wMatrix2.length).map (fun j => pSpec wMatrix2 4 j)).sum = 1 := by
  decide +kernel

/-- **Zero weight, zero probability.** -/
theorem spec_zero_of_zero (W : Mat) (i j : Nat) (h : entry W i j = 0) : pSpec W i j = 0 :=
  Perm.spec_zero_of_zero W i j h

example : entry wMatrix2 2 3 = 0 ∧ entry wMatrix2 2 1 ≠ 0 ∧ pSpec wMatrix2 2 1 = 1 := by
  decide +kernel

/-- **Rescaling one path's weights changes nothing**: the matrix `A ++ r :: B` with row `r`
    multiplied by any `c ≠ 0` has the same permanent ratios (every entry, any position of `r`). -/
theorem spec_row_rescale (A B : Mat) (r : Row) (c : Rat) (hc : c ≠ 0) (i j : Nat) :
    pSpec (A ++ scaleRow c r :: B) i j = pSpec (A ++ r :: B) i j :=
  Perm.spec_row_rescale A B r c hc i j

example : pSpec ([[1,0,0]] ++ scaleRow 1000 [0,2,1] :: [[0,3,5]]) 1 2
    = pSpec ([[1,0,0]] ++ [0,2,1] :: [[0,3,5]]) 1 2
    ∧ pSpec ([[1,0,0]] ++ [0,2,1] :: [[0,3,5]]) 1 2 = 3 / 13 := by decide +kernel

/-- **Equivariance under reordering the live paths**: if `W'` is a permutation of the rows of
    `W` and row `k` of `W'` is row `i` of `W`, the two rows get the same probabilities. -/
theorem spec_row_perm (W W' : Mat) (h : W'.Perm W) (k i j : Nat) (hk : k < W'.length)
    (hi : i < W.length) (he : W'.getD k [] = W.getD i []) : pSpec W' k j = pSpec W i j :=
  Perm.spec_row_perm W W' h k i j hk hi he

example : [[0,2,1],[1,0,0],[0,3,5]].Perm [[1,0,0],[0,2,1],[0,3,5]]
    ∧ pSpec [[0,2,1],[1,0,0],[0,3,5]] 0 2 = pSpec [[1,0,0],[0,2,1],[0,3,5]] 1 2 := by
  refine ⟨List.Perm.swap _ _ _, ?_⟩
  decide +kernel


/-! ## 2. The fast path: `quick_prob` on staircase blocks -/

/-- **`quick_prob` = permanent ratios on every 0/1 staircase** (rows with `cnts[r]` leading ones,
    any row order) that satisfies Hall's condition `#{rows with a one in column c} − #{columns
    right of c} ≥ 1`.  The normaliser `s` of the backward column recursion equals that number,
    and the clamp of negative remainders never fires. -/
theorem quickProb_eq_spec (cnts : List Nat)
    (hall : ∀ c, c < cnts.length → 1 ≤ Dnum cnts c) :
    quickProb (stair cnts) = specMat (stair cnts) :=
  quickProb_stair_eq_spec cnts hall

example : (∀ c, c < [1, 2, 4, 4].length → 1 ≤ Dnum [1, 2, 4, 4] c)
    ∧ stair [1, 2, 4, 4] = [[1,0,0,0],[1,1,0,0],[1,1,1,1],[1,1,1,1]]
    ∧ quickProb (stair [1, 2, 4, 4]) = [[1,0,0,0],[0,1,0,0],[0,0,1/2,1/2],[0,0,1/2,1/2]] := by
  decide +kernel

/-- closed form of the permanent of a staircase: `perm = ∏_c D(c)` -/
theorem permC_staircase (cnts : List Nat) :
    permC (stair cnts) = ((List.range cnts.length).map (Dnum cnts)).prod :=
  permC_stair cnts

/-- Hall's condition is necessary: without it `quick_prob` is not the permanent ratio
    (it is then applied to a matrix without perfect matching). -/
theorem quickProb_hall_needed : quickProb (stair [1, 1]) ≠ specMat (stair [1, 1]) := by
  decide +kernel

/-! ## 3. Blocks: `find_blocks` is justified by the block-triangular factorisation -/

/-- **`perm [[A,0],[C,D]] = perm A · perm D`.** -/
theorem permC_block (a b : Nat) (top bottom : Mat) (ht : top.length = a) (hb : bottom.length = b)
    (hz : ∀ r ∈ top, ∀ c, a ≤ c → c < a + b → r.getD c 0 = 0) :
    permC (top ++ bottom) = permC top * permC (bottom.map (List.drop a)) :=
  Perm.permC_block a b top bottom ht hb hz

example : permC ([[2,1,0],[3,4,0]] ++ [[5,6,7]]) = permC [[2,1,0],[3,4,0]] * permC [[7]]
    ∧ permC ([[2,1,0],[3,4,0]] ++ [[5,6,7]]) = 77 := by decide +kernel

/-- **Block-wise = whole.** For a block-triangular `W = [[A,0],[C,D]]` with non-zero permanent the
    permanent ratios of `W` are those of `A` and of `D` on the diagonal blocks and zero on both
    off-diagonal blocks (also on `C`, where the weights are positive). -/
theorem blocks_eq_whole (a b : Nat) (top bottom : Mat) (ht : top.length = a)
    (hb : bottom.length = b) (hz : ∀ r ∈ top, ∀ c, a ≤ c → c < a + b → r.getD c 0 = 0)
    (hW : permC (top ++ bottom) ≠ 0) :
    (∀ i j, i < a → j < a → pSpec (top ++ bottom) i j = pSpec top i j)
    ∧ (∀ i j, i < b → pSpec (top ++ bottom) (a + i) (a + j) = pSpec (bottom.map (List.drop a)) i j)
    ∧ (∀ i j, i < a → a ≤ j → j < a + b → pSpec (top ++ bottom) i j = 0)
    ∧ (∀ i j, i < b → j < a → pSpec (top ++ bottom) (a + i) j = 0) :=
  ⟨fun i j hi hj => pSpec_block_top a b top bottom ht hb hz hW i j hi hj,
   fun i j hi => pSpec_block_bottom a b top bottom ht hb hz hW i j hi,
   fun i j hi h1 h2 => pSpec_block_upper a b top bottom ht hz i j hi h1 h2,
   fun i j hi hj => pSpec_block_lower a b top bottom ht hb hz i j hi hj⟩

example : permC ([[2,1,0],[3,4,0]] ++ [[5,6,7]]) ≠ 0
    ∧ pSpec ([[2,1,0],[3,4,0]] ++ [[5,6,7]]) 2 0 = 0
    ∧ pSpec ([[2,1,0],[3,4,0]] ++ [[5,6,7]]) 0 1 = 3 / 11 := by decide +kernel

/-! ## 4. and 5. The permanent path: `fast_glynn_perm` and `permanent_prob` -/

/-- **Glynn's formula with the Gray-code walk computes the permanent**, for every square matrix
    of any size `n ≥ 1`: the loop never raises, visits each sign vector once, and the sum divided
    by `2^(n-1)` is the Laplace-expansion permanent. -/
theorem glynn_eq_permC (M : Mat) (hn : 0 < M.length) (hsq : ∀ r ∈ M, r.length = M.length) :
    glynn M = .ok (permC M) :=
  Perm.glynn_eq_permC M hn hsq

example : glynn wMatrix2 = .ok 10508395762620 := by decide +kernel

/-- **`permanent_prob` = permanent ratios** on every square block (size ≥ 2) with non-zero
    permanent whose rows have a non-zero maximum: the row rescaling cancels, all row sums of
    the un-normalised matrix equal the permanent, so the division by the maximal row sum is
    exact. -/
theorem permanentProb_eq_spec (arr : Mat) (h2 : 2 ≤ arr.length)
    (hsq : ∀ r ∈ arr, r.length = arr.length) (hmax : ∀ r ∈ arr, maxL r ≠ 0)
    (hW : permC arr ≠ 0) : permanentProb arr = .ok (specMat arr) :=
  Perm.permanentProb_eq_spec arr h2 hsq hmax hW

example : 2 ≤ wMatrix2.length ∧ (∀ r ∈ wMatrix2, r.length = wMatrix2.length)
    ∧ (∀ r ∈ wMatrix2, maxL r ≠ 0) ∧ permC wMatrix2 ≠ 0 := by decide +kernel

/-- **The fast and the permanent code paths agree** on every staircase block (size ≥ 2) that
    satisfies Hall's condition: `permanent_prob` (rescaling + Glynn + normalisation) returns
    exactly the matrix of `quick_prob`. -/
theorem quick_eq_permanent_path (cnts : List Nat) (h2 : 2 ≤ cnts.length)
    (hall : ∀ c, c < cnts.length → 1 ≤ Dnum cnts c) :
    permanentProb (stair cnts) = .ok (quickProb (stair cnts)) := by
  rw [quickProb_stair_eq_spec cnts hall]
  apply permanentProb_eq_spec
  · simpa [stair] using h2
  · intro r hr
    simp only [stair, List.mem_map] at hr
    obtain ⟨k, _, rfl⟩ := hr
    simp [stair, stairRow]
  · exact maxL_stair_ne_zero cnts hall
  · exact permC_stair_ne_zero cnts hall

example : permanentProb (stair [2, 2, 3]) = .ok (quickProb (stair [2, 2, 3]))
    ∧ quickProb (stair [2, 2, 3]) = [[1/2, 1/2, 0], [1/2, 1/2, 0], [0, 0, 1]] := by decide +kernel


/-! ## 6. The embedded specification `probMatrix`: busy rows and columns -/

/-- **Zero on busy rows and columns**: an entry of `probMatrix` in a locked row or a locked
    column is zero (`locks[i]? = some true` includes the bound `i < locks.length`). -/
theorem probMatrix_busy (W : Mat) (locks : List Bool) (hW : W.length = locks.length) (i j : Nat)
    (hb : locks[i]? = some true ∨ locks[j]? = some true) : entry (probMatrix W locks) i j = 0 :=
  probMatrix_zero_of_not_idle W locks hW i j
    (hb.imp (fun h e => by rw [h] at e; cases e) (fun h e => by rw [h] at e; cases e))

/-- **The permanent ratio of the idle block on idle rows and columns**: slot `i` is row
    `rank locks i` (number of idle slots before it) of the idle block. -/
theorem probMatrix_idle (W : Mat) (locks : List Bool) (hW : W.length = locks.length) (i j : Nat)
    (hi : locks[i]? = some false) (hj : locks[j]? = some false) :
    entry (probMatrix W locks) i j = pSpec (idle W locks) (rank locks i) (rank locks j) :=
  Perm.probMatrix_idle W locks hW i j hi hj

example : wLocked.length = locksLocked.length ∧ locksLocked[2]? = some true
    ∧ locksLocked[3]? = some false ∧ locksLocked[4]? = some false
    ∧ entry (probMatrix wLocked locksLocked) 3 2 = 0
    ∧ rank locksLocked 3 = 2 ∧ rank locksLocked 4 = 3
    ∧ entry (probMatrix wLocked locksLocked) 3 4 = 1 / 2 := by decide +kernel


/-! ## 7. The pipeline: `inf_retis` returns the embedded permanent ratios

`Reach o N cnts` (Lemmas/PermReach.lean) is the property's family on the idle block `N`:
`o ≤ 1` minus rows `(w,0,…,0)`, `w > 0`, then plus rows that vanish on the minus column, are
positive on the next `cnts[k]` columns and zero after — any positive weights, any staircase,
any order of the plus rows.  `FullReach W locks cnts` (Lemmas/PermFull.lean) is the same for
the full state matrix with its ghost; every lock subset of it gives such an idle block. -/

/-- **The pipeline theorem.** For every weight matrix and lock vector whose idle block is in the
    reachable family and has a perfect matching (`permC ≠ 0`), and such that no block is sent to
    the Monte-Carlo routine (non-row-constant blocks have at most 12 rows), the whole of
    `inf_retis` — drop locked, the two argsorts, equal-weight test, `find_blocks`, the
    single / `quick_prob` / `permanent_prob`+Glynn branches, un-sort, the two `allclose`
    asserts, re-insertion of zeros — returns exactly `probMatrix W locks`: the permanent ratios
    on the idle block, zero on busy rows and columns.  No exception is raised. -/
theorem infRetis_eq_spec (off : Nat) (W : Mat) (locks : List Bool) (cnts : List Nat)
    (hne : idle W locks ≠ [])
    (hR : Reach (prepare off W locks).offset (idle W locks) cnts)
    (hP : permC (idle W locks) ≠ 0)
    (hsmall : ∀ bs, findBlocks (prepare off W locks).sorted (prepare off W locks).offset = .list bs →
      ∀ b ∈ bs, branchOf (subBlock (prepare off W locks).sorted b.1 b.2.1 b.2.2) ≠ .random) :
    infRetis W locks off = .ok (probMatrix W locks) :=
  finishOf_eq_probMatrix off W locks cnts _ _ (sorts_argsort _) (sorts_argsort _) hne hR hP (fun _ => hsmall)

/-- the same without the Monte-Carlo proviso when at most 12 ensembles are idle -/
theorem infRetis_eq_spec_small (off : Nat) (W : Mat) (locks : List Bool) (cnts : List Nat)
    (hne : idle W locks ≠ [])
    (hR : Reach (prepare off W locks).offset (idle W locks) cnts)
    (hP : permC (idle W locks) ≠ 0) (h12 : (idle W locks).length ≤ 12) :
    infRetis W locks off = .ok (probMatrix W locks) :=
  finishOf_eq_probMatrix_small off W locks cnts _ _ (sorts_argsort _) (sorts_argsort _) hne hR hP h12

/-- **Any set of busy ensembles**: a full reachable state (minus row, staircase plus rows with
    arbitrary positive weights in any slot order, ghost locked) with any lock vector gives an
    idle block of the family. -/
theorem reach_of_full (W : Mat) (locks : List Bool) (cnts : List Nat)
    (hF : FullReach W locks cnts) : ∃ cnts', Reach (prepare 1 W locks).offset (idle W locks) cnts' :=
  reach_idle_of_full W locks cnts hF

/-- the full-state form of the pipeline theorem (up to 12 idle ensembles) -/
theorem infRetis_eq_spec_full (W : Mat) (locks : List Bool) (cnts : List Nat)
    (hF : FullReach W locks cnts) (hne : idle W locks ≠ [])
    (hP : permC (idle W locks) ≠ 0) (h12 : (idle W locks).length ≤ 12) :
    infRetis W locks 1 = .ok (probMatrix W locks) := by
  obtain ⟨cnts', hR⟩ := reach_of_full W locks cnts hF
  exact infRetis_eq_spec_small 1 W locks cnts' hne hR hP h12

/-- the locked multi-worker state is a full reachable state -/
example : FullReach wLocked locksLocked [3, 2, 4, 4] := fullReach_example

/-- … so `inf_retis` returns the specification on it (equal-weights branch) -/
example : infRetis wLocked locksLocked 1 = .ok (probMatrix wLocked locksLocked) :=
  infRetis_eq_spec_full wLocked locksLocked [3, 2, 4, 4] fullReach_example
    (by decide +kernel) (by decide +kernel) (by decide +kernel)

/-- the wire-fencing-like state is in the family (slots not sorted, free weights) -/
theorem reach_wWire :
    Reach (prepare 1 wWire locksWire).offset (idle wWire locksWire) [1, 4, 3, 4] := by
  decide +kernel

/-- … so `inf_retis` returns the specification on it (blocks: single, single, Glynn 3×3) -/
example : infRetis wWire locksWire 1 = .ok (probMatrix wWire locksWire) :=
  infRetis_eq_spec_small 1 wWire locksWire [1, 4, 3, 4] (by decide +kernel) reach_wWire
    (by decide +kernel) (by decide +kernel)


/-! ## 8. The exact code paths are used up to 12: the Monte-Carlo marker only for larger blocks -/

/-- **Block-size threshold.** For every input whatsoever: if `inf_retis` sends blocks to the
    Monte-Carlo routine, each of them has more than 12 rows.  (With `infRetis_eq_spec` this is
    the statement that exactness can only be lost on non-row-constant blocks > 12.) -/
theorem monteCarlo_only_above_12 (W : Mat) (locks : List Bool) (off : Nat) (dims : List Nat)
    (h : infRetis W locks off = .monteCarlo dims) : ∀ d ∈ dims, 12 < d :=
  finishOf_mc_dims locks (prepare off W locks) dims h

/-- a free 13×13 block (sorted form) -/
def free13 : Mat := (List.replicate 13 2 : Row) :: List.replicate 12 ((3 : Rat) :: List.replicate 12 1)

/-- the marker is produced for a free block of 13, while 12 rows of the same kind still take the
    permanent path (threshold on both sides) -/
example : (sortedOut { offset := 0, m := 13, sortIdx := List.range 13, sorted := free13, equal := false }).mc = [13]
    ∧ branchOf free13 = .random ∧ branchOf (free13.take 12) = .glynn ∧ branchOf (free13.take 1) = .single := by
  decide +kernel

/-! ## 9. The `prob` property and its cache `_last_prob` (model: `Infretis.PermCache`)

The sampler state machine over the operations that touch `state`, `_locks` or `_last_prob`:
the getter, `lock`, `unlock`, `pick`/`pick_traj_ens` (read, `swap`, `lock`), `pick_lock` re-issuing a recorded job
after a restart (`swap`, `lock` WITHOUT a read — op `reissue`, a public operation of its own, so that restart
histories are inside the theorem without the non-public bare swap), `add_traj`,
`sort_trajstate`, `print_state` — and the bare `swap`, which the sampler never performs on its own. -/

open Infretis.PermCache in
/-- **Cache coherence for every operation history.**  Start from any coherent state (e.g. an empty cache) and run
    ANY list of the sampler's operations that completes: every probability matrix that was handed out — by the
    getter, to `pick`/`pick_traj_ens`, inside `add_traj` and `sort_trajstate`, to `print_state` — is
    `inf_retis(abs(state), _locks)` of the state and locks AT THE MOMENT OF THE USE (never an error value), and
    the final cache is again empty or current. -/
theorem cache_coherent_every_history (c : C) (hc : Coherent c) (ops : List Op)
    (hp : ∀ op ∈ ops, isPublic op = true) (c' : C) (us : List Use) (h : run c ops = .ok (c', us)) :
    (∀ u ∈ us, u.val = compute u.at_ ∧ ∀ e, u.val ≠ Res.error e) ∧ Coherent c' :=
  let r := run_spec ops c hc hp c' us h
  ⟨r.2, r.1⟩

open Infretis.PermCache in
/-- a fresh object (`_last_prob = None`) is coherent -/
theorem cache_fresh_coherent (n : Nat) (ti : Int) (W : Mat) (locks : List Bool) (trajs : List (Option Nat)) :
    Coherent (mkC n ti W locks trajs) := coherent_of_none _ rfl

/-- slots: the [0-] path, one plus path, ghost -/
def wCache : Mat := [[1,0,0],[0,1,0],[0,0,0]]

open Infretis.PermCache in
open Infretis.PermCache in
/-- the restart scenario: the cache is full (the `add_traj`s of `load_paths` end with a read), `pick_lock` re-issues
    the job that was in flight (swap + lock, no read: a public operation), the next read recomputes — the history
    completes, both matrices handed out are current, and a bare swap stays non-public -/
example : isPublic (.reissue 0 0) = true ∧ isPublic (.rawSwap 0 0) = false
    ∧ (match run (mkC 3 (-1) wCache [false, false, true] [some 1, some 2, none]) [.read, .reissue 0 0, .read] with
       | .ok (c', us) => us.length == 2 && c'.cache.isSome && us.all (fun u => decide (u.val = compute u.at_))
       | .error _ => false) = true := by decide +kernel

open Infretis.PermCache in
/-- a history through every public operation: read, pick (swap+lock), print_state, add_traj of the finished job,
    sort_trajstate, lock, read, unlock, print_state — it completes, 7 matrices are handed out, and the cache is
    empty at the end (print_state restores None) -/
example : (match run (mkC 3 (-1) wCache [false, false, true] [some 1, some 2, none])
      [.read, .swapLock 1 1, .printState, .addTraj 0 3 [1, 0], .sort, .lock 0, .read, .unlock 0, .printState] with
    | .ok (c', us) => us.length == 7 && c'.cache.isNone
    | .error _ => false) = true := by decide +kernel

open Infretis.PermCache in
/-- **What a use of the cache is worth**: on a state of the reachable family (up to 12 idle ensembles) the
    matrix handed out is the embedded permanent-ratio matrix of the current `(|state|, locks)`. -/
theorem cache_use_eq_spec (u : Use) (hu : u.val = compute u.at_) (cnts : List Nat)
    (hF : FullReach (absMat u.at_.W) u.at_.locks cnts) (hne : idle (absMat u.at_.W) u.at_.locks ≠ [])
    (hP : permC (idle (absMat u.at_.W) u.at_.locks) ≠ 0) (h12 : (idle (absMat u.at_.W) u.at_.locks).length ≤ 12) :
    u.val = .ok (probMatrix (absMat u.at_.W) u.at_.locks) := by
  rw [hu]
  exact infRetis_eq_spec_full _ _ cnts hF hne hP h12

open Infretis.PermCache in
/-- **A bare `swap` is not an invalidation point**: `swap` leaves `_last_prob` alone, so read – swap – read hands
    out the matrix of the state BEFORE the swap.  (In the code every `swap` is followed by `lock` or by
    `_last_prob = None`: `pick`, `pick_traj_ens`, `sort_trajstate`; the theorem above covers those.) -/
theorem bare_swap_stale_counterexample :
    ¬ (∀ c' us, run (mkC 3 (-1) wCache [false, false, true] [some 1, some 2, none])
        [.read, .rawSwap 0 1, .read] = .ok (c', us) → ∀ u ∈ us, u.val = compute u.at_) := by
  intro h
  have key : (match run (mkC 3 (-1) wCache [false, false, true] [some 1, some 2, none])
        [.read, .rawSwap 0 1, .read] with
      | .ok (_, us) => us.all (fun u => decide (u.val = compute u.at_))
      | .error _ => true) = false := by decide +kernel
  split at key
  · next c' us hr =>
    rw [List.all_eq_true.mpr (fun u hu => decide_eq_true (h c' us hr u hu))] at key
    cases key
  · cases key

/-! ## 10. The Monte-Carlo routine `random_prob` (model: `Infretis.PermRandom`): what holds SURELY

`random_prob` is outside exactness by design (blocks > 12 that are not row-constant).  With every draw an explicit
argument — per iteration the direction, `start` (drawn twice for odd sizes) and the `len(arr)//2` uniform
numbers — the following hold for EVERY draw sequence, not only in expectation. -/

open Infretis.PermRandom in
/-- **Zero where the weight is zero, surely.**  If the block has a non-zero diagonal (the identity assignment the
    routine starts from has non-zero weight — true for every block `find_blocks` cuts out of a sorted staircase)
    then for every number of samples and every outcome of the draws (`start ∈ {0,1}`, uniform numbers `≥ 0`) the
    returned matrix is exactly zero wherever the weight is zero: no proposal into a zero-weight state is ever
    accepted. -/
theorem randomProb_zero_where_weight_zero (arr : Mat) (draws : List Draw)
    (hdiag : ∀ c, c < arr.length → entry arr c c ≠ 0) (hd : ∀ d ∈ draws, DrawOk d)
    (r c : Nat) (hr : r < arr.length) (hc : c < arr.length) (hz : entry arr r c = 0) :
    entry (randomProb arr draws) r c = 0 := by
  rw [entry_randomProb arr draws r c hr hc]
  have : visits (visited arr arr.length draws (List.range arr.length)) arr.length r c = 0 := by
    unfold visits
    rw [List.length_eq_zero_iff, List.filter_eq_nil_iff]
    intro p hp hpc
    have hi := visited_inv arr arr.length draws _ (inv_identity arr hdiag) hd p hp
    have hlen := hi.1
    have e1 : p.getD c arr.length = p.getD c 0 := by
      simp [List.getD_eq_getElem?_getD, List.getElem?_eq_getElem (show c < p.length by omega)]
    have := hi.2 c hc
    rw [← e1, eq_of_beq hpc] at this
    exact this hz
  rw [this]; simp

open Infretis.PermRandom in
/-- **Rows sum to exactly one** for every block, every number of samples and every draw sequence (each visited
    state is a permutation; the normalisation is by `n + 1` = number of states counted incl. the initial one). -/
theorem randomProb_rows_sum_one (arr : Mat) (draws : List Draw) (r : Nat) (hr : r < arr.length) :
    ((randomProb arr draws).getD r []).sum = 1 := by
  rw [row_randomProb arr draws r hr, sum_cast_div]
  unfold visits
  rw [double_count (fun (p : List Nat) (c : Nat) => p.getD c arr.length == r)]
  rw [sum_const_one _ _ (fun p hp => one_column arr.length p
    (visited_perm arr arr.length draws _ p hp) r hr), visited_length]
  have : ((draws.length + 1 : Nat) : Rat) ≠ 0 := by exact_mod_cast Nat.succ_ne_zero draws.length
  exact div_self this

open Infretis.PermRandom in
/-- **Columns sum to exactly one** likewise: the estimate is doubly stochastic surely, so the two `allclose`
    assertions of `inf_retis` cannot fire because of the Monte-Carlo block. -/
theorem randomProb_cols_sum_one (arr : Mat) (draws : List Draw) (c : Nat) (hc : c < arr.length) :
    ((List.range arr.length).map (fun r => entry (randomProb arr draws) r c)).sum = 1 := by
  have : (List.range arr.length).map (fun r => entry (randomProb arr draws) r c)
      = (List.range arr.length).map (fun r =>
          ((visits (visited arr arr.length draws (List.range arr.length)) arr.length r c : Nat) : Rat)
            / ((draws.length + 1 : Nat) : Rat)) := by
    apply List.map_congr_left
    intro r hr
    exact entry_randomProb arr draws r c (List.mem_range.mp hr) hc
  rw [this, sum_cast_div]
  unfold visits
  rw [double_count (fun (p : List Nat) (r : Nat) => p.getD c arr.length == r)]
  rw [sum_const_one _ _ (fun p hp => one_row arr.length p c (by
    have hperm := visited_perm arr arr.length draws _ p hp
    have hlen : p.length = arr.length := by simpa using hperm.length_eq
    have hm : p.getD c arr.length ∈ p := by
      simp [List.getD_eq_getElem?_getD, List.getElem?_eq_getElem (show c < p.length by omega)]
    exact List.mem_range.mp (hperm.mem_iff.mp hm))), visited_length]
  have : ((draws.length + 1 : Nat) : Rat) ≠ 0 := by exact_mod_cast Nat.succ_ne_zero draws.length
  exact div_self this

/-- a 3×3 block (odd size: `start` is drawn) with a zero above the diagonal -/
def wRand : Mat := [[2, 1, 0], [1, 2, 4], [1, 1, 8]]

open Infretis.PermRandom in
/-- three iterations: the wrap-around pair (column 0 and the last column, left, start 0) is rejected because it
    would put path 0 on its zero weight; columns 0,1 exchange (right, start 0, 1/8 < 1/4); the pair 1,2 (right,
    start 1) is rejected for the same reason.  Draw requests: three `choice`s and one uniform number for size 3,
    one `choice` and seven uniform numbers for size 14. -/
example : (∀ c, c < wRand.length → entry wRand c c ≠ 0)
    ∧ (∀ d ∈ [Draw.mk true 1 0 [0], Draw.mk false 1 0 [1/8], Draw.mk false 0 1 [0]], DrawOk d)
    ∧ entry wRand 0 2 = 0
    ∧ randomProb wRand [Draw.mk true 1 0 [0], Draw.mk false 1 0 [1/8], Draw.mk false 0 1 [0]]
        = [[1/2, 1/2, 0], [1/2, 1/2, 0], [0, 0, 1]]
    ∧ requests 3 = [.c2, .c2, .c2, .rnd 1] ∧ requests 14 = [.c2, .rnd 7] := by
  refine ⟨by decide +kernel, ?_, by decide +kernel, by decide +kernel, by decide +kernel, by decide +kernel⟩
  intro d hd
  simp only [List.mem_cons, List.not_mem_nil, or_false] at hd
  rcases hd with rfl | rfl | rfl <;> exact ⟨by decide, by intro r hr; simp at hr; subst hr; decide +kernel⟩

/-! ## 11. The boundary of the family assumption: which code paths need the staircase shape

`permanentProb_eq_spec` and `glynn_eq_permC` above assume NOTHING about the shape or the signs of the matrix: the
permanent path is exact for every square matrix with non-zero permanent and non-zero row maxima.  The fast path
(`quick_prob`), the block decomposition (`find_blocks`) and therefore `inf_retis` as a whole rest on the staircase
shape: on a weight vector with a hole (a zero between two non-zero entries — the open C05 finding) they return a
doubly stochastic matrix that is NOT the permanent-ratio matrix, and no assertion fires. -/

/-- plus block with a hole in the first row -/
def holeBlock : Mat := [[1, 0, 1], [1, 1, 0], [1, 1, 1]]

/-- **The permanent path does not need the family; the fast path does.**  On the 0/1 block with a hole
    (permanent 3) `permanent_prob` returns the permanent ratios and `quick_prob` does not. -/
theorem quick_needs_staircase_counterexample :
    permC holeBlock ≠ 0 ∧ permanentProb holeBlock = .ok (specMat holeBlock)
      ∧ quickProb holeBlock ≠ specMat holeBlock := by
  have h : permC holeBlock ≠ 0 := by decide +kernel
  exact ⟨h, permanentProb_eq_spec holeBlock (by decide) (by decide) (by decide +kernel) h, by decide +kernel⟩

/-- the full state with that block: [0-] row, the three plus rows, ghost (locked) -/
def wHole : Mat := [[1,0,0,0,0],[0,1,0,1,0],[0,1,1,0,0],[0,1,1,1,0],[0,0,0,0,0]]
/-- the same with weights: the hole row (2,·,3), a short row, a free row -/
def wHoleW : Mat := [[1,0,0,0,0],[0,2,0,3,0],[0,1,1,0,0],[0,1,5,1,0],[0,0,0,0,0]]
def locksHole : List Bool := [false, false, false, false, true]

/-- all row sums and all column sums of the idle part equal one -/
def doublyStochastic (P : Mat) (locks : List Bool) : Bool :=
  let Q := idle P locks
  allOnes (Q.map List.sum) && allOnes ((List.range Q.length).map (fun j => (colOf Q j).sum))

/-- the second argsort on both hole states (`List.mergeSort` does not reduce in the kernel) -/
theorem argsort_hole : argsort [0, -1, 0] = [1, 0, 2] := by
  simp [argsort, List.mergeSort, List.zipIdx, List.MergeSort.Internal.splitInTwo]

/-- **`inf_retis` on a hole vector: silently wrong (equal-weights / `quick_prob` branch).**  The permanent ratios
    are well defined (permanent 3), `inf_retis` raises nothing, its matrix is doubly stochastic — and it is not
    the permanent-ratio matrix (it says 1/2 where the exact value is 1/3). -/
theorem infRetis_hole_quick_counterexample :
    permC (idle wHole locksHole) ≠ 0
      ∧ ∃ P, infRetis wHole locksHole 1 = .ok P ∧ doublyStochastic P locksHole = true
        ∧ P ≠ probMatrix wHole locksHole
        ∧ entry P 1 1 = 1 / 2 ∧ entry (probMatrix wHole locksHole) 1 1 = 1 / 3 := by
  have hi := (infRetis_of_argsorts wHole locksHole 1 [0] [0, -1, 0] [0] [1, 0, 2]
    (by decide +kernel) (by decide +kernel) (by decide +kernel) argsort_hole).1
  refine ⟨by decide +kernel,
    [[1,0,0,0,0],[0,1/2,0,1/2,0],[0,1/3,2/3,0,0],[0,1/6,1/3,1/2,0],[0,0,0,0,0]], ?_, ?_, ?_, ?_, ?_⟩
  · rw [hi]; decide +kernel
  all_goals decide +kernel

/-- **`find_blocks` on a hole vector: a decomposition that is not block-triangular.**  With weights the
    equal-weight test fails, `find_blocks` counts non-zeros per row and cuts the sorted idle block into
    (0,1) (1,3) (3,4); `inf_retis` answers with the identity (doubly stochastic, no assertion) although the
    permanent is 20 and e.g. the hole path is in ensemble index 3 with probability 9/10. -/
theorem infRetis_hole_blocks_counterexample :
    permC (idle wHoleW locksHole) ≠ 0
      ∧ findBlocks (prepare 1 wHoleW locksHole).sorted (prepare 1 wHoleW locksHole).offset
          = .list [(0, 1, -1), (1, 3, 1), (3, 4, 1)]
      ∧ ∃ P, infRetis wHoleW locksHole 1 = .ok P ∧ doublyStochastic P locksHole = true
        ∧ entry P 1 3 = 0 ∧ entry (probMatrix wHoleW locksHole) 1 3 = 9 / 10 := by
  have hi := infRetis_of_argsorts wHoleW locksHole 1 [0] [0, -1, 0] [0] [1, 0, 2]
    (by decide +kernel) (by decide +kernel) (by decide +kernel) argsort_hole
  refine ⟨by decide +kernel, ?_,
    [[1,0,0,0,0],[0,1,0,0,0],[0,0,1,0,0],[0,0,0,1,0],[0,0,0,0,0]], ?_, ?_, ?_, ?_⟩
  · rw [hi.2]; decide +kernel
  · rw [hi.1]; decide +kernel
  all_goals decide +kernel

/-- … while the permanent path on the WHOLE idle block is exact on both hole states (no family assumption). -/
theorem permanent_path_exact_on_hole :
    permanentProb (idle wHole locksHole) = .ok (specMat (idle wHole locksHole))
      ∧ permanentProb (idle wHoleW locksHole) = .ok (specMat (idle wHoleW locksHole)) := by
  constructor
  · exact permanentProb_eq_spec _ (by decide +kernel) (by decide +kernel) (by decide +kernel)
      infRetis_hole_quick_counterexample.1
  · exact permanentProb_eq_spec _ (by decide +kernel) (by decide +kernel) (by decide +kernel)
      infRetis_hole_blocks_counterexample.1

/-! ## 12. Any tie order of the two `np.argsort` calls

The model's `argsort` is stable (`List.mergeSort`); numpy's default `argsort` is not.  On in-family matrices in which
several live paths end at the same ensemble with different weights the code's `sort_idx` therefore differs from the
model's (measured: 197 of 3000 random states with 8 plus ensembles and free weights), so the theorems of §7 — stated
for `infRetis`, i.e. for the stable order — do not speak about the row order the code really computes with.
`infRetisGiven W locks off a b` is `inf_retis` with the results `a`, `b` of its two argsort calls as inputs;
`Sorts keys idx` is all that is assumed about them: a permutation of the positions that reads the keys in
non-decreasing order (the tie evaluates the executable `sortsB` on every logged argsort call of the real code and
runs `infRetisGiven` with the code's own results). -/

/-- `infRetis` is `infRetisGiven` at the stable sort -/
theorem infRetis_is_given (W : Mat) (locks : List Bool) (off : Nat) :
    infRetis W locks off
      = infRetisGiven W locks off (argsort (keysMinus off W locks)) (argsort (keysPlus off W locks)) := rfl

/-- … and the stable sort is one admissible result -/
example (keys : List Int) : Sorts keys (argsort keys) := sorts_argsort keys

/-- **The pipeline theorem for every tie order.**  Whatever the two `np.argsort` calls return, as long as each
    result sorts its keys: on the reachable family (idle block in `Reach`, perfect matching, no block sent to the
    Monte-Carlo routine) `inf_retis` returns exactly `probMatrix W locks`.  In particular the result does not
    depend on the tie order. -/
theorem infRetis_any_tie_order (off : Nat) (W : Mat) (locks : List Bool) (cnts : List Nat) (a b : List Nat)
    (ha : Sorts (keysMinus off W locks) a) (hb : Sorts (keysPlus off W locks) b)
    (hne : idle W locks ≠ [])
    (hR : Reach (offsetOf off locks) (idle W locks) cnts)
    (hP : permC (idle W locks) ≠ 0)
    (hsmall : ∀ bs, findBlocks (prepareGiven off W locks a b).sorted (offsetOf off locks) = .list bs →
      ∀ bl ∈ bs, branchOf (subBlock (prepareGiven off W locks a b).sorted bl.1 bl.2.1 bl.2.2) ≠ .random) :
    infRetisGiven W locks off a b = .ok (probMatrix W locks) :=
  finishOf_eq_probMatrix off W locks cnts a b ha hb hne hR hP (fun _ => hsmall)

/-- the same without the Monte-Carlo proviso when at most 12 ensembles are idle -/
theorem infRetis_any_tie_order_small (off : Nat) (W : Mat) (locks : List Bool) (cnts : List Nat) (a b : List Nat)
    (ha : Sorts (keysMinus off W locks) a) (hb : Sorts (keysPlus off W locks) b)
    (hne : idle W locks ≠ [])
    (hR : Reach (offsetOf off locks) (idle W locks) cnts)
    (hP : permC (idle W locks) ≠ 0) (h12 : (idle W locks).length ≤ 12) :
    infRetisGiven W locks off a b = .ok (probMatrix W locks) :=
  finishOf_eq_probMatrix_small off W locks cnts a b ha hb hne hR hP h12

/-- the full-state form (up to 12 idle ensembles), every tie order -/
theorem infRetis_any_tie_order_full (W : Mat) (locks : List Bool) (cnts : List Nat) (a b : List Nat)
    (hF : FullReach W locks cnts)
    (ha : Sorts (keysMinus 1 W locks) a) (hb : Sorts (keysPlus 1 W locks) b)
    (hne : idle W locks ≠ [])
    (hP : permC (idle W locks) ≠ 0) (h12 : (idle W locks).length ≤ 12) :
    infRetisGiven W locks 1 a b = .ok (probMatrix W locks) := by
  obtain ⟨cnts', hR⟩ := reach_of_full W locks cnts hF
  exact infRetis_any_tie_order_small 1 W locks cnts' a b ha hb hne hR hP h12

/-- the executable check used by driver and tie implies the hypothesis -/
theorem sorts_of_check (keys : List Int) (idx : List Nat) (h : sortsB keys idx = true) : Sorts keys idx := by
  simp only [sortsB, Bool.and_eq_true] at h
  refine ⟨List.isPerm_iff.mp h.1, ?_⟩
  have := pairwise_of_nondecr _ h.2
  rwa [List.pairwise_map] at this

/-- the wire-fencing-like state of §7 has two paths (slots 2 and 4) that end at the same ensemble with different
    weights: `[0,2,3,1]` is the other admissible result of the second argsort (the stable one is `[0,2,1,3]`); it
    puts the rows into a different order … -/
example : keysPlus 1 wWire locksWire = [-3, 0, -1, 0]
    ∧ sortsB (keysPlus 1 wWire locksWire) [0, 2, 3, 1] = true
    ∧ sortsB (keysPlus 1 wWire locksWire) [0, 2, 1, 3] = true
    ∧ (prepareGiven 1 wWire locksWire [0] [0, 2, 3, 1]).sorted
        ≠ (prepareGiven 1 wWire locksWire [0] [0, 2, 1, 3]).sorted := by decide +kernel

/-- … and `inf_retis` returns the specification with that order too -/
example : infRetisGiven wWire locksWire 1 [0] [0, 2, 3, 1] = .ok (probMatrix wWire locksWire) :=
  infRetis_any_tie_order_small 1 wWire locksWire [1, 4, 3, 4] [0] [0, 2, 3, 1]
    (sorts_of_check _ _ (by decide +kernel)) (sorts_of_check _ _ (by decide +kernel))
    (by decide +kernel) reach_wWire (by decide +kernel) (by decide +kernel)

/-! ## 13. One weight per path (shooting moves only): any number of ensembles, no size proviso

§7 covers more than 12 idle ensembles only through the hypothesis `hsmall` about the blocks `find_blocks` would
cut.  In the most common set-up — every move is shooting, every live path carries ONE weight — `find_blocks` is
never called: the code's equal-weight test succeeds and both halves go to `quick_prob`. -/

/-- **The equal-weights branch needs no size proviso.**  When the code's own equal-weight test succeeds,
    `inf_retis` returns `probMatrix W locks` on the reachable family for any number of idle ensembles. -/
theorem infRetis_equal_branch_any_size (off : Nat) (W : Mat) (locks : List Bool) (cnts : List Nat) (a b : List Nat)
    (ha : Sorts (keysMinus off W locks) a) (hb : Sorts (keysPlus off W locks) b)
    (hne : idle W locks ≠ [])
    (hR : Reach (offsetOf off locks) (idle W locks) cnts)
    (hP : permC (idle W locks) ≠ 0)
    (he : (prepareGiven off W locks a b).equal = true) :
    infRetisGiven W locks off a b = .ok (probMatrix W locks) :=
  finishOf_eq_probMatrix off W locks cnts a b ha hb hne hR hP (fun h => by rw [he] at h; cases h)

/-- **One weight per path ⇒ exact, for any number of ensembles, any lock set, any slot order, any tie order.**
    `RowConst r`: all non-zero weights of the row are equal. -/
theorem infRetis_one_weight_per_path (W : Mat) (locks : List Bool) (cnts : List Nat) (a b : List Nat)
    (hF : FullReach W locks cnts) (hrc : ∀ r ∈ W, RowConst r)
    (ha : Sorts (keysMinus 1 W locks) a) (hb : Sorts (keysPlus 1 W locks) b)
    (hne : idle W locks ≠ []) (hP : permC (idle W locks) ≠ 0) :
    infRetisGiven W locks 1 a b = .ok (probMatrix W locks) := by
  obtain ⟨cnts', hR⟩ := reach_of_full W locks cnts hF
  exact infRetis_equal_branch_any_size 1 W locks cnts' a b ha hb hne hR hP
    (equal_of_rowConst 1 W locks cnts' a b ha hb hR hP (rowConst_idle W locks hrc))

/-- the same for the model's own (stable) order: a statement about `infRetis` -/
theorem infRetis_one_weight_per_path_stable (W : Mat) (locks : List Bool) (cnts : List Nat)
    (hF : FullReach W locks cnts) (hrc : ∀ r ∈ W, RowConst r)
    (hne : idle W locks ≠ []) (hP : permC (idle W locks) ≠ 0) :
    infRetis W locks 1 = .ok (probMatrix W locks) :=
  infRetis_one_weight_per_path W locks cnts _ _ hF hrc (sorts_argsort _) (sorts_argsort _) hne hP

/-- **`inf_retis` is exact on the all-shooting state with ANY number `p` of plus ensembles** (13, 50, 1000 idle
    ensembles alike), for every tie order: non-vacuity of `infRetis_one_weight_per_path` beyond 12. -/
theorem infRetis_ones_any_size (p : Nat) (a b : List Nat)
    (ha : Sorts (keysMinus 1 (onesW p) (onesLocks p)) a) (hb : Sorts (keysPlus 1 (onesW p) (onesLocks p)) b) :
    infRetisGiven (onesW p) (onesLocks p) 1 a b = .ok (probMatrix (onesW p) (onesLocks p)) := by
  apply infRetis_one_weight_per_path _ _ _ a b (fullReach_ones p) (rowConst_ones p) ha hb
  · rw [idle_ones]; simp
  · exact permC_ones_ne p

example : infRetis (onesW 40) (onesLocks 40) 1 = .ok (probMatrix (onesW 40) (onesLocks 40)) :=
  infRetis_ones_any_size 40 _ _ (sorts_argsort _) (sorts_argsort _)

/-! ## 14. §7 and §10 composed: the Monte-Carlo blocks of the family

`randomProb_zero_where_weight_zero` assumes a non-zero diagonal of the block, "true for every block `find_blocks`
cuts out of a sorted staircase": this is the theorem behind that remark. -/

open Infretis.PermRandom in
/-- **Every diagonal block of the sorted idle block of a family state has a non-zero diagonal, so whatever block
    `inf_retis` hands to `random_prob` (direction +1: every block right of the `[0-]` row), the Monte-Carlo estimate is
    surely zero where the weight is zero** — for every tie order, every number of samples, every draw sequence. -/
theorem monteCarlo_block_zero_where_weight_zero (off : Nat) (W : Mat) (locks : List Bool) (cnts : List Nat)
    (a b : List Nat) (ha : Sorts (keysMinus off W locks) a) (hb : Sorts (keysPlus off W locks) b)
    (hR : Reach (offsetOf off locks) (idle W locks) cnts) (hP : permC (idle W locks) ≠ 0)
    (start stop : Nat) (hstop : stop ≤ (idle W locks).length)
    (draws : List Draw) (hd : ∀ d ∈ draws, DrawOk d) (r c : Nat) (hr : r < stop - start) (hc : c < stop - start)
    (hz : entry (subBlock (prepareGiven off W locks a b).sorted start stop 1) r c = 0) :
    entry (randomProb (subBlock (prepareGiven off W locks a b).sorted start stop 1) draws) r c = 0 := by
  obtain ⟨cnts', hS⟩ := prepareGiven_sortedReach off W locks cnts a b ha hb hR hP
  have hl := prepareGiven_sorted_length off W locks a b ha hb
  have hlen : (subBlock (prepareGiven off W locks a b).sorted start stop 1).length = stop - start :=
    Blk.subBlock_length _ start stop 1 (by omega)
  apply randomProb_zero_where_weight_zero _ draws ?_ hd r c (by omega) (by omega) hz
  intro k hk
  rw [hlen] at hk
  exact subBlock_diag_ne_zero _ _ cnts' hS start stop k hk (by omega)

/-- the hypotheses are satisfiable: rows 2..4 of the sorted idle block of the wire-fencing-like state of §7 form a
    block with a non-zero diagonal and a zero above it (weights (17,17,17,0)).  The block has 3 rows, so `inf_retis`
    sends it to `permanent_prob`; no state with a block that goes to `random_prob` is exhibited. -/
example : entry (subBlock (prepareGiven 1 wWire locksWire [0] [0, 2, 3, 1]).sorted 2 5 1) 0 2 = 0
    ∧ (∀ k, k < 5 - 2 → entry (subBlock (prepareGiven 1 wWire locksWire [0] [0, 2, 3, 1]).sorted 2 5 1) k k ≠ 0) := by
  refine ⟨by decide +kernel, ?_⟩
  intro k hk
  interval_cases k <;> decide +kernel

end Infretis.C02
