import Infretis.Lemmas.RunnerSys
import Infretis.Props.C17Runner
import Infretis.Model.RunnerSysX
/-!
# C17 (runner half, the runner's own code) — every submitted unit is executed exactly once, its
result or exception is delivered exactly once whatever the completion order, and `stop()` returns

Model: `Infretis/Model/RunnerSys.lean` — `asyncrunner.py`'s code as a transition system
(`submit_work`/`_add_work_to_queue`, the worker coroutine `_task_wrapper` resumed from `await` to
`await`, `future_list.add/as_completed` one `done()` call at a time, `stop()` one poll at a time).
The quantifier of every theorem is: any number of workers, any event list the system can perform,
i.e. EVERY interleaving of main thread and worker coroutines, every completion order, failing
units included (`Outcome.exc`).

The tie (`harness/props/c17_sys.py`) runs the real methods under a PRNG-driven runtime and
compares the state after every event with this system.
-/
namespace Infretis.C17Sys
open Infretis.Runner Infretis.RunnerSys

/-- **Refinement.**  Whatever the system of the runner's code does, the protocol events it emits
    form a run of the abstract protocol (`Model/Runner.lean`), and the two states stay related
    (`Rel`: same queue, same futures, `running` = the workers awaiting an executor, …). -/
theorem sys_refines (nw : Nat) (evs : List FEv) (s : Sys) (out : List Event)
    (h : frun (RunnerSys.init nw) evs = some (s, out)) :
    ∃ c, Runner.run (Runner.init nw) out = some c ∧ Rel s c ∧ accepts nw out = true := by
  obtain ⟨c, hr, hR, _⟩ := sim_reachable h
  exact ⟨c, hr, hR, by simp [accepts, hr]⟩

-- two workers, three units, out-of-order completion, a failing unit, consumption and stop
example : ∃ s out, frun (RunnerSys.init 2) [.submit 1, .submit 2, .resume 0 (.ok 0), .resume 1 (.ok 0), .submit 3,
      .resume 1 (.exc 2), .acEnter, .acCheck, .acCheck, .resume 0 (.ok 1), .acEnter, .acCheck, .stopEnter,
      .stopPollQ, .stopPollT, .resume 1 (.ok 3), .resume 0 (.ok 0), .stopPollT] = some (s, out)
    ∧ s.main = .finished ∧ out.length = 12 := by
  refine ⟨_, _, rfl, ?_, ?_⟩ <;> decide +kernel

/-- **Exactly once, for the code's own system.**  The emitted protocol trace of any run satisfies
    the exactly-once statement of `C17Runner` (each unit taken once, finished once by its taker,
    its future set once with its own outcome, collected at most once and only when done), with the
    system's queue / futures being the protocol's. -/
theorem sys_exactly_once (nw : Nat) (evs : List FEv) (s : Sys) (out : List Event)
    (h : frun (RunnerSys.init nw) evs = some (s, out)) :
    ∃ c, Runner.run (Runner.init nw) out = some c ∧ C17Runner.ExactlyOnce out c ∧
      c.queue = s.queue ∧ c.submitted = s.created ∧ c.done = s.done ∧ c.stopped = s.stopSet := by
  obtain ⟨c, hr, hR, _⟩ := sim_reachable h
  exact ⟨c, hr, C17Runner.exactly_once nw out c hr, hR.queue, hR.sub, hR.done, hR.stopped⟩

example : (frun (RunnerSys.init 1) [.submit 7, .resume 0 (.ok 0), .resume 0 (.exc 7)]).map (·.2) =
    some [.submit 7, .take 0 7, .finish 0 7 (.exc 7)] := rfl

/-- **No `InvalidStateError`, no early exit.**  In every reachable state: no worker task has died
    on a future that was already done; no worker has left its loop before the stop event was set;
    a unit a worker is awaiting is a created, still pending future, and no two workers hold the
    same unit. -/
theorem sys_no_crash (nw : Nat) (evs : List FEv) (s : Sys) (out : List Event)
    (h : frun (RunnerSys.init nw) evs = some (s, out)) :
    (∀ w : Nat, s.pcs[w]? ≠ some WPc.crashed) ∧
    (s.stopSet = false → ∀ w : Nat, s.pcs[w]? ≠ some WPc.exited) ∧
    (∀ w u : Nat, s.pcs[w]? = some (WPc.awaiting u) →
        u ∈ s.created ∧ (∀ o, (u, o) ∉ s.done) ∧ u ∉ s.queue ∧
        ∀ w' : Nat, s.pcs[w']? = some (WPc.awaiting u) → w' = w) := by
  obtain ⟨c, _, hR, hI⟩ := sim_reachable h
  refine ⟨hR.nocrash, hR.noexit, ?_⟩
  intro w u hx
  have hrun := (hR.running w u).2 hx
  have htk : (w, u) ∈ takes out := hI.run_taken w u hrun
  have hts : u ∈ takenSeq out := by
    simp only [takenSeq, List.mem_map]; exact ⟨(w, u), htk, rfl⟩
  have hsub : u ∈ subSeq out := by rw [inv_fifo hI]; exact List.mem_append_left _ hts
  refine ⟨by rw [← hR.sub, hI.sub_eq]; exact hsub, ?_, ?_, ?_⟩
  · intro o hd
    rw [← hR.done, inv_done hI] at hd
    obtain ⟨w', hw'⟩ := mem_doneOf.1 hd
    exact hI.run_notdone w u hrun (mem_finUnits.2 ⟨w', o, hw'⟩)
  · intro hq
    rw [← hR.queue] at hq
    have hnd := hI.sub_nodup
    rw [inv_fifo hI] at hnd
    exact (List.nodup_append.1 hnd).2.2 u hts u hq rfl
  · intro w' hx'
    have hrun' := (hR.running w' u).2 hx'
    have h1 := hI.run_taken w' u hrun'
    have hnd : ((takes out).map (·.2)).Nodup := takenSeq_nodup hI
    exact congrArg Prod.fst (List.inj_on_of_nodup_map hnd h1 htk rfl)

example : ∃ s out, frun (RunnerSys.init 2) [.submit 4, .submit 5, .resume 1 (.ok 0), .resume 0 (.ok 0)] = some (s, out)
    ∧ s.pcs = [.awaiting 5, .awaiting 4] := ⟨_, _, rfl, rfl⟩

/-- **Delivery exactly once.**  In every reachable state: what `as_completed()` handed out so far
    has no repetition, every delivered `(u, o)` is the outcome unit `u`'s own worker set its future
    to, and every future ever created is in exactly one place — still in the scheduler's
    `future_list` (once) or delivered. -/
theorem sys_delivery (nw : Nat) (evs : List FEv) (s : Sys) (out : List Event)
    (h : frun (RunnerSys.init nw) evs = some (s, out)) :
    (s.delivered.map (·.1)).Nodup ∧ s.fl.futs.Nodup ∧
    (∀ u o, (u, o) ∈ s.delivered → ∃ w, Event.finish w u o ∈ out) ∧
    (∀ u, u ∈ s.created ↔ (u ∈ s.fl.futs ∨ u ∈ s.delivered.map (·.1))) ∧
    (∀ u, u ∈ s.fl.futs → u ∉ s.delivered.map (·.1)) := by
  obtain ⟨c, _, hR, hI⟩ := sim_reachable h
  refine ⟨?_, hR.fl_nodup, ?_, hR.fl_part, hR.fl_disj⟩
  · have := hI.col_nodup
    have e : s.delivered.map (·.1) = colUnits out := by
      have h1 := hR.col
      rw [inv_col hI] at h1
      exact (List.reverse_injective h1).symm
    rw [e]; exact this
  · intro u o hd
    have := hR.deliv_done _ hd
    rw [← hR.done, inv_done hI] at this
    exact mem_doneOf.1 this

example : ∃ s out, frun (RunnerSys.init 1) [.submit 1, .submit 2, .resume 0 (.ok 0), .resume 0 (.exc 1), .acEnter,
      .acCheck] = some (s, out) ∧ s.delivered = [(1, .exc 1)] ∧ s.fl.futs = [2] := ⟨_, _, rfl, rfl, rfl⟩

/-- **`stop()` terminates, for every interleaving.**  In every reachable state inside `stop()`
    (after `stopEnter`, before it returned): (1) every step the system can take either changes
    nothing (a poll that fails, an idle worker that finds the queue empty before the event is set)
    or strictly decreases `variant = 2·|queue| + Σ worker weights + phase`; (2) some step that
    strictly decreases it is always possible (`n_workers ≥ 1`).  Hence `stop()` returns after at
    most `variant ≤ 2·|queue| + 2·n_workers + 2` state-changing steps and cannot get stuck. -/
theorem stop_terminates (nw : Nat) (evs : List FEv) (s : Sys) (out : List Event)
    (h : frun (RunnerSys.init nw) evs = some (s, out)) (hm : s.main = .stopQ ∨ s.main = .stopT) :
    (∀ e s' out', fstep s e = some (s', out') → s' = s ∨ variant s' < variant s) ∧
    (1 ≤ nw → ∃ e s' out', fstep s e = some (s', out') ∧ variant s' < variant s) ∧
    variant s ≤ 2 * s.queue.length + 2 * nw + 2 := by
  obtain ⟨c, hr, hR, _⟩ := sim_reachable h
  have hsc : s.fl.scan = none := hR.busy (by rcases hm with hm | hm <;> rw [hm] <;> simp)
  have hnw : s.pcs.length = nw := by rw [hR.nw]; exact run_nw out (Runner.init nw) c hr
  refine ⟨fun e s' out' h' => stop_variant_step hm hsc h', ?_, ?_⟩
  · intro h1
    have : s.pcs ≠ [] := by intro he; rw [he] at hnw; simp at hnw; omega
    exact stop_progress_step hR this hm
  · have hb : ∀ l : List WPc, weightSum l ≤ 2 * l.length := by
      intro l
      induction l with
      | nil => exact Nat.le_refl 0
      | cons p t ih =>
        have : pcWeight p ≤ 2 := by cases p <;> simp [pcWeight]
        simp only [weightSum, List.length_cons]; omega
    have := hb s.pcs
    have hp : phaseWeight s.main ≤ 2 := by rcases hm with hm | hm <;> rw [hm] <;> simp [phaseWeight]
    simp only [variant]; omega

example : ∃ s out, frun (RunnerSys.init 1) [.submit 1, .submit 2, .resume 0 (.ok 0), .stopEnter, .stopPollQ] = some (s, out)
    ∧ s.main = .stopQ ∧ variant s = 6 := ⟨_, _, rfl, rfl, rfl⟩

/-- **Clean shutdown.**  When `stop()` has returned: the queue is empty, every worker task has left
    its loop (none died), the stop event is set, every future ever created is done — set by its own
    worker's `finish` — nothing is lost; and if the scheduler had drained its `future_list`, every
    created future was delivered exactly once. -/
theorem stop_returns_clean (nw : Nat) (evs : List FEv) (s : Sys) (out : List Event)
    (h : frun (RunnerSys.init nw) evs = some (s, out)) (hm : s.main = .finished) :
    s.queue = [] ∧ (∀ p, p ∈ s.pcs → p = WPc.exited) ∧ s.stopSet = true ∧
    (∀ u, u ∈ s.created → ∃ o, (u, o) ∈ s.done ∧ ∃ w, Event.finish w u o ∈ out) ∧
    (s.fl.futs = [] → ∀ u, u ∈ s.created → (s.delivered.map (·.1)).count u = 1) := by
  obtain ⟨c, hr, hR, hI⟩ := sim_reachable h
  have hE := C17Runner.exactly_once nw out c hr
  have hst : s.stopSet = true := hR.phase.2 (Or.inr hm)
  have hq : c.queue = [] := hI.stopped_queue (by rw [hR.stopped]; exact hst)
  have hended : ∀ p, p ∈ s.pcs → p = WPc.exited := by
    intro p hp
    obtain ⟨w, hw⟩ := List.getElem?_of_mem hp
    have := hR.fin hm w p hw
    cases p with
    | idle | awaiting u => simp [taskEnded] at this
    | exited => rfl
    | crashed => exact absurd hw (hR.nocrash w)
  have hrun : c.running = [] := List.eq_nil_iff_forall_not_mem.2 fun ⟨w, u⟩ hm => by
    have := hended _ (List.mem_of_getElem? ((hR.running w u).1 hm))
    cases this
  have hqs : quiescent c = true := by simp [quiescent, hq, hrun]
  refine ⟨by rw [← hR.queue]; exact hq, hended, hst, ?_, ?_⟩
  · intro u hu
    have hsub : Event.submit u ∈ out := by
      apply mem_subSeq.1
      rw [← hI.sub_eq, hR.sub]; exact hu
    obtain ⟨_, _, o, ho⟩ := hE.complete hqs u hsub
    obtain ⟨w, hw⟩ := (hE.future_own u o).1 ho
    refine ⟨o, ?_, w, hw⟩
    rw [← hR.done, inv_done hI]
    exact mem_doneOf.2 ⟨w, hw⟩
  · intro hfl u hu
    exact List.count_eq_one_of_mem (sys_delivery nw evs s out h).1
      (((hR.fl_part u).1 hu).resolve_left (hfl ▸ List.not_mem_nil))

example : ∃ s out, frun (RunnerSys.init 1) [.submit 1, .resume 0 (.ok 0), .resume 0 (.ok 4), .acEnter, .acCheck,
      .stopEnter, .stopPollQ, .resume 0 (.ok 0), .stopPollT] = some (s, out)
    ∧ s.main = .finished ∧ s.fl.futs = [] ∧ s.delivered = [(1, .ok 4)] := ⟨_, _, rfl, rfl, rfl, rfl⟩

/-- **`future_list.as_completed`, one `done()` call.**  On a well-formed list (`FLWf`: the `for`
    loop's remaining snapshot is a non-empty suffix of the list): the call returns future `u` only
    if `u.done()` was just answered True, `u` was in the list, and then exactly its first occurrence
    is removed and the call is over; otherwise the list is unchanged; `None` is returned only on an
    empty list; well-formedness is kept. -/
theorem future_list_done_call (fl fl' : FL) (ans : Bool) (r : AcStep) (hw : FLWf fl)
    (h : flCheck fl ans = some (fl', r)) :
    FLWf fl' ∧
    (∀ u, r = .ret u → ans = true ∧ flNext fl = some u ∧ u ∈ fl.futs ∧ fl'.futs = fl.futs.erase u ∧ fl'.scan = none) ∧
    ((∀ u, r ≠ .ret u) → fl'.futs = fl.futs) ∧ (r = .retNone → fl.futs = []) := by
  refine ⟨?_, ?_, ?_, ?_⟩
  · by_cases hr : ∃ u, r = .ret u
    · obtain ⟨u, rfl⟩ := hr
      exact flWf_idle (flCheck_ret hw h).2.2.2.2
    · exact (flCheck_other hw h (fun u hu => hr ⟨u, hu⟩)).2.1
  · intro u hu; subst hu; exact flCheck_ret hw h
  · intro hr; exact (flCheck_other hw h hr).1
  · intro hr
    exact ((flCheck_other hw h (by intro u hu; rw [hr] at hu; simp at hu)).2.2 hr).1

example : flCheck { futs := [5, 6, 7], scan := some [6, 7] } true = some ({ futs := [5, 7], scan := none }, .ret 6)
    ∧ flCheck { futs := [5, 6, 7], scan := some [7] } false = some ({ futs := [5, 6, 7], scan := some [5, 6, 7] }, .going)
    ∧ FLWf { futs := [5, 6, 7], scan := some [6, 7] } := by
  refine ⟨rfl, rfl, ?_⟩
  intro l hl
  simp at hl; subst hl
  exact ⟨by simp, ⟨[5], rfl⟩⟩

/-- entering `as_completed()`: `None` exactly on an empty list, the list is not touched, and the
    scan starts on a snapshot of the whole list -/
theorem future_list_enter (fl : FL) :
    ((flEnter fl).2 = .retNone ↔ fl.futs = []) ∧ (flEnter fl).1.futs = fl.futs ∧ FLWf (flEnter fl).1 ∧
    (fl.futs ≠ [] → (flEnter fl).1.scan = some fl.futs) := by
  have := flWhile_spec fl
  refine ⟨this.2.2.1, this.1, this.2.1, ?_⟩
  intro hne
  unfold flEnter flWhile
  cases hf : fl.futs with
  | nil => exact absurd hf hne
  | cons a t => rfl

example : (flEnter { futs := [], scan := none }).2 = .retNone ∧ (flEnter { futs := [3], scan := none }).2 = .going := ⟨rfl, rfl⟩

/-- **A whole `as_completed()` call** against any script of `done()` answers (the function the
    driver runs for the data-structure tie): if it returns future `u`, then `u` was in the list, it
    is the future asked last, exactly its first occurrence is removed and nothing else changes;
    if it does not return a future the list is unchanged; it returns `None` exactly on an empty list. -/
theorem future_list_call (fl : FL) (answers : List Bool) :
    (∀ u, (flCall fl answers).2.1 = some (.ret u) →
        u ∈ fl.futs ∧ (flCall fl answers).1.futs = fl.futs.erase u ∧ (flCall fl answers).1.scan = none ∧
        (flCall fl answers).2.2.2.getLast? = some u) ∧
    ((∀ u, (flCall fl answers).2.1 ≠ some (.ret u)) → (flCall fl answers).1.futs = fl.futs) ∧
    ((flCall fl answers).2.1 = some .retNone ↔ fl.futs = []) := by
  have hsp := flWhile_spec fl
  unfold flCall
  cases he : flEnter fl with
  | mk fl1 r1 =>
    have he' : flWhile fl = (fl1, r1) := he
    rw [he'] at hsp
    simp only at hsp
    obtain ⟨s1, s2, s3, s4, s5⟩ := hsp
    cases r1 with
    | going =>
      simp only
      have hne : fl.futs ≠ [] := by intro hh; have := s3.2 hh; simp at this
      have key := flCallGo_spec answers.length fl1 answers 0 [] s2 _ _ _ _ rfl
      rw [s1] at key
      obtain ⟨k1, k2, k3, k4⟩ := key
      refine ⟨k1, k2, ?_⟩
      constructor
      · intro hh; exact absurd (k3 hh) hne
      · intro hh; exact absurd hh hne
    | retNone =>
      simp only
      have hnil := s3.1 rfl
      refine ⟨by intro u hu; simp at hu, fun _ => s1, ?_⟩
      simp [hnil]
    | ret u =>
      rcases s4 with h | h <;> simp at h

example : flCall { futs := [5, 6, 7], scan := none } [false, false, false, false, true] = ({ futs := [5, 7], scan := none }, some (.ret 6), 5, [5, 6, 7, 5, 6])
    ∧ flCall { futs := [], scan := none } [true] = ({ futs := [], scan := none }, some .retNone, 0, []) := ⟨rfl, rfl⟩

/-! ## the failure classes of a unit (`Model/RunnerSysX.lean`)

`Outcome.exc` above is an exception that `except Exception` catches and
`Future.set_exception` accepts.  Before the repair "every failure of a unit reaches its future" (`_run_unit`)
a unit that raised `SystemExit` / `KeyboardInterrupt` / `asyncio.CancelledError` / any other non-`Exception`,
or `StopIteration`, was NEVER delivered (witness run on the real aiorunner) and the theorems of this file held
only under the guard `xrun_plain`.  `_run_unit` converts these classes in the pool process:
`xrun_refines` — every history with any failure class is a `RunnerSys` history, so the theorems above need no
guard — and `every_failure_delivered`.  The old behaviour is kept as the RECORD `RunnerSysX.AsIs`
(`xrun_plain`, `base_exception_unit_lost`, `delivers_every_exception_counterexample` are about it); the tie
accepts either behaviour as a whole and reports the record as the finding
`C17:runner:unhandled-exception-class-never-delivered`. -/
section FailureClasses
open Infretis.RunnerSysX

theorem xstep_is_fstep {s : Sys} {ev : XEv} {r} (h : xstep s ev = some r) : fstep s (toFEv ev) = some r := by
  cases ev with
  | plain e => exact h
  | resumeFail w c e =>
    simp only [xstep] at h
    split at h
    · exact h
    · simp at h

/-- **No guard.**  Every history of the runner's system in which units fail with ANY class of
    exception is a history of `RunnerSys` (the failure comes back as `Outcome.exc (converted c e)`):
    `sys_refines`, `sys_exactly_once`, `sys_no_crash`, `sys_delivery`, `stop_terminates`,
    `stop_returns_clean` hold for it as they stand. -/
theorem xrun_refines : ∀ (evs : List XEv) (s s' : Sys) (out : List Event), xrun s evs = some (s', out) →
    frun s (evs.map toFEv) = some (s', out) := by
  intro evs
  induction evs with
  | nil => intro s s' out h; simpa [xrun, frun] using h
  | cons e t ih =>
    intro s s' out h
    simp only [xrun] at h
    split at h
    · cases h
    · rename_i s1 o1 h1
      split at h
      · cases h
      · rename_i s2 o2 h2
        simp only [List.map_cons, frun, xstep_is_fstep h1, ih s1 s2 o2 h2]
        exact h

/-- **Every failure of a unit is delivered.**  In any reachable state of the runner's system a worker
    `w` awaits unit `u` and the unit function raises — ANY class: an ordinary `Exception`,
    `StopIteration`, `CancelledError` / another non-`Exception`, `SystemExit` / `KeyboardInterrupt`.
    Then the step is possible, the future of `u` — pending until now — is set, once, with an
    exception (`converted c e`: the unit's own for an ordinary one, the `RuntimeError` of
    `_run_unit` otherwise) by `u`'s own worker, the worker goes on (it did not die), and the whole
    history still satisfies the exactly-once statement of the protocol. -/
theorem every_failure_delivered (nw : Nat) (evs : List XEv) (s : Sys) (out : List Event) (w u : Nat)
    (c : FailClass) (e : Nat) (h : xrun (RunnerSys.init nw) evs = some (s, out))
    (hw : s.pcs[w]? = some (WPc.awaiting u)) :
    ∃ s' out', xstep s (.resumeFail w c e) = some (s', out') ∧
      (∀ o, (u, o) ∉ s.done) ∧ s'.done = (u, .exc (converted c e)) :: s.done ∧
      Event.finish w u (.exc (converted c e)) ∈ out' ∧ s'.pcs[w]? ≠ some WPc.crashed ∧ s'.taskDone = s.taskDone + 1 ∧
      ∃ p, Runner.run (Runner.init nw) (out ++ out') = some p ∧ C17Runner.ExactlyOnce (out ++ out') p ∧ p.done = s'.done := by
  have hf := xrun_refines evs _ _ _ h
  obtain ⟨p0, hp0, hR, _⟩ := sim_reachable hf
  have hnd := ((sys_no_crash nw _ s out hf).2.2 w u hw).2.1
  have hany := (sim_finish hp0 hR (runUnit c e) hw).1
  -- the step is the `finish` step of `RunnerSys`: the simulation carries the protocol run and the relation over it
  have hfs := (FStep.finish w (runUnit c e) u hw hany).fstep
  have hstep : xstep s (.resumeFail w c e) = fstep s (.resume w (runUnit c e)) := by
    simp only [xstep, isAwaiting, hw, if_true]
  obtain ⟨p, hp, hR'⟩ := sim_step hp0 hR hfs
  have hrun : Runner.run (Runner.init nw) (out ++ Event.finish w u (runUnit c e) :: (loopHead w s.stopSet s.queue).2.2) = some p := by
    rw [Runner.run_append, hp0]; exact hp
  exact ⟨_, _, hstep.trans hfs, hnd, rfl, by simp [runUnit], hR'.nocrash w, rfl, p, hrun,
    C17Runner.exactly_once nw _ p hrun, hR'.done⟩

-- non-vacuity: two workers; unit 1's function calls sys.exit() (class `exit`), unit 2 completes; both are delivered
example : ∃ s out, xrun (RunnerSys.init 2) [.plain (.submit 1), .plain (.submit 2), .plain (.resume 0 (.ok 0))] = some (s, out) ∧
    s.pcs[0]? = some (WPc.awaiting 1) ∧
    ∃ s' out', xrun s [.resumeFail 0 .exit 3, .plain (.resume 0 (.ok 5)), .plain .acEnter, .plain .acCheck, .plain .acEnter,
      .plain .acCheck] = some (s', out') ∧ s'.delivered = [(1, .exc 999003), (2, .ok 5)] ∧ s'.fl.futs = [] := by
  refine ⟨_, _, rfl, rfl, _, _, rfl, ?_, ?_⟩ <;> decide +kernel

/-! ### RECORD: the code before the repair (`RunnerSysX.AsIs`) -/

def Lost (s : Sys) (u : Nat) : Prop :=
  u ∈ s.created ∧ u ∉ s.queue ∧ (∀ w : Nat, s.pcs[w]? ≠ some (WPc.awaiting u)) ∧ (∀ o, (u, o) ∉ s.done)

theorem loopHead_lost {u w : Nat} {stopSet : Bool} {queue : List Nat} (hq : u ∉ queue) :
    (loopHead w stopSet queue).1 ≠ WPc.awaiting u ∧ u ∉ (loopHead w stopSet queue).2.1 := by
  unfold loopHead
  split
  · exact ⟨by simp, hq⟩
  · cases queue with
    | nil => exact ⟨by simp, by simp⟩
    | cons h t =>
      simp only [List.mem_cons, not_or] at hq
      refine ⟨?_, hq.2⟩
      simp only [ne_eq, WPc.awaiting.injEq]
      exact fun e => hq.1 e.symm

/-- a lost unit stays lost: it is not in the queue, so no worker takes it; the only steps that set a future are
    those of a worker that holds its unit; and the scheduler's own steps (`as_completed()`, `stop()`) leave the
    futures created, the queue, the workers and the done futures alone -/
theorem lost_fstep {s s' : Sys} {u : Nat} {e : FEv} {out} (hL : Lost s u) (h : fstep s e = some (s', out)) :
    Lost s' u := by
  obtain ⟨hc, hq, hp, hd⟩ := hL
  have head := fun w => loopHead_lost (w := w) (stopSet := s.stopSet) hq
  cases FStep.of_fstep h with
  | submit u' _ _ hu _ =>
    have hne : u ≠ u' := fun e => hu (e ▸ hc)
    exact ⟨List.mem_append_left _ hc, fun hm => (List.mem_append.1 hm).elim hq
      (fun hm => hne (List.mem_singleton.1 hm)), hp, hd⟩
  | wake w _ _ => exact ⟨hc, (head w).2, set_ne_some (head w).1 hp, hd⟩
  | crash w _ _ _ _ => exact ⟨hc, hq, set_ne_some (by simp) hp, hd⟩
  | finish w _ u' hw _ =>
    refine ⟨hc, (head w).2, set_ne_some (head w).1 hp, fun o' hm => ?_⟩
    rcases List.mem_cons.1 hm with hm | hm
    · exact hp w ((Prod.mk.inj hm).1 ▸ hw)
    · exact hd o' hm
  | acEnter | acMiss =>
    obtain ⟨_, e⟩ := flApply_eq s _
    rw [e]
    exact ⟨hc, hq, hp, hd⟩
  | acHit | stopEnter | pollQ | waitQ | pollT | waitT => exact ⟨hc, hq, hp, hd⟩

theorem lost_xstep {x x' : AsIs.XSys} {u : Nat} {e : XEv} {out} (hL : Lost x.s u) (h : AsIs.xstep x e = some (x', out)) :
    Lost x'.s u := by
  unfold AsIs.xstep at h
  split at h
  · simp at h
  · cases e with
    | plain e =>
      simp only at h
      split at h
      · simp at h
      · rename_i s' o' hf
        cases h
        exact lost_fstep hL hf
    | resumeFail w c e =>
      cases c with
      | ordinary =>
        simp only at h
        split at h
        · split at h
          · simp at h
          · rename_i s' o' hf
            cases h
            exact lost_fstep hL hf
        · simp at h
      | stopIter => simp at h
      | base | exit =>
        -- the worker task dies: its entry becomes `crashed`, nothing else changes
        simp only at h
        split at h
        · cases h
          exact ⟨hL.1, hL.2.1, set_ne_some (by simp) hL.2.2.1, hL.2.2.2⟩
        · simp at h

theorem lost_xrun : ∀ (evs : List XEv) {x x' : AsIs.XSys} {u : Nat} {out}, Lost x.s u → AsIs.xrun x evs = some (x', out) →
    Lost x'.s u := by
  intro evs
  induction evs with
  | nil => intro x x' u out hL h; cases h; exact hL
  | cons e t ih =>
    intro x x' u out hL h
    simp only [AsIs.xrun] at h
    split at h
    · cases h
    · rename_i x1 o1 h1
      split at h
      · cases h
      · rename_i x2 o2 h2
        cases h
        exact ih (lost_xstep hL h1) h2

/-- RECORD (code before the repair): **the guard the runner theorems needed.**  A history in which
    every awaited unit comes back with a result or with an exception that `except Exception` catches
    (only `plain` events) was a history of `RunnerSys`; outside it the theorems did not apply.
    (For the code as it is: `xrun_refines`, without guard.) -/
theorem xrun_plain (evs : List FEv) (s : Sys) :
    AsIs.xrun { s := s } (evs.map XEv.plain) = (frun s evs).map (fun r => ({ s := r.1 }, r.2)) := by
  induction evs generalizing s with
  | nil => simp [AsIs.xrun, frun]
  | cons e t ih =>
    simp only [List.map_cons, AsIs.xrun, frun, AsIs.xstep, Bool.and_false, Bool.false_eq_true, ↓reduceIte]
    cases h1 : fstep s e with
    | none => simp
    | some r =>
      obtain ⟨s1, o1⟩ := r
      simp only
      rw [ih s1]
      cases h2 : frun s1 t with
      | none => simp
      | some r2 => simp

example : AsIs.xrun (AsIs.xinit 1) ([FEv.submit 7, .resume 0 (.ok 0), .resume 0 (.exc 7)].map XEv.plain) =
    (frun (RunnerSys.init 1) [.submit 7, .resume 0 (.ok 0), .resume 0 (.exc 7)]).map (fun r => ({ s := r.1 }, r.2)) :=
  xrun_plain _ _

/-- RECORD (code before the repair, `partial(self._task_f, md_item)`): **a unit that raised a
    non-`Exception` was never delivered.**  In any reachable state a worker `w` awaits unit `u`; the
    unit function raises class `base` (CancelledError, other BaseException) or `exit` (SystemExit /
    KeyboardInterrupt).  Then, whatever happens afterwards — any interleaving, any number of steps —
    the future of `u` is never done (`as_completed()` never returns it: the scheduler waits for ever)
    and no worker holds `u` any more.  Repaired by `_run_unit` (`every_failure_delivered`); the tie
    reports this behaviour as `C17:runner:unhandled-exception-class-never-delivered`. -/
theorem base_exception_unit_lost (nw : Nat) (evs : List FEv) (s : Sys) (out : List Event) (w u : Nat)
    (h : frun (RunnerSys.init nw) evs = some (s, out)) (hw : s.pcs[w]? = some (WPc.awaiting u))
    (ev : XEv) (he : (∃ e, ev = .resumeFail w .base e) ∨ (∃ e, ev = .resumeFail w .exit e)) (rest : List XEv)
    (x' : AsIs.XSys) (out' : List Event) (hr : AsIs.xrun { s := s } (ev :: rest) = some (x', out')) :
    (∀ o, (u, o) ∉ x'.s.done) ∧ u ∈ x'.s.created ∧ u ∉ x'.s.queue ∧
    (∀ w' : Nat, x'.s.pcs[w']? ≠ some (WPc.awaiting u)) := by
  obtain ⟨hcr, hnd, hnq, huniq⟩ := (sys_no_crash nw evs s out h).2.2 w u hw
  simp only [AsIs.xrun] at hr
  split at hr
  · cases hr
  · rename_i x1 o1 h1
    split at hr
    · cases hr
    · rename_i x2 o2 h2
      cases hr
      have hL1 : Lost x1.s u := by
        have hpc : ∀ w' : Nat, (s.pcs.set w WPc.crashed)[w']? ≠ some (WPc.awaiting u) := by
          intro w'
          rw [List.getElem?_set]
          split
          · split <;> simp
          · rename_i hne
            intro hx
            exact hne (huniq w' hx).symm
        rcases he with ⟨e, rfl⟩ | ⟨e, rfl⟩ <;>
        · simp [AsIs.xstep, AsIs.isResume, isAwaiting, hw] at h1
          obtain ⟨rfl, _⟩ := h1
          exact ⟨hcr, hnq, hpc, hnd⟩
      have hL := lost_xrun rest hL1 h2
      exact ⟨hL.2.2.2, hL.1, hL.2.1, hL.2.2.1⟩

/-- RECORD (code before the repair): concrete witness (1 worker, 2 units; the first raises `SystemExit`):
    nothing is ever delivered, the second unit is never even taken, and `stop()` — had the scheduler reached
    it — would poll for ever; the SAME history on the code as it is delivers the failure -/
theorem delivers_every_exception_counterexample :
    (∃ x out, AsIs.xrun (AsIs.xinit 1) [.plain (.submit 1), .plain (.submit 2), .plain (.resume 0 (.ok 0)), .resumeFail 0 .exit 3] = some (x, out) ∧
      x.s.created = [1, 2] ∧ x.s.done = [] ∧ x.s.queue = [2] ∧ x.s.pcs = [.crashed] ∧ x.loopDead = true ∧
      AsIs.xstep x (.plain (.resume 0 (.ok 0))) = none ∧ x.s.stopSet = false) ∧
    (∃ s out, xrun (RunnerSys.init 1) [.plain (.submit 1), .plain (.submit 2), .plain (.resume 0 (.ok 0)), .resumeFail 0 .exit 3] = some (s, out) ∧
      s.done = [(1, .exc 999003)] ∧ s.pcs = [.awaiting 2]) := by
  refine ⟨⟨_, _, rfl, ?_⟩, ⟨_, _, rfl, ?_⟩⟩ <;> decide +kernel

-- non-vacuity of `base_exception_unit_lost`: two workers, unit 1 comes back with a non-`Exception`, unit 2 completes
example : ∃ s out x' out', frun (RunnerSys.init 2) [.submit 1, .submit 2, .resume 0 (.ok 0)] = some (s, out) ∧
    s.pcs[0]? = some (WPc.awaiting 1) ∧
    AsIs.xrun { s := s } [.resumeFail 0 .base 0, .plain (.resume 1 (.ok 0)), .plain (.resume 1 (.ok 5)), .plain .acEnter, .plain .acCheck,
      .plain .acCheck] = some (x', out') ∧ x'.s.done = [(2, .ok 5)] ∧ x'.s.delivered = [(2, .ok 5)] ∧ x'.s.fl.futs = [1] :=
  ⟨_, _, _, _, rfl, rfl, rfl, rfl, rfl, rfl⟩

end FailureClasses

end Infretis.C17Sys
