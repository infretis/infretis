import Infretis.Lemmas.ReadersXyz
import Infretis.Lemmas.ReadersLmpRun
import Infretis.Lemmas.ReadersSpec
import Infretis.Lemmas.ReadersTrr
import Infretis.Lemmas.ReadersObj
import Infretis.Lemmas.ReadersTrrData
import Infretis.Lemmas.ReadersGmx
import Infretis.Lemmas.ReadersLmpAny
import Infretis.Lemmas.ReadersObjAny
/-!
# C13 — on-the-fly trajectory readers never return a torn frame

Model: `Infretis/Model/Readers.lean` (mirrors `ReadAndProcessOnTheFly`, `xyz_reader`, `lammpstrj_reader` of
engineparts.py).

A trajectory is the text the MD program writes, frame by frame and line by line (`XyzF`, `LmpF`);
well-formedness (`XyzF.WF N`, `LmpF.WF N`) asks for complete lines, the atom count `N ≥ 1` on the
count line, float literals where numbers are read — and nothing about the amount of blanks, the
number formats, the comment line or the order of the atom ids.  The *values* of a frame
(`decode`) are the number tokens of its complete lines, exactly as written.  A cut sequence is any
list of prefix lengths; `pollAll reader content cuts 0` polls one reader object once per prefix.

`exactStages lens decoded cuts 0` is the behaviour the property demands: every poll returns exactly
the not yet returned frames that are completely inside the visible bytes.

TRR (`get_gromacs_frames`): the size-guard state machine `trrRun` and the whole generator at byte
level (`gGen`, Model/ReadersObj.lean); the decoding of the reals is checked by the tie.

Carriage returns: since /repo d5ef98e the readers open with `newline="\n"`, so '\r' is an ordinary blank and only
'\n' ends a line — exactly what `lines` / `isBlank` of the model do; `XyzF.WF` / `LmpF.WF` put no condition on
'\r' (CRLF files, lone '\r' as a blank or in free text are inside the theorems; witness `wCR` below).
LAMMPS: the whole-schedule theorems without any cut guard are the `*_any_slack` theorems at the end of this file
(per-frame-slack specification `lmpStagesS`, Model/ReadersSlack.lean); `lmp_exact` (slack = 1) and the
`*_trailing_partial` theorems (cut guard `tbFree`) are the cases in which `lmpStagesS` coincides with the one-byte-lag
specification `lmpStages` (`lmpStagesS_eq_lmpStages`).
-/
namespace Infretis.C13
open Infretis.Readers

def xyzContent (frames : List XyzF) : List Char := (frames.map XyzF.enc).flatten
def xyzLens (frames : List XyzF) : List Nat := frames.map XyzF.len
def xyzDecoded (frames : List XyzF) : List XFrame := frames.map XyzF.decode

/-- "2\ncomment\nH 1.0 2.0 3.0\nC 4.0 5.0 6.283185\n" (43 bytes) -/
def wF1 : XyzF :=
  { cnt := ['2', '\n'],
    cmt := ['c', 'o', 'm', 'm', 'e', 'n', 't', '\n'],
    atoms := [['H', ' ', '1', '.', '0', ' ', '2', '.', '0', ' ', '3', '.', '0', '\n'],
              ['C', ' ', '4', '.', '0', ' ', '5', '.', '0', ' ', '6', '.', '2', '8', '3', '1', '8', '5', '\n']] }

/-- "   2\ncomment\nH 1.5 2.5 3.5\nC 4.5 5.5 -6.5e-1\n" (45 bytes; CP2K-style padded count line) -/
def wF2 : XyzF :=
  { cnt := [' ', ' ', ' ', '2', '\n'],
    cmt := ['c', 'o', 'm', 'm', 'e', 'n', 't', '\n'],
    atoms := [['H', ' ', '1', '.', '5', ' ', '2', '.', '5', ' ', '3', '.', '5', '\n'],
              ['C', ' ', '4', '.', '5', ' ', '5', '.', '5', ' ', '-', '6', '.', '5', 'e', '-', '1', '\n']] }

def witness : List XyzF := [wF1, wF2]

theorem isLine_of (l : List Char) (h : l.getLast? = some '\n' ∧ '\n' ∉ l.dropLast) : IsLine l := by
  obtain ⟨body, rfl⟩ := List.getLast?_eq_some_iff.mp h.1
  exact ⟨body, rfl, by simpa using h.2⟩

/-- a decidable criterion for `XyzF.WF`, for concrete frames -/
theorem xyzWF_of (N : Nat) (f : XyzF)
    (h : (f.cnt.getLast? = some '\n' ∧ '\n' ∉ f.cnt.dropLast)
      ∧ (split f.cnt).head?.bind parseInt = some (N : Int)
      ∧ (f.cmt.getLast? = some '\n' ∧ '\n' ∉ f.cmt.dropLast) ∧ f.atoms.length = N
      ∧ ∀ a ∈ f.atoms, (a.getLast? = some '\n' ∧ '\n' ∉ a.dropLast) ∧ (split a).length = 4
          ∧ ((split a).drop 1).all floatOk = true) : f.WF N where
  cnt := isLine_of _ h.1
  cntTok := by
    obtain ⟨_, h2, _⟩ := h
    cases hs : split f.cnt with
    | nil => rw [hs] at h2; cases h2
    | cons t rest => rw [hs] at h2; exact ⟨t, rest, rfl, h2⟩
  cmt := isLine_of _ h.2.2.1
  natoms := h.2.2.2.1
  atoms := fun a ha => ⟨isLine_of _ (h.2.2.2.2 a ha).1, (h.2.2.2.2 a ha).2.1, (h.2.2.2.2 a ha).2.2⟩

theorem wF1_wf : wF1.WF 2 := xyzWF_of _ _ (by decide +kernel)

theorem wF2_wf : wF2.WF 2 := xyzWF_of _ _ (by decide +kernel)

theorem witness_wf : ∀ f ∈ witness, f.WF 2 := by
  intro f hf
  simp only [witness, List.mem_cons, List.not_mem_nil, or_false] at hf
  rcases hf with rfl | rfl
  · exact wF1_wf
  · exact wF2_wf

deriving instance DecidableEq for Except

/-! ## the xyz reader as found (`asIs`, before /repo 807db24): the property fails -/

/-- the torn frame: the last number reads `6.2`, written was `6.283185` -/
def tornFrame : XFrame :=
  [[['1', '.', '0'], ['2', '.', '0'], ['3', '.', '0']],
   [['4', '.', '0'], ['5', '.', '0'], ['6', '.', '2']]]

/-- **SAFETY fails for `xyz_reader` as found.**  With 37 of the 88 bytes visible (the cut lies inside
    the last number of the first frame) the first poll returns a frame — none is completely on disk —
    whose last value is torn (`6.2` for `6.283185`); and although the file is then completed and polled
    three more times, no further frame is ever returned: the second frame is lost. -/
theorem xyz_safety_counterexample :
    (∀ f ∈ witness, f.WF 2) ∧
    pollAll (xyzReader .asIs) (xyzContent witness) [37, 88, 88, 88] 0 = .ok [[tornFrame], [], [], []] ∧
    tornFrame ∉ xyzDecoded witness ∧
    completeCount (xyzLens witness) 37 = 0 ∧
    pollAll (xyzReader .asIs) (xyzContent witness) [37, 88, 88, 88] 0
      ≠ .ok (exactStages (xyzLens witness) (xyzDecoded witness) [37, 88, 88, 88] 0) := by
  refine ⟨witness_wf, by decide +kernel, by decide +kernel, by decide +kernel, by decide +kernel⟩

/-- **NO EXCEPTION fails for `xyz_reader` as found**, in three ways: a cut just in front of the final
    newline of a frame (the next poll starts on a blank line: `i % 0`), a cut inside the leading blanks
    of the atom-count line (blank first line: `i % 0`), a cut behind the sign or inside the exponent of
    a number (`float("-")`, `float("-6.5e")`). -/
theorem xyz_noexception_counterexample :
    pollAll (xyzReader .asIs) (xyzContent witness) [42, 88] 0 = .error .zerodiv ∧
    pollAll (xyzReader .asIs) (xyzContent witness) [43, 45] 0 = .error .zerodiv ∧
    pollAll (xyzReader .asIs) (xyzContent witness) [43, 81] 0 = .error .value ∧
    pollAll (xyzReader .asIs) (xyzContent witness) [43, 85] 0 = .error .value := by
  refine ⟨by decide +kernel, by decide +kernel, by decide +kernel, by decide +kernel⟩

/-! ## the xyz reader: what does hold -/

/-- **Exactness of the repaired reader, for every byte cut** (this contains NO EXCEPTION): for every
    well-formed trajectory and *every* list of cut points the poll-by-poll output of the `repaired` reader
    is that of the exact reader. -/
theorem xyz_repaired_exact (N : Nat) (hN : 1 ≤ N) (frames : List XyzF) (hwf : ∀ f ∈ frames, f.WF N)
    (cuts : List Nat) :
    pollAll (xyzReader .repaired) (xyzContent frames) cuts 0
      = .ok (exactStages (xyzLens frames) (xyzDecoded frames) cuts 0) :=
  xyz_pollAll .repaired N hN frames hwf cuts (Or.inl rfl)

example : pollAll (xyzReader .repaired) (xyzContent witness) [37, 42, 43, 45, 81, 85, 88] 0
    = .ok [[], [], [wF1.decode], [], [], [], [wF2.decode]] := by decide +kernel

/-- **The reader as found, cuts at line ends only.**  If every visible prefix is
    empty or ends with a newline (the guard that excludes the defect), the `asIs` reader is exact, too. -/
theorem xyz_safety_partial (N : Nat) (hN : 1 ≤ N) (frames : List XyzF) (hwf : ∀ f ∈ frames, f.WF N)
    (cuts : List Nat) (hcuts : ∀ c ∈ cuts, LineEnd ((xyzContent frames).take c)) :
    pollAll (xyzReader .asIs) (xyzContent frames) cuts 0
      = .ok (exactStages (xyzLens frames) (xyzDecoded frames) cuts 0) :=
  xyz_pollAll .asIs N hN frames hwf cuts (Or.inr hcuts)

example : (∀ c ∈ [2, 24, 43, 56, 88], LineEnd ((xyzContent witness).take c)) ∧
    pollAll (xyzReader .asIs) (xyzContent witness) [2, 24, 43, 56, 88] 0
      = .ok [[], [], [wF1.decode], [], [wF2.decode]] := by
  refine ⟨?_, by decide +kernel⟩
  intro c hc
  simp only [List.mem_cons, List.not_mem_nil, or_false] at hc
  rcases hc with rfl | rfl | rfl | rfl | rfl <;> exact Or.inr (by decide +kernel)

/-- **SAFETY** (what "exact" means, stage by stage): with non-decreasing cuts, after every poll the frames
    returned so far are precisely the frames completely contained in the visible bytes — a prefix of
    the trajectory, each frame once, in order, tokens exactly as written — and they really fit into the
    visible bytes (no torn frame). Holds for any reader whose stages are `exactStages`. -/
theorem exact_safety {F : Type} (lens : List Nat) (dec : List F) (cuts : List Nat)
    (hs : cuts.Pairwise (· ≤ ·)) (k : Nat) (hk : k < cuts.length) :
    ((exactStages lens dec cuts 0).take (k + 1)).flatten = dec.take (completeCount lens cuts[k])
    ∧ sumLens (lens.take (completeCount lens cuts[k])) ≤ cuts[k] := by
  refine ⟨?_, completeCount_sum_le _ _⟩
  have := exactStages_prefix lens dec cuts 0 hs (fun _ _ => Nat.zero_le _) k hk
  simpa using this

/-- **COMPLETENESS**: once a poll has seen the whole file, everything has been returned. -/
theorem exact_complete {F : Type} (lens : List Nat) (dec : List F) (hlen : dec.length = lens.length)
    (pre : List Nat) (T : Nat) (hs : (pre ++ [T]).Pairwise (· ≤ ·)) (hT : sumLens lens ≤ T) :
    (exactStages lens dec (pre ++ [T]) 0).flatten = dec := by
  have hk : pre.length < (pre ++ [T]).length := by simp
  have := exactStages_prefix lens dec (pre ++ [T]) 0 hs (fun _ _ => Nat.zero_le _) pre.length hk
  have hl := exactStages_length lens dec (pre ++ [T]) 0
  have hl' : (exactStages lens dec (pre ++ [T]) 0).length ≤ pre.length + 1 := by rw [hl]; simp
  rw [List.take_of_length_le hl'] at this
  simp only [List.take_zero, List.nil_append] at this
  rw [this]
  have hT' : (pre ++ [T])[pre.length] = T := by simp
  rw [hT', completeCount_all lens T hT, ← hlen, List.take_length]

/-- SAFETY and COMPLETENESS of the repaired xyz reader in one statement -/
theorem xyz_repaired_safety_complete (N : Nat) (hN : 1 ≤ N) (frames : List XyzF)
    (hwf : ∀ f ∈ frames, f.WF N) (cuts : List Nat) (hs : cuts.Pairwise (· ≤ ·)) :
    ∃ stages, pollAll (xyzReader .repaired) (xyzContent frames) cuts 0 = .ok stages
      ∧ stages.length = cuts.length
      ∧ (∀ k (hk : k < cuts.length),
          (stages.take (k + 1)).flatten = (xyzDecoded frames).take (completeCount (xyzLens frames) cuts[k])
          ∧ sumLens ((xyzLens frames).take (completeCount (xyzLens frames) cuts[k])) ≤ cuts[k])
      ∧ (∀ c ∈ cuts.getLast?, (xyzContent frames).length ≤ c → stages.flatten = xyzDecoded frames) := by
  refine ⟨_, xyz_repaired_exact N hN frames hwf cuts, exactStages_length _ _ _ _, ?_, ?_⟩
  · intro k hk
    exact exact_safety _ _ cuts hs k hk
  · intro c hc hle
    obtain ⟨pre, rfl⟩ : ∃ pre, cuts = pre ++ [c] := by
      have := List.getLast?_eq_some_iff.mp (Option.mem_def.mp hc)
      exact this
    apply exact_complete _ _ (by simp [xyzDecoded, xyzLens]) pre c hs
    rw [xyzContent, flatten_enc_length] at hle
    exact hle

example : (1 ≤ 2) ∧ (∀ f ∈ witness, f.WF 2) ∧ [37, 42, 88].Pairwise (· ≤ ·) := by
  refine ⟨by decide +kernel, witness_wf, by decide +kernel⟩

/-! ## polls without growth, polls before the file exists

`xyz_repaired_exact` and `lmp_exact` quantify over *every* cut list, so schedules with several polls at the
same size (also as the last polls) are included.  Two consequences spelled out: -/

/-- a poll of an empty file — or of a file that does not exist yet, for which
    `read_and_process_content` returns `[]` without calling the reader — returns nothing, moves nothing -/
theorem poll_empty_file (v : Variant) (pos : Nat) :
    xyzReader v [] pos = .ok ([], pos) ∧ lmpReader v [] pos = .ok ([], pos) := by
  refine ⟨?_, ?_⟩ <;> simp [xyzReader, lmpReader, lines, xyzRun, lmpRun, finish, xInit, lInit]

/-- **a poll without growth returns nothing** (exact reader): the second of two polls at the same size
    has an empty stage, whatever happened before and whatever follows -/
theorem no_growth_poll_returns_nothing {F : Type} (lens : List Nat) (dec : List F) (c : Nat) (cs : List Nat)
    (done : Nat) : (exactStages lens dec (c :: c :: cs) done)[1]? = some [] := by
  have hres := completeCount_resume (lens.drop done) (completeCount (lens.drop done) (c - sumLens (lens.take done)))
    (c - sumLens (lens.take done)) (Nat.le_refl _)
  have h0 : completeCount ((lens.drop done).drop (completeCount (lens.drop done) (c - sumLens (lens.take done))))
      (c - sumLens (lens.take done)
        - sumLens ((lens.drop done).take (completeCount (lens.drop done) (c - sumLens (lens.take done))))) = 0 := by
    omega
  simp only [exactStages, List.getElem?_cons_succ, List.getElem?_cons_zero, Option.some.injEq]
  rw [sumLens_take_add, ← List.drop_drop, Nat.sub_add_eq, h0]
  simp

example : exactStages [43, 45] [0, 1] [43, 43, 43, 88, 88, 88] 0 = [[0], [], [], [1], [], []] := by decide +kernel

/-! ## non-ASCII text

The content is bytes; '\n' is the only structural byte.  All bytes of UTF-8 multi-byte characters are
≥ 0x80, so they can neither end a line nor separate tokens: the theorems above and below hold verbatim for
trajectories with arbitrary non-ASCII text in the comment line, atom names and header texts, and for
cuts inside a multi-byte character (`XyzF.WF`/`LmpF.WF` put no condition on those bytes).  One exception, left out
of the model (see the header of Model/Readers.lean): characters that are white space for `str.split()` without being
ASCII (U+0085, U+00A0, U+2000…) — the code splits there, `split` does not. -/

theorem text_nonascii_inert (c : Char) (h : 128 ≤ c.toNat) : c ≠ '\n' ∧ isBlank c = false :=
  nonascii_not_structural c h

/-- "1\n a = 5 Å\nCα 1.0 2.0 3.0\n" as bytes (Å = c3 85, α = ce b1) -/
def wU : XyzF :=
  { cnt := ['1', '\n'],
    cmt := [' ', 'a', ' ', '=', ' ', '5', ' ', '\xc3', '\x85', '\n'],
    atoms := [['C', '\xce', '\xb1', ' ', '1', '.', '0', ' ', '2', '.', '0', ' ', '3', '.', '0', '\n']] }

theorem wU_wf : wU.WF 1 := xyzWF_of _ _ (by decide +kernel)

/-- cuts inside Å (byte 10) and inside α (byte 14), then the complete 28-byte frame twice -/
example : (∀ f ∈ [wU, wU], f.WF 1) ∧
    pollAll (xyzReader .repaired) (xyzContent [wU, wU]) [10, 14, 28, 38, 42, 56] 0
      = .ok [[], [], [wU.decode], [], [], [wU.decode]] := by
  refine ⟨?_, by decide +kernel⟩
  intro f hf
  simp only [List.mem_cons, List.not_mem_nil, or_false] at hf
  rcases hf with rfl | rfl <;> exact wU_wf

/-! ## the LAMMPS reader

`LmpF.WF N`: complete lines; the first line not white space only; line 4 starts with the integer `N ≥ 1`; three
box lines of two or three float literals; `N` atom lines `id type x y z vx vy vz id` (nine tokens, first = last, a
valid row index, float literals, ANY blanks/tabs between the trailing id and the newline — what LAMMPS writes);
header texts, blanks, number formats, id order arbitrary.  `f.slack` = number of bytes behind the trailing id of
the LAST atom line of the frame (its white space and the newline; 1 = only the newline).
`lmpStages` states the reader's one-poll lag honestly: a frame is returned as soon as everything but
its final newline is visible; the poll that then meets this newline only skips it and returns nothing. -/

def lmpContent (frames : List LmpF) : List Char := (frames.map LmpF.enc).flatten
def lmpLens (frames : List LmpF) : List Nat := frames.map LmpF.len
def lmpDecoded (N : Nat) (frames : List LmpF) : List LFrame := frames.map (LmpF.decode N)

/-- the terminating newline does not change what `line.split()` returns -/
theorem lmp_newline_irrelevant (body : List Char) : split (body ++ ['\n']) = split body :=
  split_append_nl body

/-- **trailing-id sentinel**: for an atom line `id type x y z vx vy vz id` (nine tokens, first = last, no
    blank after the trailing id, any blanks elsewhere) every strict prefix is rejected by
    `len(spl) != 9 or spl[0] != spl[-1]` — no torn atom line is ever accepted, at any byte cut. -/
theorem lmp_torn_atom_line_rejected (st : LSt) (body init : List Char) (c : Char)
    (hb : body = init ++ [c]) (hc : isBlank c = false) (h9 : (split body).length = 9)
    (hid : (split body).head? = (split body).getLast?) (n : Nat) (hn : n < body.length)
    (hline : 9 ≤ st.i % st.block) (tell' : Nat) :
    lBody st ((body ++ ['\n']).take n) (split ((body ++ ['\n']).take n)) tell' = .ret (st.traj, st.pos) :=
  lBody_torn_atom st body init c hb hc h9 hid n hn hline tell'

example : (split ['1', '2', ' ', '1', ' ', '1', ' ', '2', ' ', '3', ' ', '4', ' ', '5', ' ', '6', ' ', '1', '2']).length = 9
    ∧ (split ['1', '2', ' ', '1', ' ', '1', ' ', '2', ' ', '3', ' ', '4', ' ', '5', ' ', '6', ' ', '1', '2']).head? = (split ['1', '2', ' ', '1', ' ', '1', ' ', '2', ' ', '3', ' ', '4', ' ', '5', ' ', '6', ' ', '1', '2']).getLast?
    ∧ isBlank '2' = false := by decide +kernel

/-- "T\n0\nN\n1\nB\n0 1\n0 1\n0 1\nA\n1 1 1 2 3 4 5 6 1\n" (42 bytes; header texts shortened — the reader
    never looks at them) -/
def wL1 : LmpF :=
  { l0 := ['T', '\n'],
    l1 := ['0', '\n'],
    l2 := ['N', '\n'],
    l3 := ['1', '\n'],
    l4 := ['B', '\n'],
    b0 := ['0', ' ', '1', '\n'],
    b1 := ['0', ' ', '1', '\n'],
    b2 := ['0', ' ', '1', '\n'],
    l8 := ['A', '\n'],
    atoms := [['1', ' ', '1', ' ', '1', ' ', '2', ' ', '3', ' ', '4', ' ', '5', ' ', '6', ' ', '1', '\n']] }

/-- "T\n5\nN\n1\nB\n0 2 0\n0 2 0\n0 2 0\nA\n1 1 7 8 9 -1 .5 6e1 1\n" (52 bytes, 3-column box lines) -/
def wL2 : LmpF :=
  { l0 := ['T', '\n'],
    l1 := ['5', '\n'],
    l2 := ['N', '\n'],
    l3 := ['1', '\n'],
    l4 := ['B', '\n'],
    b0 := ['0', ' ', '2', ' ', '0', '\n'],
    b1 := ['0', ' ', '2', ' ', '0', '\n'],
    b2 := ['0', ' ', '2', ' ', '0', '\n'],
    l8 := ['A', '\n'],
    atoms := [['1', ' ', '1', ' ', '7', ' ', '8', ' ', '9', ' ', '-', '1', ' ', '.', '5', ' ', '6', 'e', '1', ' ', '1', '\n']] }

theorem lBoxOK_of (b : Line)
    (h : (b.getLast? = some '\n' ∧ '\n' ∉ b.dropLast) ∧ ((split b).length = 2 ∨ (split b).length = 3)
      ∧ (split b).all floatOk = true) : LBoxOK b :=
  ⟨isLine_of _ h.1, h.2.1, h.2.2⟩

/-- a decidable criterion for `LmpF.WF`, for concrete frames (`k` = where the trailing id of an atom line ends) -/
theorem lmpWF_of (N : Nat) (f : LmpF)
    (h : (∀ l ∈ [f.l0, f.l1, f.l2, f.l3, f.l4, f.l8], l.getLast? = some '\n' ∧ '\n' ∉ l.dropLast)
      ∧ (∃ c ∈ f.l0, isBlank c = false) ∧ (split f.l3).head?.bind parseInt = some (N : Int)
      ∧ (∀ b ∈ [f.b0, f.b1, f.b2], (b.getLast? = some '\n' ∧ '\n' ∉ b.dropLast)
          ∧ ((split b).length = 2 ∨ (split b).length = 3) ∧ (split b).all floatOk = true)
      ∧ f.atoms.length = N
      ∧ ∀ a ∈ f.atoms,
          (∃ k, k < a.length ∧ ∃ c, a[k]? = some c ∧ a = ((a.take k ++ [c]) ++ (a.drop (k + 1)).dropLast) ++ ['\n']
            ∧ '\n' ∉ a.take k ∧ isBlank c = false ∧ ∀ x ∈ (a.drop (k + 1)).dropLast, isBlank x = true ∧ x ≠ '\n')
          ∧ (split a).length = 9 ∧ (split a).head? = (split a).getLast?
          ∧ ((parseInt ((split a).headD [])).bind fun id => pyIndex N (id - 1)).isSome = true
          ∧ (((split a).drop 2).take 6).all floatOk = true) : f.WF N := by
  obtain ⟨hl, h0, h3, hb, hn, ha⟩ := h
  have line : ∀ l ∈ [f.l0, f.l1, f.l2, f.l3, f.l4, f.l8], IsLine l := fun l hm => isLine_of l (hl l hm)
  refine ⟨line _ (by simp), h0, line _ (by simp), line _ (by simp), line _ (by simp), ?_, line _ (by simp),
    lBoxOK_of _ (hb _ (by simp)), lBoxOK_of _ (hb _ (by simp)), lBoxOK_of _ (hb _ (by simp)), line _ (by simp), hn, ?_⟩
  · cases hs : split f.l3 with
    | nil => rw [hs] at h3; cases h3
    | cons t rest => rw [hs] at h3; exact ⟨t, rest, rfl, h3⟩
  · intro a hm
    obtain ⟨⟨k, _, c, _, e, h1, h2, h4⟩, t1, t2, t3, t4⟩ := ha a hm
    refine ⟨⟨_, c, _, e, h1, h2, h4⟩, t1, t2, ?_, t4⟩
    cases hp : parseInt ((split a).headD []) with
    | none => rw [hp] at t3; cases t3
    | some id =>
      rw [hp] at t3
      exact ⟨id, _, rfl, (Option.isSome_iff_exists.mp t3).choose_spec⟩

theorem wL1_wf : wL1.WF 1 := lmpWF_of _ _ (by decide +kernel)

theorem wL2_wf : wL2.WF 1 := lmpWF_of _ _ (by decide +kernel)

def wLmpFrames : List LmpF := [wL1, wL2]

theorem wLmp_wf : ∀ f ∈ wLmpFrames, f.WF 1 := by
  intro f hf
  simp only [wLmpFrames, List.mem_cons, List.not_mem_nil, or_false] at hf
  rcases hf with rfl | rfl
  · exact wL1_wf
  · exact wL2_wf

/-- **Exactness of `lammpstrj_reader` (the code as it is now), atom lines with any
    white space behind the trailing id** — for every list of cut points none of which falls strictly inside the
    white space behind the trailing id of a frame's LAST atom line (`tbFree`: the first incomplete frame misses
    more than its `slack` bytes, or exactly its final newline): the reader polled on the growing file returns,
    poll by poll, exactly what `lmpStages` says.  This contains NO EXCEPTION.
    A cut inside that white space makes the reader return the frame already then (`lmp_trailing_frame_poll`, all
    values are there) and the next polls skip the late line end (`lmp_late_line_end_skipped`): that is the unguarded
    statement `lmp_exact_any_slack`, of which this is the case where `lmpStagesS` and `lmpStages` agree. -/
theorem lmp_exact_trailing_partial (N : Nat) (hN : 1 ≤ N) (frames : List LmpF) (hwf : ∀ f ∈ frames, f.WF N)
    (cuts : List Nat) (hfree : ∀ c ∈ cuts, tbFree frames c) :
    pollAll (lmpReader .repaired) (lmpContent frames) cuts 0
      = .ok (lmpStages (lmpLens frames) (lmpDecoded N frames) cuts 0 false) := by
  rw [lmpLens, ← frOf_fst, ← lmpStagesS_eq_lmpStages (frOf frames) _ cuts
    (fun c hc => lmpCountS_drop_of_tbFree N hN frames hwf c (hfree c hc)) 0 false]
  exact lmp_pollAllS N hN frames hwf cuts

/-- **Exactness of `lammpstrj_reader` for every byte cut** (this contains NO EXCEPTION): for every
    well-formed LAMMPS trajectory whose frames end right behind the trailing id of their last atom line
    (`slack = 1`; all other atom lines may carry any white space there) and *every* list of cut points, the
    reader object polled on the growing file returns, poll by poll, exactly what `lmpStages` says. -/
theorem lmp_exact (N : Nat) (hN : 1 ≤ N) (frames : List LmpF) (hwf : ∀ f ∈ frames, f.WF N)
    (hntb : ∀ f ∈ frames, f.slack = 1) (cuts : List Nat) :
    pollAll (lmpReader .repaired) (lmpContent frames) cuts 0
      = .ok (lmpStages (lmpLens frames) (lmpDecoded N frames) cuts 0 false) :=
  lmp_exact_trailing_partial N hN frames hwf cuts (fun c _ => tbFree_of_slack_one frames hntb c)

instance : DecidableEq LFrame := inferInstanceAs (DecidableEq (List (List (List Char)) × List (List (List Char))))

/-- non-vacuity, incl. the late-newline lag: cut 41 = everything but the final newline of frame 1 — the
    frame is returned; the next poll only skips the newline; the poll after that returns frame 2 -/
example : (1 ≤ 1) ∧ (∀ f ∈ wLmpFrames, f.WF 1) ∧
    pollAll (lmpReader .repaired) (lmpContent wLmpFrames) [1, 7, 12, 20, 30, 40, 41, 94, 94, 94] 0
      = .ok [[], [], [], [], [], [], [wL1.decode 1], [], [wL2.decode 1], []] := by
  refine ⟨by decide +kernel, wLmp_wf, by decide +kernel⟩

/-- **values exactly as written**: in a decoded frame, the row `id − 1` of every atom holds its six tokens
    `x y z vx vy vz` (given that the ids of the frame go to pairwise different rows) -/
theorem lmp_decode_row (N : Nat) (f : LmpF) (hf : f.WF N)
    (hd : f.atoms.Pairwise (fun x y => atomIdx N x ≠ atomIdx N y)) (a : Line) (ha : a ∈ f.atoms) :
    ∃ k, atomIdx N a = some k ∧ k < N ∧ (f.decode N).1[k]? = some (((split a).drop 2).take 6) := by
  obtain ⟨id, k, hp, hk⟩ := (hf.atoms a ha).tok.idx
  have hka : atomIdx N a = some k := by
    unfold atomIdx; rw [hp]; exact hk
  have hkN : k < N := by
    unfold pyIndex at hk
    split at hk
    · injection hk with hk; omega
    · split at hk
      · injection hk with hk; omega
      · cases hk
  exact ⟨k, hka, hkN, decode_row N f.atoms (zeros N 6) hd a ha k hka (by simp [zeros]; exact hkN)⟩

example : (wL2.decode 1).1[0]? = some [['7'], ['8'], ['9'], ['-', '1'], ['.', '5'], ['6', 'e', '1']] := by decide +kernel

/-- **SAFETY of the stage behaviour, any slack**: for non-decreasing cuts, after every poll the frames returned so
    far are a prefix of the trajectory (each once, in order), and all their bytes were visible at that poll except
    `miss` bytes that lie inside the slack of the last returned frame — the white space and the newline behind the
    trailing id of its last atom line, never a byte of a value (no torn frame). -/
theorem lmpStagesS_safety {F : Type} (fr : List (Nat × Nat)) (dec : List F) (cuts : List Nat)
    (hs : cuts.Pairwise (· ≤ ·)) (k : Nat) (hk : k < cuts.length) :
    ∃ d miss, ((lmpStagesS fr dec cuts 0 0).take (k + 1)).flatten = dec.take d ∧ d ≤ fr.length
      ∧ endOf fr d ≤ cuts[k] + miss ∧ (miss = 0 ∨ (1 ≤ d ∧ ∃ f, fr[d - 1]? = some f ∧ miss ≤ f.2)) := by
  have hk1 : cuts.take (k + 1) = cuts.take k ++ [cuts[k]] := List.take_succ_eq_append_getElem hk
  refine ⟨_, _, by rw [lmpStagesS_take, lmpStagesS_flatten_init], lmpFinalS_inv (c0 := 0)
    (List.pairwise_cons.mpr ⟨fun _ _ => Nat.zero_le _, hs.sublist (List.take_sublist _ _)⟩) (LInvS.zero fr) ?_⟩
  -- every cut up to the `k`-th is at most the `k`-th
  intro x hx
  rw [hk1] at hx
  rcases List.mem_cons.mp hx with rfl | hx
  · exact Nat.zero_le _
  · rcases List.mem_append.mp hx with hx | hx
    · exact (List.pairwise_append.mp (hk1 ▸ hs.sublist (List.take_sublist _ _))).2.2 x hx _ (List.mem_singleton_self _)
    · exact Nat.le_of_eq (List.mem_singleton.mp hx)

/-- **COMPLETENESS of the stage behaviour, any slack**: after two polls that see the complete file every frame has
    been returned — one poll may be spent on a line end that arrived late. -/
theorem lmpStagesS_complete {F : Type} (fr : List (Nat × Nat)) (dec : List F) (hlen : dec.length = fr.length)
    (pre : List Nat) (T : Nat) (hT : sumLens (fr.map Prod.fst) ≤ T) :
    (lmpStagesS fr dec (pre ++ [T, T]) 0 0).flatten = dec := by
  rw [lmpStagesS_flatten_init, lmpFinalS_append,
    lmpS_final_polls fr T hT _ _ (lmpFinalS_le fr pre 0 0 (Nat.zero_le _)), ← hlen, List.take_length]

example : [41, 86, 86].Pairwise (· ≤ ·) ∧ sumLens ([(43, 2), (43, 2)].map Prod.fst) ≤ 86
    ∧ (lmpStagesS [(43, 2), (43, 2)] [0, 1] ([41] ++ [86, 86]) 0 0).flatten = [0, 1] := by decide +kernel

/-- **SAFETY of the stage behaviour (with the lag stated)**: for non-decreasing cuts, after every poll the
    frames returned so far are a prefix of the trajectory (each once, in order), and all their bytes
    except possibly the final newline of the last one were visible at that poll (no torn frame). -/
theorem lmpStages_safety {F : Type} (lens : List Nat) (dec : List F) (cuts : List Nat)
    (hs : cuts.Pairwise (· ≤ ·)) (k : Nat) (hk : k < cuts.length) :
    ∃ d, ((lmpStages lens dec cuts 0 false).take (k + 1)).flatten = dec.take d ∧ d ≤ lens.length
      ∧ sumLens (lens.take d) ≤ cuts[k] + 1 := by
  rw [lmpStages_eq_lmpStagesS]
  obtain ⟨d, miss, h1, h2, h3, h4⟩ := lmpStagesS_safety (lens.map (·, 1)) dec cuts hs k hk
  rw [endOf_eq_sumLens, map_fst_slack_one] at h3
  refine ⟨d, h1, by simpa using h2, ?_⟩
  -- every slack is 1, so at most one byte is missing
  rcases h4 with rfl | ⟨_, f, hf, hle⟩
  · omega
  · obtain ⟨l, _, rfl⟩ := List.mem_map.mp (List.mem_of_getElem? hf)
    simp only at hle
    omega

/-- **COMPLETENESS of the stage behaviour**: after two polls that see the complete file (the engines poll
    twice more after the MD program stopped) every frame has been returned — one poll may be spent on a
    newline that arrived late. -/
theorem lmpStages_complete {F : Type} (lens : List Nat) (dec : List F)
    (hlen : dec.length = lens.length) (pre : List Nat) (T : Nat) (hT : sumLens lens ≤ T) :
    (lmpStages lens dec (pre ++ [T, T]) 0 false).flatten = dec := by
  rw [lmpStages_eq_lmpStagesS]
  exact lmpStagesS_complete (lens.map (·, 1)) dec (by simpa using hlen) pre T (by rwa [map_fst_slack_one])

example : [3, 44, 44].Pairwise (· ≤ ·) ∧ sumLens [44] ≤ 44 := by decide +kernel

/-- SAFETY, NO EXCEPTION and COMPLETENESS of `lammpstrj_reader` (code as it is now) for trajectories with any
    white space behind the trailing ids, under the cut guard of `lmp_exact_trailing_partial` -/
theorem lmp_safety_complete_trailing_partial (N : Nat) (hN : 1 ≤ N) (frames : List LmpF)
    (hwf : ∀ f ∈ frames, f.WF N) (cuts : List Nat) (hs : cuts.Pairwise (· ≤ ·))
    (hfree : ∀ c ∈ cuts, tbFree frames c) :
    ∃ stages, pollAll (lmpReader .repaired) (lmpContent frames) cuts 0 = .ok stages
      ∧ stages.length = cuts.length
      ∧ (∀ k (hk : k < cuts.length), ∃ d,
          (stages.take (k + 1)).flatten = (lmpDecoded N frames).take d ∧ d ≤ frames.length
          ∧ sumLens ((lmpLens frames).take d) ≤ cuts[k] + 1)
      ∧ (∀ pre T, cuts = pre ++ [T, T] → (lmpContent frames).length ≤ T →
          stages.flatten = lmpDecoded N frames) := by
  refine ⟨_, lmp_exact_trailing_partial N hN frames hwf cuts hfree, lmpStages_length _ _ _ _ _, ?_, ?_⟩
  · intro k hk
    obtain ⟨d, h1, h2, h3⟩ := lmpStages_safety (lmpLens frames) (lmpDecoded N frames) cuts hs k hk
    exact ⟨d, h1, by simpa [lmpLens] using h2, h3⟩
  · intro pre T hc hT
    subst hc
    apply lmpStages_complete _ _ (by simp [lmpDecoded, lmpLens]) pre T
    rw [lmpContent, flatten_lenc_length] at hT
    exact hT

/-- SAFETY, NO EXCEPTION and COMPLETENESS of `lammpstrj_reader` in one statement about the reader itself -/
theorem lmp_safety_complete (N : Nat) (hN : 1 ≤ N) (frames : List LmpF) (hwf : ∀ f ∈ frames, f.WF N)
    (hntb : ∀ f ∈ frames, f.slack = 1) (cuts : List Nat) (hs : cuts.Pairwise (· ≤ ·)) :
    ∃ stages, pollAll (lmpReader .repaired) (lmpContent frames) cuts 0 = .ok stages
      ∧ stages.length = cuts.length
      ∧ (∀ k (hk : k < cuts.length), ∃ d,
          (stages.take (k + 1)).flatten = (lmpDecoded N frames).take d ∧ d ≤ frames.length
          ∧ sumLens ((lmpLens frames).take d) ≤ cuts[k] + 1)
      ∧ (∀ pre T, cuts = pre ++ [T, T] → (lmpContent frames).length ≤ T →
          stages.flatten = lmpDecoded N frames) :=
  lmp_safety_complete_trailing_partial N hN frames hwf cuts hs (fun c _ => tbFree_of_slack_one frames hntb c)

example : (1 ≤ 1) ∧ (∀ f ∈ wLmpFrames, f.WF 1) ∧ [41, 60, 94, 94].Pairwise (· ≤ ·)
    ∧ [41, 60, 94, 94] = [41, 60] ++ [94, 94] ∧ (lmpContent wLmpFrames).length ≤ 94 := by
  refine ⟨by decide +kernel, wLmp_wf, by decide +kernel, rfl, by decide +kernel⟩

/-! ## TRR: the size guards of `get_gromacs_frames`

Model `trrTick`/`trrRun` (Model/Readers.lean): one tick = one evaluation of a size guard with the file size
observed at that moment; a frame is abstracted to the sizes of its header and data block.  Decoding, byte
order and precision are outside the model (the tie compares decoded values for all four combinations). -/

/-- **no read is issued unless the bytes are there, and every read is exactly a frame's header or data
    block at that frame's offset** — for every sequence of observed file sizes whatsoever, provided all
    headers have the same size `H ≤ TRR_HEAD_SIZE` (GROMACS: 84 or 92 bytes; data sizes may vary). -/
theorem trr_reads_safe (frames : List TFrame) (H : Nat) (hH : ∀ f ∈ frames, f.hsize = H)
    (hle : H ≤ trrHeadSize) (hpos : 0 < H) (sizes : List Nat) :
    ∀ e ∈ trrRun frames sizes tInit, EvOK frames e :=
  trrRun_ok frames H hH hle hpos sizes tInit (tInit_inv frames H)

example : (∀ f ∈ [(⟨92, 1992⟩ : TFrame), ⟨92, 1992⟩], f.hsize = 92) ∧ 92 ≤ trrHeadSize ∧
    trrRun [⟨92, 1992⟩, ⟨92, 1992⟩] [500, 1000, 2000, 2084, 2100, 2175, 2176, 4000, 4168] tInit
      = [.wait, .read 0 92 1000, .wait, .read 92 1992 2084, .yield 0, .wait, .wait, .read 2084 92 2176,
         .wait, .read 2176 1992 4168, .yield 1] := by
  refine ⟨by decide +kernel, by decide +kernel, by decide +kernel⟩

/-- the first header guard only protects headers of at most `TRR_HEAD_SIZE` bytes (witness: a 1200-byte
    header would be requested with 1000 bytes visible) — the hypothesis `H ≤ TRR_HEAD_SIZE` is needed -/
theorem trr_guard_needs_small_header :
    trrRun [⟨1200, 10⟩] [1000] tInit = [.read 0 1200 1000] ∧ ¬ EvOK [⟨1200, 10⟩] (.read 0 1200 1000) := by
  refine ⟨by decide +kernel, ?_⟩
  intro h
  have := h.1
  omega

/-- **no TRR frame is withheld** (heterogeneous frames included): once the header size has been learned,
    a frame that is completely visible is yielded by the next two guard evaluations — the data guard waits
    for the frame's *own* data size, taken from its own header. -/
theorem trr_no_frame_withheld (frames : List TFrame) (H : Nat) (hH : ∀ f ∈ frames, f.hsize = H) (hpos : 0 < H)
    (st : TSt) (hinv : TInv frames H st) (hl : st.headerSize = H) (hp : st.pending = none)
    (f : TFrame) (hf : frames[st.k]? = some f) (size : Nat) (hs : tOffset frames (st.k + 1) ≤ size) :
    TEv.yield st.k ∈ trrRun frames [size, size] st := by
  have hb : st.bytesRead = tOffset frames st.k := by
    have := hinv.2; rw [hp] at this; exact this
  have hfH : f.hsize = H := hH f (List.mem_of_getElem? hf)
  rw [tOffset_succ frames st.k f hf] at hs
  have hne : ¬ (H = 0) := by omega
  have hg1 : size ≥ st.bytesRead + H := by omega
  have hg2 : size ≥ st.bytesRead + f.hsize + f.dsize := by omega
  simp [trrRun, trrTick, hp, hl, hne, hg1, hf, hg2]

/-- frames with different blocks (x+v+f, then x only, then x+v): each guard uses the frame's own size -/
example : trrRun [⟨92, 936⟩, ⟨92, 360⟩, ⟨92, 648⟩] [1000, 1027, 1028, 1479, 1480, 1572, 2219, 2220] tInit
    = [.read 0 92 1000, .wait, .read 92 936 1028, .yield 0, .read 1028 92 1479,
       .read 1120 360 1480, .yield 1, .read 1480 92 1572, .wait, .read 1572 648 2220, .yield 2] := by decide +kernel

/-! ### TRR header decoding at byte level (`read_trr_header`, `is_double`) -/

/-- **header bytes → frame size**: for both byte orders and both precisions, the header GROMACS writes
    (magic 1993, (13, 12), "GMX_trn_file", 13 ints < 2³¹, two reals) is decoded to exactly its integers;
    the byte order and precision are recognised; 76 + 2·(4|8) bytes are consumed — so the sizes the guard
    machine `trrRun` works with are functions of the header bytes: header size 84/92, data size
    box+vir+pres+x+v+f of *this* header. -/
theorem trr_header_bytes (little dbl : Bool) (ns : List Nat) (hlen : ns.length = 13)
    (hb : ∀ n ∈ ns, n < 2147483648) (hd : isDouble (ns.map Int.ofNat) = .ok dbl)
    (reals : List Nat) (hr : reals.length = 2 * (if dbl then 8 else 4)) (rest : List Nat) :
    ∃ h, trrHeader (encHeader little ns reals ++ rest) = .ok (h, rest)
      ∧ h.little = little ∧ h.double = dbl ∧ h.ints = ns.map Int.ofNat
      ∧ h.frame = ⟨76 + 2 * (if dbl then 8 else 4), (dataSize (ns.map Int.ofNat)).toNat⟩ :=
  ⟨_, trrHeader_encHeader little dbl ns hlen hb hd reals hr rest, rfl, rfl, rfl, rfl⟩

/-- 12 atoms, double precision, box + x + v, written little-endian, followed by 3 further bytes -/
example : isDouble ([0, 0, 72, 0, 0, 0, 0, 288, 288, 0, 12, 5, 0].map Int.ofNat) = .ok true ∧
    (trrHeader (encHeader true [0, 0, 72, 0, 0, 0, 0, 288, 288, 0, 12, 5, 0] (List.replicate 16 7) ++ [1, 2, 3])).map
      (fun r => (r.1.frame.hsize, r.1.frame.dsize, r.1.little, r.1.double, r.2)) = .ok (92, 648, true, true, [1, 2, 3]) := by
  refine ⟨by decide +kernel, by decide +kernel⟩

/-! ## the reader OBJECT: `ReadAndProcessOnTheFly` with `current_position` / `previous_position`

Model `rpRun` (Model/ReadersObj.lean): one object polled on a sequence of file states (`none` = the file does
not exist: `FileNotFoundError → []`).  The driver runs `rpRun`; the tie compares frames, `current_position`
and `previous_position` after every poll. -/

/-- **`previous_position` is write-only, and the object is the function model**: for every content and every
    object state, the frames returned and the new `current_position` are those of `xyzReader` / `lmpReader`
    at `current_position` — `previous_position` never influences a poll. -/
theorem rp_object_is_function (v : Variant) (content : List Char) (o : RP) :
    objProj (xyzReaderO v content o) = xyzReader v content o.cur
    ∧ objProj (lmpReaderO v content o) = lmpReader v content o.cur :=
  ⟨xyzReaderO_proj v content o, lmpReaderO_proj v content o⟩

example : xyzReaderO .repaired (xyzContent witness) ⟨0, 7⟩ = .ok ([wF1.decode, wF2.decode], ⟨88, 43⟩)
    ∧ xyzReader .repaired (xyzContent witness) 0 = .ok ([wF1.decode, wF2.decode], 88) := by decide +kernel

/-- **the object polled on growing prefixes is `pollAll`** — so `xyz_repaired_exact`, `lmp_exact` and all
    their consequences are theorems about the object the driver runs -/
theorem rp_eq_pollAll (v : Variant) (content : List Char) (cuts : List Nat) :
    stagesFrames (rpRun (xyzReaderO v) (visible content (cuts.map some)) rpInit) = pollAll (xyzReader v) content cuts 0
    ∧ stagesFrames (rpRun (lmpReaderO v) (visible content (cuts.map some)) rpInit) = pollAll (lmpReader v) content cuts 0 :=
  ⟨rpRun_eq_pollAll _ _ (xyzReaderO_proj v) content cuts rpInit,
   rpRun_eq_pollAll _ _ (lmpReaderO_proj v) content cuts rpInit⟩

example : stagesFrames (rpRun (xyzReaderO .repaired) (visible (xyzContent witness) ([37, 43, 88].map some)) rpInit)
    = .ok [[], [wF1.decode], [wF2.decode]] := by decide +kernel

/-- **xyz, any sequence of polls of an append-only file (absent, any prefix, in any order), with positions**:
    every poll returns exactly the not yet returned frames that are completely visible, and leaves
    `current_position` at the end of the last frame returned so far — never inside a frame. -/
theorem rp_xyz_exact_pos (N : Nat) (hN : 1 ≤ N) (frames : List XyzF) (hwf : ∀ f ∈ frames, f.WF N)
    (evs : List (Option Nat)) :
    stagesPos (rpRun (xyzReaderO .repaired) (visible (xyzContent frames) evs) rpInit)
      = .ok (exactStagesPos (xyzLens frames) (xyzDecoded frames) evs 0) := by
  have := xyz_rpRun_pos .repaired N hN frames hwf evs (Or.inl rfl) 0 0
  simpa [sumLens, xyzContent, xyzLens, xyzDecoded, rpInit] using this

instance : DecidableEq XFrame := inferInstanceAs (DecidableEq (List (List (List Char))))

/-- file absent, absent, 37 bytes (inside frame 1), frame 1 complete, no growth, everything, no growth -/
example : (∀ f ∈ witness, f.WF 2) ∧
    stagesPos (rpRun (xyzReaderO .repaired) (visible (xyzContent witness) [none, none, some 37, some 43, some 43, some 88, some 88]) rpInit)
      = .ok [(([] : List XFrame), 0), ([], 0), ([], 0), ([wF1.decode], 43), ([], 43), ([wF2.decode], 88), ([], 88)] := by
  refine ⟨witness_wf, ?_⟩
  decide +kernel

/-- **LAMMPS, positions, any white space behind the trailing ids, guarded** (see `lmp_exact_trailing_partial`) -/
theorem rp_lmp_exact_pos_trailing_partial (N : Nat) (hN : 1 ≤ N) (frames : List LmpF)
    (hwf : ∀ f ∈ frames, f.WF N) (evs : List (Option Nat)) (hfree : ∀ e ∈ evs, tbFree frames (visBytes e)) :
    stagesPos (rpRun (lmpReaderO .repaired) (visible (lmpContent frames) evs) rpInit)
      = .ok (lmpStagesPos (lmpLens frames) (lmpDecoded N frames) evs 0 false) := by
  rw [lmpLens, ← frOf_fst, ← lmpStagesPosS_eq_lmpStagesPos (frOf frames) _ evs
    (fun c hc => lmpCountS_drop_of_tbFree N hN frames hwf c (hfree (some c) hc)) 0 false]
  exact lmp_rpRun_posS_init N hN frames hwf evs

/-- **LAMMPS, the same with the one-poll lag**: `current_position` is the end of the last frame returned, minus
    one while that frame's final newline has not been consumed -/
theorem rp_lmp_exact_pos (N : Nat) (hN : 1 ≤ N) (frames : List LmpF) (hwf : ∀ f ∈ frames, f.WF N)
    (hntb : ∀ f ∈ frames, f.slack = 1) (evs : List (Option Nat)) :
    stagesPos (rpRun (lmpReaderO .repaired) (visible (lmpContent frames) evs) rpInit)
      = .ok (lmpStagesPos (lmpLens frames) (lmpDecoded N frames) evs 0 false) :=
  rp_lmp_exact_pos_trailing_partial N hN frames hwf evs (fun _ _ => tbFree_of_slack_one frames hntb _)

example : (∀ f ∈ wLmpFrames, f.WF 1) ∧
    stagesPos (rpRun (lmpReaderO .repaired) (visible (lmpContent wLmpFrames) [none, some 41, none, some 41, some 94, some 94]) rpInit)
      = .ok [([], 0), ([wL1.decode 1], 41), ([], 41), ([], 41), ([], 42), ([wL2.decode 1], 94)] :=
  ⟨wLmp_wf, by decide +kernel⟩

/-- **SAFETY and COMPLETENESS of the xyz reader object over any schedule of polls** (polls before the file
    exists, polls without growth, the final polls after the program exited): with non-decreasing visible sizes,
    after every poll the frames returned so far are exactly the frames completely on disk (each once, in order,
    as written, all their bytes visible); once a poll has seen the whole file everything has been returned. -/
theorem rp_xyz_safety_complete (N : Nat) (hN : 1 ≤ N) (frames : List XyzF) (hwf : ∀ f ∈ frames, f.WF N)
    (evs : List (Option Nat)) (hs : (evs.map visBytes).Pairwise (· ≤ ·)) :
    ∃ stages, rpRun (xyzReaderO .repaired) (visible (xyzContent frames) evs) rpInit = .ok stages
      ∧ stages.length = evs.length
      ∧ (∀ k (hk : k < (evs.map visBytes).length),
          ((stages.map Prod.fst).take (k + 1)).flatten
            = (xyzDecoded frames).take (completeCount (xyzLens frames) (evs.map visBytes)[k])
          ∧ sumLens ((xyzLens frames).take (completeCount (xyzLens frames) (evs.map visBytes)[k]))
              ≤ (evs.map visBytes)[k])
      ∧ (∀ c ∈ (evs.map visBytes).getLast?, (xyzContent frames).length ≤ c →
          (stages.map Prod.fst).flatten = xyzDecoded frames) := by
  obtain ⟨st0, h0, h1, h2, h3⟩ := xyz_repaired_safety_complete N hN frames hwf (evs.map visBytes) hs
  obtain ⟨stages, hr, rfl⟩ := rpRun_of_pollAll (xyzReaderO_proj .repaired) (xyzReaderO_empty .repaired) _ evs st0 h0
  exact ⟨stages, hr, by simpa using h1, h2, h3⟩

example : ([none, some 37, some 37, some 88].map visBytes).Pairwise (· ≤ ·) := by decide +kernel

/-- **the same for the LAMMPS reader object** (with its one-poll lag, as in `lmp_safety_complete`); any white space
    behind the trailing ids is allowed, under the cut guard `tbFree` of `lmp_exact_trailing_partial` — which holds
    for every schedule when the frames end right behind their last trailing id (`tbFree_of_slack_one`) -/
theorem rp_lmp_safety_complete (N : Nat) (hN : 1 ≤ N) (frames : List LmpF) (hwf : ∀ f ∈ frames, f.WF N)
    (evs : List (Option Nat)) (hs : (evs.map visBytes).Pairwise (· ≤ ·))
    (hfree : ∀ e ∈ evs, tbFree frames (visBytes e)) :
    ∃ stages, rpRun (lmpReaderO .repaired) (visible (lmpContent frames) evs) rpInit = .ok stages
      ∧ stages.length = evs.length
      ∧ (∀ k (hk : k < (evs.map visBytes).length), ∃ d,
          ((stages.map Prod.fst).take (k + 1)).flatten = (lmpDecoded N frames).take d ∧ d ≤ frames.length
          ∧ sumLens ((lmpLens frames).take d) ≤ (evs.map visBytes)[k] + 1)
      ∧ (∀ pre T, evs.map visBytes = pre ++ [T, T] → (lmpContent frames).length ≤ T →
          (stages.map Prod.fst).flatten = lmpDecoded N frames) := by
  obtain ⟨st0, h0, h1, h2, h3⟩ := lmp_safety_complete_trailing_partial N hN frames hwf (evs.map visBytes) hs
    (by intro c hc; obtain ⟨e, he, rfl⟩ := List.mem_map.mp hc; exact hfree e he)
  obtain ⟨stages, hr, rfl⟩ := rpRun_of_pollAll (lmpReaderO_proj .repaired) (lmpReaderO_empty .repaired) _ evs st0 h0
  exact ⟨stages, hr, by simpa using h1, h2, h3⟩

example : ([none, some 41, some 94, some 94].map visBytes) = [0, 41] ++ [94, 94] := by decide +kernel

/-- **a file that does not reach beyond `current_position`** — truncated, replaced by something shorter, or
    absent — **is inert**: the poll returns nothing, moves neither position, raises nothing, whatever the
    file contains (both readers, both variants). -/
theorem rp_poll_short_file (v : Variant) (o : RP) (file : Option (List Char))
    (h : ∀ content ∈ file, content.length ≤ o.cur) :
    rpPoll (xyzReaderO v) o file = .ok ([], o) ∧ rpPoll (lmpReaderO v) o file = .ok ([], o) := by
  cases file with
  | none => exact ⟨rfl, rfl⟩
  | some content =>
    have hc := h content rfl
    exact ⟨xyzReaderO_short v content o hc, lmpReaderO_short v content o hc⟩

example : rpPoll (xyzReaderO .repaired) ⟨43, 0⟩ (some ((xyzContent witness).take 20)) = .ok ([], ⟨43, 0⟩) := by decide +kernel

/-! ## TRR: the data part of a frame (`get_data` / `read_trr_data` / `read_matrix` / `read_coord`) -/

/-- **layout of the data part, for every combination of the six presence fields and both precisions**: on a
    header whose announced blocks have the sizes of their reals (`FieldsOK`: box/vir/pres = 9 reals, x/v/f =
    natoms·3 reals, or absent), `get_data` returns the data **iff** all `data_size = box+vir+pres+x+v+f` bytes
    are there; it then consumes exactly `data_size` bytes (next offset exact: `bytes_read` and the file pointer
    stay together), and the blocks are exactly the announced ones, in the order box vir pres x v f, each with its
    announced length, cut at the cumulative offsets; a missing byte gives `EOFError` or `struct.error`, never
    data. -/
theorem trr_data_layout (h : THeader) (hok : FieldsOK (if h.double then 8 else 4) (dataFields h.ints))
    (bs : List Nat) :
    0 ≤ dataSize h.ints ∧
    ((dataSize h.ints).toNat ≤ bs.length →
        trrData h bs = ⟨.ok (sliceBlocks (dataFields h.ints) bs), bs.drop (dataSize h.ints).toNat⟩
        ∧ (sliceBlocks (dataFields h.ints) bs).map Prod.fst
            = ((dataFields h.ints).filter (fun p => decide (p.2.1 ≠ 0))).map Prod.fst
        ∧ (sliceBlocks (dataFields h.ints) bs).map (fun b => b.2.length)
            = ((dataFields h.ints).filter (fun p => decide (p.2.1 ≠ 0))).map (fun p => p.2.1.toNat)) ∧
    (bs.length < (dataSize h.ints).toNat →
        (trrData h bs).res = .error .eof ∨ (trrData h bs).res = .error .struct) := by
  obtain ⟨h1, h2, h3⟩ := trrData_layout h hok bs
  refine ⟨h1, ?_, h3⟩
  intro hl
  refine ⟨h2 hl, sliceBlocks_keys _ _, sliceBlocks_lengths _ _ ?_⟩
  rw [fieldsTotal_eq_dataSize _ _ hok]
  exact hl

/-- 1 atom, single precision, box + x + f (no vir, pres, v): 36 + 12 + 12 = 60 bytes -/
def wTH : THeader :=
  { little := true, double := false, ints := [0, 0, 36, 0, 0, 0, 0, 12, 0, 12, 1, 5, 0], hlen := 84 }

theorem wTH_ok : FieldsOK (if wTH.double then 8 else 4) (dataFields wTH.ints) := by
  unfold FieldsOK
  decide +kernel

example : dataSize wTH.ints = 60
    ∧ (trrData wTH (List.replicate 62 1)).rest.length = 2
    ∧ ((sliceBlocks (dataFields wTH.ints) (List.replicate 62 1)).map (fun b => (b.1, b.2.length))) = [(0, 36), (3, 12), (5, 12)]
    ∧ (trrData wTH (List.replicate 59 1)).res = .error .struct
    ∧ (trrData wTH (List.replicate 48 1)).res = .error .eof := by
  refine ⟨by decide +kernel, by decide +kernel, by decide +kernel, by decide +kernel, by decide +kernel⟩

/-- the hypothesis `FieldsOK` is needed: a header whose x block is announced with the size of the *other*
    precision (box says single, x sized for double) makes `get_data` consume 36 + 12 bytes while `data_size`
    — what `get_gromacs_frames` adds to `bytes_read` — is 36 + 24: guards and file pointer drift apart.
    (GROMACS does not write such headers; the tie feeds them to model and code alike.) -/
theorem trr_data_inconsistent_header_drifts :
    dataSize [0, 0, 36, 0, 0, 0, 0, 24, 0, 0, 1, 5, 0] = 60
    ∧ (trrData { little := true, double := false, ints := [0, 0, 36, 0, 0, 0, 0, 24, 0, 0, 1, 5, 0], hlen := 84 }
          (List.replicate 70 1)).rest.length = 70 - 48
    ∧ ¬ FieldsOK 4 (dataFields [0, 0, 36, 0, 0, 0, 0, 24, 0, 0, 1, 5, 0]) := by
  refine ⟨by decide +kernel, by decide +kernel, ?_⟩
  intro hok
  have := hok (3, 24, 3) (by decide +kernel)
  simp at this

/-! ## TRR: the whole `get_gromacs_frames` generator at byte level

Model `gRun` / `gRemaining` / `gGen` (Model/ReadersObj.lean): the generator as the code is — size guards,
`read_trr_header` and `get_data` on the bytes visible at that moment, `bytes_read` next to the file pointer,
the swallowed `EOFError`s with their stale locals, and the unguarded final phase `read_remaining_trr`.  A
well-formed file (`gFile frames`, every frame `GFrame.WF dbl`): headers as GROMACS writes them (either byte
order per frame, one precision per file, 13 ints < 2³¹), any combination of the six blocks per frame with the
sizes of their reals, payload of exactly `data_size` bytes. -/

/-- **composition**: on a well-formed file and for every sequence of observed sizes (≤ the final length), the
    byte-level generator *is* the abstract guard machine `trrRun` (about which `trr_reads_safe` and
    `trr_no_frame_withheld` speak) — same waits, same reads at the same offsets with the same lengths, and
    `yield k` hands out exactly the blocks of frame `k`; it never dies. -/
theorem trr_generator_is_guard_machine (dbl : Bool) (frames : List GFrame) (hwf : ∀ f ∈ frames, f.WF dbl)
    (sizes : List Nat) (hsz : ∀ s ∈ sizes, s ≤ (gFile frames).length) :
    (gRun (gFile frames) sizes gInit).2
        = (trrRun (frames.map (GFrame.t dbl)) sizes tInit).map (liftEv frames)
    ∧ (gRun (gFile frames) sizes gInit).1.dead = false :=
  (gRun_rel dbl frames hwf sizes hsz gInit tInit (gInit_rel dbl frames)).imp_right GRel.alive

/-- one atom, single precision, little-endian: box + x (frame 1), box + x + v (frame 2) -/
def wG1 : GFrame :=
  { little := true, ns := [0, 0, 36, 0, 0, 0, 0, 12, 0, 0, 1, 0, 0], reals := List.replicate 8 0,
    payload := List.replicate 48 1 }
def wG2 : GFrame :=
  { little := false, ns := [0, 0, 36, 0, 0, 0, 0, 12, 12, 0, 1, 1, 0], reals := List.replicate 8 0,
    payload := List.replicate 60 2 }

theorem wG_fields (ns : List Nat) (h : ns = wG1.ns ∨ ns = wG2.ns) :
    FieldsOK 4 (dataFields (ns.map Int.ofNat)) := by
  unfold FieldsOK
  rcases h with rfl | rfl <;> decide +kernel

theorem wG_wf : ∀ f ∈ [wG1, wG2], f.WF false := by
  intro f hf
  simp only [List.mem_cons, List.not_mem_nil, or_false] at hf
  rcases hf with rfl | rfl
  · exact ⟨rfl, by decide +kernel, by decide +kernel, rfl, wG_fields _ (Or.inl rfl), by decide +kernel⟩
  · exact ⟨rfl, by decide +kernel, by decide +kernel, rfl, wG_fields _ (Or.inr rfl), by decide +kernel⟩

example : (∀ f ∈ [wG1, wG2], f.WF false) ∧ (gFile [wG1, wG2]).length = 276 := by
  refine ⟨wG_wf, ?_⟩
  rw [gFile_length false _ wG_wf]
  decide +kernel

/-- **SAFETY of the byte-level generator while the program runs**: every read lies inside the bytes visible
    at that moment and is exactly the header or the data part of a frame at that frame's offset; every yield
    hands out the blocks of a frame of the file; no `EOFError` is swallowed, nothing is raised, no endless
    wait — for every sequence of observed sizes. -/
theorem trr_generator_safe (dbl : Bool) (frames : List GFrame) (hwf : ∀ f ∈ frames, f.WF dbl)
    (sizes : List Nat) (hsz : ∀ s ∈ sizes, s ≤ (gFile frames).length) :
    ∀ e ∈ (gRun (gFile frames) sizes gInit).2,
      gBad e = false ∧
      (∀ off len size, e = .read off len size → off + len ≤ size ∧ ∃ k f, frames[k]? = some f ∧
        ((off = (gFile (frames.take k)).length ∧ len = 76 + 2 * (if dbl then 8 else 4))
          ∨ (off = (gFile (frames.take k)).length + (76 + 2 * (if dbl then 8 else 4)) ∧ len = f.payload.length))) := by
  intro e he
  rw [(trr_generator_is_guard_machine dbl frames hwf sizes hsz).1] at he
  obtain ⟨te, hte, rfl⟩ := List.mem_map.mp he
  refine ⟨gBad_lift frames te, ?_⟩
  intro off len size heq
  have hok := trr_reads_safe (frames.map (GFrame.t dbl)) _ (GFrame.t_hsize dbl frames) (H_le dbl) (H_pos dbl) sizes
    te hte
  cases te with
  | wait => cases heq
  | yield k =>
    have h := congrArg gYield heq
    rw [gYield_lift] at h
    simp [tYield, gYield] at h
  | read o l s =>
    simp only [liftEv, GEv.read.injEq] at heq
    obtain ⟨rfl, rfl, rfl⟩ := heq
    obtain ⟨h1, k, tf, htf, h2⟩ := hok
    simp only [List.getElem?_map, Option.map_eq_some_iff] at htf
    obtain ⟨f, hf, rfl⟩ := htf
    refine ⟨h1, k, f, hf, ?_⟩
    rw [tOffset_eq_prefix dbl frames hwf] at h2
    simpa [GFrame.t] using h2

example : (gRun (gFile [wG1, wG2]) [100, 276] gInit).2 = [.wait, .wait] := by decide +kernel

/-- **each frame once, in order (running phase)**: the frames yielded while the program runs are exactly the
    first `n` frames of the file, each once, in order, with exactly their bytes. -/
theorem trr_generator_yields_prefix (dbl : Bool) (frames : List GFrame) (hwf : ∀ f ∈ frames, f.WF dbl)
    (sizes : List Nat) (hsz : ∀ s ∈ sizes, s ≤ (gFile frames).length) :
    ∃ n, n ≤ frames.length ∧
      (gRun (gFile frames) sizes gInit).2.filterMap gYield = (frames.take n).map GFrame.blocks := by
  obtain ⟨n, hn, hrun, _⟩ := gRun_yields dbl frames hwf sizes hsz
  exact ⟨n, hn, hrun⟩

/-- **COMPLETENESS of the whole generator** (running phase + `read_remaining_trr` after the program has ended):
    every frame of the file is yielded exactly once, in order, with exactly its bytes, and nothing is raised —
    for every sequence of sizes observed while the program ran (the generator is not left inside its inner
    wait loop, which it only leaves when the data are there). -/
theorem trr_generator_complete (dbl : Bool) (frames : List GFrame) (hwf : ∀ f ∈ frames, f.WF dbl)
    (sizes : List Nat) (hsz : ∀ s ∈ sizes, s ≤ (gFile frames).length)
    (hnd : (gRun (gFile frames) sizes gInit).1.inData = false) :
    (gGen (gFile frames) sizes).filterMap gYield = frames.map GFrame.blocks
    ∧ ∀ e ∈ gGen (gFile frames) sizes, gBad e = false := by
  have hrel := (gRun_rel dbl frames hwf sizes hsz gInit tInit (gInit_rel dbl frames)).2
  have hdead := hrel.alive
  obtain ⟨n, hn, hrun, hk⟩ := gRun_yields dbl frames hwf sizes hsz
  have hbadrun : ∀ e ∈ (gRun (gFile frames) sizes gInit).2, gBad e = false :=
    fun e he => (trr_generator_safe dbl frames hwf sizes hsz e he).1
  -- where the running phase ended: at the start of frame n
  have hpend := hrel.pend
  have hpos : (gRun (gFile frames) sizes gInit).1.fpos = (gFile (frames.take n)).length
      ∧ (gRun (gFile frames) sizes gInit).1.bytesRead = ((gFile (frames.take n)).length : Int) := by
    cases hp : (sizes.foldl (fun s size => (trrTick (frames.map (GFrame.t dbl)) size s).1) tInit).pending with
    | some d =>
      rw [hp] at hpend
      rw [hpend.1] at hnd; cases hnd
    | none =>
      rw [hp] at hpend
      have hoff := hpend.2
      rw [hk, tOffset_eq_prefix dbl frames hwf] at hoff
      exact ⟨by rw [hrel.fpos, hoff], by rw [hrel.br, hoff]⟩
  obtain ⟨hfp, hbr⟩ := hpos
  rw [gGen_of_alive _ _ hdead hnd, hbr, hfp]
  obtain ⟨hy, hb⟩ := gRemaining_yields dbl frames hwf ((gFile frames).length + 1) n hn
    (by have := frames_le_file dbl frames hwf; omega)
  refine ⟨?_, ?_⟩
  · rw [List.filterMap_append, hrun, hy, ← List.map_append, List.take_append_drop]
  · intro e he
    rcases List.mem_append.mp he with he | he
    · exact hbadrun e he
    · exact hb e he

set_option maxRecDepth 20000 in
/-- a 276-byte file (< TRR_HEAD_SIZE): nothing can be read while the program runs; the final phase yields both
    frames, first box + x, then box + x + v -/
example : (gGen (gFile [wG1, wG2]) [100, 276]).filterMap gYield = [wG1.blocks, wG2.blocks]
    ∧ (wG2.blocks.map (fun b => (b.1, b.2.length))) = [(0, 36), (3, 12), (4, 12)] := by
  refine ⟨by decide +kernel, by decide +kernel⟩

/-! ## LAMMPS atom lines that end in a blank (what `dump custom` writes): the late-line-end skip

Real LAMMPS dumps end every atom line with `"id \n"`.  A poll that sees a frame up to its last id — but not the
`" \n"` behind it — accepts the frame (nine tokens, first = last) and leaves `current_position` in front of `" \n"`;
the next poll starts on the line `" \n"`.  The code as it was found (`asIs`) skipped only a bare `"\n"` there, so
every line number was off by one and `int("ITEM:")` raised (finding C13:lammps:trailing-blank-late-newline,
repaired by /repo dfb19e7); the code as it is now (`repaired`) skips a white-space-only, newline-terminated
first line. -/

/-- "T\n0\nN\n1\nB\n0 1\n0 1\n0 1\nA\n1 1 1 2 3 4 5 6 1 \n" (43 bytes): `wL1` with a blank behind the trailing id -/
def wLT : LmpF :=
  { wL1 with atoms := [['1', ' ', '1', ' ', '1', ' ', '2', ' ', '3', ' ', '4', ' ', '5', ' ', '6', ' ', '1', ' ', '\n']] }

/-- **RECORD: NO EXCEPTION failed for `lammpstrj_reader` as it was before fix dfb19e7** on trailing-blank atom
    lines: with 41 of 86 bytes visible (frame 1 up to its last id) the frame is returned; the next poll, on the
    complete file, raises `ValueError`.  Cuts one byte earlier or later were fine. -/
theorem lmp_trailing_blank_counterexample :
    pollAll (lmpReader .asIs) (lmpContent [wLT, wLT]) [41] 0 = .ok [[wLT.decode 1]]
    ∧ pollAll (lmpReader .asIs) (lmpContent [wLT, wLT]) [41, 86] 0 = .error .value
    ∧ pollAll (lmpReader .asIs) (lmpContent [wLT, wLT]) [40, 86, 86] 0 = .ok [[], [wLT.decode 1, wLT.decode 1], []]
    ∧ pollAll (lmpReader .asIs) (lmpContent [wLT, wLT]) [42, 86, 86] 0 = .ok [[wLT.decode 1], [], [wLT.decode 1]] := by
  refine ⟨by decide +kernel, by decide +kernel, by decide +kernel, by decide +kernel⟩

/-- **the same witness on the code as it is now**: the frame is returned at 41 bytes; the poll on the complete
    file skips the late `" \n"` and returns nothing (the one-poll lag); the next poll returns frame 2.  Also when
    the blank and the newline arrive separately (42: only the blank — nothing happens, the position stays). -/
theorem lmp_trailing_blank_repaired :
    pollAll (lmpReader .repaired) (lmpContent [wLT, wLT]) [41, 86, 86] 0 = .ok [[wLT.decode 1], [], [wLT.decode 1]]
    ∧ pollAll (lmpReader .repaired) (lmpContent [wLT, wLT]) [41, 42, 43, 86, 86] 0
        = .ok [[wLT.decode 1], [], [], [wLT.decode 1], []]
    ∧ pollAll (lmpReader .repaired) (lmpContent [wLT, wLT]) [41, 42, 86, 86] 0
        = .ok [[wLT.decode 1], [], [], [wLT.decode 1]]
    ∧ pollAll (lmpReader .repaired) (lmpContent [wLT, wLT]) [40, 86, 86] 0 = .ok [[], [wLT.decode 1, wLT.decode 1], []] := by
  refine ⟨by decide +kernel, by decide +kernel, by decide +kernel, by decide +kernel⟩

theorem wLT_wf : wLT.WF 1 := lmpWF_of _ _ (by decide +kernel)

theorem wLTs_wf : ∀ f ∈ [wLT, wLT], f.WF 1 := by
  intro f hf
  simp only [List.mem_cons, List.not_mem_nil, or_false] at hf
  rcases hf with rfl | rfl <;> exact wLT_wf

/-- non-vacuity of the guarded theorems on the trailing-blank witness (`slack = 2`): the cuts 40, 42, 43, 85, 86
    are free, 41 (= 43 − 2: frame 1 up to its last id) is the one cut of frame 1 that is not (likewise 84 in frame 2) -/
example : wLT.slack = 2 ∧ (∀ f ∈ [wLT, wLT], f.WF 1) ∧ (∀ c ∈ [40, 42, 43, 85, 86, 86], tbFree [wLT, wLT] c)
    ∧ ¬ tbFree [wLT, wLT] 41
    ∧ pollAll (lmpReader .repaired) (lmpContent [wLT, wLT]) [40, 42, 43, 85, 86, 86] 0
        = .ok [[], [wLT.decode 1], [], [wLT.decode 1], [], []] := by
  refine ⟨by decide +kernel, wLTs_wf, ?_, ?_, by decide +kernel⟩
  · intro c hc
    simp only [List.mem_cons, List.not_mem_nil, or_false] at hc
    rcases hc with rfl | rfl | rfl | rfl | rfl | rfl <;> simp only [tbFree] <;> decide +kernel
  · simp only [tbFree]; decide +kernel

/-- frames that end right behind their last trailing id: the hypothesis of `lmp_exact` etc. -/
example : ∀ f ∈ wLmpFrames, f.slack = 1 := by
  intro f hf
  simp only [wLmpFrames, List.mem_cons, List.not_mem_nil, or_false] at hf
  rcases hf with rfl | rfl <;> decide +kernel

/-- **one poll on a partly visible frame, any white space behind the trailing ids, no guard** (code as it is now
    and as it was): from a frame boundary, with the next frame `f` visible up to byte `c`, the reader returns `f`
    iff at most `f.slack` bytes of it are missing — the white space and the newline behind the trailing id of
    its last atom line, never a byte of a value — and then stands at `c`; otherwise it returns nothing and does
    not move.  No exception.  (`tbFree` excludes exactly the cuts with `1 <` missing `≤ slack`.) -/
theorem lmp_trailing_frame_poll (v : Variant) (N : Nat) (hN : 1 ≤ N) (done : List LmpF) (f : LmpF)
    (rest : List LmpF) (hf : f.WF N) (c : Nat) (h1 : (lmpContent done).length ≤ c)
    (h2 : c < (lmpContent done).length + f.len) :
    lmpReader v ((lmpContent (done ++ f :: rest)).take c) (lmpContent done).length
      = .ok (if f.enc.length ≤ (c - (lmpContent done).length) + f.slack
             then ([f.decode N], c) else ([], (lmpContent done).length)) :=
  lmpReader_poll_partial N hN done f rest hf c h1 h2

example : lmpReader .repaired ((lmpContent ([wLT] ++ wLT :: [])).take 84) (lmpContent [wLT]).length
    = .ok ([wLT.decode 1], 84) := by decide +kernel

/-- **the late line end is skipped (code as it is now), for all inputs**: a poll that starts in front of any
    white space followed by a newline — what is left of a frame that was returned early — returns nothing and
    moves behind the newline as soon as the newline is visible; before that it returns nothing and stays.
    Never an exception.  With the old rule (`line == "\n"`) this failed: `lmp_trailing_blank_counterexample`. -/
theorem lmp_late_line_end_skipped (pre ws rest : List Char) (hws : ∀ x ∈ ws, isBlank x = true ∧ x ≠ '\n') (c : Nat) :
    lmpReader .repaired ((pre ++ (ws ++ '\n' :: rest)).take c) pre.length
      = .ok ([], if pre.length + ws.length + 1 ≤ c then pre.length + ws.length + 1 else pre.length) :=
  lmpReader_late_line_end pre ws rest hws c

example : (∀ x ∈ [' ', '\t'], isBlank x = true ∧ x ≠ '\n')
    ∧ lmpReader .repaired ((['a', 'b'] ++ ([' ', '\t'] ++ '\n' :: ['T', '\n'])).take 5) 2 = .ok ([], 5)
    ∧ lmpReader .repaired ((['a', 'b'] ++ ([' ', '\t'] ++ '\n' :: ['T', '\n'])).take 4) 2 = .ok ([], 2) := by
  refine ⟨by decide +kernel, by decide +kernel, by decide +kernel⟩

/-! ## LAMMPS, EVERY cut, any white space behind the trailing ids: the per-frame-slack specification

The whole-schedule theorems above hold unconditionally only for `slack = 1` — which no real
LAMMPS dump has (`dump custom` ends atom lines with `"id \n"`: slack 2) — and otherwise under the cut guard `tbFree`,
because `lmpStages` knows only a one-byte lag.  `lmpStagesS` (Model/ReadersSlack.lean) takes every frame as
`(len, slack)` and keeps, between polls, how many bytes of the last returned frame's line end have not been consumed
(`miss`); with it the guard disappears. -/

/-- **Exactness of `lammpstrj_reader` (code as it is now) for EVERY byte cut, any white space behind the trailing
    ids** (contains NO EXCEPTION): for every well-formed LAMMPS trajectory and every list of cut points the reader
    polled on the growing file returns, poll by poll, exactly what `lmpStagesS` says.  No guard on the cuts, no
    condition on `slack` (cf. `lmp_exact`, `lmp_exact_trailing_partial`). -/
theorem lmp_exact_any_slack (N : Nat) (hN : 1 ≤ N) (frames : List LmpF) (hwf : ∀ f ∈ frames, f.WF N)
    (cuts : List Nat) :
    pollAll (lmpReader .repaired) (lmpContent frames) cuts 0
      = .ok (lmpStagesS (frOf frames) (lmpDecoded N frames) cuts 0 0) :=
  lmp_pollAllS N hN frames hwf cuts

/-- non-vacuity on the trailing-blank witness (`slack = 2`), with the cuts 41 and 84 that `tbFree` excludes: the
    frame is returned at 41; 42 (only the blank) changes nothing; the poll that sees the newline skips the line end;
    frame 2 is returned at 84 = 86 − 2 -/
example : (∀ f ∈ [wLT, wLT], f.WF 1) ∧ ¬ tbFree [wLT, wLT] 41 ∧ frOf [wLT, wLT] = [(43, 2), (43, 2)]
    ∧ pollAll (lmpReader .repaired) (lmpContent [wLT, wLT]) [41, 42, 50, 84, 85, 86, 86] 0
        = .ok [[wLT.decode 1], [], [], [wLT.decode 1], [], [], []]
    ∧ lmpStagesS [(43, 2), (43, 2)] [0, 1] [41, 42, 50, 84, 85, 86, 86] 0 0 = [[0], [], [], [1], [], [], []] := by
  refine ⟨wLTs_wf, ?_, by decide +kernel, by decide +kernel, by decide +kernel⟩
  simp only [tbFree]; decide +kernel

/-- **SAFETY, NO EXCEPTION and COMPLETENESS of `lammpstrj_reader` (code as it is now) in one statement about the
    reader itself, for every non-decreasing schedule of byte cuts and any white space behind the trailing ids** — no
    guard (cf. `lmp_safety_complete_trailing_partial`; `lmp_safety_complete` is the case `miss ≤ 1`). -/
theorem lmp_safety_complete_any_slack (N : Nat) (hN : 1 ≤ N) (frames : List LmpF) (hwf : ∀ f ∈ frames, f.WF N)
    (cuts : List Nat) (hs : cuts.Pairwise (· ≤ ·)) :
    ∃ stages, pollAll (lmpReader .repaired) (lmpContent frames) cuts 0 = .ok stages
      ∧ stages.length = cuts.length
      ∧ (∀ k (hk : k < cuts.length), ∃ d miss,
          (stages.take (k + 1)).flatten = (lmpDecoded N frames).take d ∧ d ≤ frames.length
          ∧ sumLens ((lmpLens frames).take d) ≤ cuts[k] + miss
          ∧ (miss = 0 ∨ (1 ≤ d ∧ ∃ f, frames[d - 1]? = some f ∧ miss ≤ f.slack)))
      ∧ (∀ pre T, cuts = pre ++ [T, T] → (lmpContent frames).length ≤ T →
          stages.flatten = lmpDecoded N frames) := by
  refine ⟨_, lmp_exact_any_slack N hN frames hwf cuts, lmpStagesS_length _ _ _ _ _, ?_, ?_⟩
  · intro k hk
    obtain ⟨d, miss, h1, h2, h3, h4⟩ := lmpStagesS_safety (frOf frames) (lmpDecoded N frames) cuts hs k hk
    refine ⟨d, miss, h1, by simpa [frOf] using h2, by rw [endOf_frOf] at h3; exact h3, ?_⟩
    rcases h4 with h4 | ⟨h5, g, h6, h7⟩
    · exact Or.inl h4
    · right
      simp only [frOf, List.getElem?_map, Option.map_eq_some_iff] at h6
      obtain ⟨f0, hf0, hg⟩ := h6
      exact ⟨h5, f0, hf0, by rw [← hg] at h7; exact h7⟩
  · intro pre T hc hT
    subst hc
    apply lmpStagesS_complete _ _ (by simp [lmpDecoded, frOf]) pre T
    rw [lmpContent, flatten_lenc_length] at hT
    rw [frOf_fst]
    exact hT

example : (1 ≤ 1) ∧ (∀ f ∈ [wLT, wLT], f.WF 1) ∧ [41, 84, 86, 86].Pairwise (· ≤ ·)
    ∧ [41, 84, 86, 86] = [41, 84] ++ [86, 86] ∧ (lmpContent [wLT, wLT]).length ≤ 86 := by
  refine ⟨by decide +kernel, wLTs_wf, by decide +kernel, rfl, by decide +kernel⟩

/-- the one-byte-lag specification of `lmp_exact` is the case "every slack = 1" of the per-frame-slack
    specification: on such trajectories `lmp_exact_any_slack` and `lmp_exact` say the same -/
theorem lmpStagesS_eq_lmpStages_of_slack_one (N : Nat) (frames : List LmpF) (hntb : ∀ f ∈ frames, f.slack = 1)
    (cuts : List Nat) :
    lmpStagesS (frOf frames) (lmpDecoded N frames) cuts 0 0
      = lmpStages (lmpLens frames) (lmpDecoded N frames) cuts 0 false := by
  rw [lmpLens, ← frOf_fst]
  have hone : ∀ g ∈ frOf frames, g.2 = 1 := fun g hg => by
    obtain ⟨f, hf, rfl⟩ := List.mem_map.mp hg
    exact hntb f hf
  exact lmpStagesS_eq_lmpStages (frOf frames) _ cuts (fun c _ d => lmpCountS_drop_slack_one _ hone c d) 0 false

example : (∀ f ∈ wLmpFrames, f.slack = 1) ∧ frOf wLmpFrames = [(42, 1), (52, 1)] := by
  refine ⟨?_, by decide +kernel⟩
  intro f hf
  simp only [wLmpFrames, List.mem_cons, List.not_mem_nil, or_false] at hf
  rcases hf with rfl | rfl <;> decide +kernel

/-- **the reader OBJECT with `lammpstrj_reader` (code as it is now): frames and `current_position` after every
    poll, for ANY sequence of polls of an append-only file (absent, any prefix, in any order) and any white space
    behind the trailing ids** — no guard (cf. `rp_lmp_exact_pos`, `rp_lmp_exact_pos_trailing_partial`):
    `current_position` is the end of the last frame returned, minus the bytes of its line end that were not visible
    when it was returned and have not been skipped yet — never inside a value, never inside another frame. -/
theorem rp_lmp_exact_pos_any_slack (N : Nat) (hN : 1 ≤ N) (frames : List LmpF) (hwf : ∀ f ∈ frames, f.WF N)
    (evs : List (Option Nat)) :
    stagesPos (rpRun (lmpReaderO .repaired) (visible (lmpContent frames) evs) rpInit)
      = .ok (lmpStagesPosS (frOf frames) (lmpDecoded N frames) evs 0 0) :=
  lmp_rpRun_posS_init N hN frames hwf evs

/-- file absent; frame 1 up to its last id (41 = 43 − 2, the cut `tbFree` excludes); absent; only the blank; the
    newline (skip poll); frame 2 up to its last id (84); everything; no growth -/
example : (∀ f ∈ [wLT, wLT], f.WF 1) ∧
    stagesPos (rpRun (lmpReaderO .repaired)
        (visible (lmpContent [wLT, wLT]) [none, some 41, none, some 42, some 43, some 84, some 86, some 86]) rpInit)
      = .ok [([], 0), ([wLT.decode 1], 41), ([], 41), ([], 41), ([], 43), ([wLT.decode 1], 84), ([], 86), ([], 86)] :=
  ⟨wLTs_wf, by decide +kernel⟩

/-- **SAFETY, NO EXCEPTION and COMPLETENESS of the LAMMPS reader object over any non-decreasing schedule of polls,
    any white space behind the trailing ids** — no guard (cf. the hypothesis `hfree` of
    `rp_lmp_safety_complete`). -/
theorem rp_lmp_safety_complete_any_slack (N : Nat) (hN : 1 ≤ N) (frames : List LmpF) (hwf : ∀ f ∈ frames, f.WF N)
    (evs : List (Option Nat)) (hs : (evs.map visBytes).Pairwise (· ≤ ·)) :
    ∃ stages, rpRun (lmpReaderO .repaired) (visible (lmpContent frames) evs) rpInit = .ok stages
      ∧ stages.length = evs.length
      ∧ (∀ k (hk : k < (evs.map visBytes).length), ∃ d miss,
          ((stages.map Prod.fst).take (k + 1)).flatten = (lmpDecoded N frames).take d ∧ d ≤ frames.length
          ∧ sumLens ((lmpLens frames).take d) ≤ (evs.map visBytes)[k] + miss
          ∧ (miss = 0 ∨ (1 ≤ d ∧ ∃ f, frames[d - 1]? = some f ∧ miss ≤ f.slack)))
      ∧ (∀ pre T, evs.map visBytes = pre ++ [T, T] → (lmpContent frames).length ≤ T →
          (stages.map Prod.fst).flatten = lmpDecoded N frames) := by
  obtain ⟨st0, h0, h1, h2, h3⟩ := lmp_safety_complete_any_slack N hN frames hwf (evs.map visBytes) hs
  obtain ⟨stages, hr, rfl⟩ := rpRun_of_pollAll (lmpReaderO_proj .repaired) (lmpReaderO_empty .repaired) _ evs st0 h0
  exact ⟨stages, hr, by simpa using h1, h2, h3⟩

example : ([none, some 41, some 84, some 86, some 86].map visBytes) = [0, 41, 84] ++ [86, 86]
    ∧ ([none, some 41, some 84, some 86, some 86].map visBytes).Pairwise (· ≤ ·) := by decide +kernel

/-- **NO COMPLETE FRAME IS WITHHELD BEYOND ONE POLL (stage behaviour, any slack)**: in a non-decreasing schedule,
    every frame that is completely visible at a poll (`a`) has been returned at the latest by the end of the next
    poll (`b`) — the only poll that returns nothing although complete frames are waiting is the one that skips a
    late line end, and two of those never follow each other. -/
theorem lmpStagesS_no_frame_withheld {F : Type} (fr : List (Nat × Nat)) (dec : List F) (hlen : dec.length = fr.length)
    (pre : List Nat) (a b : Nat) (hs : (pre ++ [a, b]).Pairwise (· ≤ ·)) :
    completeCount (fr.map Prod.fst) a ≤ ((lmpStagesS fr dec (pre ++ [a, b]) 0 0).flatten).length := by
  have hle := lmpFinalS_le fr (pre ++ [a, b]) 0 0 (Nat.zero_le _)
  rw [lmpStagesS_flatten_init, List.length_take, hlen, Nat.min_eq_left hle, lmpFinalS_append]
  -- the state after `pre` is valid for `a`: every cut of `pre` is at most `a`
  obtain ⟨hpre, hab, hp2⟩ := List.pairwise_append.mp hs
  exact lmpS_two_polls fr a a b _ _ (Nat.le_refl a) (List.pairwise_pair.mp hab)
    (lmpFinalS_inv (c0 := 0) (List.pairwise_cons.mpr ⟨fun _ _ => Nat.zero_le _, hpre⟩) (LInvS.zero fr)
      fun x hx => (List.mem_cons.mp hx).elim (fun e => e ▸ Nat.zero_le _) fun hm => hp2 x hm a (by simp))

example : completeCount ([(43, 2), (43, 2)].map Prod.fst) 86 = 2
    ∧ (lmpStagesS [(43, 2), (43, 2)] [0, 1] ([41] ++ [86, 86]) 0 0) = [[0], [], [1]] := by decide +kernel

/-- **the same about `lammpstrj_reader` itself (code as it is now), every schedule, any white space behind the
    trailing ids**: after the polls `pre ++ [a, b]` the reader has returned at least every frame that was completely
    on disk at `a`.  Together with `lmp_safety_complete_any_slack` (nothing but complete-up-to-slack frames, each
    once, in order): "exactly the frames completely on disk", up to the white space + newline behind a frame's last
    id and up to the one skip poll. -/
theorem lmp_no_frame_withheld_any_slack (N : Nat) (hN : 1 ≤ N) (frames : List LmpF) (hwf : ∀ f ∈ frames, f.WF N)
    (pre : List Nat) (a b : Nat) (hs : (pre ++ [a, b]).Pairwise (· ≤ ·)) :
    ∃ stages, pollAll (lmpReader .repaired) (lmpContent frames) (pre ++ [a, b]) 0 = .ok stages
      ∧ completeCount (lmpLens frames) a ≤ stages.flatten.length := by
  refine ⟨_, lmp_exact_any_slack N hN frames hwf (pre ++ [a, b]), ?_⟩
  have := lmpStagesS_no_frame_withheld (frOf frames) (lmpDecoded N frames) (by simp [lmpDecoded, frOf]) pre a b hs
  rw [frOf_fst] at this
  exact this

example : (∀ f ∈ [wLT, wLT], f.WF 1) ∧ ([41] ++ [86, 86]).Pairwise (· ≤ ·)
    ∧ completeCount (lmpLens [wLT, wLT]) 86 = 2 := ⟨wLTs_wf, by decide +kernel, by decide +kernel⟩

/-! ## carriage returns (finding C13:text:carriage-return, fixed by /repo d5ef98e)

The code opens the file with `newline="\n"`: '\r' is a blank of `str.split()`/`str.strip()` and never a line end —
`isBlank '\r' = true`, `lines` splits at '\n' only.  No theorem has a condition on '\r'. -/

/-- "2\r\nc\r\nH 1 2 3\r\nC 4 5 6\r\n" (24 bytes, CRLF line ends) -/
def wCR : XyzF :=
  { cnt := ['2', '\r', '\n'],
    cmt := ['c', '\r', '\n'],
    atoms := [['H', ' ', '1', ' ', '2', ' ', '3', '\r', '\n'], ['C', ' ', '4', ' ', '5', ' ', '6', '\r', '\n']] }

theorem wCR_wf : wCR.WF 2 := xyzWF_of _ _ (by decide +kernel)

/-- the recorded witness of the finding on the code as it is now: cut between '\r' and '\n' of frame 1's last line
    (23 of 48 bytes), then the whole file twice — nothing at 23, both frames at 48, no exception -/
example : (∀ f ∈ [wCR, wCR], f.WF 2) ∧ isBlank '\r' = true ∧
    pollAll (xyzReader .repaired) (xyzContent [wCR, wCR]) [23, 48, 48] 0 = .ok [[], [wCR.decode, wCR.decode], []] := by
  refine ⟨?_, by decide +kernel, by decide +kernel⟩
  intro f hf
  simp only [List.mem_cons, List.not_mem_nil, or_false] at hf
  rcases hf with rfl | rfl <;> exact wCR_wf

end Infretis.C13
