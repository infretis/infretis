import Infretis.Lemmas.RepexC07Chain
import Infretis.Lemmas.RepexC07AsIs
import Infretis.Lemmas.RepexC07Eng
import Infretis.Lemmas.RepexC07JobDraws
import Infretis.Lemmas.RepexC07Disk
import Infretis.Lemmas.RepexC07MC
import Infretis.Lemmas.PermEval
import Infretis.Lemmas.RepexC03Load
/-!
# C07 — every job gets its own random stream

The engine set-up loop of `select_shoot` is modelled in `Infretis/Model/EngSetup.lean`.
Model: `Infretis/Model/Repex.lean` (tied to the real `REPEX_state` by
`harness/repex_tie.py` / `harness/props/c07.py`).  The model follows /repo commit 147c104: every
`locked` record carries the ordinal of the job's child stream (`lockedOrd`), a job recorded in the
restart file is re-issued under that ordinal (`mkPickedAt`), without advancing the spawn counter.

**What a stream is here.**  A random stream is identified by the value
`Stream = (entropy, key)` mirroring numpy's `SeedSequence(entropy, spawn_key)`.  The numpy fact
"different `(entropy, spawn_key)` ⇒ statistically independent streams, equal ⇒ identical streams" is
NOT modelled: all statements below are about stream *identity* as a `Stream` value.  Sections 1–6
decide the scheduler side (which streams a job is handed); section 7 decides the in-process side: the
draws the moves and engines make (shooting point, length bound, segment pick, swap acceptance,
velocities, integrator seeds, thermostat noise) are composed from the move / velocity models of
C09 / C11 / C16 into one trace per job (`Model/JobDraws.lean`, lemmas `Lemmas/RepexC07JobDraws.lean`)
and every request of that trace is proved to be on a stream of the job's own ordinal.

**The issue log.**  `sysStepJ` is `sysStep` with a ghost output (the job an event issued and the draw
requests of its `pick()`); `sysStepJ_sys` proves it is `sysStep` on the state.  `ghost y0 evs` = one
`Entry` per issued job along `evs` from `y0`, in issue order: the job, the ordinal put on record
with it, and whether it is a FRESH job (the spawn counter advanced — a new, distinct job) or the
RE-ISSUE of a job recorded in the restart file (the same job again).  The log stops at the first
event that raises, so statements about it cover histories that end in an exception as well.

**Job identity.**  A re-issued job is the SAME job (same ensembles, same paths, its result was never
consumed) and gets the very streams it had before the stop (`reissue_same_streams`).  "No two jobs
receive the same stream" therefore reads: no two DISTINCT jobs — distinct ordinals — of a chain share
a stream, and the `k`-th distinct job has `(seed, [k, j])` / `(seed, [k, j, 0])`.

Quantifiers: every number of ensembles, workers, steps, every seed, every engine table, every
event list (every completion order, every accept/reject outcome, every outcome of the random
choices), every restart IMAGE (`persist` of the state between two events, or the image `treat_output`
writes into `restart.toml`), with and without jobs in flight, any number of restarts.

**Which images exist on disk (sections 4 and 8).**  The code writes `restart.toml` only at the end of
`treat_output` and in the last `loop()`.  The image "`persist` of the state between two events" of
`ChainAny.restart` / `ChainReach.restart` (section 4) already records the job `prep_md_items` drew after
the last `treat_output`; the real file does not.  Sections 1–7 therefore describe restarts from an image —
whichever is handed to the new process — and the histories in which every issued job is on that image.
What a CRASH does is section 8 (`ChainDisk`, Model/RepexDisk.lean): the new process is built from the file
that is on disk; the job issued after the last write (during the initiation loop: every job of the
process) is lost — it never completes, its result is never consumed, no record of it exists — and ITS
ORDINAL IS ISSUED AGAIN to the first fresh job of the new process (`lost_job_ordinal_reissued`).  With an
unchanged number of workers and the restored `rng_state` that job is the identical job (same pick: C06's
determinism, tie-only here); with another number of workers it is in general a different (ensemble, path):
the lost job and that job then share streams.  "No two jobs receive the same stream" is proved for the
CONTINUED HISTORY — the jobs on the image plus the jobs issued since (`kept ++ lost` of the running
process) — and the spawn counter counts exactly those (`streams_pairwise_distinct_across_crashes`).

**Scope.**  Since /repo 17a0342 the restart file records the spawn counter whenever it is not
`cstep + len(locked)`, so a restart always continues the counter.  The stream theorems
(`streams_pairwise_distinct_across_restarts`, `fresh_jobs_continue_ordinals`) therefore hold on
`ChainAny`: arbitrary histories and arbitrary restarts — more or fewer workers, fewer remaining steps
than recorded jobs (records dropped), another number of ensembles.  What needs C03's slot invariant is
the ALIGNMENT of records and ordinals — that a re-issued job is the recorded job under that job's
ordinal (`reissue_same_streams`, `inflight_record_exact`); these are stated on `ChainReach`, whose
restarts keep the number of ensembles and re-issue ALL recorded jobs (the initiation loop with
`workers ≥ #records` and `tsteps − cstep ≥ #records`).
-/
namespace Infretis.C07
open Infretis.Repex

/-! ## Fresh starts -/

/-- `y0` is what `REPEX_state.__init__` + `load_paths` leave on a fresh start (not a restart) with
    configured seed `seed`: any size, workers, steps, engine table, initial paths; nothing in flight -/
def FreshStart (seed : Nat) (y0 : Sys) : Prop :=
  ∃ (n workers tsteps cstep trajNum : Nat) (occ : List (List Int)) (ensEng : List (List Nat))
    (locked0 : List (List Nat × List Nat)) (paths : List (Nat × List Rat × List Rat)),
    loadPaths (blank n workers tsteps cstep trajNum seed occ ensEng false locked0) paths = .ok y0.s ∧
    y0.jobs = []

theorem FreshStart.fields {seed : Nat} {y0 : Sys} (h : FreshStart seed y0) :
    y0.s.seed = seed ∧ y0.s.entropy = seed ∧ y0.s.spawned = 0 ∧ y0.s.mainDraws = 0 ∧
      y0.s.restarted = false ∧ y0.s.locked = [] ∧ y0.s.lockedOrd = [] ∧ y0.s.locked0Ord = [] := by
  obtain ⟨n, workers, tsteps, cstep, trajNum, occ, ensEng, locked0, paths, hl, _⟩ := h
  have q := loadPaths_touches hl
  exact ⟨q.seed, q.entropy, q.spawned, q.mainDraws, q.restarted, q.locked, q.lockedOrd, q.locked0Ord⟩

/-- a fresh start as the sampler is actually set up: `cstep = 0`, no restart record, `n − 1 ≥ 1`
    initial paths with pairwise distinct numbers below `traj_num` (the hypotheses of C03's
    `fresh_start_is_init`) -/
def WellFormedFresh (seed : Nat) (y0 : Sys) : Prop :=
  ∃ (n workers tsteps trajNum : Nat) (occ : List (List Int)) (ensEng : List (List Nat))
    (paths : List (Nat × List Rat × List Rat)),
    2 ≤ n ∧ paths.length = n - 1 ∧ (paths.map (·.1)).Nodup ∧ (∀ p ∈ paths, p.1 < trajNum) ∧
    loadPaths (blank n workers tsteps 0 trajNum seed occ ensEng false []) paths = .ok y0.s ∧
    y0.jobs = []

theorem WellFormedFresh.fresh {seed : Nat} {y0 : Sys} (h : WellFormedFresh seed y0) :
    FreshStart seed y0 := by
  obtain ⟨n, workers, tsteps, trajNum, occ, ensEng, paths, _, _, _, _, hl, hj⟩ := h
  exact ⟨n, workers, tsteps, 0, trajNum, occ, ensEng, [], paths, hl, hj⟩

theorem WellFormedFresh.chain {seed : Nat} {y0 : Sys} (h : WellFormedFresh seed y0) :
    ChainReach seed y0 [] := by
  obtain ⟨h1, h2, h3, _, _, h6, h7, h8⟩ := h.fresh.fields
  obtain ⟨n, workers, tsteps, trajNum, occ, ensEng, paths, hn, hlen, hnd, hlt, hl, hj⟩ := h
  have hy : y0 = { s := y0.s, jobs := [] } := by
    cases y0; simp only at hj; subst hj; rfl
  have hi : Init y0 := by
    rw [hy]
    exact (FreshLoad.mk workers tsteps 0 trajNum seed occ ensEng false hn hlen hnd hlt hl).init
  exact ChainReach.fresh hi h1 h2 h3 (loadPaths_touches hl).cstep h6 h7 h8

/-! ## A concrete system for the non-vacuity examples

3 ensembles `[0-] [0+] [1+]` + ghost, 2 workers, seed 7, one engine type with 2 instances.
`exEvs`: worker 0 starts a zero swap (two picked entries), worker 1 starts `[1+]`, initiation closes,
the zero swap completes ACCEPTED and worker 0 is given `[0-]`, then worker 1's job completes REJECTED
and worker 1 is given `[1+]`: four jobs issued. -/

def exBlank : St := blank 4 2 10 0 3 7 [[-1, -1]] [[0], [0], [0]] false []

def exPaths : List (Nat × List Rat × List Rat) :=
  [(0, [1], [0,0,0,0]), (1, [1,1,0], [0,0,0,0]), (2, [1,1,0], [0,0,0,0])]

def exS0 : St :=
  match loadPaths exBlank exPaths with
  | .ok s => s
  | .error _ => exBlank

def exSys : Sys := { s := exS0, jobs := [] }

def exEvs : List Ev :=
  [ .start { t := 0, e := 0, coin := true, partner := 1 },
    .start { t := 2, e := 2 },
    .initDone,
    .step 0 .acc [[1], [1, 1, 0]] { t := 0, e := 0, coin := false },
    .step 0 .rej [] { t := 2, e := 2 } ]

/-- weights recomputed from the stored paths at a restart (path 0 lives in `[0-]`) -/
def cxW (pn : Nat) : List Rat := if pn = 0 then [1] else [1, 1, 0]

def okOr {α : Type} (d : α) : Except Err α → α
  | .ok a => a
  | .error _ => d

/-- the states of the examples are defined as `okOr d x`: that `x` returns them needs `x` evaluated only
    as far as its success, not the returned state compared with itself field by field -/
theorem okOr_spec {α : Type} (d : α) {x : Except Err α} (h : x.isOk = true) : x = .ok (okOr d x) := by
  cases x with
  | ok a => rfl
  | error e => cases h

/-- what the examples display of a log entry: ordinal, fresh?, and per picked entry (ensemble, move
    key, engine key) -/
structure Shown where
  ord : Nat
  fresh : Bool
  picked : List (Int × List Nat × List Nat)
deriving DecidableEq, Repr

def showLog (log : List Entry) : List Shown :=
  log.map (fun e => ⟨e.ord, e.fresh, e.job.picked.map (fun p => (p.ens, p.rgen.key, p.rgenEng.key))⟩)

theorem exS0_loaded : loadPaths exBlank exPaths = .ok exS0 := by decide +kernel

theorem ex_wellFormed : WellFormedFresh 7 exSys :=
  ⟨4, 2, 10, 3, [[-1, -1]], [[0], [0], [0]], exPaths, by decide, by decide, by decide, by decide,
    exS0_loaded, rfl⟩

theorem ex_fresh : FreshStart 7 exSys := ex_wellFormed.fresh

theorem ex_runs : ∃ y, run exSys exEvs = .ok y := ⟨okOr exSys (run exSys exEvs), by decide +kernel⟩

/-! ## 1. A job's streams are a function of the seed and the job's ordinal -/

/-- **`stream_function_of_seed_and_ordinal`.**  In every history from a fresh start with configured
    seed `seed`, the `k`-th job issued (`k = 0, 1, 2, …` in issue order over the whole history,
    whichever worker it goes to, whatever completed in between) is a fresh job recorded under the
    ordinal `k` and has, for its `j`-th picked ensemble, the move stream `(seed, [k, j])` and the
    engine stream `(seed, [k, j, 0])`. -/
theorem stream_function_of_seed_and_ordinal (seed : Nat) (y0 : Sys) (h0 : FreshStart seed y0)
    (evs : List Ev) (k : Nat) (e : Entry) (hk : (ghost y0 evs)[k]? = some e)
    (j : Nat) (p : Picked) (hp : e.job.picked[j]? = some p) :
    e.ord = k ∧ e.fresh = true ∧
    p.rgen = { entropy := seed, key := [k, j] } ∧ p.rgenEng = { entropy := seed, key := [k, j, 0] } := by
  -- the chain theorem at the empty log: nothing is on record, so every job is a fresh one
  obtain ⟨h1, h2, h3, _, _, _, h7, h8⟩ := h0.fields
  obtain ⟨hall, _⟩ := ghost_ords_of_no_record evs y0 h8
  obtain ⟨hord, hst⟩ := ((ChainAny.fresh h1 h2 h3 h7 h8).continued evs).1 k e
    (by rw [List.filter_eq_self.mpr hall]; exact hk)
  rw [show (freshOrds []).length + k = k from Nat.zero_add k] at hord hst
  exact ⟨hord, hall e (List.mem_of_getElem? hk), hst j p hp⟩

example : FreshStart 7 exSys ∧
    showLog (ghost exSys exEvs)
      = [⟨0, true, [(-1, [0, 0], [0, 0, 0]), (0, [0, 1], [0, 1, 0])]⟩, ⟨1, true, [(1, [1, 0], [1, 0, 0])]⟩,
         ⟨2, true, [(-1, [2, 0], [2, 0, 0])]⟩, ⟨3, true, [(1, [3, 0], [3, 0, 0])]⟩] :=
  ⟨ex_fresh, by decide +kernel⟩

/-- **the issue log is the scheduler's**: `sysStepJ` is `sysStep` on the state; after a history that
    runs, the spawn counter of the scheduler's seed sequence equals the number of jobs issued, its
    entropy is the seed, and every job in flight is one of the issued jobs. -/
theorem issue_log_faithful (seed : Nat) (y0 y : Sys) (h0 : FreshStart seed y0) (evs : List Ev)
    (hr : run y0 evs = .ok y) :
    (∀ (z : Sys) (ev : Ev), sysStep z ev =
        (match sysStepJ z ev with | .ok r => .ok r.1 | .error e => .error e)) ∧
    y.s.spawned = (ghost y0 evs).length ∧ y.s.entropy = seed ∧ y.s.seed = seed ∧
    (∀ job ∈ y.jobs, job ∈ issued y0 evs) := by
  obtain ⟨h1, h2, h3, _, _, _, _, h8⟩ := h0.fields
  obtain ⟨r1, r2, r3⟩ := run_spawned evs hr
  obtain ⟨hall, _⟩ := ghost_ords_of_no_record evs y0 h8
  refine ⟨sysStepJ_sys, ?_, r2.trans h2, r1.trans h1, ?_⟩
  · rw [r3, h3, Nat.zero_add]
    unfold freshOrds
    rw [List.length_map, List.filter_eq_self.mpr hall]
  · intro job hj
    rcases jobs_subset_issued evs hr job hj with h | h
    · obtain ⟨_, _, _, _, _, _, _, _, _, _, hj0⟩ := h0
      rw [hj0] at h
      simp at h
    · exact h

example : (okOr exSys (run exSys exEvs)).s.spawned = 4 ∧ (ghost exSys exEvs).length = 4
    ∧ (okOr exSys (run exSys exEvs)).jobs.length = 2 := by decide +kernel

/-! ## 2. All streams of a history are pairwise distinct -/

/-- **`streams_pairwise_distinct`.**  All move streams and all engine streams of all jobs issued in
    a history from a fresh start — concurrent or successive — are pairwise distinct `Stream` values. -/
theorem streams_pairwise_distinct (seed : Nat) (y0 : Sys) (h0 : FreshStart seed y0) (evs : List Ev) :
    (allStreams (issued y0 evs)).Nodup := by
  obtain ⟨_, _, _, _, _, _, _, h8⟩ := h0.fields
  obtain ⟨_, hords⟩ := ghost_ords_of_no_record evs y0 h8
  apply (ghost_spec evs y0).1.nodup
  rw [hords]
  exact List.nodup_range' 1

/-- the same from ANY state (also a restarted one), for the fresh jobs of the history: the spawn
    counter only ever goes up within one process -/
theorem streams_pairwise_distinct_fresh (y0 : Sys) (evs : List Ev) :
    (allStreams (((ghost y0 evs).filter (·.fresh)).map (·.job))).Nodup :=
  (ghost_spec evs y0).1.nodup_fresh (ghost_spec evs y0).2.1

example : (allStreams (issued exSys exEvs)).length = 10 ∧ (allStreams (issued exSys exEvs)).Nodup :=
  ⟨by decide +kernel, streams_pairwise_distinct 7 exSys ex_fresh exEvs⟩

/-! ## 3. No job stream is the scheduler's own stream -/

/-- **`streams_ne_scheduler`.**  No stream handed to a job (from any state, fresh or re-issued) has
    the empty spawn key; hence none is the scheduler's own stream `mainStream s = (entropy, [])` of
    any state `s`. -/
theorem streams_ne_scheduler (y0 : Sys) (evs : List Ev) (x : Stream)
    (hx : x ∈ allStreams (issued y0 evs)) : x.key ≠ [] ∧ ∀ s : St, x ≠ mainStream s :=
  (ghost_spec evs y0).1.ne_main hx

example : mainStream (okOr exSys (run exSys exEvs)).s = { entropy := 7, key := [] }
    ∧ mainStream (okOr exSys (run exSys exEvs)).s ∉ allStreams (issued exSys exEvs) := by decide +kernel

/-! ## 4. Restarts -/

/-- **`inflight_record_exact`** (the counting invariant behind `set_rgen()`), at every instant of
    every chain of restarts: `locked` lists exactly the jobs in flight (one record per job, in order,
    with the job's ensembles and path numbers), `lockedOrd` lists their ordinals — pairwise distinct,
    all below the counter, and each job carries the streams of its recorded ordinal — and
    `distinct jobs issued = spawned = completed steps + jobs in flight = cstep + len(locked)`. -/
theorem inflight_record_exact (seed : Nat) (y : Sys) (log : List Entry) (h : ChainReach seed y log) :
    y.s.locked = y.jobs.map jobRec ∧ y.s.lockedOrd.length = y.jobs.length ∧
      (∀ jo ∈ y.jobs.zip y.s.lockedOrd, StreamsAt seed jo.2 jo.1.picked) ∧
      y.s.lockedOrd.Nodup ∧ (∀ o ∈ y.s.lockedOrd, o < y.s.spawned) ∧
      y.s.spawned = y.s.cstep + y.s.locked.length ∧ (freshOrds log).length = y.s.spawned := by
  have hi := h.inv
  refine ⟨hi.ninv.recd, hi.ninv.ordLen, ?_, hi.ninv.ordNodup, hi.ninv.ordLt, hi.ninv.count, ?_⟩
  · have := hi.ninv.ordStreams
    rw [hi.any.hentropy] at this
    exact this
  · rw [hi.any.fresh, List.length_range]

/-- the same at the instant the code writes `restart.toml` (inside `treat_output` of the completing
    job `k`, before the next job is drawn): the completed job's record and ordinal are gone, and
    only they -/
theorem inflight_record_exact_at_write (seed : Nat) (y : Sys) (log : List Entry)
    (h : ChainReach seed y log) (k : Nat) (status : Status) (newW : List (List Rat)) (s2 : St)
    (hm : midState y k status newW = .ok s2) :
    s2.locked = y.s.locked.eraseIdx k ∧ s2.lockedOrd = y.s.lockedOrd.eraseIdx k ∧
      s2.locked = (y.jobs.eraseIdx k).map jobRec ∧
      s2.spawned = s2.cstep + s2.locked.length ∧ (freshOrds log).length = s2.spawned := by
  have hi := h.inv
  obtain ⟨hm2, m1, m2, m3⟩ := midState_inv hi.ninv hm
  exact ⟨m1, m2, hm2.recd, hm2.count, by rw [hi.any.fresh, List.length_range, m3]⟩

example : (okOr exSys (run exSys exEvs)).s.cstep = 2
    ∧ (okOr exSys (run exSys exEvs)).s.locked = [([-1], [3]), ([1], [2])]
    ∧ (okOr exSys (run exSys exEvs)).s.lockedOrd = [2, 3] := by decide +kernel

/-- **`reissue_same_streams`.**  Stop a chain at any instant (between events), restart, let the
    initiation loop re-issue the recorded jobs.  The `i`-th re-issued job is the `i`-th job that was
    in flight at the stop (same ensembles, same path numbers), it is re-issued under the ordinal
    recorded for that job, it receives exactly the move and engine streams that job had before the
    stop, and the spawn counter is what it was at the stop. -/
theorem reissue_same_streams (seed : Nat) (y : Sys) (log : List Entry) (h : ChainReach seed y log)
    (workers tsteps : Nat) (occ : List (List Int)) (ensEng : List (List Nat))
    (weightOf : Nat → List Rat) (s' : St)
    (hre : restore (persist y.s) y.s.n workers tsteps occ ensEng weightOf = .ok s')
    (pre : List Ev) (hlen : pre.length = y.s.locked.length)
    (hst : ∀ ev ∈ pre, ∃ o d, ev = Ev.start o d) (y' : Sys)
    (hr : run { s := s', jobs := [] } pre = .ok y') :
    (ghost { s := s', jobs := [] } pre).length = y.jobs.length ∧ y'.s.spawned = y.s.spawned ∧
    ∀ (i : Nat) (e : Entry) (job : Job), (ghost { s := s', jobs := [] } pre)[i]? = some e →
      y.jobs[i]? = some job →
      e.fresh = false ∧ y.s.lockedOrd[i]? = some e.ord ∧ jobRec e.job = jobRec job ∧
      ∀ (j : Nat) (p q : Picked), e.job.picked[j]? = some p → job.picked[j]? = some q →
        p.rgen = q.rgen ∧ p.rgenEng = q.rgenEng := by
  have hi := h.inv
  exact Infretis.Repex.reissue_same_streams hi.ninv (by rw [hi.any.hentropy, hi.any.hseed]) hre hlen hst hr

/-- the same for a restart from the file written inside `treat_output` (where the code writes it):
    the jobs still in flight are all but the completing one -/
theorem reissue_same_streams_at_write (seed : Nat) (y : Sys) (log : List Entry)
    (h : ChainReach seed y log) (k : Nat) (status : Status) (newW : List (List Rat)) (s2 : St)
    (hmid : midState y k status newW = .ok s2)
    (workers tsteps : Nat) (occ : List (List Int)) (ensEng : List (List Nat))
    (weightOf : Nat → List Rat) (s' : St)
    (hre : restore (persist s2) s2.n workers tsteps occ ensEng weightOf = .ok s')
    (pre : List Ev) (hlen : pre.length = s2.locked.length)
    (hst : ∀ ev ∈ pre, ∃ o d, ev = Ev.start o d) (y' : Sys)
    (hr : run { s := s', jobs := [] } pre = .ok y') :
    (ghost { s := s', jobs := [] } pre).length = (y.jobs.eraseIdx k).length ∧
    y'.s.spawned = y.s.spawned ∧
    ∀ (i : Nat) (e : Entry) (job : Job), (ghost { s := s', jobs := [] } pre)[i]? = some e →
      (y.jobs.eraseIdx k)[i]? = some job →
      e.fresh = false ∧ s2.lockedOrd[i]? = some e.ord ∧ jobRec e.job = jobRec job ∧
      ∀ (j : Nat) (p q : Picked), e.job.picked[j]? = some p → job.picked[j]? = some q →
        p.rgen = q.rgen ∧ p.rgenEng = q.rgenEng := by
  have hi := h.inv
  obtain ⟨hm2, _, _, m3⟩ := midState_inv hi.ninv hmid
  have m := midState_touches hmid
  have := Infretis.Repex.reissue_same_streams hm2 (by rw [m.entropy, m.seed, hi.any.hentropy, hi.any.hseed]) hre hlen hst hr
  rw [m3] at this
  exact this

/-- **`streams_pairwise_distinct_across_restarts`** (FULL: any number of restarts, with and without
    jobs in flight, every number of workers before and after each restart, all / some / none of the
    recorded jobs re-issued, any event interleaving — `ChainAny`).  Over the log of a whole chain:
    (a) every entry's job carries `(seed, [ord, j])` / `(seed, [ord, j, 0])` for its recorded ordinal;
    (b) the `k`-th DISTINCT (fresh) job of the chain has ordinal `k`, and the spawn counter equals
        the number of distinct jobs issued — a job's streams are a function of the seed and of the
        job's ordinal counted over the whole chain;
    (c) all streams of all distinct jobs are pairwise distinct;
    (d) two entries with different ordinals have no stream in common; two entries with the same
        ordinal (a job and its re-issues) have the same streams entry by entry;
    (e) every entry — re-issues included — carries the ordinal of a distinct job issued earlier or
        by that entry itself (no ordinal is invented);
    (f) no stream is the scheduler's own. -/
theorem streams_pairwise_distinct_across_restarts (seed : Nat) (y : Sys) (log : List Entry)
    (h : ChainAny seed y log) :
    (∀ e ∈ log, ∀ (j : Nat) (p : Picked), e.job.picked[j]? = some p →
        p.rgen = { entropy := seed, key := [e.ord, j] } ∧
        p.rgenEng = { entropy := seed, key := [e.ord, j, 0] }) ∧
    (freshOrds log = List.range (freshOrds log).length ∧ y.s.spawned = (freshOrds log).length ∧
      y.s.entropy = seed) ∧
    (allStreams ((log.filter (·.fresh)).map (·.job))).Nodup ∧
    (∀ e1 ∈ log, ∀ e2 ∈ log,
      (e1.ord ≠ e2.ord → ∀ x ∈ allStreams [e1.job], x ∉ allStreams [e2.job]) ∧
      (e1.ord = e2.ord → ∀ (j : Nat) (p q : Picked), e1.job.picked[j]? = some p →
        e2.job.picked[j]? = some q → p.rgen = q.rgen ∧ p.rgenEng = q.rgenEng)) ∧
    (∀ e ∈ log, ∃ e0 ∈ log, e0.fresh = true ∧ e0.ord = e.ord) ∧
    (∀ x ∈ allStreams (log.map (·.job)), x.key ≠ [] ∧ ∀ s : St, x ≠ mainStream s) := by
  have hi := h.inv
  have hfl : (freshOrds log).length = y.s.spawned := by rw [hi.fresh, List.length_range]
  refine ⟨fun e he j p hp => hi.tagged e he j p hp, ⟨by rw [hfl]; exact hi.fresh, hfl.symm, hi.hentropy⟩,
    hi.tagged.nodup_fresh (hi.fresh.trans List.range_eq_range'), ?_, ?_, fun x hx => hi.tagged.ne_main hx⟩
  · intro e1 h1 e2 h2
    exact ⟨fun hne => hi.tagged.disjoint h1 h2 hne, fun heq j p q hp hq => hi.tagged.same h1 h2 heq j p q hp hq⟩
  · intro e he
    have hlt := hi.ordLt e he
    have hm : e.ord ∈ freshOrds log := by rw [hi.fresh]; exact List.mem_range.mpr hlt
    unfold freshOrds at hm
    obtain ⟨e0, he0, hord⟩ := List.mem_map.mp hm
    obtain ⟨h1, h2⟩ := List.mem_filter.mp he0
    exact ⟨e0, h1, h2, hord⟩

/-- a fresh start (any `FreshStart`: no slot invariant needed) begins an unrestricted chain -/
theorem freshStart_chainAny {seed : Nat} {y0 : Sys} (h : FreshStart seed y0) : ChainAny seed y0 [] := by
  obtain ⟨h1, h2, h3, _, _, _, h7, h8⟩ := h.fields
  exact ChainAny.fresh h1 h2 h3 h7 h8

/-- the same over the restricted chains (every restart re-issues all recorded jobs), where in addition
    `reissue_same_streams` identifies every re-issue entry with the recorded job -/
theorem streams_pairwise_distinct_across_restarts_reissue_all (seed : Nat) (y : Sys) (log : List Entry)
    (h : ChainReach seed y log) :
    (∀ e ∈ log, ∀ (j : Nat) (p : Picked), e.job.picked[j]? = some p →
        p.rgen = { entropy := seed, key := [e.ord, j] } ∧
        p.rgenEng = { entropy := seed, key := [e.ord, j, 0] }) ∧
    (allStreams ((log.filter (·.fresh)).map (·.job))).Nodup ∧
    (∀ e ∈ log, ∃ e0 ∈ log, e0.fresh = true ∧ e0.ord = e.ord) :=
  let r := streams_pairwise_distinct_across_restarts seed y log h.toAny
  ⟨r.1, r.2.2.1, r.2.2.2.2.1⟩

/-- **`fresh_jobs_continue_ordinals`.**  After any chain in which `J` distinct jobs were issued, the
    `m`-th FRESH job of any continuation (whatever is re-issued in between) has ordinal `J + m` and
    the streams `(seed, [J + m, j])` / `(seed, [J + m, j, 0])`; re-issued jobs carry ordinals `< J`. -/
theorem fresh_jobs_continue_ordinals (seed : Nat) (y : Sys) (log : List Entry)
    (h : ChainAny seed y log) (evs : List Ev) :
    (∀ (m : Nat) (e : Entry), ((ghost y evs).filter (·.fresh))[m]? = some e →
      e.ord = (freshOrds log).length + m ∧
      ∀ (j : Nat) (p : Picked), e.job.picked[j]? = some p →
        p.rgen = { entropy := seed, key := [(freshOrds log).length + m, j] } ∧
        p.rgenEng = { entropy := seed, key := [(freshOrds log).length + m, j, 0] }) ∧
    (∀ e ∈ ghost y evs, e.fresh = false → e.ord < (freshOrds log).length) :=
  h.continued evs

/-- **`restart_continues_ordinals`.**  After any chain (any restarts, with or without jobs in flight)
    in which `J` distinct jobs were issued, the `m`-th job issued in any continuation is a fresh job
    with ordinal `J + m` and streams `(seed, [J + m, j])` / `(seed, [J + m, j, 0])`. -/
theorem restart_continues_ordinals (seed : Nat) (y : Sys) (log : List Entry)
    (h : ChainReach seed y log) (evs : List Ev) (m : Nat) (e : Entry)
    (hm : (ghost y evs)[m]? = some e) (j : Nat) (p : Picked) (hp : e.job.picked[j]? = some p) :
    e.fresh = true ∧ e.ord = (freshOrds log).length + m ∧
      p.rgen = { entropy := seed, key := [(freshOrds log).length + m, j] } ∧
      p.rgenEng = { entropy := seed, key := [(freshOrds log).length + m, j, 0] } := by
  -- with nothing left to re-issue every job of the continuation is a fresh one
  have hall := ghost_all_fresh evs h.inv.ninv.core.l0
  have hfil : (ghost y evs).filter (·.fresh) = ghost y evs := List.filter_eq_self.mpr hall
  obtain ⟨hord, hst⟩ := (fresh_jobs_continue_ordinals seed y log h.toAny evs).1 m e (by rw [hfil]; exact hm)
  exact ⟨hall e (List.mem_of_getElem? hm), hord, hst j p hp⟩

/-! ### concrete chain: fresh start, stop, restart with a job in flight, stop, restart

Segment 1 (fresh, seed 7, 2 workers): job A (`[0-]`, ordinal 0), job B (`[1+]`, ordinal 1),
initiation closes, B completes REJECTED; the restart file written at that instant records A in
flight with ordinal 0.
Segment 2 (restart 1): A is re-issued under ordinal 0 (counter restored as `1 + 1 = 2`, untouched by
the re-issue), a new job B' on `[1+]` is drawn (ordinal 2), initiation closes, B' completes REJECTED;
the restart file records A (ordinal 0), `cstep = 2`.
Segment 3 (restart 2): the counter is restored as `2 + 1 = 3` — the number of distinct jobs A, B, B' —
A is re-issued under ordinal 0 again, and the next fresh job gets ordinal 3. -/

def cxEvs : List Ev := [ .start { t := 0, e := 0 }, .start { t := 2, e := 2 }, .initDone ]
def cxPre : List Ev := [ .start { t := 0, e := 0 } ]
def cxEvs2 : List Ev := [ .start { t := 2, e := 2 }, .initDone ]

def cx1 : Sys := okOr exSys (run exSys cxEvs)
def cxMid1 : St := okOr exS0 (midState cx1 1 .rej [])
def cxS2 : St := okOr exS0 (restore (persist cxMid1) cxMid1.n 2 10 [[-1, -1]] [[0], [0], [0]] cxW)
def cx2r : Sys := okOr exSys (run { s := cxS2, jobs := [] } cxPre)
def cx2 : Sys := okOr exSys (run cx2r cxEvs2)
def cxMid2 : St := okOr exS0 (midState cx2 1 .rej [])
def cxS3 : St := okOr exS0 (restore (persist cxMid2) cxMid2.n 2 10 [[-1, -1]] [[0], [0], [0]] cxW)
def cx3r : Sys := okOr exSys (run { s := cxS3, jobs := [] } cxPre)

theorem cx_runs : run exSys cxEvs = .ok cx1 ∧ midState cx1 1 .rej [] = .ok cxMid1 ∧
    restore (persist cxMid1) cxMid1.n 2 10 [[-1, -1]] [[0], [0], [0]] cxW = .ok cxS2 ∧
    run { s := cxS2, jobs := [] } cxPre = .ok cx2r ∧ run cx2r cxEvs2 = .ok cx2 ∧
    midState cx2 1 .rej [] = .ok cxMid2 ∧
    restore (persist cxMid2) cxMid2.n 2 10 [[-1, -1]] [[0], [0], [0]] cxW = .ok cxS3 ∧
    run { s := cxS3, jobs := [] } cxPre = .ok cx3r ∧
    cxPre.length = cxMid1.locked.length ∧ cxPre.length = cxMid2.locked.length := by
  decide +kernel

def cxLog : List Entry :=
  ((([] ++ ghost exSys cxEvs) ++ ghost { s := cxS2, jobs := [] } cxPre) ++ ghost cx2r cxEvs2) ++
    ghost { s := cxS3, jobs := [] } cxPre

/-- non-vacuity of the chain theorems: the concrete two-restart chain, each restart with a job in
    flight, is a `ChainReach` -/
theorem cx_chain : ChainReach 7 cx3r cxLog := by
  have hst : ∀ ev ∈ cxPre, ∃ o d, ev = Ev.start o d := by
    intro ev hev
    simp only [cxPre, List.mem_singleton] at hev
    exact ⟨_, _, hev⟩
  obtain ⟨r1, r2, r3, r4, r5, r6, r7, r8, r9, r10⟩ := cx_runs
  have c1 := ChainReach.run ex_wellFormed.chain r1
  have c2 := ChainReach.restartMid c1 r2 r3 r9 hst r4
  have c3 := ChainReach.run c2 r5
  exact ChainReach.restartMid c3 r6 r7 r10 hst r8

example : showLog cxLog
      = [⟨0, true, [(-1, [0, 0], [0, 0, 0])]⟩, ⟨1, true, [(1, [1, 0], [1, 0, 0])]⟩,
         ⟨0, false, [(-1, [0, 0], [0, 0, 0])]⟩, ⟨2, true, [(1, [2, 0], [2, 0, 0])]⟩,
         ⟨0, false, [(-1, [0, 0], [0, 0, 0])]⟩]
    ∧ cxS2.spawned = 2 ∧ cxS2.locked0Ord = [some 0] ∧ cxMid2.spawned = 3 ∧ cxMid2.cstep = 2
    ∧ cxMid2.lockedOrd = [0] ∧ cxS3.spawned = 3 ∧ cx3r.s.spawned = 3 := by
  decide +kernel

/-- falsy-but-valid corner: a restart file written at `cstep = 0` (nothing issued yet), restarted with
    ONE worker instead of two: the chain continues at ordinal 0 — the first job after the restart is
    the very first job of the chain -/
def czS : St := okOr exS0 (restore (persist exS0) exS0.n 1 10 [[-1]] [[0], [0], [0]] cxW)

theorem cz_chain : ChainReach 7 { s := czS, jobs := [] } ([] ++ ghost { s := czS, jobs := [] } []) :=
  ChainReach.restart (pre := []) (workers := 1) (tsteps := 10) (occ := [[-1]]) (ensEng := [[0], [0], [0]])
    (weightOf := cxW) (s' := czS) ex_wellFormed.chain (okOr_spec _ (by decide +kernel)) (by decide +kernel)
    (by intro ev hev; simp at hev) rfl

example : czS.cstep = 0 ∧ czS.restarted = true ∧ czS.spawned = 0 ∧ czS.workers = 1
    ∧ showLog (ghost { s := czS, jobs := [] } [.start { t := 0, e := 0 }, .initDone,
        .step 0 .rej [] { t := 2, e := 2 }])
      = [⟨0, true, [(-1, [0, 0], [0, 0, 0])]⟩, ⟨1, true, [(1, [1, 0], [1, 0, 0])]⟩] := by
  decide +kernel

/-! ## 5. The scheduler's own draws -/

/-- **`scheduler_draws_accounted`** (scheduler side of "all draws come from the right stream").
    In every history from a fresh start the PICK position of the scheduler's stream (`mainDraws`: the
    requests of `pick()` / `pick_traj_ens()`) advances by exactly the draw requests returned by the
    `pick()`s (`Draw.choiceAll`, then possibly `.coin`, then possibly `.choiceCol` — the only request forms
    there are, none of which names a job stream); `treat_output`, `loop`, `initiate`, the engine assignment
    request nothing.  Each job's group of requests has one of the three shapes.
    NOT counted here (the state machine uses the exact P matrix): the Monte-Carlo requests `self.prob` makes
    on the same stream through `inf_retis → random_prob` when an idle block has more than 12 rows and is not
    row-constant — section 9: none with at most 12 idle slots (`pick_draws_accounted_partial`), present
    otherwise (`scheduler_draws_accounted_monte_carlo_counterexample`).  They are draws of the SCHEDULER on
    its OWN stream; no statement about job streams depends on them. -/
theorem scheduler_draws_accounted (seed : Nat) (y0 y : Sys) (h0 : FreshStart seed y0) (evs : List Ev)
    (hr : run y0 evs = .ok y) :
    y.s.mainDraws = (schedDraws y0 evs).length ∧
    ∀ e ∈ ghost y0 evs, e.draws = [] ∨ DrawShape e.draws := by
  obtain ⟨_, _, _, h4, h5, _⟩ := h0.fields
  obtain ⟨_, hm⟩ := run_mainDraws evs hr (Or.inl h5)
  exact ⟨by rw [hm, h4, Nat.zero_add], ghost_drawShape evs y0 (Or.inl h5)⟩

example : (okOr exSys (run exSys exEvs)).s.mainDraws = 7 ∧ (schedDraws exSys exEvs).length = 7
    ∧ (ghost exSys exEvs).map (fun e => e.draws.length) = [3, 1, 2, 1] := by decide +kernel

/-- after a restart: re-issued jobs draw nothing on the scheduler stream; the first fresh
    `pick_lock()` resumes it at the position saved in the restart file (once) -/
theorem scheduler_draws_after_restart (s s' : St) (o : PickOutcome) (d : Nat) (ps : List Picked)
    (ds : List Draw) (hp : pickLock s o d = .ok (s', ps, ds)) :
    (s.locked0 ≠ [] → ds = [] ∧ s'.mainDraws = s.mainDraws) ∧
    (s.locked0 = [] → s.restarted = true → s.rgenRestored = false →
      s'.mainDraws = d + ds.length ∧ s'.rgenRestored = true ∨ s'.restarted = false) := by
  constructor
  · intro hne
    rcases pickLock_parts hp with ⟨hl0, _⟩ | ⟨enss0, trajs0, rest, s1, pairs, _, hre, _, rfl, hds⟩
    · exact absurd hl0 hne
    · exact ⟨hds, (reissue_touches hre).mainDraws⟩
  · intro h0 hr hn
    exact Or.inl (pickLock_draws_restored hp h0 hr hn)

/-! ## 5b. The engine objects of a job hold that job's engine streams

`select_shoot` hands every engine object of every picked ensemble the ensemble's `rgen-eng`
(`assignEngineStreams`, Model/EngSetup.lean; an engine object = (engine type, instance) of the
worker process, its `rgen` attribute lives in the table `EngTbl`).  Whatever an engine object held
before — the stale generator of an earlier job, or nothing — every in-process draw of job `k` is
then made on a stream `(seed, [k, j, 0])` of that job. -/

/-- **`engines_hold_job_streams`.**  For every job of every chain (fresh or re-issued; one ensemble or
    a zero swap; `[0-]` and `[0+]` on one shared engine object or on different ones; one or several
    engine types per ensemble; any instance indices) and ANY prior contents of the process's engine
    table: after the set-up every engine object the job uses holds the engine stream
    `(seed, [ord, j, 0])` of an entry `j` of THAT job which lists the object. -/
theorem engines_hold_job_streams (seed : Nat) (y : Sys) (log : List Entry) (h : ChainAny seed y log)
    (e : Entry) (he : e ∈ log) (tbl : EngTbl) (obj : EngObj)
    (hobj : ∃ p ∈ e.job.picked, obj ∈ p.engIdx) :
    ∃ (j : Nat) (q : Picked), e.job.picked[j]? = some q ∧ obj ∈ q.engIdx ∧
      engRgen (assignEngineStreams tbl e.job.picked) obj = some { entropy := seed, key := [e.ord, j, 0] } :=
  assign_job_ordinal (h.inv.tagged e he) tbl obj hobj

/-- **`engine_of_own_ensemble`.**  An engine object listed by a picked ensemble holds exactly that
    ensemble's engine stream unless a LATER picked ensemble of the same job shares the object — so
    in a zero swap whose ensembles run on different engine objects each object gets its own
    ensemble's stream; an object the job does not use keeps what it had. -/
theorem engine_of_own_ensemble (l1 l2 : List Picked) (p : Picked) (tbl : EngTbl) (obj : EngObj) :
    (obj ∈ p.engIdx → (∀ q ∈ l2, obj ∉ q.engIdx) →
      engRgen (assignEngineStreams tbl (l1 ++ p :: l2)) obj = some p.rgenEng) ∧
    ((∀ q ∈ l1 ++ p :: l2, obj ∉ q.engIdx) →
      engRgen (assignEngineStreams tbl (l1 ++ p :: l2)) obj = engRgen tbl obj) :=
  ⟨fun he hl => assign_last l1 l2 p tbl obj he hl, fun hn => assign_untouched _ tbl obj hn⟩

/-- a system in which `[0-]` has its own engine type (type 1, two instances), the other ensembles
    type 0: the zero swap of worker 0 drives two different engine objects -/
def ex2Sys : Sys :=
  { s := okOr exBlank (loadPaths (blank 4 2 10 0 3 7 [[-1, -1], [-1, -1]] [[1], [0], [0]] false []) exPaths),
    jobs := [] }

def ex2Job : List Picked :=
  ((ghost ex2Sys [.start { t := 0, e := 0, coin := true, partner := 1 }]).map (·.job.picked)).flatten

example : ex2Job.map (fun p => (p.ens, p.engIdx, p.rgenEng)) =
      [(-1, [(1, 0)], ⟨7, [0, 0, 0]⟩), (0, [(0, 0)], ⟨7, [0, 1, 0]⟩)]
    -- both engine objects carry stale generators of some earlier job 99; a third object is not used
    ∧ (let tbl := assignEngineStreams [((1, 0), ⟨7, [99, 0, 0]⟩), ((0, 0), ⟨7, [99, 0, 0]⟩), ((0, 1), ⟨7, [98, 0, 0]⟩)] ex2Job
       (engRgen tbl (1, 0), engRgen tbl (0, 0), engRgen tbl (0, 1)))
      = (some ⟨7, [0, 0, 0]⟩, some ⟨7, [0, 1, 0]⟩, some ⟨7, [98, 0, 0]⟩) := by
  decide +kernel

/-! ## 6. Historical record: the restart path before the repairs

`setRgenAsIs` / `pickLockAsIs` (before 96833bd / ec057e1) and `pickLockFreshOrd` (before 147c104) live
in `Lemmas/RepexC07AsIs.lean`; they are not part of the model the tie runs. -/

/-- a concrete restarted 2-worker state as the pre-fix `__init__` left it: `cstep = 2`, seed 1,
    `set_rgen()` applied (entropy 0, counter 2) -/
def asIsS : St :=
  setRgenAsIs (okOr exBlank (loadPaths (blank 4 2 10 2 3 1 [[-1, -1]] [[0], [0], [0]] true []) exPaths)) 0

/-- the picked entries of two consecutive calls of a `pick_lock` variant `f` -/
def twoPicks (f : St → PickOutcome → Nat → Except Err (St × List Picked × List Draw)) (s : St)
    (o1 o2 : PickOutcome) : Option (List Picked × List Picked) :=
  match f s o1 0 with
  | .error _ => none
  | .ok (s1, ps1, _) =>
    match f s1 o2 0 with
    | .error _ => none
    | .ok (_, ps2, _) => some (ps1, ps2)

def showPicked (ps : List Picked) : List (Int × Stream × Stream) := ps.map (fun p => (p.ens, p.rgen, p.rgenEng))

/-- **`streams_collide_asIs_counterexample`** (pre-fix behaviour, kept as a record; fixed by ec057e1).
    After a restart at `cstep = 2` with two workers, the two concurrent jobs started by the two
    `pick_lock()` calls both got the move stream `(0, [2, 0])` and the engine stream `(0, [2, 0, 0])`.
    (`streams_collide_asIs` proves the collision for every state, not only this one.) -/
theorem streams_collide_asIs_counterexample :
    (twoPicks pickLockAsIs asIsS { t := 0, e := 0 } { t := 2, e := 2 }).map
        (fun r => (showPicked r.1, showPicked r.2))
      = some ([(-1, ⟨0, [2, 0]⟩, ⟨0, [2, 0, 0]⟩)], [(1, ⟨0, [2, 0]⟩, ⟨0, [2, 0, 0]⟩)]) := by
  decide +kernel

/-- **`entropy_not_seed_asIs_counterexample`** (pre-fix; fixed by 96833bd): with configured seed 1
    the job streams after a restart carried entropy 0 — not a function of the seed. -/
theorem entropy_not_seed_asIs_counterexample :
    asIsS.seed = 1 ∧
    (twoPicks pickLockAsIs asIsS { t := 0, e := 0 } { t := 2, e := 2 }).map
        (fun r => (r.1.map (fun p => p.rgen.entropy), r.2.map (fun p => p.rgen.entropy)))
      = some ([0], [0]) := by
  decide +kernel

/-- the collision for every state (`Infretis.Repex.pickLockAsIs_collide`), restated here -/
theorem streams_collide_asIs (s s1 s2 : St) (o1 o2 : PickOutcome) (d1 d2 : Nat)
    (ps1 ps2 : List Picked) (ds1 ds2 : List Draw) (h0 : s.locked0 = []) (hr : s.restarted = true)
    (hp1 : pickLockAsIs s o1 d1 = .ok (s1, ps1, ds1))
    (hp2 : pickLockAsIs s1 o2 d2 = .ok (s2, ps2, ds2)) :
    ∀ (j : Nat) (p q : Picked), ps1[j]? = some p → ps2[j]? = some q →
      p.rgen = q.rgen ∧ p.rgenEng = q.rgenEng :=
  pickLockAsIs_collide h0 hr hp1 hp2

/-- **`reissue_freshOrd_undercounts_asIs`** (between ec057e1 and 147c104; the finding of this
    package, fixed by 147c104): for every state, re-issuing a recorded job under a FRESH ordinal
    advances the counter while the job stays counted as in flight, so the surplus of `spawned` over
    `cstep + #locked + #waiting` grows by one per re-issue; the next `set_rgen()` then restores a
    counter that is too small by the number of re-issued jobs and ordinals are handed out twice. -/
theorem reissue_freshOrd_undercounts_asIs (s s' : St) (o : PickOutcome) (d : Nat) (ps : List Picked)
    (ds : List Draw) (hne : s.locked0 ≠ []) (hp : pickLockFreshOrd s o d = .ok (s', ps, ds)) :
    s'.spawned + (s.cstep + s.locked.length + s.locked0.length)
      = s.spawned + (s'.cstep + s'.locked.length + s'.locked0.length) + 1 ∧
    StreamsAt s.entropy s.spawned ps :=
  reissue_freshOrd_undercounts hne hp

/-- **`streams_pairwise_distinct_across_restarts_asIs_counterexample`** (the chain collision before
    147c104, on the concrete chain above): at restart 1 the record `A` waits with counter 2; the
    as-is re-issue hands A the FRESH ordinal 2 (`(7, [2, 0])`) and moves the counter to 3 with A still
    on record — `spawned = 3` but `cstep + #locked = 1 + 1`: a restart from here restores 2 and the
    next job gets `(7, [2, 0])` again.  The repaired `pick_lock()` re-issues A under its recorded
    ordinal 0 and leaves the counter at 2. -/
theorem streams_pairwise_distinct_across_restarts_asIs_counterexample :
    cxS2.spawned = 2 ∧ cxS2.cstep = 1 ∧ cxS2.locked0.length = 1 ∧
    (match pickLockFreshOrd cxS2 { t := 0, e := 0 } 0 with
      | .ok (s, ps, _) => some (showPicked ps, s.spawned, s.cstep + s.locked.length)
      | .error _ => none) = some ([(-1, ⟨7, [2, 0]⟩, ⟨7, [2, 0, 0]⟩)], 3, 2) ∧
    (match pickLock cxS2 { t := 0, e := 0 } 0 with
      | .ok (s, ps, _) => some (showPicked ps, s.spawned, s.cstep + s.locked.length)
      | .error _ => none) = some ([(-1, ⟨7, [0, 0]⟩, ⟨7, [0, 0, 0]⟩)], 2, 2) := by
  decide +kernel

/-! ### before 17a0342: a dropped record made the next restart re-use ordinals

Segment 1 (fresh, 2 workers): A (`[0-]`, ordinal 0) and B (`[1+]`, ordinal 1) in flight; stop.
Segment 2 is restarted with ONE worker: A is re-issued (ordinal 0), the record of B is dropped, the
counter is 2; A completes, a new job C on `[1+]` gets ordinal 2; C completes; the restart file written
at that instant has `cstep = 2`, nothing in flight — but three distinct jobs (0, 1, 2) were issued. -/

def drS1 : St := okOr exS0 (restore (persist cx1.s) cx1.s.n 1 10 [[-1]] [[0], [0], [0]] cxW)
def drEvs : List Ev := [ .start { t := 0, e := 0 }, .initDone, .step 0 .rej [] { t := 2, e := 2 } ]
def drY : Sys := okOr exSys (run { s := drS1, jobs := [] } drEvs)
def drMid : St := okOr exS0 (midState drY 0 .rej [])
def drS2 : St := okOr exS0 (restore (persist drMid) drMid.n 1 10 [[-1]] [[0], [0], [0]] cxW)
def drS2AsIs : St := okOr exS0 (restoreAsIs17 (persist drMid) drMid.n 1 10 [[-1]] [[0], [0], [0]] cxW)

/-- the chain with the dropped record is a `ChainAny` (non-vacuity of the unrestricted theorems) -/
theorem dr_chain : ChainAny 7 { s := drS2, jobs := [] }
    (([] ++ ghost exSys cxEvs) ++ ghost { s := drS1, jobs := [] } drEvs) := by
  have h : restore (persist cx1.s) cx1.s.n 1 10 [[-1]] [[0], [0], [0]] cxW = .ok drS1 ∧
      run { s := drS1, jobs := [] } drEvs = .ok drY ∧ midState drY 0 .rej [] = .ok drMid ∧
      restore (persist drMid) drMid.n 1 10 [[-1]] [[0], [0], [0]] cxW = .ok drS2 := by decide +kernel
  exact ChainAny.restartMid (ChainAny.run (ChainAny.restart
    (ChainAny.run (freshStart_chainAny ex_fresh) cx_runs.1) h.1) h.2.1) h.2.2.1 h.2.2.2

/-- **`dropped_record_asIs_counterexample`** (fixed by 17a0342).
    On the chain above: one record (B, ordinal 1) waits un-re-issued, the log of segment 2 is
    re-issue of A under ordinal 0 and the fresh job C under ordinal 2, the restart file is written from
    a state with `spawned = 3`, `cstep + #locked = 2`.  The as-is restart restores the counter 2 and
    the next job gets `(7, [2, 0])` — the streams of the COMPLETED job C; the repaired restart finds
    `current.spawned = 3` in the file and the next job gets `(7, [3, 0])`. -/
theorem dropped_record_asIs_counterexample :
    drY.s.locked0 = [([2], [2])] ∧
    showLog (ghost { s := drS1, jobs := [] } drEvs)
      = [⟨0, false, [(-1, [0, 0], [0, 0, 0])]⟩, ⟨2, true, [(1, [2, 0], [2, 0, 0])]⟩] ∧
    drMid.spawned = 3 ∧ drMid.cstep + drMid.locked.length = 2 ∧ (persist drMid).spawnedRec = some 3 ∧
    drS2AsIs.spawned = 2 ∧
    showLog (ghost { s := drS2AsIs, jobs := [] } [.start { t := 2, e := 2 }])
      = [⟨2, true, [(1, [2, 0], [2, 0, 0])]⟩] ∧
    drS2.spawned = 3 ∧
    showLog (ghost { s := drS2, jobs := [] } [.start { t := 2, e := 2 }])
      = [⟨3, true, [(1, [3, 0], [3, 0, 0])]⟩] := by
  decide +kernel

/-- the repaired `pick_lock()` after a restart without recorded jobs (seed 1, restart at `cstep = 2`):
    ordinals continue at `cstep + #in flight = 2`, then 3, with the configured seed -/
example :
    (twoPicks pickLock (okOr exBlank (loadPaths (blank 4 2 10 2 3 1 [[-1, -1]] [[0], [0], [0]] true []) exPaths))
        { t := 0, e := 0 } { t := 2, e := 2 }).map (fun r => (showPicked r.1, showPicked r.2))
      = some ([(-1, ⟨1, [2, 0]⟩, ⟨1, [2, 0, 0]⟩)], [(1, ⟨1, [3, 0]⟩, ⟨1, [3, 0, 0]⟩)]) := by
  decide +kernel

/-! ## 7. Every random number a job draws in-process comes from that job's streams

`JobDraws.runJob` (Model/JobDraws.lean) composes the models of `run_md → select_shoot → shoot / wire_fencing /
retis_swap_zero / quantis_swap_zero → engine.modify_velocities / engine.propagate` on the picked entries the
scheduler model hands out: the set-up loop of `select_shoot` (`assignEngineStreams`), the move models of C09/C11
(`Moves.shoot`, `Moves.wireFencing`, `ZeroSwap.retisSwapZero`, `ZeroSwap.quantisSwapZero`) on arbitrary scripted
outcomes, the velocity request of C16's model (`Vel.modifyVelocities`) and, per engine class, the draws of one
`modify_velocities` / `_propagate_from` call (LAMMPS / TurtleMD integrator seeds, ASE Langevin noise).  It returns
the job's TRACE: every random-number request in call order, resolved to the generator object the code reaches
(`picked[ens]["ens"]["rgen"]`, `engines[key][0].rgen` as the set-up left it).  The statements below are about
that function — the one `drv_c07` runs for the tie (`jobdraws`). -/

open Infretis.JobDraws

/-- **`job_draws_on_job_streams`** (FULL).  For every job of every chain (any restarts, fresh or re-issued, one
    ensemble or a zero swap), every engine class per engine type, ANY prior contents of the worker's engine
    table and every scripted outcome of the move: each request of the job's trace is made
    (a) on the move stream `(seed, [ord, j])` of an entry `j` of THIS job — and is then an `integers` or a
        `random` (shooting point, length bound, segment pick, swap acceptance), or
    (b) on the engine stream `(seed, [ord, j, 0])` of an entry `j` of THIS job (velocity draws, integrator
        seeds, thermostat noise), or
    (c) is GROMACS's own velocity generation (outside the property by its words);
    never on numpy's global state, never on the scheduler's stream. -/
theorem job_draws_on_job_streams (seed : Nat) (y : Sys) (log : List Entry) (h : ChainAny seed y log)
    (e : Entry) (he : e ∈ log) (v : Moves.Variant) (kinds : List EngKind) (tbl : EngTbl) (mv : MoveIn)
    (out : JobOut) (hr : runJob v kinds tbl e.job.picked mv = .ok out) :
    ∀ d ∈ out.trace,
      ((∃ j, j < e.job.picked.length ∧ d.src = .stream { entropy := seed, key := [e.ord, j] } ∧
          (d.what = .random ∨ ∃ lo hi, d.what = .integers lo hi)) ∨
       (∃ j, j < e.job.picked.length ∧ d.src = .stream { entropy := seed, key := [e.ord, j, 0] }) ∨
       (d.src = .external ∧ d.what = .genvel)) ∧
      d.src ≠ .numpyGlobal ∧ (∀ s : St, d.src ≠ .stream (mainStream s)) := by
  intro d hd
  have k := runJob_onOrd (h.inv.tagged e he) hr d hd
  exact ⟨k, k.ne_global, fun s hc => by cases k.key_head hc⟩

/-- job 1 of the example history (`[1+]`, ordinal 1, engine object (0, 1)) -/
def exJob1 : List Picked := ((ghost exSys exEvs).map (·.job.picked)).getD 1 []

/-- scripted outcomes of a shooting move from a 5-frame path: index 2, ξ = 1/2, both directions end left -/
def exShootIn : Moves.ShootIn :=
  { old := [-1, 1, 2, 1, -1], oldTimeOrigin := 0, genLd := false, l := 0, m := 1, r := 3, maxlength := 20,
    allowMax := false, sc := { hasL := true, hasR := false }, scEns := none, idx := 2, xi := 1/2, kick := 2,
    back := [1, -1], forw := [1, -1] }

theorem ex_chainAny : ChainAny 7 (okOr exSys (run exSys exEvs)) (ghost exSys exEvs) := by
  have := ChainAny.run (evs := exEvs) (y' := okOr exSys (run exSys exEvs)) (freshStart_chainAny ex_fresh)
    (okOr_spec _ (by decide +kernel))
  simpa using this

/-- non-vacuity: an accepted shooting move on an ASE/Langevin engine object that still holds the generator of
    an earlier job 99: shooting point and ξ on `(7, [1, 0])`, velocities and the noise of both propagations on
    `(7, [1, 0, 0])`, nothing on `(7, [99, 0, 0])` -/
example : (∃ e ∈ ghost exSys exEvs, e.ord = 1 ∧ e.job.picked = exJob1) ∧
    (runJob .repaired [.ase true] [((0, 1), ⟨7, [99, 0, 0]⟩)] exJob1 (.sh exShootIn)).toOption.map
        (fun o => (o.status, o.trace))
      = some ("ACC", [⟨.stream ⟨7, [1, 0]⟩, .integers 1 4⟩, ⟨.stream ⟨7, [1, 0, 0]⟩, .standardNormal⟩,
                      ⟨.stream ⟨7, [1, 0]⟩, .random⟩, ⟨.stream ⟨7, [1, 0, 0]⟩, .noise⟩,
                      ⟨.stream ⟨7, [1, 0, 0]⟩, .noise⟩]) := by
  refine ⟨⟨(ghost exSys exEvs)[1]'(by decide +kernel), List.getElem_mem _, by decide +kernel, by decide +kernel⟩,
    by decide +kernel⟩

/-- **`job_never_lacks_generator`** (FULL).  After the set-up loop of `select_shoot` no job raises
    "Did not find random generator!!" / "Missing random generator!" — for every picked list, every engine
    table, every engine class, every move.  (Without the set-up the same engine call does: example below.) -/
theorem job_never_lacks_generator (v : Moves.Variant) (kinds : List EngKind) (tbl : EngTbl)
    (picked : List Picked) (mv : MoveIn) : runJob v kinds tbl picked mv ≠ .error .noRgen := by
  intro h
  unfold runJob at h
  simp only at h
  cases hm : moveEvs v picked mv with
  | error e =>
    rw [hm] at h
    injection h with h
    rw [h] at hm
    exact moveEvs_spec.1 hm
  | ok r =>
    obtain ⟨acc, st, evs⟩ := r
    rw [hm] at h
    simp only at h
    cases hr : resolveAll kinds (assignEngineStreams tbl picked) picked (picked.length == 1) evs with
    | ok tr => rw [hr] at h; cases h
    | error e =>
      rw [hr] at h
      injection h with h
      rw [h] at hr
      obtain ⟨ev, _, hres⟩ := resolveAll_error hr
      obtain ⟨p, hp, obj, ho, hn⟩ := resolveEv_noRgen hres
      obtain ⟨q, _, _, hval⟩ := assign_job_stream picked obj ⟨p, hp, ho⟩
      rw [hval] at hn
      cases hn

/-- the guard is not vacuous: on an engine object that was never given a generator LAMMPS / TurtleMD / CP2K raise,
    ASE silently falls back to numpy's global state -/
example : engDraws .lammps (.propagate false) none = .error .noRgen ∧
    engDraws .turtlemd (.propagate true) none = .error .noRgen ∧
    engDraws .cp2k .modvel none = .error .noRgen ∧
    engDraws (.ase true) .modvel none = .ok [⟨.numpyGlobal, .standardNormal⟩] ∧
    engDraws (.ase true) (.propagate false) none = .ok [⟨.numpyGlobal, .noise⟩] ∧
    engDraws (.gromacs false) .modvel none = .ok [⟨.external, .genvel⟩] := by decide +kernel

/-- **`job_draws_disjoint_across_jobs`** (FULL).  Two jobs of a chain with different ordinals (two distinct
    jobs — concurrent or successive, before or after any number of restarts) never make a request on the same
    stream, whatever moves they run on whatever engine classes. -/
theorem job_draws_disjoint_across_jobs (seed : Nat) (y : Sys) (log : List Entry) (h : ChainAny seed y log)
    (e1 e2 : Entry) (h1 : e1 ∈ log) (h2 : e2 ∈ log) (hne : e1.ord ≠ e2.ord)
    (v1 v2 : Moves.Variant) (kinds1 kinds2 : List EngKind) (tbl1 tbl2 : EngTbl) (mv1 mv2 : MoveIn)
    (out1 out2 : JobOut) (hr1 : runJob v1 kinds1 tbl1 e1.job.picked mv1 = .ok out1)
    (hr2 : runJob v2 kinds2 tbl2 e2.job.picked mv2 = .ok out2) :
    ∀ d1 ∈ out1.trace, ∀ d2 ∈ out2.trace, ∀ s : Stream, d1.src = .stream s → d2.src ≠ .stream s := by
  intro d1 hd1 d2 hd2 s hs1 hs2
  -- the spawn key of every stream a job draws on begins with the job's ordinal
  have a1 := (runJob_onOrd (h.inv.tagged e1 h1) hr1 d1 hd1).key_head hs1
  have a2 := (runJob_onOrd (h.inv.tagged e2 h2) hr2 d2 hd2).key_head hs2
  exact hne (Option.some.inj (a1.symm.trans a2))

/-- **`job_trace_ignores_stale_generators`** (FULL).  What a job draws and on which streams does not depend on
    what the engine objects of the worker held before it (generators of earlier jobs, or nothing): same
    acceptance, status, events and trace, or the same error. -/
theorem job_trace_ignores_stale_generators (v : Moves.Variant) (kinds : List EngKind) (tbl1 tbl2 : EngTbl)
    (picked : List Picked) (mv : MoveIn) :
    (match runJob v kinds tbl1 picked mv, runJob v kinds tbl2 picked mv with
     | .ok o1, .ok o2 => o1.accept = o2.accept ∧ o1.status = o2.status ∧ o1.evs = o2.evs ∧ o1.trace = o2.trace
     | .error e1, .error e2 => e1 = e2
     | _, _ => False) := by
  unfold runJob
  simp only
  cases hm : moveEvs v picked mv with
  | error e => simp only
  | ok r =>
    obtain ⟨acc, st, evs⟩ := r
    simp only
    rw [resolveAll_indep (tbl1 := tbl1) (tbl2 := tbl2) evs]
    cases resolveAll kinds (assignEngineStreams tbl2 picked) picked (picked.length == 1) evs with
    | error e => simp only
    | ok tr => exact ⟨rfl, rfl, rfl, rfl⟩

example : (runJob .repaired [.ase true] [((0, 1), ⟨7, [99, 0, 0]⟩)] exJob1 (.sh exShootIn)).toOption.map (·.trace)
    = (runJob .repaired [.ase true] [] exJob1 (.sh exShootIn)).toOption.map (·.trace) := by decide +kernel

/-- **`worker_process_draws_on_job_streams`** (FULL).  Any sequence of jobs of a chain executed one after the other
    in ONE worker process (`runSeq`: the engine objects live on, job `i + 1` finds in them the generators job `i`
    left): every request of the `i`-th job is on a stream of the `i`-th job's own ordinal (or gmx's own velocity
    generation) — never on a generator an earlier job left in an engine object. -/
theorem worker_process_draws_on_job_streams (seed : Nat) (y : Sys) (log : List Entry) (h : ChainAny seed y log)
    (v : Moves.Variant) (kinds : List EngKind) :
    ∀ (jobs : List (Entry × MoveIn)) (tbl : EngTbl) (outs : List JobOut), (∀ x ∈ jobs, x.1 ∈ log) →
      runSeq v kinds tbl (jobs.map (fun x => (x.1.job.picked, x.2))) = .ok outs →
      outs.length = jobs.length ∧
      ∀ (i : Nat) (e : Entry) (mv : MoveIn) (o : JobOut), jobs[i]? = some (e, mv) → outs[i]? = some o →
        ∀ d ∈ o.trace,
          (∃ j, j < e.job.picked.length ∧ (d.src = .stream { entropy := seed, key := [e.ord, j] } ∨
              d.src = .stream { entropy := seed, key := [e.ord, j, 0] })) ∨
          (d.src = .external ∧ d.what = .genvel) := by
  intro jobs tbl outs hmem hr
  obtain ⟨hl, hget⟩ := runSeq_get hr
  refine ⟨by rw [hl, List.length_map], fun i e mv o hj ho d hd => ?_⟩
  obtain ⟨tbl', h1⟩ := hget i (e.job.picked, mv) o (by rw [List.getElem?_map, hj]; rfl) ho
  rcases runJob_onOrd (h.inv.tagged e (hmem _ (List.mem_of_getElem? hj))) h1 d hd with ⟨j, hj, hs, _⟩ | ⟨j, hj, hs⟩ | hg
  · exact Or.inl ⟨j, hj, Or.inl hs⟩
  · exact Or.inl ⟨j, hj, Or.inr hs⟩
  · exact Or.inr hg

/-! retis zero swap on two different engine objects: LAMMPS for `[0-]` (engine type 1), TurtleMD for `[0+]` -/

def exFr (op : Int) : ZeroSwap.Frame := { op := op, cfg := ⟨0, 0⟩, vr := false, vpot := none }
def exGf (op : Int) : ZeroSwap.GenFrame := { op := op, cfg := ⟨0, 0⟩, vpot := none }
def exE0 : ZeroSwap.Ens :=
  { i0 := -100, i1 := 0, i2 := 0, maxlen := 10, scL := false, scR := true, wf := false, cap := none }
def exE1 : ZeroSwap.Ens :=
  { i0 := 0, i1 := 0, i2 := 10, maxlen := 10, scL := true, scR := false, wf := false, cap := none }
def exSwapIn : MoveIn :=
  .retis exE0 exE1 ([1, -1, -2, -1, 1].map exFr) ([-1, 1, 2, 1, -1].map exFr) ⟨none, [-2, -1, 1].map exGf⟩
    ⟨none, [2, 1, -1].map exGf⟩ (1/2)

/-- **`integrator_seeds_from_engine_streams`** (FULL).  The seeds a job hands to MD programs / stochastic
    integrators (LAMMPS `infretis_seed`, TurtleMD `seed=`): each is the value of `rgen.integers(0, hi)` at a
    position `k` of an ENGINE stream `(seed, [ord, j, 0])` of that job — its derivation input `(stream, k)` is a
    function of the configured seed, the job's ordinal and the course of the move only; within a job no two seeds
    have the same derivation input; two jobs with different ordinals have no derivation input in common. -/
theorem integrator_seeds_from_engine_streams (seed : Nat) (y : Sys) (log : List Entry) (h : ChainAny seed y log)
    (e1 e2 : Entry) (h1 : e1 ∈ log) (h2 : e2 ∈ log)
    (v1 v2 : Moves.Variant) (kinds1 kinds2 : List EngKind) (tbl1 tbl2 : EngTbl) (mv1 mv2 : MoveIn)
    (out1 out2 : JobOut) (hr1 : runJob v1 kinds1 tbl1 e1.job.picked mv1 = .ok out1)
    (hr2 : runJob v2 kinds2 tbl2 e2.job.picked mv2 = .ok out2) :
    (∀ x ∈ seedInputs out1.trace, ∃ j, j < e1.job.picked.length ∧
        x.1 = .stream { entropy := seed, key := [e1.ord, j, 0] }) ∧
    (seedInputs out1.trace).Nodup ∧
    (e1.ord ≠ e2.ord → ∀ x1 ∈ seedInputs out1.trace, ∀ x2 ∈ seedInputs out2.trace, (x1.1, x1.2.1) ≠ (x2.1, x2.2.1)) := by
  refine ⟨runJob_seedInputs (h.inv.tagged e1 h1) hr1, seedInputs_nodup _, fun hne x1 hx1 x2 hx2 heq => ?_⟩
  obtain ⟨j1, _, a⟩ := runJob_seedInputs (h.inv.tagged e1 h1) hr1 x1 hx1
  obtain ⟨j2, _, b⟩ := runJob_seedInputs (h.inv.tagged e2 h2) hr2 x2 hx2
  rw [a, b] at heq
  exact hne (engStream_inj _ _ _ _ _ (Src.stream.inj (Prod.mk.inj heq).1)).1

/-- non-vacuity: the zero swap of job 0 on LAMMPS + TurtleMD hands on two seeds, each the first value of its own
    ensemble's engine stream -/
example : (runJob .repaired [.turtlemd, .lammps] [] ex2Job exSwapIn).toOption.map
      (fun o => (o.status, o.evs.length, seedInputs o.trace))
    = some ("ACC", 4, [(.stream ⟨7, [0, 0, 0]⟩, 0, 10000000), (.stream ⟨7, [0, 1, 0]⟩, 0, 1000000000)]) := by
  decide +kernel

/-- **`reissued_job_draws_the_same`** (FULL on `ChainReach`, like `reissue_same_streams`).  Stop a chain at any
    instant, restart, let the initiation loop re-issue the recorded jobs.  If the `i`-th re-issued job is given the
    same engine objects as before (same `eng_idx` entry by entry), then on the same scripted outcomes of the move
    it makes exactly the same requests on exactly the same streams as the job it continues — whatever the engine
    objects of the old and of the new worker process held: the same job draws the same random numbers. -/
theorem reissued_job_draws_the_same (seed : Nat) (y : Sys) (log : List Entry) (h : ChainReach seed y log)
    (workers tsteps : Nat) (occ : List (List Int)) (ensEng : List (List Nat))
    (weightOf : Nat → List Rat) (s' : St)
    (hre : restore (persist y.s) y.s.n workers tsteps occ ensEng weightOf = .ok s')
    (pre : List Repex.Ev) (hlen : pre.length = y.s.locked.length)
    (hst : ∀ ev ∈ pre, ∃ o d, ev = Repex.Ev.start o d) (y' : Sys)
    (hr : run { s := s', jobs := [] } pre = .ok y')
    (i : Nat) (e : Entry) (job : Job) (he : (ghost { s := s', jobs := [] } pre)[i]? = some e)
    (hj : y.jobs[i]? = some job)
    (heng : ∀ (j : Nat) (p q : Picked), e.job.picked[j]? = some p → job.picked[j]? = some q → p.engIdx = q.engIdx)
    (v : Moves.Variant) (kinds : List EngKind) (tbl1 tbl2 : EngTbl) (mv : MoveIn) :
    e.job.picked = job.picked ∧
    (match runJob v kinds tbl1 e.job.picked mv, runJob v kinds tbl2 job.picked mv with
     | .ok o1, .ok o2 => o1.accept = o2.accept ∧ o1.status = o2.status ∧ o1.evs = o2.evs ∧ o1.trace = o2.trace
     | .error e1, .error e2 => e1 = e2
     | _, _ => False) := by
  obtain ⟨_, _, hall⟩ := reissue_same_streams seed y log h workers tsteps occ ensEng weightOf s' hre pre hlen hst y' hr
  obtain ⟨_, _, hrec, hstreams⟩ := hall i e job he hj
  have hpicked : e.job.picked = job.picked := by
    unfold jobRec at hrec
    simp only [Prod.mk.injEq] at hrec
    exact picked_eq_of_rec hrec.1 hrec.2 (fun j p q hp hq =>
      ⟨(hstreams j p q hp hq).1, (hstreams j p q hp hq).2, heng j p q hp hq⟩)
  refine ⟨hpicked, ?_⟩
  rw [hpicked]
  exact job_trace_ignores_stale_generators v kinds tbl1 tbl2 job.picked mv

/-- two successive jobs in one worker process: the zero swap of job 0, then the shooting move of job 1; `[0+]` of job 0
    and job 1 both run on engine type 0: job 1 finds `(7, [0, 1, 0])` of job 0 in object (0, 0) and its own object (0, 1) empty -/
example : (runSeq .repaired [.turtlemd, .lammps] [] [(ex2Job, exSwapIn), (exJob1, .sh exShootIn)]).toOption.map
      (fun os => os.map (fun o => (o.status, o.trace.map (·.src))))
    = some [("ACC", [.stream ⟨7, [0, 0, 0]⟩, .stream ⟨7, [0, 1, 0]⟩]),
            ("ACC", [.stream ⟨7, [1, 0]⟩, .stream ⟨7, [1, 0, 0]⟩, .stream ⟨7, [1, 0]⟩, .stream ⟨7, [1, 0, 0]⟩,
                     .stream ⟨7, [1, 0, 0]⟩])] := by decide +kernel

/-- **`moves_project_onto_move_models`** (FULL).  The traced moves are conservative over the move models of
    C09 / C11: the requests they make on move streams are exactly the draw lists `Moves.shoot` /
    `Moves.wireFencing` report (same order), resp. as many `random` as `ZeroSwap.…` counts; whenever
    `Moves.wireFencing` returns, the trace of the wire-fencing move exists. -/
theorem moves_project_onto_move_models :
    (∀ (ens slot : Int) (o : Moves.ShootOut), drawsOf (shootEvs ens slot o) = o.draws.map ofMovesDraw) ∧
    (∀ (v : Moves.Variant) (i : Moves.WfIn) (ens slot : Int) (o : Moves.WfOut), Moves.wireFencing v i = .ok o →
      ∃ evs, wfEvs v i ens slot = .ok evs ∧ drawsOf evs = o.draws.map ofMovesDraw) ∧
    (∀ r : ZeroSwap.Result, drawsOf (retisEvs r) = List.replicate r.draws .random ∧
      drawsOf (quantisEvs r) = List.replicate r.draws .random) := by
  exact ⟨shootEvs_draws, wfEvs_draws, drawsOf_swapEvs⟩

/-- **`velocity_request_is_engine_rgen`** (FULL).  For all five engine classes and all numeric inputs the request
    C16's model of `modify_velocities` issues is tagged `engine.rgen` and has the method `modvelDraws` resolves
    (`normal`; `standard_normal` for ASE). -/
theorem velocity_request_is_engine_rgen (k : EngKind) (s : Vel.Setup) (hs : s.engine = k.velEngine)
    (src : Vel.Frame) (ek : Option Rat) (zm : Option Bool) (sig : List Rat) (z : List (List Rat)) :
    (Vel.modifyVelocities Vel.codeVariant Vel.codeVariant s src ek zm sig z).request.stream = .engineRgen ∧
    (Vel.modifyVelocities Vel.codeVariant Vel.codeVariant s src ek zm sig z).request.method = (velRequest k).2 := by
  obtain ⟨h1, h2, h3⟩ := velRequest_spec k s hs src ek zm sig z
  exact ⟨h1.trans h3, h2⟩

example : (velRequest .lammps, velRequest (.ase true)) =
    ((.engineRgen, "normal"), (.engineRgen, "standard_normal")) := by decide +kernel

/-! ## 8. Crash restarts from the file that is on disk

`Model/RepexDisk.lean`: `Proc` = scheduler state + `./restart.toml`; `stepD` = one iteration of `scheduler()` (only a
completion rewrites the file, inside `treat_output`, BEFORE the next job is drawn); `restartFromDisk` = the process
dies and a new one is built from the image ON DISK.  `ChainDisk seed p kept lost` (Lemmas/RepexC07Disk.lean): any
number of such rounds from a fresh start; `kept` = the continued history (jobs whose issue the file reflects),
`lost` = the jobs the running process issued after the last write — what a crash at this instant discards. -/

/-- the counter `set_rgen()` derives from an image is the spawn counter of the state that wrote it -/
theorem persist_counter (s : St) : (persist s).counter = s.spawned :=
  persist_spawned s

/-- the counter stored in (derived from) the file on disk counts the distinct jobs of the continued history -/
theorem disk_counter {seed : Nat} {kept : List Entry} {im : Image} (hw : DiskWit seed kept im) :
    im.counter = (freshOrds kept).length ∧ im.seed = seed := by
  rcases hw with ⟨yw, k, st, nw, s2, hc, hmid, rfl⟩ | ⟨yw, hc, rfl⟩
  · have m := midState_touches hmid
    have hi := hc.inv
    rw [persist_counter, m.spawned, hi.fresh, List.length_range]
    exact ⟨rfl, (persist_fields s2).1.trans (m.seed.trans hi.hseed)⟩
  · have hi := hc.inv
    rw [persist_counter, hi.fresh, List.length_range]
    exact ⟨rfl, (persist_fields yw.s).1.trans hi.hseed⟩

/-- **`streams_pairwise_distinct_across_crashes`** (FULL: any number of crashes at any instant, any worker / step
    counts at each restart).  For the running process of every `ChainDisk`, over the continued history together
    with the jobs issued since the last write of the file (`kept ++ lost`):
    every entry carries `(seed, [ord, j])` / `(seed, [ord, j, 0])`; the fresh entries have the ordinals
    `0, 1, 2, …` — the spawn counter is (distinct jobs of the continued history) + (jobs issued since the last
    write), and the counter the file on disk restores is (distinct jobs of the continued history) alone;
    all streams of distinct jobs are pairwise distinct; entries with different ordinals share no stream; no
    stream is the scheduler's.  (The jobs of `lost` discarded by EARLIER crashes are not in the log: see
    `lost_job_ordinal_reissued`.) -/
theorem streams_pairwise_distinct_across_crashes (seed : Nat) (p : Proc) (kept lost : List Entry)
    (h : ChainDisk seed p kept lost) :
    ChainAny seed p.y (kept ++ lost) ∧
    (∀ e ∈ kept ++ lost, ∀ (j : Nat) (q : Picked), e.job.picked[j]? = some q →
        q.rgen = { entropy := seed, key := [e.ord, j] } ∧
        q.rgenEng = { entropy := seed, key := [e.ord, j, 0] }) ∧
    (freshOrds (kept ++ lost) = List.range p.y.s.spawned ∧
      p.y.s.spawned = (freshOrds kept).length + (freshOrds lost).length ∧
      ∀ im, p.disk = some im → im.counter = (freshOrds kept).length ∧ im.seed = seed) ∧
    (allStreams (((kept ++ lost).filter (·.fresh)).map (·.job))).Nodup ∧
    (∀ e1 ∈ kept ++ lost, ∀ e2 ∈ kept ++ lost, e1.ord ≠ e2.ord →
      ∀ x ∈ allStreams [e1.job], x ∉ allStreams [e2.job]) ∧
    (∀ x ∈ allStreams ((kept ++ lost).map (·.job)), x.key ≠ [] ∧ ∀ s : St, x ≠ mainStream s) := by
  have hi := h.inv
  obtain ⟨r1, ⟨r2a, r2b, _⟩, r3, r4, _, r6⟩ :=
    streams_pairwise_distinct_across_restarts seed p.y (kept ++ lost) hi.any
  refine ⟨hi.any, r1, ⟨?_, ?_, fun im him => disk_counter (hi.wit im him)⟩, r3,
    fun e1 h1 e2 h2 hne => (r4 e1 h1 e2 h2).1 hne, r6⟩
  · rw [r2b]; exact r2a
  · rw [r2b, freshOrds_append, List.length_append]

/-- **`lost_job_ordinal_reissued`** (FULL; what a crash does to the job that is not on the file).  The process of
    a `ChainDisk` dies; the new process is built from the file on disk.  Then: the file is unchanged, the spawn
    counter is back at the number of distinct jobs of the continued history, and — whatever the new process
    re-issues first — its `m`-th FRESH job gets the ordinal and, entry by entry, exactly the move and engine
    streams of the `m`-th fresh job that was lost.  Nothing makes that job the same (ensemble, path) as the lost
    one (example below: it is not, after a restart with one worker instead of two). -/
theorem lost_job_ordinal_reissued (seed : Nat) (p p' : Proc) (kept lost : List Entry)
    (h : ChainDisk seed p kept lost)
    (n workers tsteps : Nat) (occ : List (List Int)) (ensEng : List (List Nat)) (weightOf : Nat → List Rat)
    (hre : restartFromDisk p n workers tsteps occ ensEng weightOf = .ok p') (evs : List Repex.Ev) :
    ChainDisk seed p' kept [] ∧ p'.disk = p.disk ∧ p'.y.s.spawned = (freshOrds kept).length ∧
    ∀ (m : Nat) (e' e : Entry), (lost.filter (·.fresh))[m]? = some e' →
      ((ghost p'.y evs).filter (·.fresh))[m]? = some e →
      e.ord = e'.ord ∧ e.ord = (freshOrds kept).length + m ∧
      ∀ (j : Nat) (q' q : Picked), e'.job.picked[j]? = some q' → e.job.picked[j]? = some q →
        q.rgen = q'.rgen ∧ q.rgenEng = q'.rgenEng := by
  have hc := ChainDisk.crash h hre
  have hA := h.inv.any.inv
  have hBany : ChainAny seed p'.y kept := by
    have := hc.inv.any
    rwa [List.append_nil] at this
  obtain ⟨im, s', hd, _, rfl⟩ := restartFromDisk_spec hre
  refine ⟨hc, hd.symm, ?_, ?_⟩
  · have := hBany.inv.fresh
    rw [this, List.length_range]
  intro m e' e he' he
  obtain ⟨hord, hstr⟩ := (hBany.continued evs).1 m e he
  have hfo : freshOrds kept ++ freshOrds lost = List.range p.y.s.spawned := by
    rw [← freshOrds_append]; exact hA.fresh
  have hm : (freshOrds lost)[m]? = some e'.ord := by
    unfold freshOrds
    rw [List.getElem?_map, he']; rfl
  have hord' : e'.ord = (freshOrds kept).length + m := range_split_get hfo hm
  have hmem' : e' ∈ kept ++ lost :=
    List.mem_append.mpr (Or.inr (List.mem_of_mem_filter (List.mem_of_getElem? he')))
  exact ⟨by rw [hord, hord'], hord, fun j q' q hq' hq => hstr.same (hord' ▸ hA.tagged e' hmem') j q q' hq hq'⟩

/-! ### the concrete crash: 2 workers, the job drawn after the first completion is lost; restart with 1 worker

Process 1 (fresh, seed 7, 2 workers): A = `[0-]` (ordinal 0), B = `[1+]` (ordinal 1), initiation closes — no file yet.
B completes REJECTED: `treat_output` writes the file (cstep 1, A on record with ordinal 0, counter 1 + 1 = 2), then
J = (`[1+]`, path 2) is drawn with ordinal 2: `(7, [2, 0])` / `(7, [2, 0, 0])`.  The process dies.
Process 2 (1 worker) is built from the file: counter 2; A re-issued (ordinal 0); initiation closes; A completes
REJECTED; the next job J' = (`[0+]`, path 1) gets ordinal 2: `(7, [2, 0])` / `(7, [2, 0, 0])` — the streams of J. -/

def okOrP (d : Proc) : Except Repex.Err Proc → Proc
  | .ok a => a
  | .error _ => d

def dk0 : Proc := { y := exSys, disk := none }
def dkE1 : Repex.Ev := .start { t := 0, e := 0 }
def dkE2 : Repex.Ev := .start { t := 2, e := 2 }
def dkE4 : Repex.Ev := .step 1 .rej [] { t := 2, e := 2 }
def dkE7 : Repex.Ev := .step 0 .rej [] { t := 1, e := 1 }
def dk1 : Proc := okOrP dk0 (stepD dk0 dkE1)
def dk2 : Proc := okOrP dk0 (stepD dk1 dkE2)
def dk3 : Proc := okOrP dk0 (stepD dk2 .initDone)
def dk4 : Proc := okOrP dk0 (stepD dk3 dkE4)
def dk5 : Proc := okOrP dk0 (restartFromDisk dk4 4 1 10 [[-1]] [[0], [0], [0]] cxW)
def dk6 : Proc := okOrP dk0 (stepD dk5 dkE1)
def dk7 : Proc := okOrP dk0 (stepD dk6 .initDone)
def dk8 : Proc := okOrP dk0 (stepD dk7 dkE7)

def dkLost3 : List Entry := (([] ++ ghost dk0.y [dkE1]) ++ ghost dk1.y [dkE2]) ++ ghost dk2.y [.initDone]
def dkKept4 : List Entry := [] ++ dkLost3
def dkLost4 : List Entry := ghost dk3.y [dkE4]
def dkLost7 : List Entry := ([] ++ ghost dk5.y [dkE1]) ++ ghost dk6.y [.initDone]
def dkLost8 : List Entry := ghost dk7.y [dkE7]

theorem dk_runs : stepD dk0 dkE1 = .ok dk1 ∧ stepD dk1 dkE2 = .ok dk2 ∧ stepD dk2 .initDone = .ok dk3 ∧
    stepD dk3 dkE4 = .ok dk4 ∧ restartFromDisk dk4 4 1 10 [[-1]] [[0], [0], [0]] cxW = .ok dk5 ∧
    stepD dk5 dkE1 = .ok dk6 ∧ stepD dk6 .initDone = .ok dk7 ∧ stepD dk7 dkE7 = .ok dk8 := by
  decide +kernel

theorem dk_chain4 : ChainDisk 7 dk4 dkKept4 dkLost4 := by
  obtain ⟨r1, r2, r3, r4, _⟩ := dk_runs
  obtain ⟨h1, h2, h3, _, _, _, h7, h8⟩ := ex_fresh.fields
  have c0 : ChainDisk 7 dk0 [] [] := ChainDisk.fresh h1 h2 h3 h7 h8
  exact ChainDisk.complete (ChainDisk.issue (ChainDisk.issue (ChainDisk.issue c0 rfl r1) rfl r2) rfl r3) r4

theorem dk_chain8 : ChainDisk 7 dk8 (dkKept4 ++ dkLost7) dkLost8 := by
  obtain ⟨_, _, _, _, r5, r6, r7, r8⟩ := dk_runs
  exact ChainDisk.complete (ChainDisk.issue (ChainDisk.issue (ChainDisk.crash dk_chain4 r5) rfl r6) rfl r7) r8

example : dk3.disk = none
    ∧ (dk4.disk.map (fun im => (im.cstep, im.locked, im.lockedOrd, im.spawnedRec))) = some (1, [([0], [0])], [0], none)
    ∧ dk4.y.s.locked = [([-1], [0]), ([1], [2])] ∧ dk4.y.s.lockedOrd = [0, 2] ∧ dk4.y.s.spawned = 3
    ∧ showLog dkKept4 = [⟨0, true, [(-1, [0, 0], [0, 0, 0])]⟩, ⟨1, true, [(1, [1, 0], [1, 0, 0])]⟩]
    ∧ showLog dkLost4 = [⟨2, true, [(1, [2, 0], [2, 0, 0])]⟩]
    ∧ dk5.y.s.spawned = 2 ∧ dk5.disk = dk4.disk
    ∧ showLog dkLost7 = [⟨0, false, [(-1, [0, 0], [0, 0, 0])]⟩]
    ∧ showLog dkLost8 = [⟨2, true, [(0, [2, 0], [2, 0, 0])]⟩]
    ∧ dkLost4.map (fun e => e.job.picked.map (fun q => (q.ens, q.pn))) = [[(1, 2)]]
    ∧ dkLost8.map (fun e => e.job.picked.map (fun q => (q.ens, q.pn))) = [[(0, 1)]] := by
  refine ⟨by decide +kernel, by decide +kernel, ?_⟩
  decide +kernel

/-- non-vacuity of `lost_job_ordinal_reissued` on the concrete crash: the lost job J and the first fresh job of the
    new process have the same ordinal and streams and are different (ensemble, path) jobs -/
example : (dkLost4.filter (·.fresh)).length = 1 ∧
    ((ghost dk5.y [dkE1, .initDone, dkE7]).filter (·.fresh)).map (fun e => (e.ord, e.job.picked.map (fun q => (q.ens, q.pn, q.rgen))))
      = [(2, [(0, 1, ⟨7, [2, 0]⟩)])] ∧
    (dkLost4.filter (·.fresh)).map (fun e => (e.ord, e.job.picked.map (fun q => (q.ens, q.pn, q.rgen))))
      = [(2, [(1, 2, ⟨7, [2, 0]⟩)])] ∧
    dk5.y.s.spawned = (freshOrds dkKept4).length :=
  ⟨by decide +kernel, by decide +kernel, by decide +kernel,
    (lost_job_ordinal_reissued 7 dk4 dk5 dkKept4 dkLost4 dk_chain4 4 1 10 [[-1]] [[0], [0], [0]] cxW
      dk_runs.2.2.2.2.1 []).2.2.1⟩

/-! ## 9. The scheduler's Monte-Carlo draws (`self.prob → inf_retis → random_prob`)

`mcDims s` (Model/RepexDisk.lean, decision logic of C02's `Perm.infRetis`) = sizes of the idle blocks `self.prob`
sends to `random_prob` in state `s`; each costs `mcCalls k` generator calls on the scheduler's stream.  They are not
part of `mainDraws` / `Draw` (section 5): the state machine uses the exact matrix. -/

/-- **`pick_draws_accounted_partial`** (guard: at most 12 idle slots — every simulation with at most 12 ensembles,
    `[0-]` included, and every state with that few unlocked ones).  Then no `self.prob` evaluation of the `pick()`
    requests anything (`pickMC`, `mcDims`), so the scheduler's stream advances by exactly the returned `Draw`
    requests.  Without the guard: `scheduler_draws_accounted_monte_carlo_counterexample`. -/
theorem pick_draws_accounted_partial (s s' : St) (o : PickOutcome) (ps : List Picked) (ds : List Draw)
    (hidle : idleCount s ≤ 12) (hp : pick s o = .ok (s', ps, ds)) :
    s'.mainDraws = s.mainDraws + ds.length ∧ DrawShape ds ∧ (∀ d ∈ pickMC s o, d = []) ∧ mcDims s = [] := by
  obtain ⟨_, hm, hsh, _⟩ := pick_issue hp
  exact ⟨hm, hsh, pickMC_nil_of_idle_le s o hidle, mcDims_nil_of_idle_le s hidle⟩

example : idleCount exS0 = 3 ∧ (match pick exS0 { t := 0, e := 0 } with
    | .ok (s', _, ds) => some (s'.mainDraws, ds.length) | .error _ => none) = some (2, 2) := by
  decide +kernel

/-- 15 ensembles (`[0-]` + 14 plus ensembles) + ghost, nothing locked; path `i ≥ 1` is valid in all plus ensembles
    with wire-fencing-like weights `1 + (i·(j+1) + j) mod 3` -/
def mcW : List (List Rat) :=
  (([1] ++ List.replicate 15 0) ::
    (List.range 14).map (fun i => (0 : Rat) :: ((List.range 14).map (fun j => (((1 + (i * (j + 1) + j) % 3 : Nat)) : Rat)) ++ [0])))
  ++ [List.replicate 16 0]

def mcS : St :=
  { blank 16 1 5 0 15 3 [[-1]] (List.replicate 15 [0]) false [] with
    W := mcW, locks := List.replicate 15 false ++ [true], trajs := (List.range 15).map some ++ [none] }

/-- the state after `pick()` has locked `[0+]` (slot 1) in `mcS` -/
def mcS2 : St := okOr mcS (lock (swap mcS 1 1) 1)

theorem argsort_zeros (k : Nat) : Perm.argsort (List.replicate k (0 : Int)) = List.range k := by
  simpa using Perm.argsort_of_sorted _ (List.pairwise_replicate.mpr (Or.inr (Int.le_refl 0)))

/-- **`scheduler_draws_accounted_monte_carlo_counterexample`** (the unguarded claim "the scheduler draws nothing
    else on its stream" is false of the code): with 15 idle slots and unequal weights `self.prob` sends a block of
    14 rows to `random_prob` (20 000 generator calls on `self.rgen`), and once `[0+]` is locked for the zero swap a
    block of 13 rows (40 000 calls) — on top of the 3 pick requests `mainDraws` counts.  Reproduced on the real
    code (tie class `c07_mc`). -/
theorem scheduler_draws_accounted_monte_carlo_counterexample :
    idleCount mcS = 15 ∧ mcDims mcS = [14] ∧ mcDims mcS2 = [13] ∧
    pickMC mcS { t := 1, e := 1, coin := true, partner := 0 } = [mcDims mcS, mcDims mcS2] ∧
    mcCalls 14 = 20000 ∧ mcCalls 13 = 40000 := by
  have h1 := (Perm.infRetis_of_argsorts mcS.W mcS.locks off [0] (List.replicate 14 0) [0] (List.range 14)
    (by decide +kernel) (by decide +kernel) (by decide +kernel) (argsort_zeros 14)).1
  have h2 := (Perm.infRetis_of_argsorts mcS2.W mcS2.locks off [0] (List.replicate 13 0) [0] (List.range 13)
    (by decide +kernel) (by decide +kernel) (by decide +kernel) (argsort_zeros 13)).1
  refine ⟨by decide +kernel, ?_, ?_, by rfl, by decide +kernel, by decide +kernel⟩
  · unfold mcDims; rw [h1]; decide +kernel
  · unfold mcDims; rw [h2]; decide +kernel

/-! ## 10. TurtleMD: the seed is drawn for every integrator class, the constructor decides whether the MD runs -/

/-- **`tmd_propagate_spec`** (FULL).  `TurtleMDEngine._propagate_from`: without `engine.rgen` it raises (no draw);
    with it, for EVERY integrator class exactly one seed request `integers(0, 1e9)` is made on `engine.rgen` — the
    request `propagateDraws .turtlemd` (hence `runJob`) lists — and the integrator is built iff its class takes
    `seed=` (`LangevinInertia`); for the others the call raises TypeError after the draw: no further draw, no
    generator built. -/
theorem tmd_propagate_spec (i : TmdIntegrator) (s : Stream) :
    tmdPropagate i none = .noRgen ∧ propagateDraws .turtlemd none = .error .noRgen ∧
    propagateDraws .turtlemd (some s) = .ok [⟨.stream s, .seed 1000000000⟩] ∧
    (i.acceptsSeed = true → tmdPropagate i (some s) = .ran [⟨.stream s, .seed 1000000000⟩]) ∧
    (i.acceptsSeed = false → tmdPropagate i (some s) = .typeError [⟨.stream s, .seed 1000000000⟩]) := by
  refine ⟨rfl, rfl, rfl, fun h => ?_, fun h => ?_⟩ <;> simp [tmdPropagate, h]

example : tmdPropagate .velocityVerlet (some ⟨7, [1, 0, 0]⟩) = .typeError [⟨.stream ⟨7, [1, 0, 0]⟩, .seed 1000000000⟩] ∧
    tmdPropagate .langevinInertia (some ⟨7, [1, 0, 0]⟩) = .ran [⟨.stream ⟨7, [1, 0, 0]⟩, .seed 1000000000⟩] := by
  decide +kernel

end Infretis.C07
