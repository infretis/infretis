import Infretis.Lemmas.StoreCodec
import Infretis.Lemmas.StoreProt
import Infretis.Lemmas.StoreLag
import Infretis.Lemmas.StoreNR
import Infretis.Lemmas.StorePath
import Infretis.Lemmas.StoreTextFile
import Infretis.Lemmas.StoreMove
import Infretis.Lemmas.StoreRestart
import Infretis.Lemmas.StrLit
/-!
# C14 — stored paths read back unchanged; live paths never lose files

The property theorems, with the lemmas about `step` / `run` and about the state `load_paths` builds
that lead to them (lemmas per operation: `Infretis/Lemmas/Store*.lean`).  Models: `Infretis/Model/Store.lean`
(token level, mirroring formatter.py `PathStorage.output`, the three path formatters, `read_some_lines`,
path.py `load_path`, and the delete_old block of repex.py `treat_output`), `StorePath.lean` (the `Path`
object and its length limit), `StoreText.lean` with `StoreWs.lean` (the characters of the three files),
`StoreMove.lean` (the file operations of `_move_path`), `StoreRestart.lean` (a restart between two calls).
All statements hold for paths of any length and histories of any length, any number of ensembles.
-/
namespace Infretis.C14
open Infretis.Store

/-! ## Part A — the codec -/

/-- **Round trip.** Storing a path with ≥ 1 frames (any number of files, any frame → file map,
    reversed frames, index `None`, energies present or absent per frame and per term, any
    number of order parameters as long as all frames have the same number) and loading it again
    gives, frame by frame, the same basename, index (`None` ↦ 0), velocity direction, the order
    parameters to the six decimals written, the energies where present and NaN where absent. -/
theorem load_store_roundtrip (step : Nat) (mv : List String) (fs : List Frame) (hne : fs ≠ [])
    (c : Nat) (hc : ∀ f ∈ fs, f.order.length = c) :
    loadStored (store step mv fs) = .ok (fs.map expected) := by
  have he := loadEnergies_text step mv fs hne fs.length
  rw [List.take_of_length_le (by simp), List.take_of_length_le (by simp)] at he
  unfold loadStored
  rw [load_eq, store_traj, store_order, store_energy,
    loadFrames_text step mv fs hne c hc _ (base_mem_accepted step mv fs)]
  exact he

example : loadStored (store 7 ["('sh',", "0.5,", "1,", "3)"]
    [{ dir := "w0", base := "a.xyz", idx := some 0, velRev := false, order := [-500000, 3], vpot := some 1250000, ekin := none },
     { dir := "w1", base := "b.xyz", idx := none, velRev := true, order := [1500000, 4], vpot := none, ekin := some 2 },
     { dir := "w0", base := "a.xyz", idx := some 5, velRev := true, order := [-1, 5], vpot := none, ekin := none }])
    = .ok [{ base := "a.xyz", idx := 0, velRev := false, order := [.val (-500000), .val 3], vpot := some (.val 1250000), ekin := some .nan },
           { base := "b.xyz", idx := 0, velRev := true, order := [.val 1500000, .val 4], vpot := some .nan, ekin := some (.val 2) },
           { base := "a.xyz", idx := 5, velRev := true, order := [.val (-1), .val 5], vpot := some .nan, ekin := some .nan }] := by
  rfl

theorem expected_reframe (dir : String) (f : Frame) : expected (reframe dir (expected f)) = expected f := by
  rcases f with ⟨d, b, ix, vr, ord, vp, ek⟩
  cases vp <;> cases ek <;> simp [expected, reframe, idx0, eNum]

/-- **Round trip twice.** Storing the *loaded* path again (under another number, from its
    `accepted/` directory) and loading that gives the same frames as the first load: the archive
    format is a fixed point after one trip (`None` index ↦ 0 and missing energy ↦ NaN happen once). -/
theorem load_store_roundtrip_twice (step step' : Nat) (mv mv' : List String) (fs : List Frame) (hne : fs ≠ [])
    (c : Nat) (hc : ∀ f ∈ fs, f.order.length = c) (dir : String) :
    loadStored (store step mv fs) = .ok (fs.map expected) ∧
    loadStored (store step' mv' ((fs.map expected).map (reframe dir))) = .ok (fs.map expected) := by
  refine ⟨load_store_roundtrip step mv fs hne c hc, ?_⟩
  have h := load_store_roundtrip step' mv' ((fs.map expected).map (reframe dir))
    (by cases fs with | nil => exact absurd rfl hne | cons a t => simp) c
    (by
      intro g hg
      simp only [List.map_map, List.mem_map, Function.comp] at hg
      obtain ⟨f, hf, rfl⟩ := hg
      simp [reframe, expected, hc f hf])
  rw [h]
  congr 1
  simp only [List.map_map]
  apply List.map_congr_left
  intro f _
  exact expected_reframe dir f

example : (loadStored (store 8 [] (([{ dir := "w0", base := "a.xyz", idx := none, velRev := true, order := [0, -1], vpot := some 0, ekin := none },
      { dir := "w1", base := "b.xyz", idx := some 0, velRev := false, order := [7, 0], vpot := none, ekin := some 0 }] : List Frame).map expected
      |>.map (reframe "load/3/accepted")))) =
    .ok ([{ dir := "w0", base := "a.xyz", idx := none, velRev := true, order := [0, -1], vpot := some 0, ekin := none },
      { dir := "w1", base := "b.xyz", idx := some 0, velRev := false, order := [7, 0], vpot := none, ekin := some 0 }].map expected) := by
  rfl

/-- the hypothesis "≥ 1 frame" is needed: an empty path is stored but does not load -/
theorem load_store_empty (step : Nat) (mv : List String) : loadStored (store step mv []) = .error .index := by
  cases mv <;> rfl

/-- **Files.** Every frame of the stored path refers to a file moved into the path's own
    `accepted/` directory, nothing else is moved there, and if distinct source files have
    distinct basenames no moved file overwrites another. -/
theorem stored_files_under_own_dir (step : Nat) (mv : List String) (fs : List Frame) :
    (∀ f ∈ fs, f.base ∈ (store step mv fs).accepted) ∧
    (∀ b ∈ (store step mv fs).accepted, ∃ f ∈ fs, f.base = b) ∧
    ((∀ f ∈ fs, ∀ g ∈ fs, f.base = g.base → f.dir = g.dir) → (store step mv fs).accepted.Nodup) := by
  refine ⟨?_, ?_, ?_⟩
  · exact base_mem_accepted step mv fs
  · intro b hb
    obtain ⟨s, hs, rfl⟩ := List.mem_map.mp hb
    obtain ⟨f, hf, rfl⟩ := sources_sub fs s hs
    exact ⟨f, hf, rfl⟩
  · intro hinj
    show ((sources fs).map (·.2)).Nodup
    refine nodup_map_on _ _ ?_ (sources_nodup fs)
    intro a ha b hb hab
    obtain ⟨f, hf, rfl⟩ := sources_sub fs a ha
    obtain ⟨g, hg, rfl⟩ := sources_sub fs b hb
    simp only at hab
    rw [hinj f hf g hg hab, hab]

example : (store 0 [] [{ dir := "w0", base := "a.xyz", idx := some 0, velRev := false, order := [1], vpot := none, ekin := none },
                       { dir := "w1", base := "b.xyz", idx := some 1, velRev := true, order := [2], vpot := none, ekin := none }]).accepted
    = ["a.xyz", "b.xyz"] := by decide +kernel

/-! ## Part B — deletion of old paths -/

/-- a history in which every `treat_output` call replaces at most `n − 1` paths
    (the code picks one or two ensembles per call and `n ≥ 3`) -/
def opOk (s : St) : Op → Prop
  | .replace _ _ _ => s.cnt + 1 < s.n
  | .finish => True
  | .stale _ _ => True

instance (s : St) (op : Op) : Decidable (opOk s op) := by
  cases op <;> unfold opOk <;> infer_instance

def Bounded : St → List Op → Prop
  | _, [] => True
  | s, op :: ops => opOk s op ∧ ((step s op).2 = none → Bounded (step s op).1 ops)

instance decBounded : (s : St) → (ops : List Op) → Decidable (Bounded s ops)
  | _, [] => isTrue trivial
  | s, op :: ops =>
    have d2 : Decidable ((step s op).2 = none → Bounded (step s op).1 ops) :=
      if h : (step s op).2 = none then
        match decBounded (step s op).1 ops with
        | isTrue hb => isTrue (fun _ => hb)
        | isFalse hb => isFalse (fun f => hb (f h))
      else isTrue (fun h' => absurd h' h)
    @instDecidableAnd _ _ inferInstance d2

theorem step_n (s : St) (op : Op) : (step s op).1.n = s.n := by
  cases op with
  | replace p f k => exact (congrArg St.n (replace_touches s p f k) :)
  | finish => exact (congrArg St.n (finish_touches s) :)
  | stale p nm => exact (congrArg St.n (addStale_touches s p nm) :)

theorem good_step (s : St) (hg : Good s) (op : Op) : Good (step s op).1 := by
  cases op with
  | replace p f k => exact good_replace s hg p f k
  | finish => exact good_finish s hg
  | stale p nm => exact good_stale s hg p nm

theorem good_run (ops : List Op) (s : St) (h : Good s) : Good (run s ops).1 :=
  run_invariant Good (fun _ _ => True) (fun _ _ _ _ _ => trivial) (fun s op _ h _ => good_step s h op) ops s h trivial

theorem prot_step (s : St) (hg : Good s) (hp : Prot s) (op : Op) (hb : opOk s op) : Prot (step s op).1 := by
  cases op with
  | replace p f k => exact prot_replace s hp hb p f k
  | finish => exact prot_finish s hg hp
  | stale p nm => exact prot_stale s hp p nm

theorem prot_run (ops : List Op) (s : St) (hg : Good s) (hp : Prot s) (hb : Bounded s ops) : Prot (run s ops).1 :=
  (run_invariant (fun s => Good s ∧ Prot s) Bounded (fun _ _ _ hb hok => hb.2 hok)
    (fun s op _ h hb => ⟨good_step s h.1 op, prot_step s h.1 h.2 op hb.1⟩) ops s ⟨hg, hp⟩ hb).2

theorem mem_initFiles_iff (g : DFile) : ∀ (paths : List (Nat × List String)), g ∈ initFiles paths ↔
    ∃ e ∈ paths, g = .txt e.1 0 ∨ g = .txt e.1 1 ∨ g = .txt e.1 2 ∨ ∃ a ∈ e.2, g = .acc e.1 a := by
  intro paths
  induction paths with
  | nil => simp [initFiles]
  | cons e t ih =>
    simp only [initFiles, List.mem_append, List.mem_cons, List.mem_map, List.not_mem_nil, or_false, ih,
      exists_eq_or_imp, or_assoc, eq_comm (a := DFile.acc _ _)]

theorem mem_initFiles (paths : List (Nat × List String)) (p : Nat) (adr : List String) (h : (p, adr) ∈ paths) :
    DFile.txt p 0 ∈ initFiles paths ∧ DFile.txt p 1 ∈ initFiles paths ∧ ∀ a ∈ adr, DFile.acc p a ∈ initFiles paths :=
  ⟨(mem_initFiles_iff _ paths).mpr ⟨_, h, Or.inl rfl⟩, (mem_initFiles_iff _ paths).mpr ⟨_, h, Or.inr (Or.inl rfl)⟩,
   fun a ha => (mem_initFiles_iff _ paths).mpr ⟨_, h, Or.inr (Or.inr (Or.inr ⟨a, ha, rfl⟩))⟩⟩

theorem initFiles_pn (paths : List (Nat × List String)) (g : DFile) (h : g ∈ initFiles paths) : g.pn ∈ paths.map (·.1) := by
  obtain ⟨e, he, h | h | h | ⟨a, _, h⟩⟩ := (mem_initFiles_iff g paths).mp h <;> subst h <;>
    exact List.mem_map_of_mem he

/-- the initial paths are numbered `≤ n − 2`: what the `pn_old > n − 2` guard of the delete block spares -/
theorem initFiles_le (n : Nat) (paths : List (Nat × List String)) (hp : ∀ e ∈ paths, e.1 + 1 < n) (g : DFile)
    (h : g ∈ initFiles paths) : (g.pn : Int) ≤ (n : Int) - 2 := by
  obtain ⟨e, he, hpn⟩ := List.mem_map.mp (initFiles_pn paths g h)
  have := hp e he
  omega

theorem initFiles_txt (paths : List (Nat × List String)) (p k : Nat) (h : DFile.txt p k ∈ initFiles paths) : k < 3 := by
  obtain ⟨e, _, h | h | h | ⟨a, _, h⟩⟩ := (mem_initFiles_iff _ paths).mp h <;> injection h <;> omega

theorem lookup_of_mem {α : Type} (paths : List (Nat × α)) (e : Nat × α) (h : e ∈ paths) : ∃ v, lookup e.1 paths = some v :=
  lookup_eq e.1 paths ▸ Assoc.exists_lookup (List.mem_map_of_mem h)

theorem init_good (n : Nat) (d a : Bool) (paths : List (Nat × List String)) (v : Variant) (kp : List String)
    (hn : 1 ≤ n) (hp : ∀ e ∈ paths, e.1 + 1 < n) : Good (init n d a paths v kp) ∧ Prot (init n d a paths v kp) := by
  have hlt : ∀ p ∈ paths.map (·.1), p < n - 1 := by
    intro p hp'
    obtain ⟨e, he, rfl⟩ := List.mem_map.mp hp'
    have := hp e he
    omega
  have hint : ∀ p ∈ paths.map (·.1), Intact (init n d a paths v kp) p := by
    intro p hp'
    obtain ⟨e, he, rfl⟩ := List.mem_map.mp hp'
    obtain ⟨h0, h1, _⟩ := mem_initFiles paths e.1 e.2 he
    obtain ⟨adr, hl⟩ := lookup_of_mem paths e he
    refine ⟨h0, h1, adr, hl, ?_⟩
    intro b hb
    exact (mem_initFiles paths e.1 adr (lookup_mem _ _ _ hl)).2.2 b hb
  refine ⟨⟨?_, hlt, hlt, hint⟩, ⟨hlt, hint, ?_, ?_⟩⟩
  · intro q hq; simp [init, keys] at hq
  · simp [init]; omega
  · intro p _ hq; simp [init, keys] at hq

/-- **Live paths never lose files** (state form): after any history — including one that ends in an
    exception, the state then being what is on disk — every live path has its traj.txt, order.txt,
    a record of what its traj.txt refers to (`Intact` demands that it EXISTS; the tie compares the record with
    the names in the real traj.txt after every call) and every trajectory file that record names. -/
theorem never_deletes_live_file (s : St) (hg : Good s) (ops : List Op) :
    ∀ p ∈ (run s ops).1.live, Intact (run s ops).1 p :=
  (good_run ops s hg).live_intact

/-- … spelled out: for every live path the record of what its traj.txt refers to EXISTS and every trajectory
    file it names is on disk (`Intact` demands the record: a path without one must not count as intact). -/
theorem live_files_on_disk (s : St) (hg : Good s) (ops : List Op) :
    ∀ p ∈ (run s ops).1.live, ∃ adr, lookup p (run s ops).1.txt = some adr ∧ ∀ f ∈ adr, DFile.acc p f ∈ (run s ops).1.disk :=
  fun p hp => (never_deletes_live_file s hg ops p hp).2.2

/-- a state whose live path has its two text files but no record and no trajectory file: not `Intact`, not `Good` -/
def noRecord : St :=
  { n := 3, delOld := true, delAll := true, variant := .repaired, keep := [], trajNum := 6, live := [5],
    trajData := [(5, ["gone.xyz"])], pnOlds := [], disk := [.txt 5 0, .txt 5 1], dirs := [.path 5, .accepted 5],
    restart := [5], pending := [], cnt := 0, txt := [] }

theorem intact_needs_record : ¬ Intact noRecord 5 ∧ ¬ Good noRecord := by
  have h : ¬ Intact noRecord 5 := by
    rintro ⟨_, _, adr, hl, _⟩
    simp [noRecord, lookup] at hl
  exact ⟨h, fun hg => h (hg.live_intact 5 (by simp [noRecord]))⟩

/-- (step form) a file that disappears in a step belongs to a path that is not live, is not an
    initial path, and was numbered before this step. -/
theorem step_removes_only_dead (s : St) (hg : Good s) (op : Op) (g : DFile) (hgd : g ∈ s.disk)
    (hn : g ∉ (step s op).1.disk) : g.pn ∉ s.live ∧ (s.n : Int) - 2 < g.pn ∧ g.pn < s.trajNum := by
  cases op with
  | finish => exact absurd ((congrArg St.disk (finish_touches s) :) ▸ hgd) hn
  | stale p nm => exact absurd (stale_disk s p nm g hgd) hn
  | replace p f k =>
    exact hg.olds_dead _ (Pops.mem_keys (Classical.byContradiction fun h => hn (replace_keeps s p f k g hgd h)))

/-- **The restart file's paths keep their files**: the `active` list of the restart.toml on disk
    (written at the end of the last completed `treat_output`) only names paths that still load,
    at every moment, also in the middle of a call and after an exception. -/
theorem never_deletes_restart_referenced (s : St) (hg : Good s) (hp : Prot s) (ops : List Op)
    (hb : Bounded s ops) : ∀ p ∈ (run s ops).1.restart, Intact (run s ops).1 p :=
  (prot_run ops s hg hp hb).restart_intact

theorem run_n : ∀ (ops : List Op) (s : St), (run s ops).1.n = s.n := fun ops s =>
  run_invariant (fun t => t.n = s.n) (fun _ _ => True) (fun _ _ _ _ _ => trivial)
    (fun t op _ h _ => (step_n t op).trans h) ops s rfl trivial

/-- **Initial paths are never touched**: a file of a path numbered ≤ n − 2 survives every history. -/
theorem never_touches_initial_paths : ∀ (ops : List Op) (s : St), Good s → ∀ g ∈ s.disk,
    (g.pn : Int) ≤ (s.n : Int) - 2 → g ∈ (run s ops).1.disk := by
  intro ops s hg g hgd hle
  refine (run_invariant (fun t => Good t ∧ t.n = s.n ∧ g ∈ t.disk) (fun _ _ => True) (fun _ _ _ _ _ => trivial)
    ?_ ops s ⟨hg, rfl, hgd⟩ trivial).2.2
  intro t op _ ⟨htg, htn, htd⟩ _
  refine ⟨good_step t htg op, (step_n t op).trans htn, ?_⟩
  apply Classical.byContradiction
  intro hn
  have := (step_removes_only_dead t htg op g htd hn).2.1
  omega

/-- all three for the state `load_paths` builds: n − 1 initial paths numbered below n − 1 -/
theorem safety_from_init (n : Nat) (d a : Bool) (paths : List (Nat × List String)) (v : Variant) (kp : List String)
    (hn : 1 ≤ n) (hp : ∀ e ∈ paths, e.1 + 1 < n) (ops : List Op) :
    (∀ p ∈ (run (init n d a paths v kp) ops).1.live, Intact (run (init n d a paths v kp) ops).1 p) ∧
    (Bounded (init n d a paths v kp) ops →
      ∀ p ∈ (run (init n d a paths v kp) ops).1.restart, Intact (run (init n d a paths v kp) ops).1 p) ∧
    (∀ g ∈ initFiles paths, g ∈ (run (init n d a paths v kp) ops).1.disk) := by
  obtain ⟨hg, hpr⟩ := init_good n d a paths v kp hn hp
  refine ⟨never_deletes_live_file _ hg ops, fun hb => never_deletes_restart_referenced _ hg hpr ops hb, ?_⟩
  exact fun g hgi => never_touches_initial_paths ops _ hg g hgi (initFiles_le n paths hp g hgi)

/-- a concrete non-trivial history: 2 ensembles (n = 3), delete_old, five accepted moves -/
def demoInit : St := init 3 true false [(0, ["i0.xyz"]), (1, ["i1a.xyz", "i1b.xyz"])]
def demoOps : List Op :=
  [.replace 1 ["a.xyz"] [], .finish, .replace 2 ["b.xyz"] [], .finish, .replace 0 ["c.xyz"] [], .finish,
   .replace 3 ["d.xyz"] [], .finish, .replace 5 ["e.xyz"] [], .finish]

example : Bounded demoInit demoOps ∧ (run demoInit demoOps).2 = none ∧ (run demoInit demoOps).1.live = [4, 6]
    ∧ keys (run demoInit demoOps).1.pnOlds = [3, 5] ∧ DFile.acc 2 "a.xyz" ∉ (run demoInit demoOps).1.disk
    ∧ DFile.acc 1 "i1a.xyz" ∈ (run demoInit demoOps).1.disk := by
  decide +kernel

example : (1 : Nat) ≤ 3 ∧ ∀ e ∈ [((0 : Nat), ["i0.xyz"]), (1, ["i1a.xyz", "i1b.xyz"])], e.1 + 1 < 3 := by decide +kernel

/-- **Lag, part 1.** A live, non-initial path replaced under `delete_old` is queued with exactly
    `n − 1` (= number of ensembles) qualifying replacements to go, whatever the queue held. -/
theorem deletion_lag_queued (s : St) (hg : Good s) (hlen : s.pnOlds.length + 1 ≤ s.n) (pnOld : Nat)
    (files kept : List String) (hl : pnOld ∈ s.live) (hq : qualifies s pnOld = true)
    (hok : (replace s pnOld files kept).2 = none) :
    pnOld ∈ keys (replace s pnOld files kept).1.pnOlds ∧ remn (replace s pnOld files kept).1 pnOld = s.n - 1 := by
  have hn : (replace s pnOld files kept).1.n = s.n := (congrArg St.n (replace_touches s pnOld files kept) :)
  obtain ⟨ks, hks, hnk, hcase⟩ := replace_queue s hg hlen pnOld files kept hl hq hok
  have hL := congrArg List.length hks
  rw [keys_length, List.length_append] at hL
  unfold remn
  rw [hn, hks, idxOf_new _ _ hnk, hL]
  refine ⟨by simp, ?_⟩
  rcases hcase with ⟨_, rfl⟩ | ⟨_, pd, _, rest, ho, rfl, _⟩
  · rw [keys_length]; simp only [List.length_singleton]; omega
  · have := congrArg List.length ho
    rw [keys_length]
    simp only [List.length_cons] at this ⊢; omega

/-- **Lag, part 2.** For a queued path `q` and one later accepted replacement: a non-qualifying
    one (delete_old off or an initial path replaced) leaves the queue and `q`'s files alone; a
    qualifying one removes `q`'s queue entry and all files of its `adress` exactly when its
    counter `remn` is 1, and otherwise decrements the counter and leaves every file of `q` in place.
    Together with part 1: a replaced path's files are removed at, and not before, the
    (n − 1)-th later qualifying replacement. (`finish` does not touch queue or files.) -/
theorem deletion_lag (s : St) (hg : Good s) (hlen : s.pnOlds.length + 1 ≤ s.n) (hnd : (keys s.pnOlds).Nodup)
    (q : Nat) (hqk : q ∈ keys s.pnOlds) (pnOld : Nat) (files kept : List String) (hl : pnOld ∈ s.live)
    (hok : (replace s pnOld files kept).2 = none) :
    (qualifies s pnOld = false →
      (replace s pnOld files kept).1.pnOlds = s.pnOlds ∧
      ∀ g ∈ s.disk, g.pn = q → g ∈ (replace s pnOld files kept).1.disk) ∧
    (qualifies s pnOld = true →
      (remn s q = 1 → q ∉ keys (replace s pnOld files kept).1.pnOlds ∧
        ∀ adr, (q, adr) ∈ s.pnOlds → ∀ a ∈ adr, DFile.acc q a ∉ (replace s pnOld files kept).1.disk) ∧
      (remn s q ≠ 1 → q ∈ keys (replace s pnOld files kept).1.pnOlds ∧
        remn (replace s pnOld files kept).1 q + 1 = remn s q ∧
        ∀ g ∈ s.disk, g.pn = q → g ∈ (replace s pnOld files kept).1.disk)) := by
  have hn : (replace s pnOld files kept).1.n = s.n := (congrArg St.n (replace_touches s pnOld files kept) :)
  have keepIf : ¬ Pops s pnOld q → ∀ g ∈ s.disk, g.pn = q → g ∈ (replace s pnOld files kept).1.disk :=
    fun hh g hgd hgq => replace_keeps s pnOld files kept g hgd (hgq ▸ hh)
  have hidx := List.idxOf_lt_length_of_mem hqk
  rw [keys_length] at hidx
  refine ⟨fun hnq => ⟨?_, keepIf (fun h => by have := h.1; rw [hnq] at this; cases this)⟩, fun hq => ?_⟩
  · rcases replace_cases s pnOld files kept with ⟨_, he⟩ | ⟨_, _, _, _, _, _, hb, he⟩
    · rw [he]
    rw [he] at hok ⊢
    cases hb with
    | skip _ => rfl
    | raise _ _ _ _ _ _ _ => cases hok
    | push h _ | pop _ _ _ _ _ h _ _ _ _ => rw [hnq] at h; cases h
  obtain ⟨ks, hks, hnk, hcase⟩ := replace_queue s hg hlen pnOld files kept hl hq hok
  have hqne : q ≠ pnOld := fun e => (hg.olds_dead pnOld (e ▸ hqk)).1 hl
  have hL := congrArg List.length hks
  rw [keys_length, List.length_append] at hL
  unfold remn
  rw [hn, hks, hL]
  rcases hcase with ⟨hl', rfl⟩ | ⟨hl', pd, adrd, rest, ho, rfl, hgone⟩
  · -- no pop: the queue was not full
    rw [keys_length] at hL ⊢
    refine ⟨fun h1 => ?_, fun _ => ⟨List.mem_append_left _ hqk, ?_, keepIf (fun h => hl' h.2.1)⟩⟩
    · omega
    · rw [List.idxOf_append]
      simp only [hqk, if_true, List.length_singleton]
      omega
  · -- pop of the head `pd`
    have h : keys s.pnOlds = pd :: keys rest := by rw [ho]; rfl
    have hpdn : pd ∉ keys rest := by rw [h] at hnd; exact (List.nodup_cons.mp hnd).1
    have hLk : s.pnOlds.length = rest.length + 1 := congrArg List.length ho
    rw [h, keys_length]
    by_cases hqp : q = pd
    · -- q is the head: deleted now
      rw [hqp, List.idxOf_cons_self]
      refine ⟨fun _ => ⟨fun hm => ?_, fun adr' hmem a ha => ?_⟩, fun h1 => absurd (by omega) h1⟩
      · rcases List.mem_append.mp hm with hm | hm
        · exact hpdn hm
        · exact hqne (hqp.trans (List.mem_singleton.mp hm))
      · rw [ho] at hmem
        rcases List.mem_cons.mp hmem with hm | hm
        · cases hm; exact hgone a ha
        · exact absurd (List.mem_map.mpr ⟨(pd, adr'), hm, rfl⟩) hpdn
    · have hqr : q ∈ keys rest := by
        rw [h] at hqk
        exact (List.mem_cons.mp hqk).resolve_left hqp
      rw [idxOf_cons_of_ne pd q _ (fun e => hqp e.symm)]
      refine ⟨fun h1 => ?_, fun _ => ⟨List.mem_append_left _ hqr, ?_, keepIf (fun hP => ?_)⟩⟩
      · omega
      · rw [List.idxOf_append]
        simp only [hqr, if_true, List.length_singleton]
        omega
      · have h3 := hP.2.2
        rw [h] at h3
        exact hqp (Option.some.inj h3).symm

/-- the side conditions of the two lag theorems are invariants of every history -/
theorem deletion_lag_invariants (s : St) (hg : Good s) (hp : Prot s) (hnd : (keys s.pnOlds).Nodup)
    (hb : s.cnt + 1 < s.n) (pnOld : Nat) (files kept : List String) :
    (replace s pnOld files kept).1.pnOlds.length + 1 ≤ (replace s pnOld files kept).1.n ∧
    (keys (replace s pnOld files kept).1.pnOlds).Nodup ∧
    (finish s).1.pnOlds = s.pnOlds ∧ (finish s).1.disk = s.disk :=
  ⟨olds_len_replace s hp.olds_len pnOld files kept, nodup_replace s hnd pnOld files kept,
   (congrArg St.pnOlds (finish_touches s) :), (congrArg St.disk (finish_touches s) :)⟩

/-- the lag on a concrete history (n = 3, lag 2): path 2 is queued by the third op, still has its
    file after one more qualifying replacement, and loses it at the second -/
example :
    let s1 := (run demoInit (demoOps.take 3)).1
    let s2 := (run demoInit (demoOps.take 7)).1
    let s3 := (run demoInit (demoOps.take 9)).1
    remn s1 2 = 2 ∧ 2 ∉ s1.live ∧ DFile.acc 2 "a.xyz" ∈ s2.disk ∧ remn s2 2 = 1 ∧
    DFile.acc 2 "a.xyz" ∉ s3.disk ∧ 2 ∉ keys s3.pnOlds := by
  decide +kernel

/-! ### the delete block can raise -/

/-- **Defect of the code before /repo commit 867b445 (variant `asIs`).** With `delete_old_all` and `keep_traj_fnames` the side files moved into
    `accepted/` are not in `adress`; when the path's turn comes `os.rmdir(accepted)` hits a
    non-empty directory: OSError, the run dies.  Witness: 2 ensembles, four accepted shooting
    moves in [0+], the first new path kept one side file. -/
def cexInit : St := init 3 true true [(0, ["i0.xyz"]), (1, ["i1.xyz"])] .asIs [".adp"]
def cexOps : List Op :=
  [.replace 1 ["a.xyz"] ["a.adp"], .finish, .replace 2 ["b.xyz"] [], .finish, .replace 3 ["c.xyz"] [], .finish,
   .replace 4 ["d.xyz"] [], .finish]

theorem cex_raises : (run cexInit cexOps).2 = some .notempty := by decide +kernel

theorem delete_block_never_raises_counterexample :
    ¬ (∀ (s : St) (ops : List Op), Good s → Prot s → Bounded s ops → (run s ops).2 = none) := by
  intro h
  have hi := init_good 3 true true [(0, ["i0.xyz"]), (1, ["i1.xyz"])] .asIs [".adp"] (by decide) (by decide)
  have := h cexInit cexOps hi.1 hi.2 (by decide +kernel)
  rw [cex_raises] at this
  cases this

example : (run cexInit cexOps).2 = some .notempty := cex_raises

/-- the shared argument: the body of the delete block for the queue head `pd` does not raise when
    its `adress` files are there (once each) and either `delete_old_all` is off or both
    directories exist and `load/pd` holds nothing but the three text files, the `adress` files
    and — only for the repaired code — any other entry of accepted/ whatsoever. -/
theorem delete_block_ok (c : DelCfg) (pd : Nat) (adr : List String)
    (rest : List (Nat × List String)) (disk : List DFile) (dirs : List DDir)
    (hnd : adr.Nodup) (hex : ∀ a ∈ adr, DFile.acc pd a ∈ disk)
    (hguard : c.delAll = false ∨
      (DDir.accepted pd ∈ dirs ∧ DDir.path pd ∈ dirs ∧
       ∀ g ∈ disk, g.pn = pd → (g = .txt pd 0 ∨ g = .txt pd 1 ∨ g = .txt pd 2 ∨ (∃ a ∈ adr, g = .acc pd a) ∨
         (c.variant = .repaired ∧ isAccOf pd g = true)))) :
    (delHeadCore c ((pd, adr) :: rest) disk dirs).2.2.2 = none ∧
    (delHeadCore c ((pd, adr) :: rest) disk dirs).1 = rest :=
  block_ok c pd adr rest disk dirs hnd hex hguard

/-- **The delete block never raises (repaired code, per block).** If the `adress` files of the
    queue head exist (once each) and its two directories exist, deleting it succeeds and pops the
    queue head, with or without `delete_old_all`, whatever else lies in `accepted/` (kept side
    files, stale files of an interrupted store). -/
theorem delete_block_never_raises (c : DelCfg) (hv : c.variant = .repaired) (pd : Nat) (adr : List String)
    (rest : List (Nat × List String)) (disk : List DFile) (dirs : List DDir)
    (hnd : adr.Nodup) (hex : ∀ a ∈ adr, DFile.acc pd a ∈ disk)
    (hd1 : DDir.accepted pd ∈ dirs) (hd2 : DDir.path pd ∈ dirs)
    (htxt : ∀ p k, DFile.txt p k ∈ disk → k < 3) :
    (delHeadCore c ((pd, adr) :: rest) disk dirs).2.2.2 = none ∧
    (delHeadCore c ((pd, adr) :: rest) disk dirs).1 = rest :=
  block_never_raises c hv pd adr rest disk dirs hnd hex hd1 hd2 htxt

/-- the block that killed the run before the repair now succeeds: a kept `a.adp` next to `a.xyz` -/
example : (delHeadCore { delAll := true, variant := .repaired, keep := [".adp"] } [(2, ["a.xyz"])]
    [.txt 2 0, .txt 2 1, .txt 2 2, .acc 2 "a.xyz", .acc 2 "a.adp", .txt 3 1]
    [.path 2, .accepted 2, .path 3]).2.2.2 = none ∧
  (delHeadCore { delAll := true, variant := .asIs, keep := [".adp"] } [(2, ["a.xyz"])]
    [.txt 2 0, .txt 2 1, .txt 2 2, .acc 2 "a.xyz", .acc 2 "a.adp", .txt 3 1]
    [.path 2, .accepted 2, .path 3]).2.2.2 = some .notempty := by decide +kernel

/-- the whole history that raised with the old code runs through with the repaired one -/
example : (run (init 3 true true [(0, ["i0.xyz"]), (1, ["i1.xyz"])] .repaired [".adp"]) cexOps).2 = none := by decide +kernel

/-- **What held before the repair** (variant `asIs`): the block does not raise as long as no side
    file was kept — the guard is exactly the negation of the defect. -/
theorem delete_block_never_raises_partial (c : DelCfg) (pd : Nat) (adr : List String)
    (rest : List (Nat × List String)) (disk : List DFile) (dirs : List DDir)
    (hnd : adr.Nodup) (hex : ∀ a ∈ adr, DFile.acc pd a ∈ disk)
    (hguard : c.delAll = false ∨
      (DDir.accepted pd ∈ dirs ∧ DDir.path pd ∈ dirs ∧
       ∀ g ∈ disk, g.pn = pd → (g = .txt pd 0 ∨ g = .txt pd 1 ∨ g = .txt pd 2 ∨ ∃ a ∈ adr, g = .acc pd a))) :
    (delHeadCore c ((pd, adr) :: rest) disk dirs).2.2.2 = none ∧
    (delHeadCore c ((pd, adr) :: rest) disk dirs).1 = rest := by
  refine delete_block_ok c pd adr rest disk dirs hnd hex ?_
  rcases hguard with h | ⟨h1, h2, h3⟩
  · exact Or.inl h
  · refine Or.inr ⟨h1, h2, ?_⟩
    intro g hg hp
    rcases h3 g hg hp with h | h | h | h
    · exact Or.inl h
    · exact Or.inr (Or.inl h)
    · exact Or.inr (Or.inr (Or.inl h))
    · exact Or.inr (Or.inr (Or.inr (Or.inl h)))

example : (delHeadCore { delAll := true, variant := .asIs, keep := [] } [(2, ["a.xyz"])]
    [.txt 2 0, .txt 2 1, .txt 2 2, .acc 2 "a.xyz", .txt 3 1]
    [.path 2, .accepted 2, .path 3]).2.2.2 = none := by decide +kernel

/-! ### whole histories with the repaired code -/

/-- a well-formed history: every accepted replacement replaces a path that is live at that
    moment and the new path's `adress` is a set; stale files may appear at any time -/
def wfOp (s : St) : Op → Prop
  | .replace p f _ => p ∈ s.live ∧ f.Nodup
  | _ => True

instance (s : St) (op : Op) : Decidable (wfOp s op) := by
  cases op <;> unfold wfOp <;> infer_instance

def WF : St → List Op → Prop
  | _, [] => True
  | s, op :: ops => wfOp s op ∧ WF (step s op).1 ops

instance decWF : (s : St) → (ops : List Op) → Decidable (WF s ops)
  | _, [] => isTrue trivial
  | s, op :: ops => @instDecidableAnd _ _ inferInstance (decWF (step s op).1 ops)

theorem nr_run : ∀ (ops : List Op) (s : St), NR s → WF s ops → (run s ops).2 = none ∧ NR (run s ops).1 := by
  intro ops s h hw
  refine iter_invariant step run (fun _ => rfl) (fun _ _ _ => rfl) (fun r => r.2 = none ∧ NR r.1) WF
    (fun _ _ _ hw _ => hw.2) ?_ ops s ⟨rfl, h⟩ hw
  intro s op _ ⟨_, h⟩ hw
  cases op with
  | replace p f k => exact nr_replace s h p f k hw.1.1 hw.1.2
  | finish => exact nr_finish s h
  | stale p nm => exact ⟨rfl, nr_stale s h p nm⟩

theorem mem_initDirs : ∀ (paths : List (Nat × List String)) (p : Nat) (adr : List String), (p, adr) ∈ paths →
    DDir.accepted p ∈ initDirs paths ∧ DDir.path p ∈ initDirs paths := by
  intro paths
  induction paths with
  | nil => intro p adr h; simp at h
  | cons e t ih =>
    intro p adr h
    obtain ⟨p', adr'⟩ := e
    rcases List.mem_cons.mp h with h | h
    · simp only [Prod.mk.injEq] at h
      obtain ⟨rfl, rfl⟩ := h
      simp [initDirs]
    · obtain ⟨h0, h1⟩ := ih p adr h
      simp only [initDirs]
      exact ⟨List.mem_cons_of_mem _ (List.mem_cons_of_mem _ h0), List.mem_cons_of_mem _ (List.mem_cons_of_mem _ h1)⟩

theorem init_nr (n : Nat) (d a : Bool) (paths : List (Nat × List String)) (kp : List String) (hn : 2 ≤ n)
    (hp : ∀ e ∈ paths, e.1 + 1 < n) (hnd : ∀ e ∈ paths, e.2.Nodup) : NR (init n d a paths .repaired kp) := by
  obtain ⟨hg, hpr⟩ := init_good n d a paths .repaired kp (by omega) hp
  refine ⟨rfl, hn, hg, ?_, ?_, ?_, hpr.olds_len, List.nodup_nil, ?_, ?_⟩
  · intro e he; simp [init] at he
  · intro p hpl
    obtain ⟨e, he, rfl⟩ := List.mem_map.mp hpl
    obtain ⟨adr, hla⟩ := lookup_of_mem paths e he
    have hm := lookup_mem _ _ _ hla
    refine ⟨adr, hla, hnd _ hm, (mem_initFiles paths e.1 adr hm).2.2, (mem_initDirs paths e.1 adr hm).1,
      (mem_initDirs paths e.1 adr hm).2⟩
  · simp [init, keys]
  · intro p hpp; simp [init] at hpp
  · exact initFiles_txt paths

/-- **No delete block ever raises (repaired code, whole histories).** From the state `load_paths`
    builds — any number of ensembles, any delete_old / delete_old_all / keep_traj_fnames — every
    well-formed history of accepted replacements (with whatever kept side files), `finish`es and
    stale files appearing in `accepted/` directories runs through without an exception. -/
theorem delete_block_never_raises_history (n : Nat) (d a : Bool) (paths : List (Nat × List String))
    (kp : List String) (hn : 2 ≤ n) (hp : ∀ e ∈ paths, e.1 + 1 < n) (hnd : ∀ e ∈ paths, e.2.Nodup)
    (ops : List Op) (hw : WF (init n d a paths .repaired kp) ops) :
    (run (init n d a paths .repaired kp) ops).2 = none :=
  (nr_run ops _ (init_nr n d a paths kp hn hp hnd) hw).1

/-- a history with kept side files and a stale file that is well-formed: it is `cexOps` plus a stale file -/
example : WF (init 3 true true [(0, ["i0.xyz"]), (1, ["i1.xyz"])] .repaired [".adp"])
    (.stale 1 "junk" :: cexOps ++ [.stale 5 "left.tmp", .replace 5 ["e.xyz"] ["e.adp"], .finish,
      .replace 6 ["f.xyz"] [], .finish, .replace 0 ["g.xyz"] [], .finish, .replace 7 ["h.xyz"] [], .finish]) ∧
    (∀ e ∈ [((0 : Nat), ["i0.xyz"]), (1, ["i1.xyz"])], e.2.Nodup) := by
  decide +kernel

/-! ### the bound on replacements per call holds for the real call pattern -/

/-- at most `m` replacements between two `finish`es, `c` already done in the running call -/
def callsOK (m : Nat) : Nat → List Op → Prop
  | _, [] => True
  | c, .replace _ _ _ :: ops => c + 1 ≤ m ∧ callsOK m (c + 1) ops
  | _, .finish :: ops => callsOK m 0 ops
  | c, .stale _ _ :: ops => callsOK m c ops

instance decCallsOK (m : Nat) : (c : Nat) → (ops : List Op) → Decidable (callsOK m c ops)
  | _, [] => isTrue trivial
  | c, .replace _ _ _ :: ops => @instDecidableAnd _ _ inferInstance (decCallsOK m (c + 1) ops)
  | _, .finish :: ops => decCallsOK m 0 ops
  | c, .stale _ _ :: ops => decCallsOK m c ops

theorem finish_cnt (s : St) (h : (finish s).2 = none) : (finish s).1.cnt = 0 := by
  unfold finish at h ⊢
  dsimp only at h ⊢
  split
  · rename_i e he; simp [he] at h
  · rfl

theorem bounded_of_calls (m : Nat) : ∀ (ops : List Op) (s : St), m < s.n → callsOK m s.cnt ops → Bounded s ops := by
  intro ops
  induction ops with
  | nil => intro s _ _; trivial
  | cons op ops ih =>
    intro s hm hc
    cases op with
    | replace p f k =>
      obtain ⟨h1, h2⟩ := hc
      refine ⟨by show s.cnt + 1 < s.n; omega, ?_⟩
      intro hok
      apply ih
      · rw [step_n]; exact hm
      · change (replace s p f k).2 = none at hok
        show callsOK m (replace s p f k).1.cnt ops
        rcases replace_cases s p f k with ⟨_, he⟩ | ⟨_, _, _, _, _, _, _, he⟩ <;> rw [he] at hok ⊢
        · cases hok
        · exact h2
    | finish =>
      refine ⟨trivial, ?_⟩
      intro hok
      apply ih
      · rw [step_n]; exact hm
      · rw [show (step s .finish).1.cnt = 0 from finish_cnt s hok]; exact hc
    | stale p nm =>
      refine ⟨trivial, ?_⟩
      intro _
      apply ih
      · rw [step_n]; exact hm
      · rw [show (step s (.stale p nm)).1.cnt = s.cnt from (congrArg St.cnt (addStale_touches s p nm) :)]
        exact hc

/-- **The restart file's paths keep their files, for the calls the code really makes**: one or
    two replacements per `treat_output` (a shooting move or a zero swap), at least two interfaces
    (n ≥ 3) — in particular for an accepted zero swap with n = 3, where both replaced paths are
    still named by the restart.toml on disk while the second one is being stored. -/
theorem never_deletes_restart_referenced_calls (n : Nat) (d a : Bool) (paths : List (Nat × List String))
    (v : Variant) (kp : List String) (hn : 3 ≤ n) (hp : ∀ e ∈ paths, e.1 + 1 < n) (ops : List Op)
    (hc : callsOK 2 0 ops) :
    ∀ p ∈ (run (init n d a paths v kp) ops).1.restart, Intact (run (init n d a paths v kp) ops).1 p := by
  obtain ⟨hg, hpr⟩ := init_good n d a paths v kp (by omega) hp
  exact never_deletes_restart_referenced _ hg hpr ops (bounded_of_calls 2 ops _ (by show 2 < n; omega) hc)

/-- the hypothesis `callsOK 2 0` on a history with accepted zero swaps (two replacements in one call) -/
example : callsOK 2 0 [.replace 0 ["a.xyz"] [], .replace 1 ["b.xyz"] [], .finish,
    .replace 2 ["c.xyz"] [], .replace 3 ["d.xyz"] [], .finish, .replace 4 ["e.xyz"] [], .finish] := by
  decide +kernel

/-- … spelled out for the restart file: every path it names has a record and all its trajectory files on disk -/
theorem restart_files_on_disk (n : Nat) (d a : Bool) (paths : List (Nat × List String))
    (v : Variant) (kp : List String) (hn : 3 ≤ n) (hp : ∀ e ∈ paths, e.1 + 1 < n) (ops : List Op)
    (hc : callsOK 2 0 ops) :
    ∀ p ∈ (run (init n d a paths v kp) ops).1.restart, ∃ adr, lookup p (run (init n d a paths v kp) ops).1.txt = some adr ∧
      ∀ f ∈ adr, DFile.acc p f ∈ (run (init n d a paths v kp) ops).1.disk :=
  fun p hp' => (never_deletes_restart_referenced_calls n d a paths v kp hn hp ops hc p hp').2.2

example : ∀ p ∈ (run demoInit demoOps).1.live, ∃ adr, lookup p (run demoInit demoOps).1.txt = some adr ∧ adr ≠ [] := by decide +kernel

/-! ## Part A, continued — the `Path` object: limits never cut a stored path -/

/-- **Round trip at every length, whatever the default limit.** `load_path` builds the path with
    `Path()` — limit `lim` = `DEFAULT_MAXLEN`, bound at definition time — and puts the frames into
    `phasepoints` directly: the loaded path has all frames of the stored one, also when the stored
    path is longer than that limit (`maxlength` is a free user setting), and carries the limit. -/
theorem load_path_roundtrip_any_limit (lim : Option Int) (step : Nat) (mv : List String) (fs : List Frame)
    (hne : fs ≠ []) (c : Nat) (hc : ∀ f ∈ fs, f.order.length = c) :
    loadStoredPath .push lim (store step mv fs) = .ok { maxlen := lim, pts := fs.map expected } := by
  rw [loadStoredPath_store .push lim step mv fs hne c hc, fill_push]
  rfl

/-- three frames through a default limit of two -/
example : (loadStoredPath .push (some 2) (store 7 ["ki"]
    [{ dir := "w0", base := "a.xyz", idx := some 0, velRev := false, order := [1], vpot := some 5, ekin := none },
     { dir := "w0", base := "a.xyz", idx := some 1, velRev := true, order := [2], vpot := none, ekin := none },
     { dir := "w1", base := "b.xyz", idx := some 0, velRev := false, order := [3], vpot := none, ekin := some 6 }])).toOption.map
      (fun p => (p.maxlen, p.pts.length, p.pts.map (·.base))) = some (some 2, 3, ["a.xyz", "a.xyz", "b.xyz"]) := by
  decide +kernel

/-- **Same length**, stated for the real default: however long the stored path is (100 000,
    100 001, …), `load_path` returns a path of exactly that length. -/
theorem load_path_same_length (step : Nat) (mv : List String) (fs : List Frame)
    (hne : fs ≠ []) (c : Nat) (hc : ∀ f ∈ fs, f.order.length = c) :
    ∃ p, loadStoredPath .push (some defaultMaxlen) (store step mv fs) = .ok p ∧ p.pts.length = fs.length ∧
      p.maxlen = some defaultMaxlen :=
  ⟨_, load_path_roundtrip_any_limit (some defaultMaxlen) step mv fs hne c hc, by simp, rfl⟩

/-- **The variant through `Path.append`** (what `load_path` must not do): the loaded path is the
    stored one cut at the default limit — frames, file references, order parameters and energies
    beyond it are dropped without an error. -/
theorem load_path_via_append (lim : Option Int) (step : Nat) (mv : List String) (fs : List Frame)
    (hne : fs ≠ []) (c : Nat) (hc : ∀ f ∈ fs, f.order.length = c) :
    loadStoredPath .viaAppend lim (store step mv fs) =
      .ok { maxlen := lim, pts := match lim with
                                  | none => fs.map expected
                                  | some m => (fs.map expected).take m.toNat } := by
  rw [loadStoredPath_store .viaAppend lim step mv fs hne c hc, fill_append_empty]
  cases lim <;> rfl

/-- with the variant, a stored path longer than the limit comes back with another length -/
theorem load_path_via_append_truncates (m : Int) (hm : 0 ≤ m) (step : Nat) (mv : List String) (fs : List Frame)
    (hlen : m < fs.length) (c : Nat) (hc : ∀ f ∈ fs, f.order.length = c) :
    ∃ p, loadStoredPath .viaAppend (some m) (store step mv fs) = .ok p ∧ (p.pts.length : Int) = m ∧
      p.pts.length ≠ fs.length := by
  have hne : fs ≠ [] := by
    intro h; subst h; simp at hlen; omega
  refine ⟨_, load_path_via_append (some m) step mv fs hne c hc, ?_, ?_⟩
  · simp only [List.length_take, List.length_map]
    omega
  · simp only [List.length_take, List.length_map]
    omega

/-- in particular at the real default: 100 001 stored frames would come back as 100 000 -/
theorem load_path_via_append_default (step : Nat) (mv : List String) (fs : List Frame)
    (hlen : fs.length = 100001) (c : Nat) (hc : ∀ f ∈ fs, f.order.length = c) :
    ∃ p, loadStoredPath .viaAppend (some defaultMaxlen) (store step mv fs) = .ok p ∧ p.pts.length = 100000 := by
  obtain ⟨p, h1, h2, _⟩ := load_path_via_append_truncates defaultMaxlen (by decide) step mv fs
    (by rw [hlen]; decide) c hc
  refine ⟨p, h1, ?_⟩
  have : (p.pts.length : Int) = 100000 := h2
  omega

example (f : Frame) : (List.replicate 100001 f).length = 100001 ∧ ∀ g ∈ List.replicate 100001 f, g.order.length = f.order.length :=
  ⟨List.length_replicate, fun g hg => by rw [List.eq_of_mem_replicate hg]⟩

/-- the round trip is NOT a theorem for the variant: three frames, limit two -/
theorem load_path_via_append_counterexample :
    ¬ (∀ (lim : Option Int) (step : Nat) (mv : List String) (fs : List Frame), fs ≠ [] →
        ∀ c, (∀ f ∈ fs, f.order.length = c) →
        ∃ p, loadStoredPath .viaAppend lim (store step mv fs) = .ok p ∧ p.pts.length = fs.length) := by
  intro h
  let f : Frame := { dir := "w", base := "a.xyz", idx := some 0, velRev := false, order := [1], vpot := none, ekin := none }
  obtain ⟨p, hp, hl⟩ := h (some 2) 0 [] [f, f, f] (by simp) 1 (by simp [f])
  obtain ⟨q, hq, hq2, _⟩ := load_path_via_append_truncates 2 (by decide) 0 [] [f, f, f] (by decide) 1 (by simp [f])
  rw [hp] at hq
  injection hq with hq
  subst hq
  simp at hl
  omega

/-! ### load_paths_from_disk: every active path comes back whole, with the configured maximum length -/

/-- the archive `PathStorage.output` leaves for a stored path -/
def archiveOf (step : Nat) (mv : List String) (fs : List Frame) : Archive :=
  { traj := some (store step mv fs).traj, order := some (store step mv fs).order,
    energy := some (store step mv fs).energy, files := (store step mv fs).accepted }

/-- **Restart load.** If every path number in `current.active` holds a stored path (≥ 1 frame, the
    same number of order parameters in all frames of a path), `load_paths_from_disk` returns them
    all, in order, each with all its frames — whatever the default limit of `Path()` — with
    `maxlen` = the configured `maxlength` and its number. -/
theorem load_paths_from_disk_roundtrip (deflim maxlength : Option Int) (restarted : Bool)
    (disk : Nat → Archive) (content : Nat → Nat × List String × List Frame) :
    ∀ (active : List Nat),
      (∀ pn ∈ active, disk pn = archiveOf (content pn).1 (content pn).2.1 (content pn).2.2 ∧ (content pn).2.2 ≠ [] ∧
        ∃ c, ∀ f ∈ (content pn).2.2, f.order.length = c) →
      ∃ ps, loadPathsFromDisk .push deflim maxlength restarted disk active = .ok ps ∧
        ps.map (·.number) = active ∧
        ps.map (fun l => l.path.pts) = active.map (fun pn => (content pn).2.2.map expected) ∧
        ∀ l ∈ ps, l.path.maxlen = maxlength ∧ l.status = (if restarted then "re" else "ld") := by
  intro active
  induction active with
  | nil => intro _; exact ⟨[], rfl, rfl, rfl, fun l hl => absurd hl (by simp)⟩
  | cons pn rest ih =>
    intro h
    obtain ⟨hd, hne, c, hc⟩ := h pn (by simp)
    obtain ⟨ps, hps, h1, h2, h3⟩ := ih (fun q hq => h q (List.mem_cons_of_mem _ hq))
    have hl := load_path_roundtrip_any_limit deflim (content pn).1 (content pn).2.1 (content pn).2.2 hne c hc
    unfold loadStoredPath at hl
    unfold loadPathsFromDisk
    rw [hd]
    simp only [archiveOf, hl, hps]
    refine ⟨_, rfl, by simp [h1], by simp [h2], ?_⟩
    intro l hl'
    rcases List.mem_cons.mp hl' with e | e
    · subst e; exact ⟨rfl, rfl⟩
    · exact h3 l e

example : archiveOf 0 [] [{ dir := "w", base := "a.xyz", idx := some 0, velRev := false, order := [1], vpot := none, ekin := none }]
    = archiveOf 0 [] [{ dir := "w", base := "a.xyz", idx := some 0, velRev := false, order := [1], vpot := none, ekin := none }] ∧
    ([{ dir := "w", base := "a.xyz", idx := some 0, velRev := false, order := [1], vpot := none, ekin := none }] : List Frame) ≠ [] := by
  exact ⟨rfl, by simp⟩

/-! ### the storing side: `PathStorage.output` moves the files of `path.copy()` -/

/-- **A path within its own limit is stored whole**: `Path.copy` (through `Path.append`) returns all
    frames, so the files moved and the path returned are those of the whole path — the storing
    side of the object model coincides with `store`. -/
theorem storeObj_of_fits (step : Nat) (mv : List String) (p : PathObj Frame) (h : p.fits) :
    (storeObj step mv p).1.traj = (store step mv p.pts).traj ∧
    (storeObj step mv p).1.order = (store step mv p.pts).order ∧
    (storeObj step mv p).1.energy = (store step mv p.pts).energy ∧
    (storeObj step mv p).1.accepted = (store step mv p.pts).accepted ∧
    (storeObj step mv p).1.moves = (store step mv p.pts).moves ∧
    (storeObj step mv p).2.pts.length = p.pts.length ∧ (storeObj step mv p).2.maxlen = p.maxlen := by
  unfold storeObj store
  simp only [copy_of_fits p h, List.length_map, and_self]

/-- **Round trip on Path objects.** A path that respects its own limit (every path built through
    `Path.append` does, length = limit included), stored by `PathStorage.output` and read by
    `load_path` under any default limit, comes back whole. -/
theorem store_load_path_object_roundtrip (lim : Option Int) (step : Nat) (mv : List String) (p : PathObj Frame)
    (hfit : p.fits) (hne : p.pts ≠ []) (c : Nat) (hc : ∀ f ∈ p.pts, f.order.length = c) :
    loadStoredPath .push lim (storeObj step mv p).1 = .ok { maxlen := lim, pts := p.pts.map expected } := by
  have h := load_path_roundtrip_any_limit lim step mv p.pts hne c hc
  obtain ⟨h1, h2, h3, h4, _⟩ := storeObj_of_fits step mv p hfit
  unfold loadStoredPath at h ⊢
  rw [h1, h2, h3, h4]
  exact h

/-- length = limit is inside the guard -/
example : ({ maxlen := some 2, pts := [1, 2] } : PathObj Nat).fits ∧ ¬ ({ maxlen := some 2, pts := [1, 2, 3] } : PathObj Nat).fits
    ∧ ({ maxlen := none, pts := [1, 2, 3] } : PathObj Nat).fits := by decide +kernel

/-- two frames in two files, limit one -/
def overlong : PathObj Frame := { maxlen := some 1, pts :=
    [{ dir := "w", base := "a.xyz", idx := some 0, velRev := false, order := [1], vpot := none, ekin := none },
     { dir := "w", base := "b.xyz", idx := some 0, velRev := false, order := [2], vpot := none, ekin := none }] }

theorem overlong_load : loadStoredPath .push none (storeObj 0 [] overlong).1 = .error .assert := by rfl

example : (storeObj 0 [] overlong).1.accepted = ["a.xyz"] ∧ (storeObj 0 [] overlong).2.pts.length = 1 := by decide +kernel

/-- the guard is needed: a path object LONGER than its own limit (no code path builds one, but
    `load_path` of a path longer than the default returns one until `load_paths_from_disk` resets
    `maxlen`) is written out whole, yet only the files of the first `maxlen` frames are moved —
    the archive does not load. -/
theorem storeObj_overlong_counterexample :
    ¬ (∀ (lim : Option Int) (step : Nat) (mv : List String) (p : PathObj Frame), p.pts ≠ [] →
        ∀ c, (∀ f ∈ p.pts, f.order.length = c) →
        ∃ q, loadStoredPath .push lim (storeObj step mv p).1 = .ok q) := by
  intro h
  obtain ⟨q, hq⟩ := h none 0 [] overlong (by simp [overlong]) 1 (by simp [overlong])
  rw [overlong_load] at hq
  cases hq

/-! ## Part A at the level of the TEXT of the three files (characters, fields, widths) -/

section Text
open Infretis.StoreText
open Infretis.Codec (NoBrk unlines)

/-- **Round trip on the text.** For every path object within its own limit, with ≥ 1 frames whose
    basenames are single tokens (non-empty, none of the 29 characters Python's `str.split()` separates
    at — `Tokn` is stated w.r.t. the COMPLETE white-space set of `Model/StoreWs.lean`, and text is Unicode,
    not ASCII: `é`, `ß`, CJK … in names, in `str(path.generated)` are covered) and the same number of order parameters
    in every frame, every cycle number and every `str(path.generated)` without a line break:
    `PathStorage.output` writes traj.txt / order.txt / energy.txt — `_make_header`, the three
    `format` generators with their column widths, `write(line + "\n")` — and `load_path` on that text
    — universal-newline line iteration, `strip`, `startswith("#")`, `split`, `int()`, `float()`, the
    block reader, the numpy column slices, `Path()` under ANY default limit, `update_energies` —
    returns, frame by frame: the basename, the index (`None` ↦ 0), the velocity direction, every order
    parameter as the six-decimal value that was written (`written`: correctly rounded, sign kept,
    NaN ↦ NaN, ±∞ ↦ ±∞), the energies likewise and NaN where they were `None`.  Fields wider than their
    column (long names, large numbers) are included: nothing is ever truncated.

    [With "no ASCII white space" (`Infretis.Codec.NoWs`) for `Tokn` the statement is FALSE of the real code
    on part of its domain: Python splits "a\u00a0b.xyz" in two, `int("b.xyz")` raises ValueError.  The model
    splits like Python and the guard is exact; `roundtrip_text_nbsp_in_name_counterexample` below refutes
    the ASCII-only variant.] -/
theorem load_store_roundtrip_text (lim : Option Int) (step : Nat) (gen : Str) (p : PathObj TFrame)
    (hfit : p.fits) (hne : p.pts ≠ []) (hg : NoBrk gen) (hn : ∀ f ∈ p.pts, Tokn f.base)
    (c : Nat) (hc : ∀ f ∈ p.pts, f.order.length = c) :
    loadStoredT .push lim (storeT step gen p).1 = .ok { maxlen := lim, pts := p.pts.map expectedT } := by
  rw [loadStoredT_storeT .push lim step gen p hfit hne hg hn c hc, fill_push]
  rfl

set_option maxRecDepth 8000 in
/-- a concrete stored path, character for character: a backward frame, a rounding tie
    (1/128 = 0.0078125 ↦ 0.007812), a tiny negative (↦ -0.000000), a missing energy, a long name -/
example : (storeT 7 "('sh', 0.5, 3, 10)".toList { maxlen := some 2, pts :=
    [{ dir := "w0".toList, base := "a.xyz".toList, idx := none, velRev := true, order := [.num false 1 128, .num true 1 10000000],
       vpot := some (.num true 5 2), ekin := none },
     { dir := "w1".toList, base := "a_rather_long_file_name.lammpstrj".toList, idx := some 12, velRev := false,
       order := [.nan, .num false 123456789 1], vpot := none, ekin := some (.num false 0 1) }] }).1.order =
  ("# Cycle: 7, status: ACC, move: ('sh', 0.5, 3, 10)\n" ++
   "#     Time       Orderp\n" ++
   "         0     0.007812    -0.000000\n" ++
   "         1          nan 123456789.000000\n").toList := by
  simp only [String.toList_append]
  str_lits
  decide +kernel

set_option maxRecDepth 8000 in
example : (storeT 7 [] { maxlen := none, pts :=
    [{ dir := "w0".toList, base := "a.xyz".toList, idx := none, velRev := true, order := [], vpot := none, ekin := none },
     { dir := "w1".toList, base := "a_rather_long_file_name.lammpstrj".toList, idx := some 12, velRev := false,
       order := [], vpot := none, ekin := none }] }).1.traj =
  ("# Cycle: 7, status: ACC\n" ++
   "#     Step              Filename       index    vel\n" ++
   "         0                 a.xyz           0     -1\n" ++
   "         1  a_rather_long_file_name.lammpstrj          12      1\n").toList := by
  simp only [String.toList_append]
  str_lits
  decide +kernel

/-- the header lines `_make_header` produces for the three formatters -/
theorem headers_text :
    hdrOrder = "#     Time       Orderp".toList ∧
    hdrEnergy = "#     Time      Potential        Kinetic".toList ∧
    hdrTraj = "#     Step              Filename       index    vel".toList := by
  str_lits
  decide +kernel

/-- **The six-decimal guard.** The decimal written for a float of magnitude `n/d` is within half a
    unit of the sixth decimal: `|m·10⁻⁶ − n/d| ≤ ½·10⁻⁶` (cross-multiplied), and it is the value
    itself exactly when the value is a multiple of 10⁻⁶. -/
theorem six_decimals_written (neg : Bool) (n d : Nat) (hd : 0 < d) :
    ∃ m, written (.num neg n d) = .dec ⟨neg, m⟩ ∧
      2 * (m * d) ≤ 2 * (n * 1000000) + d ∧ 2 * (n * 1000000) ≤ 2 * (m * d) + d ∧
      (m * d = n * 1000000 ↔ d ∣ n * 1000000) :=
  ⟨round6 n d, rfl, (round6_err n d hd).1, (round6_err n d hd).2, round6_exact_iff n d hd⟩

example : written (.num false 1 128) = .dec ⟨false, 7812⟩ ∧ written (.num false 3 128) = .dec ⟨false, 23438⟩ ∧
    written (.num true 1 10000000) = .dec ⟨true, 0⟩ ∧ written (.num false 1500000 1000000) = .dec ⟨false, 1500000⟩ := by
  decide +kernel

theorem written_reIn (v : FVal) : written (reIn v) = v := by
  cases v with
  | dec d => simp [reIn, written, round6_exact]
  | nan => rfl
  | inf neg => rfl

theorem expectedT_reframeT (dir : Str) (f : TFrame) : expectedT (reframeT dir (expectedT f)) = expectedT f := by
  rcases f with ⟨d, b, ix, vr, ord, vp, ek⟩
  simp only [expectedT, reframeT, idx0, List.map_map, Option.map_some, eIn, written_reIn]
  congr 1
  simp only [List.map_inj_left, Function.comp_apply]
  intro x _
  exact written_reIn _

/-- **Round trip twice on the text**: storing the loaded path again (from its `accepted/`
    directory, under another number) and loading that gives the same frames — the archive text is
    a fixed point after one trip. -/
theorem load_store_roundtrip_text_twice (lim lim' ml' : Option Int) (step step' : Nat) (gen gen' : Str)
    (p : PathObj TFrame) (hfit : p.fits) (hne : p.pts ≠ []) (hg : NoBrk gen) (hg' : NoBrk gen')
    (hn : ∀ f ∈ p.pts, Tokn f.base) (c : Nat) (hc : ∀ f ∈ p.pts, f.order.length = c) (dir : Str)
    (hfit' : ({ maxlen := ml', pts := (p.pts.map expectedT).map (reframeT dir) } : PathObj TFrame).fits) :
    loadStoredT .push lim (storeT step gen p).1 = .ok { maxlen := lim, pts := p.pts.map expectedT } ∧
    loadStoredT .push lim' (storeT step' gen' { maxlen := ml', pts := (p.pts.map expectedT).map (reframeT dir) }).1 =
      .ok { maxlen := lim', pts := p.pts.map expectedT } := by
  refine ⟨load_store_roundtrip_text lim step gen p hfit hne hg hn c hc, ?_⟩
  have h := load_store_roundtrip_text lim' step' gen' { maxlen := ml', pts := (p.pts.map expectedT).map (reframeT dir) }
    hfit' (by cases hp : p.pts with | nil => exact absurd hp hne | cons a t => simp) hg'
    (by
      intro g hg
      simp only [List.map_map, List.mem_map, Function.comp] at hg
      obtain ⟨f, hf, rfl⟩ := hg
      exact hn f hf) c
    (by
      intro g hg
      simp only [List.map_map, List.mem_map, Function.comp] at hg
      obtain ⟨f, hf, rfl⟩ := hg
      simp [reframeT, expectedT, hc f hf])
  rw [h]
  congr 2
  simp only [List.map_map]
  apply List.map_congr_left
  intro f _
  exact expectedT_reframeT dir f

/-- the variant of `load_path` through `Path.append`, on the text: cut at the default limit -/
theorem load_path_via_append_text (lim : Option Int) (step : Nat) (gen : Str) (p : PathObj TFrame)
    (hfit : p.fits) (hne : p.pts ≠ []) (hg : NoBrk gen) (hn : ∀ f ∈ p.pts, Tokn f.base)
    (c : Nat) (hc : ∀ f ∈ p.pts, f.order.length = c) :
    loadStoredT .viaAppend lim (storeT step gen p).1 =
      .ok { maxlen := lim, pts := match lim with
                                  | none => p.pts.map expectedT
                                  | some m => (p.pts.map expectedT).take m.toNat } := by
  rw [loadStoredT_storeT .viaAppend lim step gen p hfit hne hg hn c hc, fill_append_empty]
  cases lim <;> rfl

/-- **Trailing blank lines do not matter.** Any number of whitespace-only lines appended to any of
    the three files of a stored path (an editor's final newline, a half-written line of blanks):
    `read_some_lines` skips them (`strip` leaves nothing, the parsed row is empty and falsy) and
    `load_path` returns exactly the stored frames. -/
theorem load_path_trailing_blank_lines (lim : Option Int) (step : Nat) (gen : Str) (p : PathObj TFrame)
    (hfit : p.fits) (hne : p.pts ≠ []) (hg : NoBrk gen) (hn : ∀ f ∈ p.pts, Tokn f.base)
    (c : Nat) (hc : ∀ f ∈ p.pts, f.order.length = c)
    (b1 b2 b3 : List Str) (h1 : ∀ l ∈ b1, Blank l) (h2 : ∀ l ∈ b2, Blank l) (h3 : ∀ l ∈ b3, Blank l) :
    loadPathT .push lim (some (unlines (trajLines step p.pts ++ b1))) (some (unlines (orderLines step gen p.pts ++ b2)))
      (some (unlines (energyLines step gen p.pts ++ b3))) (storeT step gen p).1.accepted =
      .ok { maxlen := lim, pts := p.pts.map expectedT } := by
  unfold storeT
  simp only [copy_of_fits p hfit]
  rw [loadPathT_stored .push lim step gen hg p.pts hne hn c hc b1 b2 b3 h1 h2 h3, fill_push]
  rfl

example : Blank "  \t ".toList ∧ Blank [] ∧ ¬ Blank " x".toList := by
  refine ⟨⟨by decide, by unfold Codec.NoBrk; decide⟩, ⟨by decide, by unfold Codec.NoBrk; decide⟩, ?_⟩
  intro h
  exact absurd (h.1 'x' (by decide)) (by decide)

/-- **An empty order.txt** (zero bytes; likewise one holding only comment lines is a block without
    rows): `next(orderfile.load())` has nothing to yield — StopIteration, whatever traj.txt holds. -/
theorem load_path_empty_order_file (v : Fill) (lim : Option Int) (step : Nat) (p : PathObj TFrame)
    (hn : ∀ f ∈ p.pts, Tokn f.base) (energy : Option Str) :
    loadPathT v lim (some (unlines (trajLines step p.pts))) (some []) energy ((sourcesT p.pts).map (·.2)) =
      .error .stopIteration := by
  unfold loadPathT loadFramesT
  simp only
  rw [firstBlockT_traj0 step p.pts hn]
  simp only [snapshotsT_rows p.pts 0 hn, files_checkT p.pts, not_true_eq_false, if_false]
  rfl

/-- the hypothesis on basenames is needed: a blank inside a name splits it into two tokens, the row
    has five columns, `snapshot[1]` is only the first half and `int(snapshot[2])` raises ValueError —
    the archive does not load -/
def blankName : PathObj TFrame := { maxlen := none, pts :=
  [{ dir := "w".toList, base := "a b.xyz".toList, idx := some 0, velRev := false, order := [.num false 1 1], vpot := none, ekin := none }] }

theorem blankName_fails : (loadStoredT .push none (storeT 0 [] blankName).1).isOk = false := by
  unfold blankName
  str_lits
  decide +kernel

theorem roundtrip_text_blank_in_name_counterexample :
    ¬ (∀ (lim : Option Int) (step : Nat) (gen : Str) (p : PathObj TFrame), p.fits → p.pts ≠ [] → NoBrk gen →
        ∀ c, (∀ f ∈ p.pts, f.order.length = c) →
        ∃ q, loadStoredT .push lim (storeT step gen p).1 = .ok q) := by
  intro h
  obtain ⟨q, hq⟩ := h none 0 [] blankName (by decide) (by simp [blankName]) (by intro c hc; cases hc) 1
    (by simp [blankName])
  have := blankName_fails
  rw [hq] at this
  cases this

def errOf {α : Type} : Except Err α → Option Err
  | .ok _ => none
  | .error e => some e

/-- a name with a NO-BREAK SPACE (U+00A0) inside: one token for ASCII-only white space, two for Python -/
def nbspName : PathObj TFrame := { maxlen := none, pts :=
  [{ dir := "w".toList, base := ['a', Char.ofNat 0xA0, 'b', '.', 'x', 'y', 'z'], idx := some 0, velRev := false,
     order := [.num false 1 2], vpot := none, ekin := none },
   { dir := "w".toList, base := ['a', Char.ofNat 0xA0, 'b', '.', 'x', 'y', 'z'], idx := some 1, velRev := false,
     order := [.num false 1 2], vpot := none, ekin := none }] }

/-- the stored archive does not load: `int("b.xyz")` — ValueError, as the real `load_path` does -/
theorem nbspName_fails : errOf (loadStoredT .push none (storeT 0 [] nbspName).1) = some .value := by
  unfold nbspName
  str_lits
  decide +kernel

/-- the name satisfies the ASCII-only guard (`Infretis.Codec.NoWs`) and not the exact one -/
theorem nbspName_old_guard : (∀ f ∈ nbspName.pts, f.base ≠ [] ∧ Infretis.Codec.NoWs f.base) ∧
    ¬ (∀ f ∈ nbspName.pts, Tokn f.base) := by
  constructor
  · intro f hf
    simp only [nbspName, List.mem_cons, List.not_mem_nil, or_false] at hf
    rcases hf with rfl | rfl <;> exact ⟨by decide, by unfold Infretis.Codec.NoWs; decide⟩
  · intro h
    have := (h (nbspName.pts.head (by decide)) (by decide)).2 (Char.ofNat 0xA0) (by decide)
    revert this
    decide

/-- **The round trip under the ASCII-only guard is refuted**: non-ASCII white space in a basename — a legal
    file name — is stored but does not load.  Engine-generated names (`<ensemble>_<pid>_<counter>_traj{B,F}.<ext>`) hold no white space of
    either kind; the tie feeds both kinds of non-ASCII names (letters must round-trip, white space must
    fail with ValueError in model and code alike). -/
theorem roundtrip_text_nbsp_in_name_counterexample :
    ¬ (∀ (lim : Option Int) (step : Nat) (gen : Str) (p : PathObj TFrame), p.fits → p.pts ≠ [] → NoBrk gen →
        (∀ f ∈ p.pts, f.base ≠ [] ∧ Infretis.Codec.NoWs f.base) →
        ∀ c, (∀ f ∈ p.pts, f.order.length = c) →
        ∃ q, loadStoredT .push lim (storeT step gen p).1 = .ok q) := by
  intro h
  obtain ⟨q, hq⟩ := h none 0 [] nbspName (by decide) (by simp [nbspName]) (by intro c hc; cases hc)
    nbspName_old_guard.1 1 (by simp [nbspName])
  have := nbspName_fails
  rw [hq] at this
  cases this

/-- the white-space name in a LATER row: that row has five columns, `read_some_lines` skips it as malformed -/
def nbspLater : PathObj TFrame := { maxlen := none, pts :=
  [{ dir := "w".toList, base := "a.xyz".toList, idx := some 0, velRev := false, order := [.num false 1 2], vpot := none, ekin := none },
   { dir := "w".toList, base := ['a', Char.ofNat 0xA0, 'b', '.', 'x', 'y', 'z'], idx := some 0, velRev := false,
     order := [.num false 3 2], vpot := none, ekin := none }] }

/-- … and then NO error is raised: the archive loads as a path of ONE frame (the frame with the white-space name is
    dropped silently, the second row of order.txt / energy.txt is ignored by `zip`) — same in the real `load_path` -/
theorem nbsp_later_row_drops_frame :
    (loadStoredT .push none (storeT 0 [] nbspLater).1).toOption.map (fun q => q.pts.map (fun f => (f.base, f.order))) =
      some [("a.xyz".toList, [FVal.dec ⟨false, 500000⟩])] := by
  unfold nbspLater
  str_lits
  decide +kernel

/-- every character Python's `split()` separates at is excluded by the exact guard, and only those -/
theorem tokn_iff (t : Str) : Tokn t ↔ t ≠ [] ∧ ∀ c ∈ t, isWs c = false := Iff.rfl

/-- non-ASCII LETTERS are inside the guard: `é`, `ß`, a CJK character, an emoji — and such a name round-trips -/
example : Tokn ['t', 'r', 'a', 'j', 'é', 'ß', Char.ofNat 0x4E2D, Char.ofNat 0x1F600, '.', 'x', 'y', 'z'] :=
  ⟨by decide, by unfold NoWs; decide⟩

set_option maxRecDepth 20000 in
example : (loadStoredT .push none (storeT 3 "('sh', 0.5, 1, 2)".toList { maxlen := some 5, pts :=
    [{ dir := "w".toList, base := ['é', Char.ofNat 0x4E2D, '.', 'x'], idx := none, velRev := true,
       order := [.inf true, .num false 1 4], vpot := some (.inf false), ekin := none }] }).1).toOption.map
      (fun q => (q.maxlen, q.pts)) =
  some (none, [({ base := ['é', Char.ofNat 0x4E2D, '.', 'x'], idx := 0, velRev := true,
                  order := [FVal.inf true, FVal.dec ⟨false, 250000⟩], vpot := some (FVal.inf false),
                  ekin := some FVal.nan } : LFrameT)]) := by
  str_lits
  decide +kernel

/-- all 29 white-space code points, and their neighbours are not -/
example : ([9, 10, 11, 12, 13, 28, 29, 30, 31, 32, 0x85, 0xA0, 0x1680, 0x2000, 0x2001, 0x2002, 0x2003, 0x2004, 0x2005,
      0x2006, 0x2007, 0x2008, 0x2009, 0x200A, 0x2028, 0x2029, 0x202F, 0x205F, 0x3000].all (fun n => isWs (Char.ofNat n))) = true ∧
    ([8, 14, 27, 33, 0x84, 0x86, 0x9F, 0xA1, 0x167F, 0x1681, 0x180E, 0x1FFF, 0x200B, 0x2027, 0x202A, 0x202E, 0x2030, 0x205E,
      0x2060, 0x2FFF, 0x3001, 0xFEFF].any (fun n => isWs (Char.ofNat n))) = false := by decide +kernel

/-- an empty path is stored but does not load (as on the token level) -/
theorem load_store_text_empty (lim ml : Option Int) (step : Nat) (gen : Str) (hg : NoBrk gen) :
    loadStoredT .push lim (storeT step gen { maxlen := ml, pts := [] }).1 = .error .index := by
  have hc : ({ maxlen := ml, pts := [] } : PathObj TFrame).copy = { maxlen := ml, pts := [] } := by
    cases ml <;> rfl
  unfold loadStoredT storeT loadPathT loadFramesT
  simp only [hc]
  rw [firstBlockT_traj0 step [] (by intro f hf; cases hf)]
  simp only [rowsFromT, List.map_nil, snapshotsT, sourcesT, List.all_nil, not_true_eq_false, if_false]
  have h := firstBlockT_order step gen hg [] 0 (by intro f hf; cases hf) [] no_blanks
  rw [List.append_nil] at h
  rw [h]
  rfl

end Text

/-! ## Part A — the file operations of `_move_path`: every referenced file ends up under the path's own directory -/

/-- **Files, as a theorem about the effect sequence.** A path within its own limit whose frames refer
    to existing files outside `target = load/<n>/accepted`, any `keep_traj_fnames`, any file system
    (stale files already in `target` included), provided the names that go to `target` are pairwise
    different: `_move_path` raises nothing, returns a path of the same length, and afterwards
    every frame's file lies in `target` under its basename WITH THE CONTENT THE SOURCE HAD, the
    source is gone (moved, not copied), every entry of the move dict (side files kept through
    `keep_traj_fnames` included) arrived with its content, and no file outside `target` that is not
    a source was touched. -/
theorem move_path_files (keep : List String) (target : String) (p : PathObj Frame) (fs : FS)
    (hfit : p.fits) (H1 : ∀ f ∈ p.pts, fsGet fs (f.dir, f.base) ≠ none) (H2 : ∀ f ∈ p.pts, f.dir ≠ target)
    (hnames : ((moveDict fs target keep p.pts).map (·.1.2)).Nodup) :
    (movePath keep target p fs).2.2 = none ∧
    (movePath keep target p fs).2.1.pts.length = p.pts.length ∧
    (∀ f ∈ (movePath keep target p fs).2.1.pts, f.dir = target) ∧
    (∀ f ∈ p.pts, fsGet (movePath keep target p fs).1 (target, f.base) = fsGet fs (f.dir, f.base) ∧
                  fsGet (movePath keep target p fs).1 (f.dir, f.base) = none) ∧
    (∀ e ∈ moveDict fs target keep p.pts, e.2 = (target, e.1.2) ∧ fsGet (movePath keep target p fs).1 e.2 = fsGet fs e.1) ∧
    (∀ k, k.1 ≠ target → k ∉ (moveDict fs target keep p.pts).map (·.1) → fsGet (movePath keep target p fs).1 k = fsGet fs k) := by
  obtain ⟨hinv, hkeys⟩ := moveDict_inv fs target keep p.pts H1
  have hok : DictOk target (moveDict fs target keep p.pts) := by
    refine ⟨?_, hinv.keys_nodup, hnames⟩
    intro e he
    obtain ⟨h1, h2⟩ := hinv.form e he
    obtain ⟨f, hf, hfd⟩ := List.mem_map.mp h2
    exact ⟨h1, by rw [← hfd]; exact H2 f hf⟩
  obtain ⟨s1, s2, s3⟩ := doMoves_spec target _ fs hok hinv.present
  unfold movePath
  simp only [copy_of_fits p hfit]
  refine ⟨s1, by simp, ?_, ?_, ?_, ?_⟩
  · intro f hf
    obtain ⟨g, _, rfl⟩ := List.mem_map.mp hf
    rfl
  · intro f hf
    obtain ⟨e, he, hek⟩ := List.mem_map.mp (hkeys f hf)
    obtain ⟨a, b⟩ := s2 e he
    have hform := (hok.form e he).1
    rw [hform, hek] at a
    rw [hek] at b
    exact ⟨a, b⟩
  · intro e he
    exact ⟨(hok.form e he).1, (s2 e he).1⟩
  · intro k hk1 hk2
    refine s3 k hk2 ?_
    intro hm
    obtain ⟨e, he, hek⟩ := List.mem_map.mp hm
    apply hk1
    rw [← hek, (hok.form e he).1]

/-- **END TO END: store on the file system, then load.** For every path within its own limit, with
    ≥ 1 frames and the same number of order parameters in all of them, whose frames refer to
    existing files outside `target`, any `keep_traj_fnames`, any file system, any default limit of
    `Path()`, provided the names that go to `target` are pairwise different: `PathStorage.output`
    followed by `load_path` — the model function `outputThenLoad` the driver runs — returns the
    stored frames (basename, index, velocity direction, six-decimal order parameters, energies or
    NaN), each referring to a file that exists in `target` with the content its source had. -/
theorem output_then_load (keep : List String) (target : String) (step : Nat) (mv : List String) (p : PathObj Frame)
    (fs : FS) (deflim : Option Int) (hfit : p.fits) (hne : p.pts ≠ []) (c : Nat) (hc : ∀ f ∈ p.pts, f.order.length = c)
    (H1 : ∀ f ∈ p.pts, fsGet fs (f.dir, f.base) ≠ none) (H2 : ∀ f ∈ p.pts, f.dir ≠ target)
    (hnames : ((moveDict fs target keep p.pts).map (·.1.2)).Nodup) :
    outputThenLoad keep target step mv p fs deflim = .ok { maxlen := deflim, pts := p.pts.map expected } ∧
    ∀ f ∈ p.pts, fsGet (movePath keep target p fs).1 (target, (expected f).base) = fsGet fs (f.dir, f.base) := by
  obtain ⟨m1, _, _, m4, _, _⟩ := move_path_files keep target p fs hfit H1 H2 hnames
  refine ⟨?_, fun f hf => (m4 f hf).1⟩
  unfold outputThenLoad
  simp only [m1]
  have hfiles : ∀ f ∈ p.pts, f.base ∈ accListing (movePath keep target p fs).1 target := by
    intro f hf
    apply mem_accListing
    rw [(m4 f hf).1]
    exact H1 f hf
  rw [loadPath_text .push deflim step mv p.pts hne c hc _ hfiles, fill_push]
  rfl

example : (outputThenLoad [".adp"] "load/4/accepted" 3 ["ki"] { maxlen := some 2, pts :=
      [{ dir := "w0", base := "a.xyz", idx := some 0, velRev := true, order := [1], vpot := none, ekin := none },
       { dir := "w1", base := "b.xyz", idx := some 0, velRev := false, order := [2], vpot := some 4, ekin := none }] }
    [(("w0", "a.xyz"), 1), (("w0", "a.adp"), 2), (("w1", "b.xyz"), 3), (("load/4/accepted", "a.xyz"), 9)] (some 1)).toOption.map
      (fun q => q.pts.map (·.base)) = some ["a.xyz", "b.xyz"] := by
  decide +kernel

/-- without `keep_traj_fnames` the side condition is the property's own assumption: distinct source
    files have distinct basenames -/
theorem move_path_files_plain (target : String) (p : PathObj Frame) (fs : FS)
    (hfit : p.fits) (H1 : ∀ f ∈ p.pts, fsGet fs (f.dir, f.base) ≠ none) (H2 : ∀ f ∈ p.pts, f.dir ≠ target)
    (H3 : ∀ f ∈ p.pts, ∀ g ∈ p.pts, f.base = g.base → f.dir = g.dir) :
    (movePath [] target p fs).2.2 = none ∧
    (∀ f ∈ p.pts, fsGet (movePath [] target p fs).1 (target, f.base) = fsGet fs (f.dir, f.base) ∧
                  fsGet (movePath [] target p fs).1 (f.dir, f.base) = none) := by
  have hn : ((moveDict fs target [] p.pts).map (·.1.2)).Nodup := by
    show ((sourceDict target p.pts).map (·.1.2)).Nodup
    have : (sourceDict target p.pts).map (·.1.2) = (sources p.pts).map (·.2) := by
      simp [sourceDict, List.map_map, Function.comp_def]
    rw [this]
    exact (stored_files_under_own_dir 0 [] p.pts).2.2 H3
  obtain ⟨a, _, _, b, _, _⟩ := move_path_files [] target p fs hfit H1 H2 hn
  exact ⟨a, b⟩

/-- two backward/forward files, a kept `.adp` next to the first, a stale file already in accepted/ -/
example :
    let fs : FS := [(("w0", "a.xyz"), 1), (("w0", "a.adp"), 2), (("w1", "b.xyz"), 3), (("load/4/accepted", "a.xyz"), 9), (("w1", "other"), 7)]
    let p : PathObj Frame := { maxlen := some 3, pts :=
      [{ dir := "w0", base := "a.xyz", idx := some 0, velRev := true, order := [1], vpot := none, ekin := none },
       { dir := "w1", base := "b.xyz", idx := some 0, velRev := false, order := [2], vpot := none, ekin := none },
       { dir := "w1", base := "b.xyz", idx := some 1, velRev := false, order := [3], vpot := none, ekin := none }] }
    p.fits ∧ ((moveDict fs "load/4/accepted" [".adp"] p.pts).map (·.1.2)).Nodup ∧
    (movePath [".adp"] "load/4/accepted" p fs).1 =
      [(("load/4/accepted", "a.adp"), 2), (("load/4/accepted", "b.xyz"), 3), (("load/4/accepted", "a.xyz"), 1), (("w1", "other"), 7)] := by
  decide +kernel

/-- the side condition is needed: two source files with one basename (different directories) — the
    second move removes what the first one put there; frames of the first file now read the
    second file's content -/
theorem move_path_same_basename_counterexample :
    ¬ (∀ (target : String) (p : PathObj Frame) (fs : FS), p.fits →
        (∀ f ∈ p.pts, fsGet fs (f.dir, f.base) ≠ none) → (∀ f ∈ p.pts, f.dir ≠ target) →
        ∀ f ∈ p.pts, fsGet (movePath [] target p fs).1 (target, f.base) = fsGet fs (f.dir, f.base)) := by
  intro h
  have := h "acc" { maxlen := none, pts :=
      [{ dir := "w0", base := "t.xyz", idx := some 0, velRev := false, order := [], vpot := none, ekin := none },
       { dir := "w1", base := "t.xyz", idx := some 0, velRev := false, order := [], vpot := none, ekin := none }] }
    [(("w0", "t.xyz"), 1), (("w1", "t.xyz"), 2)] (by decide) (by decide) (by decide)
    { dir := "w0", base := "t.xyz", idx := some 0, velRev := false, order := [], vpot := none, ekin := none } (by simp)
  revert this
  decide +kernel

/-- a missing source file raises (FileNotFoundError) after the earlier moves were done -/
example : (movePath [] "acc" { maxlen := none, pts :=
      [{ dir := "w0", base := "a.xyz", idx := some 0, velRev := false, order := [], vpot := none, ekin := none },
       { dir := "w0", base := "gone.xyz", idx := some 0, velRev := false, order := [], vpot := none, ekin := none }] }
    [(("w0", "a.xyz"), 1)]).2.2 = some .nofile := by decide +kernel

/-! ## Part B, continued — histories with RESTARTS between calls -/

/-- a restart is taken between two calls (nothing pending); the other ops as before -/
def opOkR (s : St) : OpR → Prop
  | .op o => opOk s o
  | .restart => s.pending = []

instance (s : St) (o : OpR) : Decidable (opOkR s o) := by
  cases o <;> unfold opOkR <;> infer_instance

def BoundedR : St → List OpR → Prop
  | _, [] => True
  | s, o :: os => opOkR s o ∧ ((stepR s o).2 = none → BoundedR (stepR s o).1 os)

instance decBoundedR : (s : St) → (ops : List OpR) → Decidable (BoundedR s ops)
  | _, [] => isTrue trivial
  | s, o :: os =>
    have d2 : Decidable ((stepR s o).2 = none → BoundedR (stepR s o).1 os) :=
      if h : (stepR s o).2 = none then
        match decBoundedR (stepR s o).1 os with
        | isTrue hb => isTrue (fun _ => hb)
        | isFalse hb => isFalse (fun f => hb (f h))
      else isTrue (fun h' => absurd h' h)
    @instDecidableAnd _ _ inferInstance d2

theorem good_stepR (s : St) (hg : Good s) (hp : Prot s) (o : OpR) : Good (stepR s o).1 := by
  cases o with
  | op o => exact good_step s hg o
  | restart => exact good_restart s hp

theorem prot_stepR (s : St) (hg : Good s) (hp : Prot s) (o : OpR) (hb : opOkR s o) : Prot (stepR s o).1 := by
  cases o with
  | op o => exact prot_step s hg hp o hb
  | restart => exact prot_restart s hp

theorem inv_runR : ∀ (ops : List OpR) (s : St), Good s → Prot s → BoundedR s ops →
    Good (runR s ops).1 ∧ Prot (runR s ops).1 := fun ops s hg hp hb =>
  runR_invariant (fun s => Good s ∧ Prot s) BoundedR (fun _ _ _ hb hok => hb.2 hok)
    (fun s o _ h hb => ⟨good_stepR s h.1 h.2 o, prot_stepR s h.1 h.2 o hb.1⟩) ops s ⟨hg, hp⟩ hb

/-- **Live paths and the restart file's paths keep their files, across restarts**: any history of
    accepted replacements, ends of calls, stale files and restarts between calls (a new
    REPEX_state from restart.toml, the paths re-read from disk, the deletion queue forgotten). -/
theorem never_deletes_live_file_restarts (s : St) (hg : Good s) (hp : Prot s) (ops : List OpR) (hb : BoundedR s ops) :
    (∀ p ∈ (runR s ops).1.live, Intact (runR s ops).1 p) ∧ (∀ p ∈ (runR s ops).1.restart, Intact (runR s ops).1 p) :=
  ⟨(inv_runR ops s hg hp hb).1.live_intact, (inv_runR ops s hg hp hb).2.restart_intact⟩

theorem stepR_n (s : St) (o : OpR) : (stepR s o).1.n = s.n := by
  cases o with
  | op o => exact step_n s o
  | restart => rfl

/-- **Initial paths are never touched, across restarts.** -/
theorem never_touches_initial_paths_restarts : ∀ (ops : List OpR) (s : St), Good s → Prot s → BoundedR s ops →
    ∀ g ∈ s.disk, (g.pn : Int) ≤ (s.n : Int) - 2 → g ∈ (runR s ops).1.disk := by
  intro ops s hg hp hb g hgd hle
  refine (runR_invariant (fun t => (Good t ∧ Prot t) ∧ t.n = s.n ∧ g ∈ t.disk) BoundedR (fun _ _ _ hb hok => hb.2 hok)
    ?_ ops s ⟨⟨hg, hp⟩, rfl, hgd⟩ hb).2.2
  intro t o _ ⟨⟨htg, htp⟩, htn, htd⟩ hb
  refine ⟨⟨good_stepR t htg htp o, prot_stepR t htg htp o hb.1⟩, (stepR_n t o).trans htn, ?_⟩
  cases o with
  | restart => exact htd
  | op o =>
    apply Classical.byContradiction
    intro hn
    have := (step_removes_only_dead t htg o g htd hn).2.1
    omega

/-- what a path queued for deletion is once the run has been restarted (`pn_olds` is not persisted):
    not live, not named by the restart file, not in `traj_data`, not in the queue, numbered below `traj_num` -/
def Frozen (s : St) (q : Nat) : Prop :=
  q ∉ s.live ∧ q ∉ s.restart ∧ q ∉ keys s.trajData ∧ q ∉ keys s.pnOlds ∧ q < s.trajNum

/-- a frozen path stays frozen and keeps its files through any step of any state (no invariant is needed:
    only the queue head loses files, and a frozen path can never enter the queue again) -/
theorem frozen_step (s : St) (q : Nat) (hf : Frozen s q) (o : OpR) :
    Frozen (stepR s o).1 q ∧ ∀ g ∈ s.disk, g.pn = q → g ∈ (stepR s o).1.disk := by
  obtain ⟨h1, h2, h3, h4, h5⟩ := hf
  cases o with
  | restart =>
    refine ⟨⟨h2, h2, ?_, by simp [restartSt, stepR, keys], h5⟩, fun g hg _ => hg⟩
    intro hk
    exact h2 (restart_keys s q hk)
  | op o =>
    cases o with
    | finish =>
      refine ⟨?_, fun g hgd _ => (congrArg St.disk (finish_touches s) :) ▸ hgd⟩
      show Frozen (finish s).1 q
      unfold finish
      dsimp only
      split
      · exact ⟨h1, h2, fun hk => h3 (popAll_keys_sub _ _ q hk), h4, h5⟩
      · exact ⟨h1, h1, fun hk => h3 (popAll_keys_sub _ _ q hk), h4, h5⟩
    | stale p nm =>
      refine ⟨?_, fun g hgd _ => stale_disk s p nm g hgd⟩
      show Frozen (addStale s p nm) q
      rw [addStale_touches]
      exact ⟨h1, h2, h3, h4, h5⟩
    | replace p f k =>
      refine ⟨?_, fun g hgd hgq => replace_keeps s p f k g hgd (fun h => h4 (hgq ▸ h.mem_keys))⟩
      show Frozen (replace s p f k).1 q
      rcases replace_cases s p f k with ⟨_, he⟩ | ⟨adr, olds, disk, dirs, e, hlk, hb, he⟩ <;> rw [he]
      · exact ⟨h1, h2, h3, h4, h5⟩
      have hpq : p ≠ q := fun e => h3 (e ▸ lookup_keys _ _ _ hlk)
      have hqt : q ≠ s.trajNum := by omega
      refine ⟨fun hm => ?_, h2, fun hm => ?_, fun hm => ?_, Nat.lt_succ_of_lt h5⟩
      · rcases mem_replaced_live hm with ⟨h, _⟩ | ⟨h, _⟩
        · exact hqt h
        · exact h1 h
      · rcases List.mem_cons.mp (hm : q ∈ s.trajNum :: keys s.trajData) with h | h
        · exact hqt h
        · exact h3 h
      · rcases hb.keys_sub q hm with h | ⟨h, _⟩
        · exact h4 h
        · exact hpq h.symm

theorem frozen_files_stay (ops : List OpR) (s : St) (q : Nat) (hf : Frozen s q) (g : DFile) (hgd : g ∈ s.disk)
    (hgq : g.pn = q) : g ∈ (runR s ops).1.disk := by
  refine (runR_invariant (fun t => Frozen t q ∧ g ∈ t.disk) (fun _ _ => True) (fun _ _ _ _ _ => trivial)
    ?_ ops s ⟨hf, hgd⟩ trivial).2
  intro t o _ ⟨htf, htd⟩ _
  exact ⟨(frozen_step t q htf o).1, (frozen_step t q htf o).2 g htd hgq⟩

/-- **A path queued for deletion when the run is restarted is never deleted afterwards**: a frozen
    path keeps every file, whatever follows. -/
theorem queued_at_restart_never_deleted : ∀ (ops : List OpR) (s : St), Good s → Prot s → BoundedR s ops →
    ∀ q, Frozen s q → ∀ g ∈ s.disk, g.pn = q → g ∈ (runR s ops).1.disk := by
  intro ops s _ _ _ q hf g hgd hgq
  exact frozen_files_stay ops s q hf g hgd hgq

/-- a path that is in the queue when the run is restarted is frozen from then on -/
theorem frozen_of_queued (s : St) (hg : Good s) (hj : ∀ p ∈ s.restart, p ∈ s.live) (q : Nat) (hq : q ∈ keys s.pnOlds) :
    Frozen (restartSt s) q := by
  obtain ⟨h1, _, h3⟩ := hg.olds_dead q hq
  have h2 : q ∉ s.restart := fun h => h1 (hj q h)
  exact ⟨h2, h2, fun hk => h2 (restart_keys s q hk), by simp [restartSt, keys], h3⟩

/-- all of it from the state `load_paths` builds -/
theorem safety_from_init_restarts (n : Nat) (d a : Bool) (paths : List (Nat × List String)) (v : Variant) (kp : List String)
    (hn : 1 ≤ n) (hp : ∀ e ∈ paths, e.1 + 1 < n) (ops : List OpR) (hb : BoundedR (init n d a paths v kp) ops) :
    (∀ p ∈ (runR (init n d a paths v kp) ops).1.live, Intact (runR (init n d a paths v kp) ops).1 p) ∧
    (∀ p ∈ (runR (init n d a paths v kp) ops).1.restart, Intact (runR (init n d a paths v kp) ops).1 p) ∧
    (∀ g ∈ initFiles paths, g ∈ (runR (init n d a paths v kp) ops).1.disk) := by
  obtain ⟨hg, hpr⟩ := init_good n d a paths v kp hn hp
  obtain ⟨h1, h2⟩ := never_deletes_live_file_restarts _ hg hpr ops hb
  refine ⟨h1, h2, ?_⟩
  exact fun g hgi => never_touches_initial_paths_restarts ops _ hg hpr hb g hgi (initFiles_le n paths hp g hgi)

/-- the demo history with a restart after the third call: path 2 sits in the queue at the restart
    and keeps its file to the end; without the restart it is deleted (see the lag example above) -/
def demoOpsR : List OpR :=
  (demoOps.take 6).map OpR.op ++ [.restart] ++ (demoOps.drop 6).map OpR.op ++
    [.op (.replace 6 ["f.xyz"] []), .op .finish, .op (.replace 4 ["g.xyz"] []), .op .finish]

example : BoundedR demoInit demoOpsR ∧ (runR demoInit demoOpsR).2 = none ∧
    2 ∈ keys (runR demoInit ((demoOps.take 6).map OpR.op)).1.pnOlds ∧
    DFile.acc 2 "a.xyz" ∈ (runR demoInit demoOpsR).1.disk ∧ keys (runR demoInit demoOpsR).1.pnOlds = [6, 4] ∧
    DFile.acc 3 "b.xyz" ∉ (runR demoInit demoOpsR).1.disk := by
  decide +kernel

end Infretis.C14
