import Infretis.Lemmas.RepexC03Load
import Infretis.Lemmas.RepexC03AvailSys
import Infretis.Lemmas.RepexC03RRestore
import Infretis.Lemmas.RepexC03Micro
import Infretis.Lemmas.RepexC03Factory
import Infretis.Lemmas.RepexC03Submit
/-!
# C03 — a busy ensemble, path, engine or work directory is never shared

Property theorems (helper lemmas: `Infretis/Lemmas/RepexCalls.lean`, `RepexRun.lean`, `RepexC03{Core,Treat,
Eng,Sys,Init,Load,Avail,AvailSys,R*,Micro,Factory,Submit}.lean`; models: `Model/Repex.lean`, `Model/RepexMicro.lean`
(sub-steps), `Model/EngFactory.lean` (`create_engines`), `Model/RepexSubmit.lean` (section 12)).
Model: `Infretis/Model/Repex.lean` — `REPEX_state` as a state machine and the two loops of
`scheduler()` as the event system `sysStep` / `run` over explicit outcomes:
`.start o` (one iteration of `while state.initiate()`), `.initDone` (the closing `initiate()` call),
`.step k status newW o` (one iteration of `while state.loop()`: the `k`-th job in flight completes —
ANY `k`, this is the schedule quantifier — with ANY accept/reject outcome and new weights, then a new
job is drawn with ANY outcome `o` of the random choices that has positive probability).

Quantifier of every theorem below: every initial state `y0` with `Init y0` (what `load_paths`
leaves on a fresh start: every slot idle and holding its own path; any number of ensembles ≥ 1, any
weights, any number of workers, any engine table) or, for the `_restart` forms, `Start y0` (fresh start
or the state rebuilt from a restart file, section 7), every event list `evs` (every interleaving of
completions, every outcome), every `y` with `run y0 evs = .ok y` — i.e. every instant of every
history the sampler can go through without raising.  Slots: ensemble `ens_num` lives in slot
`ens_num + 1`; the last slot is the ghost.

Sections 1–6 state every property twice: for `Start y0` (`_restart`: also through the re-issue branch
of `pick_lock`, at every instant of a chain of restarts) and, as the case `Or.inl`, for a fresh start
(`Init y0`, `locked0 = []`: no jobs to re-issue from a restart file).  Section 7: restarts lead to
`Start` states again; section 9 (sub-steps) is stated for `Start`, section 10 (`create_engines`) for a
fresh start except `engine_object_exclusive`, section 11 (the branch structure of `pick`) for any state.  Section 12 (`Model/RepexSubmit.lean`,
`Lemmas/RepexC03Submit.lean`): the hand-over of work units — references are submitted, values are received.
-/
namespace Infretis.C03
open Infretis.Repex

/-- all (ensemble, path) pairs handed out to jobs in flight -/
def inflight (jobs : List Job) : List Picked := jobs.flatMap (·.picked)

theorem held_eq (jobs : List Job) : held jobs = (inflight jobs).map (fun p => (slotOf p, p.pn)) := by
  simp only [held, inflight, List.map_flatMap]
  rfl

/-! ## A concrete history used for the non-vacuity examples

3 ensembles `[0-] [0+] [1+]` + ghost, 2 workers, one engine type with 2 instances.
History: worker 0 starts a zero swap (holds `[0-]` and `[0+]`), worker 1 starts `[1+]`, initiation
closes, the zero swap completes ACCEPTED (two new paths 3, 4) and worker 0 restarts on `[0-]`, then
worker 1's job completes REJECTED and worker 1 restarts on `[1+]`. -/

def exBlank : St := blank 4 2 10 0 3 0 [[-1, -1]] [[0], [0], [0]] false []

def exS0 : St :=
  match loadPaths exBlank [(0, [1], [0,0,0,0]), (1, [1,1,0], [0,0,0,0]), (2, [1,1,0], [0,0,0,0])] with
  | .ok s => s
  | .error _ => exBlank

def exSys : Sys := { s := exS0, jobs := [] }

def exEvs : List Ev :=
  [ .start { t := 0, e := 0, coin := true, partner := 1 },
    .start { t := 2, e := 2 },
    .initDone,
    .step 0 .acc [[1], [1, 1, 0]] { t := 0, e := 0, coin := false },
    .step 0 .rej [] { t := 2, e := 2 } ]

def exAt (k : Nat) : Sys :=
  match run exSys (exEvs.take k) with
  | .ok y => y
  | .error _ => exSys

theorem exS0_loaded : loadPaths exBlank
    [(0, [1], [0,0,0,0]), (1, [1,1,0], [0,0,0,0]), (2, [1,1,0], [0,0,0,0])] = .ok exS0 := by
  decide +kernel

/-- **`Init` is what a fresh start produces**: `REPEX_state.__init__` followed by `load_paths` on
    `n − 1` initial paths with pairwise distinct numbers below `trajNum` (any weights, any number of
    workers, any engine table), `n ≥ 2` slots, no restart jobs — if `load_paths` does not raise, the
    resulting state with nothing in flight satisfies `Init`. -/
theorem fresh_start_is_init (n workers tsteps cstep trajNum seed : Nat) (occ : List (List Int))
    (ensEng : List (List Nat)) (restarted : Bool) (paths : List (Nat × List Rat × List Rat)) (s : St)
    (hn : 2 ≤ n) (hlen : paths.length = n - 1) (hnd : (paths.map (·.1)).Nodup)
    (hlt : ∀ p ∈ paths, p.1 < trajNum)
    (h : loadPaths (blank n workers tsteps cstep trajNum seed occ ensEng restarted []) paths = .ok s) :
    Init { s := s, jobs := [] } :=
  (FreshLoad.mk workers tsteps cstep trajNum seed occ ensEng restarted hn hlen hnd hlt h).init

theorem ex_init : Init exSys :=
  fresh_start_is_init 4 2 10 0 3 0 [[-1, -1]] [[0], [0], [0]] false _ exS0 (by decide) (by decide)
    (by decide) (by decide) exS0_loaded

/-- the whole history runs, and so does every prefix -/
theorem ex_runs (k : Nat) : run exSys (exEvs.take k) = .ok (exAt k) :=
  run_take_eq (y' := exAt 5) (by decide +kernel) k

/-! ## 1. Ensembles and paths of jobs in flight are pairwise disjoint -/

/-- no ensemble is held twice — before or after any number of restarts -/
theorem inflight_ens_disjoint_restart (y0 y : Sys) (evs : List Ev) (h0 : Start y0) (hr : run y0 evs = .ok y) :
    ((inflight y.jobs).map (·.ens)).Nodup := by
  have hi := reach_invR h0 hr
  have hn := hi.core.nodup
  rw [held_eq, List.map_map] at hn
  exact nodup_map_of_nodup_map (fun p => slotOf p) (·.ens) _ hn
    (fun x _ y _ h => by simp only [slotOf]; rw [h])

/-- **No ensemble is held twice**: over all jobs in flight and all their picked entries, the
    ensemble numbers are pairwise distinct (distinct jobs hold disjoint ensembles, and a job never
    lists an ensemble twice). -/
theorem inflight_ens_disjoint (y0 y : Sys) (evs : List Ev) (h0 : Init y0) (hr : run y0 evs = .ok y) :
    ((inflight y.jobs).map (·.ens)).Nodup :=
  inflight_ens_disjoint_restart y0 y evs (Or.inl h0) hr

example : Init exSys ∧ run exSys (exEvs.take 2) = .ok (exAt 2)
    ∧ (inflight (exAt 2).jobs).map (·.ens) = [-1, 0, 1] :=
  ⟨ex_init, ex_runs 2, by decide +kernel⟩

/-- no path is held twice — before or after any number of restarts -/
theorem inflight_paths_disjoint_restart (y0 y : Sys) (evs : List Ev) (h0 : Start y0) (hr : run y0 evs = .ok y) :
    ((inflight y.jobs).map (·.pn)).Nodup := by
  have := inflight_pns_nodupR (reach_invR h0 hr).core
  rwa [held_eq, List.map_map] at this

/-- **No path is held twice**: the path numbers handed to jobs in flight are pairwise distinct. -/
theorem inflight_paths_disjoint (y0 y : Sys) (evs : List Ev) (h0 : Init y0) (hr : run y0 evs = .ok y) :
    ((inflight y.jobs).map (·.pn)).Nodup :=
  inflight_paths_disjoint_restart y0 y evs (Or.inl h0) hr

example : Init exSys ∧ run exSys exEvs = .ok (exAt 5)
    ∧ (inflight (exAt 5).jobs).map (·.pn) = [3, 2] :=
  ⟨ex_init, ex_runs 5, by decide +kernel⟩

/-- all live paths are distinct — before or after any number of restarts -/
theorem live_paths_distinct_restart (y0 y : Sys) (evs : List Ev) (h0 : Start y0) (hr : run y0 evs = .ok y) :
    (∀ e, e < y.s.n - 1 → ∃ pn, y.s.trajs[e]? = some (some pn) ∧ pn < y.s.trajNum) ∧
    (∀ a b pn, a < y.s.n - 1 → b < y.s.n - 1 →
      y.s.trajs[a]? = some (some pn) → y.s.trajs[b]? = some (some pn) → a = b) :=
  ⟨(reach_invR h0 hr).core.live, (reach_invR h0 hr).core.inj⟩

/-- **All live paths are distinct** (the fact behind path disjointness): two different ensemble
    slots never hold the same path number, and every ensemble slot holds a path. -/
theorem live_paths_distinct (y0 y : Sys) (evs : List Ev) (h0 : Init y0) (hr : run y0 evs = .ok y) :
    (∀ e, e < y.s.n - 1 → ∃ pn, y.s.trajs[e]? = some (some pn) ∧ pn < y.s.trajNum) ∧
    (∀ a b pn, a < y.s.n - 1 → b < y.s.n - 1 →
      y.s.trajs[a]? = some (some pn) → y.s.trajs[b]? = some (some pn) → a = b) :=
  live_paths_distinct_restart y0 y evs (Or.inl h0) hr

example : (exAt 5).s.trajs = [some 3, some 4, some 2, none] ∧ (exAt 5).s.trajNum = 5 := by
  decide +kernel

/-! ## 2. Exactly the held ensembles are marked busy -/

/-- busy ⇔ in flight — before or after any number of restarts (recorded jobs not yet re-issued are
    idle: they are not in flight) -/
theorem locks_iff_inflight_restart (y0 y : Sys) (evs : List Ev) (h0 : Start y0) (hr : run y0 evs = .ok y) :
    y.s.locks.length = y.s.n ∧ y.s.locks[y.s.n - 1]? = some true ∧
    ∀ e, e < y.s.n - 1 →
      (y.s.locks[e]? = some true ↔ ∃ j ∈ y.jobs, ∃ p ∈ j.picked, p.ens = (e : Int) - 1) := by
  have hi := reach_invR h0 hr
  refine ⟨hi.core.lenL, hi.core.ghost, ?_⟩
  intro e he
  rw [hi.core.busy e he]
  simp only [held, heldJob, List.map_flatMap, List.map_map, List.mem_flatMap, List.mem_map,
    Function.comp_apply]
  constructor
  · rintro ⟨j, hj, p, hp, hs⟩
    refine ⟨j, hj, p, hp, ?_⟩
    have := (hi.jobs j hj).ensGe p hp
    simp only [slotOf] at hs
    omega
  · rintro ⟨j, hj, p, hp, hs⟩
    refine ⟨j, hj, p, hp, ?_⟩
    simp only [slotOf]
    omega

/-- **busy ⇔ in flight.**  The lock vector has one flag per slot, the ghost is always locked, and
    an ensemble slot `e` (ensemble number `e − 1`) is locked iff some job in flight holds that
    ensemble. -/
theorem locks_iff_inflight (y0 y : Sys) (evs : List Ev) (h0 : Init y0) (hr : run y0 evs = .ok y) :
    y.s.locks.length = y.s.n ∧ y.s.locks[y.s.n - 1]? = some true ∧
    ∀ e, e < y.s.n - 1 →
      (y.s.locks[e]? = some true ↔ ∃ j ∈ y.jobs, ∃ p ∈ j.picked, p.ens = (e : Int) - 1) :=
  locks_iff_inflight_restart y0 y evs (Or.inl h0) hr

example : (exAt 2).s.locks = [true, true, true, true] ∧ (exAt 4).s.locks = [true, false, true, true]
    ∧ (inflight (exAt 4).jobs).map (·.ens) = [1, -1] := by decide +kernel

/-- an unlocked slot is held by nobody — before or after any number of restarts -/
theorem idle_not_held_restart (y0 y : Sys) (evs : List Ev) (h0 : Start y0) (hr : run y0 evs = .ok y)
    (e : Nat) (he : y.s.locks[e]? = some false) : ∀ p ∈ inflight y.jobs, slotOf p ≠ e := by
  have hi := reach_invR h0 hr
  have hlt := hi.core.unlocked_lt e he
  intro p hp hs
  have : e ∈ (held y.jobs).map Prod.fst := by
    rw [held_eq, List.map_map]
    exact List.mem_map.mpr ⟨p, hp, hs⟩
  rw [← hi.core.busy e hlt, he] at this
  exact absurd this (by simp)

/-- an unlocked slot is held by nobody (the idle half, spelled out) -/
theorem idle_not_held (y0 y : Sys) (evs : List Ev) (h0 : Init y0) (hr : run y0 evs = .ok y)
    (e : Nat) (he : y.s.locks[e]? = some false) : ∀ p ∈ inflight y.jobs, slotOf p ≠ e :=
  idle_not_held_restart y0 y evs (Or.inl h0) hr e he

example : (exAt 4).s.locks[1]? = some false := by decide +kernel

/-! ## 3. Every job holds a path with non-zero weight in its ensemble -/

/-- the held path sits in the job's slot with non-zero weight — also for re-issued jobs -/
theorem picked_weight_nonzero_restart (y0 y : Sys) (evs : List Ev) (h0 : Start y0) (hr : run y0 evs = .ok y)
    (j : Job) (hj : j ∈ y.jobs) (p : Picked) (hp : p ∈ j.picked) :
    slotOf p < y.s.n - 1 ∧ y.s.trajs[slotOf p]? = some (some p.pn) ∧
      entryM y.s.W (slotOf p) (slotOf p) ≠ 0 := by
  exact (reach_invR h0 hr).core.heldOk _ _ (mem_held hj hp)

/-- **The held path sits in the job's ensemble slot and has non-zero weight there**, at every
    instant while the job is in flight: slot `ens+1` holds path `pn_old`, and the diagonal entry of
    the weight matrix `state[ens+1, ens+1]` (the weight of that path in that ensemble) is not 0. -/
theorem picked_weight_nonzero (y0 y : Sys) (evs : List Ev) (h0 : Init y0) (hr : run y0 evs = .ok y)
    (j : Job) (hj : j ∈ y.jobs) (p : Picked) (hp : p ∈ j.picked) :
    slotOf p < y.s.n - 1 ∧ y.s.trajs[slotOf p]? = some (some p.pn) ∧
      entryM y.s.W (slotOf p) (slotOf p) ≠ 0 :=
  picked_weight_nonzero_restart y0 y evs (Or.inl h0) hr j hj p hp

example : (exAt 5).jobs.map (fun j => j.picked.map (fun p =>
      (slotOf p, p.pn, (exAt 5).s.trajs[slotOf p]?, entryM (exAt 5).s.W (slotOf p) (slotOf p))))
    = [[(0, 3, some (some 3), 1)], [(2, 2, some (some 2), 1)]] := by decide +kernel

/-! ## 4. Zero swaps -/

/-- one ensemble or exactly `[0-],[0+]`, both locked while in flight — also for re-issued jobs -/
theorem zero_swap_holds_both_restart (y0 y : Sys) (evs : List Ev) (h0 : Start y0) (hr : run y0 evs = .ok y)
    (j : Job) (hj : j ∈ y.jobs) :
    j.picked.length = 1 ∨
      (j.picked.map (·.ens) = [-1, 0] ∧ y.s.locks[0]? = some true ∧ y.s.locks[1]? = some true) := by
  have hi := reach_invR h0 hr
  refine (hi.jobs j hj).shape.imp_right fun h2 => ?_
  have hlk : ∀ e ∈ (heldJob j).map Prod.fst, y.s.locks[e]? = some true := by
    intro e he
    obtain ⟨⟨_, pn⟩, hm, rfl⟩ := List.mem_map.mp he
    exact hi.core.held_locked _ pn (List.mem_flatMap.mpr ⟨j, hj, hm⟩)
  rw [heldJob_fst_of_zero_swap j h2] at hlk
  exact ⟨h2, hlk 0 (by simp), hlk 1 (by simp)⟩

/-- **A job holds one ensemble, or exactly `[0-]` and `[0+]`; in the latter case both stay locked
    as long as the job is in flight.** -/
theorem zero_swap_holds_both (y0 y : Sys) (evs : List Ev) (h0 : Init y0) (hr : run y0 evs = .ok y)
    (j : Job) (hj : j ∈ y.jobs) :
    j.picked.length = 1 ∨
      (j.picked.map (·.ens) = [-1, 0] ∧ y.s.locks[0]? = some true ∧ y.s.locks[1]? = some true) :=
  zero_swap_holds_both_restart y0 y evs (Or.inl h0) hr j hj

example : (exAt 3).jobs.map (fun j => j.picked.map (·.ens)) = [[-1, 0], [1]]
    ∧ (exAt 3).s.locks[0]? = some true ∧ (exAt 3).s.locks[1]? = some true := by decide +kernel

/-- **A zero swap is only started when both `[0-]` and `[0+]` are idle.**  For every call of
    `prep_md_items` (on any state whose weight matrix has one row per lock flag and which has no
    restart jobs to re-issue — true of every state the scheduler calls it on, see `prep_state_ok`):
    if the job it returns holds two ensembles, slots 0 and 1 were both unlocked when it was called. -/
theorem zero_swap_needs_both_idle (s s' : St) (prev : Option Nat) (o : PickOutcome) (saved : Nat)
    (job : Job) (ds : List Draw) (hW : s.W.length = s.locks.length) (h0 : s.locked0 = [])
    (hp : prep s prev o saved = .ok (s', job, ds)) (h2 : job.picked.length = 2) :
    s.locks[0]? = some false ∧ s.locks[1]? = some false := by
  obtain ⟨s1, ps, _, _, _, hr, _, _, _, _, _, _, hjk⟩ := prep_parts hp
  have hlen : ps.length = 2 := by simpa [hjk] using h2
  unfold pickPart at hr
  split at hr
  · rcases pickLock_parts hr with ⟨_, hr⟩ | ⟨_, _, _, _, _, hcons, _⟩
    · have e := restoreStreamOnce_touches s saved
      exact e.locks ▸ pick_two_idle o ps ds (by rw [e.W, e.locks]; exact hW) hr hlen
    · rw [h0] at hcons; cases hcons
  · exact pick_two_idle o ps ds hW hr hlen

/-- the side conditions of `zero_swap_needs_both_idle` hold in every reachable scheduler state -/
theorem prep_state_ok (y0 y : Sys) (evs : List Ev) (h0 : Init y0) (hr : run y0 evs = .ok y) :
    y.s.W.length = y.s.locks.length ∧ y.s.locked0 = [] := by
  have hi := run_preserves evs h0.inv hr
  exact ⟨by rw [hi.core.lenW, hi.core.lenL], hi.core.l0⟩

theorem pickShape_two {locks : List Bool} {ps : List Picked} (h : PickShape locks ps) (h2 : ps.length = 2) :
    locks[0]? = some false ∧ locks[1]? = some false := by
  rcases h with h1 | h1
  · omega
  · exact h1.2

/-- **a zero swap is only started when both `[0-]` and `[0+]` are idle — also across restarts**, and
    also when the job is a recorded zero swap being re-issued (its two slots are reserved, hence idle):
    a `start` event that submits a two-ensemble job found slots 0 and 1 unlocked. -/
theorem zero_swap_start_needs_both_idle_restart (y0 y y' : Sys) (evs : List Ev) (h0 : Start y0)
    (hr : run y0 evs = .ok y) (o : PickOutcome) (saved : Nat)
    (hs : sysStep y (.start o saved) = .ok y') (job : Job) (hl : y'.jobs.getLast? = some job)
    (h2 : job.picked.length = 2) : y.s.locks[0]? = some false ∧ y.s.locks[1]? = some false := by
  obtain ⟨_, hs⟩ := Step.of_ok hs
  cases hs with | start hgo hs =>
  cases hs with | @mk s2 job' ds hprep =>
  simp only [List.getLast?_append, List.getLast?_singleton, Option.some_or, Option.some.injEq] at hl
  subst hl
  have hshape := (prep_specR none o saved job' ds (initiate_invR (reach_invR h0 hr)).core hprep).shape
  simp only [(initiate_go hgo).2.2.2] at hshape
  exact pickShape_two hshape h2

/-- the same at the level of the scheduler: a `start` event that submits a two-ensemble job found
    both slots unlocked -/
theorem zero_swap_start_needs_both_idle (y0 y y' : Sys) (evs : List Ev) (h0 : Init y0)
    (hr : run y0 evs = .ok y) (o : PickOutcome) (saved : Nat)
    (hs : sysStep y (.start o saved) = .ok y') (job : Job) (hl : y'.jobs.getLast? = some job)
    (h2 : job.picked.length = 2) : y.s.locks[0]? = some false ∧ y.s.locks[1]? = some false :=
  zero_swap_start_needs_both_idle_restart y0 y y' evs (Or.inl h0) hr o saved hs job hl h2

example : exSys.s.locks[0]? = some false ∧ exSys.s.locks[1]? = some false
    ∧ sysStep exSys (.start { t := 0, e := 0, coin := true, partner := 1 }) = .ok (exAt 1)
    ∧ (exAt 1).jobs.map (fun j => j.picked.length) = [2] := by decide +kernel

/-- … and in the main loop, across restarts (also when the resubmitted job is a re-issued record):
    each of slots 0 and 1 was idle or held by the job whose completion the event processes. -/
theorem zero_swap_step_needs_both_idle_restart (y0 y y' : Sys) (evs : List Ev) (h0 : Start y0)
    (hr : run y0 evs = .ok y) (k : Nat) (status : Status) (newW : List (List Rat)) (o : PickOutcome)
    (hs : sysStep y (.step k status newW o) = .ok y') (job' : Job)
    (hnew : y'.jobs = y.jobs.eraseIdx k ++ [job']) (h2 : job'.picked.length = 2) :
    ∃ job, y.jobs[k]? = some job ∧ ∀ e, e = 0 ∨ e = 1 →
      (y.s.locks[e]? = some false ∨ ∃ p ∈ job.picked, slotOf p = e) := by
  have hi := reach_invR h0 hr
  obtain ⟨job, ym, hc, hcase⟩ := Completes.of_step hs
  have hi2 := (hi.mid_done hc).inv
  have hn2 : ym.s.n = y.s.n := hc.touches.n
  cases hc with | @mk s2 _ _ _ hjob _ =>
  refine ⟨job, hjob, ?_⟩
  rcases hcase with ⟨_, rfl⟩ | ⟨_, _, ⟨hprep⟩⟩
  · exfalso
    have := congrArg List.length hnew
    simp at this
  · simp only [List.append_cancel_left_eq, List.cons.injEq, and_true] at hnew
    subst hnew
    have hidle := pickShape_two (prep_specR (some job.pin) o 0 _ _ hi2.core hprep).shape h2
    intro e he
    -- slot `e` is idle once the completed job is released: nobody else holds it
    have he2 : s2.locks[e]? = some false := by
      rcases he with rfl | rfl
      · exact hidle.1
      · exact hidle.2
    have hlt : e < y.s.n - 1 := hn2 ▸ hi2.core.unlocked_lt e he2
    have hnot : e ∉ (held (y.jobs.eraseIdx k)).map Prod.fst := by
      intro hm
      have := (hi2.core.busy e (hn2 ▸ hlt)).mpr hm
      rw [he2] at this
      exact absurd this (by simp)
    rcases bool_getElem?_cases y.s.locks e (by rw [hi.core.lenL]; omega) with hl | hl
    · right
      have hm' : e ∈ (heldJob job ++ held (y.jobs.eraseIdx k)).map Prod.fst :=
        ((held_perm_erase y.jobs k job hjob).map Prod.fst).mem_iff.mp ((hi.core.busy e hlt).mp hl)
      rw [List.map_append, List.mem_append] at hm'
      rcases hm' with h1 | h1
      · simpa only [heldJob, List.map_map, List.mem_map, Function.comp_apply] using h1
      · exact absurd h1 hnot
    · exact Or.inl hl

/-- … and in the main loop: if the job submitted by a `step` event holds two ensembles, then each of
    `[0-]` (slot 0) and `[0+]` (slot 1) was, before the event, either idle or held by the very job
    whose completion the event processes (`treat_output` released it before the new pick). -/
theorem zero_swap_step_needs_both_idle (y0 y y' : Sys) (evs : List Ev) (h0 : Init y0)
    (hr : run y0 evs = .ok y) (k : Nat) (status : Status) (newW : List (List Rat)) (o : PickOutcome)
    (hs : sysStep y (.step k status newW o) = .ok y') (job' : Job)
    (hnew : y'.jobs = y.jobs.eraseIdx k ++ [job']) (h2 : job'.picked.length = 2) :
    ∃ job, y.jobs[k]? = some job ∧ ∀ e, e = 0 ∨ e = 1 →
      (y.s.locks[e]? = some false ∨ ∃ p ∈ job.picked, slotOf p = e) :=
  zero_swap_step_needs_both_idle_restart y0 y y' evs (Or.inl h0) hr k status newW o hs job' hnew h2

/-- a `step` event that resubmits a zero swap: the completing job is the first zero swap -/
def exZ : Except Repex.Err Sys :=
  sysStep (exAt 3) (.step 0 .acc [[1], [1, 1, 0]] { t := 0, e := 0, coin := true, partner := 1 })

example : run exSys (exEvs.take 3) = .ok (exAt 3)
    ∧ (exZ.toOption.map (fun y' => y'.jobs.map (fun j => j.picked.map (fun p => (p.ens, p.pn)))))
        = some [[(1, 2)], [(-1, 3), (0, 4)]]
    ∧ (exAt 3).s.locks = [true, true, true, true]
    ∧ ((exAt 3).jobs[0]?.map (fun j => j.picked.map slotOf)) = some [0, 1] :=
  ⟨ex_runs 3, by decide +kernel, by decide +kernel, by decide +kernel⟩

/-! ## 5. Worker pins, work directories, engine instances -/

/-- pins of jobs in flight are pairwise distinct — before or after any number of restarts -/
theorem pins_distinct_restart (y0 y : Sys) (evs : List Ev) (h0 : Start y0) (hr : run y0 evs = .ok y) :
    (y.jobs.map (·.pin)).Nodup :=
  (reach_invR h0 hr).pins

/-- **Pins of jobs in flight are pairwise distinct.** -/
theorem pins_distinct (y0 y : Sys) (evs : List Ev) (h0 : Init y0) (hr : run y0 evs = .ok y) :
    (y.jobs.map (·.pin)).Nodup :=
  pins_distinct_restart y0 y evs (Or.inl h0) hr

/-- no shared work directory — before or after any number of restarts -/
theorem wfolder_exclusive_restart (y0 y : Sys) (evs : List Ev) (h0 : Start y0) (hr : run y0 evs = .ok y) :
    (∀ j ∈ y.jobs, j.wfolder = j.pin) ∧ (y.jobs.map (·.wfolder)).Nodup := by
  have hi := reach_invR h0 hr
  refine ⟨fun j hj => (hi.jobs j hj).wf, ?_⟩
  have : y.jobs.map (·.wfolder) = y.jobs.map (·.pin) :=
    List.map_congr_left (fun j hj => (hi.jobs j hj).wf)
  rw [this]
  exact hi.pins

/-- **No two jobs in flight share a work directory**: the folder is `worker<pin>` of the job's own
    pin, and the folders of jobs in flight are pairwise distinct. -/
theorem wfolder_exclusive (y0 y : Sys) (evs : List Ev) (h0 : Init y0) (hr : run y0 evs = .ok y) :
    (∀ j ∈ y.jobs, j.wfolder = j.pin) ∧ (y.jobs.map (·.wfolder)).Nodup :=
  wfolder_exclusive_restart y0 y evs (Or.inl h0) hr

example : (exAt 5).jobs.map (fun j => (j.pin, j.wfolder)) = [(0, 0), (1, 1)]
    ∧ (exAt 4).jobs.map (fun j => (j.pin, j.wfolder)) = [(1, 1), (0, 0)] := by decide +kernel

/-- listed engine cells carry the job's pin — before or after any number of restarts -/
theorem engine_cell_owned_restart (y0 y : Sys) (evs : List Ev) (h0 : Start y0) (hr : run y0 evs = .ok y)
    (j : Job) (hj : j ∈ y.jobs) (p : Picked) (hp : p ∈ j.picked) (ki : Nat × Nat) (hki : ki ∈ p.engIdx) :
    cell y.s.occ ki.1 ki.2 = some (j.pin : Int) :=
  (reach_invR h0 hr).eng j hj p hp ki hki

/-- every engine instance listed by a job in flight is marked in `engine_occ` with that job's pin -/
theorem engine_cell_owned (y0 y : Sys) (evs : List Ev) (h0 : Init y0) (hr : run y0 evs = .ok y)
    (j : Job) (hj : j ∈ y.jobs) (p : Picked) (hp : p ∈ j.picked) (ki : Nat × Nat) (hki : ki ∈ p.engIdx) :
    cell y.s.occ ki.1 ki.2 = some (j.pin : Int) :=
  engine_cell_owned_restart y0 y evs (Or.inl h0) hr j hj p hp ki hki

/-- no shared engine instance — before or after any number of restarts -/
theorem engine_instance_exclusive_restart (y0 y : Sys) (evs : List Ev) (h0 : Start y0) (hr : run y0 evs = .ok y)
    (i1 i2 : Nat) (j1 j2 : Job) (h1 : y.jobs[i1]? = some j1) (h2 : y.jobs[i2]? = some j2)
    (p1 p2 : Picked) (hp1 : p1 ∈ j1.picked) (hp2 : p2 ∈ j2.picked) (ki : Nat × Nat)
    (hk1 : ki ∈ p1.engIdx) (hk2 : ki ∈ p2.engIdx) : i1 = i2 := by
  have hi := reach_invR h0 hr
  have c1 := hi.eng j1 (List.mem_of_getElem? h1) p1 hp1 ki hk1
  have c2 := hi.eng j2 (List.mem_of_getElem? h2) p2 hp2 ki hk2
  rw [c1] at c2
  have hpin : j1.pin = j2.pin := by simpa using c2
  have hn := hi.pins
  have hl1 := getElem?_lt_of_some h1
  have hl2 := getElem?_lt_of_some h2
  have e1 : (y.jobs.map (·.pin))[i1]? = some j1.pin := by simp [h1]
  have e2 : (y.jobs.map (·.pin))[i2]? = some j1.pin := by simp [h2, hpin]
  exact (List.getElem?_inj (by simpa using hl1) hn).mp (e1.trans e2.symm)

/-- **No two jobs in flight share an engine instance**: if the jobs at positions `i1` and `i2` of
    the in-flight list both list the instance `(engine type, index)`, then `i1 = i2`. -/
theorem engine_instance_exclusive (y0 y : Sys) (evs : List Ev) (h0 : Init y0) (hr : run y0 evs = .ok y)
    (i1 i2 : Nat) (j1 j2 : Job) (h1 : y.jobs[i1]? = some j1) (h2 : y.jobs[i2]? = some j2)
    (p1 p2 : Picked) (hp1 : p1 ∈ j1.picked) (hp2 : p2 ∈ j2.picked) (ki : Nat × Nat)
    (hk1 : ki ∈ p1.engIdx) (hk2 : ki ∈ p2.engIdx) : i1 = i2 :=
  engine_instance_exclusive_restart y0 y evs (Or.inl h0) hr i1 i2 j1 j2 h1 h2 p1 p2 hp1 hp2 ki hk1 hk2

example : (exAt 5).jobs.map (fun j => j.picked.map (·.engIdx)) = [[[(0, 0)]], [[(0, 1)]]]
    ∧ (exAt 5).s.occ = [[0, 1]] := by decide +kernel

/-! ## 6. A free engine instance is always found

`engine_always_available_start`, `engine_always_available_step`: with `min(count_k, workers)` instances of every engine type `k`, as
`create_engines` builds them (`EngInit.sized`; `count_k` = `countK` = number of ensembles whose engine
list contains `k`, which is ≤ the number of occurrences `create_engines` counts), every ensemble
having at least one engine type and all types present in `engine_occ` (`EngInit.engOk`, enforced by
`check_config`), and all cells free at the start: along every scheduler-shaped history
`assign_engines` serves every engine type of the picked ensembles, i.e. `prep_md_items` never raises
in its engine part.

Counting argument: after the worker's own cells are freed every occupied cell of type `k` belongs to
another worker with a job in flight that uses `k`; such workers are pairwise distinct, `< workers`
and different from the one being served (≤ `workers − 1` of them), occupy one `k` cell each, and hold
pairwise distinct ensembles listing `k`, none of which is the ensemble just picked (≤ `count_k − 1`).

"Scheduler-shaped" = what `scheduler()` does: `start` events only, then the closing `initiate()`
call, then `step` events only.  The restriction is needed: `run` also allows a `start` after a
`step`, which `scheduler()` never produces; a worker that completed without being resubmitted keeps
its engine cells (they are only freed by the same worker's next `prep_md_items`), so a later `start`
could find a type exhausted.

The conclusion is phrased as "the event fails only if one of its non-engine parts fails":
`pickPart` is `pick_lock()` / `pick()` — the part of `prep_md_items` before `assign_engines`. -/

/-- **During initiation, fresh start or restart** (also while recorded jobs are being re-issued):
    if `initiate()` answers yes and `pick_lock()` succeeds, the whole `start` event succeeds. -/
theorem engine_always_available_start_restart (y0 y : Sys) (starts : List Ev) (h0 : Start y0)
    (hj : y0.jobs = []) (hE : EngInit y0) (hs : ∀ ev ∈ starts, isStart ev = true)
    (hr : run y0 starts = .ok y)
    (o : PickOutcome) (saved : Nat) (s1 : St) (hgo : initiate y.s = (s1, true))
    (s1' : St) (ps : List Picked) (ds : List Draw) (hpick : pickPart s1 o saved = .ok (s1', ps, ds)) :
    ∃ y', sysStep y (.start o saved) = .ok y' :=
  start_availableR (run_starts_ER starts hs (EInvR.ofStart h0 hE) hr) o saved s1 hgo s1' ps ds hpick

/-- **In the main loop, fresh start or restart.** -/
theorem engine_always_available_step_restart (y0 y : Sys) (starts steps : List Ev) (h0 : Start y0)
    (hj : y0.jobs = []) (hE : EngInit y0) (hs : ∀ ev ∈ starts, isStart ev = true)
    (ht : ∀ ev ∈ steps, isStep ev = true)
    (hr : run y0 (starts ++ .initDone :: steps) = .ok y)
    (k : Nat) (status : Status) (newW : List (List Rat)) (o : PickOutcome) (job : Job)
    (hjk : y.jobs[k]? = some job) (s1 : St) (hloop : loop y.s = (s1, true))
    (s2 : St) (pns : List Nat) (it : Nat)
    (htr : treatOutput s1 job status newW (sortFuel s1) = .ok (s2, pns, it))
    (hre : s2.cstep + s2.workers ≤ s2.tsteps) (s3 : St) (ps : List Picked) (ds : List Draw)
    (hpick : pickPart s2 o 0 = .ok (s3, ps, ds)) :
    ∃ y', sysStep y (.step k status newW o) = .ok y' := by
  obtain ⟨he, hlt⟩ := einvR_of_shaped h0 hE starts steps hs hr
  exact step_availableR he hlt k status newW o job hjk s1 hloop s2 pns it htr hre s3 ps ds hpick

/-- **During initiation** (after any number of `start` events): if `initiate()` answers yes and the
    pick succeeds, the whole `start` event succeeds — `assign_engines` found an instance of every
    engine type of the picked ensembles. -/
theorem engine_always_available_start (y0 y : Sys) (starts : List Ev) (h0 : Init y0)
    (hE : EngInit y0) (hs : ∀ ev ∈ starts, isStart ev = true) (hr : run y0 starts = .ok y)
    (o : PickOutcome) (saved : Nat) (s1 : St) (hgo : initiate y.s = (s1, true))
    (s1' : St) (ps : List Picked) (ds : List Draw) (hpick : pickPart s1 o saved = .ok (s1', ps, ds)) :
    ∃ y', sysStep y (.start o saved) = .ok y' :=
  engine_always_available_start_restart y0 y starts (Or.inl h0) h0.jobs hE hs hr o saved s1 hgo s1' ps ds hpick

/-- **In the main loop** (after the starts, the closing `initiate()` and any number of `step`
    events, in any completion order): if `loop()` answers yes, `treat_output` succeeds, the scheduler
    resubmits (`cstep + workers ≤ tsteps`) and the pick succeeds, the whole `step` event succeeds. -/
theorem engine_always_available_step (y0 y : Sys) (starts steps : List Ev) (h0 : Init y0)
    (hE : EngInit y0) (hs : ∀ ev ∈ starts, isStart ev = true) (ht : ∀ ev ∈ steps, isStep ev = true)
    (hr : run y0 (starts ++ .initDone :: steps) = .ok y)
    (k : Nat) (status : Status) (newW : List (List Rat)) (o : PickOutcome) (job : Job)
    (hj : y.jobs[k]? = some job) (s1 : St) (hloop : loop y.s = (s1, true))
    (s2 : St) (pns : List Nat) (it : Nat)
    (htr : treatOutput s1 job status newW (sortFuel s1) = .ok (s2, pns, it))
    (hre : s2.cstep + s2.workers ≤ s2.tsteps) (s3 : St) (ps : List Picked) (ds : List Draw)
    (hpick : pickPart s2 o 0 = .ok (s3, ps, ds)) :
    ∃ y', sysStep y (.step k status newW o) = .ok y' :=
  engine_always_available_step_restart y0 y starts steps (Or.inl h0) h0.jobs hE hs ht hr k status newW o job hj
    s1 hloop s2 pns it htr hre s3 ps ds hpick

theorem ex_engInit : EngInit exSys :=
  Factory.engInit_of_createEngines exSys 1 (by decide +kernel) (by decide +kernel) (by decide +kernel)

example : Init exSys ∧ EngInit exSys ∧ run exSys (exEvs.take 1) = .ok (exAt 1)
    ∧ (initiate (exAt 1).s).2 = true
    ∧ (pickPart (initiate (exAt 1).s).1 { t := 2, e := 2 } 0).toBool = true :=
  ⟨ex_init, ex_engInit, ex_runs 1, by decide +kernel, by decide +kernel⟩

/-- the hypotheses of the step form on the concrete history, at the moment the zero swap completes -/
def exStepCheck : Bool :=
  match (exAt 3).jobs[0]?, loop (exAt 3).s with
  | some job, (s1, true) =>
    match treatOutput s1 job .acc [[1], [1, 1, 0]] (sortFuel s1) with
    | .ok (s2, _, _) =>
      decide (s2.cstep + s2.workers ≤ s2.tsteps) && (pickPart s2 { t := 0, e := 0, coin := false } 0).toBool
    | .error _ => false
  | _, _ => false

example : exEvs.take 3 = exEvs.take 2 ++ .initDone :: [] ∧ run exSys (exEvs.take 3) = .ok (exAt 3)
    ∧ exStepCheck = true := ⟨rfl, ex_runs 3, by decide +kernel⟩

/-! a second configuration where `min(count_k, workers) < workers` matters: engine type 0 is used by
`[0-]` only (one instance), type 1 by `[0+]` and `[1+]` (two instances), two workers -/

def exPaths : List (Nat × List Rat × List Rat) :=
  [(0, [1], [0,0,0,0]), (1, [1,1,0], [0,0,0,0]), (2, [1,1,0], [0,0,0,0])]

def exBlank2 : St := blank 4 2 10 0 3 0 [[-1], [-1, -1]] [[0], [1], [1]] false []

def exS2 : St :=
  match loadPaths exBlank2 exPaths with
  | .ok s => s
  | .error _ => exBlank2

def exSys2 : Sys := { s := exS2, jobs := [] }

theorem ex_init2 : Init exSys2 :=
  fresh_start_is_init 4 2 10 0 3 0 [[-1], [-1, -1]] [[0], [1], [1]] false exPaths exS2 (by decide)
    (by decide) (by decide) (by decide) (by decide +kernel)

theorem ex_engInit2 : EngInit exSys2 :=
  Factory.engInit_of_createEngines exSys2 2 (by decide +kernel) (by decide +kernel) (by decide +kernel)

def exEvs2 : List Ev :=
  [ .start { t := 0, e := 0, coin := false }, .start { t := 1, e := 1 }, .initDone,
    .step 0 .acc [[1]] { t := 0, e := 0, coin := false } ]

example : countK exSys2.s.ensEng exSys2.s.n 0 = 1 ∧ exSys2.s.workers = 2
    ∧ exEvs2 = [.start { t := 0, e := 0, coin := false }, .start { t := 1, e := 1 }] ++ .initDone ::
        [.step 0 .acc [[1]] { t := 0, e := 0, coin := false }]
    ∧ (run exSys2 exEvs2).toBool = true
    ∧ ((run exSys2 exEvs2).toOption.map (fun y => y.s.occ)) = some [[0], [1, -1]] :=
  ⟨by decide +kernel, by decide +kernel, rfl, by decide +kernel, by decide +kernel⟩

/-! ## 7. The same across restarts

`InitR y0`: the state after a RESTART (`restart.toml` read back, paths re-loaded): every ensemble
slot idle and holding its own path, nothing in flight, `locked0` = the jobs that were in flight at
the stop — recorded slots pairwise distinct, each recorded path in its recorded slot with non-zero
weight there, each record one ensemble or `[0-],[0+]` — to be re-issued by `pick_lock` one by one
while `toinitiate ≥ 0`.  `Start y0 := Init y0 ∨ InitR y0`.

`restart_is_initR` / `restart_closed`: restoring the image `persist y.s` of ANY state `y` reachable
from a `Start` state (same number of slots; any workers, steps, engine table, recomputed weights;
`load_paths` not raising) gives an `InitR` state again.  So the `_restart` theorems below hold at every
instant of every chain  fresh start → run → stop → restart → run → stop → restart → …

Invariant (`InvR`, RepexC03Sys): as `Inv`, and as long as `toinitiate ≥ 0` the recorded jobs still
to be re-issued are "reserved": their slots are idle and keep their recorded paths — nothing can
take them, because while `toinitiate ≥ 0` every `prep_md_items` goes through `pick_lock`, which
re-issues the next record before it ever draws a fresh pick, `treat_output` only touches locked
slots, and `sort_trajstate` only moves paths once `toinitiate = −1`.  The re-issue itself finds the
recorded path in its recorded slot (live paths are distinct), so its swap is the identity and it
locks exactly the recorded slots.  Records left over when `toinitiate` drops below 0 (fewer workers
than records, or the early close of `initiate`) are never re-issued and carry no obligation.
The fresh-start theorems of sections 1–6 are the special case `Start y0` by `Init y0`. -/

/-- **A restart from the restart file of any reachable state is an `InitR` state** (load success as
    hypothesis; the C05 package proves it from the weight family). -/
theorem restart_is_initR (y0 y : Sys) (evs : List Ev) (h0 : Start y0) (hl : y0.s.locked = [])
    (hj : y0.jobs = []) (hr : run y0 evs = .ok y) (workers tsteps : Nat) (occ : List (List Int))
    (ensEng : List (List Nat)) (weightOf : Nat → List Rat) (s' : St)
    (h : restore (persist y.s) y.s.n workers tsteps occ ensEng weightOf = .ok s') :
    InitR { s := s', jobs := [] } :=
  restore_of_reachable_is_initR y0 y evs h0 hl hj hr workers tsteps occ ensEng weightOf s' h

/-- the class of start states with an empty record is closed under run-stop-restart: this is the
    induction step over chains of restarts -/
theorem restart_closed (y0 y : Sys) (evs : List Ev) (h0 : Start y0) (hl : y0.s.locked = [])
    (hj : y0.jobs = []) (hr : run y0 evs = .ok y) (workers tsteps : Nat) (occ : List (List Int))
    (ensEng : List (List Nat)) (weightOf : Nat → List Rat) (s' : St)
    (h : restore (persist y.s) y.s.n workers tsteps occ ensEng weightOf = .ok s') :
    Start { s := s', jobs := [] } ∧ ({ s := s', jobs := [] } : Sys).s.locked = [] ∧
      ({ s := s', jobs := [] } : Sys).jobs = [] := by
  have hR := restart_is_initR y0 y evs h0 hl hj hr workers tsteps occ ensEng weightOf s' h
  exact ⟨Or.inr hR, hR.locked, rfl⟩

/-! a concrete restart: the concrete history above is stopped after its first event (worker 0 holds
the zero swap `[0-],[0+]` with paths 0, 1), the restart file is read back with 2 workers; then
worker 0 gets the recorded zero swap re-issued, worker 1 starts `[1+]`, initiation closes, the zero
swap completes ACCEPTED and worker 0 restarts on `[0-]`. -/

def exWeight (pn : Nat) : List Rat := if pn = 0 then [1] else [1, 1, 0]

def exR : St :=
  match restore (persist (exAt 1).s) (exAt 1).s.n 2 10 [[-1, -1]] [[0], [0], [0]] exWeight with
  | .ok s => s
  | .error _ => exBlank

def exSysR : Sys := { s := exR, jobs := [] }

def exEvsR : List Ev :=
  [ .start { t := 3, e := 3 },          -- re-issue: the outcome of the (not requested) draw is ignored
    .start { t := 2, e := 2 },
    .initDone,
    .step 0 .acc [[1], [1, 1, 0]] { t := 0, e := 0, coin := false } ]

def exRAt (k : Nat) : Sys :=
  match run exSysR (exEvsR.take k) with
  | .ok y => y
  | .error _ => exSysR

theorem ex_initR : InitR exSysR :=
  restart_is_initR exSys (exAt 1) (exEvs.take 1) (Or.inl ex_init) (by decide +kernel) rfl
    (ex_runs 1) 2 10 [[-1, -1]] [[0], [0], [0]] exWeight exR (by decide +kernel)

theorem ex_runsR (k : Nat) : run exSysR (exEvsR.take k) = .ok (exRAt k) :=
  run_take_eq (y' := exRAt 4) (by decide +kernel) k

example : exSysR.s.locked0 = [([0, 1], [0, 1])] ∧ exSysR.s.locks = [false, false, false, true]
    ∧ exSysR.s.trajs = [some 0, some 1, some 2, none] ∧ exSysR.s.restarted = true := by
  decide +kernel

/-- a second restart in the chain: stop the restarted run after two events, restore again -/
def exR2 : St :=
  match restore (persist (exRAt 2).s) (exRAt 2).s.n 2 10 [[-1, -1]] [[0], [0], [0]] exWeight with
  | .ok s => s
  | .error _ => exBlank

theorem ex_initR2 : InitR { s := exR2, jobs := [] } :=
  restart_is_initR exSysR (exRAt 2) (exEvsR.take 2) (Or.inr ex_initR) (by decide +kernel) rfl
    (ex_runsR 2) 2 10 [[-1, -1]] [[0], [0], [0]] exWeight exR2 (by decide +kernel)

example : exR2.locked0 = [([0, 1], [0, 1]), ([2], [2])] ∧ exR2.locks = [false, false, false, true] := by
  decide +kernel

example : Start exSysR ∧ run exSysR (exEvsR.take 1) = .ok (exRAt 1)
    ∧ (exRAt 1).jobs.map (fun j => j.picked.map (fun p => (p.ens, p.pn))) = [[(-1, 0), (0, 1)]]
    ∧ (exRAt 1).s.locks = [true, true, false, true] ∧ (exRAt 1).s.locked0 = []
    ∧ (exRAt 1).s.locked = [([-1, 0], [0, 1])] :=
  ⟨Or.inr ex_initR, ex_runsR 1, by decide +kernel, by decide +kernel, by decide +kernel,
    by decide +kernel⟩

example : run exSysR exEvsR = .ok (exRAt 4)
    ∧ (inflight (exRAt 4).jobs).map (fun p => (p.ens, p.pn)) = [(1, 2), (-1, 3)]
    ∧ (exRAt 4).s.locks = [true, false, true, true]
    ∧ (exRAt 4).jobs.map (fun j => (j.pin, j.wfolder)) = [(1, 1), (0, 0)]
    ∧ (exRAt 4).s.occ = [[0, 1]] :=
  ⟨ex_runsR 4, by decide +kernel, by decide +kernel, by decide +kernel, by decide +kernel⟩

example : exSysR.s.locks[0]? = some false ∧ exSysR.s.locks[1]? = some false
    ∧ sysStep exSysR (.start { t := 3, e := 3 }) = .ok (exRAt 1)
    ∧ (exRAt 1).jobs.map (fun j => j.picked.length) = [2] := by decide +kernel


/-- **the record the restart file is written from lists exactly the jobs in flight** — at every
    instant of every history from a fresh start or a restart (with an empty record at its start):
    `locked` is a permutation of the (ens_nums, path numbers) of the jobs in flight.  (The
    pop-while-iterating loop of `treat_output` removes exactly the completed job's entry because path
    numbers of jobs in flight are pairwise distinct; `pick` and the re-issue branch append the new
    job's entry.) -/
theorem locked_record_matches_inflight (y0 y : Sys) (evs : List Ev) (h0 : Start y0)
    (hl : y0.s.locked = []) (hj : y0.jobs = []) (hr : run y0 evs = .ok y) :
    y.s.locked.Perm (y.jobs.map (fun j => (j.picked.map (·.ens), j.picked.map (·.pn)))) := by
  exact (run_recEq evs h0.inv (.ofEmpty hl hj) hr).recInv

example : (exRAt 2).s.locked = [([-1, 0], [0, 1]), ([1], [2])]
    ∧ (exRAt 2).jobs.map (fun j => (j.picked.map (·.ens), j.picked.map (·.pn))) = [([-1, 0], [0, 1]), ([1], [2])]
    ∧ (exRAt 4).s.locked = [([1], [2]), ([-1], [3])] := by decide +kernel

/-! ## 8. Engine instances are separate objects

The model's engine instance is the pair (engine type, index).  `create_engines` builds, per engine
name, `min(count, workers)` instances one after the other; seen as object identities handed out by a
fresh counter this is `engineIds` (Lemmas/RepexC03Factory.lean; `createLoop_eq`: the `engines` dict of the model is
`engineIds` of the instance counts), and distinct (type, index) pairs are distinct objects.  That the
real `create_engines` behaves like this (no aliasing of one object over several slots) is checked by
the tie on the real `def_globals` with turtlemd engines (`C03:engine-objects-aliased`,
`C03:engine-object-shared`). -/

/-- one instance slot per requested instance, and all instances of all types are pairwise distinct objects -/
theorem engine_objects_distinct (sizes : List Nat) :
    (engineIds 0 sizes).map List.length = sizes ∧ ((engineIds 0 sizes).flatten).Nodup :=
  ⟨engineIds_length sizes 0, by rw [engineIds_flatten]; exact List.nodup_range'⟩

example : engineIds 0 [3, 2] = [[0, 1, 2], [3, 4]] := by decide

/-! ## 9. "At every instant": the sub-steps of `treat_output` and `prep_md_items`

The theorems of sections 1–5 speak about the instants BETWEEN scheduler events.  `Infretis.Repex.Micro`
(Model/RepexMicro.lean) lists one snapshot after every statement inside `treat_output` (per picked
ensemble `add_traj`: `_trajs[ens] = traj`, `state[ens,:] = valid`, `unlock(ens)`; then every `swap` of
`sort_trajstate`) and inside `prep_md_items` (`pick`: `swap`, `lock`, for a zero swap `swap`, `lock`
again; re-issue branch of `pick_lock`: `swap`, `lock` per recorded ensemble) that writes `_locks`,
`_trajs` or `state`.  `Snap.mine` is the ghost list of what the job under treatment has not released yet
/ the job under construction has locked already.

`ExactBusy st H`: in state `st`, exactly the ensemble slots listed in `H` (and the ghost) are marked
busy, no slot is listed twice, every listed (slot, path) pair has that path in that slot with a
non-zero own-ensemble weight, and live paths are pairwise distinct.

Named transient windows (and nothing else):
* between `_trajs[ens] = traj` and `unlock(ens)` (snapshots `setTraj`, `setRow`) the slot is still busy
  and already holds the NEW path (ACC) — `mine` lists it with the new number; `treat_substeps_mine`;
* the record `locked` (what `write_toml` would dump) loses the completing job at its first picked
  ensemble while its slots stay busy until their `unlock`; `write_toml` is only called at the end of
  `treat_output` / `loop()`, where `locked_record_matches_inflight` holds again;
* inside `pick` the new job's slot is locked before the job is on record / in flight: `mine`. -/

open Infretis.Repex.Micro in
/-- exactly the slots of `H` are busy, each with its path in place, live paths distinct -/
def ExactBusy (st : St) (H : List (Nat × Nat)) : Prop :=
  st.locks.length = st.n ∧ st.locks[st.n - 1]? = some true ∧
  (∀ e, e < st.n - 1 → (st.locks[e]? = some true ↔ e ∈ H.map Prod.fst)) ∧
  (H.map Prod.fst).Nodup ∧
  (∀ e pn, (e, pn) ∈ H → e < st.n - 1 ∧ st.trajs[e]? = some (some pn) ∧ entryM st.W e e ≠ 0) ∧
  (∀ a b pn, a < st.n - 1 → b < st.n - 1 →
    st.trajs[a]? = some (some pn) → st.trajs[b]? = some (some pn) → a = b)

theorem exactBusy_of_coreR {st : St} {H : List (Nat × Nat)} {tn : Nat} (h : CoreR st H tn) :
    ExactBusy st H :=
  ⟨h.lenL, h.ghost, h.busy, h.nodup, h.heldOk, h.inj⟩

open Infretis.Repex.Micro

/-- **Every sub-step of `treat_output`, any completion order, fresh start or restart.**  When the
    `k`-th job in flight completes (any `k`, any status, any new weights) in a reachable state and
    `treat_output` does not raise, then at EVERY sub-step snapshot exactly the ensembles of the OTHER
    jobs in flight plus those this job has not released yet (`mine`) are marked busy, each with its
    path in place, and live paths are pairwise distinct. -/
theorem treat_substeps_exact (y0 y : Sys) (evs : List Ev) (h0 : Start y0) (hr : run y0 evs = .ok y)
    (k : Nat) (job : Job) (hj : y.jobs[k]? = some job) (s1 : St) (hloop : loop y.s = (s1, true))
    (status : Status) (newW : List (List Rat)) (s2 : St) (pns : List Nat) (it : Nat)
    (htr : treatOutput s1 job status newW (sortFuel s1) = .ok (s2, pns, it)) :
    ∀ m ∈ treatTrace s1 job status newW (sortFuel s1),
      ExactBusy m.st (m.mine ++ held (y.jobs.eraseIdx k)) := by
  have hc1 := (reach_invR h0 hr).core_completion hj
  rw [hloop] at hc1
  intro m hm
  exact exactBusy_of_coreR (treatTrace_coreR job status newW _ pns it hc1 htr m hm)

/-- **What `mine` is along `treat_output`**: the ensembles of a suffix `picked.drop i` of the job's
    picked list (the first `i` have been released, in order); at the `unlock` and `sort` snapshots with
    the path numbers as handed out (`pn_old`), and during `sort_trajstate` nothing is left. -/
theorem treat_substeps_mine (s s' : St) (job : Job) (status : Status) (newW : List (List Rat))
    (fuel : Nat) (pns : List Nat) (it : Nat)
    (ht : treatOutput s job status newW fuel = .ok (s', pns, it)) :
    ∀ m ∈ treatTrace s job status newW fuel, ∃ i, i ≤ job.picked.length ∧
      m.mine.map Prod.fst = (job.picked.drop i).map slotOf ∧
      ((m.tag = .unlock ∨ m.tag = .sortSwap) →
        m.mine = (job.picked.drop i).map (fun p => (slotOf p, p.pn))) ∧
      (m.tag = .sortSwap → i = job.picked.length) :=
  treatTrace_mine job status newW fuel pns it ht

/-- **The sub-steps compose to `treat_output`**: the last snapshot has the slots, weights and flags
    of the state `treat_output` returns, and the completing job holds nothing any more. -/
theorem treat_substeps_end (y0 y : Sys) (evs : List Ev) (h0 : Start y0) (hr : run y0 evs = .ok y)
    (k : Nat) (job : Job) (hj : y.jobs[k]? = some job) (s1 : St)
    (status : Status) (newW : List (List Rat)) (s2 : St) (pns : List Nat) (it : Nat)
    (htr : treatOutput s1 job status newW (sortFuel s1) = .ok (s2, pns, it)) :
    ∃ m, (treatTrace s1 job status newW (sortFuel s1)).getLast? = some m ∧ m.mine = [] ∧
      m.st.W = s2.W ∧ m.st.trajs = s2.trajs ∧ m.st.locks = s2.locks :=
  treatTrace_last job status newW _ pns it
    ((reach_invR h0 hr).jobs job (List.mem_of_getElem? hj)).ne_nil htr

/-- the sub-steps of the completion of the zero swap in the concrete history -/
def exTreatTr : List Snap :=
  match (exAt 3).jobs[0]? with
  | some job => treatTrace (loop (exAt 3).s).1 job .acc [[1], [1, 1, 0]] (sortFuel (loop (exAt 3).s).1)
  | none => []

/-- `treat_output` succeeds on that completion -/
def exTreatOk : Bool :=
  match (exAt 3).jobs[0]? with
  | some job => (treatOutput (loop (exAt 3).s).1 job .acc [[1], [1, 1, 0]] (sortFuel (loop (exAt 3).s).1)).toBool
  | none => false

example : run exSys (exEvs.take 3) = .ok (exAt 3) ∧ (exAt 3).jobs[0]?.isSome = true
    ∧ (loop (exAt 3).s).2 = true ∧ exTreatOk = true
    ∧ exTreatTr.map (·.tag) = [.setTraj, .setRow, .unlock, .setTraj, .setRow, .unlock]
    ∧ exTreatTr.map (·.st.locks) = [[true, true, true, true], [true, true, true, true], [false, true, true, true],
        [false, true, true, true], [false, true, true, true], [false, false, true, true]]
    ∧ exTreatTr.map (·.st.trajs) = [[some 3, some 1, some 2, none], [some 3, some 1, some 2, none],
        [some 3, some 1, some 2, none], [some 3, some 4, some 2, none], [some 3, some 4, some 2, none],
        [some 3, some 4, some 2, none]]
    ∧ exTreatTr.map (·.mine) = [[(0, 3), (1, 1)], [(0, 3), (1, 1)], [(1, 1)], [(1, 4)], [(1, 4)], []] :=
  ⟨ex_runs 3, by decide +kernel, by decide +kernel, by decide +kernel, by decide +kernel,
    by decide +kernel, by decide +kernel, by decide +kernel⟩

/-- **Every sub-step of the pick part of `prep_md_items` during initiation** (fresh pick or re-issue
    of a recorded job), fresh start or restart: exactly the ensembles of the jobs in flight plus
    those the job under construction has locked so far (`mine`) are busy, paths in place; and the last
    snapshot has the slots / flags of the state `prep_md_items` returns, `mine` being (a permutation
    of) what the returned `md_items` lists. -/
theorem prep_substeps_exact_start (y0 y : Sys) (evs : List Ev) (h0 : Start y0) (hr : run y0 evs = .ok y)
    (s1 : St) (hgo : initiate y.s = (s1, true)) (o : PickOutcome) (saved : Nat) (s2 : St) (job : Job)
    (ds : List Draw) (hprep : prep s1 none o saved = .ok (s2, job, ds)) :
    (∀ m ∈ prepTrace s1 o saved, ExactBusy m.st (m.mine ++ held y.jobs)) ∧
    ∃ m, (prepTrace s1 o saved).getLast? = some m ∧ m.st.W = s2.W ∧ m.st.trajs = s2.trajs ∧
      m.st.locks = s2.locks ∧ m.mine.Perm (job.picked.map (fun p => (slotOf p, p.pn))) := by
  have hc1 := (initiate_invR (reach_invR h0 hr)).core
  simp only [hgo] at hc1
  exact ⟨fun m hm => exactBusy_of_coreR (prepTrace_coreR none o saved job ds hc1 hprep m hm),
    prepTrace_last none o saved job ds hc1 hprep⟩

example : (initiate exSys.s).2 = true
    ∧ (prep (initiate exSys.s).1 none { t := 0, e := 0, coin := true, partner := 1 } 0).toBool = true
    ∧ (prep (initiate exSysR.s).1 none { t := 3, e := 3 } 0).toBool = true
    ∧ (prepTrace (initiate exSys.s).1 { t := 0, e := 0, coin := true, partner := 1 } 0).map (·.tag)
      = [.pickSwap, .pickLock, .zsSwap, .zsLock]
    ∧ (prepTrace (initiate exSys.s).1 { t := 0, e := 0, coin := true, partner := 1 } 0).map (·.st.locks)
      = [[false, false, false, true], [true, false, false, true], [true, false, false, true], [true, true, false, true]]
    ∧ (prepTrace (initiate exSys.s).1 { t := 0, e := 0, coin := true, partner := 1 } 0).map (·.mine)
      = [[], [(0, 0)], [(0, 0)], [(1, 1), (0, 0)]]
    ∧ (prepTrace (initiate exSysR.s).1 { t := 3, e := 3 } 0).map (·.tag) = [.reSwap, .reLock, .reSwap, .reLock]
    ∧ (prepTrace (initiate exSysR.s).1 { t := 3, e := 3 } 0).map (·.st.locks)
      = [[false, false, false, true], [true, false, false, true], [true, false, false, true], [true, true, false, true]]
    ∧ (prepTrace (initiate exSysR.s).1 { t := 3, e := 3 } 0).map (·.mine)
      = [[], [(0, 0)], [(0, 0)], [(1, 1), (0, 0)]] :=
  ⟨by decide +kernel, by decide +kernel, by decide +kernel, by decide +kernel, by decide +kernel,
    by decide +kernel, by decide +kernel, by decide +kernel, by decide +kernel⟩

/-- **One whole `step` event, sub-step by sub-step** (the composed operation of the main loop:
    `loop()`, `treat_output` of the `k`-th job, then — iff `cstep + workers ≤ tsteps` —
    `prep_md_items` for the same worker): every snapshot of `treat_output` and every snapshot of the
    following pick keeps exactly the OTHER jobs' ensembles plus `mine` busy. -/
theorem step_substeps_exact (y0 y y' : Sys) (evs : List Ev) (h0 : Start y0) (hr : run y0 evs = .ok y)
    (k : Nat) (status : Status) (newW : List (List Rat)) (o : PickOutcome)
    (hs : sysStep y (.step k status newW o) = .ok y') :
    ∃ job s1 s2 pns it, y.jobs[k]? = some job ∧ loop y.s = (s1, true) ∧
      treatOutput s1 job status newW (sortFuel s1) = .ok (s2, pns, it) ∧
      (∀ m ∈ treatTrace s1 job status newW (sortFuel s1),
        ExactBusy m.st (m.mine ++ held (y.jobs.eraseIdx k))) ∧
      (s2.cstep + s2.workers ≤ s2.tsteps →
        (∀ m ∈ prepTrace s2 o 0, ExactBusy m.st (m.mine ++ held (y.jobs.eraseIdx k))) ∧
        ∃ job' m, y'.jobs = y.jobs.eraseIdx k ++ [job'] ∧ (prepTrace s2 o 0).getLast? = some m ∧
          m.st.W = y'.s.W ∧ m.st.trajs = y'.s.trajs ∧ m.st.locks = y'.s.locks ∧
          m.mine.Perm (job'.picked.map (fun p => (slotOf p, p.pn)))) := by
  obtain ⟨job, ym, hc, hcase⟩ := Completes.of_step hs
  cases hc with | @mk s2 pns it hgo hjob htreat =>
  have hloop : loop y.s = ((loop y.s).1, true) := Prod.ext rfl hgo
  have hc2 := treatOutput_coreR job status newW _ pns it ((reach_invR h0 hr).core_completion hjob) htreat
  refine ⟨job, _, s2, pns, it, hjob, hloop, htreat,
    treat_substeps_exact y0 y evs h0 hr k job hjob _ hloop status newW s2 pns it htreat, ?_⟩
  intro hre
  rcases hcase with ⟨hno, _⟩ | ⟨_, _, hsub⟩
  · exact absurd hre hno
  · cases hsub with | @mk _ job' ds hprep =>
    refine ⟨fun m hm => exactBusy_of_coreR (prepTrace_coreR _ o 0 job' ds hc2 hprep m hm), job', ?_⟩
    obtain ⟨m, hm, hW, hT, hL, hP⟩ := prepTrace_last _ o 0 job' ds hc2 hprep
    exact ⟨m, rfl, hm, hW, hT, hL, hP⟩

example : run exSys (exEvs.take 3) = .ok (exAt 3)
    ∧ sysStep (exAt 3) (.step 0 .acc [[1], [1, 1, 0]] { t := 0, e := 0, coin := false }) = .ok (exAt 4) := by
  refine ⟨ex_runs 3, ?_⟩
  have h4 := ex_runs 4
  have h3 := ex_runs 3
  have : exEvs.take 4 = exEvs.take 3 ++ [.step 0 .acc [[1], [1, 1, 0]] { t := 0, e := 0, coin := false }] := rfl
  rw [this] at h4
  obtain ⟨y1, hstep, hr2⟩ := run_cons_ok (run_rest h4 h3)
  simp only [run, Except.ok.injEq] at hr2
  rw [hstep, hr2]

/-! ## 10. The engine table comes from `create_engines`

`Infretis.Repex.Factory.createEngines` mirrors `factory.create_engines` (count the occurrences of
every engine name in `ensemble_engines`, dict order; per name `min(count, workers)` instances: one
`-1` in `engine_occ[name]` and one new engine object in `engines[name]` per instance).  Section 6
assumed `EngInit`; here it is DERIVED for the table `create_engines` builds, so engine availability
and exclusivity are statements about the composed boot → prep → assign → complete model. -/

open Infretis.Repex.Factory in
/-- **What `create_engines` returns**: the keys are the engine names written in `ensemble_engines`,
    each once; name `k` gets `min(#occurrences of k, workers)` instances, all free (`-1`);
    `engines[k]` has one object per instance, and all engine objects of all names are pairwise
    distinct (one `create_engine` call each). -/
theorem create_engines_spec (ensEng : List (List Nat)) (workers : Nat) :
    (∀ k, occRow (createEngines ensEng workers) k
        = List.replicate (min (ensEng.flatten.count k) workers) (-1)) ∧
    (createEngines ensEng workers).objs.map List.length
      = (createEngines ensEng workers).occ.map List.length ∧
    ((createEngines ensEng workers).objs.flatten).Nodup ∧
    (createEngines ensEng workers).names = (engineCount ensEng).map Prod.fst ∧
    (∀ k, k ∈ (createEngines ensEng workers).names ↔ k ∈ ensEng.flatten) := by
  have hE : createEngines ensEng workers = _ := createLoop_eq workers (engineCount ensEng) 0
  refine ⟨occRow_createEngines ensEng workers, ?_, createEngines_objs_nodup ensEng workers, by rw [hE], ?_⟩
  · rw [hE]
    simp [engineIds_length, List.map_map, Function.comp_def]
  · intro k
    rw [hE, ← Assoc.lookup_isSome_iff, engineCount_lookup]
    split <;> rename_i h
    · simpa using List.mem_flatten.not.mp (List.count_eq_zero.mp h)
    · simpa using List.mem_flatten.mp (List.count_pos_iff.mp (Nat.pos_of_ne_zero h))

example : Infretis.Repex.Factory.createEngines [[0], [1, 0], [1], [1]] 2
    = { names := [0, 1], objs := [[0, 1], [2, 3]], occ := [[-1, -1], [-1, -1]] } := by decide

open Infretis.Repex.Factory in
/-- **`EngInit` holds for the table `create_engines` builds** (every ensemble lists at least one
    engine — `check_config` — and the type numbers used are below `m`). -/
theorem created_engines_engInit (y : Sys) (m : Nat)
    (hocc : y.s.occ = occTable (createEngines y.s.ensEng y.s.workers) m)
    (hm : ∀ k ∈ y.s.ensEng.flatten, k < m)
    (hne : ∀ e, e < y.s.n - 1 → y.s.ensEng.getD e [] ≠ []) : EngInit y :=
  Factory.engInit_of_createEngines y m hocc hm hne

open Infretis.Repex.Factory in
/-- **Engine availability for the composed boot**: fresh start (`Init`), engine table built by
    `create_engines` from the configured `ensemble_engines` and `workers`: along every
    scheduler-shaped history no `start` event fails in its engine part. -/
theorem engine_always_available_boot_start (y0 y : Sys) (m : Nat) (starts : List Ev) (h0 : Init y0)
    (hocc : y0.s.occ = occTable (createEngines y0.s.ensEng y0.s.workers) m)
    (hm : ∀ k ∈ y0.s.ensEng.flatten, k < m)
    (hne : ∀ e, e < y0.s.n - 1 → y0.s.ensEng.getD e [] ≠ [])
    (hs : ∀ ev ∈ starts, isStart ev = true) (hr : run y0 starts = .ok y)
    (o : PickOutcome) (saved : Nat) (s1 : St) (hgo : initiate y.s = (s1, true))
    (s1' : St) (ps : List Picked) (ds : List Draw) (hpick : pickPart s1 o saved = .ok (s1', ps, ds)) :
    ∃ y', sysStep y (.start o saved) = .ok y' :=
  engine_always_available_start y0 y starts h0 (created_engines_engInit y0 m hocc hm hne) hs hr
    o saved s1 hgo s1' ps ds hpick

open Infretis.Repex.Factory in
/-- … and no `step` event of the main loop fails in its engine part. -/
theorem engine_always_available_boot_step (y0 y : Sys) (m : Nat) (starts steps : List Ev) (h0 : Init y0)
    (hocc : y0.s.occ = occTable (createEngines y0.s.ensEng y0.s.workers) m)
    (hm : ∀ k ∈ y0.s.ensEng.flatten, k < m)
    (hne : ∀ e, e < y0.s.n - 1 → y0.s.ensEng.getD e [] ≠ [])
    (hs : ∀ ev ∈ starts, isStart ev = true) (ht : ∀ ev ∈ steps, isStep ev = true)
    (hr : run y0 (starts ++ .initDone :: steps) = .ok y)
    (k : Nat) (status : Status) (newW : List (List Rat)) (o : PickOutcome) (job : Job)
    (hj : y.jobs[k]? = some job) (s1 : St) (hloop : loop y.s = (s1, true))
    (s2 : St) (pns : List Nat) (it : Nat)
    (htr : treatOutput s1 job status newW (sortFuel s1) = .ok (s2, pns, it))
    (hre : s2.cstep + s2.workers ≤ s2.tsteps) (s3 : St) (ps : List Picked) (ds : List Draw)
    (hpick : pickPart s2 o 0 = .ok (s3, ps, ds)) :
    ∃ y', sysStep y (.step k status newW o) = .ok y' :=
  engine_always_available_step y0 y starts steps h0 (created_engines_engInit y0 m hocc hm hne) hs ht hr
    k status newW o job hj s1 hloop s2 pns it htr hre s3 ps ds hpick

example : exSys2.s.occ
      = Infretis.Repex.Factory.occTable (Infretis.Repex.Factory.createEngines exSys2.s.ensEng exSys2.s.workers) 2
    ∧ (∀ k ∈ exSys2.s.ensEng.flatten, k < 2)
    ∧ (∀ e, e < exSys2.s.n - 1 → exSys2.s.ensEng.getD e [] ≠ []) ∧ Init exSys2 :=
  ⟨by decide +kernel, by decide +kernel, by decide +kernel, ex_init2⟩

open Infretis.Repex.Factory in
/-- **No two jobs in flight run with the same engine OBJECT** (fresh start or restart): `select_shoot`
    resolves the instance `(type, index)` of a picked ensemble to `ENGINES[type][index]`
    (`engineObj`); if the jobs at positions `i1`, `i2` of the in-flight list list instances that
    resolve to one object of the engines `create_engines` built, then `i1 = i2`.  (Composition of
    `engine_instance_exclusive_restart` with: every instance is a separate object.) -/
theorem engine_object_exclusive (y0 y : Sys) (evs : List Ev) (h0 : Start y0) (hr : run y0 evs = .ok y)
    (ensEng : List (List Nat)) (workers : Nat)
    (i1 i2 : Nat) (j1 j2 : Job) (h1 : y.jobs[i1]? = some j1) (h2 : y.jobs[i2]? = some j2)
    (p1 p2 : Picked) (hp1 : p1 ∈ j1.picked) (hp2 : p2 ∈ j2.picked) (ki1 ki2 : Nat × Nat)
    (hk1 : ki1 ∈ p1.engIdx) (hk2 : ki2 ∈ p2.engIdx) (o : Nat)
    (ho1 : engineObj (createEngines ensEng workers) ki1 = some o)
    (ho2 : engineObj (createEngines ensEng workers) ki2 = some o) : i1 = i2 := by
  have hki := engineObj_inj ensEng workers ki1 ki2 o ho1 ho2
  subst hki
  exact engine_instance_exclusive_restart y0 y evs h0 hr i1 i2 j1 j2 h1 h2 p1 p2 hp1 hp2 ki1 hk1 hk2

example : (exAt 5).jobs.map (fun j => j.picked.map (fun p => p.engIdx.map
      (Infretis.Repex.Factory.engineObj (Infretis.Repex.Factory.createEngines [[0], [0], [0]] 2))))
    = [[[some 0]], [[some 1]]] := by decide +kernel

/-! ### engine availability on the concrete restart

A restarted process builds its engine table anew (all cells free) with nothing in flight, and the
recorded jobs are re-issued by `pick_lock` through the very same `prep_md_items` → `assign_engines`:
the hypotheses of `engine_always_available_*_restart` (section 6) hold on the restart of section 7. -/

theorem ex_engInitR : EngInit exSysR :=
  Factory.engInit_of_createEngines exSysR 1 (by decide +kernel) (by decide +kernel) (by decide +kernel)

example : Start exSysR ∧ exSysR.jobs = [] ∧ EngInit exSysR
    ∧ run exSysR (exEvsR.take 1) = .ok (exRAt 1) ∧ (initiate (exRAt 1).s).2 = true
    ∧ (pickPart (initiate (exRAt 1).s).1 { t := 2, e := 2 } 0).toBool = true
    ∧ exEvsR = exEvsR.take 2 ++ .initDone :: exEvsR.drop 3 ∧ (run exSysR exEvsR).toBool = true :=
  ⟨Or.inr ex_initR, rfl, ex_engInitR, ex_runsR 1, by decide +kernel, by decide +kernel, rfl,
    by decide +kernel⟩

/-! ## 11. The branch structure of `pick()` around the zero swap

`pickCore` mirrors `pick()` + `pick_traj_ens()`.  Which draws it requests and when it takes the
zero-swap branch, read off the definition (no invariant needed).  Neither `tis_set.quantis` nor
`tis_set.lambda_minus_one` is read by `pick` / `pick_traj_ens` / `pick_lock`: they change what
`select_shoot` does with a two-ensemble job, not which job is picked. -/

/-- **The coin is drawn exactly when the picked ensemble is `[0-]` or `[0+]` and the OTHER of the two
    is idle (after the picked one was locked); a zero swap starts exactly when the coin is drawn and
    falls below `zeroswap`; only then a partner is drawn.**  Slot 0 = `[0-]`, slot 1 = `[0+]`. -/
theorem zero_swap_branch (s s' : St) (o : PickOutcome) (pairs : List (Int × Option Nat)) (ds : List Draw)
    (hl : 2 ≤ s.locks.length) (hp : pickCore s o = .ok (s', pairs, ds)) :
    let coinDrawn := (o.e = 1 ∧ s.locks[0]? = some false) ∨ (o.e = 0 ∧ s.locks[1]? = some false)
    (coinDrawn ↔ 2 ≤ ds.length) ∧
    (pairs.length = 2 ↔ coinDrawn ∧ o.coin = true) ∧
    (pairs.length = 2 ↔ ds.length = 3) ∧
    (pairs.length = 1 ∨ pairs.length = 2) ∧ 1 ≤ ds.length ∧ ds.length ≤ 3 := by
  intro coinDrawn
  obtain ⟨_, s2, hlk, hcase⟩ := pickCore_parts hp
  have hcond : zsPossible s2.locks o.e = true ↔ coinDrawn := by
    rw [(lock_ok hlk).2]
    exact zsPossible_set s.locks o.e
  rcases hcase with ⟨hzs, hcoin, _, s4, _, _, hpairs, hds⟩ | ⟨hzs, _, hpairs, hds⟩
  · have hcd := hcond.mp hzs
    have hp2 : pairs.length = 2 := by rw [hpairs]; split <;> rfl
    replace hds : ds.length = 3 := by rw [hds]; rfl
    exact ⟨⟨fun _ => by omega, fun _ => hcd⟩, ⟨fun _ => ⟨hcd, hcoin⟩, fun _ => hp2⟩,
      ⟨fun _ => hds, fun _ => hp2⟩, Or.inr hp2, by omega, by omega⟩
  · have hp1 : pairs.length = 1 := by rw [hpairs]; rfl
    by_cases hz : zsPossible s2.locks o.e = true
    · replace hds : ds.length = 2 := by rw [hds, if_pos hz]; rfl
      have hcf : ¬ o.coin = true := by rw [hz] at hzs; simpa using hzs
      exact ⟨⟨fun _ => by omega, fun _ => hcond.mp hz⟩, ⟨fun h => by omega, fun h => absurd h.2 hcf⟩,
        ⟨fun h => by omega, fun h => by omega⟩, Or.inl hp1, by omega, by omega⟩
    · replace hds : ds.length = 1 := by rw [hds, if_neg hz]; rfl
      have hncd : ¬ coinDrawn := fun h => hz (hcond.mpr h)
      exact ⟨⟨fun h => absurd h hncd, fun h => by omega⟩, ⟨fun h => by omega, fun h => absurd h.1 hncd⟩,
        ⟨fun h => by omega, fun h => by omega⟩, Or.inl hp1, by omega, by omega⟩

example : 2 ≤ exS0.locks.length
    ∧ (pickCore exS0 { t := 0, e := 0, coin := true, partner := 1 }).toOption.map
        (fun r => (r.2.1.length, r.2.2.length)) = some (2, 3)
    ∧ (pickCore exS0 { t := 0, e := 0, coin := false, partner := 1 }).toOption.map
        (fun r => (r.2.1.length, r.2.2.length)) = some (1, 2)
    ∧ (pickCore exS0 { t := 2, e := 2, coin := true, partner := 1 }).toOption.map
        (fun r => (r.2.1.length, r.2.2.length)) = some (1, 1) := by decide +kernel

/-! ## 12. Submitted references, received values: the hand-over of work units to the workers

`runner.submit_work(md_items)` queues a REFERENCE (`aiorunner.submit_work`: `queue.put` + `sleep(0.05)`), the unit is
pickled when a worker takes it — possibly after later `prep_md_items` calls, which work IN PLACE.  Model:
`Model/RepexSubmit.lean` (heap of `md_items` objects, queue of references, `take` reads the object at take time). -/

section Submit
open Infretis.Repex.Submit

/-- **Generic hand-over theorem.**  From any coherent state, under ANY sequence of operations (new objects,
    `prep_md_items` begins / ends in place, submissions, worker takes, in any order) in which `prep_md_items` is never
    run on an object whose reference is still queued: every unit a worker takes equals the unit that was submitted,
    and every reference still queued points at an unchanged object. -/
theorem take_eq_submitted (q q' : Q) (ops : List Op) (hc : Coherent q) (hf : FreshRun q ops)
    (hr : Submit.run q ops = .ok q') :
    (∀ r ∈ q'.recv, r.got = r.sub) ∧ (∀ e ∈ q'.queue, q'.heap[e.addr]? = some e.sub) := by
  have := run_coherent ops hc hf hr
  exact ⟨this.2, this.1⟩

def exP1 : Picked := { ens := -1, pn := 0, rgen := ⟨0, [0, 0]⟩, rgenEng := ⟨0, [0, 0, 0]⟩, engIdx := [(0, 0)] }
def exP2 : Picked := { ens := 1, pn := 2, rgen := ⟨0, [1, 0]⟩, rgenEng := ⟨0, [1, 0, 0]⟩, engIdx := [(0, 1)] }
def exJ1 : Job := { pin := 0, wfolder := 0, picked := [exP1], pnumOld := [0] }
def exJ2 : Job := { pin := 1, wfolder := 1, picked := [exP2], pnumOld := [2] }

/-- the hypotheses hold on a run in which job 1 is taken while `prep_md_items` of job 2 is working on its own object -/
example : Coherent {} ∧ FreshRun {} [.alloc, .prepBegin 0, .prepEnd 0 exJ1, .submit 0, .alloc, .prepBegin 1, .take,
      .prepEnd 1 exJ2, .submit 1, .take] ∧
    (Submit.run {} [.alloc, .prepBegin 0, .prepEnd 0 exJ1, .submit 0, .alloc, .prepBegin 1, .take,
      .prepEnd 1 exJ2, .submit 1, .take]).toBool = true :=
  ⟨coherent_empty, freshRunB_sound _ _ (by decide +kernel), by decide +kernel⟩

/-- **A new object per job (the code as it is): whatever happens in between, the unit a worker takes is the unit
    submitted.**  For every list of submissions, each on a fresh copy, and EVERY interleaving with worker takes (`k0…k3`
    takes after the copy, inside `prep_md_items`, before and after `submit_work` of every submission): if the run is
    possible at all (no take from an empty queue), every taken unit was received as submitted, and taken + queued
    units are exactly the submitted jobs, in submission order. -/
theorem fresh_copy_take_eq_submitted (slots : List Slot) (q' : Q)
    (hr : Submit.run {} (freshProg 0 slots) = .ok q') :
    (∀ r ∈ q'.recv, r.got = r.sub) ∧
      q'.recv.map (·.sub) ++ q'.queue.map (·.sub) = slots.map (fun b => some b.job) := by
  have h := freshProg_spec slots (q := {}) coherent_empty hr
  refine ⟨h.1.2, ?_⟩
  have := h.2
  simpa [submittedVals] using this

/-- job 1 is taken while `prep_md_items` of job 2 is running on ITS OWN copy, job 2 after its submission -/
example : Submit.run {} (freshProg 0 [{ job := exJ1 }, { job := exJ2, k1 := 1, k3 := 1 }])
      = .ok { heap := [some exJ1, some exJ2], queue := [],
              recv := [⟨0, some exJ1, some exJ1⟩, ⟨1, some exJ2, some exJ2⟩] } := by decide +kernel

/-- **Counterexample for a shared template**: ONE object handed to `prep_md_items` for both initial jobs, both
    references queued, then two workers take: both receive job 2 (same pin, folder, ensemble, path, engine
    instance), nobody runs job 1 — although two DIFFERENT jobs were submitted. -/
theorem shared_template_counterexample :
    ∃ q', Submit.run {} (.alloc :: sharedProg 0 [{ job := exJ1 }, { job := exJ2, k3 := 2 }]) = .ok q' ∧
      q'.recv.map (·.sub) = [some exJ1, some exJ2] ∧ q'.recv.map (·.got) = [some exJ2, some exJ2] ∧ exJ1 ≠ exJ2 ∧
      ¬ ((q'.recv.filterMap (·.got)).map (·.pin)).Nodup :=
  ⟨{ heap := [some exJ2], queue := [], recv := [⟨0, some exJ1, some exJ2⟩, ⟨0, some exJ2, some exJ2⟩] },
    by decide +kernel, by decide +kernel, by decide +kernel, by decide +kernel, by decide +kernel⟩

/-- … and a worker that takes the first unit while `prep_md_items` of the second job is running on the same object
    receives a dict without `picked` (`none`): the `KeyError: 'picked'` inside the worker. -/
theorem shared_template_half_filled_counterexample :
    ∃ q', Submit.run {} (.alloc :: sharedProg 0 [{ job := exJ1 }, { job := exJ2, k1 := 1 }]) = .ok q' ∧
      q'.recv = [⟨0, some exJ1, none⟩] :=
  ⟨{ heap := [some exJ2], queue := [⟨0, some exJ2⟩], recv := [⟨0, some exJ1, none⟩] }, by decide +kernel, rfl⟩

/-- the shared program violates exactly the hypothesis of `take_eq_submitted` -/
example : ¬ FreshRun {} (.alloc :: sharedProg 0 [{ job := exJ1 }, { job := exJ2, k3 := 2 }]) := by
  intro h
  -- alloc, prepBegin 0, prepEnd 0 j1, submit 0, then prepBegin 0 with reference 0 in the queue
  have h1 := h.2 _ rfl
  have h2 := h1.2 _ rfl
  have h3 := h2.2 _ rfl
  have h4 := h3.2 _ rfl
  exact h4.1 ⟨0, some exJ1⟩ (by decide) rfl

/-- **The scheduler with a reference-queueing runner, as the code is** (`lazyStep false`: a new object per submission,
    `scheduler()`'s events interleaved with worker takes in any order, only taken units can complete).  From a fresh
    start or a restart, at every instant: the scheduler's part is the scheduler model of sections 1–11 run on the
    scheduler events alone; the values the running workers RECEIVED followed by the values still queued are exactly
    the model's jobs in flight; and every take so far delivered the unit as submitted. -/
theorem workers_receive_jobs_in_flight (y0 : Sys) (evs : List LEv) (L : LSys) (h0 : Start y0)
    (hr : lazyRun false { y := y0 } evs = .ok L) :
    run y0 (schedEvs evs) = .ok L.y ∧ L.got ++ L.q.queue.map (·.sub) = L.y.jobs.map some ∧
      (∀ r ∈ L.q.recv, r.got = r.sub) := by
  have hi := lazyRun_fresh_inv evs (linv_start y0 h0.jobs) hr
  exact ⟨lazyRun_proj evs hr, hi.2, hi.1.2⟩

/-- **What the workers hold is never shared.**  Same quantifier: the units the running workers received are complete
    jobs `js` (a prefix of the jobs in flight), with pairwise distinct pins and work folders (`worker<pin>`), pairwise
    disjoint ensembles and paths, and no engine instance listed by two of them. -/
theorem received_units_exclusive (y0 : Sys) (evs : List LEv) (L : LSys) (h0 : Start y0)
    (hr : lazyRun false { y := y0 } evs = .ok L) :
    ∃ js : List Job, L.got = js.map some ∧ List.IsPrefix js L.y.jobs ∧
      (js.map (·.pin)).Nodup ∧ (js.map (·.wfolder)).Nodup ∧ (∀ j ∈ js, j.wfolder = j.pin) ∧
      ((inflight js).map (·.ens)).Nodup ∧ ((inflight js).map (·.pn)).Nodup ∧
      (∀ (i1 i2 : Nat) (j1 j2 : Job), js[i1]? = some j1 → js[i2]? = some j2 →
        ∀ p1 ∈ j1.picked, ∀ p2 ∈ j2.picked, ∀ ki, ki ∈ p1.engIdx → ki ∈ p2.engIdx → i1 = i2) := by
  have hi := lazyRun_fresh_inv evs (linv_start y0 h0.jobs) hr
  have hrun := lazyRun_proj evs hr
  simp only at hrun
  have hsub : List.Sublist (L.y.jobs.take L.got.length) L.y.jobs := List.take_sublist _ _
  have hinf : inflight L.y.jobs = inflight (L.y.jobs.take L.got.length) ++ inflight (L.y.jobs.drop L.got.length) := by
    simp only [inflight]
    rw [← List.flatMap_append, List.take_append_drop]
  refine ⟨L.y.jobs.take L.got.length, got_prefix hi, List.take_prefix _ _, ?_, ?_, ?_, ?_, ?_, ?_⟩
  · exact (hsub.map _).nodup (pins_distinct_restart y0 L.y _ h0 hrun)
  · exact (hsub.map _).nodup (wfolder_exclusive_restart y0 L.y _ h0 hrun).2
  · intro j hjm
    exact (wfolder_exclusive_restart y0 L.y _ h0 hrun).1 j (hsub.subset hjm)
  · have := inflight_ens_disjoint_restart y0 L.y _ h0 hrun
    rw [hinf, List.map_append] at this
    exact (List.nodup_append.mp this).1
  · have := inflight_paths_disjoint_restart y0 L.y _ h0 hrun
    rw [hinf, List.map_append] at this
    exact (List.nodup_append.mp this).1
  · intro i1 i2 j1 j2 h1 h2 p1 hp1 p2 hp2 ki hk1 hk2
    have hl1 := getElem?_lt_of_some h1
    have hl2 := getElem?_lt_of_some h2
    rw [List.length_take] at hl1 hl2
    rw [List.getElem?_take_of_lt (by omega)] at h1 h2
    exact engine_instance_exclusive_restart y0 L.y _ h0 hrun i1 i2 j1 j2 h1 h2 p1 p2 hp1 hp2 ki hk1 hk2

/-- the concrete history (`exEvs`) with lazy takes: worker 0's zero swap is taken only after worker 1's job was
    prepared and submitted — both workers still receive their own jobs -/
def exLazy : List LEv :=
  [ .sched (.start { t := 0, e := 0, coin := true, partner := 1 }),
    .sched (.start { t := 2, e := 2 }), .take, .take, .sched .initDone ]

def exLazyEnd : LSys :=
  { y := exAt 3,
    q := { heap := (exAt 3).jobs.map some,
           queue := [],
           recv := [⟨0, (exAt 3).jobs[0]?, (exAt 3).jobs[0]?⟩, ⟨1, (exAt 3).jobs[1]?, (exAt 3).jobs[1]?⟩] },
    got := (exAt 3).jobs.map some }

example : Start exSys ∧ lazyRun false { y := exSys } exLazy = .ok exLazyEnd ∧ exLazyEnd.got = (exAt 3).jobs.map some ∧
    exLazyEnd.got.length = 2 ∧ exLazyEnd.q.queue = [] :=
  ⟨Or.inl ex_init, by decide +kernel, rfl, by decide +kernel, rfl⟩

def exSharedEnd : LSys :=
  { y := exAt 3,
    q := { heap := [(exAt 3).jobs[1]?],
           queue := [],
           recv := [⟨0, (exAt 3).jobs[0]?, (exAt 3).jobs[1]?⟩, ⟨0, (exAt 3).jobs[1]?, (exAt 3).jobs[1]?⟩] },
    got := [(exAt 3).jobs[1]?, (exAt 3).jobs[1]?] }

/-- **Counterexample, composed with the scheduler model**: the initiation loop hands the template object itself to
    `prep_md_items` (`lazyStep true`).  Same history, same takes: the scheduler's own books are those of the correct
    run (two jobs in flight with pins 0 and 1, `[0-]`,`[0+]` and `[1+]` busy), but BOTH workers received the job of
    worker 1. -/
theorem shared_template_scheduler_counterexample :
    ∃ L, lazyRun true { y := exSys } exLazy = .ok L ∧ L.y = exAt 3 ∧
      L.y.jobs.map (·.pin) = [0, 1] ∧ (L.got.filterMap id).map (·.pin) = [1, 1] ∧
      (L.got.filterMap id).map (fun j => j.picked.map (·.ens)) = [[1], [1]] ∧
      L.q.recv.map (fun r => decide (r.got = r.sub)) = [false, true] :=
  ⟨exSharedEnd, by decide +kernel, rfl, by decide +kernel, by decide +kernel, by decide +kernel, by decide +kernel⟩

end Submit

end Infretis.C03
