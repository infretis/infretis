import Infretis.Lemmas.Vel
import Infretis.Lemmas.VelRoute
import Infretis.Lemmas.VelProj
import Infretis.Lemmas.VelFlow
import Infretis.Lemmas.VelExtra
/-!
# C16 — velocity regeneration changes only velocities, at the right temperature

Model: `Infretis/Model/Vel.lean` (mirrors `draw_maxwellian_velocities`, `kinetic_energy`, `reset_momentum`, the five
`modify_velocities`, `prepare_shooting_point`, `System.copy`), `Model/VelRoute.lean` (which settings dict reaches
the engine on every route of a move), `Model/VelFlow.lean` (each engine's own file flow) and `Model/VelExtra.lean`
(LAMMPS `get_atom_masses`, TurtleMD `dim`, numpy's shape decision and the missing-`rgen` branches).
`sqrt` and the Gaussian stay outside the model: `sig` are the square roots numpy delivered
(hypothesis `sigᵢ² = σᵢ²` where needed), `z` the standard normals.

Findings.  Each is a `Variant` switch of the model: `asIs` mirrors the code without the fix and keeps its
counterexample here as the record, `repaired` mirrors the code with it.
* `C16:ase:kin-before-stationary` — `kin_new` was taken before `Stationary`; `C16:ase:global-rng` — the draw used
  numpy's global state, not the engine's `rgen`.  Both established on the real ASE engine and repaired in /repo by
  1dd0318: `codeVariant = .repaired`, and the headline theorems `dek_consistent_all`, `kinNew_consistent_all`,
  `request_on_engine_stream_all` hold for all five engines with `codeVariant`.  `dek_consistent_ase_partial` and
  `request_on_engine_stream_partial` state the guard under which the code before the fix was right, next to
  their `_counterexample`s; `codeVariant` discharges that guard in the unguarded `_all` statements.
* `C16:lammps:masses-section-not-sorted` — repaired in /repo by 76f2ebe (§12).
* `C16:turtlemd:dim-lt-3:kinetic-energy-counts-unused-components` — OPEN: `codeVariantDim = .asIs`, with the
  `_counterexample` and the repaired-variant theorem (§13).

Domain of §§2–7.  They speak about `modifyVelocities`, the shape-consistent core.  The real `modify_velocities` is
`modifyVelocitiesS` (§14), which is the core exactly on "as many masses as atoms in the frame, `engine.rgen` set":
`modifyVelocitiesS_consistent`, `headlines_shape_guarded`.
Scope of the ASE statements (`modify_zero_momentum`, `ase_vel_eq`, …): frames WITHOUT constraints.  ase applies the
constraints stored in the frame inside `set_momenta` (called by MaxwellBoltzmannDistribution and Stationary): with
`FixAtoms` the fixed atoms are written with velocity 0 — they are not degrees of freedom — and the total momentum is
not reset to 0.  The model has no constraint field; the tie books such frames as an observed class, not an alarm.
-/
namespace Infretis.C16
open Infretis.Vel

/-! ## 1. σᵢ²·mᵢ = k_B·T in every engine's own unit system -/

/-- **Variance (all numpy-drawing engines).** With the engine's own `beta` and masses, the
    square of the scale passed to `rgen.normal` times the mass is `kb·T`, particle by particle.
    GROMACS: (nm/ps)²·g/mol = kJ/mol; CP2K: a.u. velocity²·mₑ = Hartree; LAMMPS: kcal/mol before
    the division by `scale`; TurtleMD: reduced units with the user's `boltzmann`. -/
theorem sigma_sq_mass_eq_kT (s : Setup) (hT : s.temperature * kbBeta s ≠ 0)
    (hm : ∀ m ∈ mass s, m ≠ 0) :
    mulCol (sigmaSq (beta s) (mass s)) (mass s)
      = (mass s).map (fun _ => kbBeta s * s.temperature) := by
  rw [mulCol_sigmaSq _ _ hm, one_div_beta s hT]

example : (300 : Rat) * kbBeta { engine := .cp2k, temperature := 300, boltzmann := 1, massIn := [1, 16] } ≠ 0
    ∧ ∀ m ∈ mass { engine := .cp2k, temperature := 300, boltzmann := 1, massIn := [1, 16] }, m ≠ 0 := by
  decide +kernel

/-- the per-engine constants behind `sigma_sq_mass_eq_kT` -/
theorem kbBeta_per_engine (T b : Rat) (ms tb : List Rat) :
    kbBeta ⟨.gromacs, T, b, ms, tb⟩ = 83144621 / 10000000000
    ∧ kbBeta ⟨.cp2k, T, b, ms, tb⟩ = 316681534 / 100000000000000
    ∧ kbBeta ⟨.lammps, T, b, ms, tb⟩ = 1987204259 / 1000000000000
    ∧ kbBeta ⟨.turtlemd, T, b, ms, tb⟩ = b := ⟨rfl, rfl, rfl, rfl⟩

/-- **ASE.** momenta = `sP·z` with `sP² = m·(units.kB·T)`; velocity = momentum / m, so the
    velocity scale `sP/m` squared times the mass is `units.kB·T` (eV; ASE's units make
    amu·(Å/t)² = eV exactly). -/
theorem ase_velocity_scale_sq_mass (T m sP : Rat) (hm : m ≠ 0) (hs : sP * sP = m * (kbAseUnits * T)) :
    (sP / m) * (sP / m) * m = kbAseUnits * T := by
  simpa using scaled_sq_mul_mass (kbAseUnits * T) m sP 1 hm hs

example : ((2 : Rat) / 4) * (2 / 4) * 4 = 1 ∧ (2 : Rat) * 2 = 4 * 1 := by decide +kernel

/-! ### exact SI / CODATA rationals

* `kSI`  Boltzmann constant 1.380649e-23 J/K — exact (SI 2019, BIPM brochure 9th ed.)
* `nA`   Avogadro constant 6.02214076e23 /mol — exact (SI 2019)
* `eSI`  elementary charge 1.602176634e-19 C — exact (SI 2019)
* thermochemical calorie 4.184 J — exact by definition
* `hartreeJ` Hartree energy 4.3597447222071e-18 J — CODATA 2018 recommended value
* `meInU`    electron mass 5.48579909065e-4 u — CODATA 2018 recommended value
-/
def kSI : Rat := 1380649 / 10 ^ 29
def nA : Rat := 602214076 * 10 ^ 15
def eSI : Rat := 1602176634 / 10 ^ 28
def hartreeJ : Rat := 43597447222071 / 10 ^ 31
def meInU : Rat := 548579909065 / 10 ^ 15

/-- GROMACS: ⟨m v²⟩ in J/mol over R·T.  1 g/mol·(nm/ps)² = 10⁻³·(10⁻⁹)²/(10⁻¹²)² J/mol. -/
def ratioGromacs : Rat := kbGromacs * ((1 / 10 ^ 3) * (1 / 10 ^ 9) ^ 2 / (1 / 10 ^ 12) ^ 2) / (kSI * nA)
/-- LAMMPS real: v = σ·z/scale [Å/fs]; 1 g/mol·(Å/fs)² = 10⁻³·(10⁻¹⁰)²/(10⁻¹⁵)² J/mol. -/
def ratioLammps : Rat :=
  kbLammps / lammpsScale ^ 2 * ((1 / 10 ^ 3) * (1 / 10 ^ 10) ^ 2 / (1 / 10 ^ 15) ^ 2) / (kSI * nA)
/-- CP2K: code mass = factor·m[u]; true mass = m[u]/meInU electron masses; mₑ·(a.u. velocity)² = E_h. -/
def ratioCp2k : Rat := kbCp2k * hartreeJ / (meInU * cp2kMassFactor) / kSI
/-- ASE: eV → J -/
def ratioAse : Rat := kbAseUnits * eSI / kSI

/-- **GROMACS in SI.** variance·mass converted to J/mol equals `ratioGromacs · R·T`. -/
theorem gromacs_mv2_SI (T m : Rat) (hT : T ≠ 0) (hm : m ≠ 0) :
    (1 / (1 / (T * kbGromacs))) * (1 / m) * m * ((1 / 10 ^ 3) * (1 / 10 ^ 9) ^ 2 / (1 / 10 ^ 12) ^ 2)
      = ratioGromacs * (kSI * nA * T) := by
  -- `hT` is the domain of `beta`; the algebra does not need it (`1/(1/x) = x` also at 0)
  have _ := hT
  rw [variance_mul_mass _ _ _ hm, ratioGromacs]
  exact mv2_SI _ _ _ _ (by decide +kernel)

theorem gromacs_ratio_bound :
    -(6232 / 10 ^ 11 : Rat) ≤ ratioGromacs - 1 ∧ ratioGromacs - 1 ≤ -(6231 / 10 ^ 11) := by
  decide +kernel

/-- **GROMACS.** |⟨m v²⟩/(k_B T) − 1| ≤ 6.232·10⁻⁸ (the code's R is the CODATA-2010 value). -/
theorem gromacs_sigma_sq_mass_eq_kT : |ratioGromacs - 1| ≤ 6232 / 10 ^ 11 :=
  abs_le.mpr ⟨gromacs_ratio_bound.1, gromacs_ratio_bound.2.trans (by decide +kernel)⟩

/-- **LAMMPS (real units) in SI.** The written velocity is σ·z/scale, its variance σ²/scale². -/
theorem lammps_mv2_SI (T m : Rat) (hT : T ≠ 0) (hm : m ≠ 0) :
    (1 / (1 / (T * kbLammps))) * (1 / m) / lammpsScale ^ 2 * m
        * ((1 / 10 ^ 3) * (1 / 10 ^ 10) ^ 2 / (1 / 10 ^ 15) ^ 2)
      = ratioLammps * (kSI * nA * T) := by
  have _ := hT
  -- the engine's constant is `kb / scale²`
  rw [div_mul_eq_mul_div, variance_mul_mass _ _ _ hm, ratioLammps, mul_div_right_comm]
  exact mv2_SI _ _ _ _ (by decide +kernel)

theorem lammps_ratio_bound :
    (18074 / 10 ^ 14 : Rat) ≤ ratioLammps - 1 ∧ ratioLammps - 1 ≤ 18075 / 10 ^ 14 := by
  decide +kernel

/-- **LAMMPS.** |⟨m v²⟩/(k_B T) − 1| ≤ 1.8075·10⁻¹⁰. -/
theorem lammps_sigma_sq_mass_eq_kT : |ratioLammps - 1| ≤ 18075 / 10 ^ 14 :=
  abs_le.mpr ⟨le_trans (by decide +kernel) lammps_ratio_bound.1, lammps_ratio_bound.2⟩

/-- the LAMMPS scale constant squared is 10⁷/4184 (kcal/g ↔ Å²/fs²) to 4·10⁻¹⁶ relative -/
theorem lammps_scale_sq :
    |lammpsScale ^ 2 / (10 ^ 7 / 4184) - 1| ≤ 4 / 10 ^ 16 := by
  decide +kernel

/-- **CP2K in SI.** `mu` = mass in u; code mass = `cp2kMassFactor·mu`; ⟨m v²⟩ in J. -/
theorem cp2k_mv2_SI (T mu : Rat) (hT : T ≠ 0) (hm : mu ≠ 0) :
    (1 / (1 / (T * kbCp2k))) * (1 / (cp2kMassFactor * mu)) * (mu / meInU) * hartreeJ
      = ratioCp2k * (kSI * T) := by
  have _ := hT
  -- variance times the true mass `mu/meInU`: the engine's constant is `kb / (meInU·factor)`
  have h : (1 / (1 / (T * kbCp2k))) * (1 / (cp2kMassFactor * mu)) * (mu / meInU)
      = kbCp2k / (meInU * cp2kMassFactor) * T := by
    rw [one_div_one_div]
    field_simp
  rw [h, ratioCp2k, mv2_SI (kbCp2k / (meInU * cp2kMassFactor)) T hartreeJ kSI (by decide +kernel)]
  ring

theorem cp2k_ratio_bound :
    (11927 / 10 ^ 10 : Rat) ≤ ratioCp2k - 1 ∧ ratioCp2k - 1 ≤ 11928 / 10 ^ 10 := by
  decide +kernel

/-- **CP2K.** |⟨m v²⟩/(k_B T) − 1| ≤ 1.1928·10⁻⁶: the code's `kb = 3.16681534e-6` Hartree/K is
    1.19·10⁻⁶ above k_B/E_h = 3.1668115635·10⁻⁶; the mass factor contributes 2.24·10⁻¹⁰. -/
theorem cp2k_sigma_sq_mass_eq_kT : |ratioCp2k - 1| ≤ 11928 / 10 ^ 10 :=
  abs_le.mpr ⟨le_trans (by decide +kernel) cp2k_ratio_bound.1, cp2k_ratio_bound.2⟩

theorem cp2k_massfactor_bound : |1 / meInU / cp2kMassFactor - 1| ≤ 224 / 10 ^ 12 := by
  decide +kernel

/-- **ASE in SI.** -/
theorem ase_mv2_SI (T : Rat) : kbAseUnits * T * eSI = ratioAse * (kSI * T) :=
  mv2_SI _ _ _ _ (by decide +kernel)

theorem ase_ratio_bound :
    -(33943 / 10 ^ 11 : Rat) ≤ ratioAse - 1 ∧ ratioAse - 1 ≤ -(33942 / 10 ^ 11) := by
  decide +kernel

/-- **ASE.** |⟨m v²⟩/(k_B T) − 1| ≤ 3.3943·10⁻⁷ (ase.units defaults to CODATA 2014). -/
theorem ase_sigma_sq_mass_eq_kT : |ratioAse - 1| ≤ 33943 / 10 ^ 11 :=
  abs_le.mpr ⟨ase_ratio_bound.1, ase_ratio_bound.2.trans (by decide +kernel)⟩

/-- **TurtleMD.** reduced units: σ²·m = boltzmann·T exactly, whatever `boltzmann` the user gives. -/
theorem turtlemd_sigma_sq_mass_eq_kT (T b m : Rat) (hT : T * b ≠ 0) (hm : m ≠ 0) :
    mulCol (sigmaSq (beta ⟨.turtlemd, T, b, [m], []⟩) [m]) [m] = [b * T] := by
  have := sigma_sq_mass_eq_kT ⟨.turtlemd, T, b, [m], []⟩ hT (by simpa [mass] using hm)
  simpa [mass, kbBeta] using this

example : (300 : Rat) * (83144621 / 10000000000) ≠ 0 ∧ (1008 / 1000 : Rat) ≠ 0 := by decide +kernel

/-! ## 2. the velocities are σ·z after the stated transformations -/

/-- without momentum reset: written velocity column j is `sigᵢ·zᵢⱼ` (LAMMPS: divided by `scale`) -/
theorem vel_eq_sigma_z (s : Setup) (src : Frame) (e : Option Rat) (sig : List Rat)
    (z : List (List Rat)) (hz : zeroMomentumFlag s.engine zm = false) (hne : s.engine ≠ .ase) :
    (modifyVelocities vk vr s src e zm sig z).frame.vel =
      if s.engine = .lammps then (drawVel sig z).map (fun col => col.map (fun v => v / lammpsScale))
      else drawVel sig z := by
  rw [modifyVelocities_vel, hz, engineDraw, if_neg hne]
  rfl

example : zeroMomentumFlag Engine.lammps none = false ∧ Engine.lammps ≠ Engine.ase := by decide +kernel

/-! ## 2b. which setting decides: the entry if present, else the engine's OWN default -/

/-- **Effective flag.** `zero_momentum` in effect = the entry of the settings that were handed in when
    present, otherwise the engine's own default — `True` for CP2K and `False` for GROMACS (infretis_genvel),
    LAMMPS, ASE and TurtleMD; no engine's default is visible to another engine. -/
theorem zero_momentum_flag_rule (e : Engine) (zm : Option Bool) :
    zeroMomentumFlag e zm = (match zm with | some b => b | none => engineDefaultZeroMomentum e)
    ∧ (engineDefaultZeroMomentum e = true ↔ e = .cp2k) := by
  cases e <;> cases zm <;> simp [zeroMomentumFlag, engineDefaultZeroMomentum]

/-- the result depends on the settings only through that flag -/
theorem modify_depends_on_flag_only (vk vr : Variant) (s : Setup) (src : Frame) (e : Option Rat)
    (zm zm' : Option Bool) (sig : List Rat) (z : List (List Rat))
    (h : zeroMomentumFlag s.engine zm = zeroMomentumFlag s.engine zm') :
    modifyVelocities vk vr s src e zm sig z = modifyVelocities vk vr s src e zm' sig z := by
  unfold modifyVelocities
  split
  · rename_i hs
    rw [hs] at h
    simp only [modifyAse, h]
  · simp only [modifyNumpy, h]

example : zeroMomentumFlag .turtlemd none = false ∧ zeroMomentumFlag .cp2k none = true
    ∧ zeroMomentumFlag .turtlemd none = zeroMomentumFlag .turtlemd (some false) := by decide +kernel

/-! ## 3. zero total momentum -/

/-- **Zero momentum.** After `reset_momentum`, Σᵢ mᵢ vᵢⱼ = 0 in every Cartesian component j, for
    any positive masses and any velocities of matching shape. -/
theorem zero_momentum_exact (ms : List Rat) (hne : ms ≠ []) (hpos : ∀ m ∈ ms, 0 < m)
    (vel : List (List Rat)) (hshape : ∀ col ∈ vel, col.length = ms.length) :
    momentum ms (resetMomentum ms vel) = vel.map (fun _ => 0) :=
  momentum_resetMomentum ms (ne_of_gt (sumL_pos ms hne hpos)) vel hshape

example : momentum [1, 3] (resetMomentum [1, 3] [[2, -1], [0, 4]]) = [0, 0] := by
  decide +kernel

theorem momentum_reset_eq_zeros (ms : List Rat) (hne : ms ≠ []) (hpos : ∀ m ∈ ms, 0 < m)
    (vel : List (List Rat)) (hshape : ∀ col ∈ vel, col.length = ms.length) :
    momentum ms (resetMomentum ms vel) = (resetMomentum ms vel).map (fun _ => 0) := by
  rw [zero_momentum_exact ms hne hpos vel hshape]
  simp [resetMomentum, Function.comp_def]

/-- the written frame of every engine has zero total momentum (one 0 per Cartesian component)
    when the flag is on -/
theorem modify_zero_momentum (vk vr : Variant) (s : Setup) (src : Frame) (e : Option Rat)
    (zm : Option Bool) (sig : List Rat) (z : List (List Rat))
    (hflag : zeroMomentumFlag s.engine zm = true)
    (hne : mass s ≠ []) (hpos : ∀ m ∈ mass s, 0 < m)
    (hsig : sig.length = (mass s).length) (hz : ∀ col ∈ z, col.length = (mass s).length) :
    momentum (mass s) (modifyVelocities vk vr s src e zm sig z).frame.vel
      = (modifyVelocities vk vr s src e zm sig z).frame.vel.map (fun _ => 0) := by
  rw [modifyVelocities_vel, if_pos hflag]
  exact momentum_reset_eq_zeros _ hne hpos _ (length_of_mem_engineDraw s sig z hsig hz)

example : zeroMomentumFlag Engine.cp2k none = true ∧ zeroMomentumFlag Engine.gromacs (some true) = true := by
  decide +kernel

/-- **One atom (degenerate).** Removing the momentum of a single particle leaves it at rest: the code's
    `vel -= (m·v)/m` gives exactly 0 in the model (rounding residue ≤ 1 ulp in floats), so with
    zero_momentum on a one-atom system gets `kin_new = 0`. -/
theorem one_atom_reset_is_zero (m : Rat) (hm : m ≠ 0) (vel : List Rat) :
    resetMomentum [m] (vel.map (fun v => [v])) = vel.map (fun _ => [0]) := by
  simp only [resetMomentum, List.map_map]
  apply List.map_congr_left
  intro v _
  simp only [Function.comp, resetCol, dot, sumL, List.map_cons, List.map_nil, add_zero]
  congr 1
  field_simp
  ring

example : resetMomentum [3] [[2], [-1], [0]] = [[0], [0], [0]] := by
  decide +kernel

/-! ## 4. the reported kinetic-energy change -/

/-- `kin_new` is the kinetic energy of the velocities that were written — for the four
    numpy-drawing engines. -/
theorem kinNew_consistent (vk vr : Variant) (s : Setup) (src : Frame) (e : Option Rat)
    (zm : Option Bool) (sig : List Rat) (z : List (List Rat)) (hne : s.engine ≠ .ase) :
    (modifyVelocities vk vr s src e zm sig z).kinNew
      = kineticEnergy (mass s) (modifyVelocities vk vr s src e zm sig z).frame.vel :=
  modifyVelocities_kinNew vk vr s src e zm sig z fun ha => absurd ha hne

/-- **dek (CP2K, LAMMPS, TurtleMD).** When the old frame has kinetic energy, `dek` is the
    kinetic energy of the written velocities minus that of the frame's old velocities;
    when it has none, `dek = inf`. -/
theorem dek_consistent (vk vr : Variant) (s : Setup) (src : Frame) (e : Option Rat)
    (zm : Option Bool) (sig : List Rat) (z : List (List Rat))
    (hne : s.engine ≠ .ase) (hng : s.engine ≠ .gromacs) :
    (modifyVelocities vk vr s src e zm sig z).dek =
      if kineticEnergy (mass s) src.vel = 0 then Dek.inf
      else Dek.val (kineticEnergy (mass s) (modifyVelocities vk vr s src e zm sig z).frame.vel
                      - kineticEnergy (mass s) src.vel) := by
  rw [modifyVelocities_dek, if_neg hng, kinNew_consistent vk vr s src e zm sig z hne]
  rfl

example : kineticEnergy [2] [[1], [0], [3]] = 10 := by
  decide +kernel

/-- **dek (GROMACS, infretis_genvel).** The old energy is `system.ekin`, not recomputed from the
    frame: `dek = ekin(written velocities) − system.ekin`, `inf` when `system.ekin is None`. -/
theorem dek_consistent_gromacs (vk vr : Variant) (s : Setup) (src : Frame) (e : Option Rat)
    (zm : Option Bool) (sig : List Rat) (z : List (List Rat)) (hg : s.engine = .gromacs) :
    (modifyVelocities vk vr s src e zm sig z).dek =
      match e with
      | none => Dek.inf
      | some k => Dek.val (kineticEnergy (mass s) (modifyVelocities vk vr s src e zm sig z).frame.vel - k) := by
  rw [modifyVelocities_dek, if_pos hg, modifyVelocities_kinNew vk vr s src e zm sig z (by simp [hg])]
  cases e <;> rfl

/-- **Boundaries of the dek rule.** A stored `system.ekin = 0.0` is *not* "absent" for GROMACS
    (`is None` test): `dek = kin_new − 0`; for the other engines an old kinetic energy of exactly 0
    (frame without velocities) gives `inf`, any non-zero one a finite value. -/
theorem dek_rule_boundaries (kinNew k : Rat) :
    dekNoneRule (some 0) kinNew = Dek.val (kinNew - 0) ∧ dekNoneRule none kinNew = Dek.inf
    ∧ dekZeroRule 0 kinNew = Dek.inf ∧ (k ≠ 0 → dekZeroRule k kinNew = Dek.val (kinNew - k)) := by
  refine ⟨rfl, rfl, by simp [dekZeroRule], fun hk => by simp [dekZeroRule, hk]⟩

example : dekZeroRule 5 5 = Dek.val 0 ∧ (5 : Rat) ≠ 0 := by
  decide +kernel

/-- witness: ASE, one particle-pair, zero_momentum on -/
def aseWitnessSetup : Setup := { engine := .ase, temperature := 300, boltzmann := 1, massIn := [1, 1] }
def aseWitnessSrc : Frame := { pos := [[0, 1], [0, 0], [0, 0]], vel := [[1, 0], [0, 0], [0, 0]],
                               box := some [10, 10, 10], ids := [1, 1] }

/-- **Finding `C16:ase:kin-before-stationary`.** For the ASE engine before 1dd0318, the returned
    `kin_new` (and hence `dek`) is *not* the kinetic energy of the written velocities when
    zero_momentum is on: masses (1,1), momenta draw (1,1)·(1,0): kin_new = 1/2 but the written
    velocities (1/2, −1/2) carry 1/4. -/
theorem dek_consistent_ase_counterexample :
    let r := modifyVelocities .asIs .asIs aseWitnessSetup aseWitnessSrc none (some true) [1, 1] [[1, 0], [0, 0], [0, 0]]
    r.kinNew = 1 / 2 ∧ kineticEnergy [1, 1] r.frame.vel = 1 / 4
      ∧ r.dek ≠ Dek.val (kineticEnergy [1, 1] r.frame.vel - kineticEnergy [1, 1] aseWitnessSrc.vel) := by
  decide +kernel

/-- **dek (ASE), partial.** Consistent under the guard that excludes the defect:
    the repaired order (`kin_new` after `Stationary`) or zero_momentum off. -/
theorem dek_consistent_ase_partial (vk vr : Variant) (s : Setup) (src : Frame) (e : Option Rat)
    (zm : Option Bool) (sigP : List Rat) (z : List (List Rat)) (ha : s.engine = .ase)
    (hguard : vk = .repaired ∨ zeroMomentumFlag .ase zm = false) :
    (modifyVelocities vk vr s src e zm sigP z).kinNew
        = kineticEnergy s.massIn (modifyVelocities vk vr s src e zm sigP z).frame.vel
    ∧ (modifyVelocities vk vr s src e zm sigP z).dek =
        if kineticEnergy s.massIn src.vel = 0 then Dek.inf
        else Dek.val (kineticEnergy s.massIn (modifyVelocities vk vr s src e zm sigP z).frame.vel
                        - kineticEnergy s.massIn src.vel) := by
  have hkin := modifyVelocities_kinNew vk vr s src e zm sigP z fun _ => hguard
  rw [mass_of_ne_cp2k (by simp [ha])] at hkin
  refine ⟨hkin, ?_⟩
  rw [modifyVelocities_dek, if_neg (by simp [ha]), hkin, mass_of_ne_cp2k (by simp [ha])]
  rfl

example : zeroMomentumFlag .ase none = false := by decide +kernel

/-- **kin_new, all five engines (code as it is now).** -/
theorem kinNew_consistent_all (vr : Variant) (s : Setup) (src : Frame) (e : Option Rat)
    (zm : Option Bool) (sig : List Rat) (z : List (List Rat)) :
    (modifyVelocities codeVariant vr s src e zm sig z).kinNew
      = kineticEnergy (mass s) (modifyVelocities codeVariant vr s src e zm sig z).frame.vel := by
  exact modifyVelocities_kinNew codeVariant vr s src e zm sig z fun _ => Or.inl rfl

/-- **dek, all five engines (code as it is now).** `dek` is the kinetic energy of the written
    velocities minus the old one — the frame's recomputed energy, or `system.ekin` for GROMACS —
    and `inf` exactly when the old one is zero (GROMACS: `None`). -/
theorem dek_consistent_all (vr : Variant) (s : Setup) (src : Frame) (e : Option Rat)
    (zm : Option Bool) (sig : List Rat) (z : List (List Rat)) :
    (modifyVelocities codeVariant vr s src e zm sig z).dek =
      if s.engine = .gromacs then
        (match e with
         | none => Dek.inf
         | some k => Dek.val (kineticEnergy (mass s)
                        (modifyVelocities codeVariant vr s src e zm sig z).frame.vel - k))
      else if kineticEnergy (mass s) src.vel = 0 then Dek.inf
      else Dek.val (kineticEnergy (mass s) (modifyVelocities codeVariant vr s src e zm sig z).frame.vel
                      - kineticEnergy (mass s) src.vel) := by
  rw [modifyVelocities_dek, kinNew_consistent_all]
  split
  · cases e <;> rfl
  · rfl

example : (modifyVelocities codeVariant codeVariant aseWitnessSetup aseWitnessSrc none (some true) [1, 1]
    [[1, 0], [0, 0], [0, 0]]).kinNew = 1 / 4 := by
  decide +kernel

/-- chaining two regenerations on one System (repeated kicks): the second call starts from the frame the
    first one wrote, so its `dek` is measured against *that* frame's kinetic energy, not an older one -/
example (s : Setup) (src : Frame) (e : Option Rat) (zm : Option Bool) (sig sig' : List Rat)
    (z z' : List (List Rat)) (hng : s.engine ≠ .gromacs) :
    let r1 := modifyVelocities codeVariant codeVariant s src e zm sig z
    let r2 := modifyVelocities codeVariant codeVariant s r1.frame (some r1.kinNew) zm sig' z'
    r2.dek = if kineticEnergy (mass s) r1.frame.vel = 0 then Dek.inf
             else Dek.val (kineticEnergy (mass s) r2.frame.vel - kineticEnergy (mass s) r1.frame.vel) := by
  intro r1 r2
  have h := dek_consistent_all codeVariant s r1.frame (some r1.kinNew) zm sig' z'
  simpa [hng] using h

/-! ## 5. only velocities change -/

/-- **Positions, box, identities.** The written frame has the source frame's positions and atom
    identities, and its box whenever the source has one (CP2K substitutes the template's box
    when the frame has no box header; every other engine writes the box field as read). -/
theorem positions_box_ids_preserved (vk vr : Variant) (s : Setup) (src : Frame) (e : Option Rat)
    (zm : Option Bool) (sig : List Rat) (z : List (List Rat)) :
    (modifyVelocities vk vr s src e zm sig z).frame.pos = src.pos
    ∧ (modifyVelocities vk vr s src e zm sig z).frame.ids = src.ids
    ∧ (∀ b, src.box = some b → (modifyVelocities vk vr s src e zm sig z).frame.box = some b)
    ∧ (s.engine ≠ .cp2k → (modifyVelocities vk vr s src e zm sig z).frame.box = src.box) := by
  obtain ⟨eng, T, b, ms, tb⟩ := s
  obtain ⟨pos, vel, box, ids⟩ := src
  refine ⟨by cases eng <;> rfl, by cases eng <;> rfl, ?_, fun hne => ?_⟩
  · rintro b rfl
    cases eng <;> rfl
  · cases eng
    case cp2k => exact absurd rfl hne
    all_goals rfl

example : (modifyVelocities .asIs .asIs aseWitnessSetup aseWitnessSrc none none [1, 1] []).frame.pos
    = [[0, 1], [0, 0], [0, 0]] := by
  decide +kernel

/-! ## 6. the source frame is never altered -/

theorem readFile_writeFile_ne (h : Heap) (f g : Nat) (frames : List Frame) (hne : f ≠ g) :
    (h.writeFile g frames).readFile f = h.readFile f :=
  h.readFile_writeFile_ne f g frames hne

theorem dumpFrame_effect (h : Heap) (cfg : Nat × Option Nat) (conf : Nat) (h2 : Heap) (fr : Frame)
    (hd : dumpFrame h cfg conf = .ok (h2, fr)) :
    h2.systems = h.systems ∧ h2.objs = h.objs
    ∧ ∀ f, f ≠ conf → h2.readFile f = h.readFile f := by
  unfold dumpFrame at hd
  split at hd
  · cases hd
  · rename_i frames _
    split at hd
    · split at hd
      · cases hd
      · split at hd
        · cases hd; exact ⟨rfl, rfl, fun _ _ => rfl⟩
        · cases hd
          exact ⟨rfl, rfl, fun f hf => readFile_writeFile_ne h f conf frames hf⟩
    · split at hd
      · cases hd
      · cases hd
        exact ⟨rfl, rfl, fun f hf => readFile_writeFile_ne h f conf _ hf⟩

/-- **Source untouched.** `prepare_shooting_point` first makes a (shallow) copy — a new `System`
    object at a fresh address holding the same references — and everything afterwards rebinds
    attributes of that copy only and writes only `exe_dir/conf.<ext>` and `exe_dir/genvel.<ext>`:
    every pre-existing `System` object (in particular the shooting point, every frame of the
    path), every referenced array/list, and every file other than those two is unchanged.
    The copy keeps `temperature/vel_rev/vpot`, gets the new `config`, and its
    `order`, `pos`, `vel` are rebound to *fresh* objects (addresses beyond the old heap). -/
theorem source_frame_untouched (vk vr : Variant) (s : Setup) (h : Heap) (a conf genvel : Nat)
    (zm : Option Bool) (sig : List Rat) (z : List (List Rat)) (newOrder : List Rat) (sh : Shoot)
    (hok : prepareShootingPoint vk vr s h a conf genvel zm sig z newOrder = .ok sh) :
    (∀ i, i < h.systems.length → sh.heap.systems[i]? = h.systems[i]?)
    ∧ (∀ i, i < h.objs.length → sh.heap.objs[i]? = h.objs[i]?)
    ∧ (∀ f, f ≠ conf → f ≠ genvel → sh.heap.readFile f = h.readFile f)
    ∧ sh.copy = h.systems.length
    ∧ ∃ sp sp', h.systems[a]? = some sp ∧ sh.heap.systems[sh.copy]? = some sp'
        ∧ sp'.temperature = sp.temperature ∧ sp'.velRev = sp.velRev ∧ sp'.vpot = sp.vpot
        ∧ sp'.config = (genvel, some 0)
        ∧ h.objs.length ≤ sp'.order ∧ h.objs.length ≤ sp'.pos ∧ h.objs.length ≤ sp'.vel := by
  unfold prepareShootingPoint at hok
  split at hok
  · cases hok
  · rename_i sp hsp
    simp only at hok
    split at hok
    · cases hok
    · rename_i h2 fr hd
      have ⟨_, ho2, hf2⟩ := dumpFrame_effect _ _ _ _ _ hd
      cases hok
      obtain ⟨hsys, hobjs, hfiles, hcopy, _⟩ := shoot_tail_untouched h h2 _ conf genvel _ _ ho2 hf2
      refine ⟨hsys, hobjs, hfiles, rfl, sp, _, hsp, hcopy, rfl, rfl, rfl, rfl, ?_, ?_, ?_⟩
      all_goals
        simp only [Heap.writeFile, ho2]
        omega

example : ∃ sh, prepareShootingPoint .asIs .asIs aseWitnessSetup
    { systems := [⟨(7, some 0), 0, 1, 1, 1, 1, false, none, none⟩], objs := [[5], []],
      files := [(7, [aseWitnessSrc])] } 0 100 101 (some true) [1, 1] [[1, 0], [0, 0], [0, 0]] [3]
    = .ok sh := ⟨_, rfl⟩

/-! ## 7. the only draw request is `normal` on the engine's own stream -/

/-- **Request (GROMACS, CP2K, LAMMPS, TurtleMD).** One request: `normal`, loc 0, per-particle
    scale² = (1/β)(1/mᵢ), shape (npart, dim), on the engine's `rgen`.
    Domain (§14): `modifyVelocities` is the shape-consistent core — the real code asks for
    `vel.shape[0]` particles, which is `(mass s).length` exactly when the frame has as many atoms as the engine has
    masses.  Read for EVERY input ("npart = number of masses") the statement is false of the real code: see
    `length_one_broadcast_counterexample`; the guarded end-to-end form is `headlines_shape_guarded`. -/
theorem request_on_engine_stream (vk vr : Variant) (s : Setup) (src : Frame) (e : Option Rat)
    (zm : Option Bool) (sig : List Rat) (z : List (List Rat)) (hne : s.engine ≠ .ase) :
    (modifyVelocities vk vr s src e zm sig z).request =
      { stream := .engineRgen, method := "normal", loc := 0,
        scaleSq := some (sigmaSq (beta s) (mass s)), npart := (mass s).length, dim := src.vel.length } := by
  obtain ⟨eng, T, b, ms, tb⟩ := s
  cases eng
  case ase => exact absurd rfl hne
  all_goals rfl

/-- **Finding `C16:ase:global-rng`.** The ASE engine before 1dd0318 sent its draw to numpy's global
    state, not to the engine's `rgen`. -/
theorem request_on_engine_stream_ase_counterexample :
    (modifyVelocities .asIs .asIs aseWitnessSetup aseWitnessSrc none none [1, 1] []).request.stream
      = Stream.numpyGlobal := rfl

/-- **Request, partial (all engines).** On the engine's stream for every engine except ASE before the repair. -/
theorem request_on_engine_stream_partial (vk vr : Variant) (s : Setup) (src : Frame) (e : Option Rat)
    (zm : Option Bool) (sig : List Rat) (z : List (List Rat))
    (hguard : s.engine ≠ .ase ∨ vr = .repaired) :
    (modifyVelocities vk vr s src e zm sig z).request.stream = .engineRgen := by
  by_cases ha : s.engine = .ase
  · rw [modifyVelocities_request_ase vk vr s src e zm sig z ha, hguard.resolve_left (not_not_intro ha)]
  · rw [request_on_engine_stream vk vr s src e zm sig z ha]

example : (⟨.lammps, 300, 1, [1, 2], []⟩ : Setup).engine ≠ .ase ∨ Variant.asIs = Variant.repaired :=
  Or.inl (by decide +kernel)

/-- **Request, all five engines (code as it is now).** The single draw request of
    `modify_velocities` is on the engine's own `rgen`, with location 0: `normal` with the
    per-particle scale for GROMACS/CP2K/LAMMPS/TurtleMD, `standard_normal((npart, 3))` for ASE. -/
theorem request_on_engine_stream_all (vk : Variant) (s : Setup) (src : Frame) (e : Option Rat)
    (zm : Option Bool) (sig : List Rat) (z : List (List Rat)) :
    (modifyVelocities vk codeVariant s src e zm sig z).request.stream = .engineRgen
    ∧ (modifyVelocities vk codeVariant s src e zm sig z).request.loc = 0
    ∧ (modifyVelocities vk codeVariant s src e zm sig z).request.method
        = (if s.engine = .ase then "standard_normal" else "normal") := by
  refine ⟨request_on_engine_stream_partial vk codeVariant s src e zm sig z (Or.inr rfl), ?_⟩
  by_cases ha : s.engine = .ase
  · rw [modifyVelocities_request_ase vk codeVariant s src e zm sig z ha, if_pos ha]
    exact ⟨rfl, rfl⟩
  · rw [request_on_engine_stream vk codeVariant s src e zm sig z ha, if_neg ha]
    exact ⟨rfl, rfl⟩

example : (modifyVelocities .asIs codeVariant aseWitnessSetup aseWitnessSrc none none [1, 1] []).request.stream
    = Stream.engineRgen := rfl

/-! ## 8. settings routing: what the MOVES hand to `modify_velocities`

`tis_set` doubles as `vel_settings`; `prepare_shooting_point` (the only call site of `modify_velocities`)
passes `ens_set["tis_set"]`.  Model: `Infretis/Model/VelRoute.lean` (`routeSettings`, `wfSubSettings`, `nJumps`,
`moveRegenerations`).  The statements below are about the dicts the engine SEES on every route, not about a
direct call of `modify_velocities`. -/
section Routing
open Infretis.VelRoute

/-- **Wire fencing's sub-move settings.** The two in-place writes (`allowmaxlength = True`, `maxlength` := itself)
    leave every other configured key — `zero_momentum` and anything else an engine may read — with its configured
    value; no key is lost.  (As the code is, the dict is the ensemble's own `tis_set`, which therefore carries
    `allowmaxlength = True` from the first wire-fencing move on.) -/
theorem wf_sub_settings_keep_configured (ts d : Settings) (h : wfSubSettings ts = .ok d) :
    (∀ k, k ≠ "allowmaxlength" → getKey d k = getKey ts k)
    ∧ getKey d "allowmaxlength" = some (.bool true)
    ∧ getKey d "maxlength" = getKey ts "maxlength" :=
  ⟨(wfSubSettings_getKey ts d h).1, (wfSubSettings_getKey ts d h).2,
   (wfSubSettings_getKey ts d h).1 "maxlength" (by decide)⟩

example : wfSubSettings [("maxlength", .int 60), ("allowmaxlength", .bool false), ("zero_momentum", .bool true),
      ("n_jumps", .int 3)]
    = .ok [("maxlength", .int 60), ("allowmaxlength", .bool true), ("zero_momentum", .bool true),
      ("n_jumps", .int 3)] := by decide +kernel

/-- **The engine sees the configured settings on every route.** For `shoot` the dict handed to
    `modify_velocities` IS the ensemble's `tis_set`; for every wire-fencing sub-shoot it agrees with the configured
    `tis_set` on every key but `allowmaxlength`; the zero swaps hand nothing (no regeneration). -/
theorem route_settings_eq_configured (mv : Move) (ts : Settings) (hasSeg : Bool) (r : Routed)
    (h : routeSettings mv ts hasSeg = .ok r) :
    (∀ d ∈ r.calls, ∀ k, k ≠ "allowmaxlength" → getKey d k = getKey ts k)
    ∧ (mv = .sh → r.calls = [ts] ∧ r.tisSetAfter = ts)
    ∧ (mv = .zeroSwap → r.calls = [] ∧ r.tisSetAfter = ts) := by
  refine ⟨routeSettings_getKey mv ts hasSeg r h, ?_, ?_⟩
  · rintro rfl
    rw [routeSettings_sh_ok h]
    exact ⟨rfl, rfl⟩
  · rintro rfl
    rw [routeSettings_zeroSwap_ok h]
    exact ⟨rfl, rfl⟩

example : ∃ r, routeSettings .wf [("maxlength", .int 60), ("zero_momentum", .bool true)] true = .ok r
    ∧ r.calls.length = 2 := ⟨_, rfl, rfl⟩

/-- **Every key an engine reads, and the flag in effect, are the configured ones on every route** — for each of the
    five engines, whatever its own default. -/
theorem route_flag_eq_configured (mv : Move) (ts : Settings) (hasSeg : Bool) (r : Routed)
    (h : routeSettings mv ts hasSeg = .ok r) (e : Engine) :
    ∀ d ∈ r.calls, (∀ k ∈ readKeys e, getKey d k = getKey ts k)
      ∧ zmEntry d = zmEntry ts
      ∧ effectiveZeroMomentum e d = effectiveZeroMomentum e ts
      ∧ gmxOwnGenvelRefuses d = gmxOwnGenvelRefuses ts := by
  intro d hd
  have hk := routeSettings_getKey mv ts hasSeg r h d hd "zero_momentum" (by decide)
  have hzm : zmEntry d = zmEntry ts := congrArg (Option.map truthy) hk
  refine ⟨?_, hzm, ?_, ?_⟩
  · intro k hkr
    rw [List.mem_singleton.mp hkr]
    exact hk
  · rw [effectiveZeroMomentum, hzm]
    rfl
  · rw [gmxOwnGenvelRefuses, hk]
    rfl

example : effectiveZeroMomentum .turtlemd [("maxlength", .int 60), ("zero_momentum", .bool true)] = true
    ∧ effectiveZeroMomentum .cp2k [("maxlength", .int 60), ("zero_momentum", .int 0)] = false
    -- a fresh dict holding only the two keys wire fencing writes would fall back to the engine defaults:
    ∧ effectiveZeroMomentum .turtlemd [("allowmaxlength", .bool true), ("maxlength", .int 60)] = false
    ∧ effectiveZeroMomentum .cp2k [("allowmaxlength", .bool true), ("maxlength", .int 60)] = true := by decide +kernel

/-- **How many regenerations a move makes.** `shoot`: one; wire fencing with a segment: `n_jumps` (2 when the key is
    absent; `True` counts as 1, a negative integer as 0); wire fencing without a segment and the zero swaps: none. -/
theorem route_call_count (ts : Settings) (r : Routed) :
    (routeSettings .sh ts hs = .ok r → r.calls.length = 1)
    ∧ (routeSettings .wf ts true = .ok r → ∃ n, nJumps ts = .ok n ∧ r.calls.length = n)
    ∧ (routeSettings .wf ts false = .ok r → r.calls = [])
    ∧ (routeSettings .zeroSwap ts hs = .ok r → r.calls = []) := by
  refine ⟨fun h => ?_, fun h => ?_, fun h => ?_, fun h => ?_⟩
  · rw [routeSettings_sh_ok h]
    rfl
  · obtain ⟨sub, n, _, hn, rfl⟩ := routeSettings_wf_seg_ok h
    exact ⟨n, hn, List.length_replicate⟩
  · cases h
    rfl
  · rw [routeSettings_zeroSwap_ok h]

example : nJumps [("n_jumps", .bool true)] = .ok 1 ∧ nJumps [] = .ok 2 ∧ nJumps [("n_jumps", .int (-3))] = .ok 0
    ∧ nJumps [("n_jumps", .float 3)] = .error (.typeError "range:float") := by decide +kernel

/-- a move raises before any regeneration exactly when `maxlength` is missing (KeyError; wire fencing without a
    segment returns before reading it) or, for wire fencing with a segment, `n_jumps` is not an integer (TypeError
    from `range`) -/
theorem route_error_iff (mv : Move) (ts : Settings) (hasSeg : Bool) :
    (∃ e, routeSettings mv ts hasSeg = .error e) ↔
      ((mv ≠ .wf ∨ hasSeg = true) ∧ getKey ts "maxlength" = none)
      ∨ (mv = .wf ∧ hasSeg = true ∧ ∃ e, nJumps ts = .error e) := by
  have hne : ("maxlength" : String) ≠ "allowmaxlength" := by decide +kernel
  cases mv
  case sh => cases hm : getKey ts "maxlength" <;> simp [routeSettings, hm]
  case zeroSwap => cases hm : getKey ts "maxlength" <;> simp [routeSettings, hm]
  case wf =>
    cases hasSeg
    · simp [routeSettings]
    · cases hm : getKey ts "maxlength" <;> cases hn : nJumps ts <;>
        simp [routeSettings, wfSubSettings, getKey_setKey_ne _ _ _ _ hne, hm, hn]

example : routeSettings .sh [("zero_momentum", .bool true)] false = .error (.keyError "maxlength") := by decide +kernel

/-- **End to end: every regeneration of a move uses the configured flag.** The velocity regenerations of a whole
    move (`moveRegenerations`: route, then `modify_velocities` per call with the flag read from the dict that call
    was handed) are exactly `modify_velocities` with the CONFIGURED `tis_set`'s entry, once per routed call. -/
theorem move_regenerations_use_configured (vk vr : Variant) (s : Setup) (mv : Move) (ts : Settings)
    (hasSeg : Bool) (inputs : List CallInput) (rs : List Result)
    (h : moveRegenerations vk vr s mv ts hasSeg inputs = .ok rs) :
    ∃ r, routeSettings mv ts hasSeg = .ok r
      ∧ rs = (inputs.take r.calls.length).map
               (fun i => modifyVelocities vk vr s i.src i.sysEkin (zmEntry ts) i.sig i.z) := by
  unfold moveRegenerations at h
  split at h
  · cases h
  · rename_i r hr
    cases h
    exact ⟨r, hr, regenerate_eq_map vk vr s ts r.calls inputs fun d hd =>
      (route_flag_eq_configured mv ts hasSeg r hr s.engine d hd).2.1⟩

theorem mem_moveRegenerations (h : moveRegenerations vk vr s mv ts hasSeg inputs = .ok rs) (hr : r ∈ rs) :
    ∃ i ∈ inputs, r = modifyVelocities vk vr s i.src i.sysEkin (zmEntry ts) i.sig i.z := by
  obtain ⟨_, _, rfl⟩ := move_regenerations_use_configured vk vr s mv ts hasSeg inputs rs h
  obtain ⟨i, hi, rfl⟩ := List.mem_map.mp hr
  exact ⟨i, List.mem_of_mem_take hi, rfl⟩

/-- **Zero momentum iff requested, on every route.** For every regenerated shooting point of a `shoot` or
    wire-fencing move (any number of jumps), in every engine:
    * if the configured `tis_set` requests zero momentum (entry truthy, or absent with CP2K's default), the written
      velocities carry no total momentum;
    * if it does not (entry falsy, or absent with the other engines' default), the written velocities are the
      untouched Gaussian draw `σ·z` (LAMMPS: divided by `scale`) — nothing is projected out (ASE: `move_unprojected_all`). -/
theorem move_zero_momentum_iff_requested (vk vr : Variant) (s : Setup) (mv : Move) (ts : Settings)
    (hasSeg : Bool) (inputs : List CallInput) (rs : List Result)
    (h : moveRegenerations vk vr s mv ts hasSeg inputs = .ok rs)
    (hne : mass s ≠ []) (hpos : ∀ m ∈ mass s, 0 < m)
    (hshape : ∀ i ∈ inputs, i.sig.length = (mass s).length ∧ ∀ col ∈ i.z, col.length = (mass s).length) :
    ∀ r ∈ rs,
      (effectiveZeroMomentum s.engine ts = true →
        momentum (mass s) r.frame.vel = r.frame.vel.map (fun _ => 0))
      ∧ (effectiveZeroMomentum s.engine ts = false → s.engine ≠ .ase →
        ∃ i ∈ inputs, r.frame.vel =
          if s.engine = .lammps then (drawVel i.sig i.z).map (fun col => col.map (fun v => v / lammpsScale))
          else drawVel i.sig i.z) := by
  intro r hr
  obtain ⟨i, hi, rfl⟩ := mem_moveRegenerations h hr
  exact ⟨fun hflag => modify_zero_momentum vk vr s i.src i.sysEkin (zmEntry ts) i.sig i.z hflag hne hpos
      (hshape i hi).1 (hshape i hi).2,
    fun hflag hase => ⟨i, hi, vel_eq_sigma_z s i.src i.sysEkin i.sig i.z hflag hase⟩⟩

example : ∃ rs, moveRegenerations codeVariant codeVariant
      { engine := .turtlemd, temperature := 300, boltzmann := 1, massIn := [1, 3] } .wf
      [("maxlength", .int 60), ("zero_momentum", .bool true), ("n_jumps", .int 2)] true
      [⟨aseWitnessSrc, none, [1, 1], [[1, 0], [0, 0], [0, 0]]⟩, ⟨aseWitnessSrc, none, [1, 2], [[0, 1], [1, 0], [0, 0]]⟩]
    = .ok rs ∧ rs.length = 2 := ⟨_, rfl, rfl⟩

end Routing

/-! ## 9. degrees of freedom: what the zero-momentum projection leaves of `⟨m v²⟩ = k_BT`

The draw gives independent components with variance `σₖ² = k_BT/mₖ` (§1).  `reset_momentum` is the linear map
`v'ᵢ = Σₖ (δᵢₖ − mₖ/M) vₖ` on every Cartesian column; the variance of a linear combination of independent variables
is `Σₖ cᵢₖ² σₖ²` (probability theory, outside the model like the Gaussian itself; `quadForm` is that sum).
As the code is (no rescaling after the projection — ase_engine.py says so: `preserve_temperature=False`, "the other
engines do not bother"): without zero momentum every component has variance `k_BT/m` (3N degrees of freedom with
`⟨m v²⟩ = k_BT` each); with zero momentum component `i` has variance `(1 − mᵢ/M)·k_BT/mᵢ` and each Cartesian
direction carries `(N−1)·k_BT`: `⟨Σ m v²⟩ = k_BT` per REMAINING degree of freedom (3N−3), not per component. -/

/-- **`reset_momentum` is the projection `v'ᵢ = Σₖ (δᵢₖ − mₖ/M)·vₖ`**, entry by entry. -/
theorem reset_momentum_is_projection (ms col : List Rat) (i : Nat) (ci : Rat)
    (hlen : col.length = ms.length) (hci : col[i]? = some ci) :
    (resetCol ms col)[i]? = some (dot (coeffRow (sumL ms) ms i) col)
    ∧ dot (coeffRow (sumL ms) ms i) col = ci - dot ms col / sumL ms :=
  ⟨resetCol_getElem? ms col i ci hlen hci, dot_coeffRow (sumL ms) ms col i ci hlen hci⟩

example : (resetCol [1, 3] [2, -1])[0]? = some (dot (coeffRow 4 [1, 3] 0) [2, -1])
    ∧ dot (coeffRow 4 [1, 3] 0) [2, -1] = 9 / 4 := by
  decide +kernel

/-- **Variance after the projection.** With component variances `k_BT/mₖ`, the `i`-th projected component has
    variance `Σₖ (δᵢₖ − mₖ/M)²·k_BT/mₖ = k_BT·(1/mᵢ − 1/M) = (1 − mᵢ/M)·k_BT/mᵢ` — exact, for any non-zero masses with non-zero sum. -/
theorem projected_component_variance (kT : Rat) (ms : List Rat) (i : Nat) (mi : Rat)
    (hm : ∀ m ∈ ms, m ≠ 0) (hM : sumL ms ≠ 0) (hmi : ms[i]? = some mi) :
    quadForm (coeffRow (sumL ms) ms i) (ms.map (fun m => kT / m)) = kT * (1 / mi - 1 / sumL ms)
    ∧ kT * (1 / mi - 1 / sumL ms) = (1 - mi / sumL ms) * (kT / mi) := by
  have hmi0 : mi ≠ 0 := hm mi (List.mem_of_getElem? hmi)
  constructor
  · rw [quadForm_coeffRow kT (sumL ms) hM ms i mi hm hmi, mul_div_mul_right _ _ hM]
    ring
  · rw [sub_mul, one_mul, div_mul_div_comm, mul_comm mi kT, mul_div_mul_right _ _ hmi0]
    ring

example : quadForm (coeffRow 4 [1, 3] 0) ([1, 3].map (fun m => (2 : Rat) / m)) = 2 * (1 / 1 - 1 / 4) := by
  decide +kernel

/-- **`⟨m v²⟩` per direction after the projection: `(N−1)·k_BT`.** Summed over the atoms, mass × variance of one
    Cartesian direction is `(N − 1)·k_BT`: the projection removes exactly one degree of freedom per direction and
    the remaining ones carry `k_BT` each (equipartition over 3N−3 degrees of freedom, no rescaling needed). -/
theorem projected_mv2_per_direction (kT : Rat) (ms : List Rat) (hm : ∀ m ∈ ms, m ≠ 0) (hM : sumL ms ≠ 0) :
    sumL (ms.map (fun m => m * (kT * (1 / m - 1 / sumL ms)))) = (ms.length - 1) * kT := by
  rw [sumL_mass_times_var kT (sumL ms) hM ms hm, mul_div_assoc, div_self hM]
  ring

example : sumL ([1, 3].map (fun m => m * ((2 : Rat) * (1 / m - 1 / sumL [1, 3])))) = (2 - 1) * 2 := by
  decide +kernel

/-- **The literal per-component reading fails under zero momentum** (positive masses, `k_BT > 0`): every projected
    component has variance strictly below `k_BT/mᵢ`; for a single atom it is 0.  So "variance `k_BT/m` for each
    component" and "zero total momentum" exclude each other — the property's `⟨m v²⟩ = k_BT` holds per degree of
    freedom (previous theorem), per component only when zero momentum is off (`vel_eq_sigma_z`). -/
theorem projected_variance_lt_unprojected (kT : Rat) (hkT : 0 < kT) (ms : List Rat) (i : Nat) (mi : Rat)
    (hpos : ∀ m ∈ ms, 0 < m) (hne : ms ≠ []) (hmi : ms[i]? = some mi) :
    kT * (1 / mi - 1 / sumL ms) < kT / mi
    ∧ (ms = [mi] → kT * (1 / mi - 1 / sumL ms) = 0) := by
  have hM : 0 < sumL ms := sumL_pos ms hne hpos
  have hmi0 : 0 < mi := hpos mi (List.mem_of_getElem? hmi)
  constructor
  · have : 0 < kT * (1 / sumL ms) := mul_pos hkT (one_div_pos.mpr hM)
    have e : kT * (1 / mi - 1 / sumL ms) = kT / mi - kT * (1 / sumL ms) := by ring
    rw [e]
    exact sub_lt_self _ this
  · rintro rfl
    rw [sumL, sumL, add_zero, sub_self, mul_zero]

example : (2 : Rat) * (1 / 1 - 1 / sumL [1, 3]) < 2 / 1 := by decide +kernel


/-! ## 10. the helpers' remaining branches (`kinetic_energy` for one atom, `sigma_v` argument, missing `rgen`) -/

/-- **`kinetic_energy` as written equals the trace formula on every shape the engines use**, including its
    `len(mass) == 1` branch (`np.outer` of the flattened arrays) for a one-atom system. -/
theorem kineticEnergyCode_eq (ms : List Rat) (vel : List (List Rat))
    (hshape : ∀ col ∈ vel, col.length = ms.length) :
    kineticEnergyCode ms vel = kineticEnergy ms vel := by
  unfold kineticEnergyCode
  split
  · rename_i h1
    obtain ⟨m, rfl⟩ := List.length_eq_one_iff.mp h1
    unfold kineticEnergy
    induction vel with
    | nil => simp [dot, sumL]
    | cons col rest ih =>
      have hc : col.length = 1 := by simpa using hshape col (by simp)
      obtain ⟨v, rfl⟩ := List.length_eq_one_iff.mp hc
      have ih' := ih (fun c hcm => hshape c (by simp [hcm]))
      simp only [List.map_cons, List.flatten_cons, mulCol, List.singleton_append, dot, sumL, kinCol] at ih' ⊢
      rw [← ih']
      ring
  · rfl

example : kineticEnergyCode [2] [[1], [0], [3]] = 10 ∧ kineticEnergyCode [1, 2] [[1, 1], [0, 2]] = 11 / 2 := by
  decide +kernel

/-- **The `sigma_v` argument.** `None` or any negative entry → the scale is estimated, `σᵢ² = (1/β)(1/mᵢ)`; an
    explicit non-negative `sigma_v` (also all zeros) is used as given; without `rgen` the call raises and makes no
    request; with it there is one request, `normal` with location 0 on the engine's stream. -/
theorem draw_maxwellian_rule (bet : Rat) (ms : List Rat) (sv : List Rat) (npart dim : Nat) :
    drawScaleSq bet ms none = sigmaSq bet ms
    ∧ ((∀ x ∈ sv, 0 ≤ x) → drawScaleSq bet ms (some sv) = sv.map (fun x => x * x))
    ∧ ((∃ x ∈ sv, x < 0) → drawScaleSq bet ms (some sv) = sigmaSq bet ms)
    ∧ drawMaxwellian false bet ms (some sv) npart dim = .error .noRgen
    ∧ drawMaxwellian true bet ms none npart dim
        = .ok { stream := .engineRgen, method := "normal", loc := 0, scaleSq := some (sigmaSq bet ms),
                npart := npart, dim := dim } := by
  refine ⟨rfl, ?_, ?_, rfl, rfl⟩
  · intro h
    rw [drawScaleSq, if_neg]
    simpa using h
  · intro h
    rw [drawScaleSq, if_pos]
    simpa using h

example : drawScaleSq 2 [1, 4] (some [0, 0]) = [0, 0] ∧ drawScaleSq 2 [1, 4] (some [1, -1]) = [1 / 2, 1 / 8] := by
  decide +kernel

/-- the request of `modify_velocities` (four numpy engines) IS `draw_maxwellian_velocities` with `sigma_v=None` on
    an engine that has its `rgen` -/
theorem modify_request_is_draw_maxwellian (vk vr : Variant) (s : Setup) (src : Frame) (e : Option Rat)
    (zm : Option Bool) (sig : List Rat) (z : List (List Rat)) (hne : s.engine ≠ .ase) :
    drawMaxwellian true (beta s) (mass s) none (mass s).length src.vel.length
      = .ok (modifyVelocities vk vr s src e zm sig z).request := by
  rw [request_on_engine_stream vk vr s src e zm sig z hne]
  rfl

/-- **CP2K masses.** `guess_particle_mass` refuses exactly the element names that are not in the table and otherwise
    gives the table mass times the conversion factor; the engine's mass vector (`Vel.mass`) is that, atom by atom. -/
theorem guess_particle_mass_rule (tbl : List Rat) (T b : Rat) (tb : List Rat) :
    guessParticleMass none = .error .unknownElement
    ∧ (∀ m, guessParticleMass (some m) = .ok (cp2kMassFactor * m))
    ∧ (mass ⟨.cp2k, T, b, tbl, tb⟩).map Except.ok
        = tbl.map (fun m => (guessParticleMass (some m) : Except MassErr Rat)) := by
  refine ⟨rfl, fun _ => rfl, ?_⟩
  simp [mass, guessParticleMass, List.map_map, Function.comp_def]

example : guessParticleMass (some 1) = .ok (18228884858012982 / 10000000000000) := by
  decide +kernel


/-! ## 11. the file flow, engine by engine: which frame is read, what is written, what stays

Model: `Infretis/Model/VelFlow.lean` (`extractFrame`, `readConf`, `dumpFrameE`, `prepareShootingPointE`): each
engine's own `_extract_frame` / first read, quirks included.  §6 (`source_frame_untouched`) is the same statement for
the engine-blind `Vel.dumpFrame`; here it is proved for what every engine really does with its files. -/
section FileFlow
open Infretis.VelFlow

/-- **Never alters the frame it was taken from — every engine.** `prepare_shooting_point` with the engine's own file
    flow leaves every pre-existing `System` object, every referenced array and every file other than
    `exe_dir/conf.<ext>` and `exe_dir/genvel.<ext>` as they were (in particular the trajectory file the shooting point
    lives in: same frames, whatever the frame index and `vel_rev`); the returned copy points to frame 0 of
    `genvel.<ext>`, keeps `vel_rev` (nothing is reversed before or after the regeneration: `kin_old` is taken from the
    stored velocities, whose sign does not matter), `temperature`, `vpot`; and `genvel.<ext>` holds ONE frame with the
    positions and identities of the frame that was read, and its box when it has one. -/
theorem source_untouched_every_engine (vk vr : Variant) (s : Setup) (g : GmxSrc) (top : List Nat) (h : Heap)
    (a conf genvel : Nat) (zm : Option Bool) (sig : List Rat) (z : List (List Rat)) (newOrder : List Rat)
    (sh : ShootE)
    (hok : prepareShootingPointE vk vr s g top h a conf genvel zm sig z newOrder = .ok sh) :
    (∀ i, i < h.systems.length → sh.heap.systems[i]? = h.systems[i]?)
    ∧ (∀ i, i < h.objs.length → sh.heap.objs[i]? = h.objs[i]?)
    ∧ (∀ f, f ≠ conf → f ≠ genvel → sh.heap.readFile f = h.readFile f)
    ∧ sh.copy = h.systems.length
    ∧ (∃ sp sp', h.systems[a]? = some sp ∧ sh.heap.systems[sh.copy]? = some sp'
        ∧ sp'.temperature = sp.temperature ∧ sp'.velRev = sp.velRev ∧ sp'.vpot = sp.vpot
        ∧ sp'.config = (genvel, some 0))
    ∧ (∃ fw, sh.heap.readFile genvel = some [fw] ∧ fw.pos = sh.readFrame.pos ∧ fw.ids = sh.readFrame.ids
        ∧ ∀ b, sh.readFrame.box = some b → fw.box = some b) := by
  unfold prepareShootingPointE at hok
  split at hok
  · cases hok
  · rename_i sp hsp
    simp only at hok
    split at hok
    · cases hok
    · rename_i h2 fr hd
      have ⟨_, ho2, hf2⟩ := dumpFrameE_effect _ _ _ _ _ _ _ _ hd
      cases hok
      obtain ⟨hsys, hobjs, hfiles, hcopy, hgenvel⟩ := shoot_tail_untouched h h2 _ conf genvel _ _ ho2 hf2
      have hpres := positions_box_ids_preserved vk vr s fr sp.ekin zm sig z
      exact ⟨hsys, hobjs, hfiles, rfl, ⟨sp, _, hsp, hcopy, rfl, rfl, rfl, rfl⟩,
              ⟨_, hgenvel, hpres.1, hpres.2.1, hpres.2.2.1⟩⟩

/-- **The regeneration starts from the requested frame — every engine, any index that is in the file.** With the
    shooting point at `(src, i)`, `src` a file other than `conf.<ext>`/`genvel.<ext>` holding frame `fr` at index `i`
    (also `i > 0`, also `vel_rev = True`; GROMACS: a `.trr`, or a one-frame `.g96`), the frame read is `fr` (GROMACS
    from a `.trr`: with the topology's identities), and `src` still holds the same frames. -/
theorem regenerates_requested_frame (vk vr : Variant) (s : Setup) (g : GmxSrc) (top : List Nat) (h : Heap)
    (a src i conf genvel : Nat) (sp : Sys) (frames : List Frame) (fr : Frame)
    (zm : Option Bool) (sig : List Rat) (z : List (List Rat)) (newOrder : List Rat)
    (hsp : h.systems[a]? = some sp) (hcfg : sp.config = (src, some i))
    (hsrc : h.readFile src = some frames) (hfr : frames[i]? = some fr)
    (hsc : src ≠ conf) (hsg : src ≠ genvel)
    (hg : s.engine = .gromacs → g = .trr ∨ (g = .g96 ∧ frames = [fr])) :
    ∃ sh, prepareShootingPointE vk vr s g top h a conf genvel zm sig z newOrder = .ok sh
      ∧ sh.readFrame = (if s.engine = .gromacs ∧ g = .trr then { fr with ids := top } else fr)
      ∧ sh.heap.readFile src = some frames := by
  have hd := dumpFrameE_in_range s.engine g top { h with systems := h.systems ++ [sp] } src i conf frames fr hsrc hfr
    fun he => (hg he).imp_right fun ⟨h1, h2⟩ => ⟨h1, h2, hsc⟩
  obtain ⟨sh, hok, hrf⟩ : ∃ sh, prepareShootingPointE vk vr s g top h a conf genvel zm sig z newOrder = .ok sh
      ∧ sh.readFrame = (if s.engine = .gromacs ∧ g = .trr then { fr with ids := top } else fr) := by
    unfold prepareShootingPointE
    simp only [hsp, hcfg]
    rw [hd]
    exact ⟨_, rfl, rfl⟩
  refine ⟨sh, hok, hrf, ?_⟩
  rw [(source_untouched_every_engine vk vr s g top h a conf genvel zm sig z newOrder sh hok).2.2.1 src hsc hsg]
  exact hsrc

example : ∃ sh, prepareShootingPointE codeVariant codeVariant aseWitnessSetup .g96 []
    { systems := [⟨(7, some 1), 0, 1, 1, 1, 1, true, none, none⟩], objs := [[5], []],
      files := [(7, [{ aseWitnessSrc with ids := [2, 2] }, aseWitnessSrc])] } 0 100 101 (some true) [1, 1]
      [[1, 0], [0, 0], [0, 0]] [3] = .ok sh ∧ sh.readFrame = aseWitnessSrc := ⟨_, rfl, rfl⟩

/-- index `None` (a single-frame configuration file, e.g. the initial configuration): every engine regenerates from
    that frame, whether or not the file already is `conf.<ext>` -/
theorem regenerates_single_frame_file (e : Engine) (g : GmxSrc) (top : List Nat) (h : Heap) (src conf : Nat)
    (fr : Frame) (hsrc : h.readFile src = some [fr]) :
    ∃ h2, dumpFrameE e g top h (src, none) conf = .ok (h2, fr) := by
  by_cases hc : src = conf
  · subst hc
    exact ⟨h, by cases e <;> simp [dumpFrameE, hsrc, readConf]⟩
  · exact ⟨h.writeFile conf [fr], by
      cases e <;> simp [dumpFrameE, hc, hsrc, Heap.readFile_writeFile_self, readConf]⟩

/-- **What the engines do with an index that is NOT in the file** (as the code is; not reachable through a path's own
    phase points): CP2K and TurtleMD only log an error and then regenerate from the frame an EARLIER call left in
    `conf.xyz` (here frame `stale`, of another file) — FileNotFoundError when there is none (stated for TurtleMD); LAMMPS and ASE raise
    IndexError, GROMACS ValueError for a `.trr`; a GROMACS `.g96` is copied whole whatever the index. -/
theorem missing_index_behaviour (fr stale : Frame) (i : Nat) (hi : 1 ≤ i) :
    let h : Heap := { systems := [], objs := [], files := [(7, [fr]), (100, [stale])] }
    let h0 : Heap := { systems := [], objs := [], files := [(7, [fr])] }
    dumpFrameE .cp2k .other [] h (7, some i) 100 = .ok (h, stale)
    ∧ dumpFrameE .turtlemd .other [] h (7, some i) 100 = .ok (h, stale)
    ∧ dumpFrameE .turtlemd .other [] h0 (7, some i) 100 = .error .nofile
    ∧ dumpFrameE .lammps .other [] h (7, some i) 100 = .error .index
    ∧ dumpFrameE .ase .other [] h (7, some i) 100 = .error .index
    ∧ dumpFrameE .gromacs .trr [] h (7, some i) 100 = .error .value
    ∧ dumpFrameE .gromacs .g96 [] h (7, some i) 100 = .ok (h.writeFile 100 [fr], fr) := by
  have hi' : ([fr] : List Frame)[i]? = none := by
    cases i with
    | zero => omega
    | succ k => simp
  simp [dumpFrameE, extractFrame, hi', Heap.readFile, Heap.writeFile, readConf]

/-- a multi-frame file referenced with index `None` is copied whole; ASE then reads its LAST image, the others the
    first -/
example (f0 f1 : Frame) :
    let h : Heap := { systems := [], objs := [], files := [(7, [f0, f1])] }
    dumpFrameE .ase .other [] h (7, none) 100 = .ok (h.writeFile 100 [f0, f1], f1)
    ∧ dumpFrameE .lammps .other [] h (7, none) 100 = .ok (h.writeFile 100 [f0, f1], f0) :=
  ⟨rfl, rfl⟩

/-- on every input the engine-blind `Vel.dumpFrame` (§6) accepts with an index, the engine-aware flow of CP2K,
    LAMMPS, ASE and TurtleMD reads the same frame (the statements of §6 carry over) -/
theorem dumpFrameE_agrees_with_dumpFrame (e : Engine) (top : List Nat) (h : Heap) (src i conf : Nat)
    (h2 : Heap) (fr : Frame) (he : e ≠ .gromacs)
    (hd : dumpFrame h (src, some i) conf = .ok (h2, fr)) :
    dumpFrameE e .other top h (src, some i) conf = .ok (h2, fr) := by
  unfold dumpFrame at hd
  split at hd
  · cases hd
  · rename_i frames hfr
    simp only at hd
    split at hd
    · cases hd
    · rename_i fr' hfr'
      cases hd
      cases e <;> simp_all [dumpFrameE, extractFrame, Heap.readFile_writeFile_self, readConf]

end FileFlow

/-! ## 12. LAMMPS: every atom is given the mass listed for ITS type (`get_atom_masses`)

Model: `Infretis/Model/VelExtra.lean` (`getAtomMasses`, `selMass`, `assignLoop`, `sortById`).  The `Vel.Setup.massIn` of
the LAMMPS engine IS the result of this function.  Finding `C16:lammps:masses-section-not-sorted`:
until commit 76f2ebe the rows of the `Masses` section were indexed by POSITION (`asIs` below, kept as the record);
the code now looks the row up by its type id (`repaired`). -/
section LammpsMasses
open Infretis.VelExtra

/-- **Finding `C16:lammps:masses-section-not-sorted`** (code before 76f2ebe): `Masses` lists type 2 (mass 16) before
    type 1 (mass 1), atom 1 has type 1, atom 2 type 2 — the positional lookup gives atom 1 the mass 16 and atom 2
    the mass 1; the code as it is now gives each atom the mass of its type. -/
theorem lammps_masses_unsorted_asIs_counterexample :
    let d : LammpsData := { nAtoms := 2, nTypes := 2, massRows := some [(2, 16), (1, 1)],
                            atoms := some [[1, 1, 1, 0, 0, 0, 0], [2, 1, 2, 0, 1, 0, 0]] }
    getAtomMasses .asIs .full d = .ok [16, 1]
    ∧ getAtomMasses .repaired .full d = .ok [1, 16] := by
  constructor <;> decide +kernel

/-- **Every atom gets the mass listed for its type** (code as it is now).  Whenever `get_atom_masses` returns, the
    result has one entry per announced atom, and the entry at position `p` — the atom with the `p`-th smallest id —
    is the mass of the `Masses` row whose id is that atom's type, wherever that row stands in the section and
    wherever the atom's row stands in the `Atoms` section. -/
theorem lammps_atom_gets_mass_of_its_type (style : AtomStyle) (d : LammpsData) (c : Nat)
    (rows : List (List Rat)) (mr : List (Rat × Rat)) (ms : List Rat)
    (hc : typeCol style = some c) (hat : d.atoms = some rows) (hmr : d.massRows = some mr)
    (hok : getAtomMasses .repaired style d = .ok ms) :
    ms.length = d.nAtoms
    ∧ ∀ (p : Nat) (row : List Rat) (t : Nat) (m : Rat), (sortById rows)[p]? = some row →
        row[c]? = some (t : Rat) → 1 ≤ t → t ≤ d.nTypes → ((t : Rat), m) ∈ mr → ms[p]? = some m := by
  obtain ⟨c', rows', mr', hc', hat', hmr', hlen, hloop⟩ := getAtomMasses_ok hok
  obtain rfl : c' = c := Option.some.inj (hc'.symm.trans hc)
  obtain rfl : rows' = rows := Option.some.inj (hat'.symm.trans hat)
  obtain rfl : mr' = mr := Option.some.inj (hmr'.symm.trans hmr)
  refine ⟨by simpa using assignLoop_length _ _ _ _ _ _ (by simp) hloop, ?_⟩
  intro p row t m hp hrow ht1 ht2 hmem
  have hplt : p < d.nAtoms := by
    have := (List.getElem?_eq_some_iff.mp hp).1
    rw [sortById_length] at this
    omega
  have htin : t ∈ List.range' 1 d.nTypes := by
    simp only [List.mem_range'_1]; omega
  obtain ⟨m', hm'⟩ := assignLoop_ok_sel _ _ _ _ _ _ hloop t htin
  rw [assignLoop_sets _ _ _ p t m' (by simp [hplt, hp, hrow]) hm' _ _ _ hloop (by simpa using hplt) htin,
    selMass_repaired_of_mem mr' t m m' hm' hmem]

example : ∃ ms, getAtomMasses .repaired .charge
    ({ nAtoms := 3, nTypes := 2, massRows := some [(2, 16), (1, 1)],
       atoms := some [[3, 1, 0, 0, 0, 0], [1, 2, 0, 0, 0, 0], [2, 1, 0, 0, 0, 0]] } : LammpsData) = .ok ms
    ∧ ms = [16, 1, 1] :=
  ⟨_, by decide +kernel, rfl⟩

/-- **Any order of the `Masses` rows.** Permuting the rows of the section changes nothing — neither the masses nor
    which error is raised. -/
theorem lammps_masses_rows_perm (style : AtomStyle) (d : LammpsData) (mr mr' : List (Rat × Rat))
    (h : mr.Perm mr') :
    getAtomMasses .repaired style { d with massRows := some mr }
      = getAtomMasses .repaired style { d with massRows := some mr' } := by
  unfold getAtomMasses
  simp only [assignLoop_perm h]

/-- **Any order of the `Atoms` rows** (distinct atom ids): the rows are sorted by id first, so the result is the
    same for every permutation of the section. -/
theorem lammps_atoms_rows_perm (v : Variant) (style : AtomStyle) (d : LammpsData) (rows rows' : List (List Rat))
    (h : rows.Perm rows') (hid : ∀ a ∈ rows, ∀ b ∈ rows, rowId a = rowId b → a = b) :
    getAtomMasses v style { d with atoms := some rows } = getAtomMasses v style { d with atoms := some rows' } := by
  unfold getAtomMasses
  simp only [h.length_eq, h.any_eq, sortById_perm_eq h hid]

example : List.Perm [[3, 1, 2, 0], [1, 1, 1, 0]] [[1, 1, 1, 0], [3, 1, 2, (0 : Rat)]]
    ∧ List.Perm [((2 : Rat), (16 : Rat)), (1, 1)] [(1, 1), (2, 16)] :=
  ⟨List.Perm.swap _ _ _, List.Perm.swap _ _ _⟩

/-- the function returns only when every type `1 … n_atom_types` has exactly ONE row in the section (a type
    without a row, or listed twice, is numpy's "shape mismatch" ValueError — also when no atom has that type) -/
theorem lammps_masses_ok_requires_one_row_per_type (style : AtomStyle) (d : LammpsData) (mr : List (Rat × Rat))
    (ms : List Rat) (hmr : d.massRows = some mr) (hok : getAtomMasses .repaired style d = .ok ms) :
    ∀ t, 1 ≤ t → t ≤ d.nTypes →
      ∃ m, (mr.filter (fun r => decide (r.1 = (t : Rat)))).map (·.2) = [m] := by
  obtain ⟨c, rows, mr', _, _, hmr', _, hloop⟩ := getAtomMasses_ok hok
  obtain rfl : mr' = mr := Option.some.inj (hmr'.symm.trans hmr)
  intro t ht1 ht2
  have htin : t ∈ List.range' 1 d.nTypes := by
    simp only [List.mem_range'_1]; omega
  obtain ⟨m, hm⟩ := assignLoop_ok_sel _ _ _ _ _ _ hloop t htin
  exact ⟨m, pickSingle_eq_ok.mp hm⟩

/-- the error decisions in the code's order: unsupported atom_style first (NotImplementedError), then a missing
    `atoms` / `atom types` header (ValueError), then a missing or one-row `Atoms` section (IndexError; so is a missing
    `Masses` section, which is not part of this statement) -/
theorem get_atom_masses_error_rule (v : Variant) (d : LammpsData) (style : AtomStyle) (c : Nat)
    (hc : typeCol style = some c) :
    getAtomMasses v .other d = .error .notImplemented
    ∧ ((d.nAtoms = 0 ∨ d.nTypes = 0) → getAtomMasses v style d = .error .value)
    ∧ (d.nAtoms ≠ 0 → d.nTypes ≠ 0 → d.atoms = none → getAtomMasses v style d = .error .index)
    ∧ (∀ row, d.nAtoms ≠ 0 → d.nTypes ≠ 0 → d.atoms = some [row] → getAtomMasses v style d = .error .index) := by
  refine ⟨rfl, ?_, ?_, ?_⟩
  · intro h
    simp [getAtomMasses, hc, h]
  · intro h1 h2 h3
    simp [getAtomMasses, hc, h1, h2, h3]
  · intro row h1 h2 h3
    simp [getAtomMasses, hc, h1, h2, h3]

/-- type 2 has no row (the section lists types 1 and 3) -/
def lammpsMissingTypeWitness : LammpsData :=
  { nAtoms := 2, nTypes := 2, massRows := some [(1, 1), (3, 16)], atoms := some [[1, 1, 1, 0], [2, 1, 2, 0]] }

example : getAtomMasses .repaired .full lammpsMissingTypeWitness = .error .value := by decide +kernel

end LammpsMasses

/-! ## 13. TurtleMD with `dim < 3`: the kinetic energy counts components the system does not have

OPEN finding `C16:turtlemd:dim-lt-3:kinetic-energy-counts-unused-components` (not repaired: the
repository's own test asserts non-zero unused components).  `modifyTurtleD .asIs` = the code as it is
(`codeVariantDim`), `.repaired` = kinetic energies over the engine's first `dim` components. -/
section TurtleDim
open Infretis.VelExtra

/-- the code as it is does not look at `dim`: it is `Vel.modifyVelocities` of the TurtleMD engine -/
theorem modifyTurtleD_asIs_eq (vk vr : Variant) (dim : Nat) (s : Setup) (src : Frame) (e : Option Rat)
    (zm : Option Bool) (sig : List Rat) (z : List (List Rat)) (ht : s.engine = .turtlemd) :
    modifyTurtleD codeVariantDim dim s src zm sig z = modifyVelocities vk vr s src e zm sig z := by
  simp [modifyTurtleD, codeVariantDim, modifyVelocities, ht, modifyNumpy]

/-- **What the code as it is reports, whatever the frame holds beyond `dim`.** The propagation overwrites only the
    first `dim` velocity components of the arrays it read, so frames of a path generated AFTER a regeneration keep
    that regeneration's unused components; then `kin_old` contains them too and `dek` is off by the DIFFERENCE of the
    unused components' energies (new draw minus the stale one) — noise of the order k_B·T per particle and unused
    component, never the change of the system's own degrees of freedom alone. -/
theorem turtlemd_asIs_dek_excess_general (dim : Nat) (s : Setup) (src : Frame) (zm : Option Bool) (sig : List Rat)
    (z : List (List Rat)) (ht : s.engine = .turtlemd) (hne : kineticEnergy (mass s) src.vel ≠ 0) :
    let r := modifyTurtleD .asIs dim s src zm sig z
    r.dek = Dek.val ((kineticEnergy (mass s) (r.frame.vel.take dim) - kineticEnergy (mass s) (src.vel.take dim))
                      + (kineticEnergy (mass s) (r.frame.vel.drop dim) - kineticEnergy (mass s) (src.vel.drop dim))) := by
  intro r
  have hr : r = modifyVelocities .asIs .asIs s src none zm sig z := modifyTurtleD_asIs_eq _ _ dim s src none zm sig z ht
  rw [hr, modifyVelocities_dek, if_neg (by simp [ht]), modifyVelocities_kinNew _ _ s _ _ _ _ _ (by simp [ht]),
    dekZeroRule, if_neg hne, kineticEnergy_take_drop (mass s) (modifyVelocities _ _ s src none zm sig z).frame.vel dim,
    kineticEnergy_take_drop (mass s) src.vel dim]
  congr 1
  ring

/-- **A frame written by the engine's propagation** (zeros beyond `dim`): `kin_new` is the energy of the first `dim`
    written components PLUS the energy of the components beyond `dim`, `kin_old` holds the first `dim` components
    only, so `dek` is too large by exactly the energy of the unused components that were drawn. -/
theorem turtlemd_asIs_dek_excess (dim : Nat) (s : Setup) (src : Frame) (zm : Option Bool) (sig : List Rat)
    (z : List (List Rat)) (ht : s.engine = .turtlemd)
    (hsrc : ∀ col ∈ src.vel.drop dim, ∀ x ∈ col, x = 0) :
    let r := modifyTurtleD .asIs dim s src zm sig z
    r.kinNew = kineticEnergy (mass s) (r.frame.vel.take dim) + kineticEnergy (mass s) (r.frame.vel.drop dim)
    ∧ r.kinOld = some (kineticEnergy (mass s) (src.vel.take dim))
    ∧ (kineticEnergy (mass s) (src.vel.take dim) ≠ 0 →
        r.dek = Dek.val ((kineticEnergy (mass s) (r.frame.vel.take dim) - kineticEnergy (mass s) (src.vel.take dim))
                          + kineticEnergy (mass s) (r.frame.vel.drop dim))) := by
  intro r
  have hr : r = modifyVelocities .asIs .asIs s src none zm sig z := modifyTurtleD_asIs_eq _ _ dim s src none zm sig z ht
  have hdrop : kineticEnergy (mass s) (src.vel.drop dim) = 0 := kineticEnergy_zero_cols _ _ hsrc
  have hold : kineticEnergy (mass s) src.vel = kineticEnergy (mass s) (src.vel.take dim) := by
    rw [kineticEnergy_take_drop (mass s) src.vel dim, hdrop, add_zero]
  refine ⟨?_, ?_, fun hne => ?_⟩
  · rw [hr, modifyVelocities_kinNew _ _ s _ _ _ _ _ (by simp [ht])]
    exact kineticEnergy_take_drop _ _ _
  · rw [hr, modifyVelocities_kinOld, if_neg (by simp [ht]), hold]
  · rw [turtlemd_asIs_dek_excess_general dim s src zm sig z ht (hold ▸ hne), hdrop, sub_zero]

example : kineticEnergy (mass ⟨.turtlemd, 1, 1, [1], []⟩) [[1 / 2], [0], [0]] ≠ 0 := by
  decide +kernel

/-- **Finding, concrete** (the shipped 1-D `double_well`: one particle, m = 1, `dim = 1`): the frame holds
    v = (1/2, 0, 0), the draw gives (1, 1, 1): the one degree of freedom goes from 1/8 to 1/2 (change 3/8), the code
    reports `kin_new = 3/2` and `dek = 11/8` — too large by 1, the energy of the two components the system does not
    have; the repaired variant reports 1/2 and 3/8. -/
theorem turtlemd_dek_counts_unused_components_counterexample :
    let s : Setup := { engine := .turtlemd, temperature := 1, boltzmann := 1, massIn := [1] }
    let src : Frame := { pos := [[-1], [0], [0]], vel := [[1 / 2], [0], [0]], box := none, ids := [1] }
    let a := modifyTurtleD codeVariantDim 1 s src (some false) [1] [[1], [1], [1]]
    let b := modifyTurtleD .repaired 1 s src (some false) [1] [[1], [1], [1]]
    a.kinNew = 3 / 2 ∧ a.dek = Dek.val (11 / 8)
    ∧ kineticEnergy [1] (a.frame.vel.take 1) = 1 / 2
    ∧ a.dek ≠ Dek.val (kineticEnergy [1] (a.frame.vel.take 1) - kineticEnergy [1] (src.vel.take 1))
    ∧ b.kinNew = 1 / 2 ∧ b.dek = Dek.val (3 / 8) ∧ b.frame = a.frame := by
  decide +kernel

/-- **dek, repaired variant.** `kin_new` is the kinetic energy of the first `dim` written components, `dek` its
    difference to that of the first `dim` components of the frame (`inf` when that is zero); what is written
    (positions, velocities, box, identities, the draw request) is what the code writes today. -/
theorem dek_consistent_turtlemd_dim_repaired (dim : Nat) (s : Setup) (src : Frame) (zm : Option Bool)
    (sig : List Rat) (z : List (List Rat)) :
    let r := modifyTurtleD .repaired dim s src zm sig z
    r.kinNew = kineticEnergy (mass s) (r.frame.vel.take dim)
    ∧ r.dek = (if kineticEnergy (mass s) (src.vel.take dim) = 0 then Dek.inf
               else Dek.val (kineticEnergy (mass s) (r.frame.vel.take dim)
                              - kineticEnergy (mass s) (src.vel.take dim)))
    ∧ r.frame = (modifyTurtleD .asIs dim s src zm sig z).frame
    ∧ r.request = (modifyTurtleD .asIs dim s src zm sig z).request := by
  simp [modifyTurtleD, dekZeroRule]

/-- for a 3-D system (`dim` ≥ the number of components in the file) the two variants coincide: nothing changes for
    the systems the rest of this file is about -/
theorem modifyTurtleD_repaired_eq_asIs_of_full_dim (dim : Nat) (s : Setup) (src : Frame) (zm : Option Bool)
    (sig : List Rat) (z : List (List Rat)) (ht : s.engine = .turtlemd)
    (hd : src.vel.length ≤ dim) (hz : z.length ≤ dim) :
    modifyTurtleD .repaired dim s src zm sig z = modifyTurtleD .asIs dim s src zm sig z := by
  have h1 : src.vel.take dim = src.vel := List.take_of_length_le hd
  have hlen : (modifyNumpy s src none zm sig z).frame.vel.length = z.length := by
    simp only [modifyNumpy, ht, drawVel]
    split <;> simp [resetMomentum]
  have h2 : (modifyNumpy s src none zm sig z).frame.vel.take dim = (modifyNumpy s src none zm sig z).frame.vel :=
    List.take_of_length_le (by rw [hlen]; exact hz)
  simp only [modifyTurtleD, h1, h2]
  simp [modifyNumpy, ht]

example : (⟨[[0]], [[1], [0], [0]], none, [1]⟩ : Frame).vel.length ≤ 3 := by decide +kernel

end TurtleDim

/-! ## 14. shapes and the generator: when the shape-consistent core (§§2–7) applies

`modifyVelocitiesS` (`Model/VelExtra.lean`) is the function the driver runs: numpy's broadcast decision between the
engine's mass vector (k, 1) and the frame's (n, 3) arrays, and the presence of `engine.rgen`, come first.
Every statement of §§2–7 about `modifyVelocities` is a statement about the real `modify_velocities` exactly on the
domain `k = n` (or ASE, whose masses come from the frame) with a generator — `modifyVelocitiesS_consistent`.
Read for every input ("`npart` = number of masses") `request_on_engine_stream` is false of the real
code when k ≠ n: `length_one_broadcast_counterexample`. -/
section Shapes
open Infretis.VelExtra

/-- **Domain of the core.** With a generator and matching atom counts (or ASE) the end-to-end function is the core. -/
theorem modifyVelocitiesS_consistent (vk vr : Variant) (s : Setup) (src : Frame) (e : Option Rat)
    (zm : Option Bool) (sig : List Rat) (z : List (List Rat))
    (hshape : s.engine = .ase ∨ (mass s).length = frameRows src) :
    modifyVelocitiesS vk vr true s src e zm sig z = .ok (modifyVelocities vk vr s src e zm sig z) := by
  rcases hshape with h | h
  · simp [modifyVelocitiesS, modifyVelocities, h]
  · cases hs : s.engine <;> simp [modifyVelocitiesS, modifyVelocities, hs, h]

/-- **numpy refuses.** k ≠ n and k ≠ 1 (not ASE): `modify_velocities` raises ValueError and writes nothing. -/
theorem modifyVelocitiesS_shape_error (vk vr : Variant) (s : Setup) (src : Frame) (e : Option Rat)
    (zm : Option Bool) (sig : List Rat) (z : List (List Rat))
    (hne : s.engine ≠ .ase) (h1 : (mass s).length ≠ frameRows src) (h2 : (mass s).length ≠ 1) :
    modifyVelocitiesS vk vr true s src e zm sig z = .error .shape := by
  cases hs : s.engine <;> simp_all [modifyVelocitiesS]

/-- **The headline statements, end to end, with the shape guard.** Whenever the real call returns on matching
    shapes: the request asks for as many particles as the FRAME has, on the engine's stream; `kin_new` is the energy
    of what was written; positions and identities are the frame's. -/
theorem headlines_shape_guarded (s : Setup) (src : Frame) (e : Option Rat) (zm : Option Bool) (sig : List Rat)
    (z : List (List Rat)) (r : Result)
    (hshape : s.engine = .ase ∨ (mass s).length = frameRows src)
    (hok : modifyVelocitiesS codeVariant codeVariant true s src e zm sig z = .ok r) :
    r = modifyVelocities codeVariant codeVariant s src e zm sig z
    ∧ r.request.stream = .engineRgen
    ∧ (s.engine ≠ .ase → r.request.npart = frameRows src)
    ∧ r.kinNew = kineticEnergy (mass s) r.frame.vel
    ∧ r.frame.pos = src.pos ∧ r.frame.ids = src.ids := by
  rw [modifyVelocitiesS_consistent _ _ s src e zm sig z hshape] at hok
  cases hok
  refine ⟨rfl, (request_on_engine_stream_all _ s src e zm sig z).1, ?_, kinNew_consistent_all _ s src e zm sig z,
    (positions_box_ids_preserved _ _ s src e zm sig z).1, (positions_box_ids_preserved _ _ s src e zm sig z).2.1⟩
  intro hne
  rw [request_on_engine_stream _ _ s src e zm sig z hne]
  rcases hshape with h | h
  · exact absurd h hne
  · exact h

example : (mass ⟨.gromacs, 300, 1, [2, 16], []⟩).length
    = frameRows ⟨[[0, 1], [0, 0], [0, 0]], [[1, 0], [0, 0], [0, 0]], some [9, 9, 9], [1, 2]⟩ := by decide +kernel

/-- **The length-1 broadcast** (GROMACS `masses=[2.0]` with a 2-atom frame, zero_momentum on; numpy semantics, no
    error): the request asks for 2 particles (the frame's count, not the mass list's), the call returns, and the
    "momentum reset" `vel -= Σ(m v)/m` leaves total momentum `(1 − n)·m·Σv ≠ 0`: draws (1, 0) and (0, 2) →
    velocities (0, −1), momentum −2 in x. -/
theorem length_one_broadcast_counterexample :
    let s : Setup := { engine := .gromacs, temperature := 300, boltzmann := 1, massIn := [2] }
    let src : Frame := { pos := [[0, 1], [0, 0], [0, 0]], vel := [[1, 0], [0, 0], [0, 0]], box := some [9, 9, 9],
                         ids := [1, 2] }
    ∃ r, modifyVelocitiesS codeVariant codeVariant true s src none (some true) [1] [[1, 0], [0, 2], [0, 0]] = .ok r
      ∧ r.request.npart = 2 ∧ (mass s).length = 1
      ∧ r.frame.vel = [[0, -1], [-2, 0], [0, 0]]
      ∧ momentum [2, 2] r.frame.vel = [-2, -4, 0] :=
  ⟨_, rfl, rfl, rfl, by decide +kernel, by decide +kernel⟩

/-- **Without `engine.rgen`.** GROMACS, CP2K, LAMMPS, TurtleMD raise ValueError and make no request; ASE returns —
    its draw goes to numpy's global state (`rng=None`), whatever else holds. -/
theorem no_rgen_behaviour (vk vr : Variant) (s : Setup) (src : Frame) (e : Option Rat) (zm : Option Bool)
    (sig : List Rat) (z : List (List Rat)) :
    (s.engine ≠ .ase → (mass s).length = frameRows src →
        modifyVelocitiesS vk vr false s src e zm sig z = .error .noRgen)
    ∧ (s.engine = .ase → ∃ r, modifyVelocitiesS vk vr false s src e zm sig z = .ok r
        ∧ r.request.stream = .numpyGlobal ∧ r.frame = (modifyVelocities vk vr s src e zm sig z).frame) := by
  constructor
  · intro hne h
    cases hs : s.engine <;> simp_all [modifyVelocitiesS]
  · intro ha
    simp only [modifyVelocitiesS, modifyVelocities, ha, Bool.false_eq_true, if_false]
    exact ⟨_, rfl, rfl, rfl⟩

end Shapes

/-! ## 15. the written velocities and their second moment, ASE included -/

/-- **ASE: written velocity = (sigP·z)/m** when zero momentum is off (`sigP` = `sqrt(m·units.kB·T)`). -/
theorem ase_vel_eq (vk vr : Variant) (s : Setup) (src : Frame) (e : Option Rat) (zm : Option Bool)
    (sigP : List Rat) (z : List (List Rat)) (ha : s.engine = .ase) (hz : zeroMomentumFlag .ase zm = false) :
    (modifyVelocities vk vr s src e zm sigP z).frame.vel = (drawVel sigP z).map (fun col => divCol col s.massIn) := by
  rw [modifyVelocities_vel, ha, hz, engineDraw, if_pos ha]
  rfl

example : zeroMomentumFlag .ase (some false) = false := by decide +kernel

/-- **All five engines: the written velocities without momentum reset.** -/
theorem vel_eq_sigma_z_all (vk vr : Variant) (s : Setup) (src : Frame) (e : Option Rat) (zm : Option Bool)
    (sig : List Rat) (z : List (List Rat)) (hz : zeroMomentumFlag s.engine zm = false) :
    (modifyVelocities vk vr s src e zm sig z).frame.vel =
      if s.engine = .ase then (drawVel sig z).map (fun col => divCol col s.massIn)
      else if s.engine = .lammps then (drawVel sig z).map (fun col => col.map (fun v => v / lammpsScale))
      else drawVel sig z := by
  rw [modifyVelocities_vel, hz]
  rfl

/-- **Composition (GROMACS, CP2K, TurtleMD): written v²·m = k_B·T·z², entry by entry.** If the scales numpy was
    handed square to the requested `σᵢ² = (1/β)(1/mᵢ)` (that is what `sqrt` means), every written column `w = σ·z`
    satisfies `wᵢ²·mᵢ = (kb·T)·zᵢ²`: with `⟨z²⟩ = 1` that is `⟨m v²⟩ = k_B·T` per component. -/
theorem written_v_sq_mass_eq_kT_z_sq (vk vr : Variant) (s : Setup) (src : Frame) (e : Option Rat)
    (zm : Option Bool) (sig : List Rat) (z : List (List Rat))
    (hz : zeroMomentumFlag s.engine zm = false) (hne : s.engine ≠ .ase) (hnl : s.engine ≠ .lammps)
    (hT : s.temperature * kbBeta s ≠ 0) (hm : ∀ m ∈ mass s, m ≠ 0)
    (hsig : mulCol sig sig = sigmaSq (beta s) (mass s))
    (hlen : ∀ c ∈ z, c.length = (mass s).length) :
    (modifyVelocities vk vr s src e zm sig z).frame.vel.map (fun w => mulCol (mulCol w w) (mass s))
      = z.map (fun c => (mulCol c c).map (fun x => kbBeta s * s.temperature * x)) := by
  rw [vel_eq_sigma_z s src e sig z hz hne, if_neg hnl]
  simp only [drawVel, List.map_map]
  apply List.map_congr_left
  intro c hc
  simp only [Function.comp]
  rw [sq_mass_col, hsig, mulCol_sigmaSq _ _ hm, one_div_beta s hT]
  exact mulCol_const_left _ _ _ (by rw [mulCol_eq_zipWith, List.length_zipWith, Nat.min_self, hlen c hc])

example : mulCol [1 / 2, 1 / 4] [1 / 2, 1 / 4] = sigmaSq 4 [1, 4] := by
  decide +kernel

/-- **Composition, ASE:** the written velocity `w = (sigP·z)/m` with `sigP² = m·units.kB·T` has `w²·m = units.kB·T·z²`. -/
theorem ase_written_v_sq_mass (T m sP zz : Rat) (hm : m ≠ 0) (hs : sP * sP = m * (kbAseUnits * T)) :
    (sP * zz / m) * (sP * zz / m) * m = kbAseUnits * T * (zz * zz) :=
  scaled_sq_mul_mass (kbAseUnits * T) m sP zz hm hs

example : ((2 : Rat) * 3 / 4) * (2 * 3 / 4) * 4 = 1 * (3 * 3) ∧ (2 : Rat) * 2 = 4 * 1 := by decide +kernel

/-- **Every regeneration of a move, all five engines:** with zero momentum not requested by the configured
    `tis_set`, what is written is the untouched draw in the engine's form (ASE: `(sigP·z)/m`; LAMMPS: `σ·z/scale`). -/
theorem move_unprojected_all (vk vr : Variant) (s : Setup) (mv : Infretis.VelRoute.Move)
    (ts : Infretis.VelRoute.Settings) (hasSeg : Bool) (inputs : List Infretis.VelRoute.CallInput) (rs : List Result)
    (h : Infretis.VelRoute.moveRegenerations vk vr s mv ts hasSeg inputs = .ok rs)
    (hflag : Infretis.VelRoute.effectiveZeroMomentum s.engine ts = false) :
    ∀ r ∈ rs, ∃ i ∈ inputs, r.frame.vel =
      if s.engine = .ase then (drawVel i.sig i.z).map (fun col => divCol col s.massIn)
      else if s.engine = .lammps then (drawVel i.sig i.z).map (fun col => col.map (fun v => v / lammpsScale))
      else drawVel i.sig i.z := by
  intro r hr
  obtain ⟨i, hi, rfl⟩ := mem_moveRegenerations h hr
  exact ⟨i, hi, vel_eq_sigma_z_all vk vr s i.src i.sysEkin _ i.sig i.z hflag⟩


end Infretis.C16
