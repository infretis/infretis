import Infretis.Lemmas.FsRestart
import Infretis.Lemmas.FsCheck
/-!
# C08 — a crash at any point leaves a restartable, consistent state

Model: `Infretis/Model/Fs.lean` (effect list of one step of `treat_output` / `write_toml`, crash =
prefix of the effect list + optional half-written effect, `restartOutcome` = `setup_config` +
`setup_internal`).

All theorems are for EVERY consistent state (`Inv`), EVERY step outcome (`WF`: any number of
accepted ensembles ≤ n-1, any number of trajectory files, delete_old on/off/all, any queue of
old paths), EVERY crash point `(k, half)`.

The model mirrors the code as it is NOW (after the fix commits ba0d066, 05f8082, e7b75fb); the
switches `Variant.asIs` and `cleanOnRestart := false` keep the historical behaviour as a record:

* `write_toml` (temp file + os.replace): the restart starts at EVERY crash point — `crash_restartable`.
  Historical truncation in place: exactly one effect index per step (both sub-states) left no
  restartable state — `crash_in_window_raises`, `crash_restartable_counterexample`,
  `crash_restartable_partial`.
* the data row still is appended before the restart file is rewritten, but a restart's
  `clean_data_file` drops rows of still active paths and a torn last row: at EVERY crash point the
  restored state satisfies the full invariant (`crash_restore_inv`) and rows stay whole, unique and
  disjoint from the live set for every continuation with arbitrary further crashes + restarts
  (`continue_rows_unique`).  Historical restart without cleaning: `continue_rows_unique_counterexample`,
  `crash_restore_inv_partial`, `continue_rows_unique_partial`.
* delete_old_all removes every leftover entry of `accepted/` before the rmdir, so stale files of an
  interrupted and redone store no longer break it: `delete_block_rmdir_safe` (+ concrete example).
-/
namespace Infretis.C08
open Infretis.Fs

/-- to a restart from the record `r` the crash leaves, the disk is a consistent state `(m₁, d₁)`
    with that record — the state before the step or the one after it: same restart.toml, every
    live path of `m₁` completely stored.  Whenever the code cleans on restart or the crash point is
    outside the row window, the restart also works on the data file of `d₁`; and the data file of
    `d₁` is complete if the one before the step was. -/
theorem crash_state (cfg : Cfg) (M : Manifest) (m : Mem) (c : Choice) (d : Disk)
    (hI : Inv M m d) (hW : WF cfg M m c d) (k : Nat) (half : Bool) (r : Rec)
    (hr : (crashStep cfg m c d k half).restart = .complete r) :
    ∃ m₁ d₁, Inv M m₁ d₁ ∧ d₁.restart = .complete r ∧ Resembles (crashStep cfg m c d k half) m₁ d₁
      ∧ (cfg.cleanOnRestart = true ∨ inRowWindow cfg m c d k half = false →
          (restoreDisk cfg r (crashStep cfg m c d k half)).data = d₁.data)
      ∧ (Cover m c → Complete m d → Complete m₁ d₁) := by
  rcases crash_cases hI hW k half with ⟨_, hS, hdata⟩ | ⟨_, he⟩ | ⟨_, ht⟩
  · have hr0 : d.restart = .complete r := hS.restart ▸ hr
    exact ⟨m, d, hI, hr0, hS, hdata r hr0, fun _ hC => hC⟩
  · rw [he] at hr ⊢
    have hI' := hI.step hW
    exact ⟨_, _, hI', hr, Resembles.refl hI', fun _ => hI'.restoreDisk_data cfg hr,
      fun hcov hC => step_complete hI hW hcov hC⟩
  · rcases ht with ht | ht <;> rw [ht] at hr <;> cases hr

/-- every crash point: the restart starts (from the old record, or from the new one), or — inside
    the truncation window of the as-is / renamed-while-open `write_toml` — raises -/
theorem crash_outcome (cfg : Cfg) (M : Manifest) (m : Mem) (c : Choice) (d : Disk)
    (hI : Inv M m d) (hW : WF cfg M m c d) (k : Nat) (half : Bool) :
    (∃ r, restartOutcome M .restartToml (crashStep cfg m c d k half) = .starts r)
    ∨ (inTruncWindow cfg m c d k = true
        ∧ restartOutcome M .restartToml (crashStep cfg m c d k half) = .raises) := by
  rcases crash_cases hI hW k half with ⟨_, hS, _⟩ | ⟨_, he⟩ | ⟨hw, ht⟩
  · obtain ⟨r, hr, _⟩ := hI.record
    exact Or.inl ⟨r, hS.starts hI hr⟩
  · rw [he]
    exact Or.inl ⟨_, (Resembles.refl (hI.step hW)).starts (hI.step hW) (run_step_restart cfg m c d)⟩
  · exact Or.inr ⟨hw, outcome_raises_of_torn M _ ht⟩

/-- **crash_restartable** (repaired `write_toml`: temp file + os.replace): after a crash at ANY
    point of ANY step the restart starts. -/
theorem crash_restartable (cfg : Cfg) (M : Manifest) (m : Mem) (c : Choice) (d : Disk)
    (hI : Inv M m d) (hW : WF cfg M m c d) (hv : cfg.variant = .repaired) (k : Nat) (half : Bool) :
    ∃ r, restartOutcome M .restartToml (crashStep cfg m c d k half) = .starts r := by
  rcases crash_outcome cfg M m c d hI hW k half with h | ⟨h, _⟩
  · exact h
  · simp [inTruncWindow, hv] at h

/-- **crash_restartable_partial** (any `write_toml` variant, in particular the historical truncating
    one): the restart starts at every crash point outside the truncation window (`inTruncWindow`:
    `k = restartIdx + 1` as-is, `k = restartIdx + 2` renamed while open, empty when repaired). -/
theorem crash_restartable_partial (cfg : Cfg) (M : Manifest) (m : Mem) (c : Choice) (d : Disk)
    (hI : Inv M m d) (hW : WF cfg M m c d) (k : Nat) (half : Bool)
    (hwin : inTruncWindow cfg m c d k = false) :
    ∃ r, restartOutcome M .restartToml (crashStep cfg m c d k half) = .starts r := by
  rcases crash_outcome cfg M m c d hI hW k half with h | ⟨hw, _⟩
  · exact h
  · rw [hwin] at hw; cases hw

/-- the window is sharp: as-is, a crash between the truncating open and the completed write of
    restart.toml ALWAYS leaves a state from which the restart raises (both sub-states). -/
theorem crash_in_window_raises (cfg : Cfg) (M : Manifest) (m : Mem) (c : Choice) (d : Disk)
    (hI : Inv M m d) (hW : WF cfg M m c d) (k : Nat) (half : Bool)
    (hwin : inTruncWindow cfg m c d k = true) :
    restartOutcome M .restartToml (crashStep cfg m c d k half) = .raises :=
  outcome_raises_of_torn M _ (crash_in_window cfg m c d k half hwin)

/-- **crash_paths_present**: whatever complete record a crash leaves in restart.toml, every path
    it references loads: traj.txt, order.txt, energy.txt and every referenced trajectory file are
    completely on disk (with the content stored when the path was accepted). -/
theorem crash_paths_present (cfg : Cfg) (M : Manifest) (m : Mem) (c : Choice) (d : Disk)
    (hI : Inv M m d) (hW : WF cfg M m c d) (k : Nat) (half : Bool) (r : Rec)
    (hr : (crashStep cfg m c d k half).restart = .complete r) :
    ∀ a ∈ r.active, ∃ p, loadPath M (crashStep cfg m c d k half).files a = some p ∧ p.pn = a
      ∧ pathOK (crashStep cfg m c d k half).files p = true := by
  obtain ⟨_, _, hI₁, hr₁, hS, _⟩ := crash_state cfg M m c d hI hW k half r hr
  exact hS.active_load hI₁ hr₁

/-- **crash_no_live_file_lost**: at every crash point every path that was live when the step
    began still has all its files, and as soon as the new record is in place so has every path
    of the new live set. -/
theorem crash_no_live_file_lost (cfg : Cfg) (M : Manifest) (m : Mem) (c : Choice) (d : Disk)
    (hI : Inv M m d) (hW : WF cfg M m c d) (k : Nat) (half : Bool) :
    (∀ p ∈ m.live, pathOK (crashStep cfg m c d k half).files p = true)
    ∧ ((stepEffs cfg m c d).length ≤ k →
        (crashStep cfg m c d k half).restart = .complete (newRec m c)
        ∧ ∀ p ∈ c.newLive, pathOK (crashStep cfg m c d k half).files p = true) := by
  refine ⟨old_live_safe hI hW k half, fun hk => ?_⟩
  rw [crashStep_done cfg m c d k half hk]
  exact ⟨run_step_restart cfg m c d, fun p hp => ((hI.step hW).live_ok p hp).1⟩

/-- a completed step re-establishes the invariant -/
theorem step_inv (cfg : Cfg) (M : Manifest) (m : Mem) (c : Choice) (d : Disk)
    (hI : Inv M m d) (hW : WF cfg M m c d) :
    Inv M (stepMem cfg m c d) (run (stepEffs cfg m c d) d) :=
  hI.step hW

/-- the state a restart works on: memory restored from the record, data file cleaned by
    `clean_data_file` (if the code does that).  Whenever the code cleans on restart OR the crash
    point is outside the row window, that state satisfies the full invariant. -/
theorem crash_restore_inv_gen (cfg : Cfg) (M : Manifest) (m : Mem) (c : Choice) (d : Disk)
    (hI : Inv M m d) (hW : WF cfg M m c d) (k : Nat) (half : Bool)
    (hok : cfg.cleanOnRestart = true ∨ inRowWindow cfg m c d k half = false) (r : Rec)
    (hr : (crashStep cfg m c d k half).restart = .complete r) :
    Inv M (restore M r (crashStep cfg m c d k half).files)
      (restoreDisk cfg r (crashStep cfg m c d k half)) := by
  obtain ⟨_, _, hI₁, hr₁, hS, hdata, _⟩ := crash_state cfg M m c d hI hW k half r hr
  exact hS.restore_inv cfg hI₁ hr₁ (hdata hok)

/-- **crash_restore_inv** (the code as it is now: `clean_data_file` on restart): after a crash at
    ANY point of ANY step — including the window in which the data row is written and the restart
    file is not — whatever complete record is on disk, the state a restart works on satisfies the
    full invariant: all paths loaded, data rows whole, unique and disjoint from the live set. -/
theorem crash_restore_inv (cfg : Cfg) (M : Manifest) (m : Mem) (c : Choice) (d : Disk)
    (hI : Inv M m d) (hW : WF cfg M m c d) (hclean : cfg.cleanOnRestart = true) (k : Nat) (half : Bool)
    (r : Rec) (hr : (crashStep cfg m c d k half).restart = .complete r) :
    Inv M (restore M r (crashStep cfg m c d k half).files)
      (restoreDisk cfg r (crashStep cfg m c d k half)) :=
  crash_restore_inv_gen cfg M m c d hI hW k half (Or.inl hclean) r hr

/-- **crash_restore_inv_partial** (historical restart without `clean_data_file`): the same outside
    the row window. -/
theorem crash_restore_inv_partial (cfg : Cfg) (M : Manifest) (m : Mem) (c : Choice) (d : Disk)
    (hI : Inv M m d) (hW : WF cfg M m c d) (k : Nat) (half : Bool)
    (hwin : inRowWindow cfg m c d k half = false) (r : Rec)
    (hr : (crashStep cfg m c d k half).restart = .complete r) :
    Inv M (restore M r (crashStep cfg m c d k half).files)
      (restoreDisk cfg r (crashStep cfg m c d k half)) :=
  crash_restore_inv_gen cfg M m c d hI hW k half (Or.inr hwin) r hr

/-- everything that can happen after a (re)start: completed steps, and crashes followed by a
    restart from the record on disk — any number of them, in any order (double crashes, a crash
    right after a restart, …).  With `clean_data_file` every crash point is allowed; without it
    only those outside the row window. -/
inductive Continues (cfg : Cfg) (M : Manifest) : Mem → Disk → Mem → Disk → Prop
  | refl (m : Mem) (d : Disk) : Continues cfg M m d m d
  | step {m d m' d'} (c : Choice) (hW : WF cfg M m c d)
      (h : Continues cfg M (stepMem cfg m c d) (run (stepEffs cfg m c d) d) m' d') :
      Continues cfg M m d m' d'
  | crashRestart {m d m' d'} (c : Choice) (hW : WF cfg M m c d) (k : Nat) (half : Bool) (r : Rec)
      (hok : cfg.cleanOnRestart = true ∨ inRowWindow cfg m c d k half = false)
      (hr : (crashStep cfg m c d k half).restart = .complete r)
      (h : Continues cfg M (restore M r (crashStep cfg m c d k half).files)
            (restoreDisk cfg r (crashStep cfg m c d k half)) m' d') :
      Continues cfg M m d m' d'

theorem continue_inv (cfg : Cfg) (M : Manifest) {m d m' d'} (hI : Inv M m d)
    (h : Continues cfg M m d m' d') : Inv M m' d' := by
  induction h with
  | refl => exact hI
  | step c hW _ ih => exact ih (hI.step hW)
  | crashRestart c hW k half r hok hr _ ih =>
    exact ih (crash_restore_inv_gen cfg M _ c _ hI hW k half hok r hr)

/-- **continue_rows_unique** (the code as it is now): crash at ANY point of ANY step, restart
    from whatever complete record is on disk, continue in ANY way (steps, further crashes at any
    point + restarts): the data file has whole rows only, every path at most once, and no live
    path.  (The UPPER bound only — `rows_unique_not_exactly_once_counterexample`; that every
    replaced path HAS its row is `script_rows_exactly_once`, under `Cover`.) -/
theorem continue_rows_unique (cfg : Cfg) (M : Manifest) (m : Mem) (c : Choice) (d : Disk)
    (hI : Inv M m d) (hW : WF cfg M m c d) (hclean : cfg.cleanOnRestart = true) (k : Nat) (half : Bool)
    (r : Rec) (hr : (crashStep cfg m c d k half).restart = .complete r) (m' : Mem) (d' : Disk)
    (hc : Continues cfg M (restore M r (crashStep cfg m c d k half).files)
            (restoreDisk cfg r (crashStep cfg m c d k half)) m' d') :
    d'.data.torn = false ∧ d'.data.garbled = 0 ∧ d'.data.rows.Nodup
      ∧ ∀ p ∈ d'.data.rows, p ∉ pns m'.live :=
  (rowsOK_iff _ _).1 (continue_inv cfg M (crash_restore_inv cfg M m c d hI hW hclean k half r hr) hc).rows

/-- **continue_rows_unique_partial** (historical restart without `clean_data_file`): the same for
    crash points outside the row window. -/
theorem continue_rows_unique_partial (cfg : Cfg) (M : Manifest) (m : Mem) (c : Choice) (d : Disk)
    (hI : Inv M m d) (hW : WF cfg M m c d) (k : Nat) (half : Bool)
    (hwin : inRowWindow cfg m c d k half = false) (r : Rec)
    (hr : (crashStep cfg m c d k half).restart = .complete r) (m' : Mem) (d' : Disk)
    (hc : Continues cfg M (restore M r (crashStep cfg m c d k half).files)
            (restoreDisk cfg r (crashStep cfg m c d k half)) m' d') :
    d'.data.torn = false ∧ d'.data.garbled = 0 ∧ d'.data.rows.Nodup
      ∧ ∀ p ∈ d'.data.rows, p ∉ pns m'.live :=
  (rowsOK_iff _ _).1
    (continue_inv cfg M (crash_restore_inv_partial cfg M m c d hI hW k half hwin r hr) hc).rows

/-- **continue_reissues_inflight**: the record a crash leaves behind is the one of the last
    completed step (old or new), so the jobs re-issued first after the restart (`locked0`, in
    order) are exactly the in-flight jobs recorded at that step. -/
theorem continue_reissues_inflight (cfg : Cfg) (M : Manifest) (m : Mem) (c : Choice) (d : Disk)
    (hI : Inv M m d) (hW : WF cfg M m c d) (k : Nat) (half : Bool) (r : Rec) (workers : Nat)
    (hr : (crashStep cfg m c d k half).restart = .complete r) :
    (d.restart = .complete r ∧ k < (stepEffs cfg m c d).length
      ∨ r = newRec m c ∧ reissued r workers = c.locked'.take workers) := by
  rcases crash_cases hI hW k half with ⟨hk, hS, _⟩ | ⟨_, he⟩ | ⟨_, ht⟩
  · exact Or.inl ⟨hS.restart ▸ hr, hk⟩
  · rw [he, run_step_restart cfg m c d] at hr
    cases hr
    exact Or.inr ⟨rfl, rfl⟩
  · rcases ht with ht | ht <;> rw [ht] at hr <;> cases hr

/-! ## concrete witnesses: non-vacuity of the hypotheses and the counterexamples -/

namespace Witness

def p0 : PathInfo := { pn := 0, cid := 1, files := [(10, 100)] }
def p1 : PathInfo := { pn := 1, cid := 2, files := [(20, 200)] }
def p2 : PathInfo := { pn := 2, cid := 3, files := [(30, 300)] }
def p3 : PathInfo := { pn := 3, cid := 9, files := [(40, 400), (41, 410)] }

def filesOf (p : PathInfo) : Files :=
  [(.pdir p.pn, .dir), (.acc p.pn, .dir), (.order p.pn, .complete p.cid), (.traj p.pn, .complete p.cid),
   (.energy p.pn, .complete p.cid)] ++ p.files.map (fun nc => (.tfile p.pn nc.1, .complete nc.2))

def M : Manifest := fun c =>
  if c = 1 then some [10] else if c = 2 then some [20] else if c = 3 then some [30]
  else if c = 9 then some [40, 41] else none

def r0 : Rec := { cstep := 1, restartedFrom := none, active := [0, 1, 2], trajNum := 3, locked := [] }

/-- three live paths, one completed step, the worker has just produced two trajectory files -/
def d0 : Disk :=
  { files := [(.wfile 40, .complete 400), (.wfile 41, .complete 410)] ++ filesOf p0 ++ filesOf p1 ++ filesOf p2
    data := { rows := [], garbled := 0, torn := false }
    restart := .complete r0
    tmp := .absent }

def m0 : Mem := { cstep := 1, restartedFrom := none, live := [p0, p1, p2], trajNum := 3, olds := [], locked := [] }

/-- a shooting move in ensemble 1 is accepted: path 1 is replaced by path 3 -/
def c0 : Choice :=
  { accs := [{ old := p1, cid := 9, files := [(40, 400), (41, 410)] }]
    newLive := [p0, p3, p2], locked' := [], inc := true, halfRows := 0, halfTorn := true }

/-- the code before ba0d066 / 05f8082: truncating write_toml, no clean_data_file -/
def cfgAsIs : Cfg := { n := 4, deleteOld := true, deleteAll := true, variant := .asIs, cleanOnRestart := false }
/-- the code as it is now (defaults: temp file + os.replace, clean_data_file on restart) -/
def cfgRep : Cfg := { n := 4, deleteOld := true, deleteAll := true }

theorem inv0 : Inv M m0 d0 := invB_sound M m0 d0 (by decide +kernel)

theorem wf0 (cfg : Cfg) (hn : cfg.n = 4) : WF cfg M m0 c0 d0 where
  old_live := by decide +kernel
  old_nodup := by decide +kernel
  names_nodup := by decide +kernel
  sources := by decide +kernel
  few := by rw [hn]; decide +kernel
  new_live := (wfB_sound cfgRep M m0 c0 d0 (by decide +kernel)).new_live
  new_nodup := by decide +kernel
  manifest := by decide +kernel
  final := by intro h; cases h

end Witness

open Witness in
/-- the hypotheses of all theorems above are satisfiable, and the step is not trivial: 14 effects -/
example : Inv M m0 d0 ∧ WF cfgAsIs M m0 c0 d0 ∧ WF cfgRep M m0 c0 d0
    ∧ (stepEffs cfgAsIs m0 c0 d0).length = 14 ∧ restartIdx cfgAsIs m0 c0 d0 = 12 :=
  ⟨inv0, wf0 _ rfl, wf0 _ rfl, by decide +kernel, by decide +kernel⟩

open Witness in
/-- **crash_restartable_counterexample** (historical truncating `write_toml`): a crash right after
    `open("./restart.toml","wb")` (k = 13, file empty) or half-way through the dump (k = 13, half)
    leaves a state from which `setup_config("restart.toml")` raises; one effect earlier and one
    later the restart starts. -/
theorem crash_restartable_counterexample :
    restartOutcome M .restartToml (crashStep cfgAsIs m0 c0 d0 13 false) = .raises
    ∧ restartOutcome M .restartToml (crashStep cfgAsIs m0 c0 d0 13 true) = .raises
    ∧ restartOutcome M .restartToml (crashStep cfgAsIs m0 c0 d0 12 true) = .starts r0
    ∧ restartOutcome M .restartToml (crashStep cfgAsIs m0 c0 d0 14 false) = .starts (newRec m0 c0)
    ∧ inTruncWindow cfgAsIs m0 c0 d0 13 = true := by
  decide +kernel

open Witness in
/-- the repaired variant at the corresponding crash points (temp file empty / half written /
    complete but not yet renamed): the restart starts from the old record -/
example : restartOutcome M .restartToml (crashStep cfgRep m0 c0 d0 13 false) = .starts r0
    ∧ restartOutcome M .restartToml (crashStep cfgRep m0 c0 d0 13 true) = .starts r0
    ∧ restartOutcome M .restartToml (crashStep cfgRep m0 c0 d0 14 false) = .starts r0
    ∧ restartOutcome M .restartToml (crashStep cfgRep m0 c0 d0 15 false) = .starts (newRec m0 c0) := by
  decide +kernel

open Witness in
/-- **crash_renamed_before_flush_counterexample** (a seeded variant, not the code): if
    `os.replace(tmp, "restart.toml")` runs while the temp file is still open, the TOML is still in
    the write buffer: a crash right after the rename (k = 14: "after effect 13") leaves an empty
    restart.toml, a partial flush a half-written one; before the rename and after the close the
    restart starts. -/
theorem crash_renamed_before_flush_counterexample :
    let cfg : Cfg := { cfgRep with variant := .renamedOpen }
    restartOutcome M .restartToml (crashStep cfg m0 c0 d0 13 false) = .starts r0
    ∧ restartOutcome M .restartToml (crashStep cfg m0 c0 d0 14 false) = .raises
    ∧ restartOutcome M .restartToml (crashStep cfg m0 c0 d0 14 true) = .raises
    ∧ restartOutcome M .restartToml (crashStep cfg m0 c0 d0 15 false) = .starts (newRec m0 c0)
    ∧ inTruncWindow cfg m0 c0 d0 14 = true := by
  decide +kernel

open Witness in
/-- **continue_rows_unique_counterexample** (historical restart WITHOUT `clean_data_file`, kept as
    record of the repaired finding): crash after the data row of the replaced path 1 has been
    appended and before restart.toml is rewritten (k = 12).  The restart starts from the old
    record, in which path 1 is still live while its row is already in the data file; redoing the
    step (the worker produces the same trajectory files again, the move is accepted again) appends
    the row a second time. -/
theorem continue_rows_unique_counterexample :
    let d' := restoreDisk cfgAsIs r0 (crashStep cfgAsIs m0 c0 d0 12 false)
    let m' := restore M r0 d'.files
    let d'' : Disk := { d' with files := (d'.files.set (.wfile 40) (.complete 400)).set (.wfile 41) (.complete 410) }
    inRowWindow cfgAsIs m0 c0 d0 12 false = true
    ∧ restartOutcome M .restartToml d' = .starts r0
    ∧ rowsOK d'.data r0.active = false
    ∧ (run (stepEffs cfgAsIs m' c0 d'') d'').data.rows = [1, 1] := by
  decide +kernel

open Witness in
/-- the same crash point with the code as it is now: `clean_data_file` drops the row of the still
    active path 1 on restart; redoing the step writes it once.  Also a torn row (k = 11, half) is
    dropped. -/
example :
    let d' := restoreDisk cfgRep r0 (crashStep cfgRep m0 c0 d0 12 false)
    let m' := restore M r0 d'.files
    let d'' : Disk := { d' with files := (d'.files.set (.wfile 40) (.complete 400)).set (.wfile 41) (.complete 410) }
    inRowWindow cfgRep m0 c0 d0 12 false = true
    ∧ (crashStep cfgRep m0 c0 d0 12 false).data.rows = [1]
    ∧ rowsOK d'.data r0.active = true
    ∧ (run (stepEffs cfgRep m' c0 d'') d'').data.rows = [1]
    ∧ (crashStep cfgRep m0 c0 d0 11 true).data.torn = true
    ∧ (restoreDisk cfgRep r0 (crashStep cfgRep m0 c0 d0 11 true)).data = d0.data := by
  decide +kernel

/-- **delete_block_rmdir_safe** (since e7b75fb): with delete_old_all, when the delete block reaches
    `os.rmdir(load/pn/accepted)` no entry of that directory exists any more — on ANY disk, in
    particular one on which a store that was interrupted by a crash and redone after the restart
    left a stale trajectory file that is not part of the path's `adress`. -/
theorem delete_block_rmdir_safe (cfg : Cfg) (o : Old) (d : Disk) (h : cfg.deleteAll = true) :
    ∃ pre, delEffs cfg o d = pre ++ [.rmdir (.acc o.pn), .rmdir (.pdir o.pn)]
      ∧ ∀ n, (run pre d).files.get (.tfile o.pn n) = .absent := by
  refine ⟨o.names.map (fun n => Effect.remove (.tfile o.pn n))
      ++ delAllRemoves o (run (o.names.map (fun n => Effect.remove (.tfile o.pn n))) d), ?_, ?_⟩
  · simp [delEffs, h, List.append_assoc]
  · intro n
    rw [run_append]
    exact delAll_leaves_accepted_empty o _ n

open Witness in
/-- a crash inside `_move_path` (k = 9: first trajectory file of path 3 moved, second not), restart,
    the redo stores path 3 under other file names (50, 51): file 40 stays behind in
    load/3/accepted.  When path 3 is deleted later the block removes it before the rmdir. -/
example :
    let d' := crashStep cfgRep m0 c0 d0 9 false
    let c1 : Choice := { c0 with accs := [{ old := p1, cid := 9, files := [(50, 400), (51, 410)] }] }
    let d'' : Disk := { d' with files := (d'.files.set (.wfile 50) (.complete 400)).set (.wfile 51) (.complete 410) }
    let d3 := run (stepEffs cfgRep (restore M r0 d'.files) c1 d'') d''
    d'.files.get (.tfile 3 40) = .complete 400
    ∧ d3.files.get (.tfile 3 40) = .complete 400       -- stale, not in the new path's adress
    ∧ Effect.remove (.tfile 3 40) ∈ delEffs cfgRep { pn := 3, names := [50, 51] } d3
    ∧ (run (delEffs cfgRep { pn := 3, names := [50, 51] } d3) d3).files.get (.tfile 3 40) = .absent := by
  decide +kernel

/-! ## the restart procedure has effects of its own; arbitrary life cycles of the main process

`Model/FsRestart.lean`: `restartRun` = setup_config (restart branch) + clean_data_file +
setup_internal + the initiation loop, as outcome AND effect list; `runScript` = any sequence of
worker output, completed steps, deaths at any point of a step, restart attempts that die at any
point of the restart procedure, and restarts that get through.  This is the function the driver
runs (`script`, `rcrash`). -/

/-- `restartRun` decides exactly like `restartOutcome` (the atomic restart of `Model/Fs.lean`) -/
theorem restartRun_agrees (cfg : Cfg) (M : Manifest) (x : RDisk) (jobs : Nat) :
    (restartRun cfg M x jobs).1 = restartOutcome M .restartToml x.d :=
  restartRun_outcome cfg M x jobs

/-- what the property demands of a state.  Alive: memory and disk are consistent (`Inv`: complete
    record, every live path completely stored and loadable, data rows whole / unique / disjoint from
    the live set) and no temp file of the data file lies around.  Dead: a restart from what is on
    disk starts, and the state it works on is consistent in the same sense. -/
def Good (cfg : Cfg) (M : Manifest) : Option Mem → RDisk → Prop
  | some m, x => Inv M m x.d ∧ x.dtmp = .absent
  | none, x => ∃ r, restartOutcome M .restartToml x.d = .starts r
      ∧ Inv M (restore M r x.d.files) (restoreDisk cfg r x.d) ∧ tmpOK x r.active = true

/-- the outcome of the job treated by a step / interrupted by a crash is well formed (`WF`) in the
    state it is applied to -/
def EventWF (cfg : Cfg) (M : Manifest) (s : PState) : Event → Prop
  | .step c => ∀ m, s.mem = some m → WF cfg M m c s.x.d
  | .crash c _ _ => ∀ m, s.mem = some m → WF cfg M m c s.x.d
  | _ => True

def ScriptWF (cfg : Cfg) (M : Manifest) : PState → List Event → Prop
  | _, [] => True
  | s, e :: es => EventWF cfg M s e ∧ ScriptWF cfg M (runEvent cfg M s e) es

/-- **restart_crash_good**: a restart attempt that dies at ANY point `(k, half)` of the restart
    procedure (before / after the open of the data file's temp file, half-way through writing it,
    before / after the `os.replace`, between the worker directories) leaves a state from which the
    next restart starts from the SAME record, loads the same paths and works on the same cleaned data
    file; a leftover temp file exists only while cleaning is still due. -/
theorem restart_crash_good (cfg : Cfg) (M : Manifest) (x : RDisk) (hclean : cfg.cleanOnRestart = true)
    (r : Rec) (hs : restartOutcome M .restartToml x.d = .starts r) (htmp : tmpOK x r.active = true)
    (jobs k : Nat) (half : Bool) :
    let x' := crashAtR (restartRun cfg M x jobs).2 x k half
    restartOutcome M .restartToml x'.d = .starts r
      ∧ restore M r x'.d.files = restore M r x.d.files
      ∧ restoreDisk cfg r x'.d = restoreDisk cfg r x.d
      ∧ tmpOK x' r.active = true := by
  intro x'
  obtain ⟨D, t, hx', hD, ht⟩ := crash_clean_shape x r.active jobs k half
  have he : x' = ⟨{ x.d with data := D }, t⟩ := by
    show crashAtR (restartRun cfg M x jobs).2 x k half = _
    rw [restartRun_effs_of_starts cfg M x jobs r hs, if_pos hclean, hx']
  rw [he]
  refine ⟨hs, rfl, ?_, ht htmp⟩
  simp only [restoreDisk, if_pos hclean, hD]

theorem event_good (cfg : Cfg) (M : Manifest) (hv : cfg.variant = .repaired)
    (hclean : cfg.cleanOnRestart = true) (s : PState) (e : Event)
    (hG : Good cfg M s.mem s.x) (hW : EventWF cfg M s e) :
    Good cfg M (runEvent cfg M s e).mem (runEvent cfg M s e).x := by
  obtain ⟨mem, x⟩ := s
  cases mem <;> cases e
  case some.work m files => exact ⟨inv_workFiles M m x.d files hG.1, hG.2⟩
  case some.step m c => exact ⟨hG.1.step (hW m rfl), hG.2⟩
  case some.crash m c k half =>
    obtain ⟨hI, ht⟩ := hG
    obtain ⟨r, hr⟩ := crash_restartable cfg M m c x.d hI (hW m rfl) hv k half
    refine ⟨r, hr, crash_restore_inv cfg M m c x.d hI (hW m rfl) hclean k half r
      (starts_complete M _ r hr), ?_⟩
    show tmpOK ⟨crashStep cfg m c x.d k half, x.dtmp⟩ r.active = true
    have ht' : x.dtmp = .absent := ht
    simp [tmpOK, ht']
  case none.restartCrash jobs k half =>
    obtain ⟨r, hs, hI, ht⟩ := hG
    obtain ⟨h1, h2, h3, h4⟩ := restart_crash_good cfg M x hclean r hs ht jobs k half
    refine ⟨r, h1, ?_, h4⟩
    simp only [runEvent, h2, h3]
    exact hI
  case none.restart jobs =>
    obtain ⟨r, hs, hI, ht⟩ := hG
    rw [runEvent_restart cfg M x jobs r hclean hs ht]
    exact ⟨hI, rfl⟩
  -- an event that does not apply changes nothing
  all_goals exact hG

/-- **script_good** (the code as it is now: temp file + os.replace for restart.toml,
    `clean_data_file` on restart): ANY sequence of worker output, completed steps of any kind
    (reject, accept, zero swap, with and without delete_old / delete_old_all), deaths at any point
    `(k, half)` of any step, restart attempts that die at any point of the restart procedure, and
    completed restarts — in any order and number — leads from a good state to a good state: alive
    states are consistent, and from every dead state the restart starts, loads every path of the
    record and works on whole, unique data rows. -/
theorem script_good (cfg : Cfg) (M : Manifest) (hv : cfg.variant = .repaired)
    (hclean : cfg.cleanOnRestart = true) (es : List Event) :
    ∀ (s : PState), Good cfg M s.mem s.x → ScriptWF cfg M s es →
      Good cfg M (runScript cfg M s es).mem (runScript cfg M s es).x := by
  induction es with
  | nil => intro s hG _; exact hG
  | cons e es ih =>
    intro s hG hW
    exact ih (runEvent cfg M s e) (event_good cfg M hv hclean s e hG hW.1) hW.2

/-- **script_restartable**: whenever a script ends without a live process — however many crashes
    inside steps and inside restarts lie behind — the restart procedure itself (`restartRun`) starts. -/
theorem script_restartable (cfg : Cfg) (M : Manifest) (hv : cfg.variant = .repaired)
    (hclean : cfg.cleanOnRestart = true) (es : List Event) (s : PState)
    (hG : Good cfg M s.mem s.x) (hW : ScriptWF cfg M s es)
    (hdead : (runScript cfg M s es).mem = none) (jobs : Nat) :
    ∃ r, (runScript cfg M s es).restartNow cfg M jobs = .starts r
      ∧ ∀ a ∈ r.active, ∃ p, loadPath M (runScript cfg M s es).x.d.files a = some p ∧ p.pn = a
          ∧ pathOK (runScript cfg M s es).x.d.files p = true := by
  have h := script_good cfg M hv hclean es s hG hW
  rw [hdead] at h
  obtain ⟨r, hs, hI, _⟩ := h
  have hS : Resembles (runScript cfg M s es).x.d _ _ :=
    ⟨(restoreDisk_restart cfg r _).symm, fun p hp => restoreDisk_files cfg r _ ▸ (hI.live_ok p hp).1⟩
  exact ⟨r, (restartRun_outcome ..).trans hs,
    hS.active_load hI ((restoreDisk_restart ..).trans (starts_complete M _ r hs))⟩

/-- **script_rows_unique**: after any script, once a process is alive again (or still), the data
    file has whole rows only, every path at most once, and no live path — also when restarts
    themselves were interrupted while rewriting the data file. -/
theorem script_rows_unique (cfg : Cfg) (M : Manifest) (hv : cfg.variant = .repaired)
    (hclean : cfg.cleanOnRestart = true) (es : List Event) (s : PState)
    (hG : Good cfg M s.mem s.x) (hW : ScriptWF cfg M s es) (m' : Mem)
    (halive : (runScript cfg M s es).mem = some m') :
    let d' := (runScript cfg M s es).x.d
    d'.data.torn = false ∧ d'.data.garbled = 0 ∧ d'.data.rows.Nodup
      ∧ (∀ p ∈ d'.data.rows, p ∉ pns m'.live) ∧ (runScript cfg M s es).x.dtmp = .absent := by
  have h := script_good cfg M hv hclean es s hG hW
  rw [halive] at h
  obtain ⟨hI, ht⟩ := h
  obtain ⟨a, b, c, d⟩ := (rowsOK_iff _ _).1 hI.rows
  exact ⟨a, b, c, d, ht⟩

open Witness in
/-- non-vacuity, on the witness step of above (path 1 replaced by path 3, delete_old_all): the
    process dies after the data row was appended (k = 12), the first restart dies half-way through
    writing the cleaned data file (point (1, half) of the restart), the second one right before the
    `os.replace` (point 2: temp file complete), the third one gets through; the worker redoes the
    job, the step completes.  All hypotheses hold; the row of path 1 is in the data file once; the
    temp file is gone. -/
example :
    let s0 : PState := { mem := some m0, x := ⟨d0, .absent⟩ }
    let es : List Event := [.crash c0 12 false, .restartCrash 1 1 true, .restartCrash 1 2 false,
                            .restart 1, .work [(40, 400), (41, 410)], .step c0]
    let s := runScript cfgRep M s0 es
    (restartRun cfgRep M (runScript cfgRep M s0 (es.take 1)).x 1).2.length = 4
    ∧ (runScript cfgRep M s0 (es.take 2)).x.dtmp = .part
    ∧ (runScript cfgRep M s0 (es.take 2)).x.d.data.rows = [1]
    ∧ (runScript cfgRep M s0 (es.take 3)).x.dtmp = .complete { rows := [], garbled := 0, torn := false }
    ∧ (runScript cfgRep M s0 (es.take 4)).x.d.data.rows = []
    ∧ (runScript cfgRep M s0 (es.take 4)).x.dtmp = .absent
    ∧ (s.mem.map (·.cstep)) = some 2 ∧ s.x.d.data.rows = [1] ∧ s.x.dtmp = .absent := by
  decide +kernel

open Witness in
example : Good cfgRep M (some m0) ⟨d0, .absent⟩ := ⟨inv0, rfl⟩

/-! ## "exactly once": the lower bound

`continue_rows_unique` / `script_rows_unique` prove AT MOST once + disjoint from the live set
(`rows_unique_not_exactly_once_counterexample`).  The lower bound needs one more fact about the
step, `Cover` (the step keeps every live path it does not replace and makes the new paths live —
`add_traj` / `sort_trajstate` / `live_paths()`; the tie evaluates it on every real step). -/

/-- the data file has a row for every numbered path that is not live — alive: of the memory state;
    dead: of the state a restart from the record on disk works on -/
def CompleteS (cfg : Cfg) (M : Manifest) : Option Mem → RDisk → Prop
  | some m, x => Complete m x.d
  | none, x => ∀ r, x.d.restart = .complete r → Complete (restore M r x.d.files) (restoreDisk cfg r x.d)

def EventCover (s : PState) : Event → Prop
  | .step c => ∀ m, s.mem = some m → Cover m c
  | .crash c _ _ => ∀ m, s.mem = some m → Cover m c
  | _ => True

def ScriptCover (cfg : Cfg) (M : Manifest) : PState → List Event → Prop
  | _, [] => True
  | s, e :: es => EventCover s e ∧ ScriptCover cfg M (runEvent cfg M s e) es

theorem event_complete (cfg : Cfg) (M : Manifest) (hclean : cfg.cleanOnRestart = true)
    (s : PState) (e : Event) (hG : Good cfg M s.mem s.x) (hC : CompleteS cfg M s.mem s.x)
    (hW : EventWF cfg M s e) (hcov : EventCover s e) :
    CompleteS cfg M (runEvent cfg M s e).mem (runEvent cfg M s e).x := by
  obtain ⟨mem, x⟩ := s
  cases mem <;> cases e
  case some.step m c => exact step_complete hG.1 (hW m rfl) (hcov m rfl) hC
  case some.crash m c k half =>
    intro r hr
    obtain ⟨_, _, hI₁, hr₁, hS, hdata, hC₁⟩ := crash_state cfg M m c x.d hG.1 (hW m rfl) k half r hr
    exact hS.restore_complete cfg hI₁ hr₁ (hdata (Or.inl hclean)) (hC₁ (hcov m rfl) hC)
  case none.restartCrash jobs k half =>
    obtain ⟨r, hs, _, ht⟩ := hG
    obtain ⟨h1, h2, h3, _⟩ := restart_crash_good cfg M x hclean r hs ht jobs k half
    intro r' hr'
    obtain rfl : r = r' := RFile.complete.inj ((starts_complete M _ r h1).symm.trans hr')
    simp only [runEvent, h2, h3]
    exact hC r (starts_complete M _ r hs)
  case none.restart jobs =>
    obtain ⟨r, hs, _, ht⟩ := hG
    rw [runEvent_restart cfg M x jobs r hclean hs ht]
    exact hC r (starts_complete M _ r hs)
  -- an event that does not apply, and worker output, leave the data file and the record alone
  all_goals exact hC

theorem script_complete (cfg : Cfg) (M : Manifest) (hv : cfg.variant = .repaired)
    (hclean : cfg.cleanOnRestart = true) (es : List Event) :
    ∀ (s : PState), Good cfg M s.mem s.x → CompleteS cfg M s.mem s.x → ScriptWF cfg M s es →
      ScriptCover cfg M s es →
      CompleteS cfg M (runScript cfg M s es).mem (runScript cfg M s es).x := by
  induction es with
  | nil => intro s _ hC _ _; exact hC
  | cons e es ih =>
    intro s hG hC hW hcov
    exact ih (runEvent cfg M s e) (event_good cfg M hv hclean s e hG hW.1)
      (event_complete cfg M hclean s e hG hC hW.1 hcov.1) hW.2 hcov.2

/-- **script_rows_exactly_once** (the code as it is now): after ANY script (steps of any kind, deaths
    at any point of a step, restart attempts that die at any point of the restart, restarts), once a
    process is alive, the rows of the data file are EXACTLY the path numbers handed out so far that
    are not live — i.e. every replaced path, each exactly once. -/
theorem script_rows_exactly_once (cfg : Cfg) (M : Manifest) (hv : cfg.variant = .repaired)
    (hclean : cfg.cleanOnRestart = true) (es : List Event) (s : PState)
    (hG : Good cfg M s.mem s.x) (hC : CompleteS cfg M s.mem s.x) (hW : ScriptWF cfg M s es)
    (hcov : ScriptCover cfg M s es) (m' : Mem) (halive : (runScript cfg M s es).mem = some m') :
    let d' := (runScript cfg M s es).x.d
    d'.data.rows.Nodup ∧ d'.data.torn = false ∧ d'.data.garbled = 0
      ∧ ∀ q, q ∈ d'.data.rows ↔ (q < m'.trajNum ∧ q ∉ pns m'.live) := by
  have h := script_good cfg M hv hclean es s hG hW
  have hc := script_complete cfg M hv hclean es s hG hC hW hcov
  rw [halive] at h hc
  obtain ⟨hI, _⟩ := h
  obtain ⟨a, b, c, d⟩ := (rowsOK_iff _ _).1 hI.rows
  refine ⟨c, a, b, fun q => ⟨fun hq => ⟨hI.rows_lt q hq, d q hq⟩, fun hq => hc q hq.1 hq.2⟩⟩

/-- **script_restart_rows_exactly_once**: the same for the state a restart works on, whenever a
    script ends without a live process (the restart starts by `script_restartable`). -/
theorem script_restart_rows_exactly_once (cfg : Cfg) (M : Manifest) (hv : cfg.variant = .repaired)
    (hclean : cfg.cleanOnRestart = true) (es : List Event) (s : PState)
    (hG : Good cfg M s.mem s.x) (hC : CompleteS cfg M s.mem s.x) (hW : ScriptWF cfg M s es)
    (hcov : ScriptCover cfg M s es) (hdead : (runScript cfg M s es).mem = none) :
    ∃ r, restartOutcome M .restartToml (runScript cfg M s es).x.d = .starts r
      ∧ ∀ q, q ∈ (restoreDisk cfg r (runScript cfg M s es).x.d).data.rows
          ↔ (q < r.trajNum ∧ q ∉ r.active) := by
  have h := script_good cfg M hv hclean es s hG hW
  have hc := script_complete cfg M hv hclean es s hG hC hW hcov
  rw [hdead] at h hc
  obtain ⟨r, hs, hI, _⟩ := h
  have hr := starts_complete M _ r hs
  obtain ⟨_, hact, _⟩ := hI.record_eq ((restoreDisk_restart cfg r _).trans hr)
  obtain ⟨_, _, _, hnot⟩ := (rowsOK_iff _ _).1 hI.rows
  exact ⟨r, hs, fun q => ⟨fun hq => ⟨hI.rows_lt q hq, hact ▸ hnot q hq⟩,
    fun hq => hc r hr q hq.1 (hact ▸ hq.2)⟩⟩

namespace Witness

/-- a "step" that silently drops the live paths 1 and 2 (no store, no row): it satisfies `WF` -/
def cDrop : Choice :=
  { accs := [], newLive := [p0], locked' := [], inc := true, halfRows := 0, halfTorn := false }

theorem wfDrop : WF cfgRep M m0 cDrop d0 := wfB_sound cfgRep M m0 cDrop d0 (by decide +kernel)

theorem cover0 : Cover m0 c0 := coverB_sound m0 c0 (by decide +kernel)

theorem complete0 : Complete m0 d0 :=
  completeB_sound m0 d0 (by decide +kernel)

end Witness

open Witness in
/-- **rows_unique_not_exactly_once_counterexample**: `Inv` + `WF` alone (the hypotheses of
    `step_inv`, `continue_rows_unique`, `script_rows_unique`) admit a step after which paths 1 and 2
    are no longer live and have NO row: those theorems give "at most once", not "exactly once".
    The step violates `Cover`, and `Complete` fails afterwards. -/
theorem rows_unique_not_exactly_once_counterexample :
    WF cfgRep M m0 cDrop d0
    ∧ Inv M (stepMem cfgRep m0 cDrop d0) (run (stepEffs cfgRep m0 cDrop d0) d0)
    ∧ (run (stepEffs cfgRep m0 cDrop d0) d0).data.rows = []
    ∧ pns (stepMem cfgRep m0 cDrop d0).live = [0] ∧ (stepMem cfgRep m0 cDrop d0).trajNum = 3
    ∧ ¬ Cover m0 cDrop
    ∧ ¬ Complete (stepMem cfgRep m0 cDrop d0) (run (stepEffs cfgRep m0 cDrop d0) d0) := by
  refine ⟨wfDrop, step_inv cfgRep M m0 cDrop d0 inv0 wfDrop, by decide +kernel, by decide +kernel, by decide +kernel, ?_, ?_⟩
  · intro h
    have := h.keeps p1 (by decide +kernel)
    revert this; decide +kernel
  · intro h
    have := h 1 (by decide +kernel) (by decide +kernel)
    revert this; decide +kernel

open Witness in
/-- non-vacuity of the "exactly once" theorems: a shorter script on the same witness (death after the
    data row, one interrupted restart, a restart, the redone job) satisfies `Good`, `CompleteS`,
    `ScriptCover`, and ends with exactly the row of path 1 -/
example :
    let s0 : PState := { mem := some m0, x := ⟨d0, .absent⟩ }
    Good cfgRep M s0.mem s0.x ∧ CompleteS cfgRep M s0.mem s0.x ∧ Cover m0 c0
    ∧ (runScript cfgRep M s0 [.crash c0 12 false, .restartCrash 1 1 true, .restart 1,
          .work [(40, 400), (41, 410)], .step c0]).x.d.data.rows = [1] :=
  ⟨⟨inv0, rfl⟩, complete0, cover0, by decide +kernel⟩

/-! ## the restart of a FINISHED run

`WF.final` excludes the final `write_toml` of `loop()` right after a restart
(`m.restartedFrom = some m.cstep`).  That transition IS reachable: restarting a finished run
(`cstep = steps`, record not yet marked) goes through `setup_config`, sets `restarted_from = cstep`,
issues nothing and `loop()` writes the record once more.  What it leaves is, by design
(62f494c), a record from which the next restart stops — the one life cycle `script_good` does not
cover. -/

/-- **finished_run_restart_refuses**: the final `write_toml` of a life that made no step and has no
    steps left writes a record from which `setup_config` returns None; and this event is exactly
    what `WF.final` excludes. -/
theorem finished_run_restart_refuses (cfg : Cfg) (M : Manifest) (m : Mem) (c : Choice) (d : Disk)
    (hacc : c.accs = []) (hinc : c.inc = false) (hrf : m.restartedFrom = some m.cstep)
    (hst : m.steps ≤ m.cstep) (hv : cfg.variant ≠ .renamedOpen) :
    restartOutcome M .restartToml (run (stepEffs cfg m c d) d) = .refuses ∧ ¬ WF cfg M m c d := by
  refine ⟨?_, fun h => (h.final hinc).2 hrf⟩
  simp [restartOutcome, run_step_restart, newRec, hinc, hrf, hst]

open Witness in
/-- non-vacuity: path 1 replaced, run finished at cstep 2 = steps; the restart of the finished run
    writes (cstep 2, restarted_from 2) and the next restart refuses -/
example :
    let m : Mem := { cstep := 2, restartedFrom := some 2, live := [p0, p3, p2], trajNum := 4, olds := [],
                     locked := [], steps := 2 }
    let c : Choice := { accs := [], newLive := [p0, p3, p2], locked' := [], inc := false, halfRows := 0,
                        halfTorn := false }
    restartOutcome M .restartToml (run (stepEffs cfgRep m c d0) d0) = .refuses :=
  (finished_run_restart_refuses cfgRep M _ _ d0 rfl rfl rfl (by decide +kernel) (by decide +kernel)).1

/-! ## a witness that runs the delete block

The witness `m0 / c0` above replaces path 1 (≤ n-2): the delete_old block is skipped.  Here: n = 4,
a full delete queue (3 > n-2 entries), an accepted zero swap replacing the late paths 5 and 6: two
stores, two pops of the queue with delete_old_all (files, txt files, leftovers, two rmdir each), two
data rows. -/
namespace Witness2
open Witness

def q2 : PathInfo := { pn := 2, cid := 12, files := [(12, 120)] }
def q3 : PathInfo := { pn := 3, cid := 13, files := [(13, 130)] }
def q4 : PathInfo := { pn := 4, cid := 14, files := [(14, 140)] }
def q5 : PathInfo := { pn := 5, cid := 15, files := [(15, 150)] }
def q6 : PathInfo := { pn := 6, cid := 16, files := [(16, 160), (17, 170)] }
def q7 : PathInfo := { pn := 7, cid := 17, files := [(18, 180)] }
def q8 : PathInfo := { pn := 8, cid := 21, files := [(50, 500), (51, 510)] }
def q9 : PathInfo := { pn := 9, cid := 22, files := [(52, 520)] }

def M2 : Manifest := fun c =>
  if c = 15 then some [15] else if c = 16 then some [16, 17] else if c = 17 then some [18]
  else if c = 21 then some [50, 51] else if c = 22 then some [52] else none

def r2 : Rec := { cstep := 6, restartedFrom := none, active := [5, 6, 7], trajNum := 8, locked := [] }

def d2 : Disk :=
  { files := [(.wfile 50, .complete 500), (.wfile 51, .complete 510), (.wfile 52, .complete 520)]
      ++ filesOf q5 ++ filesOf q6 ++ filesOf q7 ++ filesOf q3 ++ filesOf q4 ++ filesOf q2
    data := { rows := [0, 1, 2, 3, 4], garbled := 0, torn := false }
    restart := .complete r2
    tmp := .absent }

def m2 : Mem :=
  { cstep := 6, restartedFrom := none, live := [q5, q6, q7], trajNum := 8,
    olds := [{ pn := 3, names := [13] }, { pn := 4, names := [14] }, { pn := 2, names := [12] }],
    locked := [] }

/-- accepted zero swap: paths 5 and 6 replaced by 8 and 9 -/
def c2 : Choice :=
  { accs := [{ old := q5, cid := 21, files := [(50, 500), (51, 510)] },
             { old := q6, cid := 22, files := [(52, 520)] }]
    newLive := [q8, q9, q7], locked' := [], inc := true, halfRows := 1, halfTorn := false }

theorem inv2 : Inv M2 m2 d2 := invB_sound M2 m2 d2 (by decide +kernel)

theorem wf2 : WF cfgRep M2 m2 c2 d2 := wfB_sound cfgRep M2 m2 c2 d2 (by decide +kernel)

theorem cover2 : Cover m2 c2 := coverB_sound m2 c2 (by decide +kernel)

theorem complete2 : Complete m2 d2 :=
  completeB_sound m2 d2 (by decide +kernel)

end Witness2

open Witness Witness2 in
/-- the hypotheses hold on a step that pops the delete queue twice: both queued paths 3 and 4 are
    removed completely (two rmdir each), the queue afterwards is [2, 5, 6], rows 5 and 6 are
    appended, and at the crash point between the two rows (k = data index + 1, half) the restart
    starts from the old record with both rows cleaned away -/
example : Inv M2 m2 d2 ∧ WF cfgRep M2 m2 c2 d2 ∧ Cover m2 c2 ∧ Complete m2 d2
    ∧ Effect.rmdir (.pdir 3) ∈ stepEffs cfgRep m2 c2 d2 ∧ Effect.rmdir (.pdir 4) ∈ stepEffs cfgRep m2 c2 d2
    ∧ (stepMem cfgRep m2 c2 d2).olds.map (·.pn) = [2, 5, 6]
    ∧ (run (stepEffs cfgRep m2 c2 d2) d2).data.rows = [0, 1, 2, 3, 4, 5, 6]
    ∧ (crashStep cfgRep m2 c2 d2 (dataIdx cfgRep m2 c2 d2 + 1) true).data.rows = [0, 1, 2, 3, 4, 5]
    ∧ (restoreDisk cfgRep r2 (crashStep cfgRep m2 c2 d2 (dataIdx cfgRep m2 c2 d2 + 1) true)).data.rows
        = [0, 1, 2, 3, 4] :=
  ⟨inv2, wf2, cover2, complete2, by decide +kernel⟩

/-! ## the hypotheses, evaluated on the real run

`Inv`, `WF`, `Cover`, `Complete` are hypotheses of every theorem above.  `Model/FsCheck.lean` has
executable versions; the driver (op `hyp`) evaluates them on every state and step outcome the tie
reconstructs from the real run, and the tie reports a state for which one of them is false. -/

/-- **hyp_checks_sound**: a `1` from the driver's hypothesis check means the hypothesis holds -/
theorem hyp_checks_sound (cfg : Cfg) (M : Manifest) (m : Mem) (c : Choice) (d : Disk) :
    (invB M m d = true → Inv M m d) ∧ (wfB cfg M m c d = true → WF cfg M m c d)
    ∧ (coverB m c = true → Cover m c) ∧ (completeB m d = true → Complete m d) :=
  ⟨invB_sound M m d, wfB_sound cfg M m c d, coverB_sound m c, completeB_sound m d⟩

open Witness Witness2 in
/-- the checks accept the two witness steps, reject the row-less drop of live paths (`coverB`), the
    final write right after a restart (`wfB`, the finished-run case), a record whose traj_num is not
    above a live path number and a data file with the row of a live path (`invB`) -/
example : invB M m0 d0 = true ∧ wfB cfgRep M m0 c0 d0 = true ∧ coverB m0 c0 = true ∧ completeB m0 d0 = true
    ∧ invB M2 m2 d2 = true ∧ wfB cfgRep M2 m2 c2 d2 = true ∧ coverB m2 c2 = true ∧ completeB m2 d2 = true
    ∧ wfB cfgRep M m0 cDrop d0 = true ∧ coverB m0 cDrop = false
    ∧ completeB (stepMem cfgRep m0 cDrop d0) (run (stepEffs cfgRep m0 cDrop d0) d0) = false
    ∧ wfB cfgRep M { m0 with restartedFrom := some 1 } { c0 with accs := [], inc := false } d0 = false
    ∧ invB M { m0 with trajNum := 2 } { d0 with restart := .complete { r0 with trajNum := 2 } } = false
    ∧ invB M m0 { d0 with data := { rows := [1], garbled := 0, torn := false } } = false := by
  decide +kernel

end Infretis.C08
