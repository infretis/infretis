import Infretis.Lemmas.RepexC05Pick
import Infretis.Lemmas.RepexC05Load
import Infretis.Lemmas.RepexC03RRestore
import Infretis.Lemmas.RepexC05Family
import Infretis.Lemmas.PermEval
import Infretis.Model.PermCache
import Infretis.Lemmas.RepexC05Chain
import Infretis.Lemmas.RepexC05Progress
import Infretis.Lemmas.RepexC05Dec
/-!
# C05 — the sampler never stalls: a job can always be drawn, sorting terminates

Property theorems only.  Model: `Infretis/Model/Repex.lean` (state machine of `REPEX_state` and the
scheduler loop) with `Infretis/Model/Perm.lean` (`probMatrix` = permanent ratios of the idle block).
Lemmas: `Infretis/Lemmas/RepexC05*.lean`, on top of C03's slot/lock invariant
(`Infretis/Lemmas/RepexC03*.lean`) and C02's permanent library.

Scope.  Histories are quantified over outcomes whose weight vectors are in C02's family
(`VecOk`: the `[0-]` row is `(w,0,…,0)`, `w > 0`; a plus row is zero in column 0, positive on
columns `1..cnt`, zero after, `cnt ≤ n-2`); any number of ensembles `n - 1 ≥ 1` (+ ghost), any
number of workers, any completion order, any accept/reject history (`HistOk`).  Fresh starts
(`Reachable`) and restarts, the jobs in flight at the stop recorded for re-issue (`ReachableR`;
sections A–D are proved for `ReachableR`, section E closes it under restarts).  Sections F and G
derive `HistOk` from `calc_cv_vector` on order sequences; section H says which part of "the step
returns" is proved.
-/
namespace Infretis.C05
open Infretis.Repex Infretis.Perm Infretis.Perm.C05

/-- reachable from a fresh start: some initial state as `load_paths` leaves it, some history with
    outcomes in the weight family, run by the scheduler model -/
def Reachable (y : Sys) : Prop := ∃ y0 evs, Init5 y0 ∧ HistOk y0 evs ∧ run y0 evs = .ok y

/-- reachable from a fresh start **or from a restart** (`Start5 = Init5 ∨ Init5R`: the state
    `load_paths` rebuilds from a restart file, recorded in-flight jobs waiting for re-issue);
    `restart_is_start5` shows restarts of reachable states are such start states again, so this
    covers any chain of restarts -/
def ReachableR (y : Sys) : Prop := ∃ y0 evs, Start5 y0 ∧ HistOk y0 evs ∧ run y0 evs = .ok y

theorem Reachable.toR {y : Sys} (h : Reachable y) : ReachableR y := by
  obtain ⟨y0, evs, h0, hh, hr⟩ := h
  exact ⟨y0, evs, Or.inl h0, hh, hr⟩

theorem reach_inv5R {y : Sys} (h : ReachableR y) : Inv5 y := by
  obtain ⟨y0, evs, h0, hh, hr⟩ := h
  exact (run_preserves5 evs h0.inv5 hh hr).1

theorem reach_inv5 {y : Sys} (h : Reachable y) : Inv5 y := reach_inv5R h.toR

/-- **`Init5` is what a fresh start produces**: `REPEX_state.__init__` + `load_paths` on `n − 1`
    initial paths with distinct numbers below `traj_num` and weight vectors in the family. -/
theorem fresh_start_is_init5 (n workers tsteps cstep trajNum seed : Nat) (occ : List (List Int))
    (ensEng : List (List Nat)) (restarted : Bool) (paths : List (Nat × List Rat × List Rat)) (s : St)
    (hn : 2 ≤ n) (hlen : paths.length = n - 1) (hnd : (paths.map (·.1)).Nodup)
    (hlt : ∀ p ∈ paths, p.1 < trajNum)
    (hfam : ∀ (i : Nat) (hi : i < paths.length), VecOk n ((i : Int) - 1) (paths[i]).2.1)
    (h : loadPaths (blank n workers tsteps cstep trajNum seed occ ensEng restarted []) paths = .ok s) :
    Init5 { s := s, jobs := [] } :=
  (FreshLoad.mk workers tsteps cstep trajNum seed occ ensEng restarted hn hlen hnd hlt h).init5 hfam

/-! ## A concrete history used for the non-vacuity examples

3 ensembles `[0-] [0+] [1+]` + ghost, 2 workers.  Worker 0 starts a zero swap (holds `[0-]`, `[0+]`),
worker 1 starts `[1+]`, initiation closes, the zero swap completes ACCEPTED (new paths 3, 4) and
worker 0 restarts on `[0-]`, then worker 1's job completes REJECTED and worker 1 restarts. -/

def exPaths : List (Nat × List Rat × List Rat) :=
  [(0, [1], [0,0,0,0]), (1, [1,1,0], [0,0,0,0]), (2, [1,1,0], [0,0,0,0])]

def exBlank : St := blank 4 2 10 0 3 0 [[-1, -1]] [[0], [0], [0]] false []

def exS0 : St :=
  match loadPaths exBlank exPaths with
  | .ok s => s
  | .error _ => exBlank

def exSys : Sys := { s := exS0, jobs := [] }

def exEvs : List Ev :=
  [ .start { t := 0, e := 0, coin := true, partner := 1 },
    .start { t := 2, e := 2 },
    .initDone,
    .step 0 .acc [[1], [1, 1, 0]] { t := 0, e := 0, coin := false },
    .step 0 .rej [] { t := 2, e := 2 } ]

def exAt (k : Nat) : Sys :=
  match run exSys (exEvs.take k) with
  | .ok y => y
  | .error _ => exSys

theorem exS0_loaded : loadPaths exBlank exPaths = .ok exS0 := by decide +kernel

theorem vecOk_minus_gen (n : Nat) (hn : 1 ≤ n) : VecOk n (-1) [1] :=
  vecOk_one hn (by decide)

theorem ex_init5 : Init5 exSys := by
  apply fresh_start_is_init5 4 2 10 0 3 0 [[-1, -1]] [[0], [0], [0]] false exPaths exS0 (by decide)
    (by decide) (by decide) (by decide) _ exS0_loaded
  intro i hi
  have : i = 0 ∨ i = 1 ∨ i = 2 := by
    simp only [exPaths, List.length_cons, List.length_nil] at hi; omega
  rcases this with rfl | rfl | rfl
  · exact vecOk_minus_gen 4 (by decide)
  · show VecOk 4 0 [1, 1, 0]
    decide +kernel
  · show VecOk 4 1 [1, 1, 0]
    decide +kernel

theorem ex_runs (k : Nat) : run exSys (exEvs.take k) = .ok (exAt k) :=
  run_take_eq (y' := exAt 5) (by decide +kernel) k

theorem exAt3_shape : (exAt 3).s.n = 4
    ∧ (exAt 3).jobs[0]?.map (fun j => j.picked.map (·.ens)) = some [-1, 0] := by decide +kernel

/-- the job completing in step 3 of the example holds `[0-]` and `[0+]` -/
theorem exAt3_job0 {job : Job} (hjob : (exAt 3).jobs[0]? = some job) (w0 w1 : List Rat) :
    job.picked.map (·.ens) = [-1, 0] ∧
    ∀ pw ∈ job.picked.zip [w0, w1], (pw.1.ens = -1 ∧ pw.2 = w0) ∨ (pw.1.ens = 0 ∧ pw.2 = w1) := by
  have h := exAt3_shape.2
  rw [hjob, Option.map_some, Option.some.injEq] at h
  refine ⟨h, fun pw hpw => ?_⟩
  have hm := mem_zip_map_left (·.ens) hpw
  rw [h] at hm
  simpa only [List.zip_cons_cons, List.zip_nil_right, List.mem_cons, List.not_mem_nil, or_false,
    Prod.mk.injEq] using hm

/-- the accepted step of the example brings in family vectors -/
theorem ex_evOk3 : EvOk (exAt 3) (.step 0 .acc [[1], [1, 1, 0]] { t := 0, e := 0, coin := false }) := by
  decide +kernel

theorem ex_histOk : HistOk exSys exEvs := by decide +kernel

theorem histOk_take (evs : List Ev) (y : Sys) (k : Nat) (h : HistOk y evs) : HistOk y (evs.take k) :=
  histOk_prefix (evs.take k) (evs.drop k) (by rw [List.take_append_drop]; exact h)

theorem ex_reachable (k : Nat) (hk : k ≤ 5) : Reachable (exAt k) :=
  ⟨exSys, exEvs.take k, ex_init5, histOk_take _ _ _ ex_histOk, ex_runs k⟩

/-- the rejected step of the example, after the initiation phase -/
theorem ex_step4 : (exAt 4).s.toinitiate = -1
    ∧ sysStep (exAt 4) (.step 0 .rej [] { t := 2, e := 2 }) = .ok (exAt 5) := by decide +kernel

/-! ## A. The idle block always admits a perfect matching; `pick` is defined -/

/-- the idle block of the weight matrix is non-negative with a positive permanent -/
def Matchable (s : St) : Prop := NonNegM (idle s.W s.locks) ∧ 0 < permC (idle s.W s.locks)

/-- **Bridge to the combinatorial form.**  For the (non-negative) idle block: the permanent is
    positive iff there is a perfect matching — an assignment `σ` of a distinct row to every
    column with non-zero entries (`PMatch`, rows given by their position among the rows not yet
    used). -/
theorem matchable_iff_matching (s : St) (hnn : NonNegM (idle s.W s.locks)) :
    Matchable s ↔ ∃ σ, PMatch (idle s.W s.locks).length (idle s.W s.locks) σ := by
  unfold Matchable
  rw [← permC_pos_iff_pmatch _ hnn]
  exact ⟨fun h => h.2, fun h => ⟨hnn, h⟩⟩

example : PMatch 3 (idle (exAt 0).s.W (exAt 0).s.locks) [2, 1, 0]
    ∧ (idle (exAt 0).s.W (exAt 0).s.locks).length = 3 := by
  have hN : idle (exAt 0).s.W (exAt 0).s.locks = [[1, 0, 0], [0, 1, 1], [0, 1, 1]] := by decide +kernel
  rw [hN]
  simp only [PMatch]
  decide +kernel

/-- **An edge of positive probability extends to a perfect matching**: if `pSpec N i j > 0` for a
    non-negative matrix with positive permanent, the entry is non-zero and the minor (row `i` and
    column `j` removed) still has a perfect matching. -/
theorem edge_extends (N : Mat) (hnn : NonNegM N) (hP : 0 < permC N) (i j : Nat)
    (h : 0 < pSpec N i j) :
    entry N i j ≠ 0 ∧ 0 < permC (minor N i j) ∧
      ∃ σ, PMatch (minor N i j).length (minor N i j) σ := by
  obtain ⟨h1, h2⟩ := pSpec_pos N hnn hP i j h
  exact ⟨ne_of_gt h1, h2, (permC_pos_iff_pmatch _ (hnn.minor i j)).mp h2⟩

example : NonNegM [[1, 1], [0, 2]] ∧ 0 < permC [[1, 1], [0, 2]] ∧ 0 < pSpec [[1, 1], [0, 2]] 0 0 := by
  refine ⟨?_, by decide +kernel, by decide +kernel⟩
  intro r hr x hx
  simp only [List.mem_cons, List.not_mem_nil, or_false] at hr
  rcases hr with rfl | rfl <;>
  · simp only [List.mem_cons, List.not_mem_nil, or_false] at hx
    rcases hx with rfl | rfl <;> decide +kernel

/-- `pick` keeps the idle block matchable: an outcome `(t, e)` of positive probability followed by
    `swap(t, e)`, `lock(e)` leaves (a row permutation of) the minor, whose permanent is positive. -/
theorem matchable_pick {s s2 : St} {H : List (Nat × Nat)} {tn tn' : Nat} (hc : Core s H tn')
    (hf : Fam s tn) (t e : Nat) (hpos : 0 < entryM (prob s) t e)
    (hl : lock (swap s t e) e = .ok s2) : Matchable s2 := by
  obtain ⟨pn, _, hc2, _⟩ := lockStep_core hc t e hpos hl
  have hf2 := lockStep_fam hc.coreR hf t e hpos hl
  exact ⟨hf2.nonneg hc2.coreR, hf2.perm⟩

example : Inv5 exSys ∧ 0 < entryM (prob exSys.s) 0 0
    ∧ (match lock (swap exSys.s 0 0) 0 with | .ok _ => true | .error _ => false) = true :=
  ⟨ex_init5.inv5, by decide +kernel⟩

/-- `add_traj` keeps the idle block matchable: the returned row is non-zero in its own column, so
    the old matching is extended by `(e, e)`. -/
theorem matchable_addTraj {s s' : St} {H : List (Nat × Nat)} {tn tn0 : Nat} (e pnOld pn : Nat)
    (ens : Int) (valid : List Rat)
    (hc : Core s ((e, pnOld) :: H) tn0) (hf : Fam s tn) (ha : addTraj s ens pn valid = .ok s')
    (he : (ens + 1).toNat = e) (hens : -1 ≤ ens)
    (hrow : RowOk s.n e (padValid s ens valid)) (hlook : s.wts.lookup pn = some valid) :
    0 < permC (idle s'.W s'.locks) :=
  (addTraj_fam e pnOld pn ens valid hc.coreR hf ha he hens hrow hlook).perm

/-- a swap of `sort_trajstate` keeps the idle block matchable (it permutes idle rows) -/
theorem matchable_sort {s s' : St} {H : List (Nat × Nat)} {tn tn' : Nat} (hc : Core s H tn')
    (hf : Fam s tn) (hs : sortStep s = .ok (some s')) : Matchable s' := by
  rcases sortStep_progress hc.coreR hf with hnone | ⟨s1, hsome, hc1, hf1, _⟩
  · rw [hnone] at hs; simp at hs
  · rw [hsome] at hs
    simp only [Except.ok.injEq, Option.some.injEq] at hs
    subst hs
    exact ⟨hf1.nonneg hc1, hf1.perm⟩

/-- non-vacuity: the zero-swap job of the example holds slots 0 and 1; its `[0-]` path goes back -/
example : Inv5 (exAt 1) ∧ held (exAt 1).jobs = [(0, 0), (1, 1)] ∧ (exAt 1).s.wts.lookup 0 = some [1]
    ∧ RowOk (exAt 1).s.n 0 (padValid (exAt 1).s (-1) [1])
    ∧ (match addTraj (exAt 1).s (-1) 0 [1] with | .ok _ => true | .error _ => false) = true := by
  have h : held (exAt 1).jobs = [(0, 0), (1, 1)] ∧ (exAt 1).s.wts.lookup 0 = some [1] ∧ (exAt 1).s.n = 4
      ∧ padValid (exAt 1).s (-1) [1] = [1, 0, 0, 0]
      ∧ (match addTraj (exAt 1).s (-1) 0 [1] with | .ok _ => true | .error _ => false) = true := by
    decide +kernel
  obtain ⟨h1, h2, hn, hp, h5⟩ := h
  refine ⟨reach_inv5 (ex_reachable 1 (by decide)), h1, h2, ?_, h5⟩
  rw [hn, hp]
  exact vecOk_minus_gen 4 (by decide)

/-- **`matchable_invariant`**: in every reachable state the idle block of the weight matrix admits
    a perfect matching (non-negative entries, positive permanent). -/
theorem matchable_invariant_restart {y : Sys} (hr : ReachableR y) : Matchable y.s := by
  have h := reach_inv5R hr
  exact ⟨h.fam.nonneg h.inv.core, h.fam.perm⟩

example : Reachable (exAt 5) ∧ (exAt 5).s.locks = [true, false, true, true]
    ∧ idle (exAt 5).s.W (exAt 5).s.locks = [[1]] :=
  ⟨ex_reachable 5 (by decide), by decide +kernel⟩

/-- **`pick_defined`**: in every reachable state the probability matrix handed to `choice` has
    non-negative entries summing to the number of idle slots, which is positive as soon as one slot
    is idle: `P / ΣP` is a probability vector (finite, sums to one). -/
theorem pick_defined_restart {y : Sys} (hr : ReachableR y) :
    ((prob y.s).map List.sum).sum = (nIdle y.s.locks : Rat) ∧
    (∀ i j, 0 ≤ entryM (prob y.s) i j) ∧
    (∀ i : Nat, y.s.locks[i]? = some false → 0 < ((prob y.s).map List.sum).sum) := by
  have h := reach_inv5R hr
  obtain ⟨h1, h2⟩ := prob_total h.inv.core h.fam
  refine ⟨h1, h2, fun i hi => ?_⟩
  rw [h1]
  exact_mod_cast nIdle_pos_of_idle y.s.locks i hi

example : Reachable (exAt 4) ∧ (exAt 4).s.locks[1]? = some false
    ∧ ((prob (exAt 4).s).map List.sum).sum = 1 :=
  ⟨ex_reachable 4 (by decide), by decide +kernel⟩

/-- **A job can always be drawn**: in a reachable state with an idle slot some outcome has positive
    probability and `pick()` succeeds with it. -/
theorem job_can_be_drawn_restart {y : Sys} (hr : ReachableR y) (i : Nat) (hi : y.s.locks[i]? = some false) :
    ∃ o, 0 < entryM (prob y.s) o.t o.e ∧ ∃ r, pick y.s o = .ok r := by
  have h := reach_inv5R hr
  exact pick_possible h.inv.core h.fam i hi

example : Reachable (exAt 0) ∧ (exAt 0).s.locks[0]? = some false :=
  ⟨ex_reachable 0 (by decide), by decide +kernel⟩

/-- **An idle worker can always be given a job**: right after `treat_output` of a completed job —
    the moment the scheduler draws the worker's next job — the released ensemble is idle, some
    outcome has positive probability, and `pick()` succeeds with it. -/
theorem idle_worker_gets_job_restart {y y' : Sys} (hr : ReachableR y) (k : Nat) (status : Status)
    (newW : List (List Rat)) (o : PickOutcome) (hev : EvOk y (.step k status newW o))
    (h : sysStep y (.step k status newW o) = .ok y') :
    ∃ (s2 : St) (job : Job) (pns : List Nat) (it : Nat), y.jobs[k]? = some job ∧
      treatOutput (loop y.s).1 job status newW (sortFuel (loop y.s).1) = .ok (s2, pns, it) ∧
      (∃ i : Nat, s2.locks[i]? = some false) ∧
      ∃ o', 0 < entryM (prob s2) o'.t o'.e ∧ ∃ r, pick s2 o' = .ok r := by
  have hi := reach_inv5R hr
  obtain ⟨job, ym, hc, _⟩ := Completes.of_step h
  obtain ⟨h5, _, _, _, ⟨i, hidle⟩, _⟩ := hi.done o hev hc
  cases hc with | mk _ hjob htreat =>
  exact ⟨_, job, _, _, hjob, htreat, ⟨i, hidle⟩, pick_possible h5.inv.core h5.fam i hidle⟩

example : Reachable (exAt 4) ∧ EvOk (exAt 4) (.step 0 .rej [] { t := 2, e := 2 })
    ∧ sysStep (exAt 4) (.step 0 .rej [] { t := 2, e := 2 }) = .ok (exAt 5) :=
  ⟨ex_reachable 4 (by decide), fun h => absurd h (by decide), ex_step4.2⟩

/-- **During the initiation phase a job can be drawn for every worker that is started**, with any
    permitted number of workers (at most ensembles − 1, i.e. `workers + 2 ≤ n`): some ensemble is
    idle, some outcome has positive probability and `pick()` succeeds with it. -/
theorem start_can_draw_restart {y : Sys} (hr : ReachableR y) (hw : y.s.workers + 2 ≤ y.s.n)
    (hto : 1 ≤ y.s.toinitiate) :
    (∃ i : Nat, y.s.locks[i]? = some false) ∧
      ∃ o, 0 < entryM (prob y.s) o.t o.e ∧ ∃ r, pick y.s o = .ok r := by
  have h := reach_inv5R hr
  obtain ⟨i, hi⟩ := start_has_idle_slot h.inv hw hto
  exact ⟨⟨i, hi⟩, pick_possible h.inv.core h.fam i hi⟩

example : Reachable (exAt 1) ∧ (exAt 1).s.workers + 2 ≤ (exAt 1).s.n ∧ 1 ≤ (exAt 1).s.toinitiate
    ∧ (exAt 1).s.locks = [true, true, false, true] :=
  ⟨ex_reachable 1 (by decide), by decide +kernel⟩

/-! ## B. Sorting terminates and leaves a non-zero diagonal -/

/-- **`sorted_diagonal_nonzero`**: when `sort_trajstate` returns (initiation over), every real slot
    has a non-zero weight of its path in its own ensemble; sorting only permutes idle rows: the
    locks, the rows and paths of locked slots are unchanged, rows and paths are permuted. -/
theorem sorted_diagonal_nonzero {s s' : St} {H : List (Nat × Nat)} {tn k : Nat} (fuel : Nat)
    (hc : Core s H tn) (hs : sortTrajstate fuel s = .ok (s', k)) (hto : s.toinitiate = -1) :
    (∀ i, i < s'.n - 1 → entryM s'.W i i ≠ 0) ∧
    s'.locks = s.locks ∧ s'.W.Perm s.W ∧ s'.trajs.Perm s.trajs ∧
    (∀ i : Nat, s.locks[i]? = some true → s'.W[i]? = s.W[i]? ∧ s'.trajs[i]? = s.trajs[i]?) := by
  have hrun := Sorts.of_ok hs
  have t := hrun.touches
  exact ⟨diag_of_sortStep_none hrun.fix (by rw [t.toinitiate]; exact hto), t.locks, hrun.permutes.1,
    hrun.permutes.2, sorts_lockedSlots hc.coreR hrun⟩

example : (∃ H tn, Core (exAt 3).s H tn) ∧ (exAt 3).s.toinitiate = -1
    ∧ sortTrajstate 20 (exAt 3).s = .ok ((exAt 3).s, 0) :=
  ⟨⟨_, _, (run_preserves _ ex_init5.init.inv (ex_runs 3)).core⟩, by decide +kernel⟩

/-- `treat_output` is `preSort` (per-ensemble loop, "record weights", data rows) followed by
    `sort_trajstate`; the result gets the new `traj_num` and the worker's pin. -/
theorem treat_output_is_presort_then_sort (s : St) (job : Job) (status : Status)
    (newW : List (List Rat)) (fuel : Nat) :
    treatOutput s job status newW fuel =
      match preSort s job status newW with
      | .error er => .error er
      | .ok (s3, tn, pnNews) =>
        match sortTrajstate fuel s3 with
        | .error er => .error er
        | .ok (s4, iters) => .ok ({ s4 with trajNum := tn, cworker := job.pin }, pnNews, iters) :=
  treatOutput_eq s job status newW fuel

/-- **`sort_terminates`** (any number of workers).  `treat_output` is `preSort` followed by
    `sort_trajstate` (`treatOutput_eq`).  For every reachable state, every completing job and every
    outcome in the family: on the state `s3` the per-ensemble loop, "record weights" and the data
    rows leave behind, `sort_trajstate` with the scheduler's fuel `n² + 4` returns — it neither runs
    out of fuel (`.stall`: a non-terminating `while`) nor hits one of its two `.index` failures
    (`.value`), nor any other error. -/
theorem sort_terminates_restart {y : Sys} (hr : ReachableR y) (k : Nat) (status : Status)
    (newW : List (List Rat)) (o : PickOutcome) (hev : EvOk y (.step k status newW o))
    (job : Job) (hjob : y.jobs[k]? = some job) (s3 : St) (tn : Nat) (pns : List Nat)
    (hpre : preSort (loop y.s).1 job status newW = .ok (s3, tn, pns)) :
    ∃ s4 it, sortTrajstate (sortFuel (loop y.s).1) s3 = .ok (s4, it) := by
  obtain ⟨s4, it, hs, _⟩ := (reach_inv5R hr).sort_returns hjob status newW (fun ha => hev ha job hjob) hpre
  exact ⟨s4, it, hs⟩

/-- the same for any state satisfying the invariants, with the measure made explicit: the loop
    runs at most `mu s ≤ n²` times -/
theorem sort_terminates_state {s : St} {H : List (Nat × Nat)} {tn tn' : Nat} (hc : Core s H tn')
    (hf : Fam s tn) : mu s ≤ s.n * s.n ∧ ∃ s' it, sortTrajstate (sortFuel s) s = .ok (s', it) := by
  obtain ⟨s', it, hs, _⟩ := sort_after_preSort (sortFuel s) hc.coreR hf (by unfold sortFuel; omega)
  exact ⟨mu_le s hc.lenW, s', it, hs⟩

/-- non-vacuity: the hypotheses of `sort_terminates` are met by the accepted step of the example -/
example : Reachable (exAt 3) ∧ EvOk (exAt 3) (.step 0 .acc [[1], [1, 1, 0]] { t := 0, e := 0, coin := false })
    ∧ ((exAt 3).jobs[0]?).isSome = true
    ∧ (match (exAt 3).jobs[0]? with
       | some job => (match preSort (loop (exAt 3).s).1 job .acc [[1], [1, 1, 0]] with
                      | .ok _ => true | .error _ => false)
       | none => false) = true :=
  ⟨ex_reachable 3 (by decide), ex_evOk3, by decide +kernel⟩

/-- a state where the loop really has to move rows: slot 2 holds a row that is zero there -/
example : sortStep { exS0 with toinitiate := -1, W := [[1,0,0,0],[0,1,1,0],[0,1,0,0],[0,0,0,0]] }
      = .ok (some { exS0 with toinitiate := -1, W := [[1,0,0,0],[0,1,0,0],[0,1,1,0],[0,0,0,0]],
                               trajs := [some 0, some 2, some 1, none] }) := by
  decide +kernel

/-- a crafted state with three idle slots whose diagonal weight is zero (`[0-]` held by a job): the
    rows of the four plus slots are cyclically shifted; the loop needs three swaps (measure `mu = 8`) -/
def exSort6 : St := { blank 6 2 50 0 9 0 [[-1, -1]] [[0], [0], [0], [0], [0]] false [] with
  toinitiate := -1,
  W := [[1,0,0,0,0,0],[0,1,1,1,1,0],[0,1,0,0,0,0],[0,2,2,0,0,0],[0,1,1,1,0,0],[0,0,0,0,0,0]],
  trajs := [some 0, some 4, some 1, some 2, some 3, none],
  locks := [true, false, false, false, false, true] }

example : mu exSort6 = 8 ∧
    (match sortTrajstate (sortFuel exSort6) exSort6 with
     | .ok (s', k) => (s'.W, s'.trajs, s'.locks, k)
     | .error _ => ([], [], [], 99))
    = ([[1,0,0,0,0,0],[0,1,0,0,0,0],[0,2,2,0,0,0],[0,1,1,1,0,0],[0,1,1,1,1,0],[0,0,0,0,0,0]],
       [some 0, some 1, some 2, some 3, some 4, none], [true, false, false, false, false, true], 3) := by
  decide +kernel

/-! ## C. Live paths are distinct, path numbers are never reused -/

/-- **`live_paths_distinct`**: in every reachable state every real slot holds a path, numbered
    below `traj_num`, and distinct slots hold distinct paths. -/
theorem live_paths_distinct_restart {y : Sys} (hr : ReachableR y) :
    (∀ e, e < y.s.n - 1 → ∃ pn, y.s.trajs[e]? = some (some pn) ∧ pn < y.s.trajNum) ∧
    (∀ a b pn, a < y.s.n - 1 → b < y.s.n - 1 →
      y.s.trajs[a]? = some (some pn) → y.s.trajs[b]? = some (some pn) → a = b) := by
  have h := (reach_inv5R hr).inv.core
  exact ⟨h.live, h.inj⟩

example : Reachable (exAt 5) ∧ (exAt 5).s.trajs = [some 3, some 4, some 2, none]
    ∧ (exAt 5).s.trajNum = 5 :=
  ⟨ex_reachable 5 (by decide), by decide +kernel⟩

/-- `traj_num` never decreases along a history -/
theorem trajNum_mono {y0 y : Sys} {evs : List Ev} (h0 : Init5 y0) (hh : HistOk y0 evs)
    (hr : run y0 evs = .ok y) : y0.s.trajNum ≤ y.s.trajNum :=
  (run_preserves5 evs h0.inv5 hh hr).2

/-- **`path_numbers_fresh`**: the numbers `treat_output` hands out for an accepted move start at the
    old `traj_num` and stay below the new one; none of them was ever used: it is not a live path,
    not a key of `traj_data` (weights or fractions) and not in a row of the data file. -/
theorem path_numbers_fresh_restart {y y' : Sys} (hr : ReachableR y) (k : Nat) (newW : List (List Rat))
    (o : PickOutcome) (hev : EvOk y (.step k .acc newW o))
    (h : sysStep y (.step k .acc newW o) = .ok y') :
    y.s.trajNum ≤ y'.s.trajNum ∧
    ∃ (s2 : St) (job : Job) (pns : List Nat) (it : Nat), y.jobs[k]? = some job ∧
      treatOutput (loop y.s).1 job .acc newW (sortFuel (loop y.s).1) = .ok (s2, pns, it) ∧
      ∀ q ∈ pns, y.s.trajNum ≤ q ∧ q < y'.s.trajNum ∧
        (∀ e, e < y.s.n - 1 → y.s.trajs[e]? ≠ some (some q)) ∧
        q ∉ y.s.wts.map Prod.fst ∧ q ∉ y.s.frac.map Prod.fst ∧ q ∉ y.s.rows.map (·.1) := by
  have hi := reach_inv5R hr
  obtain ⟨job, ym, hc, hrest⟩ := Completes.of_step h
  obtain ⟨h5, hm, _, _, _, hfresh⟩ := hi.done o hev hc
  have htn2 : ym.s.trajNum = y'.s.trajNum := by
    rcases hrest with ⟨_, rfl⟩ | ⟨_, jd, hs⟩
    · rfl
    · exact (h5.submit hm (hc.cworker ▸ hs)).2.symm
  obtain ⟨_, hjob, _, pns, it, htreat⟩ := hc.ok
  refine ⟨(sysStep_preserves5 _ hi hev h).2, ym.s, job, pns, it, hjob, htreat, ?_⟩
  intro q hq
  obtain ⟨h1, h2⟩ := hfresh htreat rfl q hq
  exact ⟨h1, by rw [← htn2]; exact h2, hi.unused_of_ge h1⟩

example : Reachable (exAt 3) ∧ EvOk (exAt 3) (.step 0 .acc [[1], [1, 1, 0]] { t := 0, e := 0, coin := false })
    ∧ sysStep (exAt 3) (.step 0 .acc [[1], [1, 1, 0]] { t := 0, e := 0, coin := false }) = .ok (exAt 4)
    ∧ (exAt 3).s.trajNum = 3 ∧ (exAt 4).s.trajNum = 5 :=
  ⟨ex_reachable 3 (by decide), ex_evOk3, by decide +kernel⟩

/-! ## D. The restart file written after a step loads -/

/-- **`restart_file_loads`**: for a reachable state after the initiation phase and a completing step,
    the state `s2` `treat_output` leaves behind — the moment `write_toml` runs — has a non-zero
    diagonal, and `restore (persist s2)` with the live paths' recorded weight vectors passes every
    assertion of `load_paths` (whatever workers / steps / engine table the restart is given). -/
theorem restart_file_loads_restart {y y' : Sys} (hr : ReachableR y) (k : Nat) (status : Status)
    (newW : List (List Rat)) (o : PickOutcome) (hev : EvOk y (.step k status newW o))
    (hto : y.s.toinitiate = -1) (h : sysStep y (.step k status newW o) = .ok y') :
    ∃ (s2 : St) (job : Job) (pns : List Nat) (it : Nat), y.jobs[k]? = some job ∧
      treatOutput (loop y.s).1 job status newW (sortFuel (loop y.s).1) = .ok (s2, pns, it) ∧
      (∀ i, i < s2.n - 1 → entryM s2.W i i ≠ 0) ∧
      ∀ (workers tsteps : Nat) (occ : List (List Int)) (ensEng : List (List Nat)),
        ∃ s'', restore (persist s2) s2.n workers tsteps occ ensEng
          (fun pn => (s2.wts.lookup pn).getD []) = .ok s'' := by
  have hi := reach_inv5R hr
  obtain ⟨job, ym, hc, _⟩ := Completes.of_step h
  obtain ⟨h5, _, _, hdiag, _, _⟩ := hi.done o hev hc
  cases hc with | mk _ hjob htreat =>
  exact ⟨_, job, _, _, hjob, htreat, hdiag hto, fun workers tsteps occ ensEng =>
    restore_loadsR h5.inv.core h5.fam (hdiag hto) workers tsteps occ ensEng⟩

example : Reachable (exAt 4) ∧ EvOk (exAt 4) (.step 0 .rej [] { t := 2, e := 2 })
    ∧ (exAt 4).s.toinitiate = -1
    ∧ sysStep (exAt 4) (.step 0 .rej [] { t := 2, e := 2 }) = .ok (exAt 5) :=
  ⟨ex_reachable 4 (by decide), fun h => absurd h (by decide), ex_step4⟩

/-! ## The fresh-start special cases (a run reachable from a fresh start is a `ReachableR` run) -/

theorem matchable_invariant {y : Sys} (hr : Reachable y) : Matchable y.s :=
  matchable_invariant_restart hr.toR

theorem pick_defined {y : Sys} (hr : Reachable y) :
    ((prob y.s).map List.sum).sum = (nIdle y.s.locks : Rat) ∧
    (∀ i j, 0 ≤ entryM (prob y.s) i j) ∧
    (∀ i : Nat, y.s.locks[i]? = some false → 0 < ((prob y.s).map List.sum).sum) :=
  pick_defined_restart hr.toR

theorem job_can_be_drawn {y : Sys} (hr : Reachable y) (i : Nat) (hi : y.s.locks[i]? = some false) :
    ∃ o, 0 < entryM (prob y.s) o.t o.e ∧ ∃ r, pick y.s o = .ok r :=
  job_can_be_drawn_restart hr.toR i hi

theorem idle_worker_gets_job {y y' : Sys} (hr : Reachable y) (k : Nat) (status : Status)
    (newW : List (List Rat)) (o : PickOutcome) (hev : EvOk y (.step k status newW o))
    (h : sysStep y (.step k status newW o) = .ok y') :
    ∃ (s2 : St) (job : Job) (pns : List Nat) (it : Nat), y.jobs[k]? = some job ∧
      treatOutput (loop y.s).1 job status newW (sortFuel (loop y.s).1) = .ok (s2, pns, it) ∧
      (∃ i : Nat, s2.locks[i]? = some false) ∧
      ∃ o', 0 < entryM (prob s2) o'.t o'.e ∧ ∃ r, pick s2 o' = .ok r :=
  idle_worker_gets_job_restart hr.toR k status newW o hev h

theorem start_can_draw {y : Sys} (hr : Reachable y) (hw : y.s.workers + 2 ≤ y.s.n)
    (hto : 1 ≤ y.s.toinitiate) :
    (∃ i : Nat, y.s.locks[i]? = some false) ∧
      ∃ o, 0 < entryM (prob y.s) o.t o.e ∧ ∃ r, pick y.s o = .ok r :=
  start_can_draw_restart hr.toR hw hto

theorem sort_terminates {y : Sys} (hr : Reachable y) (k : Nat) (status : Status)
    (newW : List (List Rat)) (o : PickOutcome) (hev : EvOk y (.step k status newW o))
    (job : Job) (hjob : y.jobs[k]? = some job) (s3 : St) (tn : Nat) (pns : List Nat)
    (hpre : preSort (loop y.s).1 job status newW = .ok (s3, tn, pns)) :
    ∃ s4 it, sortTrajstate (sortFuel (loop y.s).1) s3 = .ok (s4, it) :=
  sort_terminates_restart hr.toR k status newW o hev job hjob s3 tn pns hpre

theorem live_paths_distinct {y : Sys} (hr : Reachable y) :
    (∀ e, e < y.s.n - 1 → ∃ pn, y.s.trajs[e]? = some (some pn) ∧ pn < y.s.trajNum) ∧
    (∀ a b pn, a < y.s.n - 1 → b < y.s.n - 1 →
      y.s.trajs[a]? = some (some pn) → y.s.trajs[b]? = some (some pn) → a = b) :=
  live_paths_distinct_restart hr.toR

theorem path_numbers_fresh {y y' : Sys} (hr : Reachable y) (k : Nat) (newW : List (List Rat))
    (o : PickOutcome) (hev : EvOk y (.step k .acc newW o))
    (h : sysStep y (.step k .acc newW o) = .ok y') :
    y.s.trajNum ≤ y'.s.trajNum ∧
    ∃ (s2 : St) (job : Job) (pns : List Nat) (it : Nat), y.jobs[k]? = some job ∧
      treatOutput (loop y.s).1 job .acc newW (sortFuel (loop y.s).1) = .ok (s2, pns, it) ∧
      ∀ q ∈ pns, y.s.trajNum ≤ q ∧ q < y'.s.trajNum ∧
        (∀ e, e < y.s.n - 1 → y.s.trajs[e]? ≠ some (some q)) ∧
        q ∉ y.s.wts.map Prod.fst ∧ q ∉ y.s.frac.map Prod.fst ∧ q ∉ y.s.rows.map (·.1) :=
  path_numbers_fresh_restart hr.toR k newW o hev h

theorem restart_file_loads {y y' : Sys} (hr : Reachable y) (k : Nat) (status : Status)
    (newW : List (List Rat)) (o : PickOutcome) (hev : EvOk y (.step k status newW o))
    (hto : y.s.toinitiate = -1) (h : sysStep y (.step k status newW o) = .ok y') :
    ∃ (s2 : St) (job : Job) (pns : List Nat) (it : Nat), y.jobs[k]? = some job ∧
      treatOutput (loop y.s).1 job status newW (sortFuel (loop y.s).1) = .ok (s2, pns, it) ∧
      (∀ i, i < s2.n - 1 → entryM s2.W i i ≠ 0) ∧
      ∀ (workers tsteps : Nat) (occ : List (List Int)) (ensEng : List (List Nat)),
        ∃ s'', restore (persist s2) s2.n workers tsteps occ ensEng
          (fun pn => (s2.wts.lookup pn).getD []) = .ok s'' :=
  restart_file_loads_restart hr.toR k status newW o hev hto h

/-! ## E. Restarts: the restored state is a start state again -/

/-- **`restart_is_start5`** — closure under restarts.  For a state `y` reachable from a start state
    (fresh or restarted, nothing recorded in `locked` at its start), the restart file written
    there, restored with the same number of slots and the live paths' recorded weight vectors (any
    workers / steps / engine table): if `load_paths` does not raise, the restored state is a
    `Start5` state with an empty `locked` record — so every `_restart` theorem applies to runs
    continued from it, and again after the next stop (any chain of restarts).
    (`restart_file_loads_restart` shows `load_paths` does not raise at the moment `write_toml` runs.) -/
theorem restart_is_start5 (y0 y : Sys) (evs : List Ev) (h0 : Start5 y0) (hl : y0.s.locked = [])
    (hh : HistOk y0 evs) (hr : run y0 evs = .ok y) (workers tsteps : Nat) (occ : List (List Int))
    (ensEng : List (List Nat)) (s' : St)
    (h : restore (persist y.s) y.s.n workers tsteps occ ensEng
      (fun pn => (y.s.wts.lookup pn).getD []) = .ok s') :
    Start5 { s := s', jobs := [] } ∧ s'.locked = [] := by
  have hj : y0.jobs = [] := by
    rcases h0 with h0 | h0
    · exact h0.init.jobs
    · exact h0.init.jobs
  have hinitR := restore_of_reachable_is_initR y0 y evs h0.start hl hj hr workers tsteps occ ensEng _ s' h
  have hi := (run_preserves5 evs h0.inv5 hh hr).1
  exact ⟨Or.inr (restore_init5R hi.inv.core hi.fam workers tsteps occ ensEng h hinitR), hinitR.locked⟩

/-! ### a concrete restarted run: stop the example after event 4 (two jobs in flight), restore,
re-issue both recorded jobs, close the initiation, complete both -/

def exRS : St :=
  match restore (persist (exAt 4).s) 4 2 10 [[-1, -1]] [[0], [0], [0]]
      (fun pn => ((exAt 4).s.wts.lookup pn).getD []) with
  | .ok s => s
  | .error _ => exBlank

def exSysR : Sys := { s := exRS, jobs := [] }

def exEvsR : List Ev :=
  [ .start { t := 0, e := 0 }, .start { t := 0, e := 0 }, .initDone,
    .step 0 .acc [[1, 1, 0]] { t := 2, e := 2 }, .step 0 .rej [] { t := 0, e := 0 } ]

def exRAt (k : Nat) : Sys :=
  match run exSysR (exEvsR.take k) with
  | .ok y => y
  | .error _ => exSysR

theorem exRS_restored : restore (persist (exAt 4).s) (exAt 4).s.n 2 10 [[-1, -1]] [[0], [0], [0]]
    (fun pn => ((exAt 4).s.wts.lookup pn).getD []) = .ok exRS := by decide +kernel

theorem ex_start5R : Start5 exSysR ∧ exSysR.s.locked = [] :=
  restart_is_start5 exSys (exAt 4) (exEvs.take 4) (Or.inl ex_init5) (by decide +kernel)
    (histOk_take _ _ _ ex_histOk) (ex_runs 4) 2 10 [[-1, -1]] [[0], [0], [0]] exRS exRS_restored

theorem exR_runs (k : Nat) : run exSysR (exEvsR.take k) = .ok (exRAt k) :=
  run_take_eq (y' := exRAt 5) (by decide +kernel) k

theorem exRAt3_shape : (exRAt 3).s.n = 4
    ∧ (exRAt 3).jobs[0]?.map (fun j => j.picked.map (·.ens)) = some [1] := by decide +kernel

/-- the job completing in step 3 of the restarted run holds `[1+]` -/
theorem exRAt3_job0 {job : Job} (hjob : (exRAt 3).jobs[0]? = some job) :
    ∀ pw ∈ job.picked.zip [([1, 1, 0] : List Rat)], pw.1.ens = 1 ∧ pw.2 = [1, 1, 0] := by
  have h := exRAt3_shape.2
  rw [hjob, Option.map_some, Option.some.injEq] at h
  intro pw hpw
  have hm := mem_zip_map_left (·.ens) hpw
  rw [h] at hm
  simpa only [List.zip_cons_cons, List.zip_nil_right, List.mem_cons, List.not_mem_nil, or_false,
    Prod.mk.injEq] using hm

theorem exR_evOk3 : EvOk (exRAt 3) (.step 0 .acc [[1, 1, 0]] { t := 2, e := 2 }) := by decide +kernel

theorem exR_histOk : HistOk exSysR exEvsR := by decide +kernel

theorem exR_reachable (k : Nat) (hk : k ≤ 5) : ReachableR (exRAt k) :=
  ⟨exSysR, exEvsR.take k, ex_start5R.1, histOk_take _ _ _ exR_histOk, exR_runs k⟩

/-- the accepted step of the restarted run, after the initiation phase -/
theorem exR_step3 : (exRAt 3).s.toinitiate = -1
    ∧ sysStep (exRAt 3) (.step 0 .acc [[1, 1, 0]] { t := 2, e := 2 }) = .ok (exRAt 4) := by decide +kernel

/-- the restarted run: both recorded jobs are re-issued (slots 2 and 0 locked again), then complete;
    all `_restart` theorems apply to each of these states -/
example : ReachableR (exRAt 2) ∧ (exRAt 0).s.locked0 = [([2], [2]), ([0], [3])]
    ∧ (exRAt 2).s.locks = [true, false, true, true] ∧ (exRAt 2).s.locked0 = []
    ∧ (exRAt 5).s.trajs = [some 3, some 4, some 5, none] ∧ (exRAt 5).s.trajNum = 6 :=
  ⟨exR_reachable 2 (by decide), by decide +kernel⟩

/-- non-vacuity of the step theorems on the restarted run (accepted step 3, rejected step 4) -/
example : ReachableR (exRAt 3) ∧ EvOk (exRAt 3) (.step 0 .acc [[1, 1, 0]] { t := 2, e := 2 })
    ∧ (exRAt 3).s.toinitiate = -1
    ∧ sysStep (exRAt 3) (.step 0 .acc [[1, 1, 0]] { t := 2, e := 2 }) = .ok (exRAt 4) :=
  ⟨exR_reachable 3 (by decide), exR_evOk3, exR_step3⟩

/-- a second restart in the chain: stop the restarted run after its first re-issue and restore again -/
example : ∃ s'', restore (persist (exRAt 1).s) (exRAt 1).s.n 2 10 [[-1, -1]] [[0], [0], [0]]
      (fun pn => ((exRAt 1).s.wts.lookup pn).getD []) = .ok s''
    ∧ Start5 { s := s'', jobs := [] } := by
  have hex : ∃ s'', restore (persist (exRAt 1).s) (exRAt 1).s.n 2 10 [[-1, -1]] [[0], [0], [0]]
      (fun pn => ((exRAt 1).s.wts.lookup pn).getD []) = .ok s'' := by
    have hc := (reach_inv5R (exR_reachable 1 (by decide)))
    exact restore_loadsR hc.inv.core hc.fam (by
      have h : (exRAt 1).s.n = 4 ∧ ∀ i < 3, entryM (exRAt 1).s.W i i ≠ 0 := by decide +kernel
      rw [h.1]
      exact h.2) 2 10 [[-1, -1]] [[0], [0], [0]]
  obtain ⟨s'', hs⟩ := hex
  exact ⟨s'', hs, (restart_is_start5 exSysR (exRAt 1) (exEvsR.take 1) ex_start5R.1 ex_start5R.2
    (histOk_take _ _ _ exR_histOk) (exR_runs 1) 2 10 [[-1, -1]] [[0], [0], [0]] s'' hs).1⟩

/-! ## F. Where the family hypothesis comes from: `calc_cv_vector` for shooting moves -/

/-- **For shooting-only configurations the hypothesis `HistOk` of all theorems above is implied.**
    `CvHist intfs y evs`: every accepted step's new weight vectors are what `calc_cv_vector`
    computes (`WF.cvVector` with no wire-fencing entry for a plus ensemble, `WF.cvMinus` of a valid
    path for `[0-]`), with strictly increasing interfaces `intfs` and `n = len(intfs) + 1` slots.
    Then the history is in C02's staircase family (`cvVector_sh_vecOk`: an entry is `1` exactly when
    the path's maximum reaches its interface — a prefix, because interfaces increase; the last
    entry is `0`).
    **Wire fencing is different**: a wf entry counts frames inside `[λ_i, cap)` on valid sub-paths;
    a path that jumps over the whole band has weight `0` there while its weights further up are
    non-zero (`wf_weight_vector_can_have_a_hole`), which is not a staircase.  For wf
    configurations the family assumption needs a condition on the order sequences (section G). -/
theorem histOk_of_cv_history (intfs : List Int) (hs : intfs.Pairwise (· < ·)) (y : Sys) (evs : List Ev)
    (h : CvHist intfs y evs) : HistOk y evs :=
  (histOk_iff_along evs y).mpr (((cvHist_iff_along intfs evs y).mp h).mono (evOk_of_evCv intfs hs))

/-- the weight vector of an accepted shooting path is in the family and non-zero in its own
    ensemble `e` as soon as the path crosses `λ_e` (which an accepted shooting move guarantees) -/
theorem cv_vector_family (n : Nat) (e : Nat) (ops intfs : List Int) (mv : List Bool) (cap : Option Int)
    (ws : List Nat) (pmax : Int) (hmax : WF.maxOf ops = some pmax) (hn : n = intfs.length + 1)
    (hs : intfs.Pairwise (· < ·)) (hmv : ∀ b ∈ mv, b = false)
    (h : WF.cvVector ops intfs mv cap = .ok ws) (he : e < intfs.length - 1)
    (hcross : intfs[e]'(by omega) ≤ pmax) :
    VecOk n (e : Int) (ratVec ws) ∧ ws.getD e 0 = 1 :=
  ⟨cvVector_sh_vecOk n e (by omega) ops intfs mv cap ws hn hs hmv h,
    cvVector_sh_own ops intfs mv cap ws pmax hmax hmv h e he hcross⟩

example : WF.cvVector [-1, 1, 5, -1] [0, 2, 4, 6] [false, false, false] none = .ok [1, 1, 1, 0]
    ∧ WF.maxOf [-1, 1, 5, -1] = some 5 ∧ ([0, 2, 4, 6] : List Int).Pairwise (· < ·) := by
  decide +kernel

/-- **a wire-fencing weight vector with a hole**: interfaces `0 < 2 < 4 < 6`, ensemble `[1+]`
    wire-fencing; the path `-1, 1, 7, -1` jumps over `[2, 6)`: weights `(1, 0, 1, 0)` -/
theorem wf_weight_vector_can_have_a_hole :
    WF.cvVector [-1, 1, 7, -1] [0, 2, 4, 6] [false, true, false] none = .ok [1, 0, 1, 0] := by
  decide

/-! ### Outside the family the property FAILS on the code as it is (open known findings
`C05:hole-weight-vector:sort-stalls`, `C05:hole-weight-vector:prob-assertion`; witnesses on the real code
in corpus/C05/hole-vector-*.json).  The main theorems keep the family hypothesis. -/

/-- the shooting path `-1, 1.5, 5` of the witness (orders doubled to stay in `Int`): interfaces
    `0<1<2<3<4`, `[2+]` wire-fencing: weights `(1,1,0,1,0)` -/
example : WF.cvVector [-2, 3, 10] [0, 2, 4, 6, 8] [false, false, true, false] none = .ok [1, 1, 0, 1, 0] := by
  decide +kernel

/-- the state `treat_output` hands to `sort_trajstate` in step 2 of the witness: two paths with the
    hole vector in slots 1 and 2, the old `[1+]` path in slot 4 -/
def exHole : St := { blank 6 1 50 2 7 0 [[-1]] [[0], [0], [0], [0], [0]] false [] with
  toinitiate := -1,
  W := [[1,0,0,0,0,0],[0,1,1,0,1,0],[0,1,1,0,1,0],[0,1,1,1,0,0],[0,1,1,0,0,0],[0,0,0,0,0,0]],
  trajs := [some 0, some 5, some 6, some 3, some 2, none],
  locks := [false, false, false, false, false, true] }

/-- **`sort_terminates` fails outside the family**: the idle block of `exHole` is matchable (a valid
    slot order exists: positive permanent) and every row is non-negative, yet `sort_trajstate` with the
    scheduler's fuel runs out of fuel — the `while` loop swaps slots 3 and 4 forever. -/
theorem sort_stalls_on_hole_counterexample :
    0 < permC (idle exHole.W exHole.locks) ∧
    sortTrajstate (sortFuel exHole) exHole = .error .stall ∧
    sortTrajstate (1000) exHole = .error .stall := by
  -- slot 4 is moved to slot 3 (the only row reaching column 3), which sends slot 3 to 4 and back
  have h := sortTrajstate_stall_of_two_cycle (s := exHole) (s' := swap exHole 4 3)
    (by decide +kernel) (by decide +kernel)
  exact ⟨by decide +kernel, (h _).1, (h _).1⟩

def exHoleW : Mat := [[1,0,0,0,0],[0,1,0,0,0],[0,1,1,0,0],[0,1,0,1,0],[0,0,0,0,0]]
def exHoleL : List Bool := [false, true, false, false, true]

/-- **`pick_defined` fails outside the family on the code's algorithm**: with the hole row
    `(1,0,1,0)` in slot 3 and `[0+]` locked (the zero-swap pick of the witness) the idle block is the
    identity — the permanent ratios (`probMatrix`, the specification) are perfectly well defined —
    but the model of the code's `inf_retis` (C02's `infRetis`: two argsorts, block decomposition)
    ends in its row-sum assertion. -/
theorem pick_undefined_on_hole_counterexample :
    infRetis exHoleW exHoleL = .error .assert ∧
    probMatrix exHoleW exHoleL = [[1,0,0,0,0],[0,0,0,0,0],[0,0,1,0,0],[0,0,0,1,0],[0,0,0,0,0]] := by
  -- both key lists handed to `argsort` are sorted already
  have hi := (infRetis_of_argsorts exHoleW exHoleL 1 [0] [-1, 0] _ _ (by decide +kernel) (by decide +kernel)
    (argsort_of_sorted _ (by decide)) (argsort_of_sorted _ (by decide))).1
  exact ⟨by rw [hi]; decide +kernel, by decide +kernel⟩

/-- the path `-1, 0.5, 4` of this witness (orders doubled): interfaces `0<1<2<3`, `[1+]` wire-fencing -/
example : WF.cvVector [-2, 1, 8] [0, 2, 4, 6] [false, true, false] none = .ok [1, 0, 1, 0] := by decide +kernel

/-- the accepted step of the restarted example, read as a `calc_cv_vector` outcome -/
example : EvCv [0, 2, 4] (exRAt 3) (.step 0 .acc [[1, 1, 0]] { t := 2, e := 2 }) := by
  intro _
  refine ⟨exRAt3_shape.1, fun job hjob pw hpw => ?_⟩
  obtain ⟨he, hw⟩ := exRAt3_job0 hjob pw hpw
  rw [he, hw]
  exact ⟨fun hneg => absurd hneg (by decide), fun _ =>
    ⟨[-1, 1, 3, -1], [false, false], none, [1, 1, 0], by decide, by decide, by decide +kernel⟩⟩

/-! ## G. The family hypothesis from order sequences, wire fencing included

Model of this section: `Infretis/Model/RepexCv.lean` (the C05 driver runs it: ops `cvfam`, `cvload`, `mumat`);
lemmas in `Infretis/Lemmas/RepexC05Cv.lean`, `RepexC05Chain.lean`. -/

open Infretis.RepexCv Infretis.Repex.Cv

/-- **Exactly when `calc_cv_vector` is in C02's family**: iff its positive entries have NO HOLE — whenever the entry
    of a higher ensemble `j` is positive (`EntryPos`: shooting `λ_j ≤ max(order)`; wire fencing
    `0 < weight λ_j cap ops`, a frame inside `[λ_j, cap)` on a valid sub-path) the entry of every lower ensemble
    `k < j` is positive too.  For every order sequence, every interface list, any mix of shooting and wire-fencing
    ensembles, with or without `interface_cap`. -/
theorem cv_vector_family_iff (n : Nat) (e : Int) (he : 0 ≤ e) (ops intfs : List Int) (mv : List Bool)
    (cap : Option Int) (ws : List Nat) (hn : n = intfs.length + 1)
    (h : WF.cvVector ops intfs mv cap = .ok ws) :
    ∃ pmax ilast, WF.maxOf ops = some pmax ∧ intfs.getLast? = some ilast ∧
      (VecOk n e (ratVec ws) ↔ NoHole ops intfs mv (cap.getD ilast) pmax) :=
  cvVector_vecOk_iff n e he ops intfs mv cap ws hn h

/-- both sides of `cv_vector_family_iff` occur: the shooting vector of section F is in the family, the hole vector
    `(1,0,1,0)` is not (entry 2 positive, wire-fencing entry 1 not) -/
example : WF.cvVector [-1, 1, 7, -1] [0, 2, 4, 6] [false, true, false] none = .ok [1, 0, 1, 0]
    ∧ ¬ NoHole [-1, 1, 7, -1] [0, 2, 4, 6] [false, true, false] 6 7
    ∧ WF.cvVector [-1, 1, 3, 5, 7, -1] [0, 2, 4, 6] [false, true, false] none = .ok [1, 2, 1, 0] := by
  refine ⟨by decide +kernel, ?_, by decide +kernel⟩
  intro h
  have := h 1 2 2 4 true false (by decide) (by decide) rfl rfl rfl rfl
    (by unfold EntryPos; decide)
  revert this
  unfold EntryPos
  decide

/-- **A wire-fencing band that is not jumped over has positive weight**: a path that starts below `l`, reaches `l`,
    ends outside `[l, r)` and has no MD step from below `l` to at/above `r` has a frame inside `[l, r)` on a valid
    sub-path — `wirefence_weight_and_pick` returns a positive weight. -/
theorem wf_weight_positive_without_jump (l r : Int) (hlr : l ≤ r) (ops : List Int) (first last pmax : Int)
    (hf : ops.head? = some first) (hfl : first < l)
    (hl : ops.getLast? = some last) (hout : last < l ∨ r ≤ last)
    (hmax : WF.maxOf ops = some pmax) (hreach : l ≤ pmax) (hnj : noJumpUp l r ops = true) :
    0 < WF.weight l r ops :=
  weight_pos_of_noJump l r ops first last pmax hf hfl hl hout hmax hreach hnj

example : noJumpUp 2 6 [-1, 1, 3, 7, -1] = true ∧ WF.weight 2 6 [-1, 1, 3, 7, -1] = 1
    ∧ noJumpUp 2 6 [-1, 1, 7, -1] = false ∧ WF.weight 2 6 [-1, 1, 7, -1] = 0 := by decide +kernel

/-- **The family hypothesis from a condition on order sequences** (`noJumpCfg`, decidable, the driver evaluates it):
    strictly increasing interfaces, wire-fencing interfaces at or below the cap (`CapOk`), a path that starts below
    `λ_0`, ends below `λ_0` or at/above the cap, and never steps from below a wire-fencing interface `λ_k` to at/above
    the cap.  Then `calc_cv_vector` is in C02's family, and entry `k` is non-zero exactly when `λ_k ≤ max(order)` —
    in particular the own-ensemble weight `add_traj` asserts on is non-zero for a path that crosses its interface. -/
theorem cv_vector_family_of_no_jump (n : Nat) (e : Int) (he : 0 ≤ e) (c : CvCfg) (ops : List Int) (ws : List Nat)
    (hn : n = c.intfs.length + 1) (hs : c.intfs.Pairwise (· < ·)) (hcap : CapOk c)
    (hnj : noJumpCfg c ops = true) (h : WF.cvVector ops c.intfs c.mv c.cap = .ok ws) :
    VecOk n e (ratVec ws) ∧ ∃ pmax, WF.maxOf ops = some pmax ∧
      ∀ (k : Nat) (lam : Int), k + 1 < c.intfs.length → c.intfs[k]? = some lam →
        ∃ w, ws[k]? = some w ∧ (0 < w ↔ lam ≤ pmax) :=
  cvVector_vecOk_of_noJump n e he c ops ws hn hs hnj h

def exCfg : CvCfg := { intfs := [0, 2, 4, 6], mv := [false, true, false], cap := none }

theorem exCfg_capOk : CapOk exCfg := by
  intro k lam hk hlam hm
  have : k = 0 ∨ k = 1 ∨ k = 2 := by simp [exCfg] at hk; omega
  rcases this with rfl | rfl | rfl
  · simp [exCfg] at hm
  · simp [exCfg] at hlam; subst hlam; decide
  · simp [exCfg] at hm

example : noJumpCfg exCfg [-1, 1, 3, 5, 7, -1] = true ∧ exCfg.intfs.Pairwise (· < ·) ∧ CapOk exCfg
    ∧ WF.cvVector [-1, 1, 3, 5, 7, -1] exCfg.intfs exCfg.mv exCfg.cap = .ok [1, 2, 1, 0] :=
  ⟨by decide +kernel, by decide +kernel, exCfg_capOk, by decide +kernel⟩

/-- **The boundary**: a vector outside the family needs an order sequence that violates the condition (with legal
    ends: an MD step from below a wire-fencing interface to at/above the cap) — the hole vectors of the open
    finding are exactly on the other side of `cv_vector_family_of_no_jump`. -/
theorem cv_vector_hole_needs_jump (n : Nat) (e : Int) (he : 0 ≤ e) (c : CvCfg) (ops : List Int) (ws : List Nat)
    (hn : n = c.intfs.length + 1) (hs : c.intfs.Pairwise (· < ·)) (hcap : CapOk c)
    (h : WF.cvVector ops c.intfs c.mv c.cap = .ok ws) (hbad : ¬ VecOk n e (ratVec ws)) :
    noJumpCfg c ops = false := by
  cases hnj : noJumpCfg c ops with
  | false => rfl
  | true => exact absurd (cvVector_vecOk_of_noJump n e he c ops ws hn hs hnj h).1 hbad

example : noJumpCfg exCfg [-1, 1, 7, -1] = false
    ∧ WF.cvVector [-1, 1, 7, -1] exCfg.intfs exCfg.mv exCfg.cap = .ok [1, 0, 1, 0] := by decide +kernel

/-- a bound on the MD step gives the no-jump condition for a band: steps of at most the band width `r - l` -/
theorem no_jump_of_step_bound (l r : Int) (ops : List Int)
    (h : ∀ (pre : List Int) (a b : Int) (suf : List Int), ops = pre ++ a :: b :: suf → b - a ≤ r - l) :
    noJumpUp l r ops = true := by
  induction ops with
  | nil => rfl
  | cons a t ih =>
    cases t with
    | nil => rfl
    | cons b t =>
      simp only [noJumpUp, Bool.and_eq_true, Bool.not_eq_true', Bool.and_eq_false_iff, decide_eq_false_iff_not]
      refine ⟨?_, ih (fun pre a' b' suf hops => h (a :: pre) a' b' suf (by rw [hops]; rfl))⟩
      have := h [] a b t rfl
      omega

example : noJumpUp 2 6 [-1, 1, 3, 5, 7, -1] = true := by decide +kernel

/-- **`HistOk` (the hypothesis of every theorem of sections A–E) from order sequences, wire fencing included**:
    `CvHistW c y evs` — every accepted step's new weight vectors are `calc_cv_vector` of order sequences satisfying
    `noJumpCfg c` (`[0-]`: `cvMinus` of a valid path). -/
theorem histOk_of_cv_history_wf (c : CvCfg) (hs : c.intfs.Pairwise (· < ·)) (hcap : CapOk c) (y : Sys)
    (evs : List Ev) (h : CvHistW c y evs) : HistOk y evs :=
  (histOk_iff_along evs y).mpr (((cvHistW_iff_along c evs y).mp h).mono (evOk_of_evCvW c hs))

/-- the accepted step of the restarted example, read as a `calc_cv_vector` outcome of a wire-fencing configuration
    (`[1+]` wire fencing, interfaces `0 < 2 < 4`): the path `-1, 1, 3, -1` has weights `(1, 1, 0)` -/
example : EvCvW { intfs := [0, 2, 4], mv := [false, true], cap := none } (exRAt 3)
    (.step 0 .acc [[1, 1, 0]] { t := 2, e := 2 }) := by
  intro _
  refine ⟨exRAt3_shape.1, fun job hjob pw hpw => ?_⟩
  obtain ⟨he, hw⟩ := exRAt3_job0 hjob pw hpw
  rw [he, hw]
  exact ⟨fun hneg => absurd hneg (by decide), fun _ =>
    ⟨[-1, 1, 3, -1], [1, 1, 0], by decide, by decide, by decide +kernel⟩⟩

/-! ### the iteration bound of `sort_trajstate` -/

/-- **`sort_trajstate` ends within `sortMeasure W ≤ n²` iterations** on every state `treat_output` hands to it
    (any number of workers): the number of `while` iterations the model returns — the tie compares it with the number
    of swaps of the real `sort_trajstate` on every step — is at most the measure
    `Σ_slots (slot − number of leading non-zero plus columns of its row)` of the state before sorting. -/
theorem sort_iterations_bounded {y : Sys} (hr : ReachableR y) (k : Nat) (status : Status)
    (newW : List (List Rat)) (o : PickOutcome) (hev : EvOk y (.step k status newW o))
    (job : Job) (hjob : y.jobs[k]? = some job) (s3 : St) (tn : Nat) (pns : List Nat)
    (hpre : preSort (loop y.s).1 job status newW = .ok (s3, tn, pns)) :
    ∃ s4 it, sortTrajstate (sortFuel (loop y.s).1) s3 = .ok (s4, it) ∧
      it ≤ sortMeasure s3.W ∧ sortMeasure s3.W ≤ s3.n * s3.n := by
  simp only [sortMeasure_eq_mu]
  exact (reach_inv5R hr).sort_returns hjob status newW (fun ha => hev ha job hjob) hpre

/-- the crafted state of section B: measure 8, three iterations -/
example : sortMeasure exSort6.W = 8 ∧
    (match sortTrajstate (sortFuel exSort6) exSort6 with | .ok (_, k) => k | .error _ => 99) = 3 := by
  decide +kernel

/-! ### the restart file: slot order and path counter -/

/-- **The restart file written after a step loads, slot by slot** (`persist` / `restore` are the functions C06's
    restart-equivalence theorems are about): for a reachable state after the initiation phase and a completing step,
    `restore (persist s2)` of the state `treat_output` leaves behind (after `sort_trajstate`) succeeds, the image's
    `active` list IS the sorted slot order, every real slot of the restored state holds the path that slot held,
    all real slots are idle, and `traj_num` is the one the running state had. -/
theorem restart_file_same_slots {y y' : Sys} (hr : ReachableR y) (k : Nat) (status : Status)
    (newW : List (List Rat)) (o : PickOutcome) (hev : EvOk y (.step k status newW o))
    (hto : y.s.toinitiate = -1) (h : sysStep y (.step k status newW o) = .ok y') :
    ∃ (s2 : St) (job : Job) (pns : List Nat) (it : Nat), y.jobs[k]? = some job ∧
      treatOutput (loop y.s).1 job status newW (sortFuel (loop y.s).1) = .ok (s2, pns, it) ∧
      ∀ (workers tsteps : Nat) (occ : List (List Int)) (ensEng : List (List Nat)),
        ∃ s'', restore (persist s2) s2.n workers tsteps occ ensEng
          (fun pn => (s2.wts.lookup pn).getD []) = .ok s'' ∧
          (∀ e, e < s2.n - 1 → (persist s2).active[e]? = s2.trajs[e]? ∧ s''.trajs[e]? = s2.trajs[e]? ∧
            entryM s2.W e e ≠ 0) ∧
          s''.trajNum = s2.trajNum ∧ s''.locks = List.replicate (s2.n - 1) false ++ [true] := by
  have hi := reach_inv5R hr
  obtain ⟨job, ym, hc, _⟩ := Completes.of_step h
  obtain ⟨hi2, _, _, hdiag, _, _⟩ := hi.done o hev hc
  cases hc with | @mk s2 pns it _ hjob htreat =>
  have hc2 : CoreR s2 (held (y.jobs.eraseIdx k)) s2.trajNum := hi2.inv.core
  refine ⟨s2, job, pns, it, hjob, htreat, fun workers tsteps occ ensEng => ?_⟩
  obtain ⟨s'', hs''⟩ := restore_loadsR hc2 hi2.fam (hdiag hto) workers tsteps occ ensEng
  obtain ⟨_, h2, h3, h4, h5⟩ := restore_slots hc2 workers tsteps occ ensEng _ hs''
  exact ⟨s'', hs'', fun e he => ⟨h5 e he, h2 e he, hdiag hto e he⟩, h3, h4⟩

example : ReachableR (exRAt 3) ∧ EvOk (exRAt 3) (.step 0 .acc [[1, 1, 0]] { t := 2, e := 2 })
    ∧ (exRAt 3).s.toinitiate = -1
    ∧ sysStep (exRAt 3) (.step 0 .acc [[1, 1, 0]] { t := 2, e := 2 }) = .ok (exRAt 4) :=
  ⟨exR_reachable 3 (by decide), exR_evOk3, exR_step3⟩

/-- **Path numbers are never reused across restarts.**  A first life `y0 → y` (start state, nothing recorded in
    `locked`), the restart file of `y` restored to `s'`, a second life `⟨s', []⟩ → y2` and an accepted step there:
    the restored `traj_num` is the recorded one, it never decreases, and every number `q` the step hands out is
    `≥ traj_num` of the first life's last state — hence different from every live path, every `traj_data` key
    (weights, fractions) and every data-file row of the first life.  With `restart_is_start5` (the restored state is
    a start state again) this extends to any chain of restarts. -/
theorem path_numbers_fresh_across_restart (y0 y : Sys) (evs : List Ev) (h0 : Start5 y0) (hl : y0.s.locked = [])
    (hh : HistOk y0 evs) (hr : run y0 evs = .ok y) (workers tsteps : Nat) (occ : List (List Int))
    (ensEng : List (List Nat)) (s' : St)
    (h : restore (persist y.s) y.s.n workers tsteps occ ensEng
      (fun pn => (y.s.wts.lookup pn).getD []) = .ok s')
    (evs2 : List Ev) (y2 y3 : Sys) (hh2 : HistOk { s := s', jobs := [] } evs2)
    (hr2 : run { s := s', jobs := [] } evs2 = .ok y2) (k : Nat) (newW : List (List Rat)) (o : PickOutcome)
    (hev : EvOk y2 (.step k .acc newW o)) (hstep : sysStep y2 (.step k .acc newW o) = .ok y3) :
    s'.trajNum = y.s.trajNum ∧ y.s.trajNum ≤ y2.s.trajNum ∧
    ∃ (s2 : St) (job : Job) (pns : List Nat) (it : Nat), y2.jobs[k]? = some job ∧
      treatOutput (loop y2.s).1 job .acc newW (sortFuel (loop y2.s).1) = .ok (s2, pns, it) ∧
      ∀ q ∈ pns, y.s.trajNum ≤ q ∧
        (∀ e, e < y.s.n - 1 → y.s.trajs[e]? ≠ some (some q)) ∧
        q ∉ y.s.wts.map Prod.fst ∧ q ∉ y.s.frac.map Prod.fst ∧ q ∉ y.s.rows.map (·.1) := by
  have hi := (run_preserves5 evs h0.inv5 hh hr).1
  obtain ⟨hstart, _⟩ := restart_is_start5 y0 y evs h0 hl hh hr workers tsteps occ ensEng s' h
  obtain ⟨_, _, htn, _, _⟩ := restore_slots hi.inv.core workers tsteps occ ensEng _ h
  have hmono := (run_preserves5 evs2 hstart.inv5 hh2 hr2).2
  have hmono' : y.s.trajNum ≤ y2.s.trajNum := by
    have : s'.trajNum ≤ y2.s.trajNum := hmono
    omega
  have hreach2 : ReachableR y2 := ⟨_, evs2, hstart, hh2, hr2⟩
  obtain ⟨_, s2, job, pns, it, hjob, htreat, hfresh⟩ := path_numbers_fresh_restart hreach2 k newW o hev hstep
  refine ⟨htn, hmono', s2, job, pns, it, hjob, htreat, ?_⟩
  intro q hq
  obtain ⟨hge, _, _⟩ := hfresh q hq
  have hq' : y.s.trajNum ≤ q := by omega
  exact ⟨hq', hi.unused_of_ge hq'⟩

/-- the restarted example: first life `exSys → exAt 4` (`traj_num` 5), second life `exSysR → exRAt 3`, the accepted
    step there hands out number 5 -/
example : Start5 exSys ∧ exSys.s.locked = [] ∧ run exSys (exEvs.take 4) = .ok (exAt 4)
    ∧ (exAt 4).s.trajNum = 5 ∧ run exSysR (exEvsR.take 3) = .ok (exRAt 3)
    ∧ sysStep (exRAt 3) (.step 0 .acc [[1, 1, 0]] { t := 2, e := 2 }) = .ok (exRAt 4)
    ∧ (exRAt 4).s.trajs = [some 3, some 4, some 5, none] :=
  have h : exSys.s.locked = [] ∧ (exAt 4).s.trajNum = 5 ∧ (exRAt 4).s.trajs = [some 3, some 4, some 5, none] := by
    decide +kernel
  ⟨Or.inl ex_init5, h.1, ex_runs 4, h.2.1, exR_runs 3, exR_step3.2, h.2.2⟩

/-! ### `load_paths` with the weights computed from the paths -/

/-- **`load_paths` as the code runs it** (`loadPathsCv`: weights of `paths[i+1]` from `calc_cv_vector`, `(1.0,)` for
    `paths[0]`) **is `loadPaths` on the computed vectors**. -/
theorem load_paths_cv_is_loadPaths (c : CvCfg) (s : St) (paths : List CvPath) (f : Nat → List Nat)
    (hn : 2 ≤ s.n) (hlen : paths.length = s.n - 1)
    (hcv : ∀ (i : Nat) (pn : Nat) (ops : List Int) (fr : List Rat), paths[i + 1]? = some (pn, ops, fr) →
      WF.cvVector ops c.intfs c.mv c.cap = .ok (f i)) :
    loadPathsCv c s paths = loadPaths s (withW f 0 paths) :=
  loadPathsCv_eq_loadPaths c s paths f hn hlen hcv

/-- **`load_paths` returns iff every initial plus path is valid in its own ensemble** (non-zero own weight, the
    assertion of `add_traj`); `f i` = what `calc_cv_vector` returns for `paths[i+1]`.
    Not in `loadPathsCv`: the evaluation of `self.prob` with which the real `add_traj` ends (P is a pure function of the
    state in the model).  In-family it is defined (`pick_defined`, and the tie runs it on every loaded state); with a HOLE
    vector among the initial paths the real `inf_retis` can fail its row-sum assertion already at load time — the open
    finding `C05:hole-weight-vector:prob-assertion`, witness: interfaces 0<2<4<5, `[1+]` wire fencing, `[2+]` path `-1, 5`. -/
theorem load_paths_cv_loads_iff (c : CvCfg) (n workers tsteps cstep trajNum seed : Nat) (occ : List (List Int))
    (ensEng : List (List Nat)) (restarted : Bool) (l0 : List (List Nat × List Nat)) (paths : List CvPath)
    (f : Nat → List Nat) (hn : 2 ≤ n) (hlen : paths.length = n - 1)
    (hcv : ∀ (i : Nat) (pn : Nat) (ops : List Int) (fr : List Rat), paths[i + 1]? = some (pn, ops, fr) →
      WF.cvVector ops c.intfs c.mv c.cap = .ok (f i))
    (hflen : ∀ i, i + 1 < paths.length → (f i).length + 1 = n) :
    (∃ s', loadPathsCv c (blank n workers tsteps cstep trajNum seed occ ensEng restarted l0) paths = .ok s') ↔
      ∀ i, i + 1 < paths.length → ∃ w, (f i)[i]? = some w ∧ w ≠ 0 := by
  have hbn : (blank n workers tsteps cstep trajNum seed occ ensEng restarted l0).n = n := rfl
  rw [loadPathsCv_eq_loadPaths c _ paths f (by rw [hbn]; exact hn) (by rw [hbn]; exact hlen) hcv]
  constructor
  · rintro ⟨s', hs'⟩ i hi
    -- the diagonal entry the assertion of add_traj looked at
    obtain ⟨_, hok, _⟩ := loadPaths_ok_iff.mp hs'
    rcases hpi : paths[i + 1] with ⟨pn, ops, fr⟩
    have hget : paths[i + 1]? = some (pn, ops, fr) := by rw [List.getElem?_eq_getElem hi, hpi]
    have := (hok (i + 1) _ (by rw [withW_getElem?, hget]; rfl)).diag
    simp only [Nat.zero_add, Nat.succ_ne_zero, ↓reduceIte, Nat.add_sub_cancel] at this
    rw [padValid_eq_padN, show (((i + 1 : Nat) : Int) - 1) = (i : Int) by omega] at this
    exact (padN_own _ i (f i)).1 this
  · intro hvalid
    refine loadPaths_succeeds (fresh_blank n workers tsteps cstep trajNum seed occ ensEng restarted l0) ?_ ?_
    · intro he
      have := congrArg List.length he
      rw [withW_length, List.length_nil] at this
      omega
    · intro j p hj
      rw [withW_getElem?] at hj
      obtain ⟨⟨pn, ops, fr⟩, hget, rfl⟩ := Option.map_eq_some_iff.mp hj
      have hjlt := (List.getElem?_eq_some_iff.mp hget).1
      simp only [Nat.zero_add]
      refine ⟨by omega, ?_⟩
      cases j with
      | zero =>
        simp only [↓reduceIte, Nat.cast_zero, Int.zero_sub]
        unfold padN
        rw [if_neg (by decide)]
        constructor
        · simp [off]; omega
        · simp
      | succ j =>
        simp only [Nat.succ_ne_zero, ↓reduceIte, Nat.add_sub_cancel]
        rw [show (((j + 1 : Nat) : Int) - 1) = (j : Int) by omega]
        refine ⟨?_, (padN_own n j (f j)).2 (hvalid j hjlt)⟩
        unfold padN ratVec
        rw [if_pos (by omega)]
        have := hflen j hjlt
        simp [off]; omega

def exCvPaths : List CvPath :=
  [(0, [1, -1, 1], [0,0,0,0]), (1, [-1, 1, -1], [0,0,0,0]), (2, [-1, 1, 3, -1], [0,0,0,0])]

def exCfg3 : CvCfg := { intfs := [0, 2, 4], mv := [false, true], cap := none }

/-- three ensembles, `[1+]` wire fencing: the paths load; with the `[1+]` path replaced by one that does not reach
    `λ_1 = 2` the assertion of `add_traj` fires -/
example : (match loadPathsCv exCfg3 exBlank exCvPaths with
      | .ok s => (s.W, s.trajs, s.locks) | .error _ => ([], [], []))
      = ([[1,0,0,0],[0,1,0,0],[0,1,1,0],[0,0,0,0]], [some 0, some 1, some 2, none], [false, false, false, true])
    ∧ loadPathsCv exCfg3 exBlank [(0, [1, -1, 1], []), (1, [-1, 1, -1], []), (2, [-1, 1, -1], [])] = .error .assert := by
  decide +kernel

/-- **A fresh start from ORDER SEQUENCES is a start state of every theorem of sections A–E, and matchable**:
    `load_paths` as the code runs it, on `n - 1` initial paths with distinct numbers below `traj_num` whose order
    sequences satisfy the no-jump condition (strictly increasing interfaces, `CapOk`): if it returns, the state is
    `Init5` (so `Reachable` / `ReachableR` histories start from it) and its idle block admits a perfect matching. -/
theorem fresh_start_from_order_sequences (c : CvCfg) (n workers tsteps cstep trajNum seed : Nat)
    (occ : List (List Int)) (ensEng : List (List Nat)) (restarted : Bool) (paths : List CvPath)
    (f : Nat → List Nat) (s : St) (hn : 2 ≤ n) (hnc : n = c.intfs.length + 1) (hlen : paths.length = n - 1)
    (hs : c.intfs.Pairwise (· < ·)) (hcap : CapOk c)
    (hnd : (paths.map (·.1)).Nodup) (hlt : ∀ p ∈ paths, p.1 < trajNum)
    (hcv : ∀ (i : Nat) (pn : Nat) (ops : List Int) (fr : List Rat), paths[i + 1]? = some (pn, ops, fr) →
      WF.cvVector ops c.intfs c.mv c.cap = .ok (f i) ∧ noJumpCfg c ops = true)
    (h : loadPathsCv c (blank n workers tsteps cstep trajNum seed occ ensEng restarted []) paths = .ok s) :
    Init5 { s := s, jobs := [] } ∧ Matchable s := by
  have hbn : (blank n workers tsteps cstep trajNum seed occ ensEng restarted []).n = n := rfl
  rw [loadPathsCv_eq_loadPaths c _ paths f (by rw [hbn]; exact hn) (by rw [hbn]; exact hlen)
    (fun i pn ops fr hp => (hcv i pn ops fr hp).1)] at h
  have hi : Init5 { s := s, jobs := [] } := by
    apply fresh_start_is_init5 n workers tsteps cstep trajNum seed occ ensEng restarted (withW f 0 paths) s hn
      (by rw [withW_length]; exact hlen) (by rw [withW_map_fst]; exact hnd) ?_ ?_ h
    · intro p hp
      have hm : p.1 ∈ paths.map (·.1) := withW_map_fst f paths 0 ▸ List.mem_map_of_mem hp
      obtain ⟨q, hq, hqp⟩ := List.mem_map.mp hm
      exact hqp ▸ hlt q hq
    · intro i hi
      obtain ⟨⟨pn, ops, fr⟩, hget, hw⟩ := Option.map_eq_some_iff.mp
        ((withW_getElem? f paths 0 i).symm.trans (List.getElem?_eq_getElem hi))
      rw [← hw]
      cases i with
      | zero => exact vecOk_minus_gen n (by omega)
      | succ j =>
        simp only [Nat.zero_add, Nat.succ_ne_zero, ↓reduceIte, Nat.add_sub_cancel]
        rw [show (((j + 1 : Nat) : Int) - 1) = (j : Int) by omega]
        obtain ⟨h1, h2⟩ := hcv j pn ops fr hget
        exact (cvVector_vecOk_of_noJump n (j : Int) (by omega) c ops (f j) hnc hs h2 h1).1
  exact ⟨hi, ⟨hi.inv5.fam.nonneg hi.inv5.inv.core, hi.inv5.fam.perm⟩⟩

example : loadPathsCv exCfg3 exBlank exCvPaths = .ok
    (match loadPathsCv exCfg3 exBlank exCvPaths with | .ok s => s | .error _ => exBlank)
    ∧ noJumpCfg exCfg3 [-1, 1, -1] = true ∧ noJumpCfg exCfg3 [-1, 1, 3, -1] = true := by
  decide +kernel

/-! ## H. What "the step returns" is proved, and what is assumed

Every step theorem of sections A–E is stated for a step that RETURNS (`sysStep … = .ok y'`, `preSort … = .ok`): they say
what holds after it, and that `sort_trajstate` then returns too.  `EvOk` (the family hypothesis) does NOT make the step
return: a family vector may be zero in its own ensemble, and `add_traj` then raises
(`family_outcome_own_zero_counterexample`).  This section proves the missing half for the assertions the property names
— `add_traj`'s `valid[ens] != 0` and `unlock`'s lock assertion hold for every picked ensemble (`treat_loop_returns`) —
and composes it with `sort_terminates` (`treat_output_returns_partial`).  Still a hypothesis there: the `traj_data`
look-ups of "record weights" and `write_to_pathens` (no KeyError), which none of this package's invariants covers. -/

/-- **`EvOk` alone does not make the step return**: `(0,0,0)` is a family vector for `[0+]` (a staircase of height 0),
    but the accepted step of the example with this vector ends in `add_traj`'s assertion. -/
theorem family_outcome_own_zero_counterexample :
    VecOk 4 0 [0, 0, 0] ∧
    sysStep (exAt 3) (.step 0 .acc [[1], [0, 0, 0]] { t := 0, e := 0, coin := false }) = .error .assert := by
  exact ⟨by decide +kernel, by decide +kernel⟩

/-- **The per-ensemble loop of `treat_output` returns** (any number of workers, fresh start or restart): for every
    reachable state, every job in flight `k`, accepted or rejected, with one new weight vector per picked ensemble, each
    in the family (`EvOk`) and NON-ZERO IN ITS OWN ENSEMBLE: for every picked ensemble the pops of `locked`, the
    assertion `valid[ens] != 0` of `add_traj`, its row assignment and the lock assertion of `unlock` pass.  (Rejected:
    the old path goes back; its recorded weights are non-zero there because the pick had positive probability.) -/
theorem treat_loop_returns {y : Sys} (hr : ReachableR y) (k : Nat) (status : Status) (newW : List (List Rat))
    (o : PickOutcome) (hev : EvOk y (.step k status newW o)) (job : Job) (hjob : y.jobs[k]? = some job)
    (hlen : status = .acc → newW.length = job.picked.length)
    (hown : status = .acc → ∀ pw ∈ job.picked.zip newW,
      ∃ x, (padN y.s.n pw.1.ens pw.2)[(pw.1.ens + 1).toNat]? = some x ∧ x ≠ 0) :
    ∃ r, treatOutput.perEns status (loop y.s).1 (loop y.s).1.trajNum
      (job.picked.zip (if status = .acc then newW else job.picked.map (fun _ => []))) = .ok r := by
  obtain ⟨hc1, hf1, hn, hge, _⟩ := (reach_inv5R hr).atJob hjob
  exact perEns_returns_inv job status newW hc1 hf1 hge hlen
    (fun ha => by rw [hn]; exact hev ha job hjob) (fun ha => by rw [hn]; exact hown ha)

/-- the accepted step of the example: both new vectors are non-zero in their own ensemble -/
example : Reachable (exAt 3) ∧ EvOk (exAt 3) (.step 0 .acc [[1], [1, 1, 0]] { t := 0, e := 0, coin := false })
    ∧ (∀ job, (exAt 3).jobs[0]? = some job → ([[1], [1, 1, 0]] : List (List Rat)).length = job.picked.length ∧
        ∀ pw ∈ job.picked.zip [[1], [1, 1, 0]],
          ∃ x, (padN (exAt 3).s.n pw.1.ens pw.2)[(pw.1.ens + 1).toNat]? = some x ∧ x ≠ 0) := by
  refine ⟨ex_reachable 3 (by decide), ex_evOk3, fun job hjob => ?_⟩
  obtain ⟨hj, hzip⟩ := exAt3_job0 hjob [1] [1, 1, 0]
  refine ⟨by simpa using (congrArg List.length hj).symm, fun pw hpw => ?_⟩
  rw [exAt3_shape.1]
  rcases hzip pw hpw with ⟨he, hw⟩ | ⟨he, hw⟩
  · rw [he, hw]; exact ⟨1, by decide +kernel⟩
  · rw [he, hw]; exact ⟨1, by decide +kernel⟩

/-- **`treat_output` returns, given the `traj_data` look-ups** (`_partial`: the guard `hbook` is exactly what is not proved —
    after the per-ensemble loop, "record weights" finds the fractions of every idle live path and `write_to_pathens`
    finds fractions and weights of the replaced paths, i.e. no KeyError).  Under it, for every reachable state, every
    job in flight and every family outcome that is non-zero in its own ensemble, the whole `treat_output` — loop,
    record weights, data rows, `sort_trajstate` with the scheduler's fuel — returns. -/
theorem treat_output_returns_partial {y : Sys} (hr : ReachableR y) (k : Nat) (status : Status) (newW : List (List Rat))
    (o : PickOutcome) (hev : EvOk y (.step k status newW o)) (job : Job) (hjob : y.jobs[k]? = some job)
    (hlen : status = .acc → newW.length = job.picked.length)
    (hown : status = .acc → ∀ pw ∈ job.picked.zip newW,
      ∃ x, (padN y.s.n pw.1.ens pw.2)[(pw.1.ens + 1).toNat]? = some x ∧ x ≠ 0)
    (hbook : ∀ s1 tn pns, treatOutput.perEns status (loop y.s).1 (loop y.s).1.trajNum
        (job.picked.zip (if status = .acc then newW else job.picked.map (fun _ => []))) = .ok (s1, tn, pns) →
      ∃ s2 s3, recordFrac s1 = .ok s2 ∧ (if status = .acc then writeRows s2 job.pnumOld else .ok s2) = .ok s3) :
    ∃ r, treatOutput (loop y.s).1 job status newW (sortFuel (loop y.s).1) = .ok r := by
  obtain ⟨⟨s1, tn, pns⟩, hloop⟩ := treat_loop_returns hr k status newW o hev job hjob hlen hown
  obtain ⟨s2, s3, hrec, hrows⟩ := hbook s1 tn pns hloop
  have hpre : preSort (loop y.s).1 job status newW = .ok (s3, tn, pns) :=
    preSort_ok_iff.mpr ⟨s1, s2, Frac.jobWs_length hlen, perEns_ok_iff.mp hloop, hrec, hrows⟩
  obtain ⟨s4, it, hsort⟩ := sort_terminates_restart hr k status newW o hev job hjob s3 tn pns hpre
  exact ⟨_, treatOutput_ok_iff.mpr ⟨s3, tn, s4, hpre, hsort, rfl⟩⟩

/-- the guard is met on the example: the rejected step 4 and the accepted step 3 return as a whole -/
example : (match (exAt 4).jobs[0]? with
      | some job => (match treatOutput (loop (exAt 4).s).1 job .rej [] (sortFuel (loop (exAt 4).s).1) with
                     | .ok _ => true | .error _ => false)
      | none => false) = true
    ∧ (match (exAt 3).jobs[0]? with
      | some job => (match treatOutput (loop (exAt 3).s).1 job .acc [[1], [1, 1, 0]] (sortFuel (loop (exAt 3).s).1) with
                     | .ok _ => true | .error _ => false)
      | none => false) = true := by
  decide +kernel

end Infretis.C05
